import LinOp.C07.ProofsEqnsPair
import LinOp.C07.ProofsEqnsAddP
import LinOp.Core.Bridge
import Mathlib.Algebra.BigOperators.Ring.Finset
import Mathlib.Algebra.BigOperators.Fin
import Mathlib.Tactic.Ring
/-!
C07 — reverse-mode accumulation: the pairing is additive in the gradient tuple (`pair_addP`), by induction over the classes; three
lemmas about arbitrary pairings say how additivity passes to a renamed pairing, to a pair and to a batch.
-/
namespace LinOp.C07
open LinOp

variable {α : Type} [CommRing α]

/-- Additivity in the first argument passes from a pairing to the same pairing read through other names… -/
theorem additive_congr {β : Type} {P Po : β → β → α} {S So : β → β → β} (hP : ∀ g δ, P g δ = Po g δ)
    (hS : ∀ g h, S g h = So g h) (ho : ∀ g h δ, Po (So g h) δ = Po g δ + Po h δ) :
    ∀ g h δ, P (S g h) δ = P g δ + P h δ := by
  intro g h δ
  rw [hP, hP, hP, hS, ho]

/-- …to the sum of two additive pairings on the components of a pair… -/
theorem additive_two {β γ : Type} {P : β × γ → β × γ → α} {S : β × γ → β × γ → β × γ}
    {Pa : β → β → α} {Pb : γ → γ → α} {Sa : β → β → β} {Sb : γ → γ → γ}
    (hP : ∀ g δ, P g δ = Pa g.1 δ.1 + Pb g.2 δ.2) (hS : ∀ g h, S g h = (Sa g.1 h.1, Sb g.2 h.2))
    (ha : ∀ g h δ, Pa (Sa g h) δ = Pa g δ + Pa h δ) (hb : ∀ g h δ, Pb (Sb g h) δ = Pb g δ + Pb h δ) :
    ∀ g h δ, P (S g h) δ = P g δ + P h δ := by
  intro g h δ
  rw [hP, hP, hP, hS, ha, hb, add_add_add_comm]

/-- …and to the sum over a batch of one additive pairing. -/
theorem additive_batch {β : Type} {k : Nat} {P : (Fin k → β) → (Fin k → β) → α} {S : (Fin k → β) → (Fin k → β) → Fin k → β}
    {Po : β → β → α} {So : β → β → β} (hP : ∀ g δ, P g δ = sumFin k fun b => Po (g b) (δ b))
    (hS : ∀ g h, S g h = fun b => So (g b) (h b)) (ho : ∀ g h δ, Po (So g h) δ = Po g δ + Po h δ) :
    ∀ g h δ, P (S g h) δ = P g δ + P h δ := by
  intro g h δ
  simp only [hP, hS, ho, sumFin_eq_sum, Finset.sum_add_distrib]

theorem pair_addP {n m : Nat} (o : Op n m) :
    ∀ (g h δ : Param α o), pair o (addP o g h) δ = pair o g δ + pair o h δ := by
  induction o with
  | dense n m =>
    intro g h δ
    simp only [pair_dense, addP_dense, sumFin_eq_sum, add_mul, Finset.sum_add_distrib]
  | diag n => exact additive_batch (pair_diag n) (addP_diag n) add_mul
  | constDiag n => exact additive_congr (pair_constDiag n) (addP_constDiag n) add_mul
  | toeplitz n => exact additive_batch (pair_toeplitz n) (addP_toeplitz n) add_mul
  | constMul o ih => exact additive_two (pair_constMul o) (addP_constMul o) ih fun g h δ => add_mul g h δ
  | matmul a b iha ihb => exact additive_two (pair_matmul a b) (addP_matmul a b) iha ihb
  | sum a b iha ihb => exact additive_two (pair_sum a b) (addP_sum a b) iha ihb
  | mul a b iha ihb => exact additive_two (pair_mul a b) (addP_mul a b) iha ihb
  | masked rows cols o ih => exact additive_congr (pair_masked rows cols o) (addP_masked rows cols o) ih
  | interp ql qr li ri o ih =>
    intro g h δ
    simp only [pair_interp, addP_interp, ih, sumFin_eq_sum, add_mul, Finset.sum_add_distrib]
    ring
  | blockDiag k o ih => exact additive_batch (pair_blockDiag k o) (addP_blockDiag k o) ih
  | blockInterleaved k o ih => exact additive_batch (pair_blockInterleaved k o) (addP_blockInterleaved k o) ih
  | sumBatch k o ih => exact additive_batch (pair_sumBatch k o) (addP_sumBatch k o) ih
  | transpose o ih => exact additive_congr (pair_transpose o) (addP_transpose o) ih
  | root o ih => exact additive_congr (pair_root o) (addP_root o) ih
  | mulRoot a b iha ihb => exact additive_two (pair_mulRoot a b) (addP_mulRoot a b) iha ihb
  | kron a b iha ihb => exact additive_two (pair_kron a b) (addP_kron a b) iha ihb
  | catRows a b iha ihb => exact additive_two (pair_catRows a b) (addP_catRows a b) iha ihb
  | catCols a b iha ihb => exact additive_two (pair_catCols a b) (addP_catCols a b) iha ihb

end LinOp.C07
