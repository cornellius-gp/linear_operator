import LinOp.C07.ProofsBil
import Mathlib.Logic.Equiv.Fin.Basic
import Mathlib.Algebra.BigOperators.Group.Finset.Sigma
/-!
C07 — the bilinear form on row-major pair indices `a * n + b`: sums over `Fin (k * n)` split into block / within-block sums;
block-diagonal and interleaved matrices, Hadamard-scaled columns (the column index `Fin (r * d)` is split), the two factors of a
Kronecker product.
-/
namespace LinOp.C07
open LinOp Matrix

variable {α : Type} [CommRing α]

/-! ### The pair index -/

theorem outer_pairIdx {k n : Nat} (a : Fin k) (b : Fin n) : outerIdx (pairIdx a b) = a :=
  Fin.ext (mul_add_div_of_lt b.2)

theorem inner_pairIdx {k n : Nat} (a : Fin k) (b : Fin n) : innerIdx (pairIdx a b) = b :=
  Fin.ext (Nat.mul_add_mod_of_lt b.2)

/-- A sum over the pair index splits into the double sum. -/
theorem sum_pairIdx {k n : Nat} {β : Type} [AddCommMonoid β] (f : Fin (k * n) → β) :
    ∑ I, f I = ∑ a : Fin k, ∑ b : Fin n, f (pairIdx a b) :=
  sum_fin_mul pairIdx (fun _ _ => rfl) f

/-! ### BlockDiag, and BlockInterleaved: row index `i * k + b` — block = inner index, within-block row = outer index -/

/-- The bilinear form of a block-diagonal matrix is the sum of the blocks' forms on the matching rows of the vectors. -/
theorem bilS_blockDiag {k n m d : Nat} (D : Fin k → Mat α n m) (U : Mat α (k * n) d) (V : Mat α (k * m) d) :
    bilS (fun I J => if outerIdx I = outerIdx J then D (outerIdx I) (innerIdx I) (innerIdx J) else 0) U V
      = ∑ b, bilS (D b) (fun i c => U (pairIdx b i) c) (fun j c => V (pairIdx b j) c) := by
  simp only [bilS_eq_sum, sum_pairIdx (k := k), outer_pairIdx, inner_pairIdx, mul_ite, ite_mul, mul_zero, zero_mul]
  rw [Finset.sum_comm]
  refine Finset.sum_congr rfl fun c _ => Finset.sum_congr rfl fun a _ => Finset.sum_congr rfl fun i _ => ?_
  rw [Finset.sum_comm]
  refine Finset.sum_congr rfl fun j _ => ?_
  rw [Finset.sum_ite_eq, if_pos (Finset.mem_univ _)]

theorem bilS_blockInterleaved {k n m d : Nat} (D : Fin k → Mat α n m) (U : Mat α (n * k) d) (V : Mat α (m * k) d) :
    bilS (fun I J => if innerIdx I = innerIdx J then D (innerIdx I) (outerIdx I) (outerIdx J) else 0) U V
      = ∑ b, bilS (D b) (fun i c => U (pairIdx i b) c) (fun j c => V (pairIdx j b) c) := by
  simp only [bilS_eq_sum, sum_pairIdx (n := k), outer_pairIdx, inner_pairIdx, mul_ite, ite_mul, mul_zero, zero_mul]
  symm
  rw [Finset.sum_comm]
  refine Finset.sum_congr rfl fun c _ => ?_
  rw [Finset.sum_comm]
  refine Finset.sum_congr rfl fun i _ => Finset.sum_congr rfl fun b _ => Finset.sum_congr rfl fun j _ => ?_
  rw [Finset.sum_ite_eq, if_pos (Finset.mem_univ _)]

/-! ### Mul: Hadamard-scaled columns -/

/-- Scaled columns: the `k·d` columns `U[:,c]·P[:,r]` against `V[:,c]·Q[:,r]` (column index `r * d + c`) reproduce the
Hadamard product with `P Qᵀ`. -/
theorem bilS_scaledCols {n k d : Nat} (D : Mat α n n) (P Q : Mat α n k) (U V : Mat α n d) :
    bilS D (d := k * d) (fun i c => U i (innerIdx c) * P i (outerIdx c)) (fun j c => V j (innerIdx c) * Q j (outerIdx c))
      = bilS (fun i j => D i j * ∑ r, P i r * Q j r) U V := by
  simp only [bilS_eq_sum, sum_pairIdx (k := k) (n := d), outer_pairIdx, inner_pairIdx, Finset.mul_sum, Finset.sum_mul]
  rw [Finset.sum_comm]
  refine Finset.sum_congr rfl fun c _ => ?_
  rw [Finset.sum_comm]
  refine Finset.sum_congr rfl fun i _ => ?_
  rw [Finset.sum_comm]
  refine Finset.sum_congr rfl fun j _ => Finset.sum_congr rfl fun r _ => ?_
  ring

/-- The Mul factors: `n·d` columns `U[:,c]·B[:,r]` against `V[:,c]·e_r` reproduce the Hadamard product with `B`. -/
theorem bilS_hadamard {n d : Nat} (D B : Mat α n n) (U V : Mat α n d) :
    bilS D (d := n * d) (fun i c => U i (innerIdx c) * B i (outerIdx c))
        (fun j c => V j (innerIdx c) * (if j = outerIdx c then 1 else 0))
      = bilS (fun i j => D i j * B i j) U V := by
  rw [bilS_scaledCols D B (fun j r => if j = r then 1 else 0)]
  simp only [mul_ite, mul_one, mul_zero, Finset.sum_ite_eq, Finset.mem_univ, if_true]

/-! ### Kronecker product -/

/-- second factor: upstream `U` and the first factor's output, both re-viewed with the first factor's row index in the columns. -/
theorem bilS_kron_right {n₁ m₁ n₂ m₂ d : Nat} (A : Mat α n₁ m₁) (dB : Mat α n₂ m₂)
    (U : Mat α (n₁ * n₂) d) (V : Mat α (m₁ * m₂) d) :
    bilS dB (d := n₁ * d) (fun i₂ c => U (pairIdx (outerIdx c) i₂) (innerIdx c))
        (fun j₂ c => mmul A (fun j₁ c => V (pairIdx j₁ (outerIdx c)) (innerIdx c)) (outerIdx c) (pairIdx j₂ (innerIdx c)))
      = bilS (fun i j => A (outerIdx i) (outerIdx j) * dB (innerIdx i) (innerIdx j)) U V := by
  simp only [bilS_eq_sum, mmul_eq, sum_pairIdx (k := n₁) (n := d), sum_pairIdx (k := n₁) (n := n₂),
    sum_pairIdx (k := m₁) (n := m₂), outer_pairIdx, inner_pairIdx]
  -- lhs: i₁ c i₂ j₂ (j₁);  rhs: c i₁ i₂ j₁ j₂
  rw [Finset.sum_comm]
  refine Finset.sum_congr rfl fun c _ => Finset.sum_congr rfl fun i₁ _ => Finset.sum_congr rfl fun i₂ _ => ?_
  conv_rhs => rw [Finset.sum_comm]
  refine Finset.sum_congr rfl fun j₂ _ => ?_
  rw [Finset.mul_sum]
  refine Finset.sum_congr rfl fun j₁ _ => ?_
  ring

/-- first factor: the upstream gradient is `Bᵀ` applied to the re-viewed `U`, transposed back. -/
theorem bilS_kron_left {n₁ m₁ n₂ m₂ d : Nat} (dA : Mat α n₁ m₁) (B : Mat α n₂ m₂)
    (U : Mat α (n₁ * n₂) d) (V : Mat α (m₁ * m₂) d) :
    bilS dA (d := m₂ * d)
        (fun i₁ c => mmul (Mat.transpose B) (fun i₂ c => U (pairIdx (outerIdx c) i₂) (innerIdx c)) (outerIdx c)
          (pairIdx i₁ (innerIdx c)))
        (fun j₁ c => V (pairIdx j₁ (outerIdx c)) (innerIdx c))
      = bilS (fun i j => dA (outerIdx i) (outerIdx j) * B (innerIdx i) (innerIdx j)) U V := by
  simp only [bilS_eq_sum, mmul_eq, Mat.transpose, sum_pairIdx (k := m₂) (n := d), sum_pairIdx (k := n₁) (n := n₂),
    sum_pairIdx (k := m₁) (n := m₂), outer_pairIdx, inner_pairIdx, Finset.sum_mul]
  -- lhs: j₂ c i₁ j₁ i₂ ;  rhs: c i₁ i₂ j₁ j₂
  rw [Finset.sum_comm]
  refine Finset.sum_congr rfl fun c _ => ?_
  rw [Finset.sum_comm]
  refine Finset.sum_congr rfl fun i₁ _ => ?_
  -- lhs: j₂ j₁ i₂ ; rhs: i₂ j₁ j₂
  rw [Finset.sum_comm]
  conv_rhs => rw [Finset.sum_comm]
  refine Finset.sum_congr rfl fun j₁ _ => ?_
  rw [Finset.sum_comm]
  refine Finset.sum_congr rfl fun i₂ _ => Finset.sum_congr rfl fun j₂ _ => ?_
  ring

end LinOp.C07
