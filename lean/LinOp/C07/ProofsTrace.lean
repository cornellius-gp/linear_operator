import LinOp.C07.ProofsBil
import Mathlib.LinearAlgebra.Matrix.NonsingularInverse
import Mathlib.LinearAlgebra.Matrix.Hadamard
/-!
C07 — first-order matrix identities behind the backward formulas of the autograd Functions, over an arbitrary commutative ring: a
first-order solve and a product with a left factor against an upstream gradient (`Solve`, `SqrtInvMatmul`), the weighted `InvQuad`,
the factor re-computed in `PivotedCholesky.backward`, and the symmetric eigen-decomposition (`A U = U Λ`, `Uᵀ U = 1`) projected on the
eigenbasis (`Diagonalization`).
-/
namespace LinOp.C07
open LinOp Matrix

variable {α : Type} [CommRing α]

/-! ### Solves and products -/

theorem transpose_mul_eq_one {n : Nat} {A B : Matrix (Fin n) (Fin n) α} (h : A * B = 1) : Bᵀ * Aᵀ = 1 := by
  rw [← Matrix.transpose_mul, h, Matrix.transpose_one]

/-- First-order solve: `M X = B` perturbed to `M dX + dM X = dB` gives `dX = M⁻¹ (dB − dM X)`. -/
theorem solve_differential {n c : Nat} (M Minv dM : Matrix (Fin n) (Fin n) α) (X dX dB : Matrix (Fin n) (Fin c) α)
    (hinv : Minv * M = 1) (h1 : M * dX + dM * X = dB) : dX = Minv * (dB - dM * X) := by
  rw [← h1, add_sub_cancel_right, ← Matrix.mul_assoc, hinv, Matrix.one_mul]

/-- …against an upstream gradient `G`: `⟨G, dX⟩ = ⟨M⁻ᵀG, dB⟩ − Σ_c (M⁻ᵀG)_cᵀ dM x_c` — the right-hand side receives `M⁻ᵀ G`,
the matrix the bilinear form with the factors `(M⁻ᵀ G, X)`, negated. -/
theorem solve_pullback {n c : Nat} (M Minv dM : Matrix (Fin n) (Fin n) α) (X dX dB G : Matrix (Fin n) (Fin c) α)
    (hinv : Minv * M = 1) (h1 : M * dX + dM * X = dB) :
    Matrix.trace (Gᵀ * dX) = Matrix.trace ((Minvᵀ * G)ᵀ * dB) - bilS dM (Minvᵀ * G) X := by
  rw [solve_differential M Minv dM X dX dB hinv h1, bilS_def, Matrix.transpose_mul, Matrix.transpose_transpose,
    ← Matrix.mul_assoc, Matrix.mul_sub, Matrix.trace_sub, ← Matrix.mul_assoc]

/-- A product `L Y` with a left factor: `⟨G, d(L Y)⟩ = ⟨G Yᵀ, dL⟩ + ⟨Lᵀ G, dY⟩`. -/
theorem trace_mul_pullback {n c l : Nat} (G : Matrix (Fin l) (Fin c) α) (L dL : Matrix (Fin l) (Fin n) α)
    (Y dY : Matrix (Fin n) (Fin c) α) :
    Matrix.trace (Gᵀ * (dL * Y + L * dY)) = Matrix.trace ((G * Yᵀ)ᵀ * dL) + Matrix.trace ((Lᵀ * G)ᵀ * dY) := by
  rw [Matrix.mul_add, Matrix.trace_add, Matrix.transpose_mul, Matrix.transpose_transpose, Matrix.transpose_mul,
    Matrix.transpose_transpose, Matrix.mul_assoc Y, Matrix.trace_mul_comm Y, Matrix.mul_assoc Gᵀ L, Matrix.mul_assoc Gᵀ dL]

/-! ### InvQuad.backward with the per-column upstream gradient -/

theorem trace_diag_transpose_swap {c : Nat} (g : Fin c → α) (M : Matrix (Fin c) (Fin c) α) :
    Matrix.trace (Matrix.diagonal g * Mᵀ) = Matrix.trace (Matrix.diagonal g * M) := by
  have h : (Matrix.diagonal g * Mᵀ) = (M * Matrix.diagonal g)ᵀ := by
    rw [Matrix.transpose_mul, Matrix.diagonal_transpose]
  rw [h, Matrix.trace_transpose, Matrix.trace_mul_comm]

/-- `q_c = x_cᵀ b_c`, `A X = B`, `A` symmetric, upstream gradient `g_c` per column:
`Σ_c g_c dq_c = 2 Σ_c g_c x_cᵀ db_c + bil(dA; −X diag g, X)` — the rhs receives `2·X diag g`
(`neg_inv_quad_solves_times_grad_out.mul(-2)`), the parameters `_bilinear_derivative(−X diag g, X)`. -/
theorem invQuad_weighted_first_order {n c : Nat} (A dA : Matrix (Fin n) (Fin n) α) (X dX B dB : Matrix (Fin n) (Fin c) α)
    (g : Fin c → α) (hs : Aᵀ = A) (h0 : A * X = B) (h1 : A * dX + dA * X = dB) :
    Matrix.trace (Matrix.diagonal g * (dXᵀ * B + Xᵀ * dB))
      = Matrix.trace (Matrix.diagonal g * (Xᵀ * dB)) + Matrix.trace (Matrix.diagonal g * (Xᵀ * dB))
        + bilS dA (-(X * Matrix.diagonal g)) X := by
  have hA : dXᵀ * A = (A * dX)ᵀ := by rw [Matrix.transpose_mul, hs]
  have e : dXᵀ * B = (Xᵀ * dB)ᵀ - (Xᵀ * (dA * X))ᵀ := by
    rw [← h0, ← Matrix.mul_assoc, hA, eq_sub_of_add_eq h1, Matrix.transpose_sub, Matrix.sub_mul,
      Matrix.transpose_mul Xᵀ, Matrix.transpose_mul Xᵀ, Matrix.transpose_transpose]
  rw [e, bilS_def, Matrix.transpose_neg, Matrix.transpose_mul X, Matrix.diagonal_transpose, Matrix.neg_mul, Matrix.neg_mul,
    Matrix.trace_neg, Matrix.mul_add, Matrix.trace_add, Matrix.mul_sub, Matrix.trace_sub, trace_diag_transpose_swap,
    trace_diag_transpose_swap, Matrix.mul_assoc, Matrix.mul_assoc]
  ring

/-! ### PivotedCholesky.backward: differential of the re-computed factor, permutation fixed -/

/-- A lower-triangular `X` with `X + Xᵀ = S` is `Φ(S)`: strictly lower part of `S`, half its diagonal, zero above. -/
theorem lower_of_symm_sum {m : Nat} (X S : Matrix (Fin m) (Fin m) α) (hX : ∀ i j, i < j → X i j = 0) (hS : X + Xᵀ = S) :
    (∀ i j, j < i → X i j = S i j) ∧ (∀ i, X i i + X i i = S i i) ∧ (∀ i j, i < j → X i j = 0) := by
  refine ⟨fun i j hji => ?_, fun i => ?_, hX⟩
  · have := congrFun (congrFun hS i) j
    simp only [Matrix.add_apply, Matrix.transpose_apply, hX j i hji, add_zero] at this
    exact this
  · have := congrFun (congrFun hS i) i
    simpa only [Matrix.add_apply, Matrix.transpose_apply] using this

/-- `L Lᵀ = K₁₁` to first order: `dL Lᵀ + L dLᵀ = dK₁₁` ⇒ `X = L⁻¹ dL` satisfies `X + Xᵀ = L⁻¹ dK₁₁ L⁻ᵀ`. -/
theorem cholesky_first_order {m : Nat} (L Linv dL dK : Matrix (Fin m) (Fin m) α) (hinv : Linv * L = 1)
    (h1 : dL * Lᵀ + L * dLᵀ = dK) :
    Linv * dL + (Linv * dL)ᵀ = Linv * dK * Linvᵀ := by
  have hT : Lᵀ * Linvᵀ = 1 := transpose_mul_eq_one hinv
  rw [← h1, Matrix.mul_add, Matrix.add_mul, Matrix.transpose_mul]
  congr 1
  · rw [Matrix.mul_assoc, Matrix.mul_assoc, hT, Matrix.mul_one]
  · rw [← Matrix.mul_assoc Linv L, hinv, Matrix.one_mul]

/-- the rows below the pivots: `F₂ Lᵀ = K₂₁` to first order gives `dF₂ = (dK₂₁ − F₂ dLᵀ) L⁻ᵀ`. -/
theorem pivoted_lower_block {m r : Nat} (L Linv dL : Matrix (Fin m) (Fin m) α) (F2 dF2 dK21 : Matrix (Fin r) (Fin m) α)
    (hinv : Linv * L = 1) (h2 : dF2 * Lᵀ + F2 * dLᵀ = dK21) :
    dF2 = (dK21 - F2 * dLᵀ) * Linvᵀ := by
  have hT : Lᵀ * Linvᵀ = 1 := transpose_mul_eq_one hinv
  rw [← h2, add_sub_cancel_right, Matrix.mul_assoc, hT, Matrix.mul_one]

/-! ### Diagonalization.backward -/

theorem trace_transpose_mul_eq_sum {n m : Nat} (X Y : Matrix (Fin n) (Fin m) α) :
    Matrix.trace (Xᵀ * Y) = ∑ i, ∑ j, X i j * Y i j := by
  simp only [Matrix.trace, Matrix.diag_apply, Matrix.mul_apply, Matrix.transpose_apply]
  exact Finset.sum_comm

/-- Conjugation by `U` moves to the other argument of the pairing: `⟨U M Uᵀ, dA⟩ = ⟨M, Uᵀ dA U⟩`. -/
theorem trace_conj_eq_sum {n : Nat} (U M dA : Matrix (Fin n) (Fin n) α) :
    Matrix.trace ((U * M * Uᵀ)ᵀ * dA) = ∑ i, ∑ j, M i j * (Uᵀ * dA * U) i j := by
  rw [← trace_transpose_mul_eq_sum, Matrix.transpose_mul, Matrix.transpose_mul, Matrix.transpose_transpose, Matrix.mul_assoc U,
    Matrix.trace_mul_comm, Matrix.mul_assoc, Matrix.mul_assoc, ← Matrix.mul_assoc Uᵀ]

/-- The projected first-order equation: with `C = Uᵀ dU`, `S = Uᵀ dA U`: `S + Λ C = C Λ + diag(dλ)`. -/
theorem eig_projected {n : Nat} (U A dA dU : Matrix (Fin n) (Fin n) α) (lam dlam : Fin n → α)
    (hU : Uᵀ * U = 1) (hA : A * U = U * Matrix.diagonal lam) (hAs : Aᵀ = A)
    (h1 : dA * U + A * dU = dU * Matrix.diagonal lam + U * Matrix.diagonal dlam) :
    Uᵀ * dA * U + Matrix.diagonal lam * (Uᵀ * dU) = (Uᵀ * dU) * Matrix.diagonal lam + Matrix.diagonal dlam := by
  have hUA : Uᵀ * A = Matrix.diagonal lam * Uᵀ := by
    have := congrArg Matrix.transpose hA
    rwa [Matrix.transpose_mul, hAs, Matrix.transpose_mul, Matrix.diagonal_transpose] at this
  have := congrArg (fun M => Uᵀ * M) h1
  simp only [Matrix.mul_add] at this
  rw [← Matrix.mul_assoc, ← Matrix.mul_assoc Uᵀ A, hUA, ← Matrix.mul_assoc Uᵀ dU, ← Matrix.mul_assoc Uᵀ U, hU, Matrix.one_mul,
    Matrix.mul_assoc (Matrix.diagonal lam)] at this
  exact this

end LinOp.C07
