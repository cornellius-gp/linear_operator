import LinOp.C07.ProofsEqnsDenote
import LinOp.C07.ProofsEqnsMkDual
import LinOp.C07.ProofsBilGather
/-!
C07 — the dual-number evaluation `⟦o⟧(θ+εδ)` of every class.
`ReOK o` : its ε⁰-part is `⟦o⟧θ` (holds for every tree: `reOK_all`); its ε-part `dDenote o θ δ` is given by the rule of differentiation
`dDenote_<class>` of the class, a function equation in terms of the sub-operators' `denote` and `dDenote`.
-/
namespace LinOp.C07
open LinOp Matrix

section Dual
variable {α : Type} [CommRing α]

/-! ### Dual numbers -/

@[simp] theorem Dual.add_re (a b : Dual α) : (a + b).re = a.re + b.re := rfl
@[simp] theorem Dual.add_eps (a b : Dual α) : (a + b).eps = a.eps + b.eps := rfl
@[simp] theorem Dual.mul_re (a b : Dual α) : (a * b).re = a.re * b.re := rfl
@[simp] theorem Dual.mul_eps (a b : Dual α) : (a * b).eps = a.re * b.eps + a.eps * b.re := rfl
@[simp] theorem Dual.zero_re : (0 : Dual α).re = 0 := rfl
@[simp] theorem Dual.zero_eps : (0 : Dual α).eps = 0 := rfl
omit [CommRing α] in
@[simp] theorem Dual.ite_re (c : Prop) [Decidable c] (a b : Dual α) : (if c then a else b).re = if c then a.re else b.re := by
  split <;> rfl
omit [CommRing α] in
@[simp] theorem Dual.ite_eps (c : Prop) [Decidable c] (a b : Dual α) : (if c then a else b).eps = if c then a.eps else b.eps := by
  split <;> rfl

theorem sumFin_re (n : Nat) (f : Fin n → Dual α) : (sumFin n f).re = ∑ i, (f i).re :=
  sumFin_map Dual.re rfl (fun _ _ => rfl) n f

theorem sumFin_eps (n : Nat) (f : Fin n → Dual α) : (sumFin n f).eps = ∑ i, (f i).eps :=
  sumFin_map Dual.eps rfl (fun _ _ => rfl) n f

/-- A map applied to a value chosen by `Fin.addCases` (the components of a dual number, for the Cat classes). -/
theorem apply_addCases {β γ : Type} (f : β → γ) {m n : Nat} (l : Fin m → β) (r : Fin n → β) (i : Fin (m + n)) :
    f (Fin.addCases l r i) = Fin.addCases (fun a => f (l a)) (fun b => f (r b)) i := by
  induction i using Fin.addCases with
  | left a => rw [Fin.addCases_left, Fin.addCases_left]
  | right b => rw [Fin.addCases_right, Fin.addCases_right]

end Dual

variable (α : Type) [CommRing α]

def ReOK {n m : Nat} (o : Op n m) : Prop :=
  ∀ (θ δ : Param α o) (i : Fin n) (j : Fin m), (denote o (mkDual o θ δ) i j).re = denote o θ i j

variable {α}

/-! ### the ε⁰-part, all trees -/

theorem reOK_all {n m : Nat} (o : Op n m) : ReOK α o := by
  induction o with
  | dense n m => intro θ δ i j; rw [denote_dense, denote_dense, mkDual_dense]
  | diag n => intro θ δ i j; simp only [denote_diag, mkDual_diag, Dual.ite_re, Dual.zero_re]
  | constDiag n => intro θ δ i j; simp only [denote_constDiag, mkDual_constDiag, Dual.ite_re, Dual.zero_re]
  | toeplitz n => intro θ δ i j; rw [denote_toeplitz, denote_toeplitz, mkDual_toeplitz]
  | constMul o ih => intro θ δ i j; simp only [denote_constMul, mkDual_constMul, Dual.mul_re, ih θ.1 δ.1]
  | matmul a b iha ihb =>
    intro θ δ i j
    simp only [denote_matmul, mkDual_matmul, mmul, sumFin_re, sumFin_eq_sum, Dual.mul_re, iha θ.1 δ.1, ihb θ.2 δ.2]
  | sum a b iha ihb => intro θ δ i j; simp only [denote_sum, mkDual_sum, Dual.add_re, iha θ.1 δ.1, ihb θ.2 δ.2]
  | mul a b iha ihb => intro θ δ i j; simp only [denote_mul, mkDual_mul, Dual.mul_re, iha θ.1 δ.1, ihb θ.2 δ.2]
  | masked rows cols o ih => intro θ δ i j; simp only [denote_masked, mkDual_masked, ih θ δ]
  | interp ql qr li ri o ih =>
    intro θ δ i j
    simp only [denote_interp, mkDual_interp, sumFin_re, sumFin_eq_sum, Dual.mul_re, ih θ.1 δ.1]
  | blockDiag k o ih =>
    intro θ δ i j; simp only [denote_blockDiag, mkDual_blockDiag, Dual.ite_re, Dual.zero_re, ih (θ _) (δ _)]
  | blockInterleaved k o ih =>
    intro θ δ i j; simp only [denote_blockInterleaved, mkDual_blockInterleaved, Dual.ite_re, Dual.zero_re, ih (θ _) (δ _)]
  | sumBatch k o ih =>
    intro θ δ i j; simp only [denote_sumBatch, mkDual_sumBatch, sumFin_re, sumFin_eq_sum, ih (θ _) (δ _)]
  | transpose o ih => intro θ δ i j; simp only [denote_transpose, mkDual_transpose, ih θ δ]
  | root o ih =>
    intro θ δ i j; simp only [denote_root, mkDual_root, sumFin_re, sumFin_eq_sum, Dual.mul_re, ih θ δ]
  | mulRoot a b iha ihb =>
    intro θ δ i j
    simp only [denote_mulRoot, mkDual_mulRoot, sumFin_re, sumFin_eq_sum, Dual.mul_re, iha θ.1 δ.1, ihb θ.2 δ.2]
  | kron a b iha ihb => intro θ δ i j; simp only [denote_kron, mkDual_kron, Dual.mul_re, iha θ.1 δ.1, ihb θ.2 δ.2]
  | catRows a b iha ihb =>
    intro θ δ i j
    simp only [denote_catRows, mkDual_catRows, apply_addCases Dual.re, iha θ.1 δ.1, ihb θ.2 δ.2]
  | catCols a b iha ihb =>
    intro θ δ i j
    simp only [denote_catCols, mkDual_catCols, apply_addCases Dual.re, iha θ.1 δ.1, ihb θ.2 δ.2]

/-! ### leaves -/

theorem dDenote_dense (n m : Nat) (θ δ : Param α (.dense n m)) : dDenote (.dense n m) θ δ = δ := by
  funext i j; rw [dDenote, denote_dense, mkDual_dense]

theorem dDenote_diag (n : Nat) (θ δ : Param α (.diag n)) :
    dDenote (.diag n) θ δ = fun i j => if i = j then δ i else 0 := by
  funext i j; simp only [dDenote, denote_diag, mkDual_diag, Dual.ite_eps, Dual.zero_eps]

theorem dDenote_constDiag (n : Nat) (θ δ : Param α (.constDiag n)) :
    dDenote (.constDiag n) θ δ = fun i j => if i = j then (δ : α) else 0 := by
  funext i j; simp only [dDenote, denote_constDiag, mkDual_constDiag, Dual.ite_eps, Dual.zero_eps]

theorem dDenote_toeplitz (n : Nat) (θ δ : Param α (.toeplitz n)) :
    dDenote (.toeplitz n) θ δ = fun a b => δ (absDiff a b) := by
  funext a b; rw [dDenote, denote_toeplitz, mkDual_toeplitz]

/-! ### nesting classes -/

theorem dDenote_constMul {n m : Nat} (o : Op n m) (θ δ : Param α (.constMul o)) :
    dDenote (.constMul o) θ δ = fun i j => denote o θ.1 i j * δ.2 + dDenote o θ.1 δ.1 i j * θ.2 := by
  funext i j
  simp only [dDenote, denote_constMul, mkDual_constMul, Dual.mul_eps, reOK_all o θ.1 δ.1]

theorem dDenote_matmul {n k m : Nat} (a : Op n k) (b : Op k m) (θ δ : Param α (.matmul a b)) :
    dDenote (.matmul a b) θ δ = fun i j =>
      (∑ l, denote a θ.1 i l * dDenote b θ.2 δ.2 l j) + ∑ l, dDenote a θ.1 δ.1 i l * denote b θ.2 l j := by
  funext i j
  simp only [dDenote, denote_matmul, mkDual_matmul, mmul, sumFin_eps, Dual.mul_eps, reOK_all a θ.1 δ.1, reOK_all b θ.2 δ.2,
    Finset.sum_add_distrib]

theorem dDenote_sum {n m : Nat} (a b : Op n m) (θ δ : Param α (.sum a b)) :
    dDenote (.sum a b) θ δ = fun i j => dDenote a θ.1 δ.1 i j + dDenote b θ.2 δ.2 i j := by
  funext i j; simp only [dDenote, denote_sum, mkDual_sum, Dual.add_eps]

theorem dDenote_sumBatch {n m : Nat} (k : Nat) (o : Op n m) (θ δ : Param α (.sumBatch k o)) :
    dDenote (.sumBatch k o) θ δ = fun i j => ∑ b, dDenote o (θ b) (δ b) i j := by
  funext i j; simp only [dDenote, denote_sumBatch, mkDual_sumBatch, sumFin_eps]

theorem dDenote_mul {n : Nat} (a b : Op n n) (θ δ : Param α (.mul a b)) :
    dDenote (.mul a b) θ δ = fun i j => dDenote b θ.2 δ.2 i j * denote a θ.1 i j + dDenote a θ.1 δ.1 i j * denote b θ.2 i j := by
  funext i j
  simp only [dDenote, denote_mul, mkDual_mul, Dual.mul_eps, reOK_all a θ.1 δ.1, reOK_all b θ.2 δ.2]
  ring

theorem dDenote_masked {n m r s : Nat} (rows : Fin r → Fin n) (cols : Fin s → Fin m) (o : Op n m)
    (θ δ : Param α (.masked rows cols o)) :
    dDenote (.masked rows cols o) θ δ = fun i j => dDenote o θ δ (rows i) (cols j) := by
  funext i j; simp only [dDenote, denote_masked, mkDual_masked]

theorem dDenote_interp {n m r s : Nat} (ql qr : Nat) (li : Fin r → Fin ql → Fin n) (ri : Fin s → Fin qr → Fin m) (o : Op n m)
    (θ δ : Param α (.interp ql qr li ri o)) :
    dDenote (.interp ql qr li ri o) θ δ = fun i j =>
      (wMat li θ.2.1 * Matrix.of (denote o θ.1) * (wMat ri δ.2.2)ᵀ) i j
        + ((wMat li θ.2.1 * Matrix.of (dDenote o θ.1 δ.1) * (wMat ri θ.2.2)ᵀ) i j
          + (wMat li δ.2.1 * Matrix.of (denote o θ.1) * (wMat ri θ.2.2)ᵀ) i j) := by
  funext i j
  simp only [dDenote, denote_interp, mkDual_interp, sumFin_eps, Dual.mul_eps, Dual.mul_re, reOK_all o θ.1 δ.1, ← triple_eq,
    ← Finset.sum_add_distrib]
  refine Finset.sum_congr rfl fun a _ => Finset.sum_congr rfl fun b _ => ?_
  ring

theorem dDenote_blockDiag {n m : Nat} (k : Nat) (o : Op n m) (θ δ : Param α (.blockDiag k o)) :
    dDenote (.blockDiag k o) θ δ = fun I J =>
      if outerIdx I = outerIdx J then dDenote o (θ (outerIdx I)) (δ (outerIdx I)) (innerIdx I) (innerIdx J) else 0 := by
  funext I J
  simp only [dDenote, denote_blockDiag, mkDual_blockDiag, Dual.ite_eps, Dual.zero_eps, Fin.val_inj]

theorem dDenote_blockInterleaved {n m : Nat} (k : Nat) (o : Op n m) (θ δ : Param α (.blockInterleaved k o)) :
    dDenote (.blockInterleaved k o) θ δ = fun I J =>
      if innerIdx I = innerIdx J then dDenote o (θ (innerIdx I)) (δ (innerIdx I)) (outerIdx I) (outerIdx J) else 0 := by
  funext I J
  simp only [dDenote, denote_blockInterleaved, mkDual_blockInterleaved, Dual.ite_eps, Dual.zero_eps, Fin.val_inj]

theorem dDenote_transpose {n m : Nat} (o : Op n m) (θ δ : Param α (.transpose o)) :
    dDenote (.transpose o) θ δ = fun i j => dDenote o θ δ j i := by
  funext i j; simp only [dDenote, denote_transpose, mkDual_transpose]

theorem dDenote_root {n k : Nat} (o : Op n k) (θ δ : Param α (.root o)) :
    dDenote (.root o) θ δ = fun i j => ∑ l, (denote o θ i l * dDenote o θ δ j l + dDenote o θ δ i l * denote o θ j l) := by
  funext i j
  simp only [dDenote, denote_root, mkDual_root, sumFin_eps, Dual.mul_eps, reOK_all o θ δ]

theorem dDenote_mulRoot {n k₁ k₂ : Nat} (a : Op n k₁) (b : Op n k₂) (θ δ : Param α (.mulRoot a b)) :
    dDenote (.mulRoot a b) θ δ = fun i j =>
      (∑ l, (denote b θ.2 i l * dDenote b θ.2 δ.2 j l + dDenote b θ.2 δ.2 i l * denote b θ.2 j l))
          * (∑ r, denote a θ.1 i r * denote a θ.1 j r)
        + (∑ l, (denote a θ.1 i l * dDenote a θ.1 δ.1 j l + dDenote a θ.1 δ.1 i l * denote a θ.1 j l))
          * (∑ r, denote b θ.2 i r * denote b θ.2 j r) := by
  funext i j
  simp only [dDenote, denote_mulRoot, mkDual_mulRoot, Dual.mul_eps, sumFin_re, sumFin_eps, Dual.mul_re, reOK_all a θ.1 δ.1,
    reOK_all b θ.2 δ.2]
  ring

theorem dDenote_kron {n₁ m₁ n₂ m₂ : Nat} (a : Op n₁ m₁) (b : Op n₂ m₂) (θ δ : Param α (.kron a b)) :
    dDenote (.kron a b) θ δ = fun i j =>
      denote a θ.1 (outerIdx i) (outerIdx j) * dDenote b θ.2 δ.2 (innerIdx i) (innerIdx j)
        + dDenote a θ.1 δ.1 (outerIdx i) (outerIdx j) * denote b θ.2 (innerIdx i) (innerIdx j) := by
  funext i j
  simp only [dDenote, denote_kron, mkDual_kron, Dual.mul_eps, reOK_all a θ.1 δ.1, reOK_all b θ.2 δ.2]

theorem dDenote_catRows {n₁ n₂ m : Nat} (a : Op n₁ m) (b : Op n₂ m) (θ δ : Param α (.catRows a b)) :
    dDenote (.catRows a b) θ δ
      = fun i j => Fin.addCases (fun i₁ => dDenote a θ.1 δ.1 i₁ j) (fun i₂ => dDenote b θ.2 δ.2 i₂ j) i := by
  funext i j
  simp only [dDenote, denote_catRows, mkDual_catRows, apply_addCases Dual.eps]

theorem dDenote_catCols {n m₁ m₂ : Nat} (a : Op n m₁) (b : Op n m₂) (θ δ : Param α (.catCols a b)) :
    dDenote (.catCols a b) θ δ
      = fun i j => Fin.addCases (fun j₁ => dDenote a θ.1 δ.1 i j₁) (fun j₂ => dDenote b θ.2 δ.2 i j₂) j := by
  funext i j
  simp only [dDenote, denote_catCols, mkDual_catCols, apply_addCases Dual.eps]

end LinOp.C07
