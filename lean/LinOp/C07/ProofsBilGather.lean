import LinOp.C07.ProofsBil
/-!
C07 — interpolating (Interpolated, `⟦op⟧ = W_L · K · W_Rᵀ` with `W[i, idx i a] += val i a`) is the product with an interpolation matrix
`wMat`, scattering the vectors (`interpT`) the product with its transpose; gathering rows / columns (Masked, `expandRows`) is the case of
one unit weight per row.
-/
namespace LinOp.C07
open LinOp Matrix

variable {α : Type} [CommRing α]

/-! ### Interpolated -/

/-- The interpolation matrix `W[i, p] = Σ_a [idx i a = p] val i a`. -/
def wMat {n r q : Nat} (idx : Fin r → Fin q → Fin n) (val : Mat α r q) : Matrix (Fin r) (Fin n) α :=
  fun i p => ∑ a, if idx i a = p then val i a else 0

theorem interpT_eq {n r q d : Nat} (idx : Fin r → Fin q → Fin n) (val : Mat α r q) (U : Mat α r d) :
    interpT idx val U = ((wMat idx val)ᵀ * Matrix.of U : Matrix (Fin n) (Fin d) α) := by
  funext p c
  simp only [interpT, wMat, sumFin_eq_sum, Matrix.mul_apply, Matrix.transpose_apply, Matrix.of_apply, Finset.sum_mul, ite_mul,
    zero_mul]

/-- Multiplying by an interpolation matrix gathers rows: `(W(val) M)[i, c] = Σ_a val[i,a] · M[idx i a, c]`. -/
theorem wMat_mul_apply {n r q d : Nat} (idx : Fin r → Fin q → Fin n) (val : Mat α r q) (M : Matrix (Fin n) (Fin d) α)
    (i : Fin r) (c : Fin d) : (wMat idx val * M) i c = ∑ a, val i a * M (idx i a) c := by
  simp only [Matrix.mul_apply, wMat, Finset.sum_mul, ite_mul, zero_mul]
  rw [Finset.sum_comm]
  refine Finset.sum_congr rfl fun a _ => ?_
  rw [Finset.sum_ite_eq, if_pos (Finset.mem_univ _)]

/-- `Σ_a Σ_b x[i,a] · K[li i a, ri j b] · y[j,b] = (W(x) K W(y)ᵀ)[i,j]`. -/
theorem triple_eq {n m r s ql qr : Nat} (li : Fin r → Fin ql → Fin n) (ri : Fin s → Fin qr → Fin m)
    (x : Mat α r ql) (K : Mat α n m) (y : Mat α s qr) (i : Fin r) (j : Fin s) :
    (∑ a, ∑ b, x i a * K (li i a) (ri j b) * y j b) = (wMat li x * Matrix.of K * (wMat ri y)ᵀ) i j := by
  rw [← Matrix.transpose_apply (wMat li x * Matrix.of K * (wMat ri y)ᵀ), Matrix.transpose_mul, Matrix.transpose_transpose,
    wMat_mul_apply, Finset.sum_comm]
  refine Finset.sum_congr rfl fun b _ => ?_
  rw [Matrix.transpose_apply, wMat_mul_apply, Finset.mul_sum]
  exact Finset.sum_congr rfl fun a _ => by rw [Matrix.of_apply]; ring

/-- The gather form of the value gradients: `Σ_i Σ_a (Σ_c K[idx i a, c] U[i,c]) δ[i,a] = tr(Uᵀ W(δ) K)`. -/
theorem pairing_wMat {n r q d : Nat} (idx : Fin r → Fin q → Fin n) (δv : Mat α r q) (K : Mat α n d) (U : Mat α r d) :
    (∑ i, ∑ a, (∑ c, K (idx i a) c * U i c) * δv i a) = Matrix.trace ((Matrix.of U)ᵀ * wMat idx δv * Matrix.of K) := by
  rw [Matrix.mul_assoc, Matrix.trace]
  simp only [Matrix.diag_apply, Matrix.mul_apply (M := (Matrix.of U)ᵀ), Matrix.transpose_apply, Matrix.of_apply, wMat_mul_apply,
    Finset.sum_mul, Finset.mul_sum]
  symm
  rw [Finset.sum_comm]
  refine Finset.sum_congr rfl fun i _ => ?_
  rw [Finset.sum_comm]
  refine Finset.sum_congr rfl fun a _ => Finset.sum_congr rfl fun c _ => ?_
  ring

/-- …with `K = M X`: the bilinear form of `M` with `U` pulled back through `W(δ)`. -/
theorem pairing_interpT {n m r q d : Nat} (idx : Fin r → Fin q → Fin n) (δv : Mat α r q) (M : Mat α n m) (X : Mat α m d)
    (U : Mat α r d) :
    (∑ i, ∑ a, (∑ c, mmul M X (idx i a) c * U i c) * δv i a) = bilS M (interpT idx δv U) X := by
  rw [pairing_wMat, interpT_eq, mmul_eq]
  exact (bilS_matMul_right (wMat idx δv) M U X).trans (bilS_matMul_left (wMat idx δv) M U X).symm

/-- The bilinear form with both vectors pulled back through interpolation matrices. -/
theorem bilS_interpT {n m r s ql qr d : Nat} (li : Fin r → Fin ql → Fin n) (ri : Fin s → Fin qr → Fin m)
    (x : Mat α r ql) (y : Mat α s qr) (M : Mat α n m) (U : Mat α r d) (V : Mat α s d) :
    bilS M (interpT li x U) (interpT ri y V) = bilS (fun i j => (wMat li x * Matrix.of M * (wMat ri y)ᵀ) i j) U V := by
  rw [interpT_eq, interpT_eq]
  exact bilS_conj _ _ _ _ _

/-! ### Masked: one unit weight per row -/

/-- Scattering rows (`MaskedLinearOperator._expand`) is interpolating with one unit weight per row. -/
theorem expandRows_eq_interpT {n r d : Nat} (rows : Fin r → Fin n) (U : Mat α r d) :
    expandRows rows U = interpT (fun q (_ : Fin 1) => rows q) (fun _ _ => 1) U := by
  funext p c
  simp only [expandRows, interpT, sumFin_eq_sum, Finset.univ_unique, Finset.sum_singleton, one_mul]

/-- Gathering rows / columns of the matrix is scattering the vectors. -/
theorem bilS_gather {n m r s d : Nat} (rows : Fin r → Fin n) (cols : Fin s → Fin m) (A : Mat α n m)
    (U : Mat α r d) (V : Mat α s d) :
    bilS (fun i j => A (rows i) (cols j)) U V = bilS A (expandRows rows U) (expandRows cols V) := by
  rw [expandRows_eq_interpT, expandRows_eq_interpT, bilS_interpT]
  simp only [← triple_eq, Finset.univ_unique, Finset.sum_singleton, one_mul, mul_one]

end LinOp.C07
