import LinOp.C07.ProofsDiff
import LinOp.C07.ProofsEqnsBilinDeriv
import LinOp.C07.ProofsAccum
import LinOp.C07.ProofsBilIndex
import LinOp.C07.ProofsToeplitz
/-!
C07 — `Correct o`: `Σ_k (bilinDeriv o θ U V)_k δ_k = tr(Uᵀ · D⟦o⟧_θ[δ] · V)` for ALL vector pairs (any number of columns), because a
nested class feeds *intermediate* vectors to its sub-operator's derivative.  Each class has one step `correct_<class>`, whose hypotheses
are the induction hypotheses: rewrite with the rule of differentiation, move the class's linear operation from the matrix to the vectors
by its adjoint identity of `bilS`, use the hypotheses, and read off the defining equations of `bilinDeriv` and `pair`.

  class                          rule `dDenote_<class>` =                   adjoint identity
  dense                          `δ`                                        `bilS_outer`
  diag, constDiag                `diag δ`                                   `bilS_diag`
  toeplitz                       `δ(|a−b|)`                                 `bilS_toeplitz`
  constMul                       `A·δc + dA·c`                              `bilS_const`, `bilS_scale`
  matmul                         `A·dB + dA·B`                              `bilS_mul_left`, `bilS_mul_right`
  sum, sumBatch                  entrywise sum                              `bilS_add`, `bilS_sum`
  catRows, catCols               stacked                                    `bilS_catRows`, `bilS_catCols`
  mul                            `dB∘A + dA∘B`                              `bilS_hadamard`
  mulRoot                        the same on `R_a R_aᵀ`, `R_b R_bᵀ`         `bilS_scaledCols`, `rootDerivWith_pair`
  masked                         gathered                                   `bilS_gather`
  interp                         `W K dWᵀ + W dK Wᵀ + dW K Wᵀ`              `bilS_interpT`, `pairing_interpT`
  blockDiag, blockInterleaved    blockwise                                  `bilS_blockDiag`, `bilS_blockInterleaved`
  transpose                      `dAᵀ`                                      `bilS_transpose`
  root                           `R dRᵀ + dR Rᵀ`                            `rootDerivWith_pair` (`pair_addP`, `bilS_mul_right`, `bilS_transpose`)
  kron                           `A⊗dB + dA⊗B`                              `bilS_kron_right`, `bilS_kron_left`

`all_correct` is the induction over all classes.
-/
namespace LinOp.C07
open LinOp Matrix

variable (α : Type) [CommRing α]

def Correct {n m : Nat} (o : Op n m) : Prop :=
  ∀ (θ δ : Param α o) (d : Nat) (U : Mat α n d) (V : Mat α m d),
    pair o (bilinDeriv o θ U V) δ = bilS (dDenote o θ δ) U V

variable {α}

/-! ### leaves -/

theorem correct_dense (n m : Nat) : Correct α (.dense n m) := by
  intro θ δ d U V
  rw [dDenote_dense, bilinDeriv_dense, pair_dense, bilS_outer]
  simp only [sumFin_eq_sum, mul_comm]

theorem correct_diag (n : Nat) : Correct α (.diag n) := by
  intro θ δ d U V
  rw [dDenote_diag, bilS_diag, bilinDeriv_diag, pair_diag]
  simp only [sumFin_eq_sum]

theorem correct_constDiag (n : Nat) : Correct α (.constDiag n) := by
  intro θ δ d U V
  rw [dDenote_constDiag, bilS_diag (fun _ => (δ : α)), bilinDeriv_constDiag, pair_constDiag]
  simp only [sumFin_eq_sum, Finset.sum_mul]

theorem correct_toeplitz (n : Nat) : Correct α (.toeplitz n) := by
  intro θ δ d U V
  rw [dDenote_toeplitz, bilS_toeplitz, bilinDeriv_toeplitz, pair_toeplitz]
  simp only [sumFin_eq_sum]

/-! ### nesting classes -/

theorem correct_constMul {n m : Nat} (o : Op n m) (h : Correct α o) : Correct α (.constMul o) := by
  intro θ δ d U V
  rw [dDenote_constMul, bilS_add, bilS_const, bilS_scale, ← h, bilinDeriv_constMul, pair_constMul, mmul_eq]
  simp only [sumFin_eq_sum]
  ring

/-- The constant's slot of ConstantMul's derivative is `Σ_i Σ_c U[i,c] (⟦base⟧ V)[i,c]`, for every base operator. -/
theorem constMul_const_grad {n m : Nat} (o : Op n m) (θ : Param α (.constMul o)) {d : Nat} (U : Mat α n d) (V : Mat α m d)
    (δc : α) :
    (bilinDeriv (.constMul o) θ U V).2 * δc = bilS (fun i j => denote o θ.1 i j * δc) U V := by
  rw [bilS_const, bilinDeriv_constMul, mmul_eq]
  simp only [sumFin_eq_sum]

theorem correct_matmul {n k m : Nat} (a : Op n k) (b : Op k m) (ha : Correct α a) (hb : Correct α b) :
    Correct α (.matmul a b) := by
  intro θ δ d U V
  rw [dDenote_matmul, bilS_add, ← bilS_mul_left, ← bilS_mul_right, ← ha, ← hb, bilinDeriv_matmul, pair_matmul, mmul_eq, mmul_eq,
    add_comm]
  rfl

theorem correct_sum {n m : Nat} (a b : Op n m) (ha : Correct α a) (hb : Correct α b) : Correct α (.sum a b) := by
  intro θ δ d U V
  rw [dDenote_sum, bilS_add, ← ha, ← hb, bilinDeriv_sum, pair_sum]

theorem correct_sumBatch {n m : Nat} (k : Nat) (o : Op n m) (h : Correct α o) : Correct α (.sumBatch k o) := by
  intro θ δ d U V
  rw [dDenote_sumBatch, bilS_sum, bilinDeriv_sumBatch, pair_sumBatch, sumFin_eq_sum]
  exact Finset.sum_congr rfl fun b _ => h (θ b) (δ b) d U V

theorem correct_mul {n : Nat} (a b : Op n n) (ha : Correct α a) (hb : Correct α b) : Correct α (.mul a b) := by
  intro θ δ d U V
  rw [dDenote_mul, bilS_add, ← bilS_hadamard, ← bilS_hadamard, ← ha, ← hb, bilinDeriv_mul, pair_mul, add_comm]

theorem correct_masked {n m r s : Nat} (rows : Fin r → Fin n) (cols : Fin s → Fin m) (o : Op n m) (h : Correct α o) :
    Correct α (.masked rows cols o) := by
  intro θ δ d U V
  rw [dDenote_masked, bilS_gather, ← h, bilinDeriv_masked, pair_masked]

theorem correct_interp {n m r s : Nat} (ql qr : Nat) (li : Fin r → Fin ql → Fin n) (ri : Fin s → Fin qr → Fin m) (o : Op n m)
    (h : Correct α o) : Correct α (.interp ql qr li ri o) := by
  intro θ δ d U V
  rw [dDenote_interp, bilS_add3, ← bilS_interpT, ← bilS_interpT, ← bilS_interpT, ← h, bilinDeriv_interp, pair_interp]
  simp only [sumFin_eq_sum]
  rw [pairing_interpT, pairing_interpT]
  unfold Mat.transpose
  rw [bilS_transpose (denote o θ.1)]
  ring

theorem correct_blockDiag {n m : Nat} (k : Nat) (o : Op n m) (h : Correct α o) : Correct α (.blockDiag k o) := by
  intro θ δ d U V
  rw [dDenote_blockDiag, bilS_blockDiag (fun b => dDenote o (θ b) (δ b)), bilinDeriv_blockDiag, pair_blockDiag, sumFin_eq_sum]
  exact Finset.sum_congr rfl fun b _ => h (θ b) (δ b) d _ _

theorem correct_blockInterleaved {n m : Nat} (k : Nat) (o : Op n m) (h : Correct α o) : Correct α (.blockInterleaved k o) := by
  intro θ δ d U V
  rw [dDenote_blockInterleaved, bilS_blockInterleaved (fun b => dDenote o (θ b) (δ b)), bilinDeriv_blockInterleaved,
    pair_blockInterleaved, sumFin_eq_sum]
  exact Finset.sum_congr rfl fun b _ => h (θ b) (δ b) d _ _

theorem correct_transpose {n m : Nat} (o : Op n m) (h : Correct α o) : Correct α (.transpose o) := by
  intro θ δ d U V
  rw [dDenote_transpose, bilS_transpose, ← h, bilinDeriv_transpose, pair_transpose]

/-! ### Root and the root branch of Mul -/

/-- The reverse sweep through `root._matmul(root._t_matmul(rhs))`: if the root operator's derivative `bd` pairs to the bilinear
form of `dR`, the accumulated tuple pairs to the bilinear form of `d(R Rᵀ) = R dRᵀ + dR Rᵀ`. -/
theorem rootDerivWith_pair {n k d : Nat} (o : Op n k) (R dR : Mat α n k) (bd : Mat α n d → Mat α k d → Param α o)
    (δ : Param α o) (hbd : ∀ X Y, pair o (bd X Y) δ = bilS dR X Y) (U V : Mat α n d) :
    pair o (rootDerivWith o R bd U V) δ = bilS (fun i j => ∑ l, (R i l * dR j l + dR i l * R j l)) U V := by
  simp only [rootDerivWith_eq, pair_addP, hbd, mmul_eq, Mat.transpose]
  have h1 : bilS dR U (fun l c => ∑ j, R j l * V j c) = bilS (fun i j => ∑ l, dR i l * R j l) U V :=
    bilS_mul_right dR (fun l j => R j l) U V
  have h2 : bilS dR V (fun l c => ∑ j, R j l * U j c) = bilS (fun i j => ∑ l, R i l * dR j l) U V := by
    rw [bilS_mul_right dR (fun l j => R j l) V U, ← bilS_transpose]
    congr 1
    funext i j
    exact Finset.sum_congr rfl fun l _ => mul_comm _ _
  rw [h1, h2, add_comm, ← bilS_add]
  congr 1
  funext i j
  rw [Finset.sum_add_distrib]

theorem correct_root {n k : Nat} (o : Op n k) (h : Correct α o) : Correct α (.root o) := by
  intro θ δ d U V
  rw [dDenote_root, bilinDeriv_root, pair_root]
  exact rootDerivWith_pair o (denote o θ) (dDenote o θ δ) _ δ (fun X Y => h θ δ d X Y) U V

theorem correct_mulRoot {n k₁ k₂ : Nat} (a : Op n k₁) (b : Op n k₂) (ha : Correct α a) (hb : Correct α b) :
    Correct α (.mulRoot a b) := by
  intro θ δ d U V
  rw [dDenote_mulRoot, bilS_add, ← bilS_scaledCols, ← bilS_scaledCols,
    ← rootDerivWith_pair a (denote a θ.1) (dDenote a θ.1 δ.1) (fun X Y => bilinDeriv a θ.1 X Y) δ.1 (fun X Y => ha θ.1 δ.1 _ X Y),
    ← rootDerivWith_pair b (denote b θ.2) (dDenote b θ.2 δ.2) (fun X Y => bilinDeriv b θ.2 X Y) δ.2 (fun X Y => hb θ.2 δ.2 _ X Y),
    bilinDeriv_mulRoot, pair_mulRoot, add_comm]

/-! ### Kronecker product, Cat -/

theorem correct_kron {n₁ m₁ n₂ m₂ : Nat} (a : Op n₁ m₁) (b : Op n₂ m₂) (ha : Correct α a) (hb : Correct α b) :
    Correct α (.kron a b) := by
  intro θ δ d U V
  rw [dDenote_kron, bilS_add, ← bilS_kron_right, ← bilS_kron_left, ← ha, ← hb, bilinDeriv_kron, pair_kron, add_comm]

theorem correct_catRows {n₁ n₂ m : Nat} (a : Op n₁ m) (b : Op n₂ m) (ha : Correct α a) (hb : Correct α b) :
    Correct α (.catRows a b) := by
  intro θ δ d U V
  rw [dDenote_catRows, bilS_catRows, ← ha, ← hb, bilinDeriv_catRows, pair_catRows]

theorem correct_catCols {n m₁ m₂ : Nat} (a : Op n m₁) (b : Op n m₂) (ha : Correct α a) (hb : Correct α b) :
    Correct α (.catCols a b) := by
  intro θ δ d U V
  rw [dDenote_catCols, bilS_catCols, ← ha, ← hb, bilinDeriv_catCols, pair_catCols]

/-! ### every tree -/

/-- The Toeplitz leaf statement, for every size (`reOK_all`, `correct_toeplitz`). -/
def ToeplitzOK (α : Type) [CommRing α] : Prop := ∀ n : Nat, ReOK α (.toeplitz n) ∧ Correct α (.toeplitz n)

theorem all_correct {n m : Nat} (o : Op n m) : Correct α o := by
  induction o with
  | dense n m => exact correct_dense n m
  | diag n => exact correct_diag n
  | constDiag n => exact correct_constDiag n
  | toeplitz n => exact correct_toeplitz n
  | constMul o ih => exact correct_constMul o ih
  | matmul a b iha ihb => exact correct_matmul a b iha ihb
  | sum a b iha ihb => exact correct_sum a b iha ihb
  | mul a b iha ihb => exact correct_mul a b iha ihb
  | masked rows cols o ih => exact correct_masked rows cols o ih
  | interp ql qr li ri o ih => exact correct_interp ql qr li ri o ih
  | blockDiag k o ih => exact correct_blockDiag k o ih
  | blockInterleaved k o ih => exact correct_blockInterleaved k o ih
  | sumBatch k o ih => exact correct_sumBatch k o ih
  | transpose o ih => exact correct_transpose o ih
  | root o ih => exact correct_root o ih
  | mulRoot a b iha ihb => exact correct_mulRoot a b iha ihb
  | kron a b iha ihb => exact correct_kron a b iha ihb
  | catRows a b iha ihb => exact correct_catRows a b iha ihb
  | catCols a b iha ihb => exact correct_catCols a b iha ihb

/-- Every entry point: a linear functional `⟨W, ·⟩` of the dense matrix has the gradient `bilinDeriv o θ U V` for any factorisation
`W = Σ_c u_c v_cᵀ`. -/
theorem pair_bilinDeriv_outer {n m : Nat} (o : Op n m) (θ δ : Param α o) {d : Nat} (U : Mat α n d) (V : Mat α m d) :
    pair o (bilinDeriv o θ U V) δ = ∑ i, ∑ j, dDenote o θ δ i j * ∑ c, U i c * V j c := by
  rw [all_correct, bilS_outer]

/-- The trees built from Dense, Diag, ConstantDiag, ConstantMul, Matmul, Sum and SumBatch. -/
inductive Supported : {n m : Nat} → Op n m → Prop
  | dense (n m : Nat) : Supported (.dense n m)
  | diag (n : Nat) : Supported (.diag n)
  | constDiag (n : Nat) : Supported (.constDiag n)
  | constMul {n m : Nat} {o : Op n m} : Supported o → Supported (.constMul o)
  | matmul {n k m : Nat} {a : Op n k} {b : Op k m} : Supported a → Supported b → Supported (.matmul a b)
  | sum {n m : Nat} {a b : Op n m} : Supported a → Supported b → Supported (.sum a b)
  | sumBatch {n m : Nat} (k : Nat) {o : Op n m} : Supported o → Supported (.sumBatch k o)

theorem supported_correct {n m : Nat} {o : Op n m} (h : Supported o) : ReOK α o ∧ Correct α o :=
  ⟨reOK_all o, all_correct o⟩

end LinOp.C07
