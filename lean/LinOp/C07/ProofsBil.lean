import LinOp.C07.ModelEntry
import LinOp.Core.Bridge
import Mathlib.Algebra.BigOperators.Ring.Finset
import Mathlib.Algebra.BigOperators.Fin
import Mathlib.Tactic.Ring
import Mathlib.Data.Matrix.Mul
import Mathlib.Data.Matrix.Basic
import Mathlib.LinearAlgebra.Matrix.Trace
/-!
C07 — the bilinear form `bilS A U V = Σ_c u_cᵀ A v_c` (a trace) and its algebra, about arbitrary matrices: as a `Finset` sum, additivity,
scaling, how products and transposes move between the matrix and the two blocks of vectors, diagonal and stacked matrices,
concatenated columns, and the special right-hand sides of the entry points.
-/
namespace LinOp.C07
open LinOp Matrix

variable {α : Type} [CommRing α]

/-! ### The bilinear form as a trace -/

/-- `Σ_c Σ_i Σ_j U[i,c] A[i,j] V[j,c] = tr(Uᵀ A V)`. -/
def bilS {n m d : Nat} (A : Mat α n m) (U : Mat α n d) (V : Mat α m d) : α :=
  Matrix.trace ((Matrix.of U)ᵀ * Matrix.of A * Matrix.of V)

theorem bilS_def {n m d : Nat} (D : Matrix (Fin n) (Fin m) α) (L : Matrix (Fin n) (Fin d) α) (R : Matrix (Fin m) (Fin d) α) :
    bilS D L R = Matrix.trace (Lᵀ * D * R) := rfl

theorem bilS_eq_sum {n m d : Nat} (A : Mat α n m) (U : Mat α n d) (V : Mat α m d) :
    bilS A U V = ∑ c, ∑ i, ∑ j, U i c * A i j * V j c := by
  simp only [bilS, Matrix.trace, Matrix.diag_apply, Matrix.mul_apply, Matrix.transpose_apply, Matrix.of_apply,
    Finset.sum_mul]
  refine Finset.sum_congr rfl fun c _ => ?_
  exact Finset.sum_comm

/-- The bilinear form pairs the matrix with the sum of outer products `Σ_c u_c v_cᵀ`. -/
theorem bilS_outer {n m d : Nat} (D : Mat α n m) (U : Mat α n d) (V : Mat α m d) :
    bilS D U V = ∑ i, ∑ j, D i j * ∑ c, U i c * V j c := by
  rw [bilS_eq_sum, Finset.sum_comm]
  refine Finset.sum_congr rfl fun i _ => ?_
  rw [Finset.sum_comm]
  refine Finset.sum_congr rfl fun j _ => ?_
  rw [Finset.mul_sum]
  exact Finset.sum_congr rfl fun c _ => by ring

theorem bil_eq_bilS {n m d : Nat} (A : Mat α n m) (U : Mat α n d) (V : Mat α m d) : bil A U V = bilS A U V := by
  rw [bilS_eq_sum]
  simp only [bil, sumFin_eq_sum]

/-! ### Additivity and scaling -/

theorem bilS_add {n m d : Nat} (A B : Mat α n m) (U : Mat α n d) (V : Mat α m d) :
    bilS (fun i j => A i j + B i j) U V = bilS A U V + bilS B U V := by
  have : (Matrix.of fun i j => A i j + B i j) = Matrix.of A + Matrix.of B := rfl
  simp only [bilS, this, Matrix.mul_add, Matrix.add_mul, Matrix.trace_add]

theorem bilS_add3 {n m d : Nat} (A B C : Matrix (Fin n) (Fin m) α) (U : Mat α n d) (V : Mat α m d) :
    bilS (fun i j => A i j + (B i j + C i j)) U V
      = bilS (fun i j => A i j) U V + (bilS (fun i j => B i j) U V + bilS (fun i j => C i j) U V) := by
  simp only [bilS_eq_sum, mul_add, add_mul, Finset.sum_add_distrib]

theorem bilS_sum {n m d k : Nat} (A : Fin k → Mat α n m) (U : Mat α n d) (V : Mat α m d) :
    bilS (fun i j => ∑ b, A b i j) U V = ∑ b, bilS (A b) U V := by
  have h : (Matrix.of fun i j => ∑ b, A b i j) = ∑ b, Matrix.of (A b) := by
    ext i j; simp [Matrix.sum_apply]
  simp only [bilS, h, Matrix.mul_sum, Matrix.sum_mul, Matrix.trace_sum]

theorem bilS_scale {n m d : Nat} (A : Mat α n m) (k : α) (U : Mat α n d) (V : Mat α m d) :
    bilS (fun i j => A i j * k) U V = bilS A (fun i c => U i c * k) V := by
  simp only [bilS_eq_sum]
  refine Finset.sum_congr rfl fun c _ => Finset.sum_congr rfl fun i _ => Finset.sum_congr rfl fun j _ => ?_
  ring

theorem bilS_scale_right {n m d : Nat} (D : Mat α n m) (s : α) (U : Mat α n d) (V : Mat α m d) :
    bilS D U (fun j c => V j c * s) = bilS D U V * s := by
  simp only [bilS_eq_sum, Finset.sum_mul]
  refine Finset.sum_congr rfl fun c _ => Finset.sum_congr rfl fun i _ => Finset.sum_congr rfl fun j _ => ?_
  ring

theorem bilS_const {n m d : Nat} (A : Mat α n m) (k : α) (U : Mat α n d) (V : Mat α m d) :
    bilS (fun i j => A i j * k) U V = (∑ i, ∑ c, U i c * (∑ j, A i j * V j c)) * k := by
  rw [bilS_eq_sum, Finset.sum_comm, Finset.sum_mul]
  refine Finset.sum_congr rfl fun i _ => ?_
  rw [Finset.sum_mul]
  refine Finset.sum_congr rfl fun c _ => ?_
  rw [Finset.mul_sum, Finset.sum_mul]
  exact Finset.sum_congr rfl fun j _ => by ring

/-- For a symmetric perturbation the two orders of the factors agree. -/
theorem bilS_symm {n d : Nat} (D : Mat α n n) (hD : ∀ i j, D i j = D j i) (L R : Mat α n d) :
    bilS D R L = bilS D L R := by
  simp only [bilS_eq_sum]
  refine Finset.sum_congr rfl fun c _ => ?_
  rw [Finset.sum_comm]
  refine Finset.sum_congr rfl fun i _ => Finset.sum_congr rfl fun j _ => ?_
  rw [hD j i]
  ring

/-! ### Products and transposes
They move between the matrix and the vectors (associativity and cyclicity of the trace); the versions for index functions are
instances, since `Matrix` product and transpose unfold to them. -/

theorem mmul_eq {n k m : Nat} (A : Mat α n k) (B : Mat α k m) : mmul A B = fun i j => ∑ l, A i l * B l j := by
  funext i j
  unfold mmul
  rw [sumFin_eq_sum]

theorem bilS_matMul_right {n k m d : Nat} (D : Matrix (Fin n) (Fin k) α) (B : Matrix (Fin k) (Fin m) α)
    (U : Matrix (Fin n) (Fin d) α) (V : Matrix (Fin m) (Fin d) α) : bilS D U (B * V) = bilS (D * B) U V := by
  show trace (Uᵀ * D * (B * V)) = trace (Uᵀ * (D * B) * V)
  rw [← Matrix.mul_assoc, Matrix.mul_assoc Uᵀ D B]

theorem bilS_matMul_left {n k m d : Nat} (A : Matrix (Fin n) (Fin k) α) (D : Matrix (Fin k) (Fin m) α)
    (U : Matrix (Fin n) (Fin d) α) (V : Matrix (Fin m) (Fin d) α) : bilS D (Aᵀ * U) V = bilS (A * D) U V := by
  show trace ((Aᵀ * U)ᵀ * D * V) = trace (Uᵀ * (A * D) * V)
  rw [Matrix.transpose_mul, Matrix.transpose_transpose, Matrix.mul_assoc Uᵀ A D]

theorem bilS_matTranspose {n m d : Nat} (D : Matrix (Fin n) (Fin m) α) (U : Matrix (Fin m) (Fin d) α)
    (V : Matrix (Fin n) (Fin d) α) : bilS Dᵀ U V = bilS D V U := by
  show trace (Uᵀ * Dᵀ * V) = trace (Vᵀ * D * U)
  rw [← Matrix.trace_transpose, Matrix.transpose_mul, Matrix.transpose_mul, Matrix.transpose_transpose,
    Matrix.transpose_transpose, Matrix.mul_assoc]

theorem bilS_conj {n m r s d : Nat} (L : Matrix (Fin r) (Fin n) α) (R : Matrix (Fin s) (Fin m) α) (A : Matrix (Fin n) (Fin m) α)
    (U : Matrix (Fin r) (Fin d) α) (V : Matrix (Fin s) (Fin d) α) : bilS A (Lᵀ * U) (Rᵀ * V) = bilS (L * A * Rᵀ) U V :=
  (bilS_matMul_left L A U _).trans (bilS_matMul_right (L * A) Rᵀ U V)

theorem bilS_mul_right {n k m d : Nat} (D : Mat α n k) (B : Mat α k m) (U : Mat α n d) (V : Mat α m d) :
    bilS D U (fun l c => ∑ j, B l j * V j c) = bilS (fun i j => ∑ l, D i l * B l j) U V :=
  bilS_matMul_right D B U V

theorem bilS_mul_left {n k m d : Nat} (A : Mat α n k) (D : Mat α k m) (U : Mat α n d) (V : Mat α m d) :
    bilS D (fun l c => ∑ i, A i l * U i c) V = bilS (fun i j => ∑ l, A i l * D l j) U V :=
  bilS_matMul_left A D U V

theorem bilS_transpose {n m d : Nat} (D : Mat α n m) (U : Mat α m d) (V : Mat α n d) :
    bilS (fun i j => D j i) U V = bilS D V U :=
  bilS_matTranspose D U V

/-! ### Diagonal and stacked matrices -/

/-- `Σ_i (Σ_c U[i,c] V[i,c]) δ_i` is the bilinear form of `diag δ`. -/
theorem bilS_diag {n d : Nat} (δ : Fin n → α) (U V : Mat α n d) :
    bilS (fun i j => if i = j then δ i else 0) U V = ∑ i, (∑ c, U i c * V i c) * δ i := by
  simp only [bilS_eq_sum, mul_ite, ite_mul, mul_zero, zero_mul, Finset.sum_ite_eq, Finset.mem_univ, if_true, Finset.sum_mul]
  rw [Finset.sum_comm]
  refine Finset.sum_congr rfl fun i _ => Finset.sum_congr rfl fun c _ => ?_
  ring

theorem bilS_catRows {n₁ n₂ m d : Nat} (A : Mat α n₁ m) (B : Mat α n₂ m) (U : Mat α (n₁ + n₂) d) (V : Mat α m d) :
    bilS (fun i j => Fin.addCases (fun i₁ => A i₁ j) (fun i₂ => B i₂ j) i) U V
      = bilS A (fun i c => U (Fin.castAdd n₂ i) c) V + bilS B (fun i c => U (Fin.natAdd n₁ i) c) V := by
  simp only [bilS_eq_sum, Fin.sum_univ_add, Fin.addCases_left, Fin.addCases_right, Finset.sum_add_distrib]

theorem bilS_catCols {n m₁ m₂ d : Nat} (A : Mat α n m₁) (B : Mat α n m₂) (U : Mat α n d) (V : Mat α (m₁ + m₂) d) :
    bilS (fun i j => Fin.addCases (fun j₁ => A i j₁) (fun j₂ => B i j₂) j) U V
      = bilS A U (fun j c => V (Fin.castAdd m₂ j) c) + bilS B U (fun j c => V (Fin.natAdd m₁ j) c) := by
  simp only [bilS_eq_sum, Fin.sum_univ_add, Fin.addCases_left, Fin.addCases_right, Finset.sum_add_distrib]

/-! ### Concatenated columns (`Solve.backward`, `InvQuadLogdet.backward`) and identity right-hand sides -/

omit [CommRing α] in
theorem hcat_castAdd {n d₁ d₂ : Nat} (A : Mat α n d₁) (B : Mat α n d₂) (i : Fin n) (c : Fin d₁) :
    hcat A B i (Fin.castAdd d₂ c) = A i c := by
  simp only [hcat, Fin.val_castAdd, c.2, dif_pos, Fin.eta]

omit [CommRing α] in
theorem hcat_natAdd {n d₁ d₂ : Nat} (A : Mat α n d₁) (B : Mat α n d₂) (i : Fin n) (c : Fin d₂) :
    hcat A B i (Fin.natAdd d₁ c) = B i c := by
  simp only [hcat, Fin.val_natAdd, Nat.not_lt.2 (Nat.le_add_right d₁ c.1), dif_neg, not_false_eq_true,
    Nat.add_sub_cancel_left, Fin.eta]

/-- The bilinear form is additive over concatenated columns. -/
theorem bilS_hcat {n m d₁ d₂ : Nat} (D : Mat α n m) (L₁ : Mat α n d₁) (L₂ : Mat α n d₂) (R₁ : Mat α m d₁) (R₂ : Mat α m d₂) :
    bilS D (hcat L₁ L₂) (hcat R₁ R₂) = bilS D L₁ R₁ + bilS D L₂ R₂ := by
  simp only [bilS_eq_sum, Fin.sum_univ_add, hcat_castAdd, hcat_natAdd]

theorem outer_id {n m : Nat} (G : Mat α n m) (i : Fin n) (j : Fin m) : ∑ c, G i c * (idMat m : Mat α m m) j c = G i j := by
  simp only [idMat, mul_ite, mul_one, mul_zero, Finset.sum_ite_eq, Finset.mem_univ, if_true]

theorem outer_diag_id {n : Nat} (g : Fin n → α) (i j : Fin n) :
    ∑ c, (diagMat g : Mat α n n) i c * (idMat n : Mat α n n) j c = if i = j then g i else 0 := by
  simp only [diagMat, idMat, mul_ite, mul_one, mul_zero, Finset.sum_ite_eq, Finset.mem_univ, if_true]

end LinOp.C07
