import LinOp.C07.Model
/-!
C07 — the defining equations of `addP`, one per operator class.
Unfolding a recursive function of the model at a constructor is slow in the elaborator (structural recursion over the indexed
family `Op n m` with results in `Param α o`), so it is done once, here, with `delta` (which exposes the recursor directly); every
proof rewrites with these equations.
-/
namespace LinOp.C07
open LinOp

variable {α : Type} [Add α]

theorem addP_dense (n m : Nat) (g h : Param α (.dense n m)) : addP (.dense n m) g h = fun i j => g i j + h i j := by
  delta addP; rfl

theorem addP_diag (n : Nat) (g h : Param α (.diag n)) : addP (.diag n) g h = fun i => g i + h i := by
  delta addP; rfl

theorem addP_constDiag (n : Nat) (g h : Param α (.constDiag n)) : addP (.constDiag n) g h = ((g : α) + (h : α) : α) := by
  delta addP; rfl

theorem addP_toeplitz (n : Nat) (g h : Param α (.toeplitz n)) : addP (.toeplitz n) g h = fun i => g i + h i := by
  delta addP; rfl

theorem addP_constMul {n m : Nat} (o : Op n m) (g h : Param α (.constMul o)) :
    addP (.constMul o) g h = (addP o g.1 h.1, g.2 + h.2) := by
  delta addP; rfl

theorem addP_matmul {n k m : Nat} (a : Op n k) (b : Op k m) (g h : Param α (.matmul a b)) :
    addP (.matmul a b) g h = (addP a g.1 h.1, addP b g.2 h.2) := by
  delta addP; rfl

theorem addP_sum {n m : Nat} (a b : Op n m) (g h : Param α (.sum a b)) :
    addP (.sum a b) g h = (addP a g.1 h.1, addP b g.2 h.2) := by
  delta addP; rfl

theorem addP_mul {n : Nat} (a b : Op n n) (g h : Param α (.mul a b)) :
    addP (.mul a b) g h = (addP a g.1 h.1, addP b g.2 h.2) := by
  delta addP; rfl

theorem addP_masked {n m r s : Nat} (rows : Fin r → Fin n) (cols : Fin s → Fin m) (o : Op n m)
    (g h : Param α (.masked rows cols o)) : addP (.masked rows cols o) g h = addP o g h := by
  delta addP; rfl

theorem addP_interp {n m r s : Nat} (ql qr : Nat) (li : Fin r → Fin ql → Fin n) (ri : Fin s → Fin qr → Fin m) (o : Op n m)
    (g h : Param α (.interp ql qr li ri o)) :
    addP (.interp ql qr li ri o) g h
      = (addP o g.1 h.1, (fun i a => g.2.1 i a + h.2.1 i a, fun j b => g.2.2 j b + h.2.2 j b)) := by
  delta addP; rfl

theorem addP_blockDiag {n m : Nat} (k : Nat) (o : Op n m) (g h : Param α (.blockDiag k o)) :
    addP (.blockDiag k o) g h = fun b => addP o (g b) (h b) := by
  delta addP; rfl

theorem addP_blockInterleaved {n m : Nat} (k : Nat) (o : Op n m) (g h : Param α (.blockInterleaved k o)) :
    addP (.blockInterleaved k o) g h = fun b => addP o (g b) (h b) := by
  delta addP; rfl

theorem addP_sumBatch {n m : Nat} (k : Nat) (o : Op n m) (g h : Param α (.sumBatch k o)) :
    addP (.sumBatch k o) g h = fun b => addP o (g b) (h b) := by
  delta addP; rfl

theorem addP_transpose {n m : Nat} (o : Op n m) (g h : Param α (.transpose o)) : addP (.transpose o) g h = addP o g h := by
  delta addP; rfl

theorem addP_root {n k : Nat} (o : Op n k) (g h : Param α (.root o)) : addP (.root o) g h = addP o g h := by
  delta addP; rfl

theorem addP_mulRoot {n k₁ k₂ : Nat} (a : Op n k₁) (b : Op n k₂) (g h : Param α (.mulRoot a b)) :
    addP (.mulRoot a b) g h = (addP a g.1 h.1, addP b g.2 h.2) := by
  delta addP; rfl

theorem addP_kron {n₁ m₁ n₂ m₂ : Nat} (a : Op n₁ m₁) (b : Op n₂ m₂) (g h : Param α (.kron a b)) :
    addP (.kron a b) g h = (addP a g.1 h.1, addP b g.2 h.2) := by
  delta addP; rfl

theorem addP_catRows {n₁ n₂ m : Nat} (a : Op n₁ m) (b : Op n₂ m) (g h : Param α (.catRows a b)) :
    addP (.catRows a b) g h = (addP a g.1 h.1, addP b g.2 h.2) := by
  delta addP; rfl

theorem addP_catCols {n m₁ m₂ : Nat} (a : Op n m₁) (b : Op n m₂) (g h : Param α (.catCols a b)) :
    addP (.catCols a b) g h = (addP a g.1 h.1, addP b g.2 h.2) := by
  delta addP; rfl


end LinOp.C07
