import LinOp.C07.Model
/-!
C07 — the defining equations of `bilinDeriv` (and `rootDerivWith`), one per operator class, stated without the memo tables
(`getV (memoV f) = f`).
Unfolding a recursive function of the model at a constructor is slow in the elaborator (structural recursion over the indexed
family `Op n m` with results in `Param α o`), so it is done once, here, with `delta` (which exposes the recursor directly); every
proof rewrites with these equations.
-/
namespace LinOp.C07
open LinOp

variable {α : Type} [Add α] [Mul α] [Zero α] [Sub α] [One α]

omit [Sub α] [One α] in
theorem rootDerivWith_eq {n k d : Nat} (o : Op n k) (R : Mat α n k) (bd : Mat α n d → Mat α k d → Param α o) (U V : Mat α n d) :
    rootDerivWith o R bd U V = addP o (bd U (mmul (Mat.transpose R) V)) (bd V (mmul (Mat.transpose R) U)) := by
  simp only [rootDerivWith, getV_memoV]

theorem bilinDeriv_dense (n m : Nat) (θ : Param α (.dense n m)) {d : Nat} (U : Mat α n d) (V : Mat α m d) :
    bilinDeriv (.dense n m) θ U V = fun i j => sumFin d fun c => U i c * V j c := by
  delta bilinDeriv; rfl

theorem bilinDeriv_diag (n : Nat) (θ : Param α (.diag n)) {d : Nat} (U V : Mat α n d) :
    bilinDeriv (.diag n) θ U V = fun i => sumFin d fun c => U i c * V i c := by
  delta bilinDeriv; rfl

theorem bilinDeriv_constDiag (n : Nat) (θ : Param α (.constDiag n)) {d : Nat} (U V : Mat α n d) :
    bilinDeriv (.constDiag n) θ U V = (sumFin n fun i => sumFin d fun c => U i c * V i c : α) := by
  delta bilinDeriv; rfl

theorem bilinDeriv_toeplitz (n : Nat) (θ : Param α (.toeplitz n)) {d : Nat} (U V : Mat α n d) :
    bilinDeriv (.toeplitz n) θ U V = toeplitzQF U V := by
  delta bilinDeriv; rfl

theorem bilinDeriv_constMul {n m : Nat} (o : Op n m) (θ : Param α (.constMul o)) {d : Nat} (U : Mat α n d) (V : Mat α m d) :
    bilinDeriv (.constMul o) θ U V
      = (bilinDeriv o θ.1 (fun i c => U i c * θ.2) V, sumFin n fun i => sumFin d fun c => U i c * mmul (denote o θ.1) V i c) := by
  show (bilinDeriv o θ.1 (fun i c => U i c * θ.2) V, sumFin n fun i => sumFin d fun c => U i c * getV (memoV _) i c) = _
  rw [getV_memoV]

theorem bilinDeriv_matmul {n k m : Nat} (a : Op n k) (b : Op k m) (θ : Param α (.matmul a b)) {d : Nat}
    (U : Mat α n d) (V : Mat α m d) :
    bilinDeriv (.matmul a b) θ U V
      = (bilinDeriv a θ.1 U (mmul (denote b θ.2) V), bilinDeriv b θ.2 (mmul (Mat.transpose (denote a θ.1)) U) V) := by
  show (bilinDeriv a θ.1 U (getV (memoV _)), bilinDeriv b θ.2 (getV (memoV _)) V) = _
  rw [getV_memoV, getV_memoV]

theorem bilinDeriv_sum {n m : Nat} (a b : Op n m) (θ : Param α (.sum a b)) {d : Nat} (U : Mat α n d) (V : Mat α m d) :
    bilinDeriv (.sum a b) θ U V = (bilinDeriv a θ.1 U V, bilinDeriv b θ.2 U V) := by
  delta bilinDeriv; rfl

/-- the factors are viewed as `n × (rank · d)` with `rank = n`, column index `r * d + c`. -/
theorem bilinDeriv_mul {n : Nat} (a b : Op n n) (θ : Param α (.mul a b)) {d : Nat} (U V : Mat α n d) :
    bilinDeriv (.mul a b) θ U V
      = (bilinDeriv a θ.1 (d := n * d) (fun i c => U i (innerIdx c) * denote b θ.2 i (outerIdx c))
            (fun j c => V j (innerIdx c) * (if j = outerIdx c then 1 else 0)),
         bilinDeriv b θ.2 (d := n * d) (fun i c => U i (innerIdx c) * denote a θ.1 i (outerIdx c))
            (fun j c => V j (innerIdx c) * (if j = outerIdx c then 1 else 0))) := by
  show (bilinDeriv a θ.1 (d := n * d) (fun i c => U i (innerIdx c) * getV (memoV _) i (outerIdx c)) _,
      bilinDeriv b θ.2 (d := n * d) (fun i c => U i (innerIdx c) * getV (memoV _) i (outerIdx c)) _) = _
  rw [getV_memoV, getV_memoV]

theorem bilinDeriv_masked {n m r s : Nat} (rows : Fin r → Fin n) (cols : Fin s → Fin m) (o : Op n m)
    (θ : Param α (.masked rows cols o)) {d : Nat} (U : Mat α r d) (V : Mat α s d) :
    bilinDeriv (.masked rows cols o) θ U V = bilinDeriv o θ (expandRows rows U) (expandRows cols V) := by
  show bilinDeriv o θ (getV (memoV _)) (getV (memoV _)) = _
  rw [getV_memoV, getV_memoV]

theorem bilinDeriv_interp {n m r s : Nat} (ql qr : Nat) (li : Fin r → Fin ql → Fin n) (ri : Fin s → Fin qr → Fin m) (o : Op n m)
    (θ : Param α (.interp ql qr li ri o)) {d : Nat} (U : Mat α r d) (V : Mat α s d) :
    bilinDeriv (.interp ql qr li ri o) θ U V
      = (bilinDeriv o θ.1 (interpT li θ.2.1 U) (interpT ri θ.2.2 V),
         (fun i a => sumFin d fun c => mmul (denote o θ.1) (interpT ri θ.2.2 V) (li i a) c * U i c,
          fun j b => sumFin d fun c => mmul (Mat.transpose (denote o θ.1)) (interpT li θ.2.1 U) (ri j b) c * V j c)) := by
  show (bilinDeriv o θ.1 (getV (memoV _)) (getV (memoV _)),
      (fun i a => sumFin d fun c => getV (memoV (mmul _ (getV (memoV _)))) (li i a) c * U i c,
       fun j b => sumFin d fun c => getV (memoV (mmul _ (getV (memoV _)))) (ri j b) c * V j c)) = _
  simp only [getV_memoV]

theorem bilinDeriv_blockDiag {n m : Nat} (k : Nat) (o : Op n m) (θ : Param α (.blockDiag k o)) {d : Nat}
    (U : Mat α (k * n) d) (V : Mat α (k * m) d) :
    bilinDeriv (.blockDiag k o) θ U V
      = fun b => bilinDeriv o (θ b) (fun i c => U (pairIdx b i) c) (fun j c => V (pairIdx b j) c) := by
  delta bilinDeriv; rfl

theorem bilinDeriv_blockInterleaved {n m : Nat} (k : Nat) (o : Op n m) (θ : Param α (.blockInterleaved k o)) {d : Nat}
    (U : Mat α (n * k) d) (V : Mat α (m * k) d) :
    bilinDeriv (.blockInterleaved k o) θ U V
      = fun b => bilinDeriv o (θ b) (fun i c => U (pairIdx i b) c) (fun j c => V (pairIdx j b) c) := by
  delta bilinDeriv; rfl

theorem bilinDeriv_sumBatch {n m : Nat} (k : Nat) (o : Op n m) (θ : Param α (.sumBatch k o)) {d : Nat}
    (U : Mat α n d) (V : Mat α m d) :
    bilinDeriv (.sumBatch k o) θ U V = fun b => bilinDeriv o (θ b) U V := by
  delta bilinDeriv; rfl

theorem bilinDeriv_transpose {n m : Nat} (o : Op n m) (θ : Param α (.transpose o)) {d : Nat} (U : Mat α m d) (V : Mat α n d) :
    bilinDeriv (.transpose o) θ U V = bilinDeriv o θ V U := by
  delta bilinDeriv; rfl

theorem bilinDeriv_root {n k : Nat} (o : Op n k) (θ : Param α (.root o)) {d : Nat} (U V : Mat α n d) :
    bilinDeriv (.root o) θ U V = rootDerivWith o (denote o θ) (fun X Y => bilinDeriv o θ X Y) U V := by
  delta bilinDeriv; rfl

/-- each Root factor receives the columns `U[:,c]·R_other[:,r]`, `V[:,c]·R_other[:,r]` (column index `r * d + c`). -/
theorem bilinDeriv_mulRoot {n k₁ k₂ : Nat} (a : Op n k₁) (b : Op n k₂) (θ : Param α (.mulRoot a b)) {d : Nat} (U V : Mat α n d) :
    bilinDeriv (.mulRoot a b) θ U V
      = (rootDerivWith (d := k₂ * d) a (denote a θ.1) (fun X Y => bilinDeriv a θ.1 X Y)
            (fun i c => U i (innerIdx c) * denote b θ.2 i (outerIdx c)) (fun j c => V j (innerIdx c) * denote b θ.2 j (outerIdx c)),
         rootDerivWith (d := k₁ * d) b (denote b θ.2) (fun X Y => bilinDeriv b θ.2 X Y)
            (fun i c => U i (innerIdx c) * denote a θ.1 i (outerIdx c)) (fun j c => V j (innerIdx c) * denote a θ.1 j (outerIdx c))) := by
  show (rootDerivWith (d := k₂ * d) a _ _ (fun i c => U i (innerIdx c) * getV (memoV _) i (outerIdx c))
        (fun j c => V j (innerIdx c) * getV (memoV _) j (outerIdx c)),
      rootDerivWith (d := k₁ * d) b _ _ (fun i c => U i (innerIdx c) * getV (memoV _) i (outerIdx c))
        (fun j c => V j (innerIdx c) * getV (memoV _) j (outerIdx c))) = _
  simp only [getV_memoV]

/-- the reverse sweep through the loop of `_matmul`: `Vr` = rhs viewed as `m₁ × (m₂·d)`; the first factor's output `A · Vr`,
transposed and viewed as `m₂ × (n₁·d)`, is the input of the second factor; `U2` = upstream gradient viewed as `n₂ × (n₁·d)`; the
first factor's upstream gradient is `Bᵀ · U2`, transposed back to `n₁ × (m₂·d)`. -/
theorem bilinDeriv_kron {n₁ m₁ n₂ m₂ : Nat} (a : Op n₁ m₁) (b : Op n₂ m₂) (θ : Param α (.kron a b)) {d : Nat}
    (U : Mat α (n₁ * n₂) d) (V : Mat α (m₁ * m₂) d) :
    bilinDeriv (.kron a b) θ U V
      = (bilinDeriv a θ.1 (d := m₂ * d)
            (fun i₁ c => mmul (Mat.transpose (denote b θ.2)) (fun i₂ c => U (pairIdx (outerIdx c) i₂) (innerIdx c))
              (outerIdx c) (pairIdx i₁ (innerIdx c)))
            (fun j₁ c => V (pairIdx j₁ (outerIdx c)) (innerIdx c)),
         bilinDeriv b θ.2 (d := n₁ * d) (fun i₂ c => U (pairIdx (outerIdx c) i₂) (innerIdx c))
            (fun j₂ c => mmul (denote a θ.1) (fun j₁ c => V (pairIdx j₁ (outerIdx c)) (innerIdx c))
              (outerIdx c) (pairIdx j₂ (innerIdx c)))) := by
  show (bilinDeriv a θ.1 (d := m₂ * d)
        (fun i₁ c => getV (memoV (mmul (Mat.transpose (getV (memoV _))) _)) (outerIdx c) (pairIdx i₁ (innerIdx c))) _,
      bilinDeriv b θ.2 (d := n₁ * d) _
        (fun j₂ c => getV (memoV (mmul (getV (memoV _)) _)) (outerIdx c) (pairIdx j₂ (innerIdx c)))) = _
  simp only [getV_memoV]

theorem bilinDeriv_catRows {n₁ n₂ m : Nat} (a : Op n₁ m) (b : Op n₂ m) (θ : Param α (.catRows a b)) {d : Nat}
    (U : Mat α (n₁ + n₂) d) (V : Mat α m d) :
    bilinDeriv (.catRows a b) θ U V
      = (bilinDeriv a θ.1 (fun i c => U (Fin.castAdd n₂ i) c) V, bilinDeriv b θ.2 (fun i c => U (Fin.natAdd n₁ i) c) V) := by
  delta bilinDeriv; rfl

theorem bilinDeriv_catCols {n m₁ m₂ : Nat} (a : Op n m₁) (b : Op n m₂) (θ : Param α (.catCols a b)) {d : Nat}
    (U : Mat α n d) (V : Mat α (m₁ + m₂) d) :
    bilinDeriv (.catCols a b) θ U V
      = (bilinDeriv a θ.1 U (fun j c => V (Fin.castAdd m₂ j) c), bilinDeriv b θ.2 U (fun j c => V (Fin.natAdd m₁ j) c)) := by
  delta bilinDeriv; rfl


end LinOp.C07
