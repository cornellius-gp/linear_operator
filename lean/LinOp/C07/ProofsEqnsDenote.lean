import LinOp.C07.Model
/-!
C07 — the defining equations of `denote`, one per operator class, for any scalars (used at `α` and at `Dual α`).
Unfolding a recursive function of the model at a constructor is slow in the elaborator (structural recursion over the indexed
family `Op n m` with results in `Param α o`), so it is done once, here, with `delta` (which exposes the recursor directly); every
proof rewrites with these equations.
-/
namespace LinOp.C07
open LinOp

variable {β : Type} [Add β] [Mul β] [Zero β]

theorem denote_dense (n m : Nat) (θ : Param β (.dense n m)) : denote (.dense n m) θ = θ := by delta denote; rfl

theorem denote_diag (n : Nat) (θ : Param β (.diag n)) : denote (.diag n) θ = fun i j => if i = j then θ i else 0 := by
  delta denote; rfl

theorem denote_constDiag (n : Nat) (θ : Param β (.constDiag n)) :
    denote (.constDiag n) θ = fun i j => if i = j then (θ : β) else 0 := by
  delta denote; rfl

theorem denote_toeplitz (n : Nat) (θ : Param β (.toeplitz n)) : denote (.toeplitz n) θ = fun i j => θ (absDiff i j) := by
  delta denote; rfl

theorem denote_constMul {n m : Nat} (o : Op n m) (θ : Param β (.constMul o)) :
    denote (.constMul o) θ = fun i j => denote o θ.1 i j * θ.2 := by
  delta denote; rfl

theorem denote_matmul {n k m : Nat} (a : Op n k) (b : Op k m) (θ : Param β (.matmul a b)) :
    denote (.matmul a b) θ = mmul (denote a θ.1) (denote b θ.2) := by
  delta denote; rfl

theorem denote_sum {n m : Nat} (a b : Op n m) (θ : Param β (.sum a b)) :
    denote (.sum a b) θ = fun i j => denote a θ.1 i j + denote b θ.2 i j := by
  delta denote; rfl

theorem denote_mul {n : Nat} (a b : Op n n) (θ : Param β (.mul a b)) :
    denote (.mul a b) θ = fun i j => denote a θ.1 i j * denote b θ.2 i j := by
  delta denote; rfl

theorem denote_masked {n m r s : Nat} (rows : Fin r → Fin n) (cols : Fin s → Fin m) (o : Op n m)
    (θ : Param β (.masked rows cols o)) :
    denote (.masked rows cols o) θ = fun i j => denote o θ (rows i) (cols j) := by
  delta denote; rfl

theorem denote_interp {n m r s : Nat} (ql qr : Nat) (li : Fin r → Fin ql → Fin n) (ri : Fin s → Fin qr → Fin m) (o : Op n m)
    (θ : Param β (.interp ql qr li ri o)) :
    denote (.interp ql qr li ri o) θ = fun i j =>
      sumFin ql fun a => sumFin qr fun b => θ.2.1 i a * denote o θ.1 (li i a) (ri j b) * θ.2.2 j b := by
  delta denote; rfl

theorem denote_blockDiag {n m : Nat} (k : Nat) (o : Op n m) (θ : Param β (.blockDiag k o)) :
    denote (.blockDiag k o) θ = fun i j =>
      if (outerIdx i).1 = (outerIdx j).1 then denote o (θ (outerIdx i)) (innerIdx i) (innerIdx j) else 0 := by
  delta denote; rfl

theorem denote_blockInterleaved {n m : Nat} (k : Nat) (o : Op n m) (θ : Param β (.blockInterleaved k o)) :
    denote (.blockInterleaved k o) θ = fun i j =>
      if (innerIdx i).1 = (innerIdx j).1 then denote o (θ (innerIdx i)) (outerIdx i) (outerIdx j) else 0 := by
  delta denote; rfl

theorem denote_sumBatch {n m : Nat} (k : Nat) (o : Op n m) (θ : Param β (.sumBatch k o)) :
    denote (.sumBatch k o) θ = fun i j => sumFin k fun b => denote o (θ b) i j := by
  delta denote; rfl

theorem denote_transpose {n m : Nat} (o : Op n m) (θ : Param β (.transpose o)) :
    denote (.transpose o) θ = fun i j => denote o θ j i := by
  delta denote; rfl

theorem denote_root {n k : Nat} (o : Op n k) (θ : Param β (.root o)) :
    denote (.root o) θ = fun i j => sumFin k fun l => denote o θ i l * denote o θ j l := by
  delta denote; rfl

theorem denote_mulRoot {n k₁ k₂ : Nat} (a : Op n k₁) (b : Op n k₂) (θ : Param β (.mulRoot a b)) :
    denote (.mulRoot a b) θ = fun i j =>
      (sumFin k₁ fun l => denote a θ.1 i l * denote a θ.1 j l) * (sumFin k₂ fun l => denote b θ.2 i l * denote b θ.2 j l) := by
  delta denote; rfl

theorem denote_kron {n₁ m₁ n₂ m₂ : Nat} (a : Op n₁ m₁) (b : Op n₂ m₂) (θ : Param β (.kron a b)) :
    denote (.kron a b) θ = fun i j =>
      denote a θ.1 (outerIdx i) (outerIdx j) * denote b θ.2 (innerIdx i) (innerIdx j) := by
  delta denote; rfl

theorem denote_catRows {n₁ n₂ m : Nat} (a : Op n₁ m) (b : Op n₂ m) (θ : Param β (.catRows a b)) :
    denote (.catRows a b) θ = fun i j => Fin.addCases (fun i₁ => denote a θ.1 i₁ j) (fun i₂ => denote b θ.2 i₂ j) i := by
  delta denote; rfl

theorem denote_catCols {n m₁ m₂ : Nat} (a : Op n m₁) (b : Op n m₂) (θ : Param β (.catCols a b)) :
    denote (.catCols a b) θ = fun i j => Fin.addCases (fun j₁ => denote a θ.1 i j₁) (fun j₂ => denote b θ.2 i j₂) j := by
  delta denote; rfl


end LinOp.C07
