import LinOp.C07.ProofsBil
/-!
C07 — the Toeplitz leaf: `sym_toeplitz_derivative_quadratic_form` computes `Σ_c Σ_{|a−b| = k} U[a,c] V[b,c]` (`toeplitzQF_eq`), which is
adjoint to reading a vector along `|a − b|` (`bilS_toeplitz`).
-/
namespace LinOp.C07
open LinOp Matrix

variable {α : Type} [CommRing α]

theorem sum_ite_val {n : Nat} (u : Fin n → α) (t : Nat) :
    (∑ a : Fin n, if a.1 = t then u a else 0) = if h : t < n then u ⟨t, h⟩ else 0 := by
  by_cases h : t < n
  · rw [dif_pos h, Finset.sum_eq_single (⟨t, h⟩ : Fin n)]
    · simp
    · intro b _ hb
      have : b.1 ≠ t := fun e => hb (Fin.ext e)
      simp [this]
    · simp
  · rw [dif_neg h]
    apply Finset.sum_eq_zero
    intro a _
    have : a.1 ≠ t := by have := a.2; omega
    simp [this]

/-- The index set `{a : |a − b| = k}` is `{b − k, b + k}` (one element for `k = 0`). -/
theorem toeplitz_fiber {n : Nat} (u : Fin n → α) (b k : Fin n) :
    (∑ a : Fin n, if absDiff a b = k then u a else 0)
      = (if h : k.1 ≤ b.1 then u ⟨b.1 - k.1, by have := b.2; omega⟩ else 0)
        + (if h : b.1 + k.1 < n then u ⟨b.1 + k.1, h⟩ else 0)
        - (if k.1 = 0 then u b else 0) := by
  by_cases hk : k.1 = 0
  · have hiff : ∀ a : Fin n, (absDiff a b = k) ↔ a.1 = b.1 := by
      intro a
      rw [Fin.ext_iff]
      simp only [absDiff]
      split <;> omega
    have h1 : k.1 ≤ b.1 := by omega
    have h2 : b.1 + k.1 < n := by have := b.2; omega
    simp only [hiff, sum_ite_val, dif_pos b.2, dif_pos h1, dif_pos h2, if_pos hk]
    have e1 : (⟨b.1 - k.1, by have := b.2; omega⟩ : Fin n) = b := Fin.ext (by simp [hk])
    have e2 : (⟨b.1 + k.1, h2⟩ : Fin n) = b := Fin.ext (by simp [hk])
    rw [e1, e2]
    have e3 : (⟨b.1, b.2⟩ : Fin n) = b := rfl
    rw [e3]
    ring
  · have hsplit : ∀ a : Fin n, (if absDiff a b = k then u a else 0)
        = (if a.1 = b.1 - k.1 ∧ k.1 ≤ b.1 then u a else 0) + (if a.1 = b.1 + k.1 then u a else 0) := by
      intro a
      have hiff : (absDiff a b = k) ↔ ((a.1 = b.1 - k.1 ∧ k.1 ≤ b.1) ∨ a.1 = b.1 + k.1) := by
        rw [Fin.ext_iff]
        simp only [absDiff]
        split <;> omega
      by_cases h1 : a.1 = b.1 - k.1 ∧ k.1 ≤ b.1
      · have h2 : ¬ a.1 = b.1 + k.1 := by omega
        rw [if_pos (hiff.2 (Or.inl h1)), if_pos h1, if_neg h2, add_zero]
      · by_cases h2 : a.1 = b.1 + k.1
        · rw [if_pos (hiff.2 (Or.inr h2)), if_neg h1, if_pos h2, zero_add]
        · have h3 : ¬ (absDiff a b = k) := fun e => (hiff.1 e).elim h1 h2
          rw [if_neg h3, if_neg h1, if_neg h2, add_zero]
    simp only [hsplit, Finset.sum_add_distrib, if_neg hk, sub_zero]
    congr 1
    · by_cases hkb : k.1 ≤ b.1
      · simp only [hkb, and_true, sum_ite_val]
        rw [dif_pos (show b.1 - k.1 < n by have := b.2; omega)]
        simp
      · simp [hkb]
    · rw [sum_ite_val]

theorem toeplitzQF_eq {n d : Nat} (U V : Mat α n d) (k : Fin n) :
    toeplitzQF U V k = ∑ c, ∑ b, (∑ a, if absDiff a b = k then U a c else 0) * V b c := by
  simp only [toeplitz_fiber (fun a => U a _), toeplitzQF, sumFin_eq_sum, sub_mul, add_mul, Finset.sum_sub_distrib,
    Finset.sum_add_distrib, dite_mul, ite_mul, zero_mul]
  congr 1
  by_cases hk : k.1 = 0
  · simp only [if_pos hk]
  · simp only [if_neg hk, Finset.sum_const_zero]

/-- The adjoint identity of the Toeplitz leaf: reading `δ` along `|a − b|` is adjoint to `toeplitzQF`. -/
theorem bilS_toeplitz {n d : Nat} (δ : Fin n → α) (U V : Mat α n d) :
    bilS (fun a b => δ (absDiff a b)) U V = ∑ k, toeplitzQF U V k * δ k := by
  simp only [bilS_eq_sum, toeplitzQF_eq, Finset.sum_mul, ite_mul, zero_mul]
  symm
  rw [Finset.sum_comm]
  refine Finset.sum_congr rfl fun c _ => ?_
  rw [Finset.sum_comm]
  conv_rhs => rw [Finset.sum_comm]
  refine Finset.sum_congr rfl fun b _ => ?_
  rw [Finset.sum_comm]
  refine Finset.sum_congr rfl fun a _ => ?_
  rw [Finset.sum_ite_eq]
  simp only [Finset.mem_univ, if_true]
  ring

end LinOp.C07
