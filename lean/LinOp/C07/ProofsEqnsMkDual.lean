import LinOp.C07.Model
/-!
C07 — the defining equations of `mkDual`, one per operator class.
Unfolding a recursive function of the model at a constructor is slow in the elaborator (structural recursion over the indexed
family `Op n m` with results in `Param α o`), so it is done once, here, with `delta` (which exposes the recursor directly); every
proof rewrites with these equations.
-/
namespace LinOp.C07
open LinOp

variable {α : Type}

theorem mkDual_dense (n m : Nat) (θ δ : Param α (.dense n m)) : mkDual (.dense n m) θ δ = fun i j => ⟨θ i j, δ i j⟩ := by
  delta mkDual; rfl

theorem mkDual_diag (n : Nat) (θ δ : Param α (.diag n)) : mkDual (.diag n) θ δ = fun i => ⟨θ i, δ i⟩ := by
  delta mkDual; rfl

theorem mkDual_constDiag (n : Nat) (θ δ : Param α (.constDiag n)) : mkDual (.constDiag n) θ δ = (⟨θ, δ⟩ : Dual α) := by
  delta mkDual; rfl

theorem mkDual_toeplitz (n : Nat) (θ δ : Param α (.toeplitz n)) : mkDual (.toeplitz n) θ δ = fun i => ⟨θ i, δ i⟩ := by
  delta mkDual; rfl

theorem mkDual_constMul {n m : Nat} (o : Op n m) (θ δ : Param α (.constMul o)) :
    mkDual (.constMul o) θ δ = (mkDual o θ.1 δ.1, ⟨θ.2, δ.2⟩) := by
  delta mkDual; rfl

theorem mkDual_matmul {n k m : Nat} (a : Op n k) (b : Op k m) (θ δ : Param α (.matmul a b)) :
    mkDual (.matmul a b) θ δ = (mkDual a θ.1 δ.1, mkDual b θ.2 δ.2) := by
  delta mkDual; rfl

theorem mkDual_sum {n m : Nat} (a b : Op n m) (θ δ : Param α (.sum a b)) :
    mkDual (.sum a b) θ δ = (mkDual a θ.1 δ.1, mkDual b θ.2 δ.2) := by
  delta mkDual; rfl

theorem mkDual_mul {n : Nat} (a b : Op n n) (θ δ : Param α (.mul a b)) :
    mkDual (.mul a b) θ δ = (mkDual a θ.1 δ.1, mkDual b θ.2 δ.2) := by
  delta mkDual; rfl

theorem mkDual_masked {n m r s : Nat} (rows : Fin r → Fin n) (cols : Fin s → Fin m) (o : Op n m)
    (θ δ : Param α (.masked rows cols o)) : mkDual (.masked rows cols o) θ δ = mkDual o θ δ := by
  delta mkDual; rfl

theorem mkDual_interp {n m r s : Nat} (ql qr : Nat) (li : Fin r → Fin ql → Fin n) (ri : Fin s → Fin qr → Fin m) (o : Op n m)
    (θ δ : Param α (.interp ql qr li ri o)) :
    mkDual (.interp ql qr li ri o) θ δ
      = (mkDual o θ.1 δ.1, (fun i a => ⟨θ.2.1 i a, δ.2.1 i a⟩, fun j b => ⟨θ.2.2 j b, δ.2.2 j b⟩)) := by
  delta mkDual; rfl

theorem mkDual_blockDiag {n m : Nat} (k : Nat) (o : Op n m) (θ δ : Param α (.blockDiag k o)) :
    mkDual (.blockDiag k o) θ δ = fun b => mkDual o (θ b) (δ b) := by
  delta mkDual; rfl

theorem mkDual_blockInterleaved {n m : Nat} (k : Nat) (o : Op n m) (θ δ : Param α (.blockInterleaved k o)) :
    mkDual (.blockInterleaved k o) θ δ = fun b => mkDual o (θ b) (δ b) := by
  delta mkDual; rfl

theorem mkDual_sumBatch {n m : Nat} (k : Nat) (o : Op n m) (θ δ : Param α (.sumBatch k o)) :
    mkDual (.sumBatch k o) θ δ = fun b => mkDual o (θ b) (δ b) := by
  delta mkDual; rfl

theorem mkDual_transpose {n m : Nat} (o : Op n m) (θ δ : Param α (.transpose o)) :
    mkDual (.transpose o) θ δ = mkDual o θ δ := by
  delta mkDual; rfl

theorem mkDual_root {n k : Nat} (o : Op n k) (θ δ : Param α (.root o)) : mkDual (.root o) θ δ = mkDual o θ δ := by
  delta mkDual; rfl

theorem mkDual_mulRoot {n k₁ k₂ : Nat} (a : Op n k₁) (b : Op n k₂) (θ δ : Param α (.mulRoot a b)) :
    mkDual (.mulRoot a b) θ δ = (mkDual a θ.1 δ.1, mkDual b θ.2 δ.2) := by
  delta mkDual; rfl

theorem mkDual_kron {n₁ m₁ n₂ m₂ : Nat} (a : Op n₁ m₁) (b : Op n₂ m₂) (θ δ : Param α (.kron a b)) :
    mkDual (.kron a b) θ δ = (mkDual a θ.1 δ.1, mkDual b θ.2 δ.2) := by
  delta mkDual; rfl

theorem mkDual_catRows {n₁ n₂ m : Nat} (a : Op n₁ m) (b : Op n₂ m) (θ δ : Param α (.catRows a b)) :
    mkDual (.catRows a b) θ δ = (mkDual a θ.1 δ.1, mkDual b θ.2 δ.2) := by
  delta mkDual; rfl

theorem mkDual_catCols {n m₁ m₂ : Nat} (a : Op n m₁) (b : Op n m₂) (θ δ : Param α (.catCols a b)) :
    mkDual (.catCols a b) θ δ = (mkDual a θ.1 δ.1, mkDual b θ.2 δ.2) := by
  delta mkDual; rfl


end LinOp.C07
