import LinOp.C07.ModelEntry
/-!
C07 — the `flat` / `rebuild` round trip (`representation_tree()(*representation())`), and the operator a backward finds in its context
(`memory_efficient` on or off).
-/
namespace LinOp.C07
open LinOp

variable {α : Type}

theorem takeN_flatN {β : Type} (rd : List α → β × List α) (fl : β → List α)
    (h : ∀ x rest, rd (fl x ++ rest) = (x, rest)) :
    ∀ (k : Nat) (f : Fin k → β) (rest : List α), takeN rd k (flatN fl k f ++ rest) = (f, rest) := by
  intro k
  induction k with
  | zero =>
    intro f rest
    simp only [takeN, flatN, List.nil_append, Prod.mk.injEq, and_true]
    funext i; exact i.elim0
  | succ k ih =>
    intro f rest
    simp only [takeN, flatN, List.append_assoc, h, ih, Prod.mk.injEq, and_true]
    funext i
    refine Fin.cases ?_ (fun j => ?_) i <;> simp

/-- Two items read one after the other (the shape of `rebuild` at a constructor with two sub-operators). -/
theorem read_two {β γ : Type} (ra : List α → β × List α) (rb : List α → γ × List α) (fa : β → List α) (fb : γ → List α)
    (ha : ∀ x rest, ra (fa x ++ rest) = (x, rest)) (hb : ∀ y rest, rb (fb y ++ rest) = (y, rest))
    (x : β) (y : γ) (rest : List α) :
    (let (p, l₁) := ra ((fa x ++ fb y) ++ rest); let (q, l₂) := rb l₁; ((p, q), l₂)) = ((x, y), rest) := by
  simp only [List.append_assoc, ha, hb]

/-- Three items read one after the other (the shape of `rebuild` at `interp`). -/
theorem read_three {β γ ε : Type} (ra : List α → β × List α) (rb : List α → γ × List α) (rc : List α → ε × List α)
    (fa : β → List α) (fb : γ → List α) (fc : ε → List α) (ha : ∀ x rest, ra (fa x ++ rest) = (x, rest))
    (hb : ∀ y rest, rb (fb y ++ rest) = (y, rest)) (hc : ∀ z rest, rc (fc z ++ rest) = (z, rest))
    (x : β) (y : γ) (z : ε) (rest : List α) :
    (let (p, l₁) := ra ((fa x ++ (fb y ++ fc z)) ++ rest); let (q, l₂) := rb l₁; let (r, l₃) := rc l₂; ((p, (q, r)), l₃))
      = ((x, (y, z)), rest) := by
  simp only [List.append_assoc, ha, hb, hc]

theorem rdScalar_single [Zero α] (x : α) (rest : List α) : rdScalar ([x] ++ rest) = (x, rest) := rfl

/-- `representation_tree()(*representation()) = the operator` (the flat-list form of C14's rebuild/flatten theorem,
for the operator classes of this model). -/
theorem rebuild_flat [Zero α] {n m : Nat} (o : Op n m) : ∀ (θ : Param α o) (rest : List α), rebuild o (flat o θ ++ rest) = (θ, rest) := by
  induction o with
  | dense n m => intro θ rest; exact takeN_flatN _ _ (takeN_flatN _ _ rdScalar_single m) n θ rest
  | diag n => intro θ rest; exact takeN_flatN _ _ rdScalar_single n θ rest
  | constDiag n => intro θ rest; rfl
  | toeplitz n => intro θ rest; exact takeN_flatN _ _ rdScalar_single n θ rest
  | constMul o ih => intro θ rest; exact read_two _ _ _ _ ih rdScalar_single θ.1 θ.2 rest
  | masked rows cols o ih => intro θ rest; exact ih θ rest
  | interp ql qr li ri o ih =>
    intro θ rest
    exact read_three _ _ _ _ _ _ ih (takeN_flatN _ _ (takeN_flatN _ _ rdScalar_single ql) _)
      (takeN_flatN _ _ (takeN_flatN _ _ rdScalar_single qr) _) θ.1 θ.2.1 θ.2.2 rest
  | blockDiag k o ih => intro θ rest; exact takeN_flatN _ _ ih k θ rest
  | blockInterleaved k o ih => intro θ rest; exact takeN_flatN _ _ ih k θ rest
  | sumBatch k o ih => intro θ rest; exact takeN_flatN _ _ ih k θ rest
  | transpose o ih => intro θ rest; exact ih θ rest
  | root o ih => intro θ rest; exact ih θ rest
  | matmul a b iha ihb | sum a b iha ihb | mul a b iha ihb | mulRoot a b iha ihb | kron a b iha ihb | catRows a b iha ihb
  | catCols a b iha ihb => intro θ rest; exact read_two _ _ _ _ iha ihb θ.1 θ.2 rest

theorem rebuild_flat' [Zero α] {n m : Nat} (o : Op n m) (θ : Param α o) : (rebuild o (flat o θ)).1 = θ := by
  have := rebuild_flat o θ []
  rw [List.append_nil] at this
  rw [this]

/-! ### memory_efficient / skip_logdet_forward -/

theorem ctxOperator_forward [Zero α] {n m : Nat} (me : Bool) (o : Op n m) (θ : Param α o) : ctxOperator o (forwardCtx me o θ) = θ := by
  cases me <;> simp [ctxOperator, forwardCtx, rebuild_flat']

theorem ctxRebuilt_forward [Zero α] {n m : Nat} (me : Bool) (o : Op n m) (θ : Param α o) : ctxRebuilt o (forwardCtx me o θ) = θ := by
  cases me <;> simp [ctxRebuilt, forwardCtx, rebuild_flat']

end LinOp.C07
