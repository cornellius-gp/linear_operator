import LinOp.C07.Model
/-!
C07 — the defining equations of `pair`, one per operator class.
Unfolding a recursive function of the model at a constructor is slow in the elaborator (structural recursion over the indexed
family `Op n m` with results in `Param α o`), so it is done once, here, with `delta` (which exposes the recursor directly); every
proof rewrites with these equations.
-/
namespace LinOp.C07
open LinOp

variable {α : Type} [Add α] [Mul α] [Zero α]

theorem pair_dense (n m : Nat) (g δ : Param α (.dense n m)) :
    pair (.dense n m) g δ = sumFin n fun i => sumFin m fun j => g i j * δ i j := by
  delta pair; rfl

theorem pair_diag (n : Nat) (g δ : Param α (.diag n)) : pair (.diag n) g δ = sumFin n fun i => g i * δ i := by
  delta pair; rfl

theorem pair_constDiag (n : Nat) (g δ : Param α (.constDiag n)) : pair (.constDiag n) g δ = (g : α) * (δ : α) := by
  delta pair; rfl

theorem pair_toeplitz (n : Nat) (g δ : Param α (.toeplitz n)) : pair (.toeplitz n) g δ = sumFin n fun i => g i * δ i := by
  delta pair; rfl

theorem pair_constMul {n m : Nat} (o : Op n m) (g δ : Param α (.constMul o)) :
    pair (.constMul o) g δ = pair o g.1 δ.1 + g.2 * δ.2 := by
  delta pair; rfl

theorem pair_matmul {n k m : Nat} (a : Op n k) (b : Op k m) (g δ : Param α (.matmul a b)) :
    pair (.matmul a b) g δ = pair a g.1 δ.1 + pair b g.2 δ.2 := by
  delta pair; rfl

theorem pair_sum {n m : Nat} (a b : Op n m) (g δ : Param α (.sum a b)) :
    pair (.sum a b) g δ = pair a g.1 δ.1 + pair b g.2 δ.2 := by
  delta pair; rfl

theorem pair_mul {n : Nat} (a b : Op n n) (g δ : Param α (.mul a b)) :
    pair (.mul a b) g δ = pair a g.1 δ.1 + pair b g.2 δ.2 := by
  delta pair; rfl

theorem pair_masked {n m r s : Nat} (rows : Fin r → Fin n) (cols : Fin s → Fin m) (o : Op n m)
    (g δ : Param α (.masked rows cols o)) : pair (.masked rows cols o) g δ = pair o g δ := by
  delta pair; rfl

theorem pair_interp {n m r s : Nat} (ql qr : Nat) (li : Fin r → Fin ql → Fin n) (ri : Fin s → Fin qr → Fin m) (o : Op n m)
    (g δ : Param α (.interp ql qr li ri o)) :
    pair (.interp ql qr li ri o) g δ
      = pair o g.1 δ.1 + ((sumFin r fun i => sumFin ql fun a => g.2.1 i a * δ.2.1 i a)
          + (sumFin s fun j => sumFin qr fun b => g.2.2 j b * δ.2.2 j b)) := by
  delta pair; rfl

theorem pair_blockDiag {n m : Nat} (k : Nat) (o : Op n m) (g δ : Param α (.blockDiag k o)) :
    pair (.blockDiag k o) g δ = sumFin k fun b => pair o (g b) (δ b) := by
  delta pair; rfl

theorem pair_blockInterleaved {n m : Nat} (k : Nat) (o : Op n m) (g δ : Param α (.blockInterleaved k o)) :
    pair (.blockInterleaved k o) g δ = sumFin k fun b => pair o (g b) (δ b) := by
  delta pair; rfl

theorem pair_sumBatch {n m : Nat} (k : Nat) (o : Op n m) (g δ : Param α (.sumBatch k o)) :
    pair (.sumBatch k o) g δ = sumFin k fun b => pair o (g b) (δ b) := by
  delta pair; rfl

theorem pair_transpose {n m : Nat} (o : Op n m) (g δ : Param α (.transpose o)) : pair (.transpose o) g δ = pair o g δ := by
  delta pair; rfl

theorem pair_root {n k : Nat} (o : Op n k) (g δ : Param α (.root o)) : pair (.root o) g δ = pair o g δ := by
  delta pair; rfl

theorem pair_mulRoot {n k₁ k₂ : Nat} (a : Op n k₁) (b : Op n k₂) (g δ : Param α (.mulRoot a b)) :
    pair (.mulRoot a b) g δ = pair a g.1 δ.1 + pair b g.2 δ.2 := by
  delta pair; rfl

theorem pair_kron {n₁ m₁ n₂ m₂ : Nat} (a : Op n₁ m₁) (b : Op n₂ m₂) (g δ : Param α (.kron a b)) :
    pair (.kron a b) g δ = pair a g.1 δ.1 + pair b g.2 δ.2 := by
  delta pair; rfl

theorem pair_catRows {n₁ n₂ m : Nat} (a : Op n₁ m) (b : Op n₂ m) (g δ : Param α (.catRows a b)) :
    pair (.catRows a b) g δ = pair a g.1 δ.1 + pair b g.2 δ.2 := by
  delta pair; rfl

theorem pair_catCols {n m₁ m₂ : Nat} (a : Op n m₁) (b : Op n m₂) (g δ : Param α (.catCols a b)) :
    pair (.catCols a b) g δ = pair a g.1 δ.1 + pair b g.2 δ.2 := by
  delta pair; rfl


end LinOp.C07
