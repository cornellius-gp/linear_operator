import LinOp.C01.Model
import LinOp.Core.Bridge
import Mathlib.Algebra.BigOperators.Fin
import Mathlib.Algebra.BigOperators.Ring.Finset
import Mathlib.Data.Matrix.Mul
import Mathlib.LinearAlgebra.Matrix.Kronecker
import Mathlib.Logic.Equiv.Fin.Basic
import Mathlib.Tactic.Ring
/-!
C01 — index arithmetic (div/mod/pair round trips, a sum over `Fin (a*b)` as a double sum), `Mat.mul` entrywise,
and the Kronecker `_matmul` loop: one iteration at a row, the invariant of the loop (`kronLoop_rows`, `kronLoop_apply`;
C04's flat-buffer loop rests on it as well), the dense product of the transposed factors, the loop on an empty factor.
-/
namespace LinOp.C01
open LinOp

variable {α : Type}

/-! ## index arithmetic -/

@[simp] theorem divIdx_pairIdx {a b : Nat} (i : Fin a) (j : Fin b) : divIdx (pairIdx i j) = i :=
  Fin.ext (mul_add_div_of_lt j.2)

@[simp] theorem modIdx_pairIdx {a b : Nat} (i : Fin a) (j : Fin b) : modIdx (pairIdx i j) = j :=
  Fin.ext (Nat.mul_add_mod_of_lt j.2)

@[simp] theorem pairIdx_divIdx_modIdx {a b : Nat} (k : Fin (a * b)) : pairIdx (divIdx k) (modIdx k) = k := by
  apply Fin.ext
  show k.1 / b * b + k.1 % b = k.1
  exact Nat.div_add_mod' _ _

theorem pairIdx_inj {a b : Nat} {i i' : Fin a} {j j' : Fin b} :
    pairIdx i j = pairIdx i' j' ↔ i = i' ∧ j = j' := by
  constructor
  · intro h
    have h1 := congrArg divIdx h
    have h2 := congrArg modIdx h
    simp only [divIdx_pairIdx, modIdx_pairIdx] at h1 h2
    exact ⟨h1, h2⟩
  · rintro ⟨rfl, rfl⟩; rfl

/-- a sum over a flat row-major index is the double sum over its two coordinates. -/
theorem sum_pairIdx [AddCommMonoid α] {a b : Nat} (g : Fin (a * b) → α) :
    ∑ k : Fin (a * b), g k = ∑ i : Fin a, ∑ j : Fin b, g (pairIdx i j) :=
  sum_fin_mul pairIdx (fun _ _ => rfl) g

/-- the same, with the roles of the coordinates swapped in the summation order. -/
theorem sum_pairIdx' [AddCommMonoid α] {a b : Nat} (g : Fin (a * b) → α) :
    ∑ k : Fin (a * b), g k = ∑ j : Fin b, ∑ i : Fin a, g (pairIdx i j) := by
  rw [sum_pairIdx, Finset.sum_comm]

/-- `Mat.mul` entrywise as a `Finset` sum. -/
theorem mul_apply [NonUnitalNonAssocSemiring α] {n k m : Nat} (A : Mat α n k) (B : Mat α k m)
    (i : Fin n) (j : Fin m) : Mat.mul A B i j = ∑ l, A i l * B l j :=
  Mat.mul_apply A B i j

/-! ## Kronecker loop -/

/-- one loop iteration at row `y * m + d` (`d < m`): row `d` of the factor applied to the strided column `y`. -/
theorem kronStep_apply [CommSemiring α] {c : Nat} (f : Factor α) (R : Nat) (res : Nat → Fin c → α)
    (y d : Nat) (hd : d < f.m) (col : Fin c) :
    kronStep f R res (y * f.m + d) col = ∑ a : Fin f.n, f.A ⟨d, hd⟩ a * res (a.1 * (R / f.n) + y) col := by
  simp only [kronStep, dif_pos (Nat.zero_lt_of_lt hd), sumFin_eq_sum, Nat.mul_add_mod_of_lt hd, mul_add_div_of_lt hd]

theorem kronDense_cons_apply [CommSemiring α] (f : Factor α) (fs : List (Factor α))
    (i : Fin (f.m * rowsProd fs)) (j : Fin (f.n * colsProd fs)) :
    kronDense (f :: fs) i j = f.A (divIdx i) (divIdx j) * kronDense fs (modIdx i) (modIdx j) := rfl

/-- an iteration on a state with `colsProd (f :: fs) * q` rows leaves one with `colsProd fs * (q * f.m)` rows. -/
theorem kronLoop_cons_mul [CommSemiring α] {c : Nat} (f : Factor α) (fs : List (Factor α)) (hn : 0 < f.n) (q : Nat)
    (res : Nat → Fin c → α) :
    colsProd (f :: fs) * q / f.n = colsProd fs * q ∧
    kronLoop (f :: fs) (colsProd (f :: fs) * q) res
      = kronLoop fs (colsProd fs * (q * f.m)) (kronStep f (colsProd (f :: fs) * q) res) := by
  have hdiv : colsProd (f :: fs) * q / f.n = colsProd fs * q := by
    simp only [colsProd]; rw [Nat.mul_assoc, Nat.mul_div_cancel_left _ hn]
  have hR : kronStepRows f (colsProd (f :: fs) * q) = colsProd fs * (q * f.m) := by
    simp only [kronStepRows, hdiv, Nat.mul_assoc]
  exact ⟨hdiv, by rw [← hR]; rfl⟩

/-- the loop of `_matmul` started on `colsProd fs * q` rows ends with `q * rowsProd fs` rows. -/
theorem kronLoop_rows [CommSemiring α] {c : Nat} (fs : List (Factor α)) (hpos : ∀ f ∈ fs, 0 < f.n) (q : Nat)
    (res : Nat → Fin c → α) : (kronLoop fs (colsProd fs * q) res).1 = q * rowsProd fs := by
  induction fs generalizing q res with
  | nil => exact (Nat.one_mul q).trans (Nat.mul_one q).symm
  | cons f fs ih =>
    rw [(kronLoop_cons_mul f fs (hpos f List.mem_cons_self) q res).2,
      ih (fun g hg => hpos g (List.mem_cons_of_mem _ hg))]
    simp only [rowsProd, Nat.mul_assoc]

/-- Invariant of the loop of `_matmul`: row `b * rowsProd fs + i` of the final state is `Σ_j (A₁ ⊗ … ⊗ A_P)[i, j] · res[j * q + b]`.
(Each iteration multiplies the leading mixed-radix digit of the row index by the factor and rotates it to the end; after all
factors the digits are back in order.) -/
theorem kronLoop_apply [CommSemiring α] {c : Nat} (fs : List (Factor α)) (hpos : ∀ f ∈ fs, 0 < f.n) (q : Nat)
    (res : Nat → Fin c → α) (b : Nat) (hb : b < q) (i : Fin (rowsProd fs)) (col : Fin c) :
    (kronLoop fs (colsProd fs * q) res).2 (b * rowsProd fs + i.1) col
      = ∑ j : Fin (colsProd fs), kronDense fs i j * res (j.1 * q + b) col := by
  induction fs generalizing q res b with
  | nil =>
    have hi : i.1 = 0 := Nat.lt_one_iff.1 i.2
    show res (b * 1 + i.1) col = ∑ j : Fin 1, 1 * res (j.1 * q + b) col
    rw [hi, Fin.sum_univ_one, one_mul, Nat.mul_one, Nat.add_zero, Fin.val_zero, Nat.zero_mul, Nat.zero_add]
  | cons f fs ih =>
    obtain ⟨hdiv, hstep⟩ := kronLoop_cons_mul f fs (hpos f List.mem_cons_self) q res
    rw [hstep]
    -- with `i = d * rowsProd fs + i''` the row `b * rows + i` is row `(b * f.m + d) * rowsProd fs + i''` for the tail:
    -- the invariant of the tail at `q * f.m`, then one iteration of `f` at the rows `(j' * q + b) * f.m + d`
    let i' : Fin (f.m * rowsProd fs) := i
    have hd : (divIdx i').1 < f.m := (divIdx i').2
    have hidx : b * rowsProd (f :: fs) + i.1
        = (b * f.m + (divIdx i').1) * rowsProd fs + (modIdx i').1 := by
      show b * (f.m * rowsProd fs) + i.1
        = (b * f.m + i.1 / rowsProd fs) * rowsProd fs + i.1 % rowsProd fs
      rw [Nat.add_mul, Nat.mul_assoc, Nat.add_assoc, Nat.div_add_mod']
    have hb' : b * f.m + (divIdx i').1 < q * f.m := pair_lt ⟨b, hb⟩ (divIdx i')
    rw [hidx, ih (fun g hg => hpos g (List.mem_cons_of_mem _ hg)) _ _ _ hb' (modIdx i')]
    refine Eq.trans ?_ (sum_pairIdx' (a := f.n) (b := colsProd fs)
      (fun j => kronDense (f :: fs) i j * res (j.1 * q + b) col)).symm
    refine Finset.sum_congr rfl fun j' _ => ?_
    have harg : j'.1 * (q * f.m) + (b * f.m + (divIdx i').1) = (j'.1 * q + b) * f.m + (divIdx i').1 := by
      rw [Nat.add_mul, Nat.mul_assoc, Nat.add_assoc]
    rw [harg, kronStep_apply f _ res _ _ hd, hdiv, Finset.mul_sum]
    refine Finset.sum_congr rfl fun a _ => ?_
    have harg2 : a.1 * (colsProd fs * q) + (j'.1 * q + b) = (pairIdx a j').1 * q + b := by
      show _ = (a.1 * colsProd fs + j'.1) * q + b
      rw [Nat.add_mul, Nat.mul_assoc, Nat.add_assoc]
    rw [harg2, kronDense_cons_apply f fs i' (pairIdx a j'), divIdx_pairIdx, modIdx_pairIdx]
    ring

/-! ## transposed Kronecker product -/

theorem kronTranspose_cons (f : Factor α) (fs : List (Factor α)) :
    kronTranspose (f :: fs) = ⟨f.n, f.m, Mat.transpose f.A⟩ :: kronTranspose fs := rfl

theorem rowsProd_kronTranspose (fs : List (Factor α)) : rowsProd (kronTranspose fs) = colsProd fs := by
  induction fs with
  | nil => rfl
  | cons f fs ih => rw [kronTranspose_cons]; simp only [rowsProd, colsProd, ih]

theorem colsProd_kronTranspose (fs : List (Factor α)) : colsProd (kronTranspose fs) = rowsProd fs := by
  induction fs with
  | nil => rfl
  | cons f fs ih => rw [kronTranspose_cons]; simp only [rowsProd, colsProd, ih]

/-- entry `(i, j)` of the Kronecker product of the transposed factors is entry `(j, i)` of the original
(indices compared by value, since the index types differ propositionally). -/
theorem kronTranspose_dense_of_val_eq [CommSemiring α] (fs : List (Factor α))
    (i : Fin (rowsProd (kronTranspose fs))) (j : Fin (colsProd (kronTranspose fs)))
    (i' : Fin (rowsProd fs)) (j' : Fin (colsProd fs)) (hi : i.1 = j'.1) (hj : j.1 = i'.1) :
    kronDense (kronTranspose fs) i j = kronDense fs i' j' := by
  induction fs with
  | nil => rfl
  | cons f fs ih =>
    have hr := rowsProd_kronTranspose fs
    have hc := colsProd_kronTranspose fs
    let a : Fin (f.n * rowsProd (kronTranspose fs)) := i
    let b : Fin (f.m * colsProd (kronTranspose fs)) := j
    let a' : Fin (f.m * rowsProd fs) := i'
    let b' : Fin (f.n * colsProd fs) := j'
    show f.A (divIdx b) (divIdx a) * kronDense (kronTranspose fs) (modIdx a) (modIdx b)
      = f.A (divIdx a') (divIdx b') * kronDense fs (modIdx a') (modIdx b')
    have h1 : divIdx a = divIdx b' := Fin.ext (by show i.1 / _ = j'.1 / _; rw [hi, hr])
    have h2 : divIdx b = divIdx a' := Fin.ext (by show j.1 / _ = i'.1 / _; rw [hj, hc])
    rw [ih (modIdx a) (modIdx b) (modIdx a') (modIdx b') (by show i.1 % _ = j'.1 % _; rw [hi, hr])
      (by show j.1 % _ = i'.1 % _; rw [hj, hc]), h1, h2]

/-! ## degenerate factors (`n = 0`): the model's loop returns zero, as does the dense product -/

/-- an iteration all of whose terms vanish — the state is zero, or the factor has no column — returns the zero state. -/
theorem kronStep_eq_zero [CommSemiring α] {c : Nat} (f : Factor α) (R : Nat) {res : Nat → Fin c → α}
    (h : ∀ (_ : Fin f.n) t col, res t col = 0) : kronStep f R res = fun _ _ => 0 := by
  funext i col
  unfold kronStep
  split
  · rw [sumFin_eq_sum]
    exact Finset.sum_eq_zero fun a _ => by rw [h a, mul_zero]
  · rfl

theorem kronLoop_zero [CommSemiring α] {c : Nat} (fs : List (Factor α)) (R : Nat) :
    (kronLoop fs R (fun _ (_ : Fin c) => (0 : α))).2 = fun _ _ => 0 := by
  induction fs generalizing R with
  | nil => rfl
  | cons f fs ih =>
    show (kronLoop fs (kronStepRows f R) (kronStep f R _)).2 = _
    rw [kronStep_eq_zero f R fun _ _ _ => rfl, ih]

theorem kronLoop_of_empty_factor [CommSemiring α] {c : Nat} (fs : List (Factor α))
    (h : ∃ f ∈ fs, f.n = 0) (R : Nat) (res : Nat → Fin c → α) :
    (kronLoop fs R res).2 = fun _ _ => 0 := by
  induction fs generalizing R res with
  | nil => obtain ⟨f, hf, _⟩ := h; cases hf
  | cons f fs ih =>
    show (kronLoop fs (kronStepRows f R) (kronStep f R res)).2 = _
    by_cases hn : f.n = 0
    · rw [kronStep_eq_zero f R fun a => absurd (Nat.lt_of_lt_of_eq a.2 hn) (Nat.not_lt_zero _), kronLoop_zero]
    · obtain ⟨g, hg, hg0⟩ := h
      rcases List.mem_cons.1 hg with rfl | hg'
      · exact absurd hg0 hn
      · exact ih ⟨g, hg', hg0⟩ _ _

theorem colsProd_of_empty_factor (fs : List (Factor α)) (h : ∃ f ∈ fs, f.n = 0) : colsProd fs = 0 := by
  induction fs with
  | nil => obtain ⟨f, hf, _⟩ := h; cases hf
  | cons f fs ih =>
    obtain ⟨g, hg, hg0⟩ := h
    rcases List.mem_cons.1 hg with rfl | hg'
    · simp only [colsProd, hg0, Nat.zero_mul]
    · simp only [colsProd, ih ⟨g, hg', hg0⟩, Nat.mul_zero]

end LinOp.C01
