import LinOp.C01.OpTree
import LinOp.C01.ProofsC
import Mathlib.Data.Fintype.Card
/-! C01 — facts behind the constructors `perm` and `mulRoots` of the operator-tree grammar -/
namespace LinOp.C01
open LinOp

variable {α : Type}

/-- On a finite index set a right inverse is a left inverse: `perm ∘ inv = id` (what the constructor of
`PermutationLinearOperator` validates) implies `inv ∘ perm = id`. -/
theorem perm_left_inv_of_right_inv {n : Nat} (p inv : Fin n → Fin n) (h : ∀ i, p (inv i) = i) : ∀ j, inv (p j) = j := by
  have hs : Function.Surjective p := fun i => ⟨inv i, h i⟩
  have hi : Function.Injective p := Finite.injective_iff_surjective.mpr hs
  intro j
  exact hi (h (p j))

theorem hadamard_symm [Mul α] {n : Nat} (S T : Mat α n n) (hS : Mat.transpose S = S) (hT : Mat.transpose T = T) :
    Mat.transpose (hadamard S T) = hadamard S T := by
  funext i j
  have h1 : S j i = S i j := congrFun (congrFun hS i) j
  have h2 : T j i = T i j := congrFun (congrFun hT i) j
  simp only [Mat.transpose, hadamard, h1, h2]

/-- `mulRootsWith` with a right routine that multiplies by `B` is the `MulLinearOperator._matmul` formula of `Model.lean`. -/
theorem mulRootsWith_eq [Add α] [Mul α] [Zero α] {n k c : Nat} (L : Mat α n k) (B : Mat α n n) (X : Mat α n c) :
    mulRootsWith L (fun Z => Mat.mul B Z) X = mulRootsMatmul L B X := rfl

end LinOp.C01
