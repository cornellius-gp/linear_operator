import LinOp.C01.ProofsA
/-!
C01 — the second module-level Kronecker loop `_t_matmul`, mirrored on its own in the model as `kronTStep` / `kronTLoop` /
`kronTMatmulLoop`.  Each iteration is the `_matmul` iteration of the transposed factor, so the loop is `kronLoop` on
`kronTranspose fs`, and its invariant (`kronTLoop_spec`) is `kronLoop_spec` read along
`rowsProd (kronTranspose fs) = colsProd fs`.
-/
namespace LinOp.C01.D
open LinOp LinOp.C01

variable {α : Type}

theorem kronTLoop_eq [CommSemiring α] {c : Nat} (fs : List (Factor α)) (R : Nat) (res : Nat → Fin c → α) :
    kronTLoop fs R res = kronLoop (kronTranspose fs) R res := by
  induction fs generalizing R res with
  | nil => rfl
  | cons f fs ih => exact ih _ _

/-- one `_t_matmul` iteration at row `y * n + d` (`d < n`): column `d` of the factor applied to the strided
column `y` of the state. -/
theorem kronTStep_apply [CommSemiring α] {c : Nat} (f : Factor α) (R : Nat) (res : Nat → Fin c → α)
    (y d : Nat) (hd : d < f.n) (col : Fin c) :
    kronTStep f R res (y * f.n + d) col = ∑ a : Fin f.m, f.A a ⟨d, hd⟩ * res (a.1 * (R / f.m) + y) col :=
  kronStep_apply ⟨f.n, f.m, Mat.transpose f.A⟩ R res y d hd col

theorem pos_kronTranspose {fs : List (Factor α)} (hpos : ∀ f ∈ fs, 0 < f.m) : ∀ g ∈ kronTranspose fs, 0 < g.n := by
  intro g hg
  obtain ⟨f, hf, rfl⟩ := List.mem_map.1 hg
  exact hpos f hf

/-! ## degenerate factors (`m = 0`) -/

theorem empty_kronTranspose {fs : List (Factor α)} (h : ∃ f ∈ fs, f.m = 0) : ∃ g ∈ kronTranspose fs, g.n = 0 := by
  obtain ⟨f, hf, h0⟩ := h
  exact ⟨_, List.mem_map_of_mem hf, h0⟩

theorem kronTLoop_of_empty_factor [CommSemiring α] {c : Nat} (fs : List (Factor α))
    (h : ∃ f ∈ fs, f.m = 0) (R : Nat) (res : Nat → Fin c → α) :
    (kronTLoop fs R res).2 = fun _ _ => 0 := by
  rw [kronTLoop_eq]
  exact kronLoop_of_empty_factor _ (empty_kronTranspose h) R res

theorem rowsProd_of_empty_factor (fs : List (Factor α)) (h : ∃ f ∈ fs, f.m = 0) : rowsProd fs = 0 :=
  (colsProd_kronTranspose fs).symm.trans (colsProd_of_empty_factor _ (empty_kronTranspose h))

end LinOp.C01.D
