import LinOp.C01.ProofsA
import Mathlib.Algebra.Ring.Int.Defs
/-!
C01 — what it means for a user subclass to denote a dense matrix, and the algebra of `Mat.mul` the refinement
theorems rest on (in the namespace `C`, so that `mul_assoc`, `add_mul`, … keep meaning the ring lemmas elsewhere).
-/
namespace LinOp.C01

/-- A `UserOp` (a subclass giving only `_matmul` and the `_matmul` of its `_transpose_nonbatch()`) *denotes* the
dense matrix `D` when `_matmul` multiplies by `D` and the transposed operator's `_matmul` multiplies by `Dᵀ`,
for right-hand sides with any number of columns. -/
def UserOp.Denotes {α : Type} [Add α] [Mul α] [Zero α] {n m : Nat} (op : UserOp α n m) (D : Mat α n m) : Prop :=
  (∀ c (X : Mat α m c), op.mm X = Mat.mul D X) ∧
  (∀ c (X : Mat α n c), op.tmm X = Mat.mul (Mat.transpose D) X)

section
variable {α : Type} [Add α] [Mul α] [Zero α] {n m : Nat}

/-- Both fields of a `UserOp` are functions, so an operator that denotes `D` IS the dense operator of `D`.  In the tree
induction the hypotheses for the sub-trees are substituted with this; what remains is the class over dense sub-operators. -/
theorem UserOp.Denotes.eq_ofDense {op : UserOp α n m} {D : Mat α n m} (h : op.Denotes D) : op = UserOp.ofDense D := by
  obtain ⟨mm, tmm⟩ := op
  have e1 : @mm = fun {c} X => Mat.mul D X := funext fun c => funext fun X => h.1 c X
  have e2 : @tmm = fun {c} X => Mat.mul (Mat.transpose D) X := funext fun c => funext fun X => h.2 c X
  subst e1 e2
  rfl

/-- an operator that is its own transpose and whose dense matrix is symmetric: the `_matmul` half suffices. -/
theorem denotes_of_symm {f : {c : Nat} → Mat α n c → Mat α n c} {D : Mat α n n} (hD : Mat.transpose D = D)
    (h : ∀ c (X : Mat α n c), f X = Mat.mul D X) : (⟨f, f⟩ : UserOp α n n).Denotes D :=
  ⟨h, fun c X => (h c X).trans (by rw [hD])⟩

/-- the `_t_matmul` half may be given for any matrix equal to the transpose. -/
theorem denotes_of_transpose {op : UserOp α n m} {D : Mat α n m} {Dt : Mat α m n} (h : ∀ c (X : Mat α m c), op.mm X = Mat.mul D X)
    (ht : ∀ c (X : Mat α n c), op.tmm X = Mat.mul Dt X) (hDt : Dt = Mat.transpose D) : op.Denotes D :=
  ⟨h, hDt ▸ ht⟩

end

end LinOp.C01

namespace LinOp.C01.C
open LinOp

variable {α : Type}

/-- `(divIdx k, modIdx k) = (x, y)` iff `k` is the flat index of `(x, y)`. -/
theorem div_mod_eq_iff {a b : Nat} (k : Fin (a * b)) (x : Fin a) (y : Fin b) :
    (divIdx k = x ∧ modIdx k = y) ↔ pairIdx x y = k := by
  constructor
  · rintro ⟨h1, h2⟩; rw [← h1, ← h2]; exact pairIdx_divIdx_modIdx k
  · intro h; rw [← h]; exact ⟨divIdx_pairIdx x y, modIdx_pairIdx x y⟩

theorem mul_assoc [NonUnitalSemiring α] {n k m c : Nat} (A : Mat α n k) (B : Mat α k m) (X : Mat α m c) :
    Mat.mul (Mat.mul A B) X = Mat.mul A (Mat.mul B X) := by
  funext i j
  simp only [mul_apply, Finset.sum_mul, Finset.mul_sum]
  rw [Finset.sum_comm]
  exact Finset.sum_congr rfl fun l _ => Finset.sum_congr rfl fun t _ => _root_.mul_assoc _ _ _

theorem transpose_mul [NonUnitalCommSemiring α] {n k m : Nat} (A : Mat α n k) (B : Mat α k m) :
    Mat.transpose (Mat.mul A B) = Mat.mul (Mat.transpose B) (Mat.transpose A) := by
  funext i j
  simp only [Mat.transpose, mul_apply]
  exact Finset.sum_congr rfl fun l _ => mul_comm _ _

theorem transpose_transpose {n m : Nat} (A : Mat α n m) : Mat.transpose (Mat.transpose A) = A := rfl

theorem mul_one [NonAssocSemiring α] {n m : Nat} (A : Mat α n m) : Mat.mul A (Mat.one (α := α)) = A := by
  funext i j
  simp only [mul_apply, Mat.one, mul_ite, _root_.mul_one, mul_zero, Finset.sum_ite_eq', Finset.mem_univ, if_true]

theorem add_mul [NonUnitalNonAssocSemiring α] {n m c : Nat} (A B : Mat α n m) (X : Mat α m c) :
    Mat.mul (Mat.add A B) X = Mat.add (Mat.mul A X) (Mat.mul B X) := by
  funext i j
  simp only [mul_apply, Mat.add, _root_.add_mul, Finset.sum_add_distrib]

theorem diag_mul [NonUnitalNonAssocSemiring α] {n c : Nat} (d : Fin n → α) (X : Mat α n c) :
    Mat.mul (Mat.diag d) X = fun i col => d i * X i col := by
  funext i j
  simp only [mul_apply, Mat.diag, ite_mul, zero_mul, Finset.sum_ite_eq, Finset.mem_univ, if_true]

end LinOp.C01.C

namespace LinOp.C01
open LinOp

variable {α : Type}

/-! Outside `C` and primed: `Properties/C01.lean` opens `C` and passes the ring lemmas `one_mul`, `zero_mul` to `simp` by their
bare names, which must not become ambiguous. -/

theorem transpose_one [Zero α] [One α] {n : Nat} : Mat.transpose (Mat.one (α := α) (n := n)) = Mat.one := by
  funext i j
  exact if_congr eq_comm rfl rfl

theorem one_mul' [NonAssocSemiring α] {n c : Nat} (X : Mat α n c) : Mat.mul (Mat.one (α := α)) X = X := by
  funext i col
  exact (congrFun (congrFun (C.diag_mul (fun _ => 1) X) i) col).trans (one_mul _)

theorem zero_mul' [NonUnitalNonAssocSemiring α] {n m c : Nat} (X : Mat α m c) :
    Mat.mul (fun (_ : Fin n) (_ : Fin m) => (0 : α)) X = fun _ _ => 0 := by
  funext i col
  simp only [mul_apply, zero_mul, Finset.sum_const_zero]

end LinOp.C01
