import LinOp.C01.OpTree
import LinOp.C01.ProofsB
/-!
C01 — what the operator-tree induction needs beyond the one-level theorems of the classes: the classes whose dense case is
not a property theorem of its own (two steps of the Kronecker view/transpose loop, the column concatenation on a split
right-hand side) and three transpose laws.  Below them: the result shapes of `matmul` / `rmatmul`.
-/
namespace LinOp.C01
open LinOp

variable {α : Type}

theorem kron2Dense_transpose [Mul α] {m n p q : Nat} (A : Mat α m n) (B : Mat α p q) :
    Mat.transpose (kron2Dense A B) = kron2Dense (Mat.transpose A) (Mat.transpose B) := rfl

theorem catCols_transpose {r s n : Nat} (A : Mat α n r) (B : Mat α n s) :
    Mat.transpose (catCols A B) = catRows (Mat.transpose A) (Mat.transpose B) := rfl

theorem sumBatchDense_transpose [Add α] [Zero α] {k m n : Nat} (D : Ten3 α k m n) :
    sumBatchDense (blockTranspose D) = Mat.transpose (sumBatchDense D) := by
  unfold sumBatchDense Mat.transpose blockTranspose; rfl

variable [CommSemiring α]

theorem kronStepOp_apply {n m q c : Nat} (G : Mat α m n) (X : Mat α (n * q) c) (b : Fin q) (r : Fin m) (col : Fin c) :
    kronStepOp (fun Z => Mat.mul G Z) X (pairIdx b r) col = ∑ a, G r a * X (pairIdx a b) col := by
  simp only [kronStepOp, mul_apply, divIdx_pairIdx, modIdx_pairIdx]

/-- two steps of the view/transpose loop multiply by the two-factor Kronecker product. -/
theorem kron_two_step {n m p q c : Nat} (A : Mat α n m) (B : Mat α p q) (X : Mat α (m * q) c) :
    kronStepOp (fun Z => Mat.mul B Z) (kronStepOp (fun Z => Mat.mul A Z) X) = Mat.mul (kron2Dense A B) X := by
  funext i col
  rw [← pairIdx_divIdx_modIdx i, kronStepOp_apply]
  simp only [kronStepOp_apply]
  rw [mul_apply, sum_pairIdx']
  refine Finset.sum_congr rfl fun b _ => ?_
  rw [Finset.mul_sum]
  refine Finset.sum_congr rfl fun a _ => ?_
  simp only [kron2Dense, divIdx_pairIdx, modIdx_pairIdx]
  ring

theorem catCols_mul {n r s c : Nat} (A : Mat α n r) (B : Mat α n s) (X : Mat α (r + s) c) :
    Mat.mul (catCols A B) X = fun i col => Mat.mul A (topRows X) i col + Mat.mul B (botRows X) i col := by
  funext i col
  rw [mul_apply, C01.B.sum_catCols, mul_apply, mul_apply]
  rfl

/-! ## result shapes: an operand `(*sB, x, y)` with at least two dimensions -/

theorem matmulResultShape_of_two_le (sA : List Nat) (n m : Nat) {rhs : List Nat} (h : 2 ≤ rhs.length) :
    matmulResultShape sA n m rhs = matmulShape sA n m (rhs.take (rhs.length - 2)) (rhs.getD (rhs.length - 2) 0)
      (rhs.getD (rhs.length - 1) 0) := by
  match rhs, h with
  | _ :: _ :: _, _ => rfl

theorem rmatmulResultShape_of_two_le (sA : List Nat) (n m : Nat) {lhs : List Nat} (h : 2 ≤ lhs.length) :
    rmatmulResultShape sA n m lhs =
      (matmulShape sA m n (lhs.take (lhs.length - 2)) (lhs.getD (lhs.length - 1) 0) (lhs.getD (lhs.length - 2) 0)).map
        fun s => s.take (s.length - 2) ++ [s.getD (s.length - 1) 0, s.getD (s.length - 2) 0] := by
  match lhs, h with
  | _ :: _ :: _, _ => rfl

theorem two_le_length_append_pair (l : List Nat) (x y : Nat) : 2 ≤ (l ++ [x, y]).length := by
  rw [List.length_append]; exact Nat.le_add_left _ _

theorem length_append_pair_sub_two (l : List Nat) (x y : Nat) : (l ++ [x, y]).length - 2 = l.length := by
  rw [List.length_append]; rfl

/-- `shape[:-2]`, `shape[-2]`, `shape[-1]` of `(*l, x, y)`, in the form the result-shape functions compute them. -/
theorem take_append_pair (l : List Nat) (x y : Nat) : (l ++ [x, y]).take ((l ++ [x, y]).length - 2) = l := by
  rw [length_append_pair_sub_two, List.take_left']; rfl

theorem getD_append_pair_fst (l : List Nat) (x y d : Nat) : (l ++ [x, y]).getD ((l ++ [x, y]).length - 2) d = x := by
  rw [length_append_pair_sub_two, List.getD_eq_getElem?_getD, List.getElem?_append_right (Nat.le_refl _), Nat.sub_self]
  rfl

theorem getD_append_pair_snd (l : List Nat) (x y d : Nat) : (l ++ [x, y]).getD ((l ++ [x, y]).length - 1) d = y := by
  have h : (l ++ [x, y]).length - 1 = l.length + 1 := by rw [List.length_append]; rfl
  rw [h, List.getD_eq_getElem?_getD, List.getElem?_append_right (Nat.le_add_right _ _), Nat.add_sub_cancel_left]
  rfl

end LinOp.C01
