import LinOp.C01.BlockDim
import Mathlib.Data.List.Range
import Mathlib.Data.List.Perm.Basic
/-! C01 — the permutation `BlockLinearOperator.__init__` hands to `_permute_batch`: the list of all batch positions with the
block position erased and appended at the end. -/
namespace LinOp.C01

theorem range_split {nb p : Nat} (h : p < nb) :
    List.range nb = List.range p ++ (p :: List.range' (p + 1) (nb - (p + 1))) := by
  have hk : nb = p + ((nb - (p + 1)) + 1) := by omega
  conv_lhs => rw [hk]
  rw [List.range_eq_range', List.range_eq_range', ← List.range'_append_1, List.range'_succ, Nat.zero_add]

theorem blockMovePerm_eq_eraseIdx {nb p : Nat} (h : p < nb) :
    blockMovePerm nb p = (List.range nb).eraseIdx p ++ [p] := by
  rw [range_split h, List.eraseIdx_append_of_length_le List.length_range.le, List.length_range, Nat.sub_self]
  rfl

theorem blockMovePerm_perm {nb p : Nat} (h : p < nb) : (blockMovePerm nb p).Perm (List.range nb) := by
  rw [range_split h, blockMovePerm, List.append_assoc]
  exact List.Perm.append_left _ (List.perm_append_singleton _ _)

theorem blockMovePerm_length {nb p : Nat} (h : p < nb) : (blockMovePerm nb p).length = nb := by
  rw [(blockMovePerm_perm h).length_eq, List.length_range]

/-- entrywise description: positions before `p` stay, positions from `p` on shift up by one, `p` goes last. -/
theorem blockMovePerm_getElem {nb p : Nat} (h : p < nb) (i : Nat) (hi : i < (blockMovePerm nb p).length) :
    (blockMovePerm nb p)[i] = if i < p then i else if i < nb - 1 then i + 1 else p := by
  have hl : ((List.range nb).eraseIdx p).length = nb - 1 := by
    rw [List.length_eraseIdx_of_lt (by rwa [List.length_range]), List.length_range]
  simp only [blockMovePerm_eq_eraseIdx h, List.getElem_append, hl, List.getElem_eraseIdx, List.getElem_range,
    List.getElem_singleton]
  by_cases h1 : i < nb - 1
  · by_cases h2 : i < p
    · rw [dif_pos h1, dif_pos h2, if_pos h2]
    · rw [dif_pos h1, dif_neg h2, if_neg h2, if_pos h1]
  · rw [dif_neg h1, if_neg h1, if_neg fun h2 => h1 (Nat.lt_of_lt_of_le h2 (Nat.le_sub_one_of_lt h))]

/-- reading a shape at all its positions in order gives the shape back. -/
theorem map_getD_range (l : List Nat) (d : Nat) : (List.range l.length).map (fun i => l.getD i d) = l := by
  apply List.ext_getElem
  · rw [List.length_map, List.length_range]
  · intro i h1 h2
    rw [List.getElem_map, List.getElem_range, List.getD_eq_getElem?_getD, List.getElem?_eq_getElem h2]; rfl

end LinOp.C01
