import LinOp.C01.BatchModel
import LinOp.C01.ProofsE
/-! C01 — broadcasting with a trailing block dimension: reversed, the block dimension is the leading one, where
`bcastRev`, `restrictRev` and `InBox` recurse. -/
namespace LinOp.C01
open LinOp LinOp.C01.E

theorem restrict_append_block' (s idx : List Nat) {k b : Nat} (hb : b < k) :
    restrict (s ++ [k]) (idx ++ [b]) = restrict s idx ++ [b] := by
  rw [restrict, List.reverse_append, List.reverse_append]
  show (restrictRev (k :: s.reverse) (b :: idx.reverse)).reverse = _
  rw [restrictRev_cons_cons, List.reverse_cons, restrict]
  by_cases hk : k = 1
  · rw [if_pos hk, Nat.lt_one_iff.1 (Nat.lt_of_lt_of_eq hb hk)]
  · rw [if_neg hk]

/-! ### the batched block code at member `idx ++ [b]` -/

variable {α : Type}

/-- member `idx ++ [b]` of a batched product whose operands both carry the trailing block dimension `k`. -/
theorem matmulBroadcast_append_block {n m c : Nat} (f : Mat α n m → Mat α m c → Mat α n c) (sA sB idx : List Nat)
    (A : BMat α n m) (T : BMat α m c) {k b : Nat} (hb : b < k) :
    matmulBroadcast f (sA ++ [k]) A (sB ++ [k]) T (idx ++ [b])
      = f (A (restrict sA idx ++ [b])) (T (restrict sB idx ++ [b])) := by
  simp only [matmulBroadcast, expandB, restrict_append_block' _ _ hb]

theorem addBlockDiagB_concat [Zero α] {m c : Nat} (k : Nat) (X : BMat α (k * m) c) (j : List Nat) (b : Fin k) :
    addBlockDiagB k X (j ++ [b.1]) = blockDiagAdd (X j) b := by
  simp only [addBlockDiagB, List.getLastD_concat, List.dropLast_concat, b.2, dite_true]

theorem addBlockInterB_concat [Zero α] {m c : Nat} (k : Nat) (X : BMat α (m * k) c) (j : List Nat) (b : Fin k) :
    addBlockInterB k X (j ++ [b.1]) = blockInterAdd (X j) b := by
  simp only [addBlockInterB, List.getLastD_concat, List.dropLast_concat, b.2, dite_true]

theorem addSumBatchB_concat {n c : Nat} (X : BMat α n c) (j : List Nat) (b : Nat) : addSumBatchB X (j ++ [b]) = X j := by
  rw [addSumBatchB, List.dropLast_concat]

end LinOp.C01
