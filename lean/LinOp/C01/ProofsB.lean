import LinOp.C01.ProofsC
import LinOp.Core.Index
import Mathlib.Algebra.BigOperators.Group.Finset.Basic
import Mathlib.Data.Fintype.BigOperators
import Mathlib.Data.List.Nodup
/-!
C01, part B — interpolation, Cat, Toeplitz and Masked operators: the sums behind the property theorems of part B
(the interpolation matrix entrywise, a row of a column-concatenation, truncating a padded sum, the circulant embedding
near its end, a sum against a zero-expanded vector).  Everything lives in `LinOp.C01.B`.
-/
namespace LinOp.C01.B
open LinOp LinOp.C01

variable {α : Type}

theorem transpose_transpose' {n m : Nat} (A : Mat α n m) : Mat.transpose (Mat.transpose A) = A := rfl

theorem pairIdx_divIdx_modIdx {a b : Nat} (k : Fin (a * b)) : pairIdx (divIdx k) (modIdx k) = k :=
  C01.pairIdx_divIdx_modIdx k

/-! ## interpolation -/

theorem interpW_apply [CommSemiring α] {n K nb : Nat} (idx : Fin n → Fin K → Fin nb) (val : Mat α n K)
    (r : Fin n) (j : Fin nb) : interpW idx val r j = ∑ k, if idx r k = j then val r k else 0 := by
  simp only [interpW, sumFin_eq_sum]

/-! ## Cat -/

theorem catCols_castAdd {a b n : Nat} (A : Mat α n a) (B : Mat α n b) (i : Fin n) (j : Fin a) :
    catCols A B i (Fin.castAdd b j) = A i j := dif_pos j.2

theorem catCols_natAdd {a b n : Nat} (A : Mat α n a) (B : Mat α n b) (i : Fin n) (j : Fin b) :
    catCols A B i (Fin.natAdd a j) = B i j := by
  have h : ¬ (Fin.natAdd a j).1 < a := Nat.not_lt.2 (Nat.le_add_right a j.1)
  rw [catCols, dif_neg h]
  exact congrArg (B i) (Fin.ext (Nat.add_sub_cancel_left (n := a) (m := j.1)))

/-- a row of a column-concatenation against a vector splits at the seam. -/
theorem sum_catCols [CommSemiring α] {a b n : Nat} (A : Mat α n a) (B : Mat α n b) (i : Fin n) (g : Fin (a + b) → α) :
    ∑ j, catCols A B i j * g j = ∑ j, A i j * g (Fin.castAdd b j) + ∑ j, B i j * g (Fin.natAdd a j) := by
  rw [Fin.sum_univ_add]
  simp only [catCols_castAdd, catCols_natAdd]

/-! ## Toeplitz -/

/-- a sum of a function of the position that vanishes from `n` on can be truncated to `n` terms. -/
theorem sum_truncate [AddCommMonoid α] {n L : Nat} (hnL : n ≤ L) (g : Nat → α) (hg : ∀ t, n ≤ t → g t = 0) :
    ∑ j : Fin L, g j.1 = ∑ j : Fin n, g j.1 := by
  rw [Fin.sum_univ_eq_sum_range, Fin.sum_univ_eq_sum_range]
  exact (Finset.sum_subset (Finset.range_subset_range.2 hnL) fun x _ hx =>
    hg x (Nat.le_of_not_lt fun h => hx (Finset.mem_range.2 h))).symm

theorem toeplitzEmbedding_of_lt [Zero α] {n : Nat} (col row : Fin n → α) {t : Nat} (h : t < n) :
    toeplitzEmbedding col row t = col ⟨t, h⟩ := dif_pos h

/-- `d` places before the end of the embedding (`d < n`) sits `row[d]`. -/
theorem toeplitzEmbedding_sub [Zero α] {n : Nat} (col row : Fin n → α) {d : Nat} (hdn : d < n) :
    toeplitzEmbedding col row (2 * n - 1 - d) = row ⟨d, hdn⟩ := by
  have hnd : n + d ≤ 2 * n - 1 := Nat.le_sub_one_of_lt (by rw [Nat.two_mul]; exact Nat.add_lt_add_left hdn n)
  have e : 2 * n - 1 - (2 * n - 1 - d) = d := Nat.sub_sub_self (Nat.le_trans (Nat.le_add_left d n) hnd)
  rw [toeplitzEmbedding, dif_neg (Nat.not_lt.2 (Nat.le_sub_of_add_le hnd)), dif_pos (e.symm ▸ hdn)]
  exact congrArg row (Fin.ext e)

/-! ## Masked -/

theorem maskSel_nodup {N : Nat} (mask : Fin N → Bool) : (maskSel mask).Nodup :=
  (List.nodup_finRange N).filter _

/-- a sum against a zero-expanded vector only sees the selected positions. -/
theorem sum_expand [CommSemiring α] {M : Nat} (sel : List (Fin M)) (hs : sel.Nodup) (f : Fin M → α)
    (x : Fin sel.length → α) :
    ∑ j, f j * (if h : sel.idxOf j < sel.length then x ⟨sel.idxOf j, h⟩ else 0)
      = ∑ l : Fin sel.length, f (sel.get l) * x l := by
  symm
  apply Fintype.sum_of_injective sel.get hs.injective_get
  · intro j hj
    have h : ¬ sel.idxOf j < sel.length := by
      rw [List.idxOf_lt_length_iff]
      exact fun hm => hj (List.get_of_mem hm)
    rw [dif_neg h, mul_zero]
  · intro l
    have hl : sel.idxOf (sel.get l) = l.1 := List.get_idxOf hs l
    rw [dif_pos (hl ▸ l.2)]
    exact congrArg (f (sel.get l) * x ·) (Fin.ext hl).symm

end LinOp.C01.B
