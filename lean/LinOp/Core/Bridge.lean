/-
Bridge from the core-only substrate to Mathlib's `Finset.sum` / `Matrix`.
-/
import LinOp.Core.Basic
import LinOp.Core.Index
import Mathlib.Algebra.BigOperators.Fin
import Mathlib.Data.Matrix.Mul

namespace LinOp
open Matrix

/-- The fold `sumFin` seen through an additive map `g` (`g 0 = 0`, `g (a + b) = g a + g b`) is the `Finset` sum of the images:
`g = id` is `sumFin_eq_sum`, a projection of a pair-like carrier (the real or the dual part of a dual number) is another instance. -/
theorem sumFin_map {β γ : Type} [Add β] [Zero β] [AddCommMonoid γ] (g : β → γ) (h0 : g 0 = 0)
    (hadd : ∀ a b, g (a + b) = g a + g b) (n : Nat) (f : Fin n → β) : g (sumFin n f) = ∑ i, g (f i) := by
  unfold sumFin
  induction n with
  | zero => simpa [Fin.foldl_zero] using h0
  | succ n ih =>
    rw [Fin.foldl_succ_last, Fin.sum_univ_castSucc, hadd]
    congr 1
    exact ih _

theorem sumFin_eq_sum {α : Type} [AddCommMonoid α] (n : Nat) (f : Fin n → α) :
    sumFin n f = ∑ i, f i :=
  sumFin_map id rfl (fun _ _ => rfl) n f

/-- A sum over a flat row-major index is the double sum over its two coordinates, whatever function `p` builds the flat index
(each model has its own `pairIdx`; all have value `i * b + j`). -/
theorem sum_fin_mul {α : Type} [AddCommMonoid α] {a b : Nat} (p : Fin a → Fin b → Fin (a * b))
    (hp : ∀ i j, (p i j).1 = i.1 * b + j.1) (g : Fin (a * b) → α) :
    ∑ k, g k = ∑ i, ∑ j, g (p i j) := by
  rw [← finProdFinEquiv.sum_comp g, Fintype.sum_prod_type]
  refine Finset.sum_congr rfl fun i _ => Finset.sum_congr rfl fun j _ => congrArg g (Fin.ext ?_)
  rw [hp]
  show j.1 + b * i.1 = i.1 * b + j.1
  rw [Nat.add_comm, Nat.mul_comm]

/-- `Mat.mul` entrywise as a `Finset` sum. -/
theorem Mat.mul_apply {α : Type} [NonUnitalNonAssocSemiring α] {n k m : Nat} (A : Mat α n k) (B : Mat α k m)
    (i : Fin n) (j : Fin m) : Mat.mul A B i j = ∑ l, A i l * B l j := by
  simp only [Mat.mul, tab_eq, sumFin_eq_sum]

/- In a nested product `Mat.mul (Mat.mul A B) X` rewrite with `rw` once per product, or outermost first: after the inner product has
become a `Matrix` product, `simp only [Mat.mul_eq_matrix_mul]` no longer matches the outer `Mat.mul`, whose argument now has the type
`Matrix …` (a `def`) where the lemma expects the function type `Mat …`. -/
theorem Mat.mul_eq_matrix_mul {α : Type} [NonUnitalNonAssocSemiring α] {n k m : Nat}
    (A : Mat α n k) (B : Mat α k m) :
    Mat.mul A B = (Matrix.of A * Matrix.of B : Matrix _ _ α) :=
  funext fun i => funext fun j => Mat.mul_apply A B i j

theorem Mat.transpose_eq {α : Type} {n m : Nat} (A : Mat α n m) :
    Mat.transpose A = (Matrix.of A)ᵀ := rfl

theorem Mat.diag_eq {α : Type} [Zero α] {n : Nat} (d : Fin n → α) : Mat.diag d = Matrix.diagonal d := by
  funext i j
  exact (Matrix.diagonal_apply ..).symm

theorem Mat.one_eq {α : Type} [Zero α] [One α] {n : Nat} : (Mat.one : Mat α n n) = (1 : Matrix (Fin n) (Fin n) α) := by
  funext i j
  exact (Matrix.one_apply ..).symm

end LinOp
