/-
Gram matrices `R Rᵀ` under left multiplication, scaling and column scaling, and the calculus of `d ↦ Q diag(d) Qᵀ` for `Q` with
orthonormal columns: entrywise products of `d` become matrix products, constants multiples of `Q Qᵀ`, hence shifts of the spectrum
shifts of the matrix and entrywise inverses inverses.  The roots, inverse roots, solves and determinants of eigen-structured operators
are instances.  Any finite index types over a commutative semiring (`conj_cancel_add`: any semiring); only `Data.Matrix` is imported.
-/
import Mathlib.Data.Matrix.Mul

namespace LinOp
open Matrix

variable {α : Type*} {ι κ μ : Type*}

/-! ### Gram matrices -/

section
variable [CommSemiring α]

/-- Gram matrix of a product: `(P R)(P R)ᵀ = P (R Rᵀ) Pᵀ`, any shapes. -/
theorem gram_mul [Fintype ι] [Fintype κ] (P : Matrix μ ι α) (R : Matrix ι κ α) :
    (P * R) * (P * R)ᵀ = P * (R * Rᵀ) * Pᵀ := by
  rw [transpose_mul, Matrix.mul_assoc, Matrix.mul_assoc, Matrix.mul_assoc]

/-- Gram matrix of a scalar multiple: `(r·R)(r·R)ᵀ = r²·(R Rᵀ)`. -/
theorem smul_gram [Fintype κ] (R : Matrix ι κ α) (r : α) : (r • R) * (r • R)ᵀ = (r * r) • (R * Rᵀ) := by
  rw [transpose_smul, Matrix.smul_mul, Matrix.mul_smul, smul_smul]

/-- `(a·X)ᵀ (b·Y) = ab · XᵀY`. -/
theorem smul_transpose_mul_smul [Fintype ι] (a b : α) (X : Matrix ι κ α) (Y : Matrix ι μ α) :
    (a • X)ᵀ * (b • Y) = (a * b) • (Xᵀ * Y) := by
  rw [transpose_smul, Matrix.smul_mul, Matrix.mul_smul, smul_smul]

/-- Gram matrix after column scaling: `(Q diag s)(Q diag s)ᵀ = Q diag(s²) Qᵀ`. -/
theorem scaled_gram [Fintype ι] [DecidableEq ι] (Q : Matrix μ ι α) (s : ι → α) :
    (Q * diagonal s) * (Q * diagonal s)ᵀ = Q * diagonal (fun i => s i * s i) * Qᵀ := by
  rw [gram_mul, diagonal_transpose, diagonal_mul_diagonal]

/-- Paired factors `Xᵀ Y = 1`, `X Yᵀ = 1` (e.g. `X = L⁻ᵀ`, `Y = L`): `X Xᵀ` inverts `Y Yᵀ`. -/
theorem paired_gram [Fintype ι] [Fintype κ] [DecidableEq ι] [DecidableEq κ] {X Y : Matrix ι κ α} (h₁ : Xᵀ * Y = 1)
    (h₂ : X * Yᵀ = 1) : X * Xᵀ * (Y * Yᵀ) = 1 := by
  rw [Matrix.mul_assoc, ← Matrix.mul_assoc Xᵀ, h₁, Matrix.one_mul, h₂]

end

/-- A congruence by `Pi`, `Qi` is undone by their inverses: `P (Pi K Qi + X) Q = K + P X Q`. -/
theorem conj_cancel_add [Semiring α] [Fintype ι] [DecidableEq ι] {P Pi Qi Q : Matrix ι ι α} (K X : Matrix ι ι α)
    (hP : P * Pi = 1) (hQ : Qi * Q = 1) : P * (Pi * K * Qi + X) * Q = K + P * X * Q := by
  rw [Matrix.mul_add, Matrix.add_mul, Matrix.mul_assoc Pi, ← Matrix.mul_assoc P, hP, Matrix.one_mul, Matrix.mul_assoc K,
    hQ, Matrix.mul_one]

/-! ### `d ↦ Q diag(d) Qᵀ` -/

variable [CommSemiring α] [Fintype ι] [DecidableEq ι]

theorem diagonal_mul_diagonal_eq_one {a b : ι → α} (h : ∀ i, a i * b i = 1) : diagonal a * diagonal b = 1 := by
  rw [diagonal_mul_diagonal, funext h]; exact diagonal_one

/-- Conjugations by a matrix with orthonormal columns multiply like what they conjugate: `(Q X Qᵀ)(Q Y Qᵀ) = Q (X Y) Qᵀ`. -/
theorem sandwich_mul [Fintype μ] (Q : Matrix μ ι α) (hQ : Qᵀ * Q = 1) (X Y : Matrix ι ι α) :
    Q * X * Qᵀ * (Q * Y * Qᵀ) = Q * (X * Y) * Qᵀ := by
  rw [Matrix.mul_assoc (Q * X), ← Matrix.mul_assoc Qᵀ, ← Matrix.mul_assoc Qᵀ, hQ, Matrix.one_mul, Matrix.mul_assoc Q X,
    Matrix.mul_assoc Q, Matrix.mul_assoc X]

/-- … in particular conjugated diagonal matrices multiply like the diagonals. -/
theorem conj_mul_conj [Fintype μ] (Q : Matrix μ ι α) (hQ : Qᵀ * Q = 1) (a b : ι → α) :
    (Q * diagonal a * Qᵀ) * (Q * diagonal b * Qᵀ) = Q * diagonal (fun i => a i * b i) * Qᵀ := by
  rw [sandwich_mul Q hQ, diagonal_mul_diagonal]

/-- `Q diag(c,…,c) Qᵀ = c · Q Qᵀ`. -/
theorem conj_const (Q : Matrix μ ι α) (c : α) : Q * diagonal (fun _ => c) * Qᵀ = c • (Q * Qᵀ) := by
  rw [← smul_one_eq_diagonal, Matrix.mul_smul, Matrix.smul_mul, Matrix.mul_one]

/-- Shifting the spectrum shifts the matrix: `Q diag(w + c) Qᵀ = Q diag(w) Qᵀ + c · Q Qᵀ`. -/
theorem conj_add_const (Q : Matrix μ ι α) (w : ι → α) (c : α) :
    Q * diagonal (fun i => w i + c) * Qᵀ = Q * diagonal w * Qᵀ + c • (Q * Qᵀ) := by
  rw [← conj_const, ← Matrix.add_mul, ← Matrix.mul_add, diagonal_add]

/-- Entrywise inverse spectra give inverse matrices (`Q` orthogonal). -/
theorem conj_mul_conj_eq_one {Q : Matrix ι ι α} (hQ : Qᵀ * Q = 1) (hQ' : Q * Qᵀ = 1) {a b : ι → α}
    (h : ∀ i, a i * b i = 1) : (Q * diagonal a * Qᵀ) * (Q * diagonal b * Qᵀ) = 1 := by
  rw [conj_mul_conj Q hQ, funext h, conj_const, hQ', one_smul]

end LinOp
