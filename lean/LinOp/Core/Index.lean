/-!
Index arithmetic shared by several kernels (core Lean only).
-/
namespace LinOp

/-- The circulant embedding of an `n × n` Toeplitz matrix has length `L = 2n - 1`.  In the circular convolution, output row `i`
meets input position `m` at position `(i + L - m) mod L` of the embedding vector: that is `i - m` for `m ≤ i` (the column part)
and `m - i` places before the end otherwise (the reversed row part). -/
theorem circ_index {n i m : Nat} (hi : i < n) :
    (i + (2 * n - 1) - m) % (2 * n - 1) = if m ≤ i then i - m else 2 * n - 1 - (m - i) := by
  have hL : n ≤ 2 * n - 1 :=
    Nat.le_sub_one_of_lt (by rw [Nat.two_mul]; exact Nat.lt_add_of_pos_left (Nat.zero_lt_of_lt hi))
  split
  · next h =>
    rw [Nat.add_comm, Nat.add_sub_assoc h, Nat.add_mod_left,
      Nat.mod_eq_of_lt (Nat.lt_of_lt_of_le (Nat.lt_of_le_of_lt (Nat.sub_le _ _) hi) hL)]
  · next h =>
    have hmi : i < m := Nat.lt_of_not_le h
    rw [Nat.add_comm, ← Nat.sub_sub_right _ (Nat.le_of_lt hmi),
      Nat.mod_eq_of_lt (Nat.sub_lt (Nat.lt_of_lt_of_le (Nat.zero_lt_of_lt hi) hL) (Nat.sub_pos_of_lt hmi))]

/-- A row-major position `a * B + b` with `a < A`, `b < B` lies below `A * B`. -/
theorem flat_lt {a A b B : Nat} (ha : a < A) (hb : b < B) : a * B + b < A * B :=
  calc a * B + b < a * B + B := Nat.add_lt_add_left hb _
    _ = (a + 1) * B := (Nat.succ_mul a B).symm
    _ ≤ A * B := Nat.mul_le_mul_right B ha

/-- … and has quotient `a` by `B` (its remainder `b` is `Nat.mul_add_mod_of_lt`).  The `pairIdx` / `divIdx` / `modIdx` round trips
of the models are these two facts under `Fin.ext`. -/
theorem mul_add_div_of_lt {a b c : Nat} (h : c < b) : (a * b + c) / b = a := by
  rw [Nat.add_comm, Nat.add_mul_div_right _ _ (Nat.zero_lt_of_lt h), Nat.div_eq_of_lt h, Nat.zero_add]

end LinOp

/-! The last two positions of `l ++ [x, y]`: how every kernel takes a shape `(*batch, m, n)` apart (`shape[:-2]` is
`List.take_left`, `shape[-2:]` is `List.drop_left`). -/
namespace List
variable {α : Type}

theorem length_append_pair (l : List α) (x y : α) : (l ++ [x, y]).length = l.length + 2 := length_append
theorem length_append_pair_sub_two (l : List α) (x y : α) : (l ++ [x, y]).length - 2 = l.length := by
  rw [length_append_pair]; rfl
theorem length_append_pair_sub_one (l : List α) (x y : α) : (l ++ [x, y]).length - 1 = l.length + 1 := by
  rw [length_append_pair]; rfl

/-- in `A ++ l` the position `A.length + i` is position `i` of `l` -/
theorem getD_append_add (A l : List α) (i : Nat) (d : α) : (A ++ l).getD (A.length + i) d = l.getD i d := by
  rw [getD_eq_getElem?_getD, getElem?_append_right (Nat.le_add_right _ _), Nat.add_sub_cancel_left, getD_eq_getElem?_getD]

theorem getD_append_pair_fst (l : List α) (x y d : α) : (l ++ [x, y]).getD l.length d = x := getD_append_add l [x, y] 0 d
theorem getD_append_pair_snd (l : List α) (x y d : α) : (l ++ [x, y]).getD (l.length + 1) d = y :=
  getD_append_add l [x, y] 1 d

end List
