/-
What the theorems assume of a model's `sqrt` on an ordered field (true of the real square root), stated once for a plain
function; each property's scalar interface (`C08.Lawful`, `C09.SqrtLaw`, `C10.SqrtLaw`, `C11.ExactOps`) gives an instance.
-/
import Mathlib.Algebra.Order.Field.Basic

namespace LinOp

/-- `f` is a non-negative square root on the non-negative numbers (nothing is said about negative arguments: what
`torch.sqrt` returns there, NaN, is outside every model). -/
structure IsSqrt {α : Type*} [Field α] [LinearOrder α] [IsStrictOrderedRing α] (f : α → α) : Prop where
  mul_self : ∀ x, 0 ≤ x → f x * f x = x
  nonneg : ∀ x, 0 ≤ x → 0 ≤ f x

namespace IsSqrt
variable {α : Type*} [Field α] [LinearOrder α] [IsStrictOrderedRing α] {f : α → α} (h : IsSqrt f)
include h

/-- a square root is determined by its square -/
theorem eq_of_mul_self {a b : α} (hb : 0 ≤ b) (hab : b * b = a) : f a = b :=
  have ha : 0 ≤ a := hab ▸ mul_self_nonneg b
  (mul_self_inj (h.nonneg a ha) hb).mp ((h.mul_self a ha).trans hab.symm)

theorem zero : f 0 = 0 := h.eq_of_mul_self le_rfl (mul_zero 0)

theorem one : f 1 = 1 := h.eq_of_mul_self zero_le_one (mul_one 1)

theorem mul {a b : α} (ha : 0 ≤ a) (hb : 0 ≤ b) : f (a * b) = f a * f b :=
  h.eq_of_mul_self (mul_nonneg (h.nonneg a ha) (h.nonneg b hb))
    (by rw [mul_mul_mul_comm, h.mul_self a ha, h.mul_self b hb])

theorem ne_zero {a : α} (ha : 0 ≤ a) (h0 : a ≠ 0) : f a ≠ 0 :=
  fun e => h0 (by rw [← h.mul_self a ha, e, mul_zero])

theorem pos {a : α} (ha : 0 < a) : 0 < f a :=
  lt_of_le_of_ne (h.nonneg a ha.le) (h.ne_zero ha.le ha.ne').symm

end IsSqrt
end LinOp
