/-!
`torch.broadcast_shapes` once, for the proofs (core Lean only).  Every property keeps its own model of it
(`C01.bcastRev`, `C02.bshapesRev`, `C05.bcastRev`, `C14.bcRev`, `C18.bcastRev`, `C19.Spec.bcastRev`, `C20.bcastRev`);
`bcastRev_unique` identifies each of them with `Shape.bcastRev` from its three defining equations, and the laws
(`_self`, `_comm`, `_length`, the one-dimension inversion) are proved here.
-/
namespace LinOp.Shape

/-- one dimension of `torch.broadcast_shapes`: equal sizes, or one of them is 1 -/
def bc1 (a b : Nat) : Option Nat := if a = b ∨ b = 1 then some a else if a = 1 then some b else none

/-- broadcasting of two shapes given in REVERSED order (trailing dimension first) -/
def bcastRev : List Nat → List Nat → Option (List Nat)
  | [], t => some t
  | s, [] => some s
  | a :: s, b :: t => (bc1 a b).bind fun x => (bcastRev s t).map (x :: ·)

def bcast (s t : List Nat) : Option (List Nat) := (bcastRev s.reverse t.reverse).map List.reverse

/-! ### one dimension -/

theorem bc1_self (a : Nat) : bc1 a a = some a := if_pos (.inl rfl)

theorem bc1_comm (a b : Nat) : bc1 a b = bc1 b a := by
  unfold bc1
  by_cases hab : a = b
  · subst hab; rfl
  · have hba : ¬ b = a := fun h => hab h.symm
    by_cases ha : a = 1 <;> by_cases hb : b = 1 <;> simp [hab, hba, ha, hb, eq_comm (a := 1)]

theorem bc1_one_right (a : Nat) : bc1 a 1 = some a := if_pos (.inr rfl)
theorem bc1_one_left (b : Nat) : bc1 1 b = some b := (bc1_comm 1 b).trans (bc1_one_right b)

/-- the operand sizes against the broadcast size: each equals it or is 1 -/
theorem bc1_dims {a b x : Nat} (h : bc1 a b = some x) : (a = x ∨ a = 1) ∧ (b = x ∨ b = 1) := by
  unfold bc1 at h
  split at h
  · next hc => cases h; exact ⟨.inl rfl, hc.imp Eq.symm id⟩
  · split at h
    · next ha => cases h; exact ⟨.inr ha, .inl rfl⟩
    · cases h

/-! ### reversed shapes -/

@[simp] theorem bcastRev_nil_left (t : List Nat) : bcastRev [] t = some t := by cases t <;> rfl
@[simp] theorem bcastRev_nil_right (s : List Nat) : bcastRev s [] = some s := by cases s <;> rfl
theorem bcastRev_cons_cons (a b : Nat) (s t : List Nat) :
    bcastRev (a :: s) (b :: t) = (bc1 a b).bind fun x => (bcastRev s t).map (x :: ·) := rfl

/-- the step of `bcastRev` as C01, C02, C18 and C20 write it -/
theorem step_if (a b : Nat) (r : Option (List Nat)) :
    (if a = b ∨ b = 1 then r.map (a :: ·) else if a = 1 then r.map (b :: ·) else none)
      = (bc1 a b).bind fun x => r.map (x :: ·) := by
  unfold bc1; split
  · rfl
  · split <;> rfl

/-- a function with the three equations of `bcastRev` is `bcastRev` -/
theorem bcastRev_unique {f : List Nat → List Nat → Option (List Nat)}
    (hl : ∀ t, f [] t = some t) (hr : ∀ s, f s [] = some s)
    (hc : ∀ a b s t, f (a :: s) (b :: t) = (bc1 a b).bind fun x => (f s t).map (x :: ·)) : f = bcastRev := by
  funext s t
  induction s generalizing t with
  | nil => rw [hl, bcastRev_nil_left]
  | cons a s ih =>
    cases t with
    | nil => rw [hr]; rfl
    | cons b t => rw [hc, bcastRev_cons_cons]; simp only [ih]

/-- two non-empty shapes broadcast iff the leading sizes do and the tails do -/
theorem bcastRev_cons_cons_eq_some {a b : Nat} {s t out : List Nat} :
    bcastRev (a :: s) (b :: t) = some out ↔ ∃ x o, bc1 a b = some x ∧ bcastRev s t = some o ∧ out = x :: o := by
  rw [bcastRev_cons_cons]
  cases bc1 a b with
  | none => exact ⟨nofun, fun ⟨_, _, h, _⟩ => nomatch h⟩
  | some x =>
    cases bcastRev s t with
    | none => exact ⟨nofun, fun ⟨_, _, _, h, _⟩ => nomatch h⟩
    | some o =>
      exact ⟨fun h => ⟨x, o, rfl, rfl, (Option.some.inj h).symm⟩,
        fun ⟨_, _, hx, ho, e⟩ => by cases hx; cases ho; exact congrArg some e.symm⟩

theorem bcastRev_self (s : List Nat) : bcastRev s s = some s := by
  induction s with
  | nil => rfl
  | cons a s ih => rw [bcastRev_cons_cons, bc1_self, ih]; rfl

theorem bcastRev_comm (s t : List Nat) : bcastRev s t = bcastRev t s := by
  induction s generalizing t with
  | nil => rw [bcastRev_nil_left, bcastRev_nil_right]
  | cons a s ih =>
    cases t with
    | nil => rfl
    | cons b t => rw [bcastRev_cons_cons, bcastRev_cons_cons, ih t, bc1_comm]

theorem bcastRev_length {s t out : List Nat} (h : bcastRev s t = some out) : out.length = max s.length t.length := by
  induction s generalizing t out with
  | nil =>
    obtain rfl := Option.some.inj ((bcastRev_nil_left t).symm.trans h)
    exact (Nat.zero_max _).symm
  | cons a s ih =>
    cases t with
    | nil =>
      obtain rfl := Option.some.inj h
      exact (Nat.max_zero _).symm
    | cons b t =>
      obtain ⟨x, o, -, ho, rfl⟩ := bcastRev_cons_cons_eq_some.1 h
      exact (congrArg Nat.succ (ih ho)).trans (Nat.succ_max_succ _ _).symm

/-- all-ones of the same rank broadcast to the other operand -/
theorem bcastRev_ones (s : List Nat) : bcastRev s (List.replicate s.length 1) = some s := by
  induction s with
  | nil => rfl
  | cons a s ih => rw [List.length_cons, List.replicate_succ, bcastRev_cons_cons, bc1_one_right, ih]; rfl

/-! ### shapes in the order torch writes them -/

theorem bcast_eq_some {s t out : List Nat} : bcast s t = some out ↔ bcastRev s.reverse t.reverse = some out.reverse := by
  unfold bcast
  rw [Option.map_eq_some_iff]
  exact ⟨fun ⟨o, ho, e⟩ => by rw [← e, List.reverse_reverse]; exact ho, fun h => ⟨_, h, List.reverse_reverse _⟩⟩

theorem bcast_self (s : List Nat) : bcast s s = some s := bcast_eq_some.2 (bcastRev_self _)
theorem bcast_nil_left (t : List Nat) : bcast [] t = some t := bcast_eq_some.2 (bcastRev_nil_left _)
theorem bcast_nil_right (s : List Nat) : bcast s [] = some s := bcast_eq_some.2 (bcastRev_nil_right _)
theorem bcast_comm (s t : List Nat) : bcast s t = bcast t s := by rw [bcast, bcast, bcastRev_comm]

theorem bcast_length {s t out : List Nat} (h : bcast s t = some out) : out.length = max s.length t.length := by
  have := bcastRev_length (bcast_eq_some.1 h)
  rwa [List.length_reverse, List.length_reverse, List.length_reverse] at this

theorem bcast_ones (s : List Nat) : bcast s (List.replicate s.length 1) = some s := by
  refine bcast_eq_some.2 ?_
  rw [List.reverse_replicate, ← List.length_reverse]
  exact bcastRev_ones _

/-- last dimensions by the one-dimension rule, the rest recursively -/
theorem bcast_append_last (s t : List Nat) (a b : Nat) :
    bcast (s ++ [a]) (t ++ [b]) = (bc1 a b).bind fun x => (bcast s t).map (· ++ [x]) := by
  simp only [bcast, List.reverse_append, List.reverse_cons, List.reverse_nil, List.nil_append, List.cons_append,
    bcastRev_cons_cons]
  cases bc1 a b with
  | none => rfl
  | some x => cases bcastRev s.reverse t.reverse <;> simp

theorem bcast_append_same (s t : List Nat) (a : Nat) : bcast (s ++ [a]) (t ++ [a]) = (bcast s t).map (· ++ [a]) := by
  rw [bcast_append_last, bc1_self]; rfl

end LinOp.Shape
