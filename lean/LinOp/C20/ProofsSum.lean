import LinOp.C20.Model
import Mathlib.Algebra.Group.Defs
/-!
C20 — `sumN`: congruence, and sums with at most one non-zero term (how the indicator sums of the dense definitions are evaluated).
-/
namespace LinOp.C20

variable {β : Type} [AddCommMonoid β]

theorem sumN_congr (n : Nat) (f g : Nat → β) (h : ∀ i, i < n → f i = g i) : sumN n f = sumN n g := by
  induction n with
  | zero => rfl
  | succ n ih => rw [sumN, sumN, ih fun i hi => h i (Nat.lt_succ_of_lt hi), h n (Nat.lt_succ_self n)]

/-- a sum whose terms vanish away from `a` -/
theorem sumN_eq_single (n a : Nat) (f : Nat → β) (h : ∀ j, j < n → j ≠ a → f j = 0) :
    sumN n f = if a < n then f a else 0 := by
  induction n with
  | zero => rfl
  | succ n ih =>
    rw [sumN, ih fun j hj => h j (Nat.lt_succ_of_lt hj)]
    by_cases h1 : a < n
    · rw [if_pos h1, if_pos (Nat.lt_succ_of_lt h1), h n (Nat.lt_succ_self n) (Nat.ne_of_gt h1), add_zero]
    · by_cases h2 : n = a
      · rw [if_neg h1, if_pos (h2 ▸ Nat.lt_succ_self n), zero_add, h2]
      · rw [if_neg h1, if_neg fun hh => (Nat.lt_succ_iff_lt_or_eq.1 hh).elim h1 fun e => h2 e.symm,
          h n (Nat.lt_succ_self n) h2, add_zero]

/-- `Σ_{j<n} [a = j] x j` -/
theorem sumN_ite_eq (n a : Nat) (x : Nat → β) : (sumN n fun j => if a = j then x j else 0) = if a < n then x a else 0 :=
  (sumN_eq_single n a _ fun _ _ hj => if_neg (Ne.symm hj)).trans (by rw [if_pos rfl])

theorem sumN_zero (n : Nat) : sumN n (fun _ => (0 : β)) = 0 :=
  (sumN_eq_single n 0 _ fun _ _ _ => rfl).trans (ite_self _)

end LinOp.C20
