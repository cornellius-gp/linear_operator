import LinOp.C20.ProofsSparse
/-! C20 — `sparse_getitem` applied item by item equals one multi-index selection. -/
namespace LinOp.C20
open SparseAux
variable {α : Type} [AddCommMonoid α]

/-- where result index `r` of one step comes from in the operand of that step -/
def liftStep (i : Nat) (ix : Ix) (shape : List Nat) (r : List Nat) : List Nat :=
  match ix with
  | .int z => r.insertIdx i z.toNat
  | .slice start _ _ => r.set i (r.getD i 0 + sliceBound (shape.getD i 0) start 0)

/-- shape after one step -/
def shapeStep (i : Nat) (ix : Ix) (shape : List Nat) : List Nat :=
  match ix with
  | .int _ => shape.eraseIdx i
  | .slice start stop _ =>
    shape.set i (sliceBound (shape.getD i 0) stop (shape.getD i 0) - sliceBound (shape.getD i 0) start 0)

/-- composition over the processed item list (head of the list is processed first) -/
def liftLoop : List (Nat × Ix) → List Nat → List Nat → List Nat
  | [], _, r => r
  | (i, ix) :: rest, shape, r => liftStep i ix shape (liftLoop rest (shapeStep i ix shape) r)

/-- a step is admissible for the index `r'` of its RESULT -/
def StepOk (i : Nat) (ix : Ix) (shape : List Nat) (r' : List Nat) : Prop :=
  i < shape.length ∧
  match ix with
  | .int z => 0 ≤ z ∧ r'.length + 1 = shape.length
  | .slice start stop step => step.getD 1 = 1 ∧ r'.length = shape.length ∧
      sliceBound (shape.getD i 0) start 0 + r'.getD i 0 < sliceBound (shape.getD i 0) stop (shape.getD i 0)

/-- shape after the whole loop -/
def shapeLoop : List (Nat × Ix) → List Nat → List Nat
  | [], shape => shape
  | (i, ix) :: rest, shape => shapeLoop rest (shapeStep i ix shape)

def LoopOk : List (Nat × Ix) → List Nat → List Nat → Prop
  | [], shape, r => r.length = shape.length
  | (i, ix) :: rest, shape, r =>
    LoopOk rest (shapeStep i ix shape) r ∧ StepOk i ix shape (liftLoop rest (shapeStep i ix shape) r)

theorem getitemStep_lengths (i : Nat) (ix : Ix) (s s' : Sp α)
    (hents : ∀ e ∈ s.ents, e.1.length = s.shape.length) (h : getitemStep i ix s = .ok s') :
    ∀ e ∈ s'.ents, e.1.length = s'.shape.length := by
  cases ix with
  | int z =>
    rw [getitemStep_int] at h
    cases h
    exact lengths_kept _ (fun l => l.eraseIdx i) _ fun e he => by
      simp only [List.length_eraseIdx, hents e (List.mem_filter.1 he).1]
  | slice start stop step =>
    by_cases hs : step.getD 1 = 1
    · rw [getitemStep_slice i start stop step s hs _ _ rfl rfl] at h
      cases h
      exact lengths_kept _ (fun l => l.set i (l.getD i 0 - _)) _ fun e he => by
        rw [List.length_set, List.length_set, hents e (List.mem_filter.1 he).1]
    · rw [getitemStep, if_pos hs] at h
      cases h

/-- an integer or a slice step, in the vocabulary of the loop (`StepOk`, `shapeStep`, `liftStep`) -/
theorem getitem_step_def (i : Nat) (ix : Ix) (s : Sp α) (r' : List Nat)
    (hents : ∀ e ∈ s.ents, e.1.length = s.shape.length) (hok : StepOk i ix s.shape r') :
    ∃ s', getitemStep i ix s = .ok s' ∧ s'.shape = shapeStep i ix s.shape ∧
      (∀ e ∈ s'.ents, e.1.length = s'.shape.length) ∧
      densify s'.ents r' = densify s.ents (liftStep i ix s.shape r') := by
  obtain ⟨hi, hrest⟩ := hok
  cases ix with
  | int z =>
    obtain ⟨hz, hlen⟩ := hrest
    obtain ⟨s', h1, h2, h3⟩ := sparse_getitem_int_def i z.toNat s r' hi hlen hents
    rw [Int.toNat_of_nonneg hz] at h1
    exact ⟨s', h1, h2, getitemStep_lengths i _ s s' hents h1, h3⟩
  | slice start stop step =>
    obtain ⟨hstep, hlen, hr⟩ := hrest
    obtain ⟨s', h1, h2, h3⟩ := sparse_getitem_slice_def i start stop s r' hi hlen hents hr
    rw [← (getitemStep_slice i start stop step s hstep _ _ rfl rfl).trans
      (getitemStep_slice i start stop none s rfl _ _ rfl rfl).symm] at h1
    exact ⟨s', h1, h2, getitemStep_lengths i _ s s' hents h1, h3⟩

/-- the loop applied item by item = one multi-index selection -/
theorem getitem_loop_def (items : List (Nat × Ix)) (s : Sp α) (r : List Nat)
    (hents : ∀ e ∈ s.ents, e.1.length = s.shape.length) (hok : LoopOk items s.shape r) :
    ∃ s', getitemLoop items s = .ok s' ∧ s'.shape = shapeLoop items s.shape ∧
      (∀ e ∈ s'.ents, e.1.length = s'.shape.length) ∧
      densify s'.ents r = densify s.ents (liftLoop items s.shape r) := by
  induction items generalizing s with
  | nil => exact ⟨s, rfl, rfl, hents, rfl⟩
  | cons it rest ih =>
    obtain ⟨i, ix⟩ := it
    obtain ⟨hrest, hstep⟩ := hok
    obtain ⟨s1, h1, hsh, hl1, hd1⟩ := getitem_step_def i ix s _ hents hstep
    rw [← hsh] at hrest
    obtain ⟨s', h2, hs2, hl2, hd2⟩ := ih s1 hl1 hrest
    refine ⟨s', ?_, ?_, hl2, ?_⟩
    · simp only [getitemLoop, h1, h2]
    · rw [hs2, hsh]; rfl
    · rw [hd2, hsh, hd1]
      rfl

/-! ### the public function on 2-D tensors -/

theorem sumVals_eq_densify_nil (ents : Ents α) (h : ∀ e ∈ ents, e.1.length = 0) :
    sumVals ents = densify ents [] := by
  rw [sumVals_eq_esum, densify_eq_esum]
  exact esum_congr fun e he => (if_pos (List.eq_nil_of_length_eq_zero (h e he))).symm

theorem sparseGetitem_two (s : Sp α) (m n : Nat) (hs : s.shape = [m, n]) (ix0 ix1 : Ix)
    (hn0 : normIx true m ix0 = ix0) (hn1 : normIx true n ix1 = ix1) :
    sparseGetitem true s [ix0, ix1] =
      match getitemLoop [(1, ix1), (0, ix0)] s with
      | .error e => .error e
      | .ok r => if r.shape.isEmpty then .ok (.inl (sumVals r.ents)) else .ok (.inr r) := by
  simp [sparseGetitem, hs, hn0, hn1, List.range, List.range.loop]
  cases getitemLoop [(1, ix1), (0, ix0)] s with
  | error e => rfl
  | ok r => by_cases h : r.shape = [] <;> simp [h]

theorem normIx_nat (n z : Nat) : normIx true n (.int (z : Int)) = .int (z : Int) := by
  have h : ¬ ((z : Int) < 0) := by omega
  simp [normIx, h]

/-- `sparse_getitem` on a 2-D tensor with two items (already normalised: non-negative ints or slices): the loop processes
position 1, then position 0, and the result is the scalar `sum(values)` when both dimensions were consumed. -/
theorem sparseGetitem_two_def (s : Sp α) (m n : Nat) (hs : s.shape = [m, n]) (hents : ∀ e ∈ s.ents, e.1.length = 2)
    (ix0 ix1 : Ix) (hn0 : normIx true m ix0 = ix0) (hn1 : normIx true n ix1 = ix1) (r : List Nat)
    (hok : LoopOk [(1, ix1), (0, ix0)] [m, n] r) :
    ∃ t : Sp α, sparseGetitem true s [ix0, ix1] =
        (if t.shape.isEmpty then .ok (.inl (sumVals t.ents)) else .ok (.inr t)) ∧
      t.shape = shapeLoop [(1, ix1), (0, ix0)] [m, n] ∧ (∀ e ∈ t.ents, e.1.length = t.shape.length) ∧
      densify t.ents r = densify s.ents (liftLoop [(1, ix1), (0, ix0)] [m, n] r) := by
  obtain ⟨t, ht, hsh, hl, hd⟩ := getitem_loop_def _ s r (by rw [hs]; exact hents) (hs ▸ hok)
  refine ⟨t, ?_, hs ▸ hsh, hl, hs ▸ hd⟩
  rw [sparseGetitem_two s m n hs _ _ hn0 hn1, ht]

end LinOp.C20
