import LinOp.C20.Model
import LinOp.C20.ProofsToeplitz
import LinOp.C20.ProofsSum
import Mathlib.Algebra.Order.Field.Basic
import Mathlib.Algebra.Order.AbsoluteValue.Basic
import Mathlib.LinearAlgebra.Matrix.NonsingularInverse
/-!
C20 — helper proofs: permutations, stable QR jitter, back substitution, Moore–Penrose conditions.
-/
namespace LinOp.C20

open Finset

section perm
variable {α : Type} [CommRing α]

theorem apply_perm_def (m n : Nat) (K : M α) (l r : Nat → Nat) (i j : Nat) (hl : l i < m) (hr : r j < n) :
    applyPermCore K l r i j =
      sumN m fun a => sumN n fun b => (if l i = a then 1 else 0) * K a b * (if r j = b then 1 else 0) := by
  rw [sumN_eq_single m (l i) _ fun a _ ha => ?_, if_pos hl, sumN_eq_single n (r j) _ fun b _ hb => ?_, if_pos hr,
    if_pos rfl, if_pos rfl, one_mul, mul_one, applyPermCore]
  · rw [if_neg (Ne.symm hb), mul_zero]
  · exact (sumN_congr n _ _ fun b _ => by rw [if_neg (Ne.symm ha), zero_mul, zero_mul]).trans (sumN_zero n)

end perm

theorem scatterLoop_inj (n : Nat) (p : Nat → Nat) (res : Nat → Nat)
    (hinj : ∀ a b, a < n → b < n → p a = p b → a = b) :
    ∀ m, m ≤ n → ∀ i, i < m → scatterLoop p res m (p i) = i := by
  intro m
  induction m with
  | zero => intro _ i hi; omega
  | succ m ih =>
    intro hm i hi
    simp only [scatterLoop]
    by_cases h : p i = p m
    · rw [if_pos h]
      exact (hinj i m (by omega) (by omega) h).symm
    · rw [if_neg h]
      have : i ≠ m := fun e => h (by rw [e])
      exact ih (by omega) i (by omega)

section qr
variable {α : Type} [Field α] [LinearOrder α]

theorem any_range_false {k : Nat} {f : Nat → Bool} (h : (List.range k).any f = false) (i : Nat) (hi : i < k) :
    f i = false := by
  rw [List.any_eq_false] at h
  have := h i (List.mem_range.mpr hi)
  simpa using this

/-- the jitter of an entry that is not near zero is `0` (whether or not another entry is) -/
theorem qrJitter_of_not_zeroish (eps : α) (k : Nat) (rdiag : Nat → α) (i : Nat)
    (hz : ¬ (if rdiag i < 0 then -rdiag i else rdiag i) < eps) : qrJitter eps k rdiag i = 0 := by
  unfold qrJitter
  dsimp only
  by_cases hany : ((List.range k).any fun i => decide ((if rdiag i < 0 then -rdiag i else rdiag i) < eps)) = true
  · rw [if_pos hany]
    exact if_neg (by rwa [decide_eq_true_eq])
  · rw [if_neg hany]

/-- the jitter of a near-zero entry has magnitude `eps` and the sign of the entry (`+` for zero) -/
theorem qrJitter_of_zeroish (eps : α) (k : Nat) (rdiag : Nat → α) (i : Nat) (hi : i < k)
    (hz : (if rdiag i < 0 then -rdiag i else rdiag i) < eps) :
    qrJitter eps k rdiag i = if rdiag i < 0 then -eps else eps := by
  unfold qrJitter
  dsimp only
  rw [if_pos (List.any_eq_true.2 ⟨i, List.mem_range.2 hi, decide_eq_true hz⟩), if_pos (decide_eq_true hz)]

/-- after the jitter every diagonal entry of `R'` is at least `eps` in absolute value -/
theorem qr_jitter_diag_bound [IsStrictOrderedRing α] (eps : α) (k : Nat) (rdiag : Nat → α) (i : Nat) (hi : i < k) :
    eps ≤ |rdiag i + qrJitter eps k rdiag i| := by
  -- the jitter pushes a near-zero entry away from zero on its own side; other entries are at least `eps` already
  rw [le_abs]
  by_cases hneg : rdiag i < 0 <;> by_cases hz : (if rdiag i < 0 then -rdiag i else rdiag i) < eps
  · rw [qrJitter_of_zeroish eps k rdiag i hi hz, if_pos hneg, neg_add, neg_neg]
    exact .inr (le_add_of_nonneg_left (neg_nonneg.2 hneg.le))
  · rw [qrJitter_of_not_zeroish eps k rdiag i hz, add_zero]
    rw [if_pos hneg] at hz
    exact .inr (not_lt.1 hz)
  · rw [qrJitter_of_zeroish eps k rdiag i hi hz, if_neg hneg]
    exact .inl (le_add_of_nonneg_left (not_lt.1 hneg))
  · rw [qrJitter_of_not_zeroish eps k rdiag i hz, add_zero]
    rw [if_neg hneg] at hz
    exact .inl (not_lt.1 hz)

end qr

section backsubst
variable {α : Type} [Field α]

/-- one step of back substitution: if `x` solves the rows below `i0`, then `x` with entry `i0` replaced by
`(b i0 - Σ_{j > i0} R i0 j * x j) / R i0 i0` solves the rows from `i0` on -/
theorem backSubst_step (k : Nat) (R : M α) (b x : Nat → α) (i0 : Nat) (hi0k : i0 < k)
    (htri : ∀ i j, j < i → R i j = 0) (hdiag : R i0 i0 ≠ 0)
    (hprev : ∀ i, i0 < i → i < k → ∑ j ∈ Finset.range k, R i j * x j = b i) (i : Nat) (hi : i0 ≤ i) (hik : i < k) :
    ∑ j ∈ Finset.range k, R i j * (if j = i0 then
        (b i0 - sumN k (fun j => if i0 < j then R i0 j * x j else 0)) / R i0 i0 else x j) = b i := by
  rcases Nat.eq_or_lt_of_le hi with rfl | hgt
  · -- row `i0`: the new entry against the diagonal, the entries right of it as before, left of it `R` vanishes
    have hrest : ∀ j ∈ (Finset.range k).erase i0, R i0 j * (if j = i0 then
          (b i0 - sumN k (fun j => if i0 < j then R i0 j * x j else 0)) / R i0 i0 else x j)
        = if i0 < j then R i0 j * x j else 0 := by
      intro j hj
      rw [if_neg (Finset.mem_erase.mp hj).1]
      by_cases hlt : i0 < j
      · rw [if_pos hlt]
      · rw [if_neg hlt, htri i0 j (Nat.lt_of_le_of_ne (Nat.le_of_not_lt hlt) (Finset.mem_erase.mp hj).1), zero_mul]
    have hfull : sumN k (fun j => if i0 < j then R i0 j * x j else 0)
        = ∑ j ∈ (Finset.range k).erase i0, (if i0 < j then R i0 j * x j else 0) := by
      rw [sumN_eq_sum, ← Finset.add_sum_erase _ _ (Finset.mem_range.mpr hi0k), if_neg (Nat.lt_irrefl i0), zero_add]
    rw [← Finset.add_sum_erase _ _ (Finset.mem_range.mpr hi0k), if_pos rfl, Finset.sum_congr rfl hrest, ← hfull,
      mul_div_cancel₀ _ hdiag, sub_add_cancel]
  · -- rows below: entry `i0` meets `R i i0 = 0`
    rw [← hprev i hgt hik]
    refine Finset.sum_congr rfl fun j _ => ?_
    by_cases hj : j = i0
    · rw [hj, htri i i0 hgt, zero_mul, zero_mul]
    · rw [if_neg hj]

/-- back substitution solves the upper-triangular system row by row (rows `k-f .. k-1` after `f` steps) -/
theorem backSubst_rows (k : Nat) (R : M α) (b : Nat → α)
    (htri : ∀ i j, j < i → R i j = 0) (hdiag : ∀ i, i < k → R i i ≠ 0) :
    ∀ f, f ≤ k → ∀ i, k - f ≤ i → i < k →
      (∑ j ∈ Finset.range k, R i j * backSubst k R b f j) = b i := by
  intro f
  induction f with
  | zero => intro _ i h1 h2; omega
  | succ f ih =>
    intro hf i h1 h2
    have hi0k : k - 1 - f < k := by omega
    exact backSubst_step k R b _ (k - 1 - f) hi0k htri (hdiag _ hi0k)
      (fun i' hlt hik => ih (by omega) i' (by omega) hik) i (by omega) h2

end backsubst

section mp
open Matrix
variable {α : Type} [Field α] {m n : Type} [Fintype m] [Fintype n] [DecidableEq n]

/-- Moore–Penrose conditions -/
def IsMP (A : Matrix m n α) (P : Matrix n m α) : Prop :=
  A * P * A = A ∧ P * A * P = P ∧ (A * P)ᵀ = A * P ∧ (P * A)ᵀ = P * A

end mp

end LinOp.C20
