import LinOp.C20.Model
/-!
C20 (extension session 5) — additional executable model pieces (core Lean only):

* `toeplitzGetitemZ`: `toeplitz_getitem` on arbitrary Python ints `i`, `j` (negative / beyond `n`): only `i - j` matters,
  `|i - j| ≥ n` raises `IndexError` (1-D tensor indexing);
* `bdsmmFlat`: the intermediate state of the first branch of `bdsmm` — the 2-D block-diagonal sparse tensor and the
  flattened dense operand that are handed to `torch.dsmm` — and `bdsmmUnflat`, the final `view`;
* `expectedFacts…`: what the model assumes about the source text (compared with the `ast` extraction in
  `LinOp/Generated/C20Facts.lean` by evaluation (`rfl` on the literals) in `LinOp/Properties/C20.lean`).
-/
namespace LinOp.C20

variable {α : Type}

/-- `toeplitz_getitem(c, r, i, j)` for Python ints: `index = i - j`; `r[abs(index)]` if negative else `c[index]`;
an index `≥ n` into the 1-D tensors raises `IndexError`. -/
def toeplitzGetitemZ (n : Nat) (c r : Nat → α) (i j : Int) : Except String α :=
  let index : Int := i - j
  if index < 0 then
    (if index.natAbs < n then .ok (r index.natAbs) else .error "IndexError")
  else
    (if index.toNat < n then .ok (c index.toNat) else .error "IndexError")

/-- what `bdsmm`'s first branch hands to `torch.dsmm`, plus the shape data of the final `view` -/
structure BdsmmFlat (α : Type) where
  bshape : List Nat
  numRows : Nat
  numCols : Nat
  p : Nat
  /-- `sparse_2d` of shape `(batch_size * num_rows, batch_size * num_cols)` -/
  sparse2d : Sp α
  /-- `dense_2d = dense.expand(...).reshape(batch_size * num_cols, -1)` -/
  dense2d : Tn α

/-- first branch of `bdsmm` up to (not including) the `torch.dsmm` call -/
def bdsmmFlat (s : Sp α) (d : Tn α) : Except String (BdsmmFlat α) :=
  let sd := s.shape.length
  match matmulBroadcastShape s.shape d.shape with
  | .error e => .error e
  | .ok out =>
    let nb := out.length - 2
    let bshape := out.take nb
    let expanded := bshape ++ s.shape.drop (sd - 2)
    let unsq := List.replicate (out.length - sd) 1 ++ s.shape
    let reps := List.zipWith (fun o z => o / z) expanded unsq
    let s' := sparseRepeat true s reps
    let numRows := s'.shape.getD nb 0
    let numCols := s'.shape.getD (nb + 1) 0
    let db := d.shape.take (d.shape.length - 2)
    let p := out.getD (nb + 1) 0
    .ok { bshape := bshape, numRows := numRows, numCols := numCols, p := p
          sparse2d := ⟨[prod bshape * numRows, prod bshape * numCols], blockDiagEnts bshape numRows numCols s'.ents⟩
          dense2d := ⟨[prod bshape * numCols, p], fun o =>
            d.get (restrictIdx db (unflat bshape (o.getD 0 0 / numCols)) ++ [o.getD 0 0 % numCols, o.getD 1 0])⟩ }

/-- `torch.dsmm(sparse_2d, dense_2d).view(*batch_shape, num_rows, -1)` -/
def bdsmmUnflat [Add α] [Zero α] [Mul α] (f : BdsmmFlat α) : Tn α :=
  let nb := f.bshape.length
  ⟨f.bshape ++ [f.numRows, f.p], fun o =>
    spmm f.sparse2d.ents (fun q c => f.dense2d.get [q, c]) (flat f.bshape (o.take nb) * f.numRows + o.getD nb 0) (o.getD (nb + 1) 0)⟩

/-- `inverse_permutation(p)` for a batch of permutation vectors (`p` of shape `(*batch, n)`): the scatter loop per batch member -/
def inversePerm (p : Tn Nat) : Tn Nat :=
  let n := p.shape.getD (p.shape.length - 1) 0
  ⟨p.shape, fun idx => inversePermCore n (fun a => p.get (idx.dropLast ++ [a])) (idx.getD (idx.length - 1) 0)⟩

/-! ## what the model reads off the source text (translator obligations) -/

/-- `bdsmm`: `indices[0].add_(batch_assignment, alpha=num_rows)`, `indices[1].add_(batch_assignment, alpha=num_cols)` -/
def expectedBdsmmOffsets : List (String × String) := [("indices[0]", "num_rows"), ("indices[1]", "num_cols")]

/-- public functions of the utility modules with a Lean mirror in `Model.lean` / `Model2.lean` -/
def modelledFunctions : List (String × String) :=
  [("toeplitz", "toeplitz"), ("toeplitz", "sym_toeplitz"), ("toeplitz", "toeplitz_getitem"), ("toeplitz", "sym_toeplitz_getitem"),
   ("toeplitz", "toeplitz_matmul"), ("toeplitz", "sym_toeplitz_matmul"), ("toeplitz", "sym_toeplitz_derivative_quadratic_form"),
   ("interpolation", "left_interp"), ("interpolation", "left_t_interp"),
   ("sparse", "make_sparse_from_indices_and_values"), ("sparse", "bdsmm"), ("sparse", "sparse_eye"), ("sparse", "sparse_getitem"),
   ("sparse", "sparse_repeat"), ("sparse", "to_sparse"),
   ("permutation", "apply_permutation"), ("permutation", "inverse_permutation"),
   ("qr", "stable_qr"), ("pinverse", "stable_pinverse"),
   ("broadcasting", "_matmul_broadcast_shape"), ("_dsmm", "DSMM.forward"), ("_dsmm", "DSMM.backward")]

/-- public functions of the same modules that are deliberately NOT mirrored (`_pad_with_singletons` is a pure `view` helper
used by the operator classes only; it has no dense definition of its own) -/
def notModelledFunctions : List (String × String) := [("broadcasting", "_pad_with_singletons")]

def listedFunctions : List (String × String) := modelledFunctions ++ notModelledFunctions

end LinOp.C20
