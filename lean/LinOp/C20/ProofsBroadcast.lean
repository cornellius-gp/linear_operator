import LinOp.C20.ProofsBdsmm
import LinOp.C20.ProofsRepeatFold
/-!
C20 — `bdsmm` and `DSMM.backward` with different batch shapes on the two sides, composed end to end.  With the repeat sizes
`output_size // sparse_size`, `sparse_repeat` is `expand` (`sparseRepeat_expand`: new leading dimensions, size-1 dimensions
repeated); together with `bdsmm_bcast_def` this gives `out[b] = S[b right-aligned, modulo the sparse batch shape] · D[restrict b]`
under the broadcast relation `BcTo`, which a successful `_matmul_broadcast_shape` implies (`bdsmm_broadcast_def`).
-/
namespace LinOp.C20

open RepeatAux

variable {α : Type}

/-- broadcast relation on full (padded, right-aligned) shapes: every source size equals the target size or is 1, and the
target sizes are positive (non-empty batch) -/
def BcTo (Z O : List Nat) : Prop := List.Forall₂ (fun z o => (z = o ∨ z = 1) ∧ 0 < o) Z O

theorem BcTo.length_eq {Z O : List Nat} (h : BcTo Z O) : Z.length = O.length := List.Forall₂.length_eq h

/-! ## `sparse_repeat` with the repeat sizes `output_size // sparse_size` is `expand` -/

/-- repeating with `output_size // sparse_size` turns the sizes `Z` (after a prefix `P` already done) into `O` -/
theorem repeatLoop_bc_shape {Z O : List Nat} (h : BcTo Z O) : ∀ (P : List Nat) (s : Sp α), s.shape = P ++ Z →
    (repeatLoop true P.length (List.zipWith (fun o z => o / z) O Z) s).shape = P ++ O := by
  induction h with
  | nil => intro P s hs; exact hs
  | @cons z o Z' O' hzo _ ih =>
    intro P s hs
    rw [List.zipWith_cons_cons, repeatLoop]
    have hP : (P ++ [o]).length = P.length + 1 := List.length_append
    rw [← hP, ih (P ++ [o]) _ ?_, List.append_assoc]; · rfl
    have hg : (P ++ z :: Z').getD P.length 0 = z := by
      rw [List.getD_eq_getElem?_getD, List.getElem?_append_right (Nat.le_refl _), Nat.sub_self]; rfl
    rw [repeatDim_shape, hs, hg, List.append_assoc]
    -- `o / z` is 1 when `z = o`, and `o` when `z = 1`
    obtain ⟨rfl | rfl, hpos⟩ := hzo
    · rw [Nat.div_self hpos, if_neg (Nat.lt_irrefl 1)]; rfl
    · rw [Nat.div_one, Nat.mul_one]
      split
      · rw [List.set_append_right _ _ (Nat.le_refl _), Nat.sub_self]; rfl
      · next ho => rw [show o = 1 by omega]; rfl

/-- inside the output box every index is below `repeat_size * sparse_size` -/
theorem lt_reps_mul_of_inBox {Z O : List Nat} (h : BcTo Z O) : ∀ (idx : List Nat), InBox idx O → ∀ k,
    k < (List.zipWith (fun o z => o / z) O Z).length →
    idx.getD k 0 < (List.zipWith (fun o z => o / z) O Z).getD k 0 * Z.getD k 0 := by
  induction h with
  | nil => intro idx _ k hk; exact absurd hk (Nat.not_lt_zero _)
  | @cons z o Z' O' hzo _ ih =>
    intro idx hbox k hk
    obtain _ | ⟨hx, ht⟩ := hbox
    cases k with
    | zero =>
      rw [List.zipWith_cons_cons, List.getD_cons_zero, List.getD_cons_zero, List.getD_cons_zero]
      obtain ⟨rfl | rfl, hpos⟩ := hzo
      · rwa [Nat.div_self hpos, Nat.one_mul]
      · rwa [Nat.div_one, Nat.mul_one]
    | succ k' => exact ih _ ht k' (Nat.lt_of_succ_lt_succ hk)

theorem zipWith_mod_pad : ∀ (off : Nat) (idx S : List Nat), off ≤ idx.length →
    List.zipWith (· % ·) idx (List.replicate off 1 ++ S) = List.replicate off 0 ++ List.zipWith (· % ·) (idx.drop off) S := by
  intro off
  induction off with
  | zero => intro idx S _; rfl
  | succ k ih =>
    intro idx S h
    cases idx with
    | nil => exact absurd h (Nat.not_succ_le_zero _)
    | cons x t =>
      rw [List.replicate_succ, List.cons_append, List.zipWith_cons_cons, List.drop_succ_cons, Nat.mod_one,
        ih t S (Nat.le_of_succ_le_succ h)]
      rfl

theorem densify_pad [AddCommMonoid α] (off : Nat) (ents : Ents α) (r : List Nat) :
    densify (ents.map fun e => (List.replicate off 0 ++ e.1, e.2)) (List.replicate off 0 ++ r) = densify ents r :=
  (densify_relabel ents (List.replicate off 0 ++ ·) _ r True fun _ _ =>
    (List.append_right_inj _).trans (iff_of_eq (true_and _)).symm).trans (if_pos trivial)

theorem modAt_eq_zipWith (Z idx : List Nat) (h : idx.length = Z.length) :
    modAt 0 idx.length Z idx = List.zipWith (· % ·) idx Z := by
  refine ext_getD (by rw [modAt_length, List.length_zipWith, h, Nat.min_self]) fun k hk => ?_
  rw [modAt_length] at hk
  rw [modAt_getD _ _ _ _ _ hk, if_pos ⟨Nat.zero_le _, by rwa [Nat.zero_add]⟩, List.getD_eq_getElem?_getD (l := List.zipWith ..),
    List.getElem?_zipWith, List.getD_eq_getElem?_getD, List.getD_eq_getElem?_getD, List.getElem?_eq_getElem hk,
    List.getElem?_eq_getElem (h ▸ hk)]
  rfl

/-- **`sparse_repeat` as `expand`.**  If the shape of `s`, padded by `off` leading ones, broadcasts to `O`, then
`sparse_repeat` with the repeat sizes `O // padded shape` returns a tensor of shape `O` whose stored indices lie in the box of `O`
and whose entry at `idx` is the entry of `s` at `idx` right-aligned and reduced modulo the sizes of `s`. -/
theorem sparseRepeat_expand [AddCommMonoid α] (s : Sp α) (O : List Nat) (off : Nat)
    (hbc : BcTo (List.replicate off 1 ++ s.shape) O) (hbox : EntsInBox s) :
    let s' := sparseRepeat true s (List.zipWith (fun o z => o / z) O (List.replicate off 1 ++ s.shape))
    s'.shape = O ∧ EntsInBox s' ∧
      ∀ idx, InBox idx O → densify s'.ents idx = densify s.ents (List.zipWith (· % ·) (idx.drop off) s.shape) := by
  have hZ : (List.replicate off 1 ++ s.shape).length = off + s.shape.length := by
    rw [List.length_append, List.length_replicate]
  have hrl : (List.zipWith (fun o z => o / z) O (List.replicate off 1 ++ s.shape)).length = off + s.shape.length := by
    rw [List.length_zipWith, ← hbc.length_eq, Nat.min_self, hZ]
  have hloop := sparseRepeat_eq_loop s _ off hrl
  refine ⟨?_, ?_, fun idx hidx => ?_⟩
  · rw [hloop]
    exact repeatLoop_bc_shape hbc [] (padSp off s) rfl
  · exact sparse_repeat_inBox s _ (hrl ▸ Nat.le_add_left _ _) hbox
  · have hps : (padSp off s).shape = List.replicate off 1 ++ s.shape := rfl
    have hlen : idx.length = (padSp off s).shape.length := (inBox_length hidx).trans hbc.length_eq.symm
    rw [hloop, repeat_loop_def _ 0 (padSp off s) idx (Nat.le_of_eq (by rw [Nat.zero_add, hrl, hps, hZ])) hlen
      (pad_inBox s off hbox) (by rw [hps]; simpa only [Nat.zero_add] using lt_reps_mul_of_inBox hbc idx hidx),
      hrl, ← hZ, ← hps, ← hlen, modAt_eq_zipWith _ _ hlen, hps,
      zipWith_mod_pad _ _ _ (by rw [hlen, hps, hZ]; exact Nat.le_add_right _ _)]
    exact densify_pad off s.ents _

/-! ## `bdsmm` -/

/-- a tensor of shape `bshape ++ [m, n]` with all entries inside its box satisfies `bdsmm`'s well-formedness hypothesis -/
theorem batchedEntsOk_of_inBox (s : Sp α) (bshape : List Nat) (m n : Nat) (hs : s.shape = bshape ++ [m, n])
    (h : EntsInBox s) : BatchedEntsOk s.ents bshape m n := by
  rw [batchedEntsOk_iff, ← hs]
  exact entsInBox_iff.1 h

theorem bdsmmReps_general (sb bshape : List Nat) (m n p : Nat) :
    bdsmmReps (sb ++ [m, n]) (bshape ++ [m, p])
      = List.zipWith (fun o z => o / z) (bshape ++ [m, n]) (List.replicate (bshape.length - sb.length) 1 ++ (sb ++ [m, n])) := by
  simp only [bdsmmReps, app2_length_sub, app2_take, app2_drop]
  rw [app2_length, app2_length, Nat.add_sub_add_right]

variable [CommRing α]

/-- `bdsmm`, batched sparse × dense with GENUINELY DIFFERENT batch shapes (sparse batch of lower rank than the output batch,
size-1 sparse batch dimensions repeated, dense batch broadcast independently) — the whole function: `_matmul_broadcast_shape`,
the repeat sizes `output_size // sparse_size`, `sparse_repeat` (new leading dimensions and the loop), the block-diagonal
flattening, the flattened expanded dense operand, `torch.dsmm`'s contract and the final `view`:
`out[b, i, c] = Σ_j S[(b right-aligned) mod sparse batch shape, i, j] · D[restrict b, j, c]` for every non-empty batch shape. -/
theorem bdsmm_general_def (s : Sp α) (d : Tn α) (sb bshape db : List Nat) (m n p : Nat)
    (hsb : sb ≠ []) (hs : s.shape = sb ++ [m, n]) (hd : d.shape = db ++ [n, p])
    (hmb : matmulBroadcastShape s.shape d.shape = .ok (bshape ++ [m, p]))
    (hbc : BcTo (List.replicate (bshape.length - sb.length) 1 ++ (sb ++ [m, n])) (bshape ++ [m, n]))
    (hbox : EntsInBox s)
    (b : List Nat) (hb : InBox b bshape) (i c : Nat) (hi : i < m) :
    ∃ t, bdsmm true s d = .ok t ∧ t.shape = bshape ++ [m, p] ∧
      t.get (b ++ [i, c]) = sumN n fun j =>
        densify s.ents (List.zipWith (· % ·) ((b ++ [i, j]).drop (bshape.length - sb.length)) s.shape)
          * d.get (restrictIdx db b ++ [j, c]) := by
  have hreps : bdsmmReps s.shape (bshape ++ [m, p]) = List.zipWith (fun o z => o / z) (bshape ++ [m, n])
      (List.replicate (bshape.length - sb.length) 1 ++ s.shape) := by
    rw [hs]; exact bdsmmReps_general sb bshape m n p
  obtain ⟨hs', hbox', hval⟩ := sparseRepeat_expand s (bshape ++ [m, n]) (bshape.length - sb.length) (hs ▸ hbc) hbox
  rw [← hreps] at hs' hbox' hval
  obtain ⟨t, ht, hsh, hget⟩ := bdsmm_bcast_def s d bshape db m n p (hs ▸ app2_length_gt _ _ _ hsb) hd hmb hs'
    (batchedEntsOk_of_inBox _ bshape m n hs' hbox') b hb i c hi
  refine ⟨t, ht, hsh, hget.trans (sumN_congr _ _ _ fun j hj => ?_)⟩
  rw [hval _ (inBox_app2 hb hi hj)]

theorem forall2_and_pos {R : Nat → Nat → Prop} : ∀ (l1 l2 : List Nat), List.Forall₂ R l1 l2 → (∀ o ∈ l2, 0 < o) →
    List.Forall₂ (fun z o => R z o ∧ 0 < o) l1 l2 := by
  intro l1 l2 h
  induction h with
  | nil => intro _; exact List.Forall₂.nil
  | cons hab _ ih =>
    intro hp
    exact List.Forall₂.cons ⟨hab, hp _ List.mem_cons_self⟩ (ih fun o ho => hp o (List.mem_cons_of_mem _ ho))

/-- **`bdsmm` with broadcasting, end to end.**  For a batched sparse operand of shape `(sb…, m, n)` and a dense operand of shape
`(db…, n, p)`: if the code's own `_matmul_broadcast_shape` accepts the shapes with broadcast batch shape `bshape` (non-empty batch,
`m, n > 0`), and the stored indices of the sparse operand are inside its shape, then `bdsmm` returns a tensor of shape
`(bshape…, m, p)` with `out[b, i, c] = Σ_j S[(b right-aligned) mod sb, i, j] · D[restrict b, j, c]` — sparse batch dimensions of size 1
(and missing leading ones) are broadcast, which is `torch.matmul(sparse.to_dense(), dense)`.  No hypothesis about how the two batch
shapes relate is needed beyond the success of the shape function. -/
theorem bdsmm_broadcast_def (s : Sp α) (d : Tn α) (sb bshape db : List Nat) (m n p : Nat)
    (hsb : sb ≠ []) (hs : s.shape = sb ++ [m, n]) (hd : d.shape = db ++ [n, p])
    (hmb : matmulBroadcastShape s.shape d.shape = .ok (bshape ++ [m, p]))
    (hpos : ∀ o ∈ bshape, 0 < o) (hbox : EntsInBox s)
    (b : List Nat) (hb : InBox b bshape) (i c : Nat) (hi : i < m) (hn : 0 < n) :
    ∃ t, bdsmm true s d = .ok t ∧ t.shape = bshape ++ [m, p] ∧
      t.get (b ++ [i, c]) = sumN n fun j =>
        densify s.ents (List.zipWith (· % ·) ((b ++ [i, j]).drop (bshape.length - sb.length)) s.shape)
          * d.get (restrictIdx db b ++ [j, c]) := by
  have hbs := matmulBroadcastShape_batch sb db bshape m n p (by rw [← hs, ← hd]; exact hmb)
  have hf := forall2_and_pos _ _ (broadcastShapes_spec sb db bshape hbs).2 hpos
  have htail : List.Forall₂ (fun z o => (z = o ∨ z = 1) ∧ 0 < o) [m, n] [m, n] :=
    .cons ⟨Or.inl rfl, Nat.zero_lt_of_lt hi⟩ (.cons ⟨Or.inl rfl, hn⟩ .nil)
  exact bdsmm_general_def s d sb bshape db m n p hsb hs hd hmb
    (by rw [← List.append_assoc]; exact List.rel_append hf htail) hbox b hb i c hi

/-! ## `DSMM.backward` -/

/-- transposing the last two dimensions keeps the stored indices inside the (transposed) box -/
theorem transpose_inBox {β : Type} (s : Sp β) (sb : List Nat) (m n : Nat) (hs : s.shape = sb ++ [m, n]) (h : EntsInBox s) :
    EntsInBox (⟨sb ++ [n, m], transposeEnts sb.length s.ents⟩ : Sp β) := by
  rw [entsInBox_iff] at h ⊢
  exact inBox_map _ (fun _ => inBox_transpose) (hs ▸ h)

/-- **`DSMM.backward` with broadcasting.**  For a batched sparse operand of shape `(sb…, m, n)` and a cotangent of shape `(gb…, m, p)`
whose batch shapes broadcast (the code's `_matmul_broadcast_shape` on the TRANSPOSED sparse shape succeeds with a non-empty batch):
the returned gradient `bdsmm(sparse.mT, grad_output)` has shape `(bshape…, n, p)` and
`grad[b, j, c] = Σ_i S[(b right-aligned) mod sb, i, j] · grad_output[restrict b, i, c]`, i.e. `Sᵀ · grad_output` per broadcast batch
member (autograd's sum-reduction to the dense operand's shape happens outside the library). -/
theorem dsmm_backward_broadcast_def (s : Sp α) (g : Tn α) (sb bshape gb : List Nat) (m n p : Nat)
    (hsb : sb ≠ []) (hs : s.shape = sb ++ [m, n]) (hg : g.shape = gb ++ [m, p])
    (hmb : matmulBroadcastShape (sb ++ [n, m]) g.shape = .ok (bshape ++ [n, p]))
    (hpos : ∀ o ∈ bshape, 0 < o) (hbox : EntsInBox s)
    (b : List Nat) (hb : InBox b bshape) (j c : Nat) (hj : j < n) (hm : 0 < m) :
    ∃ t, dsmmBackward true s g = .ok t ∧ t.shape = bshape ++ [n, p] ∧
      t.get (b ++ [j, c]) = sumN m fun i =>
        densify s.ents (List.zipWith (· % ·) (b.drop (bshape.length - sb.length)) sb ++ [i, j])
          * g.get (restrictIdx gb b ++ [i, c]) := by
  have hle := (broadcastShapes_spec sb gb bshape
    (matmulBroadcastShape_batch sb gb bshape n m p (by rw [← hg]; exact hmb))).1
  obtain ⟨t, ht, hsh, hget⟩ := bdsmm_broadcast_def (⟨sb ++ [n, m], transposeEnts sb.length s.ents⟩ : Sp α) g sb bshape gb n m p
    hsb rfl hg hmb hpos (transpose_inBox s sb m n hs hbox) b hb j c hj hm
  refine ⟨t, ?_, hsh, hget.trans (sumN_congr _ _ _ fun i hi => ?_)⟩
  · rw [dsmmBackward, hs, app2_length_sub, app2_take, app2_get0, app2_get1]
    exact ht
  · have hlen : (b.drop (bshape.length - sb.length)).length = sb.length := by
      rw [List.length_drop, inBox_length hb]; omega
    show densify (transposeEnts sb.length s.ents)
      (List.zipWith (· % ·) ((b ++ [j, i]).drop (bshape.length - sb.length)) (sb ++ [n, m])) * _ = _
    rw [List.drop_append_of_le_length (by rw [inBox_length hb]; omega), List.zipWith_append hlen]
    simp only [List.zipWith_cons_cons, List.zipWith_nil_right, Nat.mod_eq_of_lt hj, Nat.mod_eq_of_lt hi]
    rw [densify_transpose_batched sb.length s.ents _ i j (by rw [List.length_zipWith, hlen, Nat.min_self])
      (fun e he => by rw [(hbox e he).1, hs]; exact app2_length _ _ _)]

end LinOp.C20
