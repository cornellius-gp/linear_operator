import LinOp.C20.ProofsSparse
import LinOp.C20.ProofsToeplitz

/-!
C20 — what the interpolation kernels and the sparse constructors rest on: entry lists built over a range, zero dropping and
the all-zero special case, the contract of `torch.dsmm` (`spmm_def`), `left_t_interp = Wᵀ x` (summing matrix + dsmm) and
`make_sparse_from_indices_and_values`.
-/
namespace LinOp.C20

open Finset

section interp

variable {α : Type} [CommRing α]

/-! ## generic facts about `sumN`, `densify`, `spmm` -/

/-- sumN over a product range -/
theorem sumN_mul (D K : Nat) (f : Nat → α) :
    sumN (D * K) f = sumN D fun d => sumN K fun k => f (d * K + k) := by
  simp only [sumN_eq_sum]
  induction D with
  | zero => simp
  | succ D ih => rw [Nat.succ_mul, Finset.sum_range_add, ih, Finset.sum_range_succ]

theorem densify_range_map (n : Nat) (f : Nat → List Nat × α) (idx : List Nat) :
    densify ((List.range n).map f) idx = sumN n fun p => if (f p).1 = idx then (f p).2 else 0 := by
  rw [densify_eq_esum, esum_range_map]

theorem spmm_range_map (n : Nat) (f : Nat → List Nat × α) (d : Nat → Nat → α) (i c : Nat) :
    spmm ((List.range n).map f) d i c =
      sumN n fun p => if (f p).1.getD 0 0 = i then (f p).2 * d ((f p).1.getD 1 0) c else 0 := by
  rw [spmm_eq_esum, esum_range_map]

/-- dropping entries whose value is 0 does not change the dense meaning -/
theorem densify_filter [DecidableEq α] (l : Ents α) (idx : List Nat) :
    densify (l.filter fun e => e.2 ≠ 0) idx = densify l idx := by
  rw [densify_eq_esum, densify_eq_esum, ← List.map_id (l.filter _), esum_filter_map]
  refine esum_congr fun e _ => ?_
  by_cases h : e.2 = 0
  · simp only [h, ne_eq, not_true_eq_false, decide_false, Bool.false_eq_true, id, ite_self]
  · simp only [h, ne_eq, not_false_eq_true, decide_true, if_true, id]

theorem densify_map_filter_ne_zero [DecidableEq α] (l : List (List Nat)) (g : List Nat → α) (idx : List Nat) :
    densify ((l.filter fun i => g i ≠ 0).map fun i => (i, g i)) idx
      = densify (l.map fun i => (i, g i)) idx := by
  rw [← densify_filter (l.map fun i => (i, g i)), List.filter_map]
  rfl

/-- the all-zero special case (one explicit zero entry) does not change the dense meaning either -/
theorem densify_nz_or_dummy [DecidableEq α] (l : Ents α) (z idx : List Nat) :
    densify (if (l.filter fun e => e.2 ≠ 0).isEmpty then [(z, (0 : α))] else l.filter fun e => e.2 ≠ 0) idx
      = densify l idx :=
  (densify_orZero _ z _ (fun h => List.isEmpty_iff.1 h) idx).trans (densify_filter l idx)

/-! ## interpolation -/

/-- contract of torch.dsmm holds for the entry-list model: spmm = densify-then-dense-matmul -/
theorem spmm_def (ents : Ents α) (d : Nat → Nat → α) (i c ncols : Nat)
    (h : ∀ e ∈ ents, e.1.length = 2 ∧ e.1.getD 1 0 < ncols) :
    spmm ents d i c = sumN ncols fun j => densify ents [i, j] * d j c := by
  -- an entry `([a, b], v)` contributes `v · d b c` to row `a`
  simp only [spmm_eq_esum, densify_eq_esum, esum_mul_right]
  rw [← esum_sumN]
  refine esum_congr fun e he => ?_
  obtain ⟨hlen, hcol⟩ := h e he
  obtain ⟨a, b, hab⟩ := List.length_eq_two.mp hlen
  rw [hab] at hcol ⊢
  simp only [List.getD_cons_zero, List.getD_cons_succ, List.cons.injEq, and_true, ite_mul, zero_mul] at hcol ⊢
  by_cases hai : a = i
  · simp only [hai, true_and, if_true]
    rw [sumN_ite_eq ncols b fun j => e.2 * d j c, if_pos hcol]
  · simp only [hai, false_and, if_false]
    rw [sumN_eq_sum, Finset.sum_const_zero]

/-- left_t_interp = (Wᵀ x)_o : scatter-add through the summing matrix, duplicates add -/
theorem left_t_interp_def (D K : Nat) (idx : Nat → Nat → Nat) (val : Nat → Nat → α) (x : Nat → α) (o : Nat) :
    leftTInterpCore D K idx val x o = sumN D fun d => interpW K idx val d o * x d := by
  unfold leftTInterpCore summingEnts
  rw [spmm_range_map, sumN_mul]
  apply sumN_congr
  intro d _
  unfold interpW
  rw [sumN_eq_sum, sumN_eq_sum, Finset.sum_mul]
  apply Finset.sum_congr rfl
  intro k hk
  rw [Finset.mem_range] at hk
  obtain ⟨h1, h2⟩ := div_mod_flat d K k hk
  simp only [List.getD_cons_zero, List.getD_cons_succ, h1, h2]
  split_ifs <;> ring

/-! ## `make_sparse_from_indices_and_values` -/

/-- make_sparse: zero dropping and the all-zero special case do not change the dense meaning; the
entry list is exactly one entry per flattened position p -/
theorem make_sparse_def [DecidableEq α] (bs : List Nat) (T K : Nat) (idxf : Nat → Nat) (valf : Nat → α)
    (numRows : Nat) (bidx : List Nat) (i t : Nat) (hb : bidx.length = bs.length) :
    densify (makeSparse bs T K idxf valf numRows).ents (bidx ++ [i, t]) =
      sumN (prod bs * T * K) fun p =>
        if (unflat (bs ++ [T, K]) p).take bs.length = bidx ∧ idxf p = i ∧ (p / K) % T = t then valf p else 0 := by
  have _ := hb
  unfold makeSparse
  simp only []
  rw [densify_nz_or_dummy, densify_range_map]
  apply sumN_congr
  intro p _
  have hiff : ((unflat (bs ++ [T, K]) p).take bs.length ++ [idxf p, (p / K) % T] = bidx ++ [i, t]) ↔
      ((unflat (bs ++ [T, K]) p).take bs.length = bidx ∧ idxf p = i ∧ (p / K) % T = t) := by
    constructor
    · intro h
      obtain ⟨h1, h2⟩ := List.append_inj' h rfl
      simp only [List.cons.injEq, and_true] at h2
      exact ⟨h1, h2.1, h2.2⟩
    · rintro ⟨h1, h2, h3⟩
      rw [h1, h2, h3]
  simp only [hiff]

end interp

end LinOp.C20
