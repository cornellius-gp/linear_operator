import LinOp.C20.ProofsSparse
/-!
C20 — `sparse_repeat` as a whole: the loop `for i, repeat_size in enumerate(repeat_sizes)` over any list of repeat sizes is the
dense `repeat` (`out[idx] = s[idx mod shape]`; induction on the list, the step is `sparse_repeat_def`), it keeps every stored
index inside the box of the result.  (That with the repeat sizes `output_size // sparse_size` it is `expand` is
`sparseRepeat_expand` in `ProofsBroadcast.lean`.)
-/
namespace LinOp.C20

open SparseAux

variable {α : Type}

/-- reduce positions `i .. i+n-1` of a multi-index modulo the corresponding sizes -/
def modAt (i n : Nat) (shape idx : List Nat) : List Nat :=
  (List.range idx.length).map fun k => if i ≤ k ∧ k < i + n then idx.getD k 0 % shape.getD k 0 else idx.getD k 0

/-- every stored index tuple has the rank of the shape and lies inside its box -/
def EntsInBox (s : Sp α) : Prop :=
  ∀ e ∈ s.ents, e.1.length = s.shape.length ∧ ∀ k, k < s.shape.length → e.1.getD k 0 < s.shape.getD k 0

theorem entsInBox_iff {s : Sp α} : EntsInBox s ↔ ∀ e ∈ s.ents, InBox e.1 s.shape :=
  forall₂_congr fun _ _ => inBox_iff_getD.symm

namespace RepeatAux

theorem modAt_length (i n : Nat) (shape idx : List Nat) : (modAt i n shape idx).length = idx.length := by
  rw [modAt, List.length_map, List.length_range]

theorem modAt_getD (i n : Nat) (shape idx : List Nat) (k : Nat) (hk : k < idx.length) :
    (modAt i n shape idx).getD k 0 = if i ≤ k ∧ k < i + n then idx.getD k 0 % shape.getD k 0 else idx.getD k 0 := by
  rw [modAt, List.getD_eq_getElem?_getD, List.getElem?_map, List.getElem?_range hk]
  rfl

theorem modAt_zero (i : Nat) (shape idx : List Nat) : modAt i 0 shape idx = idx :=
  ext_getD (modAt_length _ _ _ _) fun k hk => by
    rw [modAt_length] at hk
    rw [modAt_getD _ _ _ _ _ hk, if_neg fun h => Nat.lt_irrefl _ (Nat.lt_of_lt_of_le h.2 h.1)]

/-- taking position `i` modulo its size, after positions `i+1 …` were reduced, reduces positions `i …` -/
theorem set_modAt (i n : Nat) (shape shape1 idx : List Nat) (hi : i < idx.length)
    (hsh : ∀ k, k ≠ i → shape1.getD k 0 = shape.getD k 0) :
    (modAt (i + 1) n shape1 idx).set i (idx.getD i 0 % shape.getD i 0) = modAt i (n + 1) shape idx := by
  refine ext_getD (by rw [List.length_set, modAt_length, modAt_length]) fun k hk => ?_
  rw [List.length_set, modAt_length] at hk
  rw [modAt_getD _ _ _ _ _ hk]
  by_cases hki : k = i
  · subst hki
    rw [getD_set_self _ _ _ (by rw [modAt_length]; exact hi), if_pos ⟨Nat.le_refl _, by omega⟩]
  · rw [getD_set_ne _ _ _ _ hki, modAt_getD _ _ _ _ _ hk, hsh k hki]
    exact if_congr (by omega) rfl rfl

theorem repeatDim_shape (i rep : Nat) (s : Sp α) :
    (repeatDim true i rep s).shape = if rep > 1 then s.shape.set i (rep * s.shape.getD i 0) else s.shape := by
  unfold repeatDim
  split <;> rfl

theorem repeatDim_shape_length (i rep : Nat) (s : Sp α) :
    (repeatDim true i rep s).shape.length = s.shape.length := by
  rw [repeatDim_shape]
  split
  · exact List.length_set
  · rfl

theorem repeatDim_shape_getD_ne (i rep k : Nat) (s : Sp α) (h : k ≠ i) :
    (repeatDim true i rep s).shape.getD k 0 = s.shape.getD k 0 := by
  rw [repeatDim_shape]
  split
  · exact getD_set_ne _ _ _ _ h
  · rfl

/-- `repeatDim` keeps every stored index inside the (enlarged) box -/
theorem repeatDim_inBox (i rep : Nat) (s : Sp α) (hi : i < s.shape.length) (h : EntsInBox s) :
    EntsInBox (repeatDim true i rep s) := by
  by_cases hrep : rep > 1
  · intro e he
    simp only [repeatDim, if_pos hrep, if_true, List.mem_flatMap, List.mem_range, List.mem_map] at he
    obtain ⟨k, hk, e0, he0, rfl⟩ := he
    obtain ⟨hl, hb⟩ := h e0 he0
    rw [repeatDim_shape, if_pos hrep]
    simp only [List.length_set]
    refine ⟨hl, fun q hq => ?_⟩
    by_cases hqi : q = i
    · subst hqi
      rw [getD_set_self _ _ _ (hl ▸ hq), getD_set_self _ _ _ hq]
      calc e0.1.getD q 0 + k * s.shape.getD q 0 < s.shape.getD q 0 + k * s.shape.getD q 0 :=
            Nat.add_lt_add_right (hb q hq) _
        _ = (k + 1) * s.shape.getD q 0 := by rw [Nat.succ_mul, Nat.add_comm]
        _ ≤ rep * s.shape.getD q 0 := Nat.mul_le_mul_right _ hk
    · rw [getD_set_ne _ _ _ _ hqi, getD_set_ne _ _ _ _ hqi]
      exact hb q hq
  · rw [repeatDim, if_neg hrep]
    exact h

end RepeatAux

open RepeatAux

/-- the loop of `sparse_repeat` (current code) over ANY list of repeat sizes, started at dimension `i`: the result at `idx`
is the original tensor at `idx` with positions `i … i+len-1` reduced modulo the original sizes. -/
theorem repeat_loop_def [AddCommMonoid α] (reps : List Nat) : ∀ (i : Nat) (s : Sp α) (idx : List Nat),
    i + reps.length ≤ s.shape.length → idx.length = s.shape.length → EntsInBox s →
    (∀ k, k < reps.length → idx.getD (i + k) 0 < reps.getD k 0 * s.shape.getD (i + k) 0) →
    densify (repeatLoop true i reps s).ents idx = densify s.ents (modAt i reps.length s.shape idx) := by
  induction reps with
  | nil =>
    intro i s idx _ _ _ _
    rw [repeatLoop, List.length_nil, modAt_zero]
  | cons rep rest ih =>
    intro i s idx hi hlen hbox hidx
    rw [List.length_cons] at hi
    have hi' : i < s.shape.length := by omega
    have hl1 := repeatDim_shape_length i rep s
    -- positions `i+1 …` by the induction hypothesis on the tensor repeated along `i`, whose other sizes are unchanged
    rw [repeatLoop, List.length_cons,
      ih (i + 1) (repeatDim true i rep s) idx (by omega) (hlen.trans hl1.symm) (repeatDim_inBox i rep s hi' hbox) ?_]
    · have hg : (modAt (i + 1) rest.length (repeatDim true i rep s).shape idx).getD i 0 = idx.getD i 0 := by
        rw [modAt_getD _ _ _ _ _ (hlen ▸ hi'), if_neg fun h => Nat.lt_irrefl _ h.1]
      rw [sparse_repeat_def i rep s _ hi' ((modAt_length _ _ _ _).trans hlen)
        (fun e he => ⟨(hbox e he).1, (hbox e he).2 i hi'⟩) (hg ▸ hidx 0 (Nat.succ_pos _)),
        hg, set_modAt i rest.length s.shape _ idx (hlen ▸ hi') (fun k hk => repeatDim_shape_getD_ne i rep k s hk)]
    · intro k hk
      have h := hidx (k + 1) (Nat.succ_lt_succ hk)
      rw [repeatDim_shape_getD_ne i rep (i + 1 + k) s (by omega), Nat.add_right_comm i 1 k]
      exact h

/-! ## shape and in-box invariant of the loop -/

theorem repeat_loop_shape_length (reps : List Nat) : ∀ (i : Nat) (s : Sp α),
    (repeatLoop true i reps s).shape.length = s.shape.length := by
  induction reps with
  | nil => intro i s; rfl
  | cons rep rest ih =>
    intro i s
    rw [repeatLoop, ih (i + 1) (repeatDim true i rep s), repeatDim_shape_length]

/-- the whole loop of `sparse_repeat` keeps every stored index inside the box of the result's shape -/
theorem repeat_loop_inBox (reps : List Nat) : ∀ (i : Nat) (s : Sp α),
    i + reps.length ≤ s.shape.length → EntsInBox s → EntsInBox (repeatLoop true i reps s) := by
  induction reps with
  | nil => intro i s _ h; exact h
  | cons rep rest ih =>
    intro i s hi h
    rw [List.length_cons] at hi
    exact ih (i + 1) (repeatDim true i rep s) (by rw [repeatDim_shape_length]; omega)
      (repeatDim_inBox i rep s (by omega) h)

/-- new leading dimensions of size 1 with index 0 (first step of `sparse_repeat`) -/
def padSp (off : Nat) (s : Sp α) : Sp α :=
  ⟨List.replicate off 1 ++ s.shape, s.ents.map fun e => (List.replicate off 0 ++ e.1, e.2)⟩

theorem padSp_zero (s : Sp α) : padSp 0 s = s := by
  cases s
  exact congrArg (Sp.mk _) (List.map_id _)

theorem sparseRepeat_eq_loop (s : Sp α) (reps : List Nat) (off : Nat) (h : reps.length = off + s.shape.length) :
    sparseRepeat true s reps = repeatLoop true 0 reps (padSp off s) := by
  unfold sparseRepeat
  split
  · rw [h, Nat.add_sub_cancel]; rfl
  · next hgt =>
    obtain rfl : off = 0 := by omega
    rw [padSp_zero]

/-- prepending new leading dimensions of size 1 (index 0) keeps the entries inside the box -/
theorem pad_inBox (s : Sp α) (off : Nat) (h : EntsInBox s) : EntsInBox (padSp off s) := by
  have h1 : ∀ k, InBox (List.replicate k 0) (List.replicate k 1) := fun k => by
    induction k with
    | zero => exact .nil
    | succ k ih => exact .cons Nat.one_pos ih
  rw [entsInBox_iff] at h ⊢
  exact inBox_map (List.replicate off 0 ++ ·) (fun _ hl => List.rel_append (h1 off) hl) h

/-- `sparse_repeat` (any repeat sizes, with or without new leading dimensions) keeps every stored index inside the box -/
theorem sparse_repeat_inBox (s : Sp α) (reps : List Nat) (hr : s.shape.length ≤ reps.length) (h : EntsInBox s) :
    EntsInBox (sparseRepeat true s reps) := by
  rw [sparseRepeat_eq_loop s reps (reps.length - s.shape.length) (Nat.sub_add_cancel hr).symm]
  refine repeat_loop_inBox reps 0 _ (Nat.le_of_eq ?_) (pad_inBox s _ h)
  rw [padSp, List.length_append, List.length_replicate, Nat.zero_add, Nat.sub_add_cancel hr]

end LinOp.C20
