import LinOp.C20.ProofsSparse
import LinOp.C20.ProofsInterp
/-!
C20 — `bdsmm` relative to the output of `sparse_repeat`, for every batch shape:

* `blockdiag_batch_core`: block-diagonal flattening followed by `torch.dsmm`, for ANY flattened dense operand;
* `bdsmm_bcast_def`: the whole first branch — the result at batch index `b` is `S'[b] · D[restrict b]`, `S'` the output of
  `sparse_repeat` with the repeat sizes the code computes (`bdsmmReps`), the dense operand read with `expand` semantics;
* `bdsmm_bcast_dense_def`: sparse batch = output batch (nothing is repeated), dense batch any shape that broadcasts to it;
* transposed entry lists (`DSMM.backward`).
-/
namespace LinOp.C20

/-- the repeat sizes `bdsmm` passes to `sparse_repeat`: `output_size // sparse_size` over the right-aligned shapes -/
def bdsmmReps (sshape out : List Nat) : List Nat :=
  List.zipWith (fun o z => o / z) (out.take (out.length - 2) ++ sshape.drop (sshape.length - 2))
    (List.replicate (out.length - sshape.length) 1 ++ sshape)

/-- one repeat size per dimension of the output -/
theorem bdsmmReps_length (sshape out : List Nat) (h2 : 2 ≤ sshape.length) (h : sshape.length ≤ out.length) :
    (bdsmmReps sshape out).length = out.length := by
  simp only [bdsmmReps, List.length_zipWith, List.length_append, List.length_take, List.length_drop, List.length_replicate]
  omega

section
variable {α : Type} [CommRing α]

/-- entries of a batched sparse tensor of shape `bshape ++ [m, n]` lie inside the box -/
def BatchedEntsOk (ents : Ents α) (bshape : List Nat) (m n : Nat) : Prop :=
  ∀ e ∈ ents, e.1.length = bshape.length + 2 ∧ InBox (e.1.take bshape.length) bshape ∧
    e.1.getD bshape.length 0 < m ∧ e.1.getD (bshape.length + 1) 0 < n

theorem batchedEntsOk_iff {β : Type} {ents : Ents β} {bshape : List Nat} {m n : Nat} :
    BatchedEntsOk ents bshape m n ↔ ∀ e ∈ ents, InBox e.1 (bshape ++ [m, n]) :=
  forall₂_congr fun _ _ => inBox_app2_iff.symm

/-- the flattened product of the first branch of `bdsmm`, for ANY flattened dense operand `dense2`:
row `flat b · m + i` of `blockdiag(S) · dense2` is `Σ_j S[b, i, j] · dense2[flat b · n + j]`. -/
theorem blockdiag_batch_core (ents : Ents α) (bshape : List Nat) (m n : Nat) (dense2 : Nat → Nat → α)
    (hents : BatchedEntsOk ents bshape m n)
    (b : List Nat) (hbox : InBox b bshape) (i c : Nat) (hi : i < m) :
    spmm (blockDiagEnts bshape m n ents) dense2 (flat bshape b * m + i) c
      = sumN n fun j => densify ents (b ++ [i, j]) * dense2 (flat bshape b * n + j) c := by
  have hk : bshape.length = b.length := (inBox_length hbox).symm
  rw [blockdiag_spmm bshape m n ents _ (flat bshape b) i c hi (fun e he => (hents e he).2.2), spmm_def _ _ i c n]
  · apply sumN_congr
    intro j _
    congr 1
    -- the entries kept for batch `b`, row `i`, re-indexed to `[row, column]`, densify to the entry `(b, i, j)`
    apply densify_filter_map ents
      (fun e => decide (flat bshape (e.1.take bshape.length) = flat bshape b ∧ e.1.getD bshape.length 0 = i))
      (fun l => [l.getD bshape.length 0, l.getD (bshape.length + 1) 0]) [i, j] (b ++ [i, j])
    intro e he
    obtain ⟨hl, hbx, _, _⟩ := hents e he
    rw [decide_eq_true_eq]
    constructor
    · rintro ⟨⟨hf, hrow⟩, hg⟩
      obtain ⟨-, hcol⟩ : e.1.getD bshape.length 0 = i ∧ [e.1.getD (bshape.length + 1) 0] = [j] := List.cons.inj hg
      rw [eq_take_app2 e.1 bshape.length hl, ← unflat_flat hbx, hf, unflat_flat hbox, hrow, List.cons.inj hcol |>.1]
    · rintro heq
      rw [heq, hk, app2_take, app2_get0, app2_get1]
      exact ⟨⟨rfl, rfl⟩, rfl⟩
  · intro e he
    obtain ⟨e0, he0, rfl⟩ := List.mem_map.1 he
    exact ⟨rfl, (hents e0 (List.mem_filter.1 he0).1).2.2.2⟩

/-- `bdsmm`, first branch, ANY sparse batch shape and ANY dense batch shape (the shapes only have to satisfy
`_matmul_broadcast_shape`): the result at batch index `b` of the broadcast batch shape is
`S'[b] · D[restrict b]`, `S' = sparse_repeat(sparse, *repeat_sizes)` with the repeat sizes the code computes and the
dense operand read with `expand` semantics. -/
theorem bdsmm_bcast_def (s : Sp α) (d : Tn α) (bshape db : List Nat) (m n p : Nat)
    (hsl : s.shape.length > 2) (hd : d.shape = db ++ [n, p])
    (hmb : matmulBroadcastShape s.shape d.shape = .ok (bshape ++ [m, p]))
    (hs' : (sparseRepeat true s (bdsmmReps s.shape (bshape ++ [m, p]))).shape = bshape ++ [m, n])
    (hents : BatchedEntsOk (sparseRepeat true s (bdsmmReps s.shape (bshape ++ [m, p]))).ents bshape m n)
    (b : List Nat) (hbox : InBox b bshape) (i c : Nat) (hi : i < m) :
    ∃ t, bdsmm true s d = .ok t ∧ t.shape = bshape ++ [m, p] ∧
      t.get (b ++ [i, c]) = sumN n fun j =>
        densify (sparseRepeat true s (bdsmmReps s.shape (bshape ++ [m, p]))).ents (b ++ [i, j])
          * d.get (restrictIdx db b ++ [j, c]) := by
  have hreps : List.zipWith (fun o z => o / z) (bshape ++ s.shape.drop (s.shape.length - 2))
      (List.replicate ((bshape ++ [m, p]).length - s.shape.length) 1 ++ s.shape)
        = bdsmmReps s.shape (bshape ++ [m, p]) := by
    rw [bdsmmReps, app2_length_sub, app2_take]
  refine ⟨?t, ?run, ?shape, ?val⟩
  case run =>
    rw [hd] at hmb
    simp only [bdsmm, if_pos hsl, hmb, hreps, hs', hd, app2_length_sub, app2_take, app2_get0, app2_get1]
    rfl
  case shape => rfl
  case val =>
    dsimp only
    rw [← inBox_length hbox, app2_get0, app2_get1, app2_take, blockdiag_batch_core _ bshape m n _ hents b hbox i c hi]
    apply sumN_congr
    intro j hj
    obtain ⟨h1, h2⟩ := div_mod_flat (flat bshape b) n j hj
    rw [h1, h2, unflat_flat hbox]

/-! ## nothing is repeated when the sparse operand already has the output batch shape -/

theorem repeatLoop_id {β : Type} (fixed : Bool) (i : Nat) (reps : List Nat) (s : Sp β) (h : ∀ r ∈ reps, r ≤ 1) :
    repeatLoop fixed i reps s = s := by
  induction reps generalizing i with
  | nil => rfl
  | cons r rs ih =>
    rw [repeatLoop, repeatDim, if_neg (Nat.not_lt.2 (h r List.mem_cons_self))]
    exact ih (i + 1) (fun r' hr' => h r' (List.mem_cons_of_mem _ hr'))

theorem sparseRepeat_self_div {β : Type} (fixed : Bool) (s : Sp β) :
    sparseRepeat fixed s (List.zipWith (fun o z => o / z) s.shape s.shape) = s := by
  have hl : ¬ ((List.zipWith (fun o z => o / z) s.shape s.shape).length > s.shape.length) := by
    rw [List.length_zipWith, Nat.min_self]; exact Nat.lt_irrefl _
  rw [sparseRepeat, if_neg hl]
  apply repeatLoop_id
  intro r hr
  rw [List.zipWith_self, List.mem_map] at hr
  obtain ⟨x, _, rfl⟩ := hr
  exact Nat.div_le_of_le_mul (Nat.mul_one x).ge

theorem bdsmmReps_self (bshape : List Nat) (m n p : Nat) :
    bdsmmReps (bshape ++ [m, n]) (bshape ++ [m, p])
      = List.zipWith (fun o z => o / z) (bshape ++ [m, n]) (bshape ++ [m, n]) := by
  simp only [bdsmmReps, app2_length_sub, app2_take, app2_drop]
  rw [app2_length, app2_length, Nat.sub_self]
  rfl

/-- `bdsmm`, sparse operand with the full output batch shape, dense operand of ANY batch shape that broadcasts to it
(fewer dims, size-1 dims, no batch): `out[b] = S[b] · D[restrict b]`. -/
theorem bdsmm_bcast_dense_def (s : Sp α) (d : Tn α) (bshape db : List Nat) (m n p : Nat)
    (hb : bshape ≠ []) (hs : s.shape = bshape ++ [m, n]) (hd : d.shape = db ++ [n, p])
    (hmb : matmulBroadcastShape (bshape ++ [m, n]) (db ++ [n, p]) = .ok (bshape ++ [m, p]))
    (hents : BatchedEntsOk s.ents bshape m n)
    (b : List Nat) (hbox : InBox b bshape) (i c : Nat) (hi : i < m) :
    ∃ t, bdsmm true s d = .ok t ∧ t.shape = bshape ++ [m, p] ∧
      t.get (b ++ [i, c]) = sumN n fun j => densify s.ents (b ++ [i, j]) * d.get (restrictIdx db b ++ [j, c]) := by
  have hrep : sparseRepeat true s (bdsmmReps s.shape (bshape ++ [m, p])) = s := by
    rw [hs, bdsmmReps_self, ← hs]
    exact sparseRepeat_self_div true s
  have h := bdsmm_bcast_def s d bshape db m n p (hs ▸ app2_length_gt _ _ _ hb) hd
    (by rw [hs, hd]; exact hmb) (by rw [hrep]; exact hs) (by rw [hrep]; exact hents) b hbox i c hi
  rwa [hrep] at h

/-! ## transposed entry lists -/

theorem densify_transpose_batched (nb : Nat) (ents : Ents α) (b : List Nat) (i j : Nat) (hb : b.length = nb)
    (h : ∀ e ∈ ents, e.1.length = nb + 2) :
    densify (transposeEnts nb ents) (b ++ [j, i]) = densify ents (b ++ [i, j]) := by
  refine (densify_relabel ents (fun l => l.take nb ++ [l.getD (nb + 1) 0, l.getD nb 0]) _ (b ++ [i, j]) True
    fun e he => ?_).trans (if_pos trivial)
  obtain ⟨tk, x, y, rfl, hxy⟩ := exists_app2 e.1 nb (h e he)
  have key : ∀ u u' : List Nat, tk ++ u = b ++ u' ↔ tk = b ∧ u = u' :=
    fun u u' => ⟨fun h => List.append_inj h hb.symm, fun ⟨h1, h2⟩ => h1 ▸ h2 ▸ rfl⟩
  rw [hxy, app2_take, app2_get0, app2_get1, true_and, key, key]
  simp only [List.cons.injEq, and_true]
  exact and_congr_right fun _ => and_comm

theorem densify_transpose (ents : Ents α) (i j : Nat) (h : ∀ e ∈ ents, e.1.length = 2) :
    densify (transposeEnts 0 ents) [j, i] = densify ents [i, j] :=
  densify_transpose_batched 0 ents [] i j rfl h

end
end LinOp.C20
