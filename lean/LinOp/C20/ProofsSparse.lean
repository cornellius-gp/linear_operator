import LinOp.C20.ProofsShape
import LinOp.C20.ProofsSum
import Mathlib.Algebra.Ring.Defs

/-!
C20 — sparse tensors as entry lists: what an entry list means (`densify`, `spmm`, `sumVals` are sums over the list), the lemma
every keep-and-relabel kernel goes through (`densify_select`), and from it one dimension of `sparse_repeat`, the integer and slice
steps of `sparse_getitem` and the block-diagonal flattening of `bdsmm`.
-/
namespace LinOp.C20.SparseAux

/-- an entry of copy `k` of `sparse_repeat` (fixed code) hits `idx` iff `k` is the quotient and
the entry sits at the remainder -/
theorem shift_eq_iff (e idx : List Nat) (i k sz : Nat) (hi : i < e.length)
    (hlen : idx.length = e.length) (he : e.getD i 0 < sz) :
    e.set i (e.getD i 0 + k * sz) = idx ↔
      (idx.getD i 0 / sz = k ∧ e = idx.set i (idx.getD i 0 % sz)) := by
  have hsz : 0 < sz := by omega
  constructor
  · intro h
    subst h
    rw [getD_set_self _ _ _ hi, Nat.add_mul_div_right _ _ hsz, Nat.add_mul_mod_self_right,
      Nat.div_eq_of_lt he, Nat.mod_eq_of_lt he, List.set_set, set_getD_self _ _ hi]
    exact ⟨by omega, rfl⟩
  · rintro ⟨hk, h⟩
    have hi' : i < idx.length := by omega
    have h2 : e.getD i 0 = idx.getD i 0 % sz := by
      have := congrArg (fun l => l.getD i 0) h
      simpa only [getD_set_self _ _ _ hi'] using this
    rw [h2, ← hk, Nat.mod_add_div', h, List.set_set, set_getD_self _ _ hi']

/-- the slice step of `sparse_getitem`: kept and shifted entry hits `ridx` iff the entry sits at
`ridx` shifted back -/
theorem slice_eq_iff (e ridx : List Nat) (i a b : Nat) (hi : i < e.length)
    (hlen : ridx.length = e.length) (hr : a + ridx.getD i 0 < b) :
    ((e.getD i 0 < b ∧ a ≤ e.getD i 0) ∧ e.set i (e.getD i 0 - a) = ridx) ↔
      e = ridx.set i (ridx.getD i 0 + a) := by
  have hi' : i < ridx.length := by omega
  constructor
  · rintro ⟨⟨_, h1⟩, h⟩
    subst h
    rw [getD_set_self _ _ _ hi, List.set_set, Nat.sub_add_cancel h1, set_getD_self _ _ hi]
  · intro h
    have h2 : e.getD i 0 = ridx.getD i 0 + a := by
      have := congrArg (fun l => l.getD i 0) h
      simpa only [getD_set_self _ _ _ hi'] using this
    refine ⟨⟨by omega, by omega⟩, ?_⟩
    rw [h2, Nat.add_sub_cancel, h, List.set_set, set_getD_self _ _ hi']

/-- an entry passes the integer step (value `z` at position `i`, then position `i` erased) with result `ridx` iff it is
`ridx` with `z` inserted at `i` -/
theorem int_eq_iff (e ridx : List Nat) (i z : Nat) (hi : i < e.length)
    (hlen : ridx.length + 1 = e.length) :
    (((e.getD i 0 : Nat) : Int) = (z : Int) ∧ e.eraseIdx i = ridx) ↔ e = ridx.insertIdx i z := by
  constructor
  · rintro ⟨h1, h⟩
    have h1' : e.getD i 0 = z := Int.ofNat_inj.1 h1
    subst h
    rw [← h1', insertIdx_eraseIdx_getD _ _ hi]
  · intro h
    subst h
    rw [getD_insertIdx_self _ _ _ (by omega), List.eraseIdx_insertIdx_self]
    exact ⟨rfl, rfl⟩

/-- uniqueness of quotient and remainder -/
theorem div_uniq (N a b r i : Nat) (hr : r < N) (hi : i < N) (h : r + a * N = b * N + i) :
    a = b ∧ r = i := by
  have hN : 0 < N := by omega
  have h1 : (r + a * N) / N = a := by
    rw [Nat.add_mul_div_right _ _ hN, Nat.div_eq_of_lt hr, Nat.zero_add]
  have h2 : (b * N + i) / N = b := by
    rw [Nat.add_comm, Nat.add_mul_div_right _ _ hN, Nat.div_eq_of_lt hi, Nat.zero_add]
  have hab : a = b := by rw [← h1, h, h2]
  subst hab
  exact ⟨rfl, by omega⟩

end LinOp.C20.SparseAux

namespace LinOp.C20

open SparseAux

/-! ## sums over an entry list

The dense entry `densify · idx`, the product `spmm · d i c` and `sumVals` are sums `Σ_{e ∈ ents} φ e` over the entry list, and
every sparse kernel is `filter` / `map` / `flatMap` on the list: what a kernel does to the dense meaning is a fact about ONE
entry (`esum_congr`). -/

variable {α β γ : Type}

/-- `Σ_{e ∈ ents} φ e` -/
def esum [Add β] [Zero β] (φ : List Nat × α → β) : Ents α → β
  | [] => 0
  | e :: t => φ e + esum φ t

theorem densify_eq_esum [Add α] [Zero α] (ents : Ents α) (idx : List Nat) :
    densify ents idx = esum (fun e => if e.1 = idx then e.2 else 0) ents := by
  induction ents with
  | nil => rfl
  | cons e t ih => obtain ⟨i, v⟩ := e; rw [densify, esum, ih]

theorem spmm_eq_esum [Add α] [Zero α] [Mul α] (ents : Ents α) (d : Nat → Nat → α) (i c : Nat) :
    spmm ents d i c = esum (fun e => if e.1.getD 0 0 = i then e.2 * d (e.1.getD 1 0) c else 0) ents := by
  induction ents with
  | nil => rfl
  | cons e t ih => obtain ⟨ix, v⟩ := e; rw [spmm, esum, ih]

theorem sumVals_eq_esum [Add α] [Zero α] (ents : Ents α) : sumVals ents = esum (fun e => e.2) ents := by
  induction ents with
  | nil => rfl
  | cons e t ih => rw [sumVals, esum, ih]

section esum
variable [AddCommMonoid β]

theorem esum_congr {φ ψ : List Nat × α → β} {l : Ents α} (h : ∀ e ∈ l, φ e = ψ e) : esum φ l = esum ψ l := by
  induction l with
  | nil => rfl
  | cons e t ih => rw [esum, esum, h e List.mem_cons_self, ih fun e' he' => h e' (List.mem_cons_of_mem _ he')]

theorem esum_zero (l : Ents α) : esum (fun _ => (0 : β)) l = 0 := by
  induction l with
  | nil => rfl
  | cons e t ih => exact (zero_add _).trans ih

theorem esum_append (φ : List Nat × α → β) (l₁ l₂ : Ents α) : esum φ (l₁ ++ l₂) = esum φ l₁ + esum φ l₂ := by
  induction l₁ with
  | nil => exact (zero_add _).symm
  | cons e t ih => exact (congrArg (φ e + ·) ih).trans (add_assoc _ _ _).symm

theorem esum_add (φ ψ : List Nat × α → β) (l : Ents α) : esum (fun e => φ e + ψ e) l = esum φ l + esum ψ l := by
  induction l with
  | nil => exact (add_zero _).symm
  | cons e t ih =>
    rw [esum, esum, esum, ih, add_assoc, add_assoc, ← add_assoc (ψ e), add_comm (ψ e), add_assoc]

/-- a kernel that keeps the entries satisfying `p` and rewrites them by `g` -/
theorem esum_filter_map (φ : List Nat × α → β) (p : List Nat × γ → Bool) (g : List Nat × γ → List Nat × α) (l : Ents γ) :
    esum φ ((l.filter p).map g) = esum (fun e => if p e = true then φ (g e) else 0) l := by
  induction l with
  | nil => rfl
  | cons e t ih =>
    by_cases hp : p e = true
    · rw [List.filter_cons_of_pos hp, List.map_cons, esum, esum, ih, if_pos hp]
    · rw [List.filter_cons_of_neg hp, esum, ih, if_neg hp, zero_add]

theorem esum_map (φ : List Nat × α → β) (g : List Nat × γ → List Nat × α) (l : Ents γ) :
    esum φ (l.map g) = esum (fun e => φ (g e)) l := by
  have h := esum_filter_map φ (fun _ => true) g l
  rwa [List.filter_true] at h

theorem esum_range_map (φ : List Nat × α → β) (f : Nat → List Nat × α) (n : Nat) :
    esum φ ((List.range n).map f) = sumN n fun k => φ (f k) := by
  induction n with
  | zero => rfl
  | succ n ih => rw [List.range_succ, List.map_append, esum_append, ih, sumN]; exact congrArg _ (add_zero _)

theorem esum_flatMap_range (φ : List Nat × α → β) (f : Nat → Ents α) (n : Nat) :
    esum φ ((List.range n).flatMap f) = sumN n fun k => esum φ (f k) := by
  induction n with
  | zero => rfl
  | succ n ih =>
    rw [List.range_succ, List.flatMap_append, esum_append, ih, sumN, List.flatMap_cons, List.flatMap_nil, List.append_nil]

theorem esum_sumN (F : List Nat × α → Nat → β) (n : Nat) (l : Ents α) :
    esum (fun e => sumN n (F e)) l = sumN n fun j => esum (fun e => F e j) l := by
  induction n with
  | zero => exact esum_zero l
  | succ n ih => simp only [sumN]; rw [← ih, esum_add]

end esum

theorem esum_mul_right [NonUnitalNonAssocSemiring α] (φ : List Nat × γ → α) (x : α) (l : Ents γ) :
    esum φ l * x = esum (fun e => φ e * x) l := by
  induction l with
  | nil => exact zero_mul x
  | cons e t ih => rw [esum, esum, add_mul, ih]

/-- a relabelling that maps the box of `sh` into the box of `sh'` keeps every stored index inside the box -/
theorem inBox_map {sh sh' : List Nat} {ents : Ents α} (g : List Nat → List Nat) (hg : ∀ l, InBox l sh → InBox (g l) sh')
    (h : ∀ e ∈ ents, InBox e.1 sh) : ∀ e ∈ ents.map fun e => (g e.1, e.2), InBox e.1 sh' := by
  intro e he
  obtain ⟨e0, he0, rfl⟩ := List.mem_map.1 he
  exact hg _ (h e0 he0)

/-! ## `densify` -/

section densify

variable [AddCommMonoid α]

/-- A kernel that keeps the entries satisfying `p` and relabels their index tuples by `g`: if a kept entry lands on `a` exactly
when `P` holds and it sat at `b`, the result at `a` is the operand at `b` (`0` when `P` fails). -/
theorem densify_select (ents : Ents α) (p : List Nat × α → Bool) (g : List Nat → List Nat) (a b : List Nat)
    (P : Prop) [Decidable P] (h : ∀ e ∈ ents, (p e = true ∧ g e.1 = a) ↔ (P ∧ e.1 = b)) :
    densify ((ents.filter p).map fun e => (g e.1, e.2)) a = if P then densify ents b else 0 := by
  rw [densify_eq_esum, esum_filter_map]
  by_cases hP : P
  · rw [if_pos hP, densify_eq_esum]
    refine esum_congr fun e he => ?_
    rw [← ite_and]
    exact if_congr ((h e he).trans (and_iff_right hP)) rfl rfl
  · rw [if_neg hP]
    refine (esum_congr fun e he => ?_).trans (esum_zero ents)
    rw [← ite_and]
    exact if_neg fun hh => hP ((h e he).1 hh).1

/-- … without a filter -/
theorem densify_relabel (ents : Ents α) (g : List Nat → List Nat) (a b : List Nat) (P : Prop) [Decidable P]
    (h : ∀ e ∈ ents, g e.1 = a ↔ (P ∧ e.1 = b)) :
    densify (ents.map fun e => (g e.1, e.2)) a = if P then densify ents b else 0 := by
  have := densify_select ents (fun _ => true) g a b P fun e he => (and_iff_right rfl).trans (h e he)
  rwa [List.filter_true] at this

/-- … when every index of the result has a preimage -/
theorem densify_filter_map (ents : Ents α) (p : List Nat × α → Bool) (g : List Nat → List Nat)
    (a b : List Nat) (h : ∀ e ∈ ents, (p e = true ∧ g e.1 = a) ↔ e.1 = b) :
    densify ((ents.filter p).map fun e => (g e.1, e.2)) a = densify ents b :=
  (densify_select ents p g a b True fun e he => (h e he).trans (iff_of_eq (true_and _)).symm).trans (if_pos trivial)

theorem densify_flatMap_range (f : Nat → Ents α) (n : Nat) (idx : List Nat) :
    densify ((List.range n).flatMap f) idx = sumN n fun k => densify (f k) idx := by
  simp only [densify_eq_esum]
  exact esum_flatMap_range _ f n

/-- one stored zero in place of an empty entry list (what `sparse_getitem`, `make_sparse_from_indices_and_values` and `to_sparse`
return when nothing is kept) has the same dense meaning -/
theorem densify_orZero (c : Prop) [Decidable c] (z : List Nat) (l : Ents α) (h : c → l = []) (idx : List Nat) :
    densify (if c then [(z, (0 : α))] else l) idx = densify l idx := by
  split
  · next hc => rw [h hc]; exact (add_zero _).trans (ite_self _)
  · rfl

/-- one copy of `sparse_repeat` (fixed code) -/
theorem densify_shift (ents : Ents α) (idx : List Nat) (i k sz n : Nat) (hi : i < n)
    (hlen : idx.length = n) (hents : ∀ e ∈ ents, e.1.length = n ∧ e.1.getD i 0 < sz) :
    densify (ents.map fun e => (e.1.set i (e.1.getD i 0 + k * sz), e.2)) idx =
      if idx.getD i 0 / sz = k then densify ents (idx.set i (idx.getD i 0 % sz)) else 0 :=
  densify_relabel ents (fun l => l.set i (l.getD i 0 + k * sz)) idx _ _ fun e he =>
    shift_eq_iff e.1 idx i k sz ((hents e he).1 ▸ hi) (hlen.trans (hents e he).1.symm) (hents e he).2

end densify

/-! ## `sparse_repeat` -/

section repeat_

variable {α : Type}

/-- sparse_repeat, one dimension, FIXED code (offset k * size): dense `repeat` semantics -/
theorem sparse_repeat_def [AddCommMonoid α] (i rep : Nat) (s : Sp α) (idx : List Nat)
    (hi : i < s.shape.length) (hlen : idx.length = s.shape.length)
    (hents : ∀ e ∈ s.ents, e.1.length = s.shape.length ∧ e.1.getD i 0 < s.shape.getD i 0)
    (hidx : idx.getD i 0 < rep * s.shape.getD i 0) :
    densify (repeatDim true i rep s).ents idx
      = densify s.ents (idx.set i (idx.getD i 0 % s.shape.getD i 0)) := by
  have hsz : 0 < s.shape.getD i 0 := by
    rcases Nat.eq_zero_or_pos (s.shape.getD i 0) with h | h
    · rw [h, Nat.mul_zero] at hidx
      exact absurd hidx (Nat.not_lt_zero _)
    · exact h
  by_cases hrep : rep > 1
  · simp only [repeatDim, if_pos hrep, if_true]
    -- the copies add up; exactly copy `idx[i] / size` contributes
    rw [densify_flatMap_range]
    simp only [densify_shift s.ents idx i _ (s.shape.getD i 0) s.shape.length hi hlen hents]
    rw [sumN_ite_eq rep _ fun _ => _, if_pos ((Nat.div_lt_iff_lt_mul hsz).2 hidx)]
  · have hrep1 : rep = 1 := by
      rcases Nat.eq_zero_or_pos rep with h | h
      · rw [h, Nat.zero_mul] at hidx
        exact absurd hidx (Nat.not_lt_zero _)
      · omega
    subst hrep1
    rw [Nat.one_mul] at hidx
    simp only [repeatDim, if_neg hrep, Nat.mod_eq_of_lt hidx]
    rw [set_getD_self _ _ (by omega)]

end repeat_

/-! ## `sparse_getitem` -/

section getitem

variable {α : Type}

/-- what the integer step returns: the kept entries without position `i`, or one explicit zero when nothing is kept -/
theorem getitemStep_int [Zero α] (i : Nat) (z : Int) (s : Sp α) :
    getitemStep i (.int z) s = .ok ⟨s.shape.eraseIdx i,
      if (s.ents.filter fun e => (e.1.getD i 0 : Int) = z).isEmpty then [(List.replicate (s.shape.eraseIdx i).length 0, 0)]
      else (s.ents.filter fun e => (e.1.getD i 0 : Int) = z).map fun e => (e.1.eraseIdx i, e.2)⟩ := by
  unfold getitemStep
  dsimp only
  split <;> rfl

/-- what a slice step with step 1 returns (`a`, `b` the clamped bounds) -/
theorem getitemStep_slice [Zero α] (i : Nat) (start stop step : Option Int) (s : Sp α) (h : step.getD 1 = 1) (a b : Nat)
    (ha : sliceBound (s.shape.getD i 0) start 0 = a) (hb : sliceBound (s.shape.getD i 0) stop (s.shape.getD i 0) = b) :
    getitemStep i (.slice start stop step) s = .ok ⟨s.shape.set i (b - a),
      if (s.ents.filter fun e => e.1.getD i 0 < b ∧ a ≤ e.1.getD i 0).isEmpty then
        [(List.replicate (s.shape.set i (b - a)).length 0, 0)]
      else (s.ents.filter fun e => e.1.getD i 0 < b ∧ a ≤ e.1.getD i 0).map fun e => (e.1.set i (e.1.getD i 0 - a), e.2)⟩ := by
  unfold getitemStep
  dsimp only
  rw [if_neg (not_not.2 h), ha, hb]
  split <;> rfl

/-- the explicit zero stored when nothing is kept has the dense meaning of the (empty) kept list -/
theorem densify_kept [AddCommMonoid α] (kept : Ents α) (g : List Nat → List Nat) (n : Nat) (idx : List Nat) :
    densify (if kept.isEmpty then [(List.replicate n 0, (0 : α))] else kept.map fun e => (g e.1, e.2)) idx
      = densify (kept.map fun e => (g e.1, e.2)) idx :=
  densify_orZero _ _ _ (fun h => by rw [List.isEmpty_iff.1 h]; rfl) idx

/-- … and it has the rank of the result, like the re-indexed kept entries -/
theorem lengths_kept [Zero α] (kept : Ents α) (g : List Nat → List Nat) (size : List Nat)
    (h : ∀ e ∈ kept, (g e.1).length = size.length) :
    ∀ e ∈ (if kept.isEmpty then [(List.replicate size.length 0, (0 : α))] else kept.map fun e => (g e.1, e.2)),
      e.1.length = size.length := by
  split
  · intro e he
    rw [List.mem_singleton.1 he]
    exact List.length_replicate
  · intro e he
    obtain ⟨e0, he0, rfl⟩ := List.mem_map.1 he
    exact h e0 he0

theorem sparse_getitem_int_def [AddCommMonoid α] (i : Nat) (z : Nat) (s : Sp α) (ridx : List Nat)
    (hi : i < s.shape.length) (hlen : ridx.length + 1 = s.shape.length)
    (hents : ∀ e ∈ s.ents, e.1.length = s.shape.length) :
    ∃ s', getitemStep i (.int (z : Int)) s = .ok s' ∧ s'.shape = s.shape.eraseIdx i ∧
      densify s'.ents ridx = densify s.ents (ridx.insertIdx i z) := by
  refine ⟨_, getitemStep_int i z s, rfl, (densify_kept _ (fun l => l.eraseIdx i) _ _).trans ?_⟩
  refine densify_filter_map s.ents _ (fun l => l.eraseIdx i) ridx (ridx.insertIdx i z) fun e he => ?_
  rw [decide_eq_true_eq]
  exact int_eq_iff e.1 ridx i z (hents e he ▸ hi) (hents e he ▸ hlen)

theorem sparse_getitem_slice_def [AddCommMonoid α] (i : Nat) (start stop : Option Int) (s : Sp α)
    (ridx : List Nat)
    (hi : i < s.shape.length) (hlen : ridx.length = s.shape.length)
    (hents : ∀ e ∈ s.ents, e.1.length = s.shape.length)
    (hr : sliceBound (s.shape.getD i 0) start 0 + ridx.getD i 0 < sliceBound (s.shape.getD i 0) stop (s.shape.getD i 0)) :
    ∃ s', getitemStep i (.slice start stop none) s = .ok s' ∧
      s'.shape = s.shape.set i (sliceBound (s.shape.getD i 0) stop (s.shape.getD i 0) - sliceBound (s.shape.getD i 0) start 0) ∧
      densify s'.ents ridx = densify s.ents (ridx.set i (ridx.getD i 0 + sliceBound (s.shape.getD i 0) start 0)) := by
  refine ⟨_, getitemStep_slice i start stop none s rfl _ _ rfl rfl, rfl,
    (densify_kept _ (fun l => l.set i (l.getD i 0 - sliceBound (s.shape.getD i 0) start 0)) _ _).trans ?_⟩
  refine densify_filter_map s.ents _ (fun l => l.set i (l.getD i 0 - sliceBound (s.shape.getD i 0) start 0)) ridx _
    fun e he => ?_
  rw [decide_eq_true_eq]
  exact slice_eq_iff e.1 ridx i _ _ (hents e he ▸ hi) (hents e he ▸ hlen) hr

end getitem

/-! ## block-diagonal flattening -/

section blockdiag

variable {α : Type} [CommRing α]

/-- row `fb · rows + i` of the block-diagonal product sees exactly the entries of batch `fb`, row `i` (`Properties/C20.lean` has
the statement in the words of `bdsmm`) -/
theorem blockdiag_spmm (bshape : List Nat) (numRows numCols : Nat) (ents : Ents α) (d2 : Nat → Nat → α) (fb i c : Nat)
    (hi : i < numRows)
    (hents : ∀ e ∈ ents, e.1.getD bshape.length 0 < numRows ∧ e.1.getD (bshape.length + 1) 0 < numCols) :
    spmm (blockDiagEnts bshape numRows numCols ents) d2 (fb * numRows + i) c =
      spmm ((ents.filter fun e => flat bshape (e.1.take bshape.length) = fb ∧ e.1.getD bshape.length 0 = i)
              |>.map fun e => ([e.1.getD bshape.length 0, e.1.getD (bshape.length + 1) 0], e.2))
           (fun j c => d2 (fb * numCols + j) c) i c := by
  rw [spmm_eq_esum, spmm_eq_esum, blockDiagEnts, esum_map, esum_filter_map]
  refine esum_congr fun e he => ?_
  simp only [List.getD_cons_zero, List.getD_cons_succ, decide_eq_true_eq]
  by_cases hp : flat bshape (e.1.take bshape.length) = fb ∧ e.1.getD bshape.length 0 = i
  · rw [if_pos hp, hp.1, hp.2, if_pos (Nat.add_comm _ _), if_pos rfl, Nat.add_comm]
  · rw [if_neg hp, if_neg fun hh => hp (div_uniq numRows _ fb _ i (hents e he).1 hi hh)]

end blockdiag

end LinOp.C20
