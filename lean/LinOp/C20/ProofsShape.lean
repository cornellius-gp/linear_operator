import LinOp.C20.Model
import LinOp.Core.Index
import Mathlib.Data.List.Forall2
/-!
C20 — shapes and multi-indices: the last positions of `l ++ [x]` and `l ++ [x, y]` (how every kernel splits a shape into batch
and matrix part), row-major `flat` / `unflat`, the box of a shape, and what `broadcast_shapes` / `_matmul_broadcast_shape` return.
-/
namespace LinOp.C20

/-- multi-index inside the box of a shape -/
def InBox (idx shape : List Nat) : Prop := List.Forall₂ (fun i d => i < d) idx shape

/-! ## `l ++ [x]` and `l ++ [x, y]` -/

theorem take_app1 (l : List Nat) (x : Nat) : (l ++ [x]).take l.length = l := List.take_left
theorem getD_app1 (l : List Nat) (x : Nat) : (l ++ [x]).getD l.length 0 = x := by
  rw [List.getD_eq_getElem?_getD, List.getElem?_append_right (Nat.le_refl _), Nat.sub_self]; rfl
theorem dropLast_app1 (l : List Nat) (x : Nat) : (l ++ [x]).dropLast = l := List.dropLast_concat
theorem length_app1_sub (l : List Nat) (x : Nat) : (l ++ [x]).length - 1 = l.length := by
  rw [List.length_append]; rfl

theorem app1_app1 (l : List Nat) (x y : Nat) : l ++ [x] ++ [y] = l ++ [x, y] := List.append_assoc l [x] [y]
theorem app2_length (l : List Nat) (x y : Nat) : (l ++ [x, y]).length = l.length + 2 := List.length_append
theorem app2_length_ne_one (l : List Nat) (x y : Nat) : ¬ (l ++ [x, y]).length = 1 := by
  rw [app2_length]; exact Nat.succ_ne_succ_iff.2 (Nat.succ_ne_zero _)
theorem app2_length_sub (l : List Nat) (x y : Nat) : (l ++ [x, y]).length - 2 = l.length := by
  rw [app2_length]; rfl
theorem app2_length_sub_one (l : List Nat) (x y : Nat) : (l ++ [x, y]).length - 1 = l.length + 1 := by
  rw [app2_length]; rfl
theorem app2_take (l : List Nat) (x y : Nat) : (l ++ [x, y]).take l.length = l := List.take_left
theorem app2_drop (l : List Nat) (x y : Nat) : (l ++ [x, y]).drop l.length = [x, y] := List.drop_left
theorem app2_get0 (l : List Nat) (x y : Nat) : (l ++ [x, y]).getD l.length 0 = x := by
  rw [List.getD_eq_getElem?_getD, List.getElem?_append_right (Nat.le_refl _), Nat.sub_self]; rfl
theorem app2_get1 (l : List Nat) (x y : Nat) : (l ++ [x, y]).getD (l.length + 1) 0 = y := by
  rw [List.getD_eq_getElem?_getD, List.getElem?_append_right (Nat.le_add_right _ _), Nat.add_sub_cancel_left]; rfl
theorem app2_dropLast (l : List Nat) (x y : Nat) : (l ++ [x, y]).dropLast = l ++ [x] := by
  rw [← app1_app1, List.dropLast_concat]
theorem app2_length_gt (l : List Nat) (x y : Nat) (h : l ≠ []) : (l ++ [x, y]).length > 2 := by
  rw [app2_length]; exact Nat.lt_add_of_pos_left (List.length_pos_of_ne_nil h)

/-- a list of length `k + 2` is its first `k` entries followed by the last two -/
theorem eq_take_app2 (l : List Nat) (k : Nat) (h : l.length = k + 2) :
    l = l.take k ++ [l.getD k 0, l.getD (k + 1) 0] := by
  conv_lhs => rw [← List.take_append_drop k l]
  congr 1
  have hd : (l.drop k).length = 2 := by rw [List.length_drop, h, Nat.add_sub_cancel_left]
  obtain ⟨x, y, hxy⟩ := List.length_eq_two.1 hd
  have h0 : l.getD k 0 = x := by
    rw [List.getD_eq_getElem?_getD, ← Nat.add_zero k, ← List.getElem?_drop, hxy]; rfl
  have h1 : l.getD (k + 1) 0 = y := by
    rw [List.getD_eq_getElem?_getD, ← List.getElem?_drop, hxy]; rfl
  rw [hxy, h0, h1]

theorem exists_app2 (l : List Nat) (k : Nat) (h : l.length = k + 2) : ∃ t x y, t.length = k ∧ l = t ++ [x, y] :=
  ⟨_, _, _, by rw [List.length_take, h]; exact Nat.min_eq_left (Nat.le_add_right _ _), eq_take_app2 l k h⟩

/-! ## reading and writing one position of a multi-index -/

theorem getD_set_self (l : List Nat) (i v : Nat) (h : i < l.length) :
    (l.set i v).getD i 0 = v := by
  simp [List.getD_eq_getElem?_getD, h]

theorem set_getD_self (l : List Nat) (i : Nat) (h : i < l.length) :
    l.set i (l.getD i 0) = l := by
  simp [List.getD_eq_getElem?_getD, h]

theorem getD_insertIdx_self (l : List Nat) (i z : Nat) (h : i ≤ l.length) :
    (l.insertIdx i z).getD i 0 = z := by
  simp [List.getD_eq_getElem?_getD, List.getElem?_insertIdx_self, h]

theorem insertIdx_eraseIdx_getD (l : List Nat) (i : Nat) (h : i < l.length) :
    (l.eraseIdx i).insertIdx i (l.getD i 0) = l := by
  induction l generalizing i with
  | nil => simp at h
  | cons x t ih =>
    cases i with
    | zero => simp
    | succ j =>
      have hj : j < t.length := by simpa using h
      simpa using ih j hj

theorem getD_set_ne (l : List Nat) (i k v : Nat) (h : k ≠ i) : (l.set i v).getD k 0 = l.getD k 0 := by
  rw [List.getD_eq_getElem?_getD, List.getD_eq_getElem?_getD, List.getElem?_set_ne (Ne.symm h)]

/-- lists of the same length with the same entries (read with `getD`) are equal -/
theorem ext_getD {l₁ l₂ : List Nat} (hl : l₁.length = l₂.length) (h : ∀ k, k < l₁.length → l₁.getD k 0 = l₂.getD k 0) :
    l₁ = l₂ :=
  List.ext_getElem hl fun k h1 h2 => by
    rw [List.getElem_eq_getD (h := h1) 0, List.getElem_eq_getD (h := h2) 0]
    exact h k h1

/-! ## row-major `flat` / `unflat` -/

/-- quotient and remainder of a row-major position `f * n + j`, `j < n` -/
theorem div_mod_flat (f n j : Nat) (hj : j < n) : (f * n + j) / n = f ∧ (f * n + j) % n = j :=
  ⟨mul_add_div_of_lt hj, Nat.mul_add_mod_of_lt hj⟩

theorem flat_unflat_mod (shape : List Nat) (p : Nat) : flat shape (unflat shape p) = p % prod shape := by
  induction shape with
  | nil => exact (Nat.mod_one p).symm
  | cons d ds ih =>
    simp only [flat, unflat, prod, ih]
    rw [Nat.mul_comm d, Nat.mod_mul, Nat.add_comm, Nat.mul_comm]

/-- flat/unflat round trip on the box -/
theorem flat_unflat (shape : List Nat) (p : Nat) (hp : p < prod shape) : flat shape (unflat shape p) = p := by
  rw [flat_unflat_mod, Nat.mod_eq_of_lt hp]

theorem unflat_add_mul (ds : List Nat) (f a : Nat) : unflat ds (f + a * prod ds) = unflat ds f := by
  induction ds generalizing a with
  | nil => rfl
  | cons e es ih =>
    simp only [unflat, prod]
    rw [← Nat.mul_assoc, ih (a * e)]
    congr 1
    rcases Nat.eq_zero_or_pos (prod es) with hP | hP
    · rw [hP, Nat.mul_zero, Nat.add_zero]
    · rw [Nat.add_mul_div_right _ _ hP, Nat.add_mul_mod_self_right]

/-! ## the box of a shape -/

theorem inBox_length {b sh : List Nat} (h : InBox b sh) : b.length = sh.length := List.Forall₂.length_eq h

theorem flat_lt {b sh : List Nat} (h : InBox b sh) : flat sh b < prod sh := by
  induction h with
  | nil => exact Nat.one_pos
  | @cons i d is ds hid _ ih =>
    exact LinOp.flat_lt hid ih

theorem unflat_flat {b sh : List Nat} (h : InBox b sh) : unflat sh (flat sh b) = b := by
  induction h with
  | nil => rfl
  | @cons i d is ds hid hrest ih =>
    have hf := flat_lt hrest
    have hpos : 0 < prod ds := Nat.zero_lt_of_lt hf
    simp only [flat, unflat]
    rw [Nat.add_comm, unflat_add_mul, ih, Nat.add_mul_div_right _ _ hpos, Nat.div_eq_of_lt hf, Nat.zero_add,
      Nat.mod_eq_of_lt hid]

/-- reading an operand of batch shape `sh` at an index of `sh` itself: nothing is broadcast -/
theorem restrictIdx_inBox {b sh : List Nat} (h : InBox b sh) : restrictIdx sh b = b := by
  rw [restrictIdx, inBox_length h, Nat.sub_self, List.drop_zero]
  induction h with
  | nil => rfl
  | @cons i d is ds hid _ ih =>
    rw [List.zipWith_cons_cons, ih]
    congr 1
    split
    · next hd => subst hd; exact (Nat.lt_one_iff.1 hid).symm
    · rfl

theorem restrictIdx_nil (b : List Nat) : restrictIdx [] b = [] := List.zipWith_nil_left

theorem inBox_iff_getD {l sh : List Nat} :
    InBox l sh ↔ l.length = sh.length ∧ ∀ k, k < sh.length → l.getD k 0 < sh.getD k 0 := by
  rw [InBox, List.forall₂_iff_get]
  refine and_congr_right fun hl => ⟨fun h k hk => ?_, fun h k h1 h2 => ?_⟩
  · have hk' : k < l.length := hl ▸ hk
    rw [← List.getElem_eq_getD (h := hk') 0, ← List.getElem_eq_getD (h := hk) 0]
    exact h k hk' hk
  · have := h k h2
    rwa [← List.getElem_eq_getD (h := h1) 0, ← List.getElem_eq_getD (h := h2) 0] at this

/-! ### the box of `sh ++ [m, n]` -/

theorem inBox_app2 {b sh : List Nat} (hb : InBox b sh) {i j m n : Nat} (hi : i < m) (hj : j < n) :
    InBox (b ++ [i, j]) (sh ++ [m, n]) :=
  List.rel_append hb (.cons hi (.cons hj .nil))

/-- an index inside the box of `sh ++ [m, n]` is a batch index inside `sh` followed by a row `< m` and a column `< n` -/
theorem inBox_app2_iff {l sh : List Nat} {m n : Nat} :
    InBox l (sh ++ [m, n]) ↔ l.length = sh.length + 2 ∧ InBox (l.take sh.length) sh ∧
      l.getD sh.length 0 < m ∧ l.getD (sh.length + 1) 0 < n := by
  constructor
  · intro h
    have hl : l.length = sh.length + 2 := (inBox_length h).trans (app2_length _ _ _)
    have hd := List.forall₂_drop_append l sh [m, n] h
    rw [eq_take_app2 l sh.length hl, List.drop_left' (by rw [List.length_take, hl]; omega)] at hd
    obtain _ | ⟨h0, _ | ⟨h1, _⟩⟩ := hd
    exact ⟨hl, List.forall₂_take_append l sh [m, n] h, h0, h1⟩
  · rintro ⟨hl, hb, h0, h1⟩
    rw [eq_take_app2 l sh.length hl]
    exact inBox_app2 hb h0 h1

/-- swapping the last two positions of an index moves it into the box of the transposed shape -/
theorem inBox_transpose {l sb : List Nat} {m n : Nat} (h : InBox l (sb ++ [m, n])) :
    InBox (l.take sb.length ++ [l.getD (sb.length + 1) 0, l.getD sb.length 0]) (sb ++ [n, m]) := by
  obtain ⟨_, h2, h3, h4⟩ := inBox_app2_iff.1 h
  exact inBox_app2 h2 h4 h3

/-! ## `broadcast_shapes` and `_matmul_broadcast_shape` -/

theorem bcastRev_self (l : List Nat) : bcastRev l l = some l := by
  induction l with
  | nil => rfl
  | cons x t ih => rw [bcastRev, if_pos (Or.inl rfl), ih]; rfl

theorem broadcastShapes_self (l : List Nat) : broadcastShapes l l = some l := by
  rw [broadcastShapes, bcastRev_self, Option.map_some, List.reverse_reverse]

theorem broadcastShapes_nil (l : List Nat) : broadcastShapes l [] = some l := by
  have h : ∀ a : List Nat, bcastRev a [] = some a := fun a => by cases a <;> rfl
  rw [broadcastShapes, List.reverse_nil, h, Option.map_some, List.reverse_reverse]

/-- on shapes `(a…, m, n)` and `(b…, n, p)` the shape function broadcasts the batch parts and appends `(m, p)` -/
theorem matmulBroadcastShape_app2 (a b : List Nat) (m n p : Nat) :
    matmulBroadcastShape (a ++ [m, n]) (b ++ [n, p]) =
      match broadcastShapes a b with
      | none => .error "RuntimeError"
      | some bc => .ok (bc ++ [m, p]) := by
  simp only [matmulBroadcastShape, if_neg (app2_length_ne_one b n p), app2_length_sub, app2_length_sub_one, app2_get0, app2_get1, app2_take, ne_eq,
    not_true_eq_false, if_false]
  cases broadcastShapes a b <;> rfl

theorem matmulBroadcastShape_same (bshape : List Nat) (m n p : Nat) :
    matmulBroadcastShape (bshape ++ [m, n]) (bshape ++ [n, p]) = .ok (bshape ++ [m, p]) := by
  rw [matmulBroadcastShape_app2, broadcastShapes_self]

theorem matmulBroadcastShape_dense2d (bshape : List Nat) (m n p : Nat) :
    matmulBroadcastShape (bshape ++ [m, n]) [n, p] = .ok (bshape ++ [m, p]) := by
  rw [← List.nil_append [n, p], matmulBroadcastShape_app2, broadcastShapes_nil]

/-- a successful `_matmul_broadcast_shape` on `(sb…, m, n) × (db…, n, p)` yields the broadcast of the batch shapes -/
theorem matmulBroadcastShape_batch (sb db bshape : List Nat) (m n p : Nat)
    (h : matmulBroadcastShape (sb ++ [m, n]) (db ++ [n, p]) = .ok (bshape ++ [m, p])) :
    broadcastShapes sb db = some bshape := by
  rw [matmulBroadcastShape_app2] at h
  cases hbs : broadcastShapes sb db with
  | none => rw [hbs] at h; exact absurd h (by simp)
  | some bc =>
    rw [hbs] at h
    rw [List.append_cancel_right (Except.ok.inj h)]

theorem forall2_replicate_one : ∀ C : List Nat,
    List.Forall₂ (fun z o => z = o ∨ z = 1) (List.replicate C.length 1) C := by
  intro C
  induction C with
  | nil => exact List.Forall₂.nil
  | cons x t ih => exact List.Forall₂.cons (Or.inr rfl) ih

theorem forall2_self : ∀ C : List Nat, List.Forall₂ (fun z o => z = o ∨ z = 1) C C := by
  intro C
  induction C with
  | nil => exact List.Forall₂.nil
  | cons x t ih => exact List.Forall₂.cons (Or.inl rfl) ih

/-- `bcastRev` (broadcasting of reversed shapes): each size of the first operand equals the result's size or is 1, and the
result is at least as long -/
theorem bcastRev_spec : ∀ (A B C : List Nat), bcastRev A B = some C →
    A.length ≤ C.length ∧
      List.Forall₂ (fun z o => z = o ∨ z = 1) (A ++ List.replicate (C.length - A.length) 1) C := by
  intro A
  induction A with
  | nil =>
    intro B C h
    obtain rfl : B = C := Option.some.inj h
    exact ⟨Nat.zero_le _, forall2_replicate_one B⟩
  | cons x a ih =>
    intro B C h
    cases B with
    | nil =>
      obtain rfl : x :: a = C := Option.some.inj h
      refine ⟨Nat.le_refl _, ?_⟩
      rw [Nat.sub_self, List.replicate_zero, List.append_nil]
      exact forall2_self (x :: a)
    | cons y b =>
      -- either branch of `bcastRev` puts a size `o` with `x = o ∨ x = 1` in front of the broadcast of the tails
      have step : ∀ o, (x = o ∨ x = 1) → (bcastRev a b).map (o :: ·) = some C →
          (x :: a).length ≤ C.length ∧
            List.Forall₂ (fun z o => z = o ∨ z = 1) (x :: a ++ List.replicate (C.length - (x :: a).length) 1) C := by
        intro o ho hm
        obtain ⟨C', hC', rfl⟩ := Option.map_eq_some_iff.1 hm
        obtain ⟨h1, h2⟩ := ih b C' hC'
        refine ⟨Nat.succ_le_succ h1, ?_⟩
        rw [List.length_cons, List.length_cons, Nat.add_sub_add_right]
        exact List.Forall₂.cons ho h2
      rw [bcastRev] at h
      split at h
      · exact step x (Or.inl rfl) h
      · split at h
        · next hx => exact step y (Or.inr hx) h
        · exact absurd h (by simp)

/-- `torch.broadcast_shapes` as modelled: right-aligned, each size of the first operand equals the result's size or is 1 -/
theorem broadcastShapes_spec (sb db bshape : List Nat) (h : broadcastShapes sb db = some bshape) :
    sb.length ≤ bshape.length ∧
      List.Forall₂ (fun z o => z = o ∨ z = 1) (List.replicate (bshape.length - sb.length) 1 ++ sb) bshape := by
  obtain ⟨C, hC, rfl⟩ := Option.map_eq_some_iff.1 h
  obtain ⟨h1, h2⟩ := bcastRev_spec _ _ _ hC
  rw [List.length_reverse] at h1 h2 ⊢
  refine ⟨h1, List.forall₂_reverse_iff.1 ?_⟩
  rw [List.reverse_append, List.reverse_replicate, List.reverse_reverse]
  exact h2

end LinOp.C20
