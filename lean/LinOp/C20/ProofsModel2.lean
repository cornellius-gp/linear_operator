import LinOp.C20.Model2
/-! C20 — `toeplitz_getitem` on arbitrary ints; the inventory obligation. -/
namespace LinOp.C20

variable {α : Type}

/-- in range (`|i - j| < n`) the lookup is the dense Toeplitz entry by difference; otherwise it raises `IndexError`. -/
theorem toeplitz_getitem_int_def (n : Nat) (c r : Nat → α) (i j : Int) :
    toeplitzGetitemZ n c r i j =
      if (i - j).natAbs < n then .ok (if j ≤ i then c (i - j).toNat else r (j - i).toNat) else .error "IndexError" := by
  unfold toeplitzGetitemZ
  by_cases h : i - j < 0
  · have h1 : ¬ j ≤ i := by omega
    have h2 : (i - j).natAbs = (j - i).toNat := by omega
    simp only [h, if_true, h1, if_false, h2]
  · have h1 : j ≤ i := by omega
    have h2 : (i - j).natAbs = (i - j).toNat := by omega
    simp only [h, if_false, h1, if_true, h2]

/-- two lists that are permutations of each other contain each other's elements (the form of the inventory obligation) -/
theorem all_contains_of_perm {β : Type} [BEq β] [LawfulBEq β] {p l : List β} (h : p.Perm l) :
    (p.all fun x => l.contains x) = true ∧ (l.all fun x => p.contains x) = true :=
  ⟨List.all_eq_true.2 fun _ hx => List.contains_iff_mem.2 (h.subset hx),
   List.all_eq_true.2 fun _ hx => List.contains_iff_mem.2 (h.symm.subset hx)⟩

end LinOp.C20
