import LinOp.C20.Model
import LinOp.Core.Index
import Mathlib.Algebra.BigOperators.Intervals
import Mathlib.Algebra.BigOperators.Group.Finset.Piecewise
import Mathlib.Algebra.BigOperators.Group.Finset.Sigma
import Mathlib.Algebra.BigOperators.Ring.Finset
import Mathlib.Tactic.Ring

/-!
C20 — the Toeplitz kernels of `LinOp.C20.Model`: what the loops of `toeplitz` write, `toeplitz_matmul` (circulant
embedding) and `sym_toeplitz_derivative_quadratic_form`.
-/
namespace LinOp.C20

open Finset

/-! ## the loops of `toeplitz` -/

section loops

variable {α : Type}

theorem fillSub_apply (res : M α) (i : Nat) (v : α) (cnt a b : Nat) :
    fillSub res i v cnt a b = if a = b + i ∧ b < cnt then v else res a b := by
  induction cnt with
  | zero => exact (if_neg fun h => Nat.not_lt_zero _ h.2).symm
  | succ k ih =>
    simp only [fillSub, setM, ih]
    rw [← ite_or]
    exact if_congr (by omega) rfl rfl

theorem fillSup_apply (res : M α) (i : Nat) (v : α) (cnt a b : Nat) :
    fillSup res i v cnt a b = if b = a + i ∧ a < cnt then v else res a b := by
  induction cnt with
  | zero => exact (if_neg fun h => Nat.not_lt_zero _ h.2).symm
  | succ k ih =>
    simp only [fillSup, setM, ih]
    rw [← ite_or]
    exact if_congr (by omega) rfl rfl

theorem colLoop_apply (n : Nat) (c : Nat → α) (res : M α) (m a b : Nat) :
    colLoop n c res m a b = if b ≤ a ∧ a - b < m ∧ a < n then c (a - b) else res a b := by
  induction m with
  | zero => exact (if_neg fun h => Nat.not_lt_zero _ h.2.1).symm
  | succ k ih =>
    rw [colLoop, fillSub_apply, ih]
    -- iteration `k` writes the `k`-th subdiagonal
    by_cases h : a = b + k ∧ b < n - k
    · rw [if_pos h, if_pos (by omega), show a - b = k by omega]
    · rw [if_neg h]
      exact if_congr (by omega) rfl rfl

theorem rowLoop_apply (n : Nat) (r : Nat → α) (res : M α) (m a b : Nat) :
    rowLoop n r res m a b = if a < b ∧ b - a ≤ m ∧ b < n then r (b - a) else res a b := by
  induction m with
  | zero => exact (if_neg fun h => by omega).symm
  | succ k ih =>
    rw [rowLoop, fillSup_apply, ih]
    by_cases h : b = a + (k + 1) ∧ a < n - (k + 1)
    · rw [if_pos h, if_pos (by omega), show b - a = k + 1 by omega]
    · rw [if_neg h]
      exact if_congr (by omega) rfl rfl

/-! ## circulant embedding and the quadratic-form derivative -/

/-- entry `(i - m) mod (2n - 1)` of the embedding `[c, reversed r[1:]]` is the Toeplitz entry `(i, m)` -/
theorem embed_circ (n : Nat) (c r : Nat → α) (i m : Nat) (hi : i < n) (hm : m < n) :
    embed n c r ((i + (2 * n - 1) - m) % (2 * n - 1)) = toeplitzEntry c r i m := by
  rw [circ_index hi, embed, toeplitzEntry]
  by_cases hmi : m ≤ i
  · rw [if_pos hmi, if_pos hmi, if_pos (Nat.lt_of_le_of_lt (Nat.sub_le i m) hi)]
  · -- `m - i` places before the end lies in the reversed-row part
    rw [if_neg hmi, if_neg hmi, if_neg (by omega)]
    congr 1
    omega

end loops

section alg

variable {α : Type} [CommRing α]

theorem sumN_eq_sum (n : Nat) (f : Nat → α) : sumN n f = ∑ i ∈ Finset.range n, f i := by
  induction n with
  | zero => simp [sumN]
  | succ k ih => rw [sumN, ih, Finset.sum_range_succ]

/-- circulant embedding: the first n entries of circConv(embed c r, pad x) are T x -/
theorem toeplitz_matmul_embedding (n : Nat) (hn : 1 ≤ n) (c r x : Nat → α) (i : Nat) (hi : i < n) :
    toeplitzMatmulCore n c r x i = sumN n fun j => toeplitzEntry c r i j * x j := by
  have hL : 2 * n - 1 = n + (n - 1) := by omega
  unfold toeplitzMatmulCore circConv
  -- the padded right-hand side vanishes on the last `n - 1` positions
  rw [sumN_eq_sum, sumN_eq_sum, hL, Finset.sum_range_add, Finset.sum_eq_zero (s := range (n - 1)), add_zero]
  · refine Finset.sum_congr rfl fun m hm => ?_
    rw [Finset.mem_range] at hm
    rw [padX, if_pos hm, ← hL, embed_circ n c r i m hi hm]
  · intro k _
    rw [padX, if_neg (Nat.not_lt.2 (Nat.le_add_right n k)), mul_zero]

/-- first flipped product of `dqfCore`, one pair of vectors -/
theorem dqf_t1 (m : Nat) (u v : Nat → α) (i : Nat) :
    (∑ b ∈ range m, toeplitzEntry (fun k => if k = 0 then u 0 else 0) u i b * v b)
      = ∑ a ∈ range m, ∑ b ∈ range m, if b = a + i then u a * v b else 0 := by
  rw [Finset.sum_comm]
  apply Finset.sum_congr rfl
  intro b hb
  rw [Finset.mem_range] at hb
  rw [toeplitzEntry]
  by_cases h : i ≤ b
  · rw [Finset.sum_eq_single (b - i) (fun a _ ha => if_neg fun h' => ha (Nat.eq_sub_of_add_eq h'.symm))
      (fun hnm => absurd (Finset.mem_range.2 (Nat.lt_of_le_of_lt (Nat.sub_le b i) hb)) hnm),
      if_pos (Nat.sub_add_cancel h).symm]
    by_cases hbi : b ≤ i
    · obtain rfl : b = i := Nat.le_antisymm hbi h
      rw [if_pos hbi, Nat.sub_self, if_pos rfl]
    · rw [if_neg hbi]
  · rw [Finset.sum_eq_zero fun a _ => if_neg fun (h' : b = a + i) => h (h' ▸ Nat.le_add_left i a),
      if_pos (Nat.le_of_not_le h), if_neg (Nat.sub_ne_zero_of_lt (Nat.lt_of_not_le h)), zero_mul]

/-- second flipped product of `dqfCore`, one pair of vectors -/
theorem dqf_t2 (m : Nat) (u v : Nat → α) (i : Nat) :
    (∑ b ∈ range m, toeplitzEntry (fun k => if k = 0 then u (m - 1) else 0)
        (fun k => u (m - 1 - k)) i b * v (m - 1 - b))
      = ∑ a ∈ range m, ∑ b ∈ range m, if a = b + i then u a * v b else 0 := by
  -- the first product on the reversed vectors, then both sums reflected
  refine (dqf_t1 m (fun k => u (m - 1 - k)) (fun k => v (m - 1 - k)) i).trans ?_
  rw [← Finset.sum_range_reflect (fun a => ∑ b ∈ range m, if a = b + i then u a * v b else 0) m]
  refine Finset.sum_congr rfl fun a ha => ?_
  rw [← Finset.sum_range_reflect (fun b => if m - 1 - a = b + i then u (m - 1 - a) * v b else 0) m]
  refine Finset.sum_congr rfl fun b hb => ?_
  rw [Finset.mem_range] at ha hb
  exact if_congr (by omega) rfl rfl

theorem diag_sum (m : Nat) (u v : Nat → α) (P : Nat → Nat → Prop) [∀ a b, Decidable (P a b)]
    (hP : ∀ a b, P a b ↔ a = b) :
    (∑ a ∈ range m, ∑ b ∈ range m, if P a b then u a * v b else 0)
      = ∑ a ∈ range m, u a * v a := by
  refine Finset.sum_congr rfl fun a ha => ?_
  simp only [hP]
  rw [Finset.sum_ite_eq, if_pos ha]

/-- `dqfCore` (the two flipped products minus the entry-0 correction) is `Σ_j u_jᵀ (∂T/∂c_i) v_j` -/
theorem toeplitz_dqf (m s : Nat) (hm : 1 ≤ m) (u v : Nat → Nat → α) (i : Nat) (hi : i < m) :
    dqfCore m s u v i = dqfSpec m s u v i := by
  have key1 : ∀ j, toeplitzMatmulCore m (fun k => if k = 0 then u j 0 else 0) (u j) (v j) i
      = ∑ a ∈ range m, ∑ b ∈ range m, if b = a + i then u j a * v j b else 0 := by
    intro j
    rw [toeplitz_matmul_embedding m hm _ _ _ i hi, sumN_eq_sum]
    exact dqf_t1 m (u j) (v j) i
  have key2 : ∀ j, toeplitzMatmulCore m (fun k => if k = 0 then u j (m - 1) else 0)
        (fun k => u j (m - 1 - k)) (fun k => v j (m - 1 - k)) i
      = ∑ a ∈ range m, ∑ b ∈ range m, if a = b + i then u j a * v j b else 0 := by
    intro j
    rw [toeplitz_matmul_embedding m hm _ _ _ i hi, sumN_eq_sum]
    exact dqf_t2 m (u j) (v j) i
  simp only [dqfCore, dqfSpec, key1, key2, sumN_eq_sum]
  by_cases h : i = 0
  · rw [if_pos h, ← Finset.sum_sub_distrib]
    apply Finset.sum_congr rfl
    intro j _
    subst h
    rw [diag_sum m (u j) (v j) (fun a b => b = a + 0) fun _ _ => eq_comm,
      diag_sum m (u j) (v j) (fun a b => a = b + 0) fun _ _ => Iff.rfl,
      diag_sum m (u j) (v j) (fun a b => a = b + 0 ∨ b = a + 0) fun _ _ => ⟨fun h => h.elim id Eq.symm, Or.inl⟩,
      add_sub_cancel_right]
  · rw [if_neg h]
    refine Finset.sum_congr rfl fun j _ => ?_
    rw [← Finset.sum_add_distrib]
    refine Finset.sum_congr rfl fun a _ => ?_
    rw [← Finset.sum_add_distrib]
    refine Finset.sum_congr rfl fun b _ => ?_
    -- for `i ≠ 0` the sub- and the superdiagonal are disjoint
    by_cases h1 : b = a + i
    · rw [if_pos h1, if_neg (by omega), if_pos (Or.inr h1), add_zero]
    · rw [if_neg h1, zero_add, if_congr (or_iff_left h1).symm rfl rfl]

end alg

end LinOp.C20
