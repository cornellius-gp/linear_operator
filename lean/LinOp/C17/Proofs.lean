import LinOp.C17.Model
/-! C17 — how `step` / `run` act on what an event does not touch (other classes; the records of objects it neither constructs nor
enters), and what `enter` / `exit` do to the one object they name.  Core Lean only. -/
namespace LinOp.C17

@[simp] theorem upd_same {β γ : Type} [DecidableEq β] (f : β → γ) (x : β) (v : γ) : upd f x v x = v := by
  simp [upd]

theorem upd_other {β γ : Type} [DecidableEq β] (f : β → γ) (x y : β) (v : γ) (h : y ≠ x) :
    upd f x v y = f y := by simp [upd, h]

theorem run_append (K : Nat → Kind) (s : State) (h1 h2 : List Event) :
    run K s (h1 ++ h2) = run K (run K s h1) h2 := by simp [run, List.foldl_append]

theorem run_cons (K : Nat → Kind) (s : State) (e : Event) (h : List Event) :
    run K s (e :: h) = run K (step K s e) h := rfl

/-- An event on class `c'` leaves every other class's attributes untouched. -/
theorem step_globals_other (K : Nat → Kind) (s : State) (e : Event) (c : Nat) (h : e.cls ≠ c) :
    (step K s e).globals c = s.globals c := by
  have hc : ∀ v, upd s.globals e.cls v c = s.globals c := fun v => upd_other _ _ _ _ (Ne.symm h)
  cases e with
  | construct o inst => rfl
  | enter o =>
    simp only [step]; split
    · rfl
    · exact hc _
  | exit o exc =>
    simp only [step]; split
    · rfl
    · exact hc _
  | poke c' v => exact hc _
  | set c' v => exact hc _

/-- `e` writes the record of object `o`: it constructs `o` or enters it.  No other event writes a record; in particular an
`exit`, of `o` or of anything else, leaves every record as it is. -/
def Event.binds (o : ObjId) : Event → Prop
  | .construct o' _ => o' = o
  | .enter o' => o' = o
  | _ => False

theorem Event.obj?_of_binds {o : ObjId} : {e : Event} → e.binds o → e.obj? = some o
  | .construct _ _, h | .enter _, h => congrArg some h
  | .exit _ _, h | .poke _ _, h | .set _ _, h => h.elim

/-- a history that does not name `o` does not write its record -/
theorem not_binds_of_obj?_ne {o : ObjId} {h : List Event} (hno : ∀ e ∈ h, e.obj? ≠ some o) : ∀ e ∈ h, ¬ e.binds o :=
  fun e he hb => hno e he (Event.obj?_of_binds hb)

theorem step_exit_objs (K : Nat → Kind) (s : State) (o : ObjId) (exc : Bool) :
    (step K s (Event.exit o exc)).objs = s.objs := by
  simp only [step]; split <;> rfl

/-- An event that neither constructs nor enters object `o` leaves `o`'s record untouched. -/
theorem step_objs_keep (K : Nat → Kind) (s : State) (e : Event) (o : ObjId) (h : ¬ e.binds o) :
    (step K s e).objs o = s.objs o := by
  cases e with
  | construct o' inst => exact upd_other _ _ _ _ (Ne.symm h)
  | enter o' =>
    simp only [step]; split
    · rfl
    · exact upd_other _ _ _ _ (Ne.symm h)
  | exit o' exc => rw [step_exit_objs]
  | poke c v => rfl
  | set c v => rfl

theorem run_objs_keep (K : Nat → Kind) (h : List Event) (s : State) (o : ObjId)
    (hno : ∀ e ∈ h, ¬ e.binds o) : (run K s h).objs o = s.objs o := by
  induction h generalizing s with
  | nil => rfl
  | cons e h ih =>
    rw [run_cons, ih _ (fun e' he' => hno e' (List.mem_cons_of_mem _ he')),
      step_objs_keep K s e o (hno e List.mem_cons_self)]

theorem run_objs_other (K : Nat → Kind) (h : List Event) (s : State) (o : ObjId)
    (hno : ∀ e ∈ h, e.obj? ≠ some o) : (run K s h).objs o = s.objs o :=
  run_objs_keep K h s o (not_binds_of_obj?_ne hno)

theorem run_globals_other (K : Nat → Kind) (h : List Event) (s : State) (c : Nat)
    (hno : ∀ e ∈ h, e.cls ≠ c) : (run K s h).globals c = s.globals c := by
  induction h generalizing s with
  | nil => rfl
  | cons e h ih =>
    rw [run_cons, ih _ (fun e' he' => hno e' (List.mem_cons_of_mem _ he')),
      step_globals_other K s e c (hno e List.mem_cons_self)]

theorem settingVal_restore (k : Kind) (g saved : Slots) :
    settingVal k (restore k g saved) = settingVal k saved := by
  cases k <;> simp [settingVal, restore]

theorem settingVal_poke (r : Bool) (g : Slots) (v : Val) :
    settingVal (.flag r) { g with b := v } = settingVal (.flag r) g := by
  simp [settingVal]

theorem step_exit_some (K : Nat → Kind) (s : State) (o : ObjId) (exc : Bool) (ob : Obj)
    (h : s.objs o = some ob) :
    (step K s (Event.exit o exc)).globals o.1 = restore (K o.1) (s.globals o.1) ob.saved := by
  simp [step, h]

theorem step_exit_none (K : Nat → Kind) (s : State) (o : ObjId) (exc : Bool)
    (h : s.objs o = none) : step K s (Event.exit o exc) = s := by
  simp [step, h]

theorem step_enter_some (K : Nat → Kind) (s : State) (o : ObjId) (ob : Obj) (h : s.objs o = some ob) :
    (step K s (Event.enter o)).objs o = some { ob with saved := s.globals o.1 } := by
  simp [step, h]

theorem step_enter_none (K : Nat → Kind) (s : State) (o : ObjId)
    (h : s.objs o = none) : step K s (Event.enter o) = s := by
  simp [step, h]

end LinOp.C17
