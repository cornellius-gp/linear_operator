import LinOp.C17.Proofs
/-! C17 — objects persist along a run; composites (`enterAll` / `exitAll` over members of pairwise different classes) seen
from one member; `block_restores`: `exit o` restores the value in force before the last `enter o`.  Core Lean only. -/
namespace LinOp.C17

theorem run_nil (K : Nat → Kind) (s : State) : run K s [] = s := rfl

theorem settingVal_a (k : Kind) (g1 g2 : Slots) (h : settingVal k g1 = settingVal k g2) : g1.a = g2.a := by
  cases k with
  | flag r => simpa [settingVal] using h
  | value => simpa [settingVal] using h
  | dtype => simp only [settingVal] at h; rw [h]

theorem step_objs_isSome (K : Nat → Kind) (s : State) (e : Event) (o : ObjId) (h : (s.objs o).isSome) :
    ((step K s e).objs o).isSome := by
  cases e with
  | construct o' inst => simp only [step, upd]; split <;> simp [h]
  | enter o' =>
    simp only [step]; split
    · exact h
    · simp only [upd]; split <;> simp [h]
  | exit o' exc => simp only [step]; split <;> exact h
  | poke c v => exact h
  | set c v => exact h

theorem run_objs_isSome (K : Nat → Kind) (h : List Event) (s : State) (o : ObjId) (hs : (s.objs o).isSome) :
    ((run K s h).objs o).isSome := by
  induction h generalizing s with
  | nil => exact hs
  | cons e h ih => rw [run_cons]; exact ih _ (step_objs_isSome K s e o hs)

theorem step_construct_isSome (K : Nat → Kind) (s : State) (o : ObjId) (inst : Slots) :
    ((step K s (Event.construct o inst)).objs o).isSome := by simp [step]

theorem exit_restores_saved (K : Nat → Kind) (s : State) (o : ObjId) (exc : Bool) (ob : Obj)
    (h : s.objs o = some ob) :
    settingVal (K o.1) ((step K s (Event.exit o exc)).globals o.1) = settingVal (K o.1) ob.saved := by
  rw [step_exit_some K s o exc ob h]; exact settingVal_restore _ _ _

theorem setOnEnter_dtype_get (g inst : Slots) (i : Slot) (h : inst.get i = none) :
    (setOnEnter .dtype g inst).get i = g.get i := by
  cases i <;> simp only [Slots.get] at h ⊢ <;> simp [setOnEnter, h]

theorem enterAll_append (l1 l2 : List ObjId) : enterAll (l1 ++ l2) = enterAll l1 ++ enterAll l2 := by
  simp [enterAll]

theorem exitAll_append (l1 l2 : List ObjId) (exc : Bool) : exitAll (l1 ++ l2) exc = exitAll l1 exc ++ exitAll l2 exc := by
  simp [exitAll]

theorem enterAll_cls (l : List ObjId) (c : Nat) (h : ∀ q ∈ l, q.1 ≠ c) : ∀ e ∈ enterAll l, e.cls ≠ c := by
  intro e he
  simp only [enterAll, List.mem_map] at he
  obtain ⟨q, hq, rfl⟩ := he
  exact h q hq

theorem exitAll_cls (l : List ObjId) (exc : Bool) (c : Nat) (h : ∀ q ∈ l, q.1 ≠ c) : ∀ e ∈ exitAll l exc, e.cls ≠ c := by
  intro e he
  simp only [exitAll, List.mem_map] at he
  obtain ⟨q, hq, rfl⟩ := he
  exact h q hq

/-- A member `p` of a composite whose members belong to pairwise different classes: the members before and after it are of
other classes. -/
theorem composite_split {ps : List ObjId} (hnd : (ps.map Prod.fst).Nodup) {p : ObjId} (hp : p ∈ ps) :
    ∃ l1 l2, ps = l1 ++ p :: l2 ∧ (∀ q ∈ l1, q.1 ≠ p.1) ∧ (∀ q ∈ l2, q.1 ≠ p.1) := by
  obtain ⟨l1, l2, rfl⟩ := List.append_of_mem hp
  simp only [List.map_append, List.map_cons, List.nodup_append, List.nodup_cons] at hnd
  exact ⟨l1, l2, rfl, fun q hq heq => hnd.2.2 q.1 (List.mem_map_of_mem hq) p.1 List.mem_cons_self heq,
    fun q hq heq => hnd.2.1.1 (heq ▸ List.mem_map_of_mem hq)⟩

/-- Between `enter p` and `exit p` of such a composite block (later members entered, body, earlier members exited) nothing
names `p`. -/
theorem composite_mid_obj {l1 l2 : List ObjId} {p : ObjId} (h1 : ∀ q ∈ l1, q.1 ≠ p.1) (h2 : ∀ q ∈ l2, q.1 ≠ p.1)
    {h : List Event} (hno : ∀ e ∈ h, e.obj? ≠ some p) (exc : Bool) :
    ∀ e ∈ enterAll l2 ++ h ++ exitAll l1 exc, e.obj? ≠ some p := by
  intro e he
  simp only [List.mem_append, enterAll, exitAll, List.mem_map] at he
  rcases he with (⟨q, hq, rfl⟩ | he) | ⟨q, hq, rfl⟩
  · exact fun heq => h2 q hq (congrArg Prod.fst (Option.some.inj heq))
  · exact hno e he
  · exact fun heq => h1 q hq (congrArg Prod.fst (Option.some.inj heq))

/-- **`exit o` on an existing object restores the value in force just before the last `enter o`**, whatever the history `h` in
between does short of constructing or entering `o` again — other objects of the same setting, class-level setters, exits of `o`
itself. -/
theorem block_restores (K : Nat → Kind) (s : State) (o : ObjId) (h : List Event) (exc : Bool)
    (hob : (s.objs o).isSome) (hno : ∀ e ∈ h, ¬ e.binds o) :
    settingVal (K o.1) ((run K s (Event.enter o :: h ++ [Event.exit o exc])).globals o.1)
      = settingVal (K o.1) (s.globals o.1) := by
  obtain ⟨ob, hob⟩ := Option.isSome_iff_exists.mp hob
  rw [List.cons_append, run_cons, run_append]
  exact exit_restores_saved K _ o exc _ ((run_objs_keep K h _ o hno).trans (step_enter_some K s o ob hob))

/-- The same when the history in between is `h2`, the exit of some object `x` (another one, or `o` itself once more), `h3`:
crossing blocks and nested re-entry of one object. -/
theorem block_restores_across (K : Nat → Kind) (s : State) (o x : ObjId) (h2 h3 : List Event) (e1 e2 : Bool)
    (hob : (s.objs o).isSome) (hno2 : ∀ e ∈ h2, e.obj? ≠ some o) (hno3 : ∀ e ∈ h3, e.obj? ≠ some o) :
    settingVal (K o.1) ((run K s (Event.enter o :: h2 ++ Event.exit x e1 :: h3 ++ [Event.exit o e2])).globals o.1)
      = settingVal (K o.1) (s.globals o.1) := by
  simpa only [List.cons_append, List.append_assoc] using
    block_restores K s o (h2 ++ Event.exit x e1 :: h3) e2 hob
      (List.forall_mem_append.2 ⟨not_binds_of_obj?_ne hno2, List.forall_mem_cons.2 ⟨id, not_binds_of_obj?_ne hno3⟩⟩)

end LinOp.C17
