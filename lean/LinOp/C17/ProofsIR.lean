import LinOp.C17.IR
import LinOp.C17.Proofs2
/-! C17 — the canonical method table `IR.canon` seen through its lookups (`bodyOf_canon`), the class-level setter of every kind as
`setOnEnter` (`setterOf_canon`), what a run of `__init__` / `__enter__` / `__exit__` leaves behind (`runMethod_*`), and from these
one step of the simulation between the model's `step` and the machine `IR.stepIR` that executes the bodies (`sim_step`). -/
namespace LinOp.C17
open IR

theorem upd_self {β γ : Type} [DecidableEq β] (f : β → γ) (x y : β) : upd f x (f x) y = f y := by
  unfold upd; split
  · rename_i h; rw [h]
  · rfl

theorem upd_congr {β γ : Type} [DecidableEq β] {f f' : β → γ} (hf : ∀ y, f y = f' y) (x : β) {v v' : γ} (hv : v = v')
    (y : β) : upd f x v y = upd f' x v' y := by
  unfold upd; split
  · exact hv
  · exact hf y

theorem optRel_upd {R : ObjId → Obj → Obj → Prop} {f f' : ObjId → Option Obj} (hf : ∀ o, OptRel (R o) (f o) (f' o))
    (x : ObjId) {a b : Option Obj} (h : OptRel (R x) a b) (o : ObjId) : OptRel (R o) (upd f x a o) (upd f' x b o) := by
  unfold upd; split
  · rename_i e; rw [e]; exact h
  · exact hf o

theorem optRel_cases {r : Obj → Obj → Prop} : {a b : Option Obj} → OptRel r a b →
    (a = none ∧ b = none) ∨ ∃ x y, a = some x ∧ b = some y ∧ r x y
  | none, none, _ => .inl ⟨rfl, rfl⟩
  | some x, some y, h => .inr ⟨x, y, rfl, rfl, h⟩
  | none, some _, h => h.elim
  | some _, none, h => h.elim

section table
open Loc Expr Stmt Slot

/-- The rows of `canon` that the protocol looks up.  The table is keyed by strings; they are compared here, once, so that the
lemmas below run statement lists and never look anything up. -/
theorem bodyOf_canon :
    bodyOf canon "_feature_flag" "_set_state" = [assign (g a) (loc (arg a))] ∧
    bodyOf canon "deterministic_probes" "_set_state" = [callSuperSetter [loc (arg a)], assign (g b) none] ∧
    bodyOf canon "_value_context" "_set_value" = [assign (g a) (loc (arg a))] ∧
    bodyOf canon "_dtype_value_context" "_set_value" =
      [assignIfNotNone (g a) (arg a), assignIfNotNone (g b) (arg b), assignIfNotNone (g c) (arg c)] ∧
    bodyOf canon "_feature_flag" "__init__" = [assign (saved a) (loc (g a)), assign (inst a) (loc (arg a))] ∧
    bodyOf canon "_value_context" "__init__" = [assign (saved a) (valueOf a), assign (inst a) (loc (arg a))] ∧
    bodyOf canon "_dtype_value_context" "__init__" =
      [assign (saved a) (valueOf a), assign (inst a) (loc (arg a)), assign (saved b) (valueOf b), assign (inst b) (loc (arg b)),
       assign (saved c) (valueOf c), assign (inst c) (loc (arg c))] ∧
    bodyOf canon "_feature_flag" "__enter__" = [assign (saved a) (loc (g a)), callSetter [loc (inst a)]] ∧
    bodyOf canon "_value_context" "__enter__" = [assign (saved a) (valueOf a), callSetter [loc (inst a)]] ∧
    bodyOf canon "_dtype_value_context" "__enter__" =
      [assign (saved a) (valueOf a), assign (saved b) (valueOf b), assign (saved c) (valueOf c),
       callSetter [loc (inst a), loc (inst b), loc (inst c)]] ∧
    bodyOf canon "_feature_flag" "__exit__" = [callSetter [loc (saved a)], ret falseLit] ∧
    bodyOf canon "_value_context" "__exit__" = [callSetter [loc (saved a)], ret falseLit] ∧
    bodyOf canon "_dtype_value_context" "__exit__" =
      [assign (g a) (loc (saved a)), assign (g b) (loc (saved b)), assign (g c) (loc (saved c)), ret falseLit] := by
  decide +kernel

end table

/-- **The class-level setter a class of kind `k` resolves to is `setOnEnter k`, for every argument list**: `_set_state(state)`,
`_set_value(value)`, `_set_value(float, double, half)`, and `deterministic_probes._set_state`, which calls `super()` and then
clears the probe cache.  `__enter__` and `__exit__` call it with one argument or three. -/
theorem setterOf_canon (k : Kind) (as : List Val) (g : Slots) : setterOf canon k as g = setOnEnter k g (argsOf as) := by
  obtain ⟨h1, h2, h3, h4, -⟩ := bodyOf_canon
  cases k with
  | flag r => cases r <;> simp only [setterOf, baseName, setterName, h1, h2] <;> rfl
  | value => simp only [setterOf, baseName, setterName, h3]; rfl
  | dtype =>
    simp only [setterOf, baseName, setterName, h4, setterSem]
    -- the body tests each of the three arguments for `None`
    generalize argsOf as = v
    obtain ⟨va, vb, vc⟩ := v
    cases va <;> cases vb <;> cases vc <;> rfl

/-- The canonical `__init__` body writes no class attribute, records the constructor arguments as the instance value, and takes a
snapshot of the attributes (which `__enter__` overwrites before anything reads it). -/
theorem runMethod_init (k : Kind) (env : IR.Env) :
    (runMethod canon k "__init__" env).g = env.g ∧
    (∀ g', setOnEnter k g' (runMethod canon k "__init__" env).inst = setOnEnter k g' env.args) ∧
    ∀ g', restore k g' (runMethod canon k "__init__" env).saved = restore k g' env.g := by
  obtain ⟨-, -, -, -, h5, h6, h7, -⟩ := bodyOf_canon
  obtain ⟨g, inst, saved, args⟩ := env
  cases k with
  | flag r => simp only [runMethod, baseName, h5]; exact ⟨rfl, fun _ => rfl, fun _ => rfl⟩
  | value => simp only [runMethod, baseName, h6]; exact ⟨rfl, fun _ => rfl, fun _ => rfl⟩
  | dtype => simp only [runMethod, baseName, h7]; exact ⟨rfl, fun _ => rfl, fun _ => rfl⟩

/-- The canonical `__enter__` body installs `setOnEnter k g inst`, keeps the instance value, and the snapshot it takes restores
like the attributes it found (the code keeps only the slots its class uses; `restore k` reads no other). -/
theorem runMethod_enter (k : Kind) (env : IR.Env) :
    (runMethod canon k "__enter__" env).g = setOnEnter k env.g env.inst ∧ (runMethod canon k "__enter__" env).inst = env.inst ∧
    ∀ g', restore k g' (runMethod canon k "__enter__" env).saved = restore k g' env.g := by
  obtain ⟨-, -, -, -, -, -, -, h8, h9, h10, -⟩ := bodyOf_canon
  obtain ⟨g, inst, saved, args⟩ := env
  cases k with
  | flag r => simp only [runMethod, baseName, h8, exec, List.foldl, execStmt, setterOf_canon]; exact ⟨rfl, rfl, fun _ => rfl⟩
  | value => simp only [runMethod, baseName, h9, exec, List.foldl, execStmt, setterOf_canon]; exact ⟨rfl, rfl, fun _ => rfl⟩
  | dtype => simp only [runMethod, baseName, h10, exec, List.foldl, execStmt, setterOf_canon]; exact ⟨rfl, rfl, fun _ => rfl⟩

/-- The canonical `__exit__` body writes the snapshot back, changes nothing else, and ends in `return False`. -/
theorem runMethod_exit (k : Kind) (env : IR.Env) :
    IR.runMethod IR.canon k "__exit__" env = { env with g := restore k env.g env.saved } ∧
    IR.returnsFalse (IR.bodyOf IR.canon (IR.baseName k) "__exit__") = true := by
  obtain ⟨-, -, -, -, -, -, -, -, -, -, h11, h12, h13⟩ := bodyOf_canon
  obtain ⟨g, inst, saved, args⟩ := env
  cases k with
  | flag r => simp only [runMethod, baseName, h11, exec, List.foldl, execStmt, setterOf_canon]; exact ⟨rfl, rfl⟩
  | value => simp only [runMethod, baseName, h12, exec, List.foldl, execStmt, setterOf_canon]; exact ⟨rfl, rfl⟩
  | dtype => simp only [runMethod, baseName, h13, exec, List.foldl, execStmt]; exact ⟨rfl, rfl⟩

/-- **One event keeps the two machines related**: the hand-written `step` and `IR.stepIR`, which executes the canonical bodies. -/
theorem sim_step (K : Nat → Kind) (s1 s2 : State) (e : Event) (hs : IR.Sim K s1 s2) :
    IR.Sim K (step K s1 e) (IR.stepIR IR.canon K s2 e) := by
  obtain ⟨hg, ho⟩ := hs
  cases e with
  | construct o inst =>
    have hi := runMethod_init (K o.1) ⟨s2.globals o.1, IR.none3, IR.none3, inst⟩
    refine ⟨fun c => ?_, optRel_upd ho o ⟨fun g => (hi.2.1 g).symm, fun g => by rw [hi.2.2 g, hg]⟩⟩
    exact (hg c).trans ((upd_self s2.globals o.1 c).symm.trans (upd_congr (fun _ => rfl) o.1 hi.1.symm c))
  | enter o =>
    simp only [step, IR.stepIR]
    rcases optRel_cases (ho o) with ⟨h1, h2⟩ | ⟨a, b, h1, h2, hab⟩
    · rw [h1, h2]; exact ⟨hg, ho⟩
    · rw [h1, h2]
      have hi := runMethod_enter (K o.1) ⟨s2.globals o.1, b.inst, b.saved, IR.none3⟩
      exact ⟨upd_congr hg o.1 (by rw [hi.1, hg, hab.1]),
        optRel_upd ho o ⟨fun g => by rw [hi.2.1]; exact hab.1 g, fun g => by rw [hi.2.2 g, hg]⟩⟩
  | exit o exc =>
    simp only [step, IR.stepIR, (runMethod_exit _ _).1]
    rcases optRel_cases (ho o) with ⟨h1, h2⟩ | ⟨a, b, h1, h2, hab⟩
    · rw [h1, h2]; exact ⟨hg, ho⟩
    · rw [h1, h2]
      refine ⟨upd_congr hg o.1 (by rw [hg]; exact hab.2 _), fun o' => ?_⟩
      rw [← upd_self s1.objs o o', h1]
      exact optRel_upd ho o (a := some a) (b := some _) hab o'
  | poke c v => exact ⟨upd_congr hg c (by rw [hg]), ho⟩
  | set c v => exact ⟨upd_congr hg c (by rw [setterOf_canon, hg]; rfl), ho⟩

end LinOp.C17
