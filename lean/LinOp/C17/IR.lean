import LinOp.C17.Model
/-!
C17 — a small statement IR for the method bodies of `settings.py`'s three context base classes (and
`deterministic_probes._set_state`), an executable semantics for it, and the hand-written canonical bodies.
`harness/extract/c17_bodies.py` translates the Python `ast` of today's source into this IR
(`LinOp/Generated/C17Bodies.lean`); `Properties/C17.lean` pins generated = canonical (`bodies_pinned`, `readers_pinned`, `composite_bodies_pinned`) and proves,
for ALL values, that the canonical bodies compute the model's `setOnEnter` / `restore` / snapshot.  Core Lean only.
-/
namespace LinOp.C17.IR
open LinOp.C17

inductive Loc
  | g (i : Slot)      -- class attribute through `cls.X` / `self.__class__.X`: `_state`, `_global_value`,
                      -- `_global_{float,double,half}_value` (a,b,c); `probe_vectors` is slot b of a flag class
  | saved (i : Slot)  -- `self.prev`, `self._orig_value`, `self._orig_{float,double,half}_value`
  | inst (i : Slot)   -- `self.state`, `self._instance_value`, `self._instance_{float,double,half}_value`
  | arg (i : Slot)    -- i-th parameter after `self` / `cls`
  deriving DecidableEq, Repr

inductive Expr
  | loc (l : Loc)
  | none
  | falseLit
  | valueOf (i : Slot)  -- `self.__class__.value()` / `self.__class__.value(dtype=torch.{float,double,half})`
  deriving DecidableEq, Repr

inductive Stmt
  | assign (dst : Loc) (e : Expr)
  | assignIfNotNone (dst : Loc) (src : Loc)   -- `if src is not None: dst = src`
  | callSetter (args : List Expr)             -- `self.__class__._set_state(…)` / `self.__class__._set_value(…)`
  | callSuperSetter (args : List Expr)        -- `super()._set_state(…)`
  | ret (e : Expr)
  | other (text : String)                     -- anything the translator does not recognise
  deriving DecidableEq, Repr

structure Method where
  cls : String
  name : String
  params : List String     -- parameters with defaults, as source text
  body : List Stmt
  deriving DecidableEq, Repr

structure Env where
  g : Slots
  inst : Slots
  saved : Slots
  args : Slots
  deriving DecidableEq, Repr

def Env.read (env : Env) : Loc → Val
  | .g i => env.g.get i
  | .saved i => env.saved.get i
  | .inst i => env.inst.get i
  | .arg i => env.args.get i

def Env.write (env : Env) (l : Loc) (v : Val) : Env :=
  match l with
  | .g i => { env with g := env.g.put i v }
  | .saved i => { env with saved := env.saved.put i v }
  | .inst i => { env with inst := env.inst.put i v }
  | .arg i => { env with args := env.args.put i v }

def Env.eval (env : Env) : Expr → Val
  | .loc l => env.read l
  | .none => none
  | .falseLit => some 0
  | .valueOf i => env.g.get i

def argsOf : List Val → Slots
  | [] => ⟨none, none, none⟩
  | [x] => ⟨x, none, none⟩
  | [x, y] => ⟨x, y, none⟩
  | x :: y :: z :: _ => ⟨x, y, z⟩

/-- Semantics of a class-level setter: argument values → transformation of the class attributes. -/
abbrev SetterSem := List Val → Slots → Slots

def execStmt (call callSuper : SetterSem) (env : Env) : Stmt → Env
  | .assign dst e => env.write dst (env.eval e)
  | .assignIfNotNone dst src =>
      match env.read src with
      | none => env
      | some v => env.write dst (some v)
  | .callSetter as => { env with g := call (as.map env.eval) env.g }
  | .callSuperSetter as => { env with g := callSuper (as.map env.eval) env.g }
  | .ret _ => env
  | .other _ => env

def exec (call callSuper : SetterSem) (env : Env) (body : List Stmt) : Env :=
  body.foldl (execStmt call callSuper) env

def noCall : SetterSem := fun _ g => g

/-- A setter body as a `SetterSem` (its own nested `cls._set_*` calls do not occur; `super()` calls go to `sup`). -/
def setterSem (sup : SetterSem) (body : List Stmt) : SetterSem :=
  fun as g => (exec noCall sup ⟨g, ⟨none, none, none⟩, ⟨none, none, none⟩, argsOf as⟩ body).g

/-- `__exit__` returns `False` (never swallows an exception): the last statement is `return False`. -/
def returnsFalse (body : List Stmt) : Bool := body.getLast? == some (Stmt.ret Expr.falseLit)

def noOther (body : List Stmt) : Bool := body.all fun s => match s with | .other _ => false | _ => true

/-! ### Canonical bodies (what the model's `step` was written from) -/
open Loc Expr Stmt Slot in
def canon : List Method := [
  ⟨"_dtype_value_context", "_set_value", ["float_value", "double_value", "half_value"],
    [assignIfNotNone (g a) (arg a), assignIfNotNone (g b) (arg b), assignIfNotNone (g c) (arg c)]⟩,
  ⟨"_dtype_value_context", "__init__", ["float_value=None", "double_value=None", "half_value=None"],
    [assign (saved a) (valueOf a), assign (inst a) (loc (arg a)),
     assign (saved b) (valueOf b), assign (inst b) (loc (arg b)),
     assign (saved c) (valueOf c), assign (inst c) (loc (arg c))]⟩,
  ⟨"_dtype_value_context", "__enter__", [],
    [assign (saved a) (valueOf a), assign (saved b) (valueOf b), assign (saved c) (valueOf c),
     callSetter [loc (inst a), loc (inst b), loc (inst c)]]⟩,
  ⟨"_dtype_value_context", "__exit__", ["*args"],
    [assign (g a) (loc (saved a)), assign (g b) (loc (saved b)), assign (g c) (loc (saved c)), ret falseLit]⟩,
  ⟨"_feature_flag", "_set_state", ["state"], [assign (g a) (loc (arg a))]⟩,
  ⟨"_feature_flag", "__init__", ["state=True"], [assign (saved a) (loc (g a)), assign (inst a) (loc (arg a))]⟩,
  ⟨"_feature_flag", "__enter__", [], [assign (saved a) (loc (g a)), callSetter [loc (inst a)]]⟩,
  ⟨"_feature_flag", "__exit__", ["*args"], [callSetter [loc (saved a)], ret falseLit]⟩,
  ⟨"_value_context", "_set_value", ["value"], [assign (g a) (loc (arg a))]⟩,
  ⟨"_value_context", "__init__", ["value"], [assign (saved a) (valueOf a), assign (inst a) (loc (arg a))]⟩,
  ⟨"_value_context", "__enter__", [], [assign (saved a) (valueOf a), callSetter [loc (inst a)]]⟩,
  ⟨"_value_context", "__exit__", ["*args"], [callSetter [loc (saved a)], ret falseLit]⟩,
  ⟨"deterministic_probes", "_set_state", ["state"], [callSuperSetter [loc (arg a)], assign (g b) none]⟩]

/-! ### Canonical reader methods and composite methods (normalised source text) -/
def canonReaders : List (String × String × List String × List String) := [
  ("_dtype_value_context", "value", ["@classmethod", "cls", "dtype"],
    ["if torch.is_tensor(dtype):\n    dtype = dtype.dtype", "if dtype == torch.float:\n    return cls._global_float_value\nelif dtype == torch.double:\n    return cls._global_double_value\nelif dtype == torch.half:\n    return cls._global_half_value\nelse:\n    raise RuntimeError(f'Unsupported dtype for {cls.__name__}.')"]),
  ("_feature_flag", "is_default", ["@classmethod", "cls"],
    ["return cls._state is None"]),
  ("_feature_flag", "on", ["@classmethod", "cls"],
    ["if cls.is_default():\n    return cls._default", "return cls._state"]),
  ("_feature_flag", "off", ["@classmethod", "cls"],
    ["return not cls.on()"]),
  ("_value_context", "value", ["@classmethod", "cls"],
    ["return cls._global_value"])]

def canonComposite : List (String × String × List String × List String) := [
  ("fast_computations", "__init__", ["self", "covar_root_decomposition=True", "log_prob=True", "solves=True"],
    ["self.covar_root_decomposition = _fast_covar_root_decomposition(covar_root_decomposition)", "self.log_prob = _fast_log_prob(log_prob)", "self.solves = _fast_solves(solves)"]),
  ("fast_computations", "__enter__", ["self"],
    ["self.covar_root_decomposition.__enter__()", "self.log_prob.__enter__()", "self.solves.__enter__()"]),
  ("fast_computations", "__exit__", ["self", "*args"],
    ["self.covar_root_decomposition.__exit__()", "self.log_prob.__exit__()", "self.solves.__exit__()", "return False"]),
  ("linalg_dtypes", "__init__", ["self", "default=torch.double", "symeig=None", "cholesky=None"],
    ["symeig = default if symeig is None else symeig", "cholesky = default if cholesky is None else cholesky", "self.symeig = _linalg_dtype_symeig(symeig)", "self.cholesky = _linalg_dtype_cholesky(cholesky)"]),
  ("linalg_dtypes", "__enter__", ["self"],
    ["self.symeig.__enter__()", "self.cholesky.__enter__()"]),
  ("linalg_dtypes", "__exit__", ["self", "*args"],
    ["self.symeig.__exit__()", "self.cholesky.__exit__()", "return False"])]

/-- The composites' methods once notes/C17_fix_1.diff is applied (`__enter__` undoes the members entered so far when a
later member's `__enter__` raises, then re-raises). -/
def canonCompositeFixed : List (String × String × List String × List String) := [
  ("fast_computations", "__init__", ["self", "covar_root_decomposition=True", "log_prob=True", "solves=True"],
    ["self.covar_root_decomposition = _fast_covar_root_decomposition(covar_root_decomposition)", "self.log_prob = _fast_log_prob(log_prob)", "self.solves = _fast_solves(solves)"]),
  ("fast_computations", "__enter__", ["self"],
    ["entered = []", "try:\n    self.covar_root_decomposition.__enter__()\n    entered.append(self.covar_root_decomposition)\n    self.log_prob.__enter__()\n    entered.append(self.log_prob)\n    self.solves.__enter__()\nexcept BaseException:\n    for ctx in entered:\n        ctx.__exit__()\n    raise"]),
  ("fast_computations", "__exit__", ["self", "*args"],
    ["self.covar_root_decomposition.__exit__()", "self.log_prob.__exit__()", "self.solves.__exit__()", "return False"]),
  ("linalg_dtypes", "__init__", ["self", "default=torch.double", "symeig=None", "cholesky=None"],
    ["symeig = default if symeig is None else symeig", "cholesky = default if cholesky is None else cholesky", "self.symeig = _linalg_dtype_symeig(symeig)", "self.cholesky = _linalg_dtype_cholesky(cholesky)"]),
  ("linalg_dtypes", "__enter__", ["self"],
    ["entered = []", "try:\n    self.symeig.__enter__()\n    entered.append(self.symeig)\n    self.cholesky.__enter__()\nexcept BaseException:\n    for ctx in entered:\n        ctx.__exit__()\n    raise"]),
  ("linalg_dtypes", "__exit__", ["self", "*args"],
    ["self.symeig.__exit__()", "self.cholesky.__exit__()", "return False"])]

def bodyOf (ms : List Method) (cls name : String) : List Stmt :=
  match ms.find? (fun m => m.cls == cls && m.name == name) with
  | some m => m.body
  | none => [Stmt.other "missing"]

def baseName : Kind → String
  | .flag _ => "_feature_flag"
  | .value => "_value_context"
  | .dtype => "_dtype_value_context"

def setterName : Kind → String
  | .flag _ => "_set_state"
  | _ => "_set_value"

/-- The setter a class of kind `k` resolves to (`deterministic_probes` overrides `_set_state` and calls `super()`). -/
def setterOf (ms : List Method) (k : Kind) : SetterSem :=
  let base := setterSem noCall (bodyOf ms (baseName k) (setterName k))
  match k with
  | .flag true => setterSem base (bodyOf ms "deterministic_probes" "_set_state")
  | _ => base

/-- Run method `name` of the base class of kind `k`. -/
def runMethod (ms : List Method) (k : Kind) (name : String) (env : Env) : Env :=
  exec (setterOf ms k) noCall env (bodyOf ms (baseName k) name)

/-! ### The state machine obtained by EXECUTING the method bodies (`ms`) instead of the hand-written `step` -/

def none3 : Slots := ⟨none, none, none⟩

/-- One event, executed through the IR bodies `ms`: `construct` runs `__init__` (arguments = the instance value),
`enter` / `exit` run `__enter__` / `__exit__` on the object's fields and the class attributes, `set` runs the class's setter. -/
def stepIR (ms : List Method) (K : Nat → Kind) (s : State) : Event → State
  | .construct o inst =>
      let r := runMethod ms (K o.1) "__init__" ⟨s.globals o.1, none3, none3, inst⟩
      { globals := upd s.globals o.1 r.g, objs := upd s.objs o (some ⟨r.inst, r.saved⟩) }
  | .enter o =>
      match s.objs o with
      | none => s
      | some ob =>
          let r := runMethod ms (K o.1) "__enter__" ⟨s.globals o.1, ob.inst, ob.saved, none3⟩
          { globals := upd s.globals o.1 r.g, objs := upd s.objs o (some ⟨r.inst, r.saved⟩) }
  | .exit o _ =>
      match s.objs o with
      | none => s
      | some ob =>
          let r := runMethod ms (K o.1) "__exit__" ⟨s.globals o.1, ob.inst, ob.saved, none3⟩
          { globals := upd s.globals o.1 r.g, objs := upd s.objs o (some ⟨r.inst, r.saved⟩) }
  | .poke c v => { s with globals := upd s.globals c { s.globals c with b := v } }
  | .set c v => { s with globals := upd s.globals c (setterOf ms (K c) [v.a, v.b, v.c] (s.globals c)) }

def runIR (ms : List Method) (K : Nat → Kind) (s : State) (h : List Event) : State := h.foldl (stepIR ms K) s

/-- Two object records are indistinguishable for kind `k`: they install the same value and restore the same value
(the code keeps only the slots its class uses; the model keeps all three). -/
def ObjEq (k : Kind) (o1 o2 : Obj) : Prop :=
  (∀ g, setOnEnter k g o1.inst = setOnEnter k g o2.inst) ∧ (∀ g, restore k g o1.saved = restore k g o2.saved)

def OptRel (r : Obj → Obj → Prop) : Option Obj → Option Obj → Prop
  | none, none => True
  | some a, some b => r a b
  | _, _ => False

/-- Simulation relation between the model state and the IR-executed state: identical class attributes, pairwise
indistinguishable objects. -/
def Sim (K : Nat → Kind) (s1 s2 : State) : Prop :=
  (∀ c, s1.globals c = s2.globals c) ∧ ∀ o, OptRel (ObjEq (K o.1)) (s1.objs o) (s2.objs o)

end LinOp.C17.IR
