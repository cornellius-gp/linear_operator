import LinOp.C13.Proofs
/-!
The analysis over bit masks (core Lean only).  A taint set is a set of formals `< k = fn.nparams`, so it fits a
`k`-bit mask, and the abstract environment fits one number with a `k`-bit field per variable.  Unions become
`|||`, the join of two environments is a single `|||`, inclusion is `a ||| b == b`; the kernel evaluates these
on literals with its built-in `Nat` arithmetic, whereas the list form rebuilds every list cell by cell.
`tableOK_of_tableOKB`: whatever the mask form accepts the list form `tableOK` accepts; the generated tables are
checked chunk by chunk and the chunks' results put together by `tableOK_append`.
-/
namespace LinOp.C13

/-! ### sets as masks -/

/-- the set `l` as a bit mask -/
def bits : List Nat → Nat
  | [] => 0
  | p :: ps => 2 ^ p ||| bits ps

/-- `a ⊆ b` on masks -/
def subB (a b : Nat) : Bool := a ||| b == b

theorem testBit_bits (l : List Nat) (p : Nat) : (bits l).testBit p = decide (p ∈ l) := by
  induction l with
  | nil => simp [bits]
  | cons q qs ih => simp [bits, Nat.testBit_two_pow, ih, eq_comm]

theorem bits_or {a b c : List Nat} (h : ∀ p, p ∈ c ↔ p ∈ a ∨ p ∈ b) : bits c = bits a ||| bits b :=
  Nat.eq_of_testBit_eq fun p => by simp [testBit_bits, h]

theorem bits_lt {k : Nat} {l : List Nat} (h : ∀ p ∈ l, p < k) : bits l < 2 ^ k :=
  Nat.lt_pow_two_of_testBit _ fun i hi => by
    rw [testBit_bits, decide_eq_false_iff_not]
    exact fun hm => Nat.lt_irrefl _ (Nat.lt_of_lt_of_le (h i hm) hi)

theorem mem_of_subB {a b : List Nat} (h : subB (bits a) (bits b) = true) : ∀ p ∈ a, p ∈ b := by
  intro p hp
  have := congrArg (·.testBit p) (beq_iff_eq.1 h)
  simpa [testBit_bits, hp] using this

theorem sub_of_subB {a b : List Nat} (h : subB (bits a) (bits b) = true) : sub a b = true :=
  sub_of_mem (mem_of_subB h)

/-! ### the environment as one number: variable `x` owns bits `x * k … x * k + k - 1` -/

/-- field `x` of the packed environment `e` -/
def lookB (k e x : Nat) : Nat := (e >>> (x * k)) % 2 ^ k

/-- `e` with field `x` replaced by `v < 2 ^ k`: the old field is xor-ed out, `v` xor-ed in -/
def asetB (k e x v : Nat) : Nat := (e ^^^ (lookB k e x <<< (x * k))) ^^^ (v <<< (x * k))

/-- the list environment packed into one number (every taint must be `< k`) -/
def envB (k : Nat) : AEnv → Nat
  | [] => 0
  | h :: t => bits h ||| (envB k t <<< k)

theorem testBit_lookB (k e x j : Nat) : (lookB k e x).testBit j = (decide (j < k) && e.testBit (x * k + j)) := by
  simp [lookB]

theorem lookB_lt (k e x : Nat) : lookB k e x < 2 ^ k := Nat.mod_lt _ (Nat.two_pow_pos k)

theorem testBit_of_lt {k v j : Nat} (hv : v < 2 ^ k) (hj : k ≤ j) : v.testBit j = false :=
  Nat.testBit_lt_two_pow (Nat.lt_of_lt_of_le hv (Nat.pow_le_pow_right (by decide) hj))

theorem lookB_or (k e₁ e₂ x : Nat) : lookB k (e₁ ||| e₂) x = lookB k e₁ x ||| lookB k e₂ x := by
  simp [lookB, Nat.shiftRight_or_distrib, Nat.or_mod_two_pow]

/-- fields of different variables do not overlap -/
theorem field_sep {k x y j : Nat} (hj : j < k) (h : y ≠ x) : y * k + j < x * k ∨ x * k + k ≤ y * k + j := by
  rcases Nat.lt_or_gt_of_ne h with h | h
  · have := Nat.mul_le_mul_right k (Nat.succ_le_of_lt h)
    rw [Nat.succ_mul] at this
    omega
  · have := Nat.mul_le_mul_right k (Nat.succ_le_of_lt h)
    rw [Nat.succ_mul] at this
    omega

theorem lookB_asetB {k v : Nat} (hv : v < 2 ^ k) (e x y : Nat) :
    lookB k (asetB k e x v) y = if y = x then v else lookB k e y := by
  -- bit by bit: inside field `x` the old field cancels against itself and `v` remains; a bit of another field lies
  -- below or above field `x` (`field_sep`), where the two shifted terms have no bit set
  refine Nat.eq_of_testBit_eq fun j => ?_
  by_cases hj : j < k
  · by_cases hy : y = x
    · subst hy
      simp [testBit_lookB, asetB, hj]
    · rcases field_sep hj hy with h | h
      · simp [testBit_lookB, asetB, hj, hy, Nat.not_le_of_lt h]
      · have h1 : x * k ≤ y * k + j := by omega
        have h2 : k ≤ y * k + j - x * k := by omega
        simp [testBit_lookB, asetB, hj, hy, h1, Nat.not_lt_of_le h2, testBit_of_lt hv h2]
  · have hj := Nat.le_of_not_lt hj
    split <;> simp [testBit_lookB, Nat.not_lt_of_le hj, testBit_of_lt hv hj]

theorem lookB_envB {k : Nat} : ∀ {e : AEnv}, (∀ l ∈ e, ∀ p ∈ l, p < k) → ∀ x, lookB k (envB k e) x = bits (look e x)
  | [], _, x => by simp [envB, lookB, look_nil, bits]
  | h :: t, hs, x => by
    -- the head fills field 0 only (`bits h < 2 ^ k`); field `x + 1` is field `x` of the tail
    have hh : bits h < 2 ^ k := bits_lt (hs h (List.mem_cons_self ..))
    have ih := lookB_envB (e := t) fun l hl => hs l (List.mem_cons_of_mem _ hl)
    refine Nat.eq_of_testBit_eq fun j => ?_
    cases x with
    | zero =>
      by_cases hj : j < k
      · simp [testBit_lookB, envB, look, hj, Nat.not_le_of_lt hj]
      · simp [testBit_lookB, envB, look, hj, testBit_of_lt hh (Nat.le_of_not_lt hj)]
    | succ x =>
      have h1 : k ≤ (x + 1) * k + j := by rw [Nat.succ_mul]; omega
      have h2 : (x + 1) * k + j - k = x * k + j := by rw [Nat.succ_mul]; omega
      rw [look, ← ih x]
      simp [testBit_lookB, envB, h1, h2, testBit_of_lt hh h1]

/-! ### the analysis on masks -/

/-- `AState` with the environment packed (`envB`) and the two sets as masks -/
structure BState where
  env : Nat
  w : Nat
  r : Nat
  ok : Bool

def tjB (k e : Nat) : List Var → Nat
  | [] => 0
  | y :: ys => lookB k e y ||| tjB k e ys

def tjArgsB (k e : Nat) (args : List Var) : List Nat → Nat
  | [] => 0
  | i :: is => match args[i]? with
    | some y => lookB k e y ||| tjArgsB k e args is
    | none => tjArgsB k e args is

/-- `analyse` for a function with `k` formals, callee summaries found by `lk`.  A loop invariant whose
environment mentions a taint `≥ k` is rejected (it would not fit its field). -/
def analyseB (k : Nat) (lk : Nat → Option Summary) : Stmt → BState → BState
  | .skip, a => a
  | .assign x r, a => { a with env := asetB k a.env x (tjB k a.env r.src) }
  | .write x, a => { a with w := lookB k a.env x ||| a.w }
  | .ret x, a => { a with r := lookB k a.env x ||| a.r }
  | .seq s t, a => analyseB k lk t (analyseB k lk s a)
  | .ifStar s t, a =>
      let a1 := analyseB k lk s a
      let a2 := analyseB k lk t a
      ⟨a1.env ||| a2.env, a1.w ||| a2.w, a1.r ||| a2.r, a1.ok && a2.ok⟩
  | .whileStar inv b, a =>
      let ie := envB k inv.env
      let iw := bits inv.w
      let ir := bits inv.r
      let c := analyseB k lk b ⟨ie, iw, ir, true⟩
      ⟨ie, iw, ir,
        inv.env.all (·.all (· < k)) && a.ok && (subB a.env ie && subB a.w iw && subB a.r ir) &&
        (c.ok && subB c.env ie && subB c.w iw && subB c.r ir)⟩
  | .call x f args, a =>
      match lk f with
      | none => { a with ok := false }
      | some σ =>
        { a with env := asetB k a.env x (tjArgsB k a.env args σ.rets), w := tjArgsB k a.env args σ.muts ||| a.w }

def fnOKB (lk : Nat → Option Summary) (fn : Fn) (σ : Summary) : Bool :=
  let k := fn.nparams
  let r := analyseB k lk fn.body ⟨envB k (entryA k).env, 0, 0, true⟩
  r.ok && subB r.w (bits σ.muts) && subB r.r (bits σ.rets)

def tableOKB (lk : Nat → Option Summary) : List Summary → List Fn → Bool
  | [], [] => true
  | σ :: σs, fn :: fns => fnOKB lk fn σ && tableOKB lk σs fns
  | _, _ => false

/-! ### the mask form describes the list form -/

/-- as long as the mask state is `ok`, it is the list state read as masks -/
structure Rel (k : Nat) (a : AState) (b : BState) : Prop where
  env : ∀ x, lookB k b.env x = bits (look a.env x)
  w : b.w = bits a.w
  r : b.r = bits a.r
  ok : a.ok = true

theorem tjB_eq {k e : Nat} {a : AEnv} (h : ∀ x, lookB k e x = bits (look a x)) (ys : List Var) :
    tjB k e ys = bits (tj a ys) := by
  induction ys with
  | nil => rfl
  | cons y ys ih => rw [tjB, tj, h, ih]; exact (bits_or fun p => mem_uni).symm

theorem tjArgsB_eq {k e : Nat} {a : AEnv} (h : ∀ x, lookB k e x = bits (look a x)) (args : List Var) (is : List Nat) :
    tjArgsB k e args is = bits (tjArgs a args is) := by
  induction is with
  | nil => rfl
  | cons i is ih =>
    rw [tjArgsB, tjArgs]
    cases args[i]? with
    | none => exact ih
    | some y => simp only [h, ih]; exact (bits_or fun p => mem_uni).symm

theorem tjB_lt (k e : Nat) (ys : List Var) : tjB k e ys < 2 ^ k := by
  induction ys with
  | nil => exact Nat.two_pow_pos k
  | cons y ys ih => exact Nat.or_lt_two_pow (lookB_lt ..) ih

theorem tjArgsB_lt (k e : Nat) (args : List Var) (is : List Nat) : tjArgsB k e args is < 2 ^ k := by
  induction is with
  | nil => exact Nat.two_pow_pos k
  | cons i is ih =>
    rw [tjArgsB]
    cases args[i]? with
    | none => exact ih
    | some y => exact Nat.or_lt_two_pow (lookB_lt ..) ih

theorem okB_mono (k : Nat) (lk : Nat → Option Summary) (s : Stmt) (b : BState) :
    (analyseB k lk s b).ok = true → b.ok = true := by
  induction s generalizing b with
  | seq s t ihs iht => exact fun h => ihs _ (iht _ h)
  | ifStar s t ihs _ => intro h; simp only [analyseB, Bool.and_eq_true] at h; exact ihs _ h.1
  | whileStar inv c _ => intro h; simp only [analyseB, Bool.and_eq_true] at h; exact h.1.1.2
  | call x f args =>
    intro h
    unfold analyseB at h
    cases hf : lk f with
    | none => simp [hf] at h
    | some σ => simpa [hf] using h
  | _ => exact id

section
variable {k : Nat} {lk : Nat → Option Summary} {Sg : List Summary} (hlk : ∀ f, lk f = Sg[f]?)
include hlk

theorem analyseB_rel (s : Stmt) : ∀ {a : AState} {b : BState}, (b.ok = true → Rel k a b) →
    (analyseB k lk s b).ok = true → Rel k (analyse Sg s a) (analyseB k lk s b) := by
  induction s with
  | skip => exact fun h hb => h hb
  | assign x r =>
    intro a b h hb
    have h := h hb
    refine ⟨fun y => ?_, h.w, h.r, h.ok⟩
    show lookB k (asetB k b.env x (tjB k b.env r.src)) y = bits (look (aset a.env x (tj a.env r.src)) y)
    rw [lookB_asetB (tjB_lt ..), look_aset, tjB_eq h.env]
    by_cases hy : y = x <;> simp [hy, h.env]
  | write x =>
    intro a b h hb
    have h := h hb
    exact ⟨h.env, by simp only [analyseB, analyse, h.env, h.w]; exact (bits_or fun p => mem_uni).symm, h.r, h.ok⟩
  | ret x =>
    intro a b h hb
    have h := h hb
    exact ⟨h.env, h.w, by simp only [analyseB, analyse, h.env, h.r]; exact (bits_or fun p => mem_uni).symm, h.ok⟩
  | seq s t ihs iht =>
    intro a b h hb
    exact iht (fun hb' => ihs h hb') hb
  | ifStar s t ihs iht =>
    intro a b h hb
    simp only [analyseB, Bool.and_eq_true] at hb
    have h1 := ihs h hb.1
    have h2 := iht h hb.2
    refine ⟨fun x => ?_, ?_, ?_, ?_⟩
    · simp only [analyseB, analyse, lookB_or, h1.env, h2.env]
      exact (bits_or fun p => mem_look_ajoin ..).symm
    · simp only [analyseB, analyse, h1.w, h2.w]; exact (bits_or fun p => mem_uni).symm
    · simp only [analyseB, analyse, h1.r, h2.r]; exact (bits_or fun p => mem_uni).symm
    · simp only [analyse, h1.ok, h2.ok, Bool.and_self]
  | whileStar inv c ih =>
    intro a b h hb
    simp only [analyseB, Bool.and_eq_true, List.all_eq_true, decide_eq_true_eq] at hb
    obtain ⟨⟨⟨hinv, hbok⟩, ⟨hae, haw⟩, har⟩, ⟨⟨hcok, hce⟩, hcw⟩, hcr⟩ := hb
    have h := h hbok
    have henv := lookB_envB hinv
    have hc := ih (a := ⟨inv.env, inv.w, inv.r, true⟩) (fun _ => ⟨henv, rfl, rfl, rfl⟩) hcok
    -- inclusion of packed environments is inclusion field by field
    have hale : ∀ {e : Nat} {l : AEnv}, (∀ x, lookB k e x = bits (look l x)) → subB e (envB k inv.env) = true →
        ale l inv.env = true := fun he hs => ale_of_look fun x => mem_of_subB (by
      have := congrArg (lookB k · x) (beq_iff_eq.1 hs)
      simpa [subB, lookB_or, he, henv] using this)
    refine ⟨henv, rfl, rfl, ?_⟩
    simp only [analyse, Bool.and_eq_true]
    exact ⟨⟨h.ok, ⟨hale h.env hae, sub_of_subB (h.w ▸ haw)⟩, sub_of_subB (h.r ▸ har)⟩,
      ⟨⟨hc.ok, hale hc.env hce⟩, sub_of_subB (hc.w ▸ hcw)⟩, sub_of_subB (hc.r ▸ hcr)⟩
  | call x f args =>
    intro a b h hb
    have h := h (okB_mono k lk _ b hb)
    unfold analyseB at hb ⊢
    unfold analyse
    rw [← hlk f]
    cases hf : lk f with
    | none => simp [hf] at hb
    | some σ =>
      refine ⟨fun y => ?_, ?_, h.r, h.ok⟩
      · show lookB k (asetB k b.env x (tjArgsB k b.env args σ.rets)) y = bits (look (aset a.env x (tjArgs a.env args σ.rets)) y)
        rw [lookB_asetB (tjArgsB_lt ..), look_aset, tjArgsB_eq h.env]
        by_cases hy : y = x <;> simp [hy, h.env]
      · simp only [tjArgsB_eq h.env, h.w]; exact (bits_or fun p => mem_uni).symm

theorem fnOK_of_fnOKB {fn : Fn} {σ : Summary} (h : fnOKB lk fn σ = true) : fnOK Sg fn σ = true := by
  simp only [fnOKB, Bool.and_eq_true] at h
  -- the entry environment `[[0], …, [k - 1]]` fits the fields
  have hfit : ∀ l ∈ (entryA fn.nparams).env, ∀ p ∈ l, p < fn.nparams := by
    intro l hl p hp
    simp only [entryA, List.mem_map, List.mem_range] at hl
    obtain ⟨i, hi, rfl⟩ := hl
    exact List.mem_singleton.1 hp ▸ hi
  have hr := analyseB_rel hlk fn.body (a := entryA fn.nparams) (fun _ => ⟨lookB_envB hfit, rfl, rfl, rfl⟩) h.1.1
  simp only [fnOK, Bool.and_eq_true]
  exact ⟨⟨hr.ok, sub_of_subB (hr.w ▸ h.1.2)⟩, sub_of_subB (hr.r ▸ h.2)⟩

theorem tableOK_of_tableOKB : ∀ {σs : List Summary} {fns : List Fn}, tableOKB lk σs fns = true → tableOK Sg σs fns = true
  | [], [], _ => rfl
  | σ :: σs, fn :: fns, h => by
    simp only [tableOKB, tableOK, Bool.and_eq_true] at h ⊢
    exact ⟨fnOK_of_fnOKB hlk h.1, tableOK_of_tableOKB h.2⟩
  | [], _ :: _, h => by simp [tableOKB] at h
  | _ :: _, [], h => by simp [tableOKB] at h

end

theorem tableOK_append (Sg : List Summary) :
    ∀ {σ1 : List Summary} {f1 : List Fn} {σ2 : List Summary} {f2 : List Fn},
      tableOK Sg σ1 f1 = true → tableOK Sg σ2 f2 = true → tableOK Sg (σ1 ++ σ2) (f1 ++ f2) = true
  | [], [], _, _, _, h2 => h2
  | σ :: σs, g :: gs, σ2, f2, h1, h2 => by
    simp only [tableOK, Bool.and_eq_true, List.cons_append] at h1 ⊢
    exact ⟨h1.1, tableOK_append Sg h1.2 h2⟩
  | [], _ :: _, _, _, h1, _ => by simp [tableOK] at h1
  | _ :: _, [], _, _, h1, _ => by simp [tableOK] at h1

end LinOp.C13
