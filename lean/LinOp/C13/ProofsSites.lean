import LinOp.C13.Sites
/-!
`countW` consults the summary table only through `Sg[f]?`.  `countWWith` is `countW` with that lookup as a
parameter, so that the kernel can count the write operations of a generated body with the (chunk, offset)
lookup of `ProofsLookup.lean` instead of walking the whole table at every call statement (core Lean only).
-/
namespace LinOp.C13

def mutatingWith (lk : Nat → Option Summary) (f : Nat) : Bool :=
  match lk f with
  | some σ => !σ.muts.isEmpty
  | none => true

def countWWith (lk : Nat → Option Summary) : Stmt → Nat
  | .skip => 0
  | .assign _ _ => 0
  | .write _ => 1
  | .ret _ => 0
  | .call _ f _ => if mutatingWith lk f then 1 else 0
  | .seq s t => countWWith lk s + countWWith lk t
  | .ifStar s t => countWWith lk s + countWWith lk t
  | .whileStar _ b => countWWith lk b

theorem countWWith_eq {lk : Nat → Option Summary} {Sg : List Summary} (h : ∀ f, lk f = Sg[f]?) (s : Stmt) :
    countWWith lk s = countW Sg s := by
  induction s with
  | call x f args => simp only [countWWith, countW, mutatingWith, mutating, h]; rfl
  | seq s t ihs iht => simp only [countWWith, countW, ihs, iht]
  | ifStar s t ihs iht => simp only [countWWith, countW, ihs, iht]
  | whileStar inv b ih => simp only [countWWith, countW, ih]
  | _ => rfl

end LinOp.C13
