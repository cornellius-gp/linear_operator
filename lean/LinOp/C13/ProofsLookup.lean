import LinOp.C13.Model
/-!
Looking up a callee's summary.  `Sg[f]?` walks `f` cells of the summary table; the kernel pays for each, and the
tables printed from the source have several hundred entries.  `lookup2` finds the entry by (chunk, offset) in
the table cut into chunks of equal length, in at most `#chunks + chunk length` steps; `lookup2_eq` says it is
`Sg[·]?` (core Lean only).
-/
namespace LinOp.C13

def mutsWithinWith (lk : Nat → Option Summary) (f : Nat) (allowed : List Nat) : Bool :=
  match lk f with
  | none => false
  | some σ => sub σ.muts allowed

theorem mutsWithinWith_eq {lk : Nat → Option Summary} {Sg : List Summary} (h : ∀ f, lk f = Sg[f]?) (f : Nat)
    (allowed : List Nat) : mutsWithinWith lk f allowed = mutsWithin Sg f allowed := by
  simp only [mutsWithinWith, mutsWithin, h]; rfl

/-! ### two-level lookup -/

variable {α : Type}

/-- entry `f` of `chunks.flatten` when every chunk but the last has length `c` -/
def lookup2 (chunks : List (List α)) (c f : Nat) : Option α :=
  match chunks[f / c]? with
  | none => none
  | some l => l[f % c]?

/-- every chunk has length `c`, except that the last may be shorter -/
def uniform (c : Nat) : List (List α) → Bool
  | [] => true
  | [l] => l.length ≤ c
  | l :: ls => l.length == c && uniform c ls

theorem lookup2_flatten {c : Nat} (hc : 0 < c) :
    ∀ (chunks : List (List α)), uniform c chunks = true → ∀ f, lookup2 chunks c f = chunks.flatten[f]?
  | [], _, f => by simp [lookup2]
  | [l], hu, f => by
    have hl : l.length ≤ c := by simpa [uniform] using hu
    by_cases hf : f < c
    · simp [lookup2, Nat.div_eq_of_lt hf, Nat.mod_eq_of_lt hf]
    · have : 0 < f / c := Nat.div_pos (Nat.le_of_not_lt hf) hc
      have hn : l.length ≤ f := Nat.le_trans hl (Nat.le_of_not_lt hf)
      simp [lookup2, List.getElem?_eq_none_iff.2 (show [l].length ≤ f / c from this), hn]
  | l :: l' :: ls, hu, f => by
    simp only [uniform, Bool.and_eq_true, beq_iff_eq] at hu
    have ih := lookup2_flatten hc (l' :: ls) hu.2
    -- `f < c`: the entry is in the first chunk; otherwise drop that chunk and look for `f - c`
    by_cases hf : f < c
    · simp [lookup2, Nat.div_eq_of_lt hf, Nat.mod_eq_of_lt hf, List.getElem?_append_left (hu.1 ▸ hf)]
    · have hcf : c ≤ f := Nat.le_of_not_lt hf
      have hd : f / c = (f - c) / c + 1 := Nat.div_eq_sub_div hc hcf
      have hm : f % c = (f - c) % c := Nat.mod_eq_sub_mod hcf
      rw [List.flatten_cons, List.getElem?_append_right (hu.1 ▸ hcf), hu.1, ← ih (f - c)]
      simp [lookup2, hd, hm]

theorem lookup2_eq {Sg : List α} {chunks : List (List α)} {c : Nat} (hs : Sg = chunks.flatten) (hc : 0 < c)
    (hu : uniform c chunks = true) (f : Nat) : lookup2 chunks c f = Sg[f]? :=
  hs ▸ lookup2_flatten hc chunks hu f

end LinOp.C13
