import LinOp.C13.Model
/-! Soundness of the taint analysis w.r.t. the storage semantics (core Lean only). -/
namespace LinOp.C13

/-! ### the lattice operations -/

theorem mem_uni {a b : List Nat} {p : Nat} : p ∈ uni a b ↔ p ∈ a ∨ p ∈ b := by
  by_cases ha : p ∈ a <;> simp [uni, ha]

theorem uni_subset_uni {a a' b b' : List Nat} (ha : a ⊆ a') (hb : b ⊆ b') : uni a b ⊆ uni a' b' :=
  fun _ hp => mem_uni.2 ((mem_uni.1 hp).imp (@ha _) (@hb _))

theorem sub_sound {a b : List Nat} (h : sub a b = true) : ∀ p ∈ a, p ∈ b := by
  intro p hp
  simpa using List.all_eq_true.1 h p hp

theorem sub_of_mem {a b : List Nat} (h : ∀ p ∈ a, p ∈ b) : sub a b = true := by
  simpa [sub, List.all_eq_true] using h

theorem sub_refl (a : List Nat) : sub a a = true := sub_of_mem fun _ h => h

theorem look_eq (a : AEnv) (x : Nat) : look a x = a[x]?.getD [] := by
  fun_induction look a x <;> simp [*]

theorem look_nil (x : Nat) : look [] x = [] := by
  simp [look_eq]

theorem look_aset (a : AEnv) (x y : Nat) (v : List Nat) :
    look (aset a x v) y = if y = x then v else look a y := by
  fun_induction aset a x v generalizing y <;> cases y <;> simp [look, *]

theorem look_entryA (k x : Nat) : look (entryA k).env x = if x < k then [x] else [] := by
  by_cases hx : x < k <;> simp [entryA, look_eq, hx]

theorem mem_look_ajoin (a b : AEnv) (x p : Nat) :
    p ∈ look (ajoin a b) x ↔ p ∈ look a x ∨ p ∈ look b x := by
  fun_induction ajoin a b generalizing x <;> cases x <;> simp [look, mem_uni, *]

theorem ale_sound {a b : AEnv} (h : ale a b = true) : ∀ x p, p ∈ look a x → p ∈ look b x := by
  fun_induction ale a b with
  | case1 => exact fun x p hp => nomatch look_nil x ▸ hp
  | case2 h' t ih =>
    rw [Bool.and_eq_true] at h
    rintro (_ | x) p hp
    · exact sub_sound h.1 p hp
    · exact look_nil x ▸ ih h.2 x p hp
  | case3 h' t g t' ih =>
    rw [Bool.and_eq_true] at h
    rintro (_ | x) p hp
    · exact sub_sound h.1 p hp
    · exact ih h.2 x p hp

/-- `ale` from its pointwise meaning (the converse of `ale_sound`) -/
theorem ale_of_look {a b : AEnv} (h : ∀ x p, p ∈ look a x → p ∈ look b x) : ale a b = true := by
  induction a generalizing b with
  | nil => rfl
  | cons l t ih =>
    cases b with
    | nil =>
      simp only [ale, Bool.and_eq_true]
      exact ⟨sub_of_mem fun p hp => by simpa [look] using h 0 p hp,
        ih fun x p hp => by simpa [look_nil] using h (x + 1) p hp⟩
    | cons l' t' =>
      simp only [ale, Bool.and_eq_true]
      exact ⟨sub_of_mem fun p hp => h 0 p hp, ih fun x p hp => h (x + 1) p hp⟩

theorem ale_refl (a : AEnv) : ale a a = true := ale_of_look fun _ _ h => h

theorem mem_tj (a : AEnv) (ys : List Var) (p : Nat) : p ∈ tj a ys ↔ ∃ y ∈ ys, p ∈ look a y := by
  induction ys with
  | nil => simp [tj]
  | cons y ys ih => simp [tj, mem_uni, ih]

theorem mem_tjArgs (a : AEnv) (args : List Var) (is : List Nat) (p : Nat) :
    p ∈ tjArgs a args is ↔ ∃ i ∈ is, ∃ y, args[i]? = some y ∧ p ∈ look a y := by
  induction is with
  | nil => exact ⟨nofun, nofun⟩
  | cons i is ih =>
    simp only [tjArgs, List.mem_cons, exists_eq_or_imp, ← ih]
    cases args[i]? <;> simp [mem_uni]

/-! ### abstract states -/

/-- pointwise inclusion of abstract states (taints of every variable, written set, returned set) -/
def LeA (a b : AState) : Prop :=
  (∀ x p, p ∈ look a.env x → p ∈ look b.env x) ∧ (∀ p ∈ a.w, p ∈ b.w) ∧ (∀ p ∈ a.r, p ∈ b.r)

theorem LeA.refl (a : AState) : LeA a a := ⟨fun _ _ h => h, fun _ h => h, fun _ h => h⟩

/-- both branches of an `ifStar` are below the state after it -/
theorem LeA.join_left (a b : AState) (ok : Bool) :
    LeA a ⟨ajoin a.env b.env, uni a.w b.w, uni a.r b.r, ok⟩ :=
  ⟨fun _ _ hp => (mem_look_ajoin ..).2 (.inl hp), fun _ hp => mem_uni.2 (.inl hp), fun _ hp => mem_uni.2 (.inl hp)⟩

theorem LeA.join_right (a b : AState) (ok : Bool) :
    LeA b ⟨ajoin a.env b.env, uni a.w b.w, uni a.r b.r, ok⟩ :=
  ⟨fun _ _ hp => (mem_look_ajoin ..).2 (.inr hp), fun _ hp => mem_uni.2 (.inr hp), fun _ hp => mem_uni.2 (.inr hp)⟩

/-- a state that passes the three checks of `whileStar` is below the loop invariant -/
theorem LeA.of_checks {a : AState} {inv : AInv} (he : ale a.env inv.env = true) (hw : sub a.w inv.w = true)
    (hr : sub a.r inv.r = true) (ok : Bool) : LeA a ⟨inv.env, inv.w, inv.r, ok⟩ :=
  ⟨ale_sound he, sub_sound hw, sub_sound hr⟩

theorem ok_mono (Sg : List Summary) (s : Stmt) (a : AState) : (analyse Sg s a).ok = true → a.ok = true := by
  induction s generalizing a with
  | seq s t ihs iht => exact fun h => ihs _ (iht _ h)
  | ifStar s t ihs _ => exact fun h => ihs _ (Bool.and_eq_true_iff.1 h).1
  | whileStar inv b _ => exact fun h => (Bool.and_eq_true_iff.1 (Bool.and_eq_true_iff.1 h).1).1
  | call x f args =>
    unfold analyse
    cases Sg[f]? with
    | none => exact fun h => nomatch h
    | some σ => exact id
  | _ => exact id

/-! ### the simulation invariant -/

/-- every *old* storage (`< n0`) in `l` belongs to a formal in `A` -/
def Cov (P : Var → List Nat) (n0 : Nat) (l A : List Nat) : Prop :=
  ∀ s ∈ l, s < n0 → ∃ p ∈ A, s ∈ P p

namespace Cov
variable {P : Var → List Nat} {n0 : Nat} {l m A B : List Nat}

theorem mono (h : Cov P n0 l A) (hAB : A ⊆ B) : Cov P n0 l B := fun s hs hlt =>
  let ⟨p, hp, hsp⟩ := h s hs hlt
  ⟨p, hAB hp, hsp⟩

theorem append (hl : Cov P n0 l A) (hm : Cov P n0 m B) : Cov P n0 (l ++ m) (uni A B) := fun s hs hlt =>
  (List.mem_append.1 hs).elim (fun hs => (hl.mono fun _ hp => mem_uni.2 (.inl hp)) s hs hlt)
    (fun hs => (hm.mono fun _ hp => mem_uni.2 (.inr hp)) s hs hlt)

/-- assignment: `upd` on the concrete side is matched by `aset` on the abstract side -/
theorem update {e : Var → List Nat} {a : AEnv} (he : ∀ y, Cov P n0 (e y) (look a y)) (hl : Cov P n0 l A) (x y : Var) :
    Cov P n0 (upd e x l y) (look (aset a x A) y) := by
  rw [look_aset]
  unfold upd
  split
  · exact hl
  · exact he y

/-- call: what is covered by the callee's formals `is` (callee entered at counter `n ≥ n0`) is covered by
the taints of the actuals bound to them -/
theorem args {e : Var → List Nat} {a : AEnv} {n k : Nat} {args : List Var} {is : List Nat}
    (he : ∀ y, Cov P n0 (e y) (look a y)) (hn : n0 ≤ n) (h : Cov (entry k (argVals e args)) n l is) :
    Cov P n0 l (tjArgs a args is) := by
  intro s hs hlt
  obtain ⟨i, hi, hsi⟩ := h s hs (Nat.lt_of_lt_of_le hlt hn)
  unfold entry argVals at hsi
  split at hsi
  · split at hsi
    · next z hz =>
      obtain ⟨p, hp, hsp⟩ := he z s hsi hlt
      exact ⟨p, (mem_tjArgs ..).2 ⟨i, hi, z, hz, hp⟩, hsp⟩
    · cases hsi
  · cases hsi

end Cov

/-- the abstract state `a` describes the concrete state `st`: every *old* storage (`< n0`) a
variable reaches belongs to a formal in the variable's taint set; likewise for the written and the
returned storages. -/
structure Resp (P : Var → List Nat) (n0 : Nat) (st : State) (a : AState) : Prop where
  env : ∀ x, Cov P n0 (st.env x) (look a.env x)
  w : Cov P n0 st.w a.w
  r : Cov P n0 st.r a.r

theorem Resp.mono {P : Var → List Nat} {n0 : Nat} {st : State} {a b : AState} (hr : Resp P n0 st a)
    (h : LeA a b) : Resp P n0 st b :=
  ⟨fun x => (hr.env x).mono (h.1 x), hr.w.mono h.2.1, hr.r.mono h.2.2⟩

theorem entry_resp (k : Nat) (vals : Var → List Nat) (n0 : Nat) :
    Resp (entry k vals) n0 ⟨entry k vals, n0, [], []⟩ (entryA k) := by
  refine ⟨fun x s hs _ => ?_, nofun, nofun⟩
  rw [look_entryA]
  have hx : s ∈ entry k vals x := hs
  unfold entry at hx
  split at hx
  · rw [if_pos ‹_›]
    exact ⟨x, List.mem_singleton_self x, hs⟩
  · cases hx

/-- the allocation counter only grows -/
theorem Exec.n_le {Φ : List Fn} {s : Stmt} {st st' : State} (h : Exec Φ s st st') : st.n ≤ st'.n := by
  induction h with
  | assign _ _ _ _ _ hv => exact hv.1
  | seq _ _ _ _ _ _ _ ih1 ih2 => exact Nat.le_trans ih1 ih2
  | whileStep _ _ _ _ _ _ _ ih1 ih2 => exact Nat.le_trans ih1 ih2
  | ifL _ _ _ _ _ ih => exact ih
  | ifR _ _ _ _ _ ih => exact ih
  | call _ _ _ _ _ _ _ _ ih => exact ih
  | _ => exact Nat.le_refl _

/-- summaries conform: every function in the table has a summary that its body satisfies -/
def TableOK (Sg : List Summary) (Φ : List Fn) : Prop :=
  ∀ (f : Nat) (fn : Fn), Φ[f]? = some fn → ∃ σ, Sg[f]? = some σ ∧ fnOK Sg fn σ = true

/-- `tableOK` walks the summaries and the functions in step while `Sg` stays whole, hence the statement about any
pair of lists `σs`, `fns` -/
theorem tableOK_sound_aux (Sg σs : List Summary) (fns : List Fn) (h : tableOK Sg σs fns = true) :
    ∀ (f : Nat) (fn : Fn), fns[f]? = some fn → ∃ σ, σs[f]? = some σ ∧ fnOK Sg fn σ = true := by
  fun_induction tableOK Sg σs fns with
  | case1 => nofun
  | case2 Sg σ σs g fns ih =>
    rw [Bool.and_eq_true] at h
    rintro (_ | f) fn hf
    · exact ⟨σ, rfl, Option.some.inj hf ▸ h.1⟩
    · exact ih h.2 f fn hf
  | case3 => cases h

theorem tableOK_sound {Sg : List Summary} {Φ : List Fn} (h : tableOK Sg Sg Φ = true) : TableOK Sg Φ :=
  tableOK_sound_aux Sg Sg Φ h

/-- **Simulation.**  One induction over the big-step derivation (calls run the callee's body, so
the induction hypothesis covers the callee with *its* formals as the protected family). -/
theorem sound (Sg : List Summary) (Φ : List Fn) (hT : TableOK Sg Φ) {s : Stmt} {st st' : State}
    (hex : Exec Φ s st st') :
    ∀ (P : Var → List Nat) (n0 : Nat) (a : AState), n0 ≤ st.n → Resp P n0 st a →
      (analyse Sg s a).ok = true → Resp P n0 st' (analyse Sg s a) := by
  induction hex with
  | skip st => exact fun _ _ _ _ hr _ => hr
  | assign st x r l n' hv =>
    intro P n0 a hn hr _
    -- an old storage of the new value comes from a source variable: allocated ones are `≥ st.n ≥ n0`
    have hl : Cov P n0 l (tj a.env r.src) := fun s hs hlt =>
      match hv.2 s hs with
      | .inl ⟨z, hz, hsz⟩ =>
        let ⟨p, hp, hsp⟩ := hr.env z s hsz hlt
        ⟨p, (mem_tj ..).2 ⟨z, hz, hp⟩, hsp⟩
      | .inr ⟨_, hge, _⟩ => absurd (Nat.lt_of_lt_of_le hlt hn) (Nat.not_lt.2 hge)
    exact ⟨Cov.update hr.env hl x, hr.w, hr.r⟩
  | write st x => exact fun _ _ _ _ hr _ => ⟨hr.env, (hr.env x).append hr.w, hr.r⟩
  | ret st x => exact fun _ _ _ _ hr _ => ⟨hr.env, hr.w, (hr.env x).append hr.r⟩
  | seq s t st st1 st2 h1 _ ih1 ih2 =>
    intro P n0 a hn hr hok
    exact ih2 P n0 _ (Nat.le_trans hn h1.n_le) (ih1 P n0 a hn hr (ok_mono Sg t _ hok)) hok
  | ifL s t st st1 _ ih =>
    intro P n0 a hn hr hok
    simp only [analyse, Bool.and_eq_true] at hok
    exact (ih P n0 a hn hr hok.1).mono (LeA.join_left ..)
  | ifR s t st st1 _ ih =>
    intro P n0 a hn hr hok
    simp only [analyse, Bool.and_eq_true] at hok
    exact (ih P n0 a hn hr hok.2).mono (LeA.join_right ..)
  | whileDone inv b st =>
    intro P n0 a _ hr hok
    simp only [analyse, Bool.and_eq_true] at hok
    obtain ⟨⟨_, ⟨he, hw⟩, hrr⟩, _⟩ := hok
    exact hr.mono (LeA.of_checks he hw hrr _)
  | whileStep inv b st st1 st2 h1 _ ih1 ih2 =>
    intro P n0 a hn hr hok
    simp only [analyse, Bool.and_eq_true] at hok
    obtain ⟨⟨_, ⟨he, hw⟩, hrr⟩, ⟨⟨⟨hcok, hce⟩, hcw⟩, hcr⟩⟩ := hok
    -- the state before the iteration satisfies the invariant, the body re-establishes it,
    -- and from the invariant the checks of the loop succeed again
    have hr1 := (ih1 P n0 _ hn (hr.mono (LeA.of_checks he hw hrr true)) hcok).mono
      (LeA.of_checks hce hcw hcr true)
    have hok2 : (analyse Sg (.whileStar inv b) ⟨inv.env, inv.w, inv.r, true⟩).ok = true := by
      simp only [analyse, Bool.and_eq_true]
      exact ⟨⟨trivial, ⟨ale_refl _, sub_refl _⟩, sub_refl _⟩, ⟨⟨⟨hcok, hce⟩, hcw⟩, hcr⟩⟩
    have hr2 := ih2 P n0 ⟨inv.env, inv.w, inv.r, true⟩ (Nat.le_trans hn h1.n_le) hr1 hok2
    -- the loop analysed from `a` and from the invariant yield the same sets; only the `ok` flags differ
    exact ⟨hr2.env, hr2.w, hr2.r⟩
  | call st x f args fn st' hf _ ih =>
    intro P n0 a hn hr hok
    obtain ⟨σ, hσ, hfn⟩ := hT f fn hf
    simp only [fnOK, Bool.and_eq_true] at hfn
    -- run the callee with its own formals as the protected family, entry counter = st.n
    have hr1 := ih (entry fn.nparams (argVals st.env args)) st.n (entryA fn.nparams) (Nat.le_refl _)
      (entry_resp ..) hfn.1.1
    have hlook : analyse Sg (.call x f args) a =
        { a with env := aset a.env x (tjArgs a.env args σ.rets), w := uni (tjArgs a.env args σ.muts) a.w } := by
      simp only [analyse, hσ]
    rw [hlook]
    exact ⟨Cov.update hr.env ((hr1.r.mono (sub_sound hfn.2)).args hr.env hn) x,
      ((hr1.w.mono (sub_sound hfn.1.2)).args hr.env hn).append hr.w, hr.r⟩

/-- a body that conforms to a summary writes, of the storages that existed on entry, only those of the formals
the summary lists as mutated (`sound` from the entry state) -/
theorem safe_of_fnOK {Sg : List Summary} {Φ : List Fn} (hT : TableOK Sg Φ) {fn : Fn} {σ : Summary}
    {allowed : List Nat} (h : fnOK Sg fn σ = true) (hm : sub σ.muts allowed = true) : Safe Φ fn allowed := by
  intro P n0 st' _ hex
  simp only [fnOK, Bool.and_eq_true] at h
  have hr := sound Sg Φ hT hex (entry fn.nparams P) n0 (entryA fn.nparams) (Nat.le_refl _) (entry_resp ..) h.1.1
  exact (hr.w.mono (sub_sound h.1.2)).mono (sub_sound hm)

end LinOp.C13
