import LinOp.C13.Proofs
/-! Storage-semantics facts about the alias IR: views of views alias the base,
`clone` (a `fresh` right-hand side) breaks the alias, the abstract interpreter is monotone in its
taint sets, and the end-to-end heap reading of `Safe` (snapshot of caller storages unchanged). -/
namespace LinOp.C13

/-! ### views / clones in the concrete semantics -/

theorem exec_assign_inv {Φ : List Fn} {x : Var} {r : Rhs} {st st' : State}
    (h : Exec Φ (.assign x r) st st') :
    ∃ l n', RhsVal st.env st.n r l n' ∧ st' = { st with env := upd st.env x l, n := n' } :=
  match h with
  | .assign _ _ _ l n' hv => ⟨l, n', hv, rfl⟩

theorem exec_write_inv {Φ : List Fn} {x : Var} {st st' : State}
    (h : Exec Φ (.write x) st st') : st' = { st with w := st.env x ++ st.w } :=
  match h with
  | .write _ _ => rfl

theorem exec_seq_inv {Φ : List Fn} {s t : Stmt} {st st' : State}
    (h : Exec Φ (.seq s t) st st') : ∃ st1, Exec Φ s st st1 ∧ Exec Φ t st1 st' :=
  match h with
  | .seq _ _ _ st1 _ h1 h2 => ⟨st1, h1, h2⟩

/-- the assigned variable reaches only storages of the sources, or newly allocated ones -/
theorem exec_assign_mem {Φ : List Fn} {x : Var} {r : Rhs} {st st' : State} (h : Exec Φ (.assign x r) st st') :
    ∀ s ∈ st'.env x, (∃ y ∈ r.src, s ∈ st.env y) ∨ (r.mayFresh = true ∧ st.n ≤ s) := by
  obtain ⟨l, n', hv, rfl⟩ := exec_assign_inv h
  intro s hs
  simp only [upd, if_true] at hs
  exact (hv.2 s hs).imp_right fun ⟨hf, hge, _⟩ => ⟨hf, hge⟩

/-- a (definite) view reaches only storages of its base -/
theorem view_aliases_base {Φ : List Fn} {x y : Var} {st st' : State}
    (h : Exec Φ (.assign y (.view x)) st st') : ∀ s ∈ st'.env y, s ∈ st.env x := fun s hs => by
  simpa [Rhs.src, Rhs.mayFresh] using exec_assign_mem h s hs

/-- storages of a `fresh` value (clone / new allocation) did not exist before the assignment -/
theorem fresh_is_new {Φ : List Fn} {y : Var} {st st' : State}
    (h : Exec Φ (.assign y .fresh) st st') : ∀ s ∈ st'.env y, st.n ≤ s := fun s hs => by
  simpa [Rhs.src, Rhs.mayFresh] using exec_assign_mem h s hs

theorem clone_then_write_safe (Φ : List Fn) (k : Nat) (y : Var) :
    Safe Φ ⟨k, .seq (.assign y .fresh) (.write y)⟩ [] := by
  intro P n0 st' _ hE s hs hlt
  obtain ⟨st1, h1, h2⟩ := exec_seq_inv hE
  have hnew := fresh_is_new h1
  obtain ⟨l, n', -, rfl⟩ := exec_assign_inv h1
  cases exec_write_inv h2
  exact absurd hlt (Nat.not_lt.2 (hnew s (by simpa using hs)))

/-- a right-hand side may evaluate to exactly the value of one of its source variables, allocating nothing -/
theorem Exec.assign_src (Φ : List Fn) (st : State) (x : Var) {r : Rhs} {y : Var} (hy : y ∈ r.src) :
    Exec Φ (.assign x r) st { st with env := upd st.env x (st.env y) } :=
  Exec.assign st x r (st.env y) st.n ⟨Nat.le_refl _, fun _ hs => .inl ⟨y, hy, hs⟩⟩

/-- an execution that starts with storage 0 as the only old storage, reachable from every formal, and writes it
refutes `Safe` without allowed formals -/
theorem not_safe_of_exec {Φ : List Fn} {fn : Fn} {st' : State}
    (h : Exec Φ fn.body ⟨entry fn.nparams (fun _ => [0]), 1, [], []⟩ st') (hw : 0 ∈ st'.w) : ¬ Safe Φ fn [] :=
  fun hS =>
    let ⟨_, hp, _⟩ := hS (fun _ => [0]) 1 st' (fun _ _ hs => List.mem_singleton.1 hs ▸ Nat.one_pos) h 0 hw Nat.one_pos
    nomatch hp

/-! ### monotonicity of the abstract interpreter -/

section
variable {a b : AEnv} (h : ∀ x, look a x ⊆ look b x)
include h

theorem tj_mono (ys : List Var) : tj a ys ⊆ tj b ys := fun _ hp =>
  let ⟨y, hy, hm⟩ := (mem_tj ..).1 hp
  (mem_tj ..).2 ⟨y, hy, h y hm⟩

theorem tjArgs_mono (args : List Var) (is : List Nat) : tjArgs a args is ⊆ tjArgs b args is := fun _ hp =>
  let ⟨i, hi, y, hy, hm⟩ := (mem_tjArgs ..).1 hp
  (mem_tjArgs ..).2 ⟨i, hi, y, hy, h y hm⟩

theorem look_aset_mono {v v' : List Nat} (hv : v ⊆ v') (x y : Var) : look (aset a x v) y ⊆ look (aset b x v') y := by
  rw [look_aset, look_aset]
  split
  · exact hv
  · exact h y

end

theorem analyse_mono (Sg : List Summary) (s : Stmt) :
    ∀ a b : AState, LeA a b → LeA (analyse Sg s a) (analyse Sg s b) := by
  induction s with
  | skip => exact fun _ _ h => h
  | assign x r => exact fun _ _ h => ⟨look_aset_mono h.1 (tj_mono h.1 _) x, h.2.1, h.2.2⟩
  | write x => exact fun _ _ h => ⟨h.1, uni_subset_uni (h.1 x) h.2.1, h.2.2⟩
  | ret x => exact fun _ _ h => ⟨h.1, h.2.1, uni_subset_uni (h.1 x) h.2.2⟩
  | seq s t ihs iht => exact fun _ _ h => iht _ _ (ihs _ _ h)
  | ifStar s t ihs iht =>
    intro a b h
    have h1 := ihs a b h
    have h2 := iht a b h
    exact ⟨fun x p hp => (mem_look_ajoin ..).2 (((mem_look_ajoin ..).1 hp).imp (h1.1 x p) (h2.1 x p)),
      uni_subset_uni h1.2.1 h2.2.1, uni_subset_uni h1.2.2 h2.2.2⟩
  | whileStar inv body _ => exact fun _ _ _ => ⟨fun _ _ hp => hp, fun _ hp => hp, fun _ hp => hp⟩
  | call x f args =>
    intro a b h
    unfold analyse
    cases Sg[f]? with
    | none => exact h
    | some σ =>
      exact ⟨look_aset_mono h.1 (tjArgs_mono h.1 ..) x, uni_subset_uni (tjArgs_mono h.1 ..) h.2.1, h.2.2⟩

/-! ### heap reading of `Safe` -/

/-- `h'` differs from `h` at most on the storages in `w` (what a run that wrote `w` can do to a heap) -/
def HeapFrame {α : Type} (h h' : Nat → α) (w : List Nat) : Prop := ∀ s, s ∉ w → h' s = h s

theorem snapshot_equal_of_safe {α : Type} {Φ : List Fn} {fn : Fn} {allowed : List Nat}
    (hS : Safe Φ fn allowed) (P : Var → List Nat) (n0 : Nat) (st' : State)
    (hP : ∀ x s, s ∈ P x → s < n0) (hE : Exec Φ fn.body ⟨entry fn.nparams P, n0, [], []⟩ st')
    (h h' : Nat → α) (hfr : HeapFrame h h' st'.w) :
    ∀ s, s < n0 → (∀ p ∈ allowed, s ∉ entry fn.nparams P p) → h' s = h s := by
  intro s hs hna
  apply hfr
  intro hw
  obtain ⟨p, hp, hm⟩ := hS P n0 st' hP hE s hw hs
  exact hna p hp hm

end LinOp.C13
