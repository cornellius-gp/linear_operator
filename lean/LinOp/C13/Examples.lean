import LinOp.C13.ProofsSem
/-! Small hand-written IR programs: non-vacuity of `Safe` / `analyse`, and the D15 counterexample. -/
namespace LinOp.C13.Examples
open LinOp.C13

/-- `def f(x): x.add_(1)` -/
def writeParam : Fn := ⟨1, .write 0⟩
/-- `def f(x): y = x.clone(); y.add_(1)` -/
def writeClone : Fn := ⟨1, .seq (.assign 1 .fresh) (.write 1)⟩
/-- `def f(x): y = x.view(-1); y.add_(1)` -/
def writeView : Fn := ⟨1, .seq (.assign 1 (.view 0)) (.write 1)⟩
/-- `def _kernel(buf): buf.mul_(2)` — helper that mutates its formal -/
def kernel : Fn := ⟨1, .write 0⟩
/-- `def f(x): _kernel(x)` -/
def callsKernel : Fn := ⟨1, .call 1 3 [0]⟩
/-- `indices = sparse._indices(); if <empty selection>: indices.resize_(…).zero_()` (utils/sparse.py before the repair of D15) -/
def sparseGetitemEmptyBranch : Fn :=
  ⟨1, .seq (.assign 1 (.view 0)) (.ifStar (.seq (.assign 2 (.same 1)) (.write 2)) .skip)⟩
/-- the repaired branch: `indices = torch.zeros(…)` -/
def sparseGetitemFixedBranch : Fn :=
  ⟨1, .seq (.assign 1 (.view 0)) (.ifStar (.seq (.assign 2 .fresh) (.write 2)) .skip)⟩

def table : List Fn :=
  [writeParam, writeClone, writeView, kernel, callsKernel, sparseGetitemEmptyBranch, sparseGetitemFixedBranch]

/-- summaries of the good functions (the unsafe ones get their true summary: formal 0 mutated) -/
def sigma : List Summary :=
  [⟨[0], []⟩, ⟨[], []⟩, ⟨[0], []⟩, ⟨[0], []⟩, ⟨[0], []⟩, ⟨[0], []⟩, ⟨[], []⟩]

theorem table_ok : tableOK sigma sigma table = true := by decide

def P0 : Var → List Nat := fun _ => [0]

/-! Each unsafe program has a run from `P0` (every formal reaches the one old storage, 0) whose written set
evaluates to `[0]`. -/

theorem writeParam_unsafe : ¬ Safe table writeParam [] :=
  not_safe_of_exec (.write _ 0) (List.mem_singleton_self 0)

theorem writeView_unsafe : ¬ Safe table writeView [] :=
  not_safe_of_exec (.seq _ _ _ _ _ (.assign_src _ _ 1 (y := 0) (List.mem_singleton_self 0)) (.write _ 1))
    (List.mem_singleton_self 0)

theorem callsKernel_unsafe : ¬ Safe table callsKernel [] :=
  not_safe_of_exec (.call _ 1 3 [0] kernel _ rfl (.write _ 0)) (List.mem_singleton_self 0)

theorem sparseGetitemEmptyBranch_unsafe : ¬ Safe table sparseGetitemEmptyBranch [] :=
  not_safe_of_exec
    (.seq _ _ _ _ _ (.assign_src _ _ 1 (y := 0) (List.mem_singleton_self 0))
      (.ifL _ .skip _ _ (.seq _ _ _ _ _ (.assign_src _ _ 2 (y := 1) (List.mem_singleton_self 1)) (.write _ 2))))
    (List.mem_singleton_self 0)

end LinOp.C13.Examples
