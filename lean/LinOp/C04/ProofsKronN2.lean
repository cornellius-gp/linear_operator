/-
C04 — with exact factor solves the N-factor Kronecker loop solves the Kronecker system (any number of factors).
-/
import LinOp.C04.ProofsKronN

set_option linter.unusedSectionVars false

namespace LinOp.C04
open Finset

variable {α : Type} [CommRing α]

/-- `B_i` is a right inverse of `A_i` on the index range of the factor, for every factor -/
def FactorInv : List (Nat × (Nat → Nat → α)) → List (Nat × (Nat → Nat → α)) → Prop
  | [], [] => True
  | (n, A) :: r, (_, B) :: r' =>
    (∀ i k, i < n → k < n → ∑ j ∈ range n, A i j * B j k = if i = k then 1 else 0) ∧ FactorInv r r'
  | _, _ => False

theorem divmod_eq_iff (p r P : Nat) : p = r ↔ p / P = r / P ∧ p % P = r % P := by
  constructor
  · rintro rfl; exact ⟨rfl, rfl⟩
  · rintro ⟨h1, h2⟩
    rw [← Nat.div_add_mod p P, ← Nat.div_add_mod r P, h1, h2]

/-- `⊗ (A_i B_i) = I` on flat indices when every `B_i` inverts `A_i` -/
theorem kronEntryN_delta : ∀ (A B : List (Nat × (Nat → Nat → α))), SameSizes A B → FactorInv A B →
    ∀ p r, p < prodSizes A → r < prodSizes A → kronEntryN (listMul A B) p r = if p = r then 1 else 0
  | [], [], _, _, p, r, hp, hr => by
    obtain rfl : p = 0 := Nat.lt_one_iff.mp hp
    obtain rfl : r = 0 := Nat.lt_one_iff.mp hr
    simp [listMul, kronEntryN]
  | (n, MA) :: ra, (m, MB) :: rb, hs, hf, p, r, hp, hr => by
    obtain ⟨hnm, hsr⟩ := hs
    subst hnm
    obtain ⟨hinv, hfr⟩ := hf
    obtain ⟨h1, _⟩ := prodSizes_listMul ra rb hsr
    simp only [prodSizes, listMul, kronEntryN, h1] at hp hr ⊢
    set P' := prodSizes ra
    have hP'pos : 0 < P' := Nat.pos_of_lt_mul_left hp
    have hi : p / P' < n := (Nat.div_lt_iff_lt_mul hP'pos).2 hp
    have hk : r / P' < n := (Nat.div_lt_iff_lt_mul hP'pos).2 hr
    rw [hinv _ _ hi hk, kronEntryN_delta ra rb hsr hfr _ _ (Nat.mod_lt _ hP'pos) (Nat.mod_lt _ hP'pos)]
    by_cases hpr : p = r
    · subst hpr; simp
    · have := (divmod_eq_iff p r P').not.mp hpr
      by_cases hd : p / P' = r / P'
      · have hm : ¬ p % P' = r % P' := fun hm => this ⟨hd, hm⟩
        rw [if_pos hd, if_neg hm, if_neg hpr, mul_zero]
      · rw [if_neg hd, if_neg hpr, zero_mul]
  | [], _ :: _, h, _, _, _, _, _ => absurd h (by simp [SameSizes])
  | _ :: _, [], h, _, _, _, _, _ => absurd h (by simp [SameSizes])

/-- **kronLoopN_solves**: the loop fed with the factor solves `B_i = A_i⁻¹` returns a solution of `(⊗ A_i) X = rhs`, entry by entry,
for any number of factors. -/
theorem kronLoopN_solves (c : Nat) (A B : List (Nat × (Nat → Nat → α))) (hs : SameSizes A B) (hf : FactorInv A B)
    (y : Array α) (p k : Nat) (hp : p < prodSizes A) (hk : k < c) :
    ∑ q ∈ range (prodSizes A), kronEntryN A p q * (kronLoopN (prodSizes A) c B y).getD (q * c + k) 0
      = y.getD (p * c + k) 0 := by
  obtain ⟨_, h2⟩ := prodSizes_listMul A B hs
  have hloop : ∀ q ∈ range (prodSizes A), (kronLoopN (prodSizes A) c B y).getD (q * c + k) 0
      = ∑ r ∈ range (prodSizes A), kronEntryN B q r * y.getD (r * c + k) 0 := by
    intro q hq
    have := kronLoopN_spec c B y q k (by rw [h2]; exact Finset.mem_range.mp hq) hk
    rw [h2] at this
    exact this
  rw [Finset.sum_congr rfl fun q hq => by rw [hloop q hq]]
  simp only [Finset.mul_sum]
  rw [Finset.sum_comm]
  have hcol : ∀ r ∈ range (prodSizes A),
      ∑ q ∈ range (prodSizes A), kronEntryN A p q * (kronEntryN B q r * y.getD (r * c + k) 0)
        = (if p = r then 1 else 0) * y.getD (r * c + k) 0 := by
    intro r hr
    rw [← kronEntryN_delta A B hs hf p r hp (Finset.mem_range.mp hr), ← kronEntryN_mul A B hs p r hp, Finset.sum_mul]
    refine Finset.sum_congr rfl fun q _ => ?_
    ring
  rw [Finset.sum_congr rfl hcol, Finset.sum_eq_single_of_mem p (Finset.mem_range.mpr hp)
    (fun r _ hr => by rw [if_neg (Ne.symm hr), zero_mul]), if_pos rfl, one_mul]

end LinOp.C04
