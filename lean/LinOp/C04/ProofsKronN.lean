/-
C04 — the reshape / factor-solve / permute loop of `KroneckerProductLinearOperator._solve` (and `_matmul`) for ANY number of
factors, on the flat row-major buffer: the loop multiplies by `M_1 ⊗ … ⊗ M_N`.  The flat loop is C01's `kronLoop` on square
factors with the column folded into the index (`Sim`); the invariant of the loop is C01's (`C01.kronLoop_apply`).
-/
import LinOp.C04.ModelEig
import LinOp.C01.ProofsA
import Mathlib.Algebra.BigOperators.Intervals
import Mathlib.Algebra.BigOperators.Ring.Finset
import Mathlib.Tactic.Ring

set_option linter.unusedSectionVars false

namespace LinOp.C04
open Finset

variable {α : Type} [CommRing α]

theorem sumRange_eq (n : Nat) (f : Nat → α) : sumRange n f = ∑ j ∈ range n, f j := by
  unfold sumRange
  induction n with
  | zero => simp
  | succ n ih => rw [List.range_succ, List.foldl_append, ih, Finset.sum_range_succ]; rfl

theorem sum_range_mul_split (n m : Nat) (g : Nat → α) :
    ∑ q ∈ range (n * m), g q = ∑ j ∈ range n, ∑ q' ∈ range m, g (j * m + q') := by
  induction n with
  | zero => simp
  | succ n ih => rw [Nat.succ_mul, Finset.sum_range_add, ih, Finset.sum_range_succ]

theorem divmod_lemma (j q' P : Nat) (h : q' < P) : (j * P + q') / P = j ∧ (j * P + q') % P = q' :=
  ⟨mul_add_div_of_lt h, Nat.mul_add_mod_of_lt h⟩

/-! ### the flat loop as a refinement of C01's loop -/

/-- the square factor `(n, M)` of the flat model as a C01 factor -/
def toFactor (f : Nat × (Nat → Nat → α)) : C01.Factor α := ⟨f.1, f.1, fun i j => f.2 i.1 j.1⟩

theorem rowsProd_toFactor : ∀ L : List (Nat × (Nat → Nat → α)), C01.rowsProd (L.map toFactor) = prodSizes L
  | [] => rfl
  | f :: r => congrArg (f.1 * ·) (rowsProd_toFactor r)

theorem colsProd_toFactor : ∀ L : List (Nat × (Nat → Nat → α)), C01.colsProd (L.map toFactor) = prodSizes L
  | [] => rfl
  | f :: r => congrArg (f.1 * ·) (colsProd_toFactor r)

/-- C01's dense Kronecker product of the factors is `kronEntryN` -/
theorem kronDense_toFactor : ∀ (L : List (Nat × (Nat → Nat → α))) (i : Fin (C01.rowsProd (L.map toFactor)))
    (j : Fin (C01.colsProd (L.map toFactor))), C01.kronDense (L.map toFactor) i j = kronEntryN L i.1 j.1
  | [], _, _ => rfl
  | (n, M) :: r, i, j => by
    have hr := rowsProd_toFactor r
    have hc := colsProd_toFactor r
    show M (i.1 / C01.rowsProd (r.map toFactor)) (j.1 / C01.colsProd (r.map toFactor))
        * C01.kronDense (r.map toFactor) (C01.modIdx i) (C01.modIdx j)
      = M (i.1 / prodSizes r) (j.1 / prodSizes r) * kronEntryN r (i.1 % prodSizes r) (j.1 % prodSizes r)
    rw [kronDense_toFactor r]
    show M (i.1 / C01.rowsProd (r.map toFactor)) (j.1 / C01.colsProd (r.map toFactor))
        * kronEntryN r (i.1 % C01.rowsProd (r.map toFactor)) (j.1 % C01.colsProd (r.map toFactor)) = _
    rw [hr, hc]

/-- the flat buffer `y` (column folded into the index) and the row state `res` of C01 agree on the rows `< R` -/
def Sim (R c : Nat) (y : Array α) (res : Nat → Fin c → α) : Prop := ∀ p < R, ∀ k : Fin c, y.getD (p * c + k.1) 0 = res p k

theorem kronStepA_getD (R c n : Nat) (M : Nat → Nat → α) (y : Array α) {t : Nat} (h : t < R * c) :
    (kronStepA R c n M y).getD t 0 = kronStep R c n M (fun i => y.getD i 0) t := by
  simp [kronStepA, Array.getD, h]

/-- one pass of the flat loop is one pass of C01's loop -/
theorem Sim.step {R c n : Nat} (M : Nat → Nat → α) {y : Array α} {res : Nat → Fin c → α} (h : Sim R c y res)
    (hn : 0 < n) (hdvd : n ∣ R) : Sim R c (kronStepA R c n M y) (C01.kronStep (toFactor (n, M)) R res) := by
  intro p hp k
  obtain ⟨h1, h2⟩ := divmod_lemma p k.1 c k.2
  rw [kronStepA_getD R c n M y (flat_lt hp k.2)]
  simp only [kronStep, C01.kronStep, toFactor, h1, h2, sumRange_eq, dif_pos hn, sumFin_eq_sum]
  rw [Fin.sum_univ_eq_sum_range (fun j => M (p % n) j * res (j * (R / n) + p / n) k) n]
  refine Finset.sum_congr rfl fun j hj => ?_
  -- the row read, `j·(R/n) + p/n`, is a row `< R` because `n ∣ R`
  have hlt : j * (R / n) + p / n < R := by
    have := flat_lt (Finset.mem_range.mp hj) (Nat.div_lt_div_of_lt_of_dvd hdvd hp)
    rwa [Nat.mul_div_cancel' hdvd] at this
  rw [h _ hlt k]

/-- the whole loop; the number of rows stays `R` because every factor is square and divides it -/
theorem Sim.loop {R c : Nat} : ∀ (L : List (Nat × (Nat → Nat → α))) {y : Array α} {res : Nat → Fin c → α},
    Sim R c y res → (∀ f ∈ L, 0 < f.1 ∧ f.1 ∣ R) →
    Sim R c (kronLoopN R c L y) (C01.kronLoop (L.map toFactor) R res).2
  | [], _, _, h, _ => h
  | (n, M) :: r, y, res, h, hL => by
    obtain ⟨hn, hdvd⟩ := hL (n, M) List.mem_cons_self
    have hR : C01.kronStepRows (toFactor (n, M)) R = R := Nat.div_mul_cancel hdvd
    show Sim R c (kronLoopN R c r _) (C01.kronLoop (r.map toFactor) (C01.kronStepRows (toFactor (n, M)) R) _).2
    rw [hR]
    exact Sim.loop r (h.step M hn hdvd) fun f hf => hL f (List.mem_cons_of_mem _ hf)

theorem dvd_prodSizes : ∀ (L : List (Nat × (Nat → Nat → α))) (f), f ∈ L → f.1 ∣ prodSizes L
  | g :: r, f, hf => by
    rcases List.mem_cons.mp hf with rfl | h
    · exact Dvd.intro _ rfl
    · exact Dvd.dvd.mul_left (dvd_prodSizes r f h) _

/-- **kronLoopN_refines**: the loop over any list of factors returns `(M_1 ⊗ … ⊗ M_N) · rhs` on the row-major flat buffer
(C01's invariant on one block, `q = 1`). -/
theorem kronLoopN_spec (c : Nat) (L : List (Nat × (Nat → Nat → α))) (y : Array α) (p k : Nat)
    (hp : p < prodSizes L) (hk : k < c) :
    (kronLoopN (prodSizes L) c L y).getD (p * c + k) 0
      = ∑ q ∈ range (prodSizes L), kronEntryN L p q * y.getD (q * c + k) 0 := by
  have hpos : ∀ f ∈ L, 0 < f.1 ∧ f.1 ∣ prodSizes L := fun f hf =>
    ⟨Nat.pos_of_dvd_of_pos (dvd_prodSizes L f hf) (Nat.zero_lt_of_lt hp), dvd_prodSizes L f hf⟩
  have hsim := Sim.loop (c := c) L (y := y) (res := fun p k => y.getD (p * c + k.1) 0) (fun _ _ _ => rfl) hpos p hp ⟨k, hk⟩
  have hspec := C01.kronLoop_apply (c := c) (L.map toFactor)
    (fun f hf => by obtain ⟨g, hg, rfl⟩ := List.mem_map.mp hf; exact (hpos g hg).1) 1
    (fun p k => y.getD (p * c + k.1) 0) 0 Nat.one_pos ⟨p, by rw [rowsProd_toFactor]; exact hp⟩ ⟨k, hk⟩
  simp only [Nat.mul_one, Nat.zero_mul, Nat.zero_add, Nat.add_zero, kronDense_toFactor] at hspec
  rw [Fin.sum_univ_eq_sum_range (fun q => kronEntryN L p q * y.getD (q * c + k) 0), colsProd_toFactor] at hspec
  exact hsim.trans hspec

/-! ### `kronEntryN` is multiplicative and maps identities to the identity: with exact factor inverses the loop solves -/

def listMul : List (Nat × (Nat → Nat → α)) → List (Nat × (Nat → Nat → α)) → List (Nat × (Nat → Nat → α))
  | (n, A) :: r, (_, B) :: r' => (n, fun i k => ∑ j ∈ range n, A i j * B j k) :: listMul r r'
  | _, _ => []

/-- sizes agree factor by factor -/
def SameSizes : List (Nat × (Nat → Nat → α)) → List (Nat × (Nat → Nat → α)) → Prop
  | [], [] => True
  | (n, _) :: r, (m, _) :: r' => n = m ∧ SameSizes r r'
  | _, _ => False

theorem prodSizes_listMul : ∀ (A B : List (Nat × (Nat → Nat → α))), SameSizes A B →
    prodSizes (listMul A B) = prodSizes A ∧ prodSizes B = prodSizes A
  | [], [], _ => ⟨rfl, rfl⟩
  | (n, _) :: r, (m, _) :: r', h => by
    obtain ⟨hnm, hr⟩ := h
    obtain ⟨h1, h2⟩ := prodSizes_listMul r r' hr
    subst hnm
    simp only [listMul, prodSizes, h1, h2, and_self]
  | [], _ :: _, h => absurd h (by simp [SameSizes])
  | _ :: _, [], h => absurd h (by simp [SameSizes])

/-- mixed-product property on flat indices: `(⊗A)(⊗B) = ⊗(A_i B_i)` -/
theorem kronEntryN_mul : ∀ (A B : List (Nat × (Nat → Nat → α))), SameSizes A B → ∀ p r, p < prodSizes A →
    ∑ q ∈ range (prodSizes A), kronEntryN A p q * kronEntryN B q r = kronEntryN (listMul A B) p r
  | [], [], _, p, r, _ => by simp [prodSizes, kronEntryN, listMul]
  | (n, MA) :: ra, (m, MB) :: rb, h, p, r, hp => by
    obtain ⟨hnm, hr⟩ := h
    subst hnm
    obtain ⟨h1, h2⟩ := prodSizes_listMul ra rb hr
    simp only [prodSizes, kronEntryN, listMul, h1, h2] at hp ⊢
    set P' := prodSizes ra
    have hP'pos : 0 < P' := Nat.pos_of_lt_mul_left hp
    rw [sum_range_mul_split n P', Finset.sum_mul, ← kronEntryN_mul ra rb hr (p % P') (r % P') (Nat.mod_lt _ hP'pos)]
    refine Finset.sum_congr rfl fun j _ => ?_
    rw [Finset.mul_sum]
    refine Finset.sum_congr rfl fun q' hq' => ?_
    obtain ⟨d1, d2⟩ := divmod_lemma j q' P' (Finset.mem_range.mp hq')
    rw [d1, d2]
    ring
  | [], _ :: _, h, _, _, _ => absurd h (by simp [SameSizes])
  | _ :: _, [], h, _, _, _ => absurd h (by simp [SameSizes])

end LinOp.C04
