/-
C04 — the matrix identities behind each direct solve path (Mathlib matrices over a field, any size).
Factorizations (`L Lᵀ = A`, `Q Λ Qᵀ`, orthogonality) are hypotheses: the primitives that produce them
(`cholesky_ex`, `eigh`) are assumed to meet these contracts.
-/
import Mathlib.LinearAlgebra.Matrix.NonsingularInverse
import Mathlib.Data.Matrix.Block
import Mathlib.Data.Matrix.ColumnRowPartitioned
import Mathlib.LinearAlgebra.Matrix.Permutation
import LinOp.Core.Spectral

set_option linter.unusedSectionVars false

namespace LinOp.C04
open Matrix
open scoped Kronecker

variable {α : Type*} [Field α]
variable {ι κ μ : Type*} [Fintype ι] [DecidableEq ι] [Fintype κ] [DecidableEq κ] [Fintype μ] [DecidableEq μ]

/-- Any `X` with `A X = B` is `A⁻¹ B` (the bridge used by every path). -/
theorem solve_unique {A : Matrix ι ι α} {X B : Matrix ι κ α} (hA : IsUnit A.det) (h : A * X = B) :
    X = A⁻¹ * B := by
  rw [← h, nonsing_inv_mul_cancel_left _ _ hA]

theorem isUnit_det_diagonal {d : ι → α} (hd : ∀ i, d i ≠ 0) : IsUnit (diagonal d).det := by
  rw [det_diagonal]
  exact isUnit_iff_ne_zero.mpr (Finset.prod_ne_zero_iff.mpr fun i _ => hd i)

/-- Diagonal solve: `diag(d)⁻¹ B = B / d` row-wise. -/
theorem diagSolve_eq (d : ι → α) (hd : ∀ i, d i ≠ 0) (B : Matrix ι κ α) :
    (diagonal d)⁻¹ * B = of fun i j => B i j / d i := by
  refine (solve_unique (isUnit_det_diagonal hd) (Matrix.ext fun i j => ?_)).symm
  rw [diagonal_mul, of_apply, mul_div_cancel₀ _ (hd i)]

/-- `DiagLinearOperator._cholesky_solve`: the operator is the factor `s`, the matrix is `diag(s²)`. -/
theorem diagCholSolve_eq (s : ι → α) (hs : ∀ i, s i ≠ 0) (B : Matrix ι κ α) :
    (diagonal s * (diagonal s)ᵀ)⁻¹ * B = of fun i j => B i j / (s i * s i) := by
  rw [diagonal_transpose, diagonal_mul_diagonal]
  exact diagSolve_eq _ (fun i => mul_ne_zero (hs i) (hs i)) B

/-- Applying the factor inverses solves the Kronecker system. -/
theorem kronSolve_mul {A : Matrix ι ι α} {B : Matrix κ κ α} (hA : IsUnit A.det) (hB : IsUnit B.det)
    (X : Matrix (ι × κ) μ α) : (A ⊗ₖ B) * ((A⁻¹ ⊗ₖ B⁻¹) * X) = X := by
  rw [← Matrix.mul_assoc, ← mul_kronecker_mul, mul_nonsing_inv _ hA, mul_nonsing_inv _ hB, one_kronecker_one,
    Matrix.one_mul]

/-! For orthogonal `Q`, `f ↦ Q diag(f) Qᵀ` respects sums, scalars and inverses; the eigen-structured solves are instances. -/

/-- `(Q diag(f) Qᵀ)⁻¹ = Q diag(f⁻¹) Qᵀ` for orthogonal `Q` and non-zero `f`. -/
theorem eig_inv {Q : Matrix ι ι α} (f : ι → α) (h1 : Qᵀ * Q = 1) (h2 : Q * Qᵀ = 1) (hf : ∀ i, f i ≠ 0) :
    (Q * diagonal f * Qᵀ)⁻¹ = Q * diagonal (fun i => (f i)⁻¹) * Qᵀ :=
  inv_eq_right_inv (conj_mul_conj_eq_one h1 h2 fun i => mul_inv_cancel₀ (hf i))

/-- `Q Λ Qᵀ + cI = Q (Λ + c) Qᵀ`. -/
theorem eig_add_smul_one {Q : Matrix ι ι α} (ev : ι → α) (c : α) (h2 : Q * Qᵀ = 1) :
    Q * diagonal ev * Qᵀ + c • (1 : Matrix ι ι α) = Q * diagonal (fun i => ev i + c) * Qᵀ := by
  rw [conj_add_const, h2]

/-- The constant-diagonal branch of `KroneckerProductAddedDiagLinearOperator._solve`: `(QΛQᵀ + cI)⁻¹ = Q(Λ+c)⁻¹Qᵀ`. -/
theorem kpadlo_constDiag_solve {Q : Matrix ι ι α} (ev : ι → α) (c : α) (h1 : Qᵀ * Q = 1) (h2 : Q * Qᵀ = 1)
    (hne : ∀ i, ev i + c ≠ 0) (B : Matrix ι κ α) :
    (Q * diagonal ev * Qᵀ + c • (1 : Matrix ι ι α))⁻¹ * B
      = Q * (diagonal (fun i => (ev i + c)⁻¹) * (Qᵀ * B)) := by
  rw [eig_add_smul_one ev c h2, eig_inv _ h1 h2 hne, Matrix.mul_assoc, Matrix.mul_assoc]

/-- `PermutationLinearOperator._matmul` is `x ↦ x ∘ perm`; solving is applying the inverse permutation. -/
def permApply {β : Type*} (σ : Equiv.Perm ι) (x : ι → β) : ι → β := fun i => x (σ i)

/-- `Solve.forward` with a left factor: concatenate `[Lᵀ | R]`, solve once, keep the last block of
columns, multiply by `L` — the left factor is applied exactly once: `L A⁻¹ R`. -/
theorem solveForward_left (A : Matrix ι ι α) (Lf : Matrix κ ι α) (R : Matrix ι μ α) :
    Lf * (A⁻¹ * fromCols Lfᵀ R).toCols₂ = Lf * A⁻¹ * R ∧ (A⁻¹ * fromCols Lfᵀ R).toCols₁ = A⁻¹ * Lfᵀ := by
  rw [mul_fromCols, toCols₂_fromCols, toCols₁_fromCols, Matrix.mul_assoc]
  exact ⟨rfl, rfl⟩

end LinOp.C04
