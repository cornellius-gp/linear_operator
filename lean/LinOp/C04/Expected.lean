/-
C04 — the hand-written mirror of the source facts the model was written against.  `LinOp/Generated/C04Select.lean`
is regenerated from /repo on every run; `Properties/C04.lean` proves (`source_facts_mirrored`, by `rfl`) that the regenerated facts equal
these, so any edit of the selection code, of the hook table or of the CG stopping rule breaks an obligation.
-/
import LinOp.C04.Model
import LinOp.Generated.C04Select

namespace LinOp.C04.Expected

def solveTests : List String := ["isinstance(linear_op, (CholLinearOperator, TriangularLinearOperator))", "settings.fast_computations.solves.off() or linear_op.size(-1) <= settings.max_cholesky_size.value()"]
def solveReturns : List String := ["linear_op.solve(rhs)", "linear_op.cholesky()._cholesky_solve(rhs)", "linear_op._solve(rhs, preconditioner)"]
def invQuadTests : List String := ["settings.fast_computations.solves.off() or settings.fast_computations.log_prob.off() or linear_op.size(-1) <= settings.max_cholesky_size.value()"]
def invQuadReturns : List String := ["linear_op.cholesky()._cholesky_solve(rhs)", "linear_op._solve(rhs, preconditioner)"]
def cgStopTests : List String := ["k >= min(10, max_iter - 1) and bool(residual_norm.mean() < tolerance) and (not (n_tridiag and k < min(n_tridiag_iter, max_iter - 1)))"]
def cgNIter : String := "min(max_iter, num_rows) if settings.terminate_cg_by_size.on() else max_iter"
def precondSwitch : String := "settings.max_preconditioner_size.value() == 0 or self.size(-1) < settings.min_preconditioning_size.value()"
def cgEps : String := "1e-10"
def cgStopUpdatingAfter : String := "1e-10"
/-- eigen-structured solves and the base `_symeig` read the SYMEIG dtype; nothing on a solve path reads the Cholesky dtype -/
def linalgDtypeReads : List (String × String × List String) := [("KroneckerProductAddedDiagLinearOperator", "_solve", ["_linalg_dtype_symeig"]), ("LinearOperator", "_symeig", ["_linalg_dtype_symeig"])]

def hookTable : List (String × List String) := [
  ("AbstractPermutationLinearOperator", ["_solve", "inverse"]),
  ("AddedDiagLinearOperator", ["_preconditioner"]),
  ("BatchRepeatLinearOperator", ["_cholesky", "_cholesky_solve", "inv_quad_logdet"]),
  ("BlockDiagLinearOperator", ["_cholesky", "_cholesky_solve", "_solve", "inv_quad_logdet"]),
  ("BlockInterleavedLinearOperator", ["_cholesky", "_cholesky_solve", "_solve", "inv_quad_logdet"]),
  ("CatLinearOperator", ["inv_quad_logdet"]),
  ("CholLinearOperator", ["_cholesky", "_solve", "inv_quad", "inv_quad_logdet", "inverse", "solve"]),
  ("ConstantDiagLinearOperator", ["inverse"]),
  ("DenseLinearOperator", ["_cholesky_solve"]),
  ("DiagLinearOperator", ["_cholesky", "_cholesky_solve", "inv_quad_logdet", "inverse", "solve"]),
  ("IdentityLinearOperator", ["_cholesky", "_cholesky_solve", "inv_quad_logdet", "inverse", "solve"]),
  ("KroneckerProductAddedDiagLinearOperator", ["_preconditioner", "_solve", "inv_quad_logdet"]),
  ("KroneckerProductDiagLinearOperator", ["_cholesky", "inverse"]),
  ("KroneckerProductLinearOperator", ["_cholesky", "_inv_matmul", "_solve", "inv_quad_logdet", "inverse"]),
  ("KroneckerProductTriangularLinearOperator", ["_cholesky", "_cholesky_solve", "inverse", "solve"]),
  ("LinearOperator", ["_cholesky", "_cholesky_solve", "_preconditioner", "_solve", "_solve_preconditioner", "inv_quad", "inv_quad_logdet", "inverse", "solve"]),
  ("LowRankRootAddedDiagLinearOperator", ["_preconditioner", "_solve", "_solve_preconditioner", "inv_quad_logdet", "solve"]),
  ("SumKroneckerLinearOperator", ["_solve", "inv_quad_logdet"]),
  ("TriangularLinearOperator", ["_cholesky", "_cholesky_solve", "_solve", "inv_quad_logdet", "inverse", "solve"]),
  ("ZeroLinearOperator", ["inv_quad", "inv_quad_logdet", "solve"])]

end LinOp.C04.Expected

namespace LinOp.C04

/-- the settings in force when nothing is overridden (today's defaults, from the generated file) -/
def defaultSettings : Settings :=
  ⟨Generated.C04.maxCholeskySizeDefault, Generated.C04.fastSolvesDefault, Generated.C04.fastLogProbDefault,
   Generated.C04.maxPreconditionerSizeDefault, Generated.C04.minPreconditioningSizeDefault⟩

end LinOp.C04
