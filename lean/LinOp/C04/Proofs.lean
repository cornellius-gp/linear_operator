/-
C04 — the executable model refines the matrix specification.
-/
import LinOp.C04.Model
import LinOp.C04.ModelEig
import LinOp.C04.Algebra
import LinOp.Core.Bridge
import Mathlib.LinearAlgebra.Matrix.Block
import Mathlib.LinearAlgebra.Matrix.Kronecker
import Mathlib.Logic.Equiv.Fin.Basic
import Mathlib.Tactic.Ring

set_option linter.unusedSectionVars false

namespace LinOp.C04
open Matrix

variable {α : Type} [Field α]

theorem of_mat {n m : Nat} (X : Matrix (Fin n) (Fin m) α) : Matrix.of X = X := rfl

/-! ## Substitution -/

/-- Forward substitution solves the system given by the LOWER part of `T` (whatever sits above the
diagonal is never read). -/
theorem fwdSub_spec : ∀ (n : Nat) (T : Mat α n n) (b : Fin n → α), (∀ i, T i i ≠ 0) →
    ∀ i, ∑ j : Fin n, (if j ≤ i then T i j else 0) * fwdSub n T b j = b i
  | 0, _, _, _, i => i.elim0
  | n + 1, T, b, hd, i => by
    rw [Fin.sum_univ_succ]
    refine Fin.cases ?_ (fun i' => ?_) i
    · have h0 : ∀ j : Fin n, ¬ (j.succ ≤ (0 : Fin (n + 1))) := fun j h =>
        Fin.succ_ne_zero j (Fin.le_zero_iff.mp h)
      simp only [fwdSub, Fin.cases_zero, le_refl, if_true, h0, if_false, zero_mul, Finset.sum_const_zero, add_zero]
      exact mul_div_cancel₀ _ (hd 0)
    · have ih := fwdSub_spec n (fun i j => T i.succ j.succ)
        (fun i => b i.succ - T i.succ 0 * (b 0 / T 0 0)) (fun i => hd i.succ) i'
      simp only [fwdSub, Fin.cases_zero, Fin.cases_succ, Fin.zero_le, if_true, Fin.succ_le_succ_iff] at ih ⊢
      rw [ih, add_sub_cancel]

/-- Back substitution solves the system given by the UPPER part of `T`. -/
theorem bwdSub_spec : ∀ (n : Nat) (T : Mat α n n) (b : Fin n → α), (∀ i, T i i ≠ 0) →
    ∀ i, ∑ j : Fin n, (if i ≤ j then T i j else 0) * bwdSub n T b j = b i
  | 0, _, _, _, i => i.elim0
  | n + 1, T, b, hd, i => by
    rw [Fin.sum_univ_castSucc]
    refine Fin.lastCases ?_ (fun i' => ?_) i
    · have h0 : ∀ j : Fin n, ¬ (Fin.last n ≤ j.castSucc) := fun j => not_le.mpr (Fin.castSucc_lt_last j)
      simp only [bwdSub, Fin.lastCases_last, le_refl, if_true, h0, if_false, zero_mul, Finset.sum_const_zero, zero_add]
      exact mul_div_cancel₀ _ (hd _)
    · have ih := bwdSub_spec n (fun i j => T i.castSucc j.castSucc)
        (fun i => b i.castSucc - T i.castSucc (Fin.last n) * (b (Fin.last n) / T (Fin.last n) (Fin.last n)))
        (fun i => hd i.castSucc) i'
      have hl : i'.castSucc ≤ Fin.last n := Fin.le_last _
      simp only [bwdSub, Fin.lastCases_last, Fin.lastCases_castSucc, hl, if_true,
        Fin.castSucc_le_castSucc_iff] at ih ⊢
      rw [ih, sub_add_cancel]

def IsLower {n : Nat} (T : Mat α n n) : Prop := ∀ i j, i < j → T i j = 0
def IsUpper {n : Nat} (T : Mat α n n) : Prop := ∀ i j, j < i → T i j = 0

theorem triSolve_false {n m : Nat} (T : Mat α n n) (B : Mat α n m) :
    triSolve false T B = fun i j => fwdSub n T (fun i => B i j) i := by
  funext i j; simp only [triSolve, tab1_eq, Bool.false_eq_true, if_false]

theorem triSolve_true {n m : Nat} (T : Mat α n n) (B : Mat α n m) :
    triSolve true T B = fun i j => bwdSub n T (fun i => B i j) i := by
  funext i j; simp only [triSolve, tab1_eq, if_true]

/-! `solve_triangular(T, B, upper=flag)` inverts the triangle of `T` that the flag NAMES, whatever the other triangle holds
(`triSolve_triPart`, the matrix form of `fwdSub_spec` / `bwdSub_spec`).  On a tensor of the matching orientation that triangle IS
the tensor; on one of the opposite orientation it is the diagonal. -/

/-- the triangle of `T` named by the flag (diagonal included), zero elsewhere -/
def triPart {n : Nat} (upper : Bool) (T : Mat α n n) : Mat α n n :=
  fun i j => if (if upper then i ≤ j else j ≤ i) then T i j else 0

theorem triPart_diag {n : Nat} (upper : Bool) (T : Mat α n n) (i : Fin n) : triPart upper T i i = T i i := by
  cases upper <;> exact if_pos le_rfl

theorem triPart_of_matching {n : Nat} (upper : Bool) (T : Mat α n n) (hT : if upper then IsUpper T else IsLower T) :
    triPart upper T = T := by
  funext i j
  cases upper
  · exact ite_eq_left_iff.mpr fun h => (hT i j (not_le.mp h)).symm
  · exact ite_eq_left_iff.mpr fun h => (hT i j (not_le.mp h)).symm

theorem triPart_of_opposite {n : Nat} (upper : Bool) (T : Mat α n n) (hT : if upper then IsLower T else IsUpper T) :
    (Matrix.of (triPart upper T) : Matrix (Fin n) (Fin n) α) = diagonal fun i => T i i := by
  ext i j
  rw [diagonal_apply]
  by_cases hij : i = j
  · subst hij; rw [if_pos rfl]; exact triPart_diag upper T i
  · rw [if_neg hij]
    cases upper
    · exact ite_eq_right_iff.mpr fun h => hT i j (lt_of_le_of_ne h (Ne.symm hij))
    · exact ite_eq_right_iff.mpr fun h => hT i j (lt_of_le_of_ne h hij)

theorem isUnit_det_triPart {n : Nat} (upper : Bool) (T : Mat α n n) (hd : ∀ i, T i i ≠ 0) :
    IsUnit (Matrix.of (triPart upper T)).det := by
  have hdiag : IsUnit (diagonal fun i => Matrix.of (triPart upper T) i i).det :=
    isUnit_det_diagonal fun i => by rw [Matrix.of_apply, triPart_diag]; exact hd i
  cases upper
  · rwa [det_of_isLowerTriangular (M := Matrix.of (triPart false T)) fun i j hij => if_neg (not_le.mpr hij), ← det_diagonal]
  · rwa [det_of_isUpperTriangular (M := Matrix.of (triPart true T)) fun i j hij => if_neg (not_le.mpr hij), ← det_diagonal]

theorem triSolve_triPart {n m : Nat} (upper : Bool) (T : Mat α n n) (B : Mat α n m) (hd : ∀ i, T i i ≠ 0) :
    (Matrix.of (triSolve upper T B) : Matrix (Fin n) (Fin m) α) = (Matrix.of (triPart upper T))⁻¹ * Matrix.of B := by
  refine solve_unique (isUnit_det_triPart upper T hd) (Matrix.ext fun i j => ?_)
  rw [Matrix.mul_apply]
  cases upper
  · rw [triSolve_false]; exact fwdSub_spec n T _ hd i
  · rw [triSolve_true]; exact bwdSub_spec n T _ hd i

/-- With the WRONG flag only the diagonal of a triangular tensor is read: a lower-triangular tensor solved with `upper=True`,
or an upper-triangular one solved with `upper=False`, returns `diag(T)⁻¹ B`. -/
theorem triSolve_opposite {n m : Nat} (upper : Bool) (T : Mat α n n) (B : Mat α n m)
    (hT : if upper then IsLower T else IsUpper T) (hd : ∀ i, T i i ≠ 0) :
    triSolve upper T B = fun i j => B i j / T i i := by
  have h := triSolve_triPart upper T B hd
  rw [triPart_of_opposite upper T hT, diagSolve_eq _ hd] at h
  exact h

/-! ## Inverse of a Cholesky operator (current code) -/

theorem of_one {n : Nat} : (Matrix.of (Mat.one : Mat α n n) : Matrix (Fin n) (Fin n) α) = 1 := Mat.one_eq

/-! ## Kronecker loop -/

theorem fstIdx_pairIdx {a b : Nat} (i : Fin a) (j : Fin b) : fstIdx (pairIdx i j) = i :=
  Fin.ext (mul_add_div_of_lt j.2)

theorem sndIdx_pairIdx {a b : Nat} (i : Fin a) (j : Fin b) : sndIdx (pairIdx i j) = j :=
  Fin.ext (Nat.mul_add_mod_of_lt j.2)

theorem sum_pair {a b : Nat} (f : Fin (a * b) → α) : ∑ q, f q = ∑ i : Fin a, ∑ j : Fin b, f (pairIdx i j) :=
  sum_fin_mul pairIdx (fun _ _ => rfl) f

section KD
open scoped Kronecker
variable {n1 n2 : Nat}

/-- flattened Kronecker product as a Mathlib matrix -/
def KD (A : Matrix (Fin n1) (Fin n1) α) (B : Matrix (Fin n2) (Fin n2) α) : Matrix (Fin (n1 * n2)) (Fin (n1 * n2)) α :=
  Matrix.of (kronDense A B)

/-- `kronDense` is Mathlib's Kronecker product on row-major flattened indices. -/
theorem KD_eq (A : Matrix (Fin n1) (Fin n1) α) (B : Matrix (Fin n2) (Fin n2) α) :
    KD A B = Matrix.reindex finProdFinEquiv finProdFinEquiv (A ⊗ₖ B) := by
  ext p q
  simp only [KD, Matrix.of_apply, kronDense, reindex_apply, submatrix_apply, kroneckerMap_apply]
  rfl

theorem KD_mul (A C : Matrix (Fin n1) (Fin n1) α) (B D : Matrix (Fin n2) (Fin n2) α) :
    KD A B * KD C D = KD (A * C) (B * D) := by
  rw [KD_eq, KD_eq, KD_eq, mul_kronecker_mul]
  simp only [reindex_apply, submatrix_mul_equiv]

theorem KD_one : KD (1 : Matrix (Fin n1) (Fin n1) α) (1 : Matrix (Fin n2) (Fin n2) α) = 1 := by
  rw [KD_eq, one_kronecker_one]
  simp only [reindex_apply, submatrix_one_equiv]

theorem KD_inv (A : Matrix (Fin n1) (Fin n1) α) (B : Matrix (Fin n2) (Fin n2) α) : (KD A B)⁻¹ = KD A⁻¹ B⁻¹ := by
  rw [KD_eq, KD_eq, inv_reindex, inv_kronecker]

theorem KD_transpose (A : Matrix (Fin n1) (Fin n1) α) (B : Matrix (Fin n2) (Fin n2) α) :
    (KD A B)ᵀ = KD Aᵀ Bᵀ := rfl

theorem KD_diagonal (e1 : Fin n1 → α) (e2 : Fin n2 → α) :
    KD (diagonal e1) (diagonal e2) = diagonal (kronVec e1 e2) := by
  rw [KD_eq, diagonal_kronecker_diagonal]
  simp only [reindex_apply, submatrix_diagonal_equiv]
  rfl

theorem KD_add_left (A A' : Matrix (Fin n1) (Fin n1) α) (B : Matrix (Fin n2) (Fin n2) α) :
    KD (A + A') B = KD A B + KD A' B := by
  ext p q; simp [KD, kronDense, add_mul]

/-- The reshape/permute loop of `KroneckerProductLinearOperator._solve` multiplies by the Kronecker
product of whatever the factor solves are. -/
theorem kronLoop2_eq {c : Nat} (ai : Mat α n1 n1) (bi : Mat α n2 n2) (rhs : Mat α (n1 * n2) c) :
    (Matrix.of (kronLoop2 ai bi rhs) : Matrix _ _ α) = KD (Matrix.of ai) (Matrix.of bi) * Matrix.of rhs := by
  ext p k
  simp only [KD, Matrix.of_apply, Matrix.mul_apply, kronLoop2, kronDense, tab_eq, sumFin_eq_sum]
  rw [sum_pair, Finset.sum_comm]
  refine Finset.sum_congr rfl fun l _ => ?_
  rw [Finset.mul_sum]
  refine Finset.sum_congr rfl fun j _ => ?_
  rw [fstIdx_pairIdx, sndIdx_pairIdx]
  ring

end KD

/-! ## Woodbury -/

/-- the model's five steps as matrix products, for ANY capacitance solve `ci` -/
theorem woodbury_unfold {n k m : Nat} (d : Fin n → α) (hd : ∀ i, d i ≠ 0) (U : Mat α n k) (ci : Mat α k k)
    (B : Mat α n m) :
    (Matrix.of (woodbury d U ci B) : Matrix _ _ α)
      = (diagonal d)⁻¹ * Matrix.of B
        - (diagonal d)⁻¹ * (Matrix.of U * (Matrix.of ci * ((Matrix.of U)ᵀ * ((diagonal d)⁻¹ * Matrix.of B)))) := by
  rw [diagSolve_eq d hd, diagSolve_eq d hd]
  ext i j
  simp only [woodbury, diagSolve, Mat.mul, tab_eq, sumFin_eq_sum, Mat.transpose, Matrix.mul_apply, Matrix.of_apply,
    Matrix.transpose_apply, Matrix.sub_apply]

/-! ## Selection and trace -/

theorem cholEv_no_cg (n : Nat) (e : Ev) (h : e ∈ cholEv n) : e.isCg = false := by
  unfold cholEv at h
  split at h
  · cases h
  · rw [List.mem_singleton.mp h]; rfl

theorem cholTrace_no_cg : ∀ (op : Op) (e : Ev), e ∈ cholTrace op → e.isCg = false := by
  intro op
  induction op with
  | gen n | addedDiag n | lrrad n k c | kpadloConst a b => exact cholEv_no_cg _
  | diag n | ident n | tri n | chol n => intro e h; cases h
  | kron a b iha ihb =>
    intro e h
    exact (List.mem_append.mp h).elim (iha e) (ihb e)
  | kron3 a b c iha ihb ihc =>
    intro e h
    exact (List.mem_append.mp h).elim (fun h => (List.mem_append.mp h).elim (iha e) (ihb e)) (ihc e)
  | block k base ih | brep base ih => exact ih

theorem selectSolve_fast_off (c : Bool) (n : Nat) (s : Settings) (h : s.fastSolves = false) :
    selectSolve c n s ≠ .iterative := by
  unfold selectSolve
  by_cases hc : c <;> simp [hc, h]

theorem selectSolve_iterative {n : Nat} {s : Settings} (h : selectSolve false n s = .iterative) :
    s.fastSolves = true ∧ s.maxChol < n := by
  unfold selectSolve at h
  by_cases hf : s.fastSolves <;> by_cases hm : n ≤ s.maxChol <;> simp [hf, hm] at h
  exact ⟨hf, Nat.lt_of_not_le hm⟩

theorem selectSolve_false_ne_structured (n : Nat) (s : Settings) : selectSolve false n s ≠ .structured := by
  unfold selectSolve
  by_cases hf : s.fastSolves <;> by_cases hm : n ≤ s.maxChol <;> simp [hf, hm]

/-- the shape of every selecting case of `trace` -/
theorem mem_of_ne_iterative {m : Method} {X Y : List Ev} {e : Ev} (hm : m ≠ .iterative)
    (he : e ∈ (match m with | .iterative => X | _ => Y)) : e ∈ Y := by
  cases m
  · exact he
  · exact he
  · exact absurd rfl hm

/-- If the top-level selection of `op.solve` is not the iterative branch, the solve runs through `cholesky()` (or the
class's own direct solve) and no CG runs at any nesting depth. -/
theorem trace_no_cg_of_ne_iterative (s : Settings) (op : Op) (h : selectSolve false op.size s ≠ .iterative)
    (e : Ev) (he : e ∈ trace s op) : e.isCg = false := by
  cases op with
  | gen n | addedDiag n | kpadloConst a b =>
    simp only [trace] at he
    exact cholEv_no_cg _ e (mem_of_ne_iterative h he)
  | kron a b =>
    simp only [trace] at he
    exact cholTrace_no_cg (.kron a b) e (mem_of_ne_iterative h he)
  | kron3 a b c =>
    simp only [trace] at he
    exact cholTrace_no_cg (.kron3 a b c) e (mem_of_ne_iterative h he)
  | block k base | brep base =>
    simp only [trace] at he
    exact cholTrace_no_cg base e (mem_of_ne_iterative h he)
  | diag n | ident n | tri n | chol n => simp only [trace] at he; cases he
  | lrrad n k c =>
    simp only [trace] at he
    split at he
    · cases he
    · rw [List.mem_singleton.mp he]; rfl

/-- Chol/Triangular operators (Diag and Identity included) solve directly: nothing is logged. -/
theorem trace_eq_nil_of_isCholOrTri (s : Settings) (op : Op) (h : op.isCholOrTri = true) : trace s op = [] := by
  cases op with
  | diag n | ident n | tri n | chol n => simp only [trace]
  | _ => cases h

end LinOp.C04
