/-
C04 — what it means that an algorithm the decision function `methodOf` can select returns `X` (the relation `Runs`), the
concatenate / slice pair of the left-factor path, and that `methodOf` is defined on every class.
-/
import LinOp.C04.ModelSelect
import LinOp.C04.ProofsEig

set_option linter.unusedSectionVars false

namespace LinOp.C04
open Matrix

variable {α : Type} [Field α]

/-- `Runs a N c A B X`: algorithm `a`, run on the operator with dense matrix `A` and right-hand side `B`, returns `X` —
the MODELLED computation (`triSolve`, `cholSolve`, `diagSolve`, `kronLoop2`, `kpadlo*Solve2`, `sumKronSolve2`, `woodbury`) on the
outputs of the numerical primitives, which are constrained only by their contracts (`eigh`: `IsEig`; `cholesky`: `L Lᵀ = A`;
`sqrt`: `sq x · sq x = x` at the points used; `root_inv_decomposition`: `R Rᵀ = C⁻¹`; CG / the base solve of a block operator:
"returns a solution of the system"). -/
inductive Runs : Algo → (N c : Nat) → Matrix (Fin N) (Fin N) α → Matrix (Fin N) (Fin c) α → Matrix (Fin N) (Fin c) α → Prop
  | triSubst {n c : Nat} (upper : Bool) (T : Mat α n n) (B : Mat α n c)
      (hT : if upper then IsUpper T else IsLower T) (hd : ∀ i, T i i ≠ 0) :
      Runs .triSubst n c (Matrix.of T) (Matrix.of B) (Matrix.of (triSolve upper T B))
  | kronTriFactors {n1 n2 c : Nat} (T1 : Mat α n1 n1) (T2 : Mat α n2 n2) (rhs : Mat α (n1 * n2) c) :
      Runs .kronTriFactors (n1 * n2) c (KD (Matrix.of T1) (Matrix.of T2)) (Matrix.of rhs)
        (Matrix.of (kronLoop2 ((Matrix.of T1)⁻¹ : Matrix _ _ α) ((Matrix.of T2)⁻¹ : Matrix _ _ α) rhs))
  | cholSubst {n c : Nat} (upper : Bool) (T : Mat α n n) (B : Mat α n c)
      (hT : if upper then IsUpper T else IsLower T) (hd : ∀ i, T i i ≠ 0) :
      Runs .cholSubst n c (if upper then (Matrix.of T)ᵀ * Matrix.of T else Matrix.of T * (Matrix.of T)ᵀ) (Matrix.of B)
        (Matrix.of (cholSolve upper T B))
  | diagDiv {n c : Nat} (d : Fin n → α) (hd : ∀ i, d i ≠ 0) (B : Mat α n c) :
      Runs .diagDiv n c (diagonal d) (Matrix.of B) (Matrix.of (diagSolve d B))
  | identCopy {n c : Nat} (B : Matrix (Fin n) (Fin c) α) : Runs .identCopy n c 1 B B
  | cholFresh {n c : Nat} (A L : Matrix (Fin n) (Fin n) α) (B : Matrix (Fin n) (Fin c) α) (h : L * Lᵀ = A) :
      Runs .cholFresh n c A B ((Lᵀ)⁻¹ * (L⁻¹ * B))
  | cholCached {n c : Nat} (A L : Matrix (Fin n) (Fin n) α) (B : Matrix (Fin n) (Fin c) α) (h : L * Lᵀ = A) :
      Runs .cholCached n c A B ((Lᵀ)⁻¹ * (L⁻¹ * B))
  | cholFromRoot {n c : Nat} (A L : Matrix (Fin n) (Fin n) α) (B : Matrix (Fin n) (Fin c) α) (h : L * Lᵀ = A) :
      Runs .cholFromRoot n c A B ((Lᵀ)⁻¹ * (L⁻¹ * B))
  | pcg {n c : Nat} (p : Bool) (A : Matrix (Fin n) (Fin n) α) (B X : Matrix (Fin n) (Fin c) α) (h : A * X = B) :
      Runs (.pcg p) n c A B X
  | blockBase {n c : Nat} (A : Matrix (Fin n) (Fin n) α) (B X : Matrix (Fin n) (Fin c) α) (h : A * X = B) :
      Runs .blockBase n c A B X
  | kronFactors {n1 n2 c : Nat} (A1 : Mat α n1 n1) (A2 : Mat α n2 n2) (rhs : Mat α (n1 * n2) c) :
      Runs .kronFactors (n1 * n2) c (KD (Matrix.of A1) (Matrix.of A2)) (Matrix.of rhs)
        (Matrix.of (kronLoop2 ((Matrix.of A1)⁻¹ : Matrix _ _ α) ((Matrix.of A2)⁻¹ : Matrix _ _ α) rhs))
  | eigConst {n1 n2 c : Nat} (sq : α → α) (K1 : Matrix (Fin n1) (Fin n1) α) (Q1 : Mat α n1 n1) (e1 : Fin n1 → α)
      (K2 : Matrix (Fin n2) (Fin n2) α) (Q2 : Mat α n2 n2) (e2 : Fin n2 → α)
      (h1 : IsEig K1 (Matrix.of Q1) e1) (h2 : IsEig K2 (Matrix.of Q2) e2) (cst : α)
      (hsq : ∀ p, sq (kronVec e1 e2 p + cst) * sq (kronVec e1 e2 p + cst) = kronVec e1 e2 p + cst)
      (hpos : ∀ p, kronVec e1 e2 p + cst ≠ 0) (rhs : Mat α (n1 * n2) c) :
      Runs .eigConst (n1 * n2) c (KD K1 K2 + cst • (1 : Matrix _ _ α)) (Matrix.of rhs)
        (Matrix.of (kpadloConstSolve2 sq Q1 Q2 e1 e2 cst rhs))
  | eigKronConst {n1 n2 c : Nat} (K1 : Matrix (Fin n1) (Fin n1) α) (Q1 : Mat α n1 n1) (e1 : Fin n1 → α)
      (K2 : Matrix (Fin n2) (Fin n2) α) (Q2 : Mat α n2 n2) (e2 : Fin n2 → α)
      (h1 : IsEig K1 (Matrix.of Q1) e1) (h2 : IsEig K2 (Matrix.of Q2) e2) (d1 d2 : α)
      (hd1 : d1 ≠ 0) (hd2 : d2 ≠ 0) (hne : ∀ p, kronVec e1 e2 p / (d1 * d2) + 1 ≠ 0) (rhs : Mat α (n1 * n2) c) :
      Runs .eigKronConst (n1 * n2) c (KD K1 K2 + KD (diagonal fun _ => d1) (diagonal fun _ => d2)) (Matrix.of rhs)
        (Matrix.of (kpadloKronConstSolve2 Q1 Q2 e1 e2 d1 d2 rhs))
  | eigSymm {n1 n2 c : Nat} (sq : α → α) (K1 : Matrix (Fin n1) (Fin n1) α) (Q1 : Mat α n1 n1) (e1 d1 : Fin n1 → α)
      (K2 : Matrix (Fin n2) (Fin n2) α) (Q2 : Mat α n2 n2) (e2 d2 : Fin n2 → α)
      (hsq1 : ∀ i, sq (d1 i) * sq (d1 i) = d1 i) (hsq2 : ∀ j, sq (d2 j) * sq (d2 j) = d2 j)
      (hd1 : ∀ i, d1 i ≠ 0) (hd2 : ∀ j, d2 j ≠ 0)
      (h1 : IsEig (diagonal (fun i => 1 / sq (d1 i)) * K1 * diagonal (fun i => 1 / sq (d1 i))) (Matrix.of Q1) e1)
      (h2 : IsEig (diagonal (fun j => 1 / sq (d2 j)) * K2 * diagonal (fun j => 1 / sq (d2 j))) (Matrix.of Q2) e2)
      (hne : ∀ p, kronVec e1 e2 p + 1 ≠ 0) (rhs : Mat α (n1 * n2) c) :
      Runs .eigSymm (n1 * n2) c (KD K1 K2 + KD (diagonal d1) (diagonal d2)) (Matrix.of rhs)
        (Matrix.of (kpadloSymmSolve2 sq Q1 Q2 e1 e2 d1 d2 rhs))
  | sumKronCongr {n1 n2 c : Nat} (A1 C1 : Matrix (Fin n1) (Fin n1) α) (R1 : Mat α n1 n1)
      (A2 C2 : Matrix (Fin n2) (Fin n2) α) (R2 : Mat α n2 n2)
      (hC1 : IsUnit C1.det) (hC2 : IsUnit C2.det)
      (hR1 : Matrix.of R1 * (Matrix.of R1)ᵀ = C1⁻¹) (hR2 : Matrix.of R2 * (Matrix.of R2)ᵀ = C2⁻¹)
      (innerSolve : Mat α (n1 * n2) c → Mat α (n1 * n2) c)
      (hinner : ∀ X, (Matrix.of (innerSolve X) : Matrix _ _ α)
        = (KD ((Matrix.of R1)ᵀ * A1 * Matrix.of R1) ((Matrix.of R2)ᵀ * A2 * Matrix.of R2) + 1)⁻¹ * Matrix.of X)
      (rhs : Mat α (n1 * n2) c) :
      Runs .sumKronCongr (n1 * n2) c (KD A1 A2 + KD C1 C2) (Matrix.of rhs) (Matrix.of (sumKronSolve2 R1 R2 innerSolve rhs))
  | woodbury {n k c : Nat} (cached : Bool) (d : Fin n → α) (hd : ∀ i, d i ≠ 0) (U : Mat α n k) (B : Mat α n c)
      (hC : IsUnit ((1 : Matrix (Fin k) (Fin k) α) + (Matrix.of U)ᵀ * (diagonal d)⁻¹ * Matrix.of U).det) :
      Runs (.woodbury cached) n c (diagonal d + Matrix.of U * (Matrix.of U)ᵀ) (Matrix.of B)
        (Matrix.of (woodbury d U
          (((1 : Matrix (Fin k) (Fin k) α) + (Matrix.of U)ᵀ * (diagonal d)⁻¹ * Matrix.of U)⁻¹ : Matrix (Fin k) (Fin k) α) B))

/-! ## left factor: concatenate, solve once, slice, multiply -/

/-- `torch.cat([Lᵀ, R], -1)` -/
def catLR {n o p : Nat} (L : Matrix (Fin o) (Fin n) α) (R : Matrix (Fin n) (Fin p) α) : Matrix (Fin n) (Fin (o + p)) α :=
  fun i j => if h : j.1 < o then L ⟨j.1, h⟩ i else R i ⟨j.1 - o, by omega⟩

/-- `solves[..., o:]` -/
def sliceR {n o p : Nat} (X : Matrix (Fin n) (Fin (o + p)) α) : Matrix (Fin n) (Fin p) α :=
  fun i j => X i ⟨o + j.1, by omega⟩

theorem sliceR_catLR {n o p : Nat} (L : Matrix (Fin o) (Fin n) α) (R : Matrix (Fin n) (Fin p) α) :
    sliceR (catLR L R) = R := by
  ext i j
  have h : ¬ (o + j.1 < o) := Nat.not_lt.mpr (Nat.le_add_right o j.1)
  simp only [sliceR, catLR, dif_neg h, Nat.add_sub_cancel_left]

/-- slicing columns commutes with a multiplication from the left -/
theorem sliceR_mul {n m o p : Nat} (M : Matrix (Fin m) (Fin n) α) (X : Matrix (Fin n) (Fin (o + p)) α) :
    sliceR (M * X) = M * sliceR X := rfl

/-! ## the decision function is defined (≠ `unmodelled`) on every class for `solve` and `inv_quad` -/

theorem innerSolve_modelled (cls : OpClass) (n : Nat) (s : Settings) (c : CacheState) : innerSolve cls n s c ≠ .unmodelled := by
  cases cls <;> exact Algo.noConfusion

theorem methodOf_solve_modelled (cls : OpClass) (n : Nat) (s : Settings) (c : CacheState) :
    methodOf .solve cls n s c ≠ .unmodelled := by
  unfold methodOf
  by_cases hl : cls = .lrrad
  · subst hl; simp [ownSolve]
  · simp only [hl, if_false]
    cases hsel : selectSolve cls.isCholOrTri n s with
    | structured =>
      have hct : cls.isCholOrTri = true := by
        cases h : cls.isCholOrTri
        · rw [h] at hsel; exact absurd hsel (selectSolve_false_ne_structured n s)
        · rfl
      cases cls <;> first | exact Algo.noConfusion | cases hct
    | cholesky => simp
    | iterative => exact innerSolve_modelled cls n s c

theorem methodOf_invQuad_modelled (cls : OpClass) (n : Nat) (s : Settings) (c : CacheState) :
    methodOf .invQuad cls n s c ≠ .unmodelled := by
  unfold methodOf
  by_cases hl : cls = .chol
  · simp [hl]
  · simp only [hl, if_false]
    cases hsel : selectInvQuad n s with
    | iterative => exact innerSolve_modelled cls n s _
    | cholesky => simp
    | structured => simp

end LinOp.C04
