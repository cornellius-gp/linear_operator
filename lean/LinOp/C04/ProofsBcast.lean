/-
C04 — proofs for the batch-broadcast solve on flat buffers (`ModelBcast.lean`).
-/
import LinOp.C04.ModelBcast
import LinOp.C04.Proofs
import LinOp.C01.ProofsE

namespace LinOp.C04
open LinOp.C01 (broadcastShape restrict InBox)
open LinOp.C01.E (restrict_inBox restrict_of_inBox)
open Matrix

theorem prodL_pos_of_lt {s : List Nat} {p : Nat} (h : p < prodL s) : 0 < prodL s := by omega

theorem unflat_inBox : ∀ (s : List Nat) (p : Nat), p < prodL s → InBox s (unflat s p)
  | [], _, _ => trivial
  | a :: s, p, h => by
    simp only [prodL] at h
    have hpos : 0 < prodL s := Nat.pos_of_lt_mul_left h
    refine ⟨?_, unflat_inBox s _ (Nat.mod_lt _ hpos)⟩
    exact Nat.div_lt_of_lt_mul (by rw [Nat.mul_comm]; exact h)

theorem flatOf_lt : ∀ (s idx : List Nat), InBox s idx → flatOf s idx < prodL s
  | [], [], _ => Nat.one_pos
  | [], _ :: _, h => False.elim h
  | _ :: _, [], h => False.elim h
  | a :: s, i :: idx, h => by
    obtain ⟨hi, hr⟩ := h
    have ih := flatOf_lt s idx hr
    show i * prodL s + flatOf s idx < a * prodL s
    calc i * prodL s + flatOf s idx < i * prodL s + prodL s := Nat.add_lt_add_left ih _
      _ = (i + 1) * prodL s := (Nat.succ_mul i _).symm
      _ ≤ a * prodL s := Nat.mul_le_mul_right _ hi

theorem flatOf_unflat : ∀ (s : List Nat) (p : Nat), p < prodL s → flatOf s (unflat s p) = p
  | [], p, h => by simp [prodL] at h; simp [flatOf, h]
  | a :: s, p, h => by
    simp only [prodL] at h
    have hpos : 0 < prodL s := Nat.pos_of_lt_mul_left h
    simp only [unflat, flatOf]
    rw [flatOf_unflat s _ (Nat.mod_lt _ hpos)]
    exact Nat.div_add_mod' p (prodL s)

theorem unflat_flatOf : ∀ (s idx : List Nat), InBox s idx → unflat s (flatOf s idx) = idx
  | [], [], _ => rfl
  | [], _ :: _, h => False.elim h
  | _ :: _, [], h => False.elim h
  | a :: s, i :: idx, h => by
    obtain ⟨_, hr⟩ := h
    have hlt := flatOf_lt s idx hr
    have hpos : 0 < prodL s := Nat.zero_lt_of_lt hlt
    simp only [flatOf, unflat]
    have h1 : (i * prodL s + flatOf s idx) / prodL s = i := by
      rw [Nat.add_comm, Nat.add_mul_div_right _ _ hpos, Nat.div_eq_of_lt hlt, Nat.zero_add]
    have h2 : (i * prodL s + flatOf s idx) % prodL s = flatOf s idx := by
      rw [Nat.add_comm, Nat.add_mul_mod_self_right, Nat.mod_eq_of_lt hlt]
    rw [h1, h2, unflat_flatOf s idx hr]

/-- the index map of a broadcasting operand: in range, and its multi-index is C01's `restrict` of the output multi-index. -/
theorem bcastMember_spec {s t out : List Nat} (h : broadcastShape s t = some out) {p : Nat} (hp : p < prodL out) :
    bcastMember s out p < prodL s ∧ bcastMember t out p < prodL t ∧
    unflat s (bcastMember s out p) = restrict s (unflat out p) ∧
    unflat t (bcastMember t out p) = restrict t (unflat out p) := by
  have hb := restrict_inBox h (unflat_inBox out p hp)
  exact ⟨flatOf_lt _ _ hb.1, flatOf_lt _ _ hb.2, unflat_flatOf _ _ hb.1, unflat_flatOf _ _ hb.2⟩

variable {α : Type} [Field α]

theorem solveBroadcastFlat_refines {n c : Nat} (sA sB out : List Nat) (A : Nat → Matrix (Fin n) (Fin n) α)
    (B : Nat → Mat α n c) (p : Nat) :
    (Matrix.of (solveBroadcastFlat sA sB out (fun m => ((A m)⁻¹ : Matrix _ _ α)) B p) : Matrix _ _ α)
      = (A (bcastMember sA out p))⁻¹ * Matrix.of (B (bcastMember sB out p)) := by
  ext i k
  simp only [solveBroadcastFlat, Matrix.of_apply, Mat.mul, tab_eq, sumFin_eq_sum, Matrix.mul_apply]

end LinOp.C04
