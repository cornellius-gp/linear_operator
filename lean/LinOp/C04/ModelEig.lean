/-
C04 — executable models of the eigen-structured solves (core Lean only, no Mathlib).

Mirrors
  * `KroneckerProductAddedDiagLinearOperator._solve`, constant diagonal  → `kpadloConstSolve2`
      evals, Q = K.diagonalization();  r = (evals + c)^(1/2);  res = Qᵀ rhs;  res2 = r⁻¹ res;  (Q r⁻¹) res2
  * … Kronecker-structured diagonal with constant factors (`_constant_kpadlt_constructor`) → `kpadloKronConstSolve2`
      evals_p_i = ⊗(Λ_i / d_i) + 1;  res1 = (Qᵀ rhs) / evals_p_i;  res = (Q res1) / (d_1 d_2)
  * … Kronecker-structured diagonal, general (`_symmetrize_kpadlt_constructor`) → `kpadloSymmSolve2`
      S = ⊗ D_i^{-1/2};  (Λ̃_i, Q̃_i) = eigh(S_i K_i S_i);  res = S Q̃ ((Q̃ᵀ S rhs) / (⊗Λ̃_i + 1))
  * `SumKroneckerLinearOperator._solve`  → `sumKronSolve2`
      R = ⊗ root_inv(C_i);  res = Rᵀ rhs;  res = inner.solve(res);  res = R res      (inner = ⊗(R_iᵀ A_i R_i) + 1·I)
  * `BatchRepeatLinearOperator._cholesky_solve` (`_move_repeat_batches_to_columns` → base solve →
    `_move_repeat_batches_back`)  → `batchRepeatSolve`
  * `KroneckerProductLinearOperator._solve` / `_matmul` for ANY number of factors on a flat buffer → `kronStep`, `kronLoopN`
Every Kronecker-structured matmul (`Q.matmul`, `Qᵀ.matmul`, `R.matmul`) is the reshape/permute loop `kronLoop2`.
`eigh` / `sqrt` / `root_inv_decomposition` are parameters (their outputs are inputs of the model).
-/
import LinOp.C04.Model

namespace LinOp.C04

section Values
variable {α : Type} [Add α] [Sub α] [Mul α] [Div α] [Zero α] [One α]

/-- diagonal of a `KroneckerProductDiagLinearOperator` / eigenvalues of a Kronecker product: `(e1 ⊗ e2)[(i,j)] = e1[i]·e2[j]` -/
def kronVec {n1 n2 : Nat} (e1 : Fin n1 → α) (e2 : Fin n2 → α) : Fin (n1 * n2) → α :=
  fun p => e1 (fstIdx p) * e2 (sndIdx p)

/-- `DiagLinearOperator(d).matmul(X)` -/
def diagMul {n c : Nat} (d : Fin n → α) (X : Mat α n c) : Mat α n c := fun i k => d i * X i k

/-! Strict materialisation between the stages (the driver runs the `…V` functions: they return data, so every stage is
computed once; the `Mat`-valued functions the theorems talk about are `ofV` of them). -/

def matV {n m : Nat} (f : Mat α n m) : Vector (Vector α m) n := Vector.ofFn fun i => Vector.ofFn (f i)
def ofV {n m : Nat} (v : Vector (Vector α m) n) : Mat α n m := fun i j => (v[i.1]'i.2)[j.1]'j.2
def vecV {n : Nat} (f : Fin n → α) : Vector α n := Vector.ofFn f
def ofV1 {n : Nat} (v : Vector α n) : Fin n → α := fun i => v[i.1]'i.2

omit [Add α] [Sub α] [Mul α] [Div α] [Zero α] [One α] in
@[simp] theorem ofV_matV {n m : Nat} (f : Mat α n m) : ofV (matV f) = f := by
  funext i j; simp [ofV, matV]

omit [Add α] [Sub α] [Mul α] [Div α] [Zero α] [One α] in
@[simp] theorem ofV1_vecV {n : Nat} (f : Fin n → α) : ofV1 (vecV f) = f := by
  funext i; simp [ofV1, vecV]

/-- Constant diagonal `c·I`: `sq` is the square-root primitive, `(Q_i, e_i)` what `eigh` returned for factor `i`. -/
def kpadloConstSolve2V {n1 n2 c : Nat} (sq : α → α) (Q1 : Mat α n1 n1) (Q2 : Mat α n2 n2)
    (e1 : Fin n1 → α) (e2 : Fin n2 → α) (cst : α) (rhs : Mat α (n1 * n2) c) : Vector (Vector α c) (n1 * n2) :=
  let rinv := vecV fun p => 1 / sq (kronVec e1 e2 p + cst)                              -- evals_root.reciprocal()
  let res := matV (kronLoop2 (Mat.transpose Q1) (Mat.transpose Q2) rhs)                -- q_matrix.mT.matmul(rhs)
  let res2 := matV (diagMul (ofV1 rinv) (ofV res))                                      -- inv_mat_sqrt.matmul(res)
  let res3 := matV (diagMul (ofV1 rinv) (ofV res2))                                     -- (Q · inv_mat_sqrt).matmul(res2), inner factor
  matV (kronLoop2 Q1 Q2 (ofV res3))

def kpadloConstSolve2 {n1 n2 c : Nat} (sq : α → α) (Q1 : Mat α n1 n1) (Q2 : Mat α n2 n2)
    (e1 : Fin n1 → α) (e2 : Fin n2 → α) (cst : α) (rhs : Mat α (n1 * n2) c) : Mat α (n1 * n2) c :=
  ofV (kpadloConstSolve2V sq Q1 Q2 e1 e2 cst rhs)

/-- Diagonal `(d1·I) ⊗ (d2·I)` (`_constant_kpadlt_constructor`). -/
def kpadloKronConstSolve2V {n1 n2 c : Nat} (Q1 : Mat α n1 n1) (Q2 : Mat α n2 n2)
    (e1 : Fin n1 → α) (e2 : Fin n2 → α) (d1 d2 : α) (rhs : Mat α (n1 * n2) c) : Vector (Vector α c) (n1 * n2) :=
  let evp := vecV fun p => kronVec (fun i => e1 i / d1) (fun j => e2 j / d2) p + 1
  let t := matV (kronLoop2 (Mat.transpose Q1) (Mat.transpose Q2) rhs)
  let res1 := matV (diagSolve (ofV1 evp) (ofV t))                   -- evals_p_i.solve(evecsᵀ rhs)
  let u := matV (kronLoop2 Q1 Q2 (ofV res1))
  matV (diagSolve (kronVec (fun _ : Fin n1 => d1) (fun _ : Fin n2 => d2)) (ofV u))    -- dlt.solve(…)

def kpadloKronConstSolve2 {n1 n2 c : Nat} (Q1 : Mat α n1 n1) (Q2 : Mat α n2 n2)
    (e1 : Fin n1 → α) (e2 : Fin n2 → α) (d1 d2 : α) (rhs : Mat α (n1 * n2) c) : Mat α (n1 * n2) c :=
  ofV (kpadloKronConstSolve2V Q1 Q2 e1 e2 d1 d2 rhs)

/-- Diagonal `D1 ⊗ D2` with arbitrary positive diagonals (`_symmetrize_kpadlt_constructor`);
`(Q_i, e_i)` is what `eigh` returned for the symmetrised factor `D_i^{-1/2} K_i D_i^{-1/2}`. -/
def kpadloSymmSolve2V {n1 n2 c : Nat} (sq : α → α) (Q1 : Mat α n1 n1) (Q2 : Mat α n2 n2)
    (e1 : Fin n1 → α) (e2 : Fin n2 → α) (d1 : Fin n1 → α) (d2 : Fin n2 → α) (rhs : Mat α (n1 * n2) c) :
    Vector (Vector α c) (n1 * n2) :=
  let s := vecV (kronVec (fun i => 1 / sq (d1 i)) (fun j => 1 / sq (d2 j)))   -- dlt.sqrt().inverse()
  let evp := vecV fun p => kronVec e1 e2 p + 1
  let r0 := matV (diagMul (ofV1 s) rhs)
  let res1 := matV (kronLoop2 (Mat.transpose Q1) (Mat.transpose Q2) (ofV r0))
  let res2 := matV (diagSolve (ofV1 evp) (ofV res1))
  let res3 := matV (kronLoop2 Q1 Q2 (ofV res2))
  matV (diagMul (ofV1 s) (ofV res3))

def kpadloSymmSolve2 {n1 n2 c : Nat} (sq : α → α) (Q1 : Mat α n1 n1) (Q2 : Mat α n2 n2)
    (e1 : Fin n1 → α) (e2 : Fin n2 → α) (d1 : Fin n1 → α) (d2 : Fin n2 → α) (rhs : Mat α (n1 * n2) c) :
    Mat α (n1 * n2) c :=
  ofV (kpadloSymmSolve2V sq Q1 Q2 e1 e2 d1 d2 rhs)

/-- `SumKroneckerLinearOperator._solve`: `RC`, `RD` are the roots returned by `root_inv_decomposition()` of the factors of
the SECOND Kronecker summand, `innerSolve` is `inner_mat.solve`. -/
def sumKronSolve2V {n1 n2 c : Nat} (RC : Mat α n1 n1) (RD : Mat α n2 n2)
    (innerSolveV : Mat α (n1 * n2) c → Vector (Vector α c) (n1 * n2)) (rhs : Mat α (n1 * n2) c) :
    Vector (Vector α c) (n1 * n2) :=
  let res := matV (kronLoop2 (Mat.transpose RC) (Mat.transpose RD) rhs)
  let res := innerSolveV (ofV res)
  matV (kronLoop2 RC RD (ofV res))

def sumKronSolve2 {n1 n2 c : Nat} (RC : Mat α n1 n1) (RD : Mat α n2 n2)
    (innerSolve : Mat α (n1 * n2) c → Mat α (n1 * n2) c) (rhs : Mat α (n1 * n2) c) : Mat α (n1 * n2) c :=
  ofV (sumKronSolve2V RC RD (fun X => matV (innerSolve X)) rhs)

/-! ### BatchRepeat: repeats become extra columns of the base solve
rhs `(r·b, n, c)` → view `(r, b, n, c)` → permute `(b, n, c, r)` → view `(b, n, c·r)`; base solve; view `(b, n, c, r)` →
permute `(r, b, n, c)` → view `(r·b, n, c)`. -/

def brepToCols {r b n c : Nat} (X : Fin (r * b) → Mat α n c) : Fin b → Mat α n (c * r) :=
  fun bi i q => X (pairIdx (sndIdx q) bi) i (fstIdx q)

def brepBack {r b n c : Nat} (Y : Fin b → Mat α n (c * r)) : Fin (r * b) → Mat α n c :=
  fun p i k => Y (sndIdx p) i (pairIdx k (fstIdx p))

/-- `baseInv bi` stands for the solve of base batch member `bi` (exact inverse in the driver). -/
def batchRepeatSolve {r b n c : Nat} (baseInv : Fin b → Mat α n n) (X : Fin (r * b) → Mat α n c) :
    Fin (r * b) → Mat α n c :=
  brepBack (fun bi => Mat.mul (baseInv bi) (brepToCols X bi))

end Values

/-! ### Kronecker `_solve` / `_matmul` loop for any number of factors, on the flat buffer
The tensor is a flat row-major buffer `Nat → α` of `R·c` entries (`R` rows, `c` columns).  One pass of the loop for a factor of
size `n`:  `y = M @ y.reshape(n, -1)`; `y.reshape(n, R/n, c).permute(1, 0, 2)` made contiguous.  -/

section Flat
variable {α : Type} [Add α] [Mul α] [Zero α]

def sumRange (n : Nat) (f : Nat → α) : α := (List.range n).foldl (fun acc j => acc + f j) 0

/-- one pass: output flat index `(r·n + i)·c + k`  ←  `Σ_j M[i,j] · y[(j·(R/n) + r)·c + k]` -/
def kronStep (R c n : Nat) (M : Nat → Nat → α) (y : Nat → α) : Nat → α :=
  fun t =>
    let k := t % c
    let p := t / c
    let i := p % n
    let r := p / n
    sumRange n fun j => M i j * y ((j * (R / n) + r) * c + k)

/-- one pass on the buffer as data -/
def kronStepA (R c n : Nat) (M : Nat → Nat → α) (y : Array α) : Array α :=
  Array.ofFn (n := R * c) fun t => kronStep R c n M (fun i => y.getD i 0) t.1

/-- the whole loop over the list of `(size, factor-solve matrix)` -/
def kronLoopN (R c : Nat) : List (Nat × (Nat → Nat → α)) → Array α → Array α
  | [], y => y
  | (n, M) :: rest, y => kronLoopN R c rest (kronStepA R c n M y)

/-- product of the factor sizes -/
def prodSizes : List (Nat × (Nat → Nat → α)) → Nat
  | [] => 1
  | (n, _) :: rest => n * prodSizes rest

/-- entries of `M_1 ⊗ … ⊗ M_N` on row-major flat indices -/
def kronEntryN [One α] : List (Nat × (Nat → Nat → α)) → Nat → Nat → α
  | [], _, _ => 1
  | (_, M) :: rest, p, q =>
    M (p / prodSizes rest) (q / prodSizes rest) * kronEntryN rest (p % prodSizes rest) (q % prodSizes rest)

end Flat

end LinOp.C04
