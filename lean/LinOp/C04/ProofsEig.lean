/-
C04 — what the eigen-structured solves (KroneckerProductAddedDiag, SumKronecker) rest on: eigen-systems and their closure under
Kronecker products, the congruence lemma `Rᵀ X R = M ⇒ X⁻¹ = R M⁻¹ Rᵀ` and its two uses, the model's diagonal steps as products.
-/
import LinOp.C04.ModelEig
import LinOp.C04.Proofs

set_option linter.unusedSectionVars false

namespace LinOp.C04
open Matrix
open scoped Kronecker

variable {α : Type} [Field α]

theorem diagMul_eq {n c : Nat} (d : Fin n → α) (X : Mat α n c) :
    (Matrix.of (diagMul d X) : Matrix _ _ α) = diagonal d * Matrix.of X := by
  ext i k; rw [diagonal_mul]; rfl

theorem diagSolve_eq_mul {n c : Nat} (d : Fin n → α) (X : Mat α n c) :
    (Matrix.of (diagSolve d X) : Matrix _ _ α) = diagonal (fun i => (d i)⁻¹) * Matrix.of X := by
  ext i k; rw [diagonal_mul, inv_mul_eq_div]; rfl

/-- `Qᵀ.matmul` of a Kronecker-structured `Q`: the loop on the transposed factors. -/
theorem kronLoop2_transpose_eq {n1 n2 c : Nat} (A : Mat α n1 n1) (B : Mat α n2 n2) (X : Mat α (n1 * n2) c) :
    (Matrix.of (kronLoop2 (Mat.transpose A) (Mat.transpose B) X) : Matrix _ _ α)
      = (KD (Matrix.of A) (Matrix.of B))ᵀ * Matrix.of X :=
  kronLoop2_eq _ _ X

/-! ## eigen-systems and their closure under Kronecker products (any number of factors by iteration) -/

/-- the contract of `eigh` / `diagonalization()`: `Q` orthogonal, `Q diag(ev) Qᵀ = K` -/
structure IsEig {ι : Type} [Fintype ι] [DecidableEq ι] (K Q : Matrix ι ι α) (ev : ι → α) : Prop where
  orth1 : Qᵀ * Q = 1
  orth2 : Q * Qᵀ = 1
  recon : Q * diagonal ev * Qᵀ = K

/-- Kronecker products of eigen-systems are eigen-systems on flattened row-major indices (what
`KroneckerProductLinearOperator.diagonalization()` returns): the result is again a `Fin`-indexed eigen-system, so the lemma
iterates to any number of factors. -/
theorem IsEig.kronDense {n1 n2 : Nat} {K1 Q1 : Matrix (Fin n1) (Fin n1) α} {e1 : Fin n1 → α}
    {K2 Q2 : Matrix (Fin n2) (Fin n2) α} {e2 : Fin n2 → α} (h1 : IsEig K1 Q1 e1) (h2 : IsEig K2 Q2 e2) :
    IsEig (KD K1 K2) (KD Q1 Q2) (kronVec e1 e2) where
  orth1 := by rw [KD_transpose, KD_mul, h1.orth1, h2.orth1, KD_one]
  orth2 := by rw [KD_transpose, KD_mul, h1.orth2, h2.orth2, KD_one]
  recon := by rw [KD_transpose, ← KD_diagonal, KD_mul, KD_mul, h1.recon, h2.recon]

/-! ## the congruence lemma behind the symmetrised and the sum-of-Kronecker solves -/

/-- `Rᵀ X R = M` with `R` invertible ⇒ `X⁻¹ = R M⁻¹ Rᵀ`. -/
theorem congr_inv {ι : Type} [Fintype ι] [DecidableEq ι] (R X M : Matrix ι ι α) (hR : IsUnit R.det)
    (h : Rᵀ * X * R = M) : X⁻¹ = R * M⁻¹ * Rᵀ := by
  have hRt : IsUnit (Rᵀ).det := by rwa [det_transpose]
  have hX : X = (Rᵀ)⁻¹ * M * R⁻¹ := by
    rw [← h, Matrix.mul_assoc, Matrix.mul_assoc, mul_nonsing_inv _ hR, Matrix.mul_one, nonsing_inv_mul_cancel_left _ _ hRt]
  rw [hX, Matrix.mul_inv_rev, Matrix.mul_inv_rev, nonsing_inv_nonsing_inv _ hR, nonsing_inv_nonsing_inv _ hRt,
    Matrix.mul_assoc]

/-- eigen-shift by the identity: `(QΛQᵀ + 1)⁻¹ B = Q ((Λ+1)⁻¹ (Qᵀ B))`. -/
theorem eig_shift_one {ι κ : Type} [Fintype ι] [DecidableEq ι] [Fintype κ] [DecidableEq κ]
    {K Q : Matrix ι ι α} {ev : ι → α} (h : IsEig K Q ev)
    (hne : ∀ i, ev i + 1 ≠ 0) (B : Matrix ι κ α) :
    (K + 1)⁻¹ * B = Q * (diagonal (fun i => (ev i + 1)⁻¹) * (Qᵀ * B)) := by
  have := kpadlo_constDiag_solve ev (1 : α) h.orth1 h.orth2 hne B
  rwa [one_smul, h.recon] at this

/-! ## KroneckerProductAddedDiag, the three diagonal kinds -/

section KPADLO
variable {n1 n2 c : Nat}

/-- general lemma: `S = diag(s)` with `s_p² d_p = 1`, `(Q, ev)` an eigen-system of `S K S` ⇒
`(K + diag d)⁻¹ B = S Q (Λ+1)⁻¹ Qᵀ S B`. -/
theorem symm_solve {ι κ : Type} [Fintype ι] [DecidableEq ι] [Fintype κ] [DecidableEq κ]
    (K Q : Matrix ι ι α) (ev s d : ι → α) (hs : ∀ p, s p * s p * d p = 1)
    (hE : IsEig (diagonal s * K * diagonal s) Q ev) (hne : ∀ i, ev i + 1 ≠ 0) (B : Matrix ι κ α) :
    (K + diagonal d)⁻¹ * B
      = diagonal s * (Q * (diagonal (fun i => (ev i + 1)⁻¹) * (Qᵀ * (diagonal s * B)))) := by
  have hs0 : ∀ p, s p ≠ 0 := fun p h0 => by have := hs p; rw [h0, zero_mul, zero_mul] at this; exact zero_ne_one this
  have hSDS : diagonal s * diagonal d * diagonal s = (1 : Matrix ι ι α) := by
    rw [diagonal_mul_diagonal, diagonal_mul_diagonal, ← diagonal_one]
    exact congrArg diagonal (funext fun p => by rw [mul_right_comm, hs p])
  have hcong : (diagonal s)ᵀ * (K + diagonal d) * diagonal s = diagonal s * K * diagonal s + 1 := by
    rw [diagonal_transpose, Matrix.mul_add, Matrix.add_mul, hSDS]
  rw [congr_inv (diagonal s) (K + diagonal d) _ (isUnit_det_diagonal hs0) hcong, diagonal_transpose, Matrix.mul_assoc,
    Matrix.mul_assoc, eig_shift_one hE hne]

/-- `a`, `b` square roots of `x`, `y ≠ 0`: scaling twice by the Kronecker entry of the inverse roots undoes `x y`. -/
theorem kron_inv_sqrt_sq {a b x y : α} (ha : a * a = x) (hb : b * b = y) (hx : x ≠ 0) (hy : y ≠ 0) :
    1 / a * (1 / b) * (1 / a * (1 / b)) * (x * y) = 1 := by
  rw [one_div, one_div, ← mul_inv, ← mul_inv, mul_mul_mul_comm, ha, hb, inv_mul_cancel₀ (mul_ne_zero hx hy)]

end KPADLO

/-! ## SumKronecker -/

/-- `R Rᵀ = C⁻¹` (contract of `root_inv_decomposition`), `C` invertible ⇒ `R` invertible and `Rᵀ C R = 1`. -/
theorem rootInv_congr {ι : Type} [Fintype ι] [DecidableEq ι] (R C : Matrix ι ι α) (hC : IsUnit C.det)
    (h : R * Rᵀ = C⁻¹) : IsUnit R.det ∧ Rᵀ * C * R = 1 := by
  have h1 : C * R * Rᵀ = 1 := by rw [Matrix.mul_assoc, h, mul_nonsing_inv _ hC]
  have h2 : Rᵀ * (C * R) = 1 := mul_eq_one_comm.mp h1
  refine ⟨?_, by rw [Matrix.mul_assoc]; exact h2⟩
  have : IsUnit (Rᵀ).det := isUnit_det_of_left_inverse (B := C * R) (by exact mul_eq_one_comm.mp h2)
  rwa [det_transpose] at this

theorem sumKron_inv {ι κ : Type} [Fintype ι] [DecidableEq ι] [Fintype κ] [DecidableEq κ]
    (A C R : Matrix ι ι α) (hC : IsUnit C.det) (h : R * Rᵀ = C⁻¹) (B : Matrix ι κ α) :
    (A + C)⁻¹ * B = R * ((Rᵀ * A * R + 1)⁻¹ * (Rᵀ * B)) := by
  obtain ⟨hR, hcong⟩ := rootInv_congr R C hC h
  have : Rᵀ * (A + C) * R = Rᵀ * A * R + 1 := by rw [Matrix.mul_add, Matrix.add_mul, hcong]
  rw [congr_inv R (A + C) _ hR this, Matrix.mul_assoc, Matrix.mul_assoc]

end LinOp.C04
