/-
C04 — the iterative branch: composition with the C08 theorems (imported, not re-proved).

`LinearOperator._solve` = `linear_cg(self._matmul, rhs, …, preconditioner=preconditioner)`; for an `AddedDiagLinearOperator` the
preconditioner closure applies `W = (L_k L_kᵀ + D)⁻¹` (`L_k` the rank-`k` pivoted Cholesky factor).  Here the CG system of C08
(`LinOp.C08.Sys`) is instantiated with the matrix closures `v ↦ A v`, `v ↦ W v`, and the C08 results (`exact_at_n`,
`chebyshev_rate_pre`) are restated about `A⁻¹ b̂`, the quantity `solve_any_branch` needs from the branch.
-/
import LinOp.C08.Proofs15
import Mathlib.LinearAlgebra.Matrix.NonsingularInverse
import Mathlib.LinearAlgebra.Matrix.ToLinearEquiv

set_option linter.unusedSectionVars false

namespace LinOp.C04
open Matrix LinOp.C08

/-- the column system `linear_cg` works on: `matmul_closure = A ·`, `preconditioner = W ·` -/
def matSys {n : Nat} (A W : Matrix (Fin n) (Fin n) ℝ) (b x0 : Vec ℝ n) : Sys ℝ n :=
  { amul := fun v => A.mulVec v, pre := fun v => W.mulVec v, rhs := b, x0 := x0, tri := false }

theorem dot_eq_dotProduct {n : Nat} (u v : Vec ℝ n) : dot u v = u ⬝ᵥ v := by
  rw [dot_eq]; rfl

theorem linSym_of_symm {n : Nat} (A : Matrix (Fin n) (Fin n) ℝ) (h : Aᵀ = A) : LinSym (fun v : Vec ℝ n => A.mulVec v) where
  add := fun u v => mulVec_add A u v
  smul := fun c u => mulVec_smul A c u
  sym := fun u v => by
    rw [dot_eq_dotProduct, dot_eq_dotProduct, dotProduct_mulVec, ← vecMul_transpose, h]

theorem isUnit_det_of_pd {n : Nat} (A : Matrix (Fin n) (Fin n) ℝ) (hpd : ∀ v : Vec ℝ n, v ≠ 0 → 0 < dot v (A.mulVec v)) :
    IsUnit A.det := by
  rw [isUnit_iff_ne_zero]
  intro h0
  obtain ⟨v, hv, hAv⟩ := (exists_mulVec_eq_zero_iff (M := A)).mpr h0
  have := hpd v hv
  rw [hAv, dot_eq_dotProduct, dotProduct_zero] at this
  exact lt_irrefl _ this

/-- The inverse of a symmetric positive definite matrix is symmetric positive definite — in particular the
pivoted-Cholesky preconditioner `W = (L Lᵀ + D)⁻¹`. -/
theorem inv_spd {n : Nat} (M : Matrix (Fin n) (Fin n) ℝ) (hs : Mᵀ = M)
    (hpd : ∀ v : Vec ℝ n, v ≠ 0 → 0 < dot v (M.mulVec v)) :
    (M⁻¹)ᵀ = M⁻¹ ∧ ∀ v : Vec ℝ n, v ≠ 0 → 0 < dot v ((M⁻¹).mulVec v) := by
  have hu := isUnit_det_of_pd M hpd
  refine ⟨by rw [transpose_nonsing_inv, hs], fun v hv => ?_⟩
  set w := (M⁻¹).mulVec v with hw
  have hMw : M.mulVec w = v := by rw [hw, mulVec_mulVec, mul_nonsing_inv _ hu, one_mulVec]
  have hw0 : w ≠ 0 := fun h => hv (by rw [← hMw, h, mulVec_zero])
  have := hpd w hw0
  rw [hMw] at this
  rw [dot_eq_dotProduct, dotProduct_comm, ← dot_eq_dotProduct]
  exact this

/-- `L Lᵀ + diag(d)` with `d > 0` is symmetric positive definite (the matrix the preconditioner inverts). -/
theorem lowrank_plus_diag_spd {n k : Nat} (L : Matrix (Fin n) (Fin k) ℝ) (d : Fin n → ℝ) (hd : ∀ i, 0 < d i) :
    (L * Lᵀ + diagonal d)ᵀ = L * Lᵀ + diagonal d ∧
    ∀ v : Vec ℝ n, v ≠ 0 → 0 < dot v ((L * Lᵀ + diagonal d).mulVec v) := by
  refine ⟨by rw [transpose_add, transpose_mul, transpose_transpose, diagonal_transpose], fun v hv => ?_⟩
  rw [dot_eq_dotProduct, add_mulVec, dotProduct_add, ← mulVec_mulVec, dotProduct_mulVec, ← mulVec_transpose]
  have h1 : 0 ≤ (Lᵀ.mulVec v) ⬝ᵥ (Lᵀ.mulVec v) := Finset.sum_nonneg fun i _ => mul_self_nonneg _
  have h2 : 0 < v ⬝ᵥ (diagonal d).mulVec v := by
    obtain ⟨i, hi⟩ : ∃ i, v i ≠ 0 := Function.ne_iff.mp hv
    have hterm : ∀ j, v j * (diagonal d).mulVec v j = d j * (v j * v j) := fun j => by
      rw [mulVec_diagonal, mul_left_comm]
    rw [dotProduct]
    refine lt_of_lt_of_le ?_ (Finset.single_le_sum (fun j _ => ?_) (Finset.mem_univ i))
    · rw [hterm]; exact mul_pos (hd i) (mul_self_pos.mpr hi)
    · rw [hterm]; exact mul_nonneg (hd j).le (mul_self_nonneg _)
  exact add_pos_of_nonneg_of_pos h1 h2

variable {n : Nat}

/-- `A⁻¹ b` solves the system of a positive definite `A` -/
theorem amul_inv_of_pd (A : Matrix (Fin n) (Fin n) ℝ) (hpd : ∀ v : Vec ℝ n, v ≠ 0 → 0 < dot v (A.mulVec v)) (b : Vec ℝ n) :
    A.mulVec ((A⁻¹).mulVec b) = b := by
  rw [mulVec_mulVec, mul_nonsing_inv _ (isUnit_det_of_pd A hpd), one_mulVec]

/-- **CG branch, exact form** (`C08.exact_at_n` composed): on the column system of a symmetric positive definite `A` with any
symmetric preconditioner `W` (preconditioned kernel) — if the first `n` iterations are regular steps, the iterate after them is
`A⁻¹ b̂` (`b̂` the normalised right-hand side; `linear_cg` multiplies the norm back, `C08.cg_columns`). -/
theorem cg_branch_exact {N : NumOps ℝ} (hN : Lawful N) (P : Params ℝ) (he : 0 < P.eps) (hp : P.precond = true)
    (A W : Matrix (Fin n) (Fin n) ℝ) (hAs : Aᵀ = A) (hApd : ∀ v : Vec ℝ n, v ≠ 0 → 0 < dot v (A.mulVec v))
    (hWs : Wᵀ = W) (b x0 : Vec ℝ n)
    (hreg : ∀ j < n, Regular P (matSys A W b x0) (traj N P (matSys A W b x0) j)) :
    (traj N P (matSys A W b x0) n).x = (A⁻¹).mulVec (prep N P (matSys A W b x0)).b := by
  set s := matSys A W b x0 with hs
  have hu := isUnit_det_of_pd A hApd
  have hA : LinSym s.amul := linSym_of_symm A hAs
  have hM : ∀ u v, dot u (preF P s v) = dot (preF P s u) v := by
    rw [preF_eq_pre P hp s]; exact (linSym_of_symm W hWs).sym
  have hxs : s.amul ((A⁻¹).mulVec (prep N P s).b) = (prep N P s).b := amul_inv_of_pd A hApd _
  have h0 := exact_at_n hN P he hA hM _ hxs hreg
  have hres := iterCol_residual N P hA.toLin _ (prep N P s).isZero _ (initCol_residual N P s) n
  have hAx : s.amul (traj N P s n).x = (prep N P s).b := by
    have : (prep N P s).b - s.amul (traj N P s n).x = 0 := by rw [← h0]; exact hres.symm
    exact (sub_eq_zero.mp this).symm
  have : (A⁻¹).mulVec (A.mulVec (traj N P s n).x) = (A⁻¹).mulVec (prep N P s).b := congrArg _ hAx
  rwa [mulVec_mulVec, nonsing_inv_mul _ hu, one_mulVec] at this

/-- **CG branch, rate form** (`C08.chebyshev_rate_pre` composed): preconditioned CG on `A` (symmetric positive definite) with
the symmetric positive definite preconditioner `W` (for AddedDiag: `W = (L_k L_kᵀ + D)⁻¹`, `inv_spd` + `lowrank_plus_diag_spd`)
approaches `A⁻¹ b̂` in the `A`-norm at the Chebyshev rate of `κ = lmax/lmin`, the spectral bounds of `W^{1/2} A W^{1/2}`:
`‖A⁻¹b̂ − x_j‖_A ≤ 2 ((√κ−1)/(√κ+1))^j ‖A⁻¹b̂ − x_0‖_A` along `j` regular steps. -/
theorem cg_branch_rate {N : NumOps ℝ} (hN : Lawful N) (P : Params ℝ) (he : 0 < P.eps) (hp : P.precond = true)
    (A W : Matrix (Fin n) (Fin n) ℝ) (hAs : Aᵀ = A) (hApd : ∀ v : Vec ℝ n, v ≠ 0 → 0 < dot v (A.mulVec v))
    (hWs : Wᵀ = W) (hWpd : ∀ v : Vec ℝ n, v ≠ 0 → 0 < dot v (W.mulVec v)) (b x0 : Vec ℝ n)
    (lmin lmax : ℝ) (hpos : 0 < lmin) (hle : lmin ≤ lmax)
    (hlo : ∀ y : Vec ℝ n, lmin * dot y (W.mulVec y) ≤ dot (W.mulVec y) (A.mulVec (W.mulVec y)))
    (hhi : ∀ y : Vec ℝ n, dot (W.mulVec y) (A.mulVec (W.mulVec y)) ≤ lmax * dot y (W.mulVec y))
    (j : Nat) (hreg : ∀ i < j, Regular P (matSys A W b x0) (traj N P (matSys A W b x0) i)) :
    let s := matSys A W b x0
    let xs := (A⁻¹).mulVec (prep N P s).b
    Real.sqrt (errA s xs (traj N P s j).x) ≤ 2 * rho lmin lmax ^ j * Real.sqrt (errA s xs (traj N P s 0).x) := by
  intro s xs
  have hA : LinSym s.amul := linSym_of_symm A hAs
  have hW : LinSym s.pre := linSym_of_symm W hWs
  have hpsd : ∀ v, 0 ≤ dot v (s.amul v) := fun v => by
    by_cases hv : v = 0
    · subst hv; show 0 ≤ dot 0 (A.mulVec 0); rw [mulVec_zero, dot_eq_dotProduct, dotProduct_zero]
    · exact le_of_lt (hApd v hv)
  have hxs : s.amul xs = (prep N P s).b := amul_inv_of_pd A hApd _
  exact (chebyshev_rate_pre hN P he hp hA hpsd hW hWpd lmin lmax hpos hle hlo hhi xs hxs j hreg).1

end LinOp.C04
