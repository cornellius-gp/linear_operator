import LinOp.C10.Proofs
import LinOp.C10.ProofsPrecond
import Mathlib.LinearAlgebra.Matrix.SchurComplement
import Mathlib.LinearAlgebra.Matrix.Block
import Mathlib.Analysis.SpecialFunctions.Log.Basic
import Mathlib.Analysis.Real.Sqrt
/-!
C10 — the log-determinant the preconditioner reports: matrix determinant lemma + QR.
-/
namespace LinOp.C10
set_option linter.unusedSectionVars false
open Matrix

section field
variable {α : Type} [Field α] {n k : Nat}

theorem det_add_smul_one {m : Nat} (A : Matrix (Fin m) (Fin m) α) {s : α} (hs0 : s ≠ 0) :
    det (A + s • (1 : Matrix (Fin m) (Fin m) α)) = s ^ m * det (1 + s⁻¹ • A) := by
  have h : A + s • (1 : Matrix (Fin m) (Fin m) α) = s • (1 + s⁻¹ • A) := by
    rw [smul_add, smul_smul, mul_inv_cancel₀ hs0, one_smul, add_comm]
  rw [h, Matrix.det_smul, Fintype.card_fin]

/-- **Matrix determinant lemma with the QR factor**: `det(L Lᵀ + s I_n) · s^k = s^n · det(R)²`, as
`det(I_n + s⁻¹ L Lᵀ) = det(I_k + s⁻¹ LᵀL)` and `LᵀL + s I_k = RᵀR`. -/
theorem StackedQR.det_eq {L Q1 : Matrix (Fin n) (Fin k) α} {Q2 R : Matrix (Fin k) (Fin k) α} {s cc : α}
    (h : StackedQR L Q1 Q2 R cc) (hc : cc * cc = s) (hs0 : s ≠ 0) :
    det (L * Lᵀ + s • (1 : Matrix (Fin n) (Fin n) α)) * s ^ k = s ^ n * det R ^ 2 := by
  have hdR : det R ^ 2 = s ^ k * det (1 + s⁻¹ • (Lᵀ * L)) := by
    rw [← det_add_smul_one _ hs0, ← h.gram hc, Matrix.det_mul, Matrix.det_transpose, sq]
  rw [det_add_smul_one _ hs0, hdR, ← Matrix.smul_mul, Matrix.det_one_add_mul_comm, Matrix.mul_smul]
  ring

end field

/-- `2 Σ log|Rᵢᵢ| = log (det R)²` for an upper-triangular `R` with non-zero determinant. -/
theorem logAbsDiag2_eq {k : Nat} (sqrt : ℝ → ℝ) (R : Mat ℝ k k) (hR : ∀ i j : Fin k, j < i → R i j = 0)
    (hne : det (Matrix.of R) ≠ 0) : logAbsDiag2 ⟨sqrt, Real.log⟩ R = Real.log (det (Matrix.of R) ^ 2) := by
  have hdetR : det (Matrix.of R) = ∏ i, R i i := Matrix.det_of_isUpperTriangular fun i j hij => hR i j hij
  have hii : ∀ i ∈ (Finset.univ : Finset (Fin k)), |R i i| ≠ 0 := by
    intro i _ h0
    apply hne; rw [hdetR]
    exact Finset.prod_eq_zero (Finset.mem_univ i) (abs_eq_zero.1 h0)
  rw [Real.log_pow, hdetR, ← Real.log_abs (∏ i, R i i), Finset.abs_prod, Real.log_prod hii]
  unfold logAbsDiag2
  simp only [absv_eq_abs]
  rw [← Fin.sum_univ_def]
  push_cast
  ring

/-- **Constant diagonal: the reported log-determinant is `log det(L Lᵀ + s I)`** (over ℝ, `k ≤ n`).
Hypotheses: the QR contract on the matrix handed to `torch.linalg.qr`, `R` upper triangular, `s > 0`. -/
theorem logdet_const {n k : Nat} (L : Mat ℝ n k) (s : ℝ) (Q : Mat ℝ (n + k) k) (R : Mat ℝ k k)
    (hs : 0 < s) (hqr : Mat.mul Q R = qrInputConst ⟨Real.sqrt, Real.log⟩ L s)
    (horth : Mat.mul (Mat.transpose Q) Q = fun i j => if i = j then 1 else 0)
    (hR : ∀ i j : Fin k, j < i → R i j = 0) :
    logdetConst ⟨Real.sqrt, Real.log⟩ R s ((n : ℝ) - k) =
      Real.log (Matrix.det (precondLt L (fun _ => s) : Matrix (Fin n) (Fin n) ℝ)) := by
  have hc0 : Real.sqrt s ≠ 0 := (Real.sqrt_pos.2 hs).ne'
  have hq := qr_blocks hqr horth (scaledEye_eq _)
  have hdet := hq.det_eq (Real.mul_self_sqrt hs.le) hs.ne'
  have hRne : det (Matrix.of R) ≠ 0 := Matrix.det_ne_zero_of_right_inverse (hq.R_mul_inv hc0)
  have hsk : s ^ k ≠ 0 := pow_ne_zero _ hs.ne'
  have hPne : det (Matrix.of L * (Matrix.of L)ᵀ + s • (1 : Matrix (Fin n) (Fin n) ℝ)) ≠ 0 :=
    left_ne_zero_of_mul (hdet ▸ mul_ne_zero (pow_ne_zero _ hs.ne') (pow_ne_zero _ hRne))
  -- take logs of `det(L Lᵀ + s I) · s^k = s^n · det(R)²`
  have hlog := congrArg Real.log hdet
  rw [Real.log_mul hPne hsk, Real.log_mul (pow_ne_zero _ hs.ne') (pow_ne_zero _ hRne), Real.log_pow s,
    Real.log_pow s] at hlog
  rw [logdetConst, logAbsDiag2_eq _ R hR hRne, precondLt_eq, ← Matrix.smul_one_eq_diagonal]
  linarith

/-- **Non-constant diagonal: the reported log-determinant is `log det(L Lᵀ + D)`** (over ℝ).
Hypotheses: the QR contract on `cat(L / √d, I)`, `R` upper triangular, all `dᵢ > 0`. -/
theorem logdet_nonconst {n k : Nat} (L : Mat ℝ n k) (d : Fin n → ℝ) (Q : Mat ℝ (n + k) k) (R : Mat ℝ k k)
    (hd : ∀ i, 0 < d i) (hqr : Mat.mul Q R = qrInputNonconst ⟨Real.sqrt, Real.log⟩ L d)
    (horth : Mat.mul (Mat.transpose Q) Q = fun i j => if i = j then 1 else 0)
    (hR : ∀ i j : Fin k, j < i → R i j = 0) :
    logdetNonconst ⟨Real.sqrt, Real.log⟩ R d =
      Real.log (Matrix.det (precondLt L d : Matrix (Fin n) (Fin n) ℝ)) := by
  have hs : ∀ i, Real.sqrt (d i) * Real.sqrt (d i) = d i := fun i => Real.mul_self_sqrt (hd i).le
  have he0 : ∀ i, Real.sqrt (d i) ≠ 0 := fun i => (Real.sqrt_pos.2 (hd i)).ne'
  have hq := qr_blocks_nonconst hqr horth
  have hdet := hq.det_eq (mul_one 1) one_ne_zero
  simp only [one_smul, one_pow, mul_one, one_mul] at hdet
  have hRne : det (Matrix.of R) ≠ 0 := Matrix.det_ne_zero_of_right_inverse (hq.R_mul_inv one_ne_zero)
  have hdne : ∀ i ∈ (Finset.univ : Finset (Fin n)), d i ≠ 0 := fun i _ => (hd i).ne'
  -- `det(L Lᵀ + D) = det E · det(R)² · det E` with `det E · det E = ∏ dᵢ`
  have hdd : (∏ i, Real.sqrt (d i)) * det (Matrix.of R) ^ 2 * ∏ i, Real.sqrt (d i) = (∏ i, d i) * det (Matrix.of R) ^ 2 := by
    rw [mul_right_comm, ← Finset.prod_mul_distrib]; simp only [hs]
  rw [logdetNonconst, logAbsDiag2_eq _ R hR hRne, precondLt_eq, precond_conj hs he0, Matrix.det_mul, Matrix.det_mul, hdet,
    Matrix.det_diagonal, hdd, Real.log_mul (Finset.prod_ne_zero_iff.2 hdne) (pow_ne_zero _ hRne), Real.log_prod hdne]
  simp only [one_div, Real.log_inv]
  rw [← Fin.sum_univ_def, Finset.sum_neg_distrib]
  ring

end LinOp.C10
