import LinOp.C10.ProofsLoop
/-!
C10 — the coupled while loop of the current code (`loopM`, `runM`) on a batch: how many iterations run and why it stops.
-/
namespace LinOp.C10
set_option linter.unusedSectionVars false

variable {α : Type} [Field α] [LinearOrder α] [IsStrictOrderedRing α] {n : Nat}

/-- `torch.max(errors)` after `t` iterations of every member. -/
def errAtM (P : Prim α) (As : List (Mat α n n)) (t : Nat) : α := batchErr (As.map fun A => iterM P A t)

/-- What `loopM` guarantees about its exit counter `r` when entered with counter `m` (`Stops` for `iterM`). -/
structure StopsM (P : Prim α) (As : List (Mat α n n)) (maxIter : Nat) (tol : α) (m : Nat)
    (res : Nat × List (St α n)) : Prop where
  le_max : res.1 ≤ maxIter
  ge : m ≤ res.1
  pos : m = 0 → 1 ≤ res.1
  states : res.2 = As.map fun A => iterM P A res.1
  /-- every iteration after the first ran only because the error exceeded the tolerance -/
  continued : ∀ t, m ≤ t → 1 ≤ t → t < res.1 → tol < errAtM P As t
  /-- stopping before `max_iter` means the error is within the tolerance -/
  stopped : res.1 < maxIter → 1 ≤ res.1 → ¬ tol < errAtM P As res.1

theorem iterM_succ (P : Prim α) (A : Mat α n n) {m : Nat} (h : m < n) :
    iterM P A (m + 1) = stepM P A (iterM P A m) ⟨m, h⟩ := dif_pos h

theorem loopM_spec (P : Prim α) (As : List (Mat α n n)) (maxIter : Nat) (tol : α) (hmax : maxIter ≤ n)
    (hpos : 0 < maxIter) (fuel m : Nat) (h1 : m ≤ maxIter) (h2 : maxIter < m + fuel) :
    StopsM P As maxIter tol m (loopM P As maxIter tol fuel m (As.map fun A => iterM P A m)) :=
  have h := loop_stops (stp := fun m h A s => stepM P A s ⟨m, h⟩) (fun A _ h => iterM_succ P A h)
    (lp := loopM P As maxIter tol) (fun _ _ => rfl) (fun _ _ _ => rfl) hmax hpos fuel m h1 h2
  ⟨h.le_max, h.ge, h.pos, h.states, h.continued, h.stopped⟩

/-- The whole call: `runM` executes exactly `r` iterations on every member, `1 ≤ r ≤ min rank n`, later iterations
only while the batch error exceeds the tolerance, and an exit before `min rank n` only when it does not. -/
theorem runM_spec (P : Prim α) (As : List (Mat α n n)) (rank : Nat) (tol : α) (hrank : 0 < rank) (hn : 0 < n) :
    StopsM P As (min rank n) tol 0 (runM P As rank tol) :=
  loopM_spec P As (min rank n) tol (Nat.min_le_right _ _) (by omega) _ 0 (by omega) (by omega)

end LinOp.C10
