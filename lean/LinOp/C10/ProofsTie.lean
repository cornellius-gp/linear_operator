import LinOp.C10.Proofs
/-!
C10 — ties in the arg-max are broken towards the FIRST position (as `torch.max` does).
-/
namespace LinOp.C10
set_option linter.unusedSectionVars false

variable {α : Type} [LinearOrder α] {n : Nat}

theorem foldl_argmax_first (v : Fin n → α) (l : List (Fin n)) (b : Fin n) (hs : l.Pairwise (· < ·))
    (hb : ∀ j ∈ l, b < j) :
    let r := l.foldl (fun best j => if v best < v j then j else best) b
    (r = b ∨ v b < v r) ∧ ∀ j, (j = b ∨ j ∈ l) → j < r → v j < v r := by
  induction l generalizing b with
  | nil => simp
  | cons a as ih =>
    have hs' := List.pairwise_cons.1 hs
    by_cases h : v b < v a
    · -- `a` takes over: everything seen so far is strictly below the final value
      simp only [List.foldl_cons, if_pos h]
      obtain ⟨_, h2⟩ := ih a hs'.2 hs'.1
      have hba := h.trans_le (foldl_argmax v as a).2.1
      exact ⟨Or.inr hba, fun j hj hlt => hj.elim (fun e => e ▸ hba) fun hj => h2 j (List.mem_cons.1 hj) hlt⟩
    · simp only [List.foldl_cons, if_neg h]
      obtain ⟨h1, h2⟩ := ih b hs'.2 fun j hj => hb j (List.mem_cons_of_mem _ hj)
      refine ⟨h1, fun j hj hlt => ?_⟩
      rcases hj with rfl | hj
      · exact h2 j (Or.inl rfl) hlt
      · rcases List.mem_cons.1 hj with rfl | hj
        · -- `j = a` was passed over: it lies below `b`'s value, and the result is not `b` as `j < r`
          rcases h1 with h1 | h1
          · exact absurd (hb j List.mem_cons_self) (not_lt.2 (h1 ▸ hlt).le)
          · exact lt_of_le_of_lt (not_lt.1 h) h1
        · exact h2 j (Or.inr hj) hlt

/-- every position of the tail before the chosen one carries a strictly smaller value -/
theorem argmaxFrom_first (v : Fin n → α) (m : Fin n) (j : Fin n) (h1 : m.val ≤ j.val)
    (h2 : j.val < (argmaxFrom v m).val) : v j < v (argmaxFrom v m) := by
  have hs : (tailPos n (m.val + 1)).Pairwise (· < ·) := (List.pairwise_lt_finRange n).filter _
  have hb : ∀ j ∈ tailPos n (m.val + 1), m < j := by
    intro j hj; have := (mem_tailPos _ _).1 hj; exact Fin.lt_def.2 (by omega)
  obtain ⟨_, h⟩ := foldl_argmax_first v (tailPos n (m.val + 1)) m hs hb
  apply h j ?_ (Fin.lt_def.2 h2)
  by_cases hjm : j = m
  · exact Or.inl hjm
  · right
    have : m.val ≠ j.val := fun e => hjm (Fin.ext e.symm)
    exact (mem_tailPos _ _).2 (by omega)

end LinOp.C10
