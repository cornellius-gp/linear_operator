import LinOp.C10.ProofsPSD
/-!
C10 — the tracked `errors` value is the 1-norm of the residual diagonal on the unpivoted indices divided by the
largest diagonal entry of `A`.
-/
namespace LinOp.C10
set_option linter.unusedSectionVars false

variable {α : Type} [Field α] [LinearOrder α] [IsStrictOrderedRing α] {n : Nat}

theorem step_err (P : Prim α) (A : Mat α n n) (s : St α n) (m : Fin n) (h : m.val + 1 < n) :
    (step P A s m).err =
      ((tailPos n (m.val + 1)).map fun j =>
        absv ((step P A s m).diag.get ((step P A s m).perm.get j))).sum / origError A := by
  unfold step
  simp only [h, if_true, List.map_map, Function.comp_def]

/-- After iteration `m` (with `m + 1 < n`) `errors` = Σ over unpivoted indices of `|diag(A − L Lᵀ)|`, over `orig_error`. -/
theorem iter_err {P : Prim α} {A : Mat α n n} (hP : SqrtLaw P) (hA : Symm A) (m : Nat) (hm : m + 1 < n)
    (hpos : PivotsPos P A (m + 1)) :
    let s := iter P A (m + 1)
    s.err = ((tailPos n (m + 1)).map fun j =>
      |resid A s.rows (s.perm.get j) (s.perm.get j)|).sum / origError A := by
  intro s
  have hinv : Inv A s (m + 1) := iter_inv hP hA (m + 1) hm.le hpos
  have hs : s = step P A (iter P A m) ⟨m, Nat.lt_of_succ_lt hm⟩ := iter_succ P A _
  have he := step_err P A (iter P A m) ⟨m, Nat.lt_of_succ_lt hm⟩ hm
  rw [← hs] at he
  rw [he]
  congr 2
  refine List.map_congr_left fun j hj => ?_
  rw [absv_eq_abs, hinv.diag j ((mem_tailPos _ _).1 hj)]

/-- `orig_error` is the largest diagonal entry of `A`. -/
theorem origError_spec (A : Mat α n n) (hn : 0 < n) :
    (∀ i, A i i ≤ origError A) ∧ ∃ i, origError A = A i i := by
  have hmem : ∀ i : Fin n, A i i ∈ (List.finRange n).map (fun i => A i i) :=
    fun i => List.mem_map.2 ⟨i, List.mem_finRange i, rfl⟩
  obtain ⟨h1, h2⟩ := maxList_spec (List.ne_nil_of_mem (hmem ⟨0, hn⟩))
  obtain ⟨i, _, hi⟩ := List.mem_map.1 h1
  exact ⟨fun i => h2 _ (hmem i), i, hi.symm⟩

end LinOp.C10
