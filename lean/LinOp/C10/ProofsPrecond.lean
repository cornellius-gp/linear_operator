import LinOp.C10.Model
import LinOp.Core.Bridge
import LinOp.Core.Spectral
import Mathlib.Algebra.Order.Field.Basic
import Mathlib.LinearAlgebra.Matrix.NonsingularInverse
import Mathlib.Tactic.Ring
import Mathlib.Tactic.FieldSimp
/-!
C10 — the pivoted-Cholesky preconditioner: the Woodbury closure built from a QR factorization of
`[L; √s·I]` applies exactly `(L Lᵀ + s I)⁻¹`.  The non-constant diagonal is the case `s = 1` for `E⁻¹L`,
conjugated by `E = diag √d`.
-/
namespace LinOp.C10
set_option linter.unusedSectionVars false
open Matrix

variable {α : Type} [Field α] {n k c : Nat}

/-! ### Block algebra -/

/-- **The contract of `torch.linalg.qr` on a stacked input, block by block**: `[Q₁; Q₂] R = [L; c·I]` with orthonormal columns. -/
structure StackedQR (L Q1 : Matrix (Fin n) (Fin k) α) (Q2 R : Matrix (Fin k) (Fin k) α) (cc : α) : Prop where
  top : Q1 * R = L
  bot : Q2 * R = cc • (1 : Matrix (Fin k) (Fin k) α)
  orth : Q1ᵀ * Q1 + Q2ᵀ * Q2 = 1

namespace StackedQR
variable {L Q1 : Matrix (Fin n) (Fin k) α} {Q2 R : Matrix (Fin k) (Fin k) α} {s cc : α} (h : StackedQR L Q1 Q2 R cc)
include h

/-- `RᵀR = LᵀL + s I` for `s = c²`. -/
theorem gram (hc : cc * cc = s) : Rᵀ * R = Lᵀ * L + s • (1 : Matrix (Fin k) (Fin k) α) := by
  have e : Rᵀ * ((Q1ᵀ * Q1 + Q2ᵀ * Q2) * R) = (Q1 * R)ᵀ * (Q1 * R) + (Q2 * R)ᵀ * (Q2 * R) := by
    simp only [Matrix.add_mul, Matrix.mul_add, Matrix.transpose_mul, Matrix.mul_assoc]
  rw [h.orth, Matrix.one_mul, h.top, h.bot] at e
  rw [e, Matrix.transpose_smul, Matrix.transpose_one, Matrix.smul_mul, Matrix.one_mul, smul_smul, hc]

/-- `c ≠ 0` makes `R` invertible, with inverse `c⁻¹ Q₂`. -/
theorem R_mul_inv (hc0 : cc ≠ 0) : R * (cc⁻¹ • Q2) = 1 :=
  mul_eq_one_comm.1 (by rw [Matrix.smul_mul, h.bot, smul_smul, inv_mul_cancel₀ hc0, one_smul])

/-- **Woodbury through the QR factor**: `(L Lᵀ + s I)(I − Q₁ Q₁ᵀ) = s I`. -/
theorem woodbury (hc : cc * cc = s) (hc0 : cc ≠ 0) :
    (L * Lᵀ + s • (1 : Matrix (Fin n) (Fin n) α)) * (1 - Q1 * Q1ᵀ) = s • 1 := by
  have hg := h.gram hc
  have hR := h.R_mul_inv hc0
  have hpush : (L * Lᵀ + s • (1 : Matrix (Fin n) (Fin n) α)) * L = L * (Lᵀ * L + s • (1 : Matrix (Fin k) (Fin k) α)) := by
    rw [Matrix.add_mul, Matrix.mul_add, Matrix.smul_mul, Matrix.mul_smul, Matrix.one_mul, Matrix.mul_one, Matrix.mul_assoc]
  -- `(L Lᵀ + s I) Q₁ = L Rᵀ`: multiply by `R R⁻¹` on the right and push `L` through
  have key : (L * Lᵀ + s • (1 : Matrix (Fin n) (Fin n) α)) * Q1 = L * Rᵀ := by
    calc (L * Lᵀ + s • (1 : Matrix (Fin n) (Fin n) α)) * Q1
        = (L * Lᵀ + s • (1 : Matrix (Fin n) (Fin n) α)) * (Q1 * R) * (cc⁻¹ • Q2) := by
          rw [Matrix.mul_assoc, Matrix.mul_assoc, hR, Matrix.mul_one]
      _ = L * Rᵀ := by rw [h.top, hpush, ← hg, ← Matrix.mul_assoc L, Matrix.mul_assoc, hR, Matrix.mul_one]
  rw [Matrix.mul_sub, Matrix.mul_one, ← Matrix.mul_assoc, key, Matrix.mul_assoc, ← Matrix.transpose_mul, h.top,
    add_sub_cancel_left]

end StackedQR

/-! ### From the stacked QR contract to the block equations -/

/-- `Q[..., n:, :]` -/
def botRows {α : Type} (Q : Mat α (n + k) k) : Mat α k k := fun i j => Q ⟨n + i.val, by omega⟩ j

/-- The contract of `torch.linalg.qr` on a stacked matrix `[T; c·I]`, block by block (`Q₁ = Q[:n]`, `Q₂ = Q[n:]`). -/
theorem qr_blocks {T : Mat α n k} {B : Mat α k k} {Q : Mat α (n + k) k} {R : Mat α k k} {cc : α}
    (hqr : Mat.mul Q R = stackRows T B)
    (horth : Mat.mul (Mat.transpose Q) Q = fun i j => if i = j then 1 else 0)
    (hB : Matrix.of B = cc • (1 : Matrix (Fin k) (Fin k) α)) :
    StackedQR (Matrix.of T) (Matrix.of (topRows Q)) (Matrix.of (botRows Q)) (Matrix.of R) cc := by
  rw [Mat.mul_eq_matrix_mul] at hqr horth
  refine ⟨?_, hB ▸ ?_, ?_⟩
  · ext i j
    exact (congrFun (congrFun hqr ⟨i, by omega⟩) j).trans (dif_pos i.isLt)
  · ext i j
    refine (congrFun (congrFun hqr ⟨n + i, by omega⟩) j).trans ((dif_neg (by simp)).trans ?_)
    simp only [Nat.add_sub_cancel_left, Fin.eta, Matrix.of_apply]
  · ext i j
    have := congrFun (congrFun horth i) j
    rw [Matrix.mul_apply, Fin.sum_univ_add] at this
    simp only [Matrix.add_apply, Matrix.mul_apply, Matrix.one_apply]
    exact this

/-! ### Bridges from the model functions to `Matrix` -/

theorem precondLt_eq (L : Mat α n k) (d : Fin n → α) :
    precondLt L d = (Matrix.of L * (Matrix.of L)ᵀ + Matrix.diagonal d : Matrix (Fin n) (Fin n) α) := by
  unfold precondLt
  rw [Mat.mul_eq_matrix_mul]
  funext i j
  simp only [Mat.add, Mat.diag, Matrix.add_apply, Matrix.diagonal_apply]
  rfl

/-- Applying `_precond_lt` to a right-hand side, as a `Matrix` product. -/
theorem precondLt_mul (L : Mat α n k) (d : Fin n → α) (y : Mat α n c) :
    Mat.mul (precondLt L d) y =
      ((Matrix.of L * (Matrix.of L)ᵀ + Matrix.diagonal d) * Matrix.of y : Matrix (Fin n) (Fin c) α) := by
  rw [Mat.mul_eq_matrix_mul, precondLt_eq]
  rfl

theorem qqt_eq (q : Mat α n k) (x : Mat α n c) :
    qqt q x = (Matrix.of q * ((Matrix.of q)ᵀ * Matrix.of x) : Matrix (Fin n) (Fin c) α) := by
  unfold qqt
  rw [Mat.mul_eq_matrix_mul q, Mat.mul_eq_matrix_mul (Mat.transpose q) x]
  rfl

/-- `q qᵀ` applied to the identity: the entries are `Σₗ qᵢₗ qⱼₗ`, symmetric in `i`, `j`. -/
theorem qqt_one_symm (q : Mat α n k) (i j : Fin n) :
    qqt q (fun a b => if a = b then 1 else 0) i j = qqt q (fun a b => if a = b then 1 else 0) j i := by
  have h : ∀ i j, qqt q (fun a b => if a = b then 1 else 0) i j = ∑ l, q i l * q j l := by
    intro i j
    simp only [qqt, Mat.mul, tab_eq, sumFin_eq_sum, Mat.transpose, mul_ite, mul_one, mul_zero, Finset.sum_ite_eq',
      Finset.mem_univ, if_true]
  rw [h, h]
  exact Finset.sum_congr rfl fun l _ => mul_comm _ _

theorem closureConst_eq (q : Mat α n k) (s : α) (x : Mat α n c) :
    Matrix.of (closureConst q s x) =
      ((1 / s) • (Matrix.of x - Matrix.of q * ((Matrix.of q)ᵀ * Matrix.of x)) : Matrix (Fin n) (Fin c) α) := by
  unfold closureConst
  rw [qqt_eq]
  rfl

theorem closureNonconst_eq (q : Mat α n k) (d : Fin n → α) (x : Mat α n c) :
    Matrix.of (closureNonconst q d x) =
      (Matrix.diagonal (fun i => 1 / d i) * Matrix.of x - Matrix.of q * ((Matrix.of q)ᵀ * Matrix.of x) :
        Matrix (Fin n) (Fin c) α) := by
  unfold closureNonconst
  rw [qqt_eq]
  ext i j
  simp only [Matrix.of_apply, Matrix.sub_apply, Matrix.diagonal_mul, div_eq_inv_mul, mul_one]

theorem scaledEye_eq (cc : α) : (Matrix.of (scaledEye cc (1 : α) : Mat α k k)) = cc • (1 : Matrix (Fin k) (Fin k) α) := by
  ext i j
  simp only [scaledEye, Matrix.of_apply, Matrix.smul_apply, Matrix.one_apply, smul_eq_mul]
  split_ifs <;> rfl

/-! ### Constant diagonal -/

/-- **Constant diagonal: the closure is the exact inverse.**  If `torch.linalg.qr` meets its contract on the matrix the
code hands it (`Q R = [L; √s·I]`, `QᵀQ = I`) and `√s·√s = s ≠ 0`, then `(L Lᵀ + s I) · closure(X) = X` for every right-hand
side `X` — `closure` being `(1/s)(X − Q₁(Q₁ᵀX))` with `Q₁ = Q[:n]`, and `L Lᵀ + s I` being the operator `_precond_lt` denotes. -/
theorem const_inverse (P : Prim α) (L : Mat α n k) (s : α) (Q : Mat α (n + k) k) (R : Mat α k k) (x : Mat α n c)
    (hs : P.sqrt s * P.sqrt s = s) (hs0 : s ≠ 0)
    (hqr : Mat.mul Q R = qrInputConst P L s)
    (horth : Mat.mul (Mat.transpose Q) Q = fun i j => if i = j then 1 else 0) :
    Mat.mul (precondLt L fun _ => s) (closureConst (qCacheConst Q) s x) = x := by
  have hc0 : P.sqrt s ≠ 0 := by
    intro h; rw [h, mul_zero] at hs; exact hs0 hs.symm
  have hw := (qr_blocks hqr horth (scaledEye_eq _)).woodbury hs hc0
  have hx : (Matrix.of x - Matrix.of (topRows Q) * ((Matrix.of (topRows Q))ᵀ * Matrix.of x) : Matrix _ _ α) =
      (1 - Matrix.of (topRows Q) * (Matrix.of (topRows Q))ᵀ) * Matrix.of x := by
    rw [Matrix.sub_mul, Matrix.one_mul, Matrix.mul_assoc]
  rw [precondLt_mul, closureConst_eq, ← Matrix.smul_one_eq_diagonal]
  erw [hx]
  rw [Matrix.mul_smul, ← Matrix.mul_assoc, hw, Matrix.smul_mul, Matrix.one_mul, smul_smul, one_div,
    inv_mul_cancel₀ hs0, one_smul]
  rfl

/-! ### Non-constant diagonal: scaling by `E = diag √d` -/

section scaling
variable {d sq : Fin n → α} (hs : ∀ i, sq i * sq i = d i) (h0 : ∀ i, sq i ≠ 0)
include h0

theorem diagonal_mul_inv : Matrix.diagonal sq * Matrix.diagonal sq⁻¹ = 1 :=
  diagonal_mul_diagonal_eq_one fun i => mul_inv_cancel₀ (h0 i)

theorem diagonal_inv_mul : Matrix.diagonal sq⁻¹ * Matrix.diagonal sq = 1 :=
  diagonal_mul_diagonal_eq_one fun i => inv_mul_cancel₀ (h0 i)

include hs

/-- `L Lᵀ + D = E (L' L'ᵀ + I) E` with `E = diag √d` and `L' = E⁻¹ L`. -/
theorem precond_conj (L : Matrix (Fin n) (Fin k) α) :
    L * Lᵀ + Matrix.diagonal d =
      Matrix.diagonal sq * ((Matrix.diagonal sq⁻¹ * L) * (Matrix.diagonal sq⁻¹ * L)ᵀ + 1) * Matrix.diagonal sq := by
  have hEE : Matrix.diagonal sq * Matrix.diagonal sq = Matrix.diagonal d := by
    rw [Matrix.diagonal_mul_diagonal]; congr 1; funext i; exact hs i
  rw [Matrix.mul_add, Matrix.add_mul, Matrix.mul_one, hEE, Matrix.transpose_mul, Matrix.diagonal_transpose]
  congr 1
  simp only [Matrix.mul_assoc]
  rw [diagonal_inv_mul h0, Matrix.mul_one, ← Matrix.mul_assoc (Matrix.diagonal sq), diagonal_mul_inv h0, Matrix.one_mul]

end scaling

/-- `X / d − q (qᵀ X)` with `q = E⁻¹ Q₁` is `E⁻¹ (I − Q₁ Q₁ᵀ) E⁻¹ X`. -/
theorem scaled_closure {Ei : Matrix (Fin n) (Fin n) α} (hEt : Eiᵀ = Ei) (Q1 : Matrix (Fin n) (Fin k) α)
    (X : Matrix (Fin n) (Fin c) α) :
    Ei * Ei * X - Ei * Q1 * ((Ei * Q1)ᵀ * X) = Ei * (1 - Q1 * Q1ᵀ) * Ei * X := by
  rw [Matrix.transpose_mul, hEt, Matrix.mul_sub, Matrix.sub_mul, Matrix.sub_mul, Matrix.mul_one]
  simp only [Matrix.mul_assoc]

theorem conj_inverse {E Ei M W : Matrix (Fin n) (Fin n) α} (h1 : E * Ei = 1) (h3 : M * W = 1) :
    (E * M * E) * (Ei * W * Ei) = 1 := by
  calc (E * M * E) * (Ei * W * Ei) = E * (M * ((E * Ei) * W)) * Ei := by simp only [Matrix.mul_assoc]
    _ = 1 := by rw [h1, Matrix.one_mul, h3, Matrix.mul_one, h1]

/-- The QR contract on `cat(L / √d, I)`, block by block, with `L / √d` written as `E⁻¹ L`. -/
theorem qr_blocks_nonconst {P : Prim α} {L : Mat α n k} {d : Fin n → α} {Q : Mat α (n + k) k} {R : Mat α k k}
    (hqr : Mat.mul Q R = qrInputNonconst P L d)
    (horth : Mat.mul (Mat.transpose Q) Q = fun i j => if i = j then 1 else 0) :
    StackedQR (Matrix.diagonal (fun i => P.sqrt (d i))⁻¹ * Matrix.of L) (Matrix.of (topRows Q)) (Matrix.of (botRows Q))
      (Matrix.of R) 1 := by
  have h := qr_blocks (cc := 1) hqr horth (by ext i j; simp only [Matrix.of_apply, one_smul, Matrix.one_apply])
  refine ⟨h.top.trans ?_, h.bot, h.orth⟩
  ext i j; simp only [Matrix.diagonal_mul, Matrix.of_apply, Pi.inv_apply, div_eq_inv_mul]

/-- **Non-constant diagonal: the closure is the exact inverse.**  Under the QR contract on the matrix the code hands to
`torch.linalg.qr` (`Q R = cat(L / √d, I)`, `QᵀQ = I`) and `√dᵢ·√dᵢ = dᵢ ≠ 0`: `(L Lᵀ + D) · closure(X) = X`, with
`closure(X) = X / d − q(qᵀX)`, `q = Q[:n] / √d` (`_q_cache`). -/
theorem nonconst_inverse (P : Prim α) (L : Mat α n k) (d : Fin n → α) (Q : Mat α (n + k) k) (R : Mat α k k)
    (x : Mat α n c) (hs : ∀ i, P.sqrt (d i) * P.sqrt (d i) = d i) (hs0 : ∀ i, d i ≠ 0)
    (hqr : Mat.mul Q R = qrInputNonconst P L d)
    (horth : Mat.mul (Mat.transpose Q) Q = fun i j => if i = j then 1 else 0) :
    Mat.mul (precondLt L d) (closureNonconst (qCacheNonconst P Q d) d x) = x := by
  have he0 : ∀ i, P.sqrt (d i) ≠ 0 := by
    intro i h; have := hs i; rw [h, mul_zero] at this; exact hs0 i this.symm
  have hw := (qr_blocks_nonconst hqr horth).woodbury (mul_one 1) one_ne_zero
  rw [one_smul] at hw
  have hq : (Matrix.of (qCacheNonconst P Q d) : Matrix (Fin n) (Fin k) α) =
      Matrix.diagonal (fun i => P.sqrt (d i))⁻¹ * Matrix.of (topRows Q) := by
    ext i j; simp only [qCacheNonconst, Matrix.diagonal_mul, Matrix.of_apply, Pi.inv_apply, div_eq_inv_mul]
  have hDi : Matrix.diagonal (fun i => 1 / d i) =
      Matrix.diagonal (fun i => P.sqrt (d i))⁻¹ * Matrix.diagonal (fun i => P.sqrt (d i))⁻¹ := by
    rw [Matrix.diagonal_mul_diagonal]; congr 1; funext i
    rw [Pi.inv_apply, ← mul_inv, hs i, one_div]
  rw [precondLt_mul, closureNonconst_eq, hq, hDi, scaled_closure (Matrix.diagonal_transpose _), precond_conj hs he0,
    ← Matrix.mul_assoc, conj_inverse (diagonal_mul_inv he0) hw, Matrix.one_mul]
  rfl

end LinOp.C10
