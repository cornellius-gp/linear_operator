import LinOp.C10.ProofsInv
/-!
C10 — the residual of pivoted Cholesky stays positive semi-definite, and on a positive definite input every pivot is
positive: both read off `Inv.form`.
-/
namespace LinOp.C10
set_option linter.unusedSectionVars false

variable {α : Type} [Field α] [LinearOrder α] [IsStrictOrderedRing α] {n : Nat}

theorem psd_iff_bil (R : Mat α n n) : PSD R ↔ ∀ x, 0 ≤ bil R x x := Iff.rfl

theorem Inv.psd {A : Mat α n n} {s : St α n} {m : Nat} (h : Inv A s m) (hpsd : PSD A) : PSD (resid A s.rows) :=
  (psd_iff_bil _).2 fun x => by
    obtain ⟨y, _, he⟩ := h.form x
    rw [he]; exact hpsd y

theorem iter_psd {P : Prim α} {A : Mat α n n} (hP : SqrtLaw P) (hA : Symm A) (hpsd : PSD A) (m : Nat) (hm : m ≤ n)
    (hpos : PivotsPos P A m) : PSD (resid A (iter P A m).rows) :=
  (iter_inv hP hA m hm hpos).psd hpsd

/-! ### Positive definite inputs: every pivot is positive -/

/-- Positive definite: `xᵀ A x > 0` for every `x ≠ 0`. -/
def PD (A : Mat α n n) : Prop := ∀ x : Fin n → α, x ≠ 0 → 0 < bil A x x

theorem psd_of_pd {A : Mat α n n} (h : PD A) : PSD A := fun x => by
  by_cases hx : x = 0
  · subst hx; simp only [Pi.zero_apply, zero_mul, Finset.sum_const_zero, le_refl]
  · exact (h x hx).le

/-- the pivot is `e_pᵀ R e_p = yᵀ A y` with `y p = 1` -/
theorem Inv.pivot_pos {A : Mat α n n} {s : St α n} {m : Fin n} (h : Inv A s m.val) (hpd : PD A) : 0 < pivotVal s m := by
  obtain ⟨y, hy, he⟩ := h.form (e1 (swapPerm s m m))
  rw [pivotVal_eq h, ← bil_e1_e1 (resid A s.rows) (swapPerm s m m), he]
  refine hpd y fun h0 => ?_
  have := hy (pivotPos s m) (pivotPos_ge s m)
  rw [← swapPerm_m, h0, e1, if_pos rfl] at this
  exact zero_ne_one this

theorem pivotsPos_of_pd {P : Prim α} {A : Mat α n n} (hP : SqrtLaw P) (hA : Symm A) (hpd : PD A) :
    ∀ m, m ≤ n → PivotsPos P A m
  | 0, _ => fun t _ ht => absurd ht (Nat.not_lt_zero t)
  | m + 1, hm => fun t h ht => by
    have ih := pivotsPos_of_pd hP hA hpd m (Nat.le_of_succ_le hm)
    rcases Nat.lt_succ_iff_lt_or_eq.1 ht with ht | rfl
    · exact ih t h ht
    · exact (iter_inv hP hA t h.le ih).pivot_pos (m := ⟨t, h⟩) hpd

end LinOp.C10
