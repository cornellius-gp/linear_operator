import LinOp.C10.ProofsBil
/-!
C10 — the loop invariant of pivoted Cholesky and its preservation by one step: the new row is the scaled pivot column of
the residual, so the residual after the step is its Schur complement, whose quadratic form is that of `A` at a vector
changed on pivoted coordinates only (`Inv.form`: positive semi-definiteness and positive pivots are read off it).
-/
namespace LinOp.C10
set_option linter.unusedSectionVars false

variable {α : Type} [Field α] [LinearOrder α] [IsStrictOrderedRing α] {n : Nat}

/-- Invariant after `m` iterations on one batch member. -/
structure Inv (A : Mat α n n) (s : St α n) (m : Nat) : Prop where
  len : s.rows.length = m
  bij : Function.Bijective s.perm.get
  /-- the tracked diagonal is the residual diagonal on unpivoted indices -/
  diag : ∀ j : Fin n, m ≤ j.val → s.diag.get (s.perm.get j) = resid A s.rows (s.perm.get j) (s.perm.get j)
  /-- the residual vanishes on the rows of the pivots chosen so far -/
  zero : ∀ j : Fin n, j.val < m → ∀ k, resid A s.rows (s.perm.get j) k = 0
  /-- `xᵀ (A − L Lᵀ) x = yᵀ A y` for a `y` that agrees with `x` on every index not yet pivoted -/
  form : ∀ x : Fin n → α, ∃ y : Fin n → α, (∀ j : Fin n, m ≤ j.val → y (s.perm.get j) = x (s.perm.get j)) ∧
    bil (resid A s.rows) x x = bil A y y

theorem init_inv (A : Mat α n n) : Inv A (init A) 0 where
  len := rfl
  bij := by
    have : (init A).perm.get = id := by funext i; simp [init, get_ofFn]
    rw [this]; exact Function.bijective_id
  diag := by intro j _; simp [init, get_ofFn, resid_nil]
  zero := by intro j hj; omega
  form := fun x => ⟨x, fun _ _ => rfl, by rw [init, resid_nil]⟩

/-- the pivot value is the residual diagonal entry at the pivot index -/
theorem pivotVal_eq {A : Mat α n n} {s : St α n} {m : Fin n} (h : Inv A s m.val) :
    pivotVal s m = resid A s.rows (swapPerm s m m) (swapPerm s m m) := by
  rw [swapPerm_m]; exact h.diag _ (pivotPos_ge s m)

/-- the pivot index is none of the earlier pivots -/
theorem perm_ne_pivot {A : Mat α n n} {s : St α n} {m : Fin n} (h : Inv A s m.val) (j : Fin n) (hj : j.val < m.val) :
    s.perm.get j ≠ swapPerm s m m := by
  rw [swapPerm_m]
  intro he
  have := pivotPos_ge s m
  rw [← h.bij.1 he] at this
  omega

section step
variable {P : Prim α} {A : Mat α n n} {s : St α n} {m : Fin n} (hP : SqrtLaw P) (hA : Symm A) (h : Inv A s m.val)
  (hpos : 0 < pivotVal s m)
include hA h

/-- the residual vanishes on the columns of the earlier pivots too -/
theorem resid_col_zero (i j : Fin n) (hj : j.val < m.val) : resid A s.rows i (swapPerm s m j) = 0 := by
  rw [resid_symm hA, swapPerm_lt s m j hj]; exact h.zero j hj i

include hP hpos

/-- **The new row is the pivot column of the residual, scaled**: `L[m, k] = R[p, k] / sqrt(R[p, p])` for every `k`. -/
theorem newRow_eq (k : Fin n) :
    newRow P A s m k = resid A s.rows (swapPerm s m m) k / P.sqrt (pivotVal s m) := by
  have hb := swapPerm_bij s m h.bij
  simp only [newRow]
  split_ifs with h1 h2
  · rfl
  · rw [h2, eq_div_iff (sqrt_pos_of_law hP hpos).ne', ← pivotVal_eq h]; exact (hP _ hpos.le).1
  · -- neither after position `m` nor at it: an earlier pivot, where row entry and residual are both 0
    obtain ⟨j, rfl⟩ := hb.2 k
    have hj : j.val < m.val := by
      refine lt_of_le_of_ne (not_lt.1 fun hlt => h1 ⟨j, hlt, rfl⟩) fun e => h2 ?_
      rw [Fin.ext e]
    rw [resid_col_zero hA h _ j hj, zero_div]

/-- **The residual after the step is the Schur complement of the residual before** (rank-one downdate by the scaled
pivot column). -/
theorem step_resid (i k : Fin n) :
    resid A (step P A s m).rows i k = resid A s.rows i k -
      resid A s.rows (swapPerm s m m) i / P.sqrt (pivotVal s m) * (resid A s.rows (swapPerm s m m) k / P.sqrt (pivotVal s m)) := by
  obtain ⟨l, hrows, hl⟩ := step_rows P A s m
  rw [hrows, resid_append, hl, hl, newRow_eq hP hA h hpos, newRow_eq hP hA h hpos]

theorem step_inv : Inv A (step P A s m) (m.val + 1) := by
  obtain ⟨l, hrows, hl⟩ := step_rows P A s m
  refine ⟨?_, ?_, ?_, ?_, fun x => ?_⟩
  · rw [hrows, List.length_append, h.len]; rfl
  · rw [step_perm]; exact swapPerm_bij s m h.bij
  · intro j hj
    rw [step_perm, hrows, resid_append, step_diag, if_pos ⟨j, hj, rfl⟩, hl]
    obtain ⟨j', hj', he⟩ := swapPerm_ge s m j (Nat.le_of_succ_le hj)
    rw [he, h.diag j' hj']
  · intro j hj k
    rw [step_perm, step_resid hP hA h hpos]
    rcases Nat.lt_or_ge j.val m.val with hjm | hjm
    · rw [resid_col_zero hA h _ j hjm, swapPerm_lt s m j hjm, h.zero j hjm k, zero_div, zero_mul, sub_zero]
    · -- the pivot row itself: `R[p,k] − (R[p,p]/√v) · (R[p,k]/√v) = 0` as `√v·√v = v = R[p,p]`
      rw [Fin.ext (Nat.le_antisymm (Nat.le_of_lt_succ hj) hjm), ← pivotVal_eq h]
      rw [div_mul_div_comm, (hP _ hpos.le).1, mul_div_cancel_left₀ _ hpos.ne', sub_self]
  · -- `xᵀ R' x = y₁ᵀ R y₁` with `y₁ = x − c·e_p` (`downdate_form`), then the invariant at `y₁`; `p` is pivoted now
    obtain ⟨c, hc⟩ := downdate_form (resid_symm hA s.rows) (swapPerm s m m) _
      (by rw [(hP _ hpos.le).1]; exact pivotVal_eq h) (sqrt_pos_of_law hP hpos).ne' x
    obtain ⟨y, hy, he⟩ := h.form fun i => x i - c * e1 (swapPerm s m m) i
    refine ⟨y, fun j hj => ?_, by rw [funext fun i => funext (step_resid hP hA h hpos i), hc, he]⟩
    obtain ⟨j', hj', hjj⟩ := swapPerm_ge s m j (Nat.le_of_succ_le hj)
    have hne : swapPerm s m j ≠ swapPerm s m m := fun e => by
      have := congrArg Fin.val ((swapPerm_bij s m h.bij).1 e); omega
    rw [step_perm, hjj, hy j' hj', ← hjj, e1, if_neg hne, mul_zero, sub_zero]

end step

/-- positivity of all pivots up to step `m` -/
def PivotsPos (P : Prim α) (A : Mat α n n) (m : Nat) : Prop :=
  ∀ t, (h : t < n) → t < m → 0 < pivotVal (iter P A t) ⟨t, h⟩

theorem PivotsPos.mono {P : Prim α} {A : Mat α n n} {m : Nat} (h : PivotsPos P A (m + 1)) : PivotsPos P A m :=
  fun t ht htm => h t ht (Nat.lt_succ_of_lt htm)

theorem iter_inv {P : Prim α} {A : Mat α n n} (hP : SqrtLaw P) (hA : Symm A) :
    ∀ m, m ≤ n → PivotsPos P A m → Inv A (iter P A m) m
  | 0, _, _ => init_inv A
  | m + 1, hm, hpos => by
    rw [iter_succ P A hm]
    exact step_inv (m := ⟨m, hm⟩) hP hA (iter_inv hP hA m (Nat.le_of_succ_le hm) hpos.mono) (hpos m hm (Nat.lt_succ_self m))

end LinOp.C10
