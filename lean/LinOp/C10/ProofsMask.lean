import LinOp.C10.ProofsInv
import LinOp.C10.ProofsErr
import LinOp.C10.ProofsTie
import LinOp.C10.ProofsLoopM
/-!
C10 — the masked loop body of the current code (`stepM`, fix d829792): it is the unmasked body on positive pivots, writes a zero
row on a non-positive pivot, pads converged members with zero columns, and inside a batch every member is its own single-member
run continued (coupled loop, shared counter).
-/
namespace LinOp.C10
set_option linter.unusedSectionVars false

variable {α : Type} [Field α] [LinearOrder α] [IsStrictOrderedRing α] {n : Nat}

theorem sqrt_zero_of_law {P : Prim α} (hP : SqrtLaw P) : P.sqrt 0 = 0 :=
  mul_self_eq_zero.1 (hP 0 le_rfl).1

/-- On a positive pivot the current (masked) loop body is the unmasked one. -/
theorem stepM_eq_step {P : Prim α} (hP : SqrtLaw P) (A : Mat α n n) (s : St α n) (m : Fin n)
    (hpos : 0 < pivotVal s m) : stepM P A s m = step P A s m := by
  have hc : clampMin0 (pivotVal s m) = pivotVal s m := by simp [clampMin0, not_lt.2 hpos.le]
  have hs := sqrt_pos_of_law hP hpos
  unfold stepM step
  simp only [hc]
  simp only [upd_same, hs, if_true]

theorem stepM_perm (P : Prim α) (A : Mat α n n) (s : St α n) (m : Fin n) :
    (stepM P A s m).perm.get = swapPerm s m := by
  funext j
  unfold stepM
  split <;> exact get_ofFn _ _

theorem stepM_rows (P : Prim α) (A : Mat α n n) (s : St α n) (m : Fin n) :
    ∃ l : Vector α n, (stepM P A s m).rows = s.rows ++ [l] := by
  unfold stepM
  split <;> exact ⟨_, rfl⟩

theorem clampMin0_nonpos {x : α} (h : x ≤ 0) : clampMin0 x = 0 := by
  unfold clampMin0
  split
  · rfl
  · exact le_antisymm h (not_lt.1 ‹_›)

/-- On a non-positive pivot the current loop body writes a ZERO row and leaves the tracked diagonal alone. -/
theorem stepM_nonpos {P : Prim α} (h0 : P.sqrt 0 = 0) (A : Mat α n n) (s : St α n) (m : Fin n)
    (h : pivotVal s m ≤ 0) :
    (∃ l : Vector α n, (stepM P A s m).rows = s.rows ++ [l] ∧ ∀ k, l.get k = 0) ∧
    ∀ k, (stepM P A s m).diag.get k = s.diag.get k := by
  have hc : P.sqrt (clampMin0 (pivotVal s m)) = 0 := by rw [clampMin0_nonpos h]; exact h0
  have hu : ∀ (p : Fin n), upd (fun _ => (0 : α)) p 0 = fun _ => 0 := by
    intro p; funext j; simp [upd]
  unfold stepM
  simp only [hc, hu, lt_irrefl, if_false]
  by_cases hb : m.val + 1 < n
  · simp only [hb, if_true]
    refine ⟨⟨_, rfl, ?_⟩, ?_⟩
    · intro k
      rw [get_ofFn, scatter_map, ite_self]
    · intro k
      rw [get_ofFn, zipWith_map_self, scatter_map, mul_zero, sub_zero, ite_self]
  · simp only [hb, if_false]
    exact ⟨⟨_, rfl, fun k => by rw [get_ofFn]⟩, fun _ => trivial⟩

/-- On positive pivots the current code and the unmasked model run the same iterations. -/
theorem iterM_eq_iter {P : Prim α} (hP : SqrtLaw P) (A : Mat α n n) :
    ∀ m, PivotsPos P A m → iterM P A m = iter P A m
  | 0, _ => rfl
  | m + 1, hpos => by
    have ih := iterM_eq_iter hP A m hpos.mono
    simp only [iterM, iter]
    by_cases hlt : m < n
    · simp only [hlt, dite_true, ih]
      exact stepM_eq_step hP A _ _ (hpos m hlt (Nat.lt_succ_self m))
    · simp only [hlt, dite_false, ih]

/-! ### A converged member is padded with zero columns -/

/-- the tracked diagonal vanishes on every position `≥ m` -/
def TailZero (s : St α n) (m : Nat) : Prop := ∀ j : Fin n, m ≤ j.val → s.diag.get (s.perm.get j) = 0

theorem pivotPos_of_tailZero (s : St α n) (m : Fin n) (hz : TailZero s m.val) : pivotPos s m = m := by
  have hge := pivotPos_ge s m
  by_contra hne
  have hlt : m.val < (pivotPos s m).val := by
    have : m.val ≠ (pivotPos s m).val := fun h => hne (Fin.ext h.symm)
    omega
  have := argmaxFrom_first (fun j => s.diag.get (s.perm.get j)) m m (le_refl _) hlt
  beta_reduce at this
  rw [hz m (le_refl _)] at this
  have h2 := hz (pivotPos s m) hge
  unfold pivotPos at h2
  rw [h2] at this
  exact lt_irrefl _ this

theorem swapPerm_of_tailZero (s : St α n) (m : Fin n) (hz : TailZero s m.val) : swapPerm s m = s.perm.get := by
  funext j
  simp only [swapPerm, pivotPos_of_tailZero s m hz, upd]
  by_cases h : j = m
  · simp [h]
  · simp [h]

/-- One masked step on a member whose tracked residual diagonal has vanished: a zero row, nothing else changes. -/
theorem stepM_tailZero {P : Prim α} (h0 : P.sqrt 0 = 0) (A : Mat α n n) (s : St α n) (m : Fin n) (hz : TailZero s m.val) :
    (∃ l : Vector α n, (stepM P A s m).rows = s.rows ++ [l] ∧ ∀ k, l.get k = 0) ∧
    (stepM P A s m).perm.get = s.perm.get ∧ ∀ k, (stepM P A s m).diag.get k = s.diag.get k := by
  have hpv : pivotVal s m = 0 := by
    unfold pivotVal; rw [pivotPos_of_tailZero s m hz]; exact hz m (le_refl _)
  obtain ⟨h1, h2⟩ := stepM_nonpos h0 A s m (le_of_eq hpv)
  exact ⟨h1, by rw [stepM_perm, swapPerm_of_tailZero s m hz], h2⟩

/-- **Zero padding**: once the tracked diagonal of a member has vanished on the unpivoted positions (after `m0` iterations), every
further iteration of the current code appends a zero row and changes neither the permutation nor the diagonal (so the diagonal
stays zero on the unpivoted positions, which keeps the argument going). -/
theorem iterM_pad {P : Prim α} (h0 : P.sqrt 0 = 0) (A : Mat α n n) (m0 : Nat) (hz : TailZero (iterM P A m0) m0) :
    ∀ d, m0 + d ≤ n →
      (∃ extra : List (Vector α n), (iterM P A (m0 + d)).rows = (iterM P A m0).rows ++ extra ∧ extra.length = d ∧
        ∀ l ∈ extra, ∀ k, l.get k = 0) ∧
      (iterM P A (m0 + d)).perm.get = (iterM P A m0).perm.get ∧
      ∀ k, (iterM P A (m0 + d)).diag.get k = (iterM P A m0).diag.get k
  | 0, _ => ⟨⟨[], (List.append_nil _).symm, rfl, fun _ h => absurd h List.not_mem_nil⟩, rfl, fun _ => rfl⟩
  | d + 1, hd => by
    obtain ⟨⟨extra, hrows, hlen, hzero⟩, hperm, hdiag⟩ := iterM_pad h0 A m0 hz d (Nat.le_of_succ_le hd)
    have htz : TailZero (iterM P A (m0 + d)) (m0 + d) := fun j hj => by
      rw [hperm, hdiag]; exact hz j (Nat.le_of_add_right_le hj)
    have hlt : m0 + d < n := hd
    obtain ⟨⟨l, hl1, hl2⟩, hp, hdg⟩ := stepM_tailZero h0 A (iterM P A (m0 + d)) ⟨m0 + d, hlt⟩ htz
    rw [show iterM P A (m0 + (d + 1)) = stepM P A (iterM P A (m0 + d)) ⟨m0 + d, hlt⟩ from iterM_succ P A hlt]
    refine ⟨⟨extra ++ [l], by rw [hl1, hrows, List.append_assoc], by rw [List.length_append, hlen]; rfl, ?_⟩,
      hp.trans hperm, fun k => (hdg k).trans (hdiag k)⟩
    intro l' hl' k
    rcases List.mem_append.1 hl' with h | h
    · exact hzero l' h k
    · rw [List.mem_singleton.1 h]; exact hl2 k

/-- zero rows do not change `L Lᵀ` -/
theorem lltEntry_append_zero (rows extra : List (Vector α n)) (h : ∀ l ∈ extra, ∀ k, l.get k = 0) (i k : Fin n) :
    lltEntry (rows ++ extra) i k = lltEntry rows i k := by
  induction extra using List.reverseRecOn with
  | nil => simp
  | append_singleton ex l ih =>
    rw [← List.append_assoc, lltEntry_append, ih (fun l' hl' => h l' (List.mem_append_left _ hl'))]
    rw [h l (by simp) i]; ring

/-! ### Inside a batch every member is its own run, continued -/

theorem iterM_rows_append (P : Prim α) (A : Mat α n n) (m : Nat) :
    ∀ d, m + d ≤ n → ∃ extra : List (Vector α n),
      (iterM P A (m + d)).rows = (iterM P A m).rows ++ extra ∧ extra.length = d
  | 0, _ => ⟨[], (List.append_nil _).symm, rfl⟩
  | d + 1, hd => by
    have hlt : m + d < n := hd
    obtain ⟨extra, h, hlen⟩ := iterM_rows_append P A m d hlt.le
    obtain ⟨l, hl⟩ := stepM_rows P A (iterM P A (m + d)) ⟨m + d, hlt⟩
    exact ⟨extra ++ [l], by rw [show iterM P A (m + (d + 1)) = _ from iterM_succ P A hlt, hl, h, List.append_assoc],
      by rw [List.length_append, hlen]; rfl⟩

theorem iterM_rows_length (P : Prim α) (A : Mat α n n) (m : Nat) (hm : m ≤ n) : (iterM P A m).rows.length = m := by
  obtain ⟨extra, h, hlen⟩ := iterM_rows_append P A 0 m (by rwa [Nat.zero_add])
  rw [Nat.zero_add] at h
  rw [h]; exact hlen

theorem iterM_perm_prefix (P : Prim α) (A : Mat α n n) (m : Nat) (j : Fin n) (hj : j.val < m) :
    ∀ d, (iterM P A (m + d)).perm.get j = (iterM P A m).perm.get j
  | 0 => rfl
  | d + 1 => by
    by_cases hlt : m + d < n
    · rw [show iterM P A (m + (d + 1)) = _ from iterM_succ P A hlt, stepM_perm, swapPerm_lt _ _ _ (Nat.lt_add_right d hj)]
      exact iterM_perm_prefix P A m j hj d
    · rw [show iterM P A (m + (d + 1)) = iterM P A (m + d) from dif_neg hlt]; exact iterM_perm_prefix P A m j hj d

theorem errAtM_single (P : Prim α) (A : Mat α n n) (t : Nat) : errAtM P [A] t = (iterM P A t).err := by
  simp [errAtM, batchErr, maxList]

theorem err_le_errAtM (P : Prim α) (As : List (Mat α n n)) (A : Mat α n n) (hA : A ∈ As) (t : Nat) :
    (iterM P A t).err ≤ errAtM P As t := by
  have hmem : (iterM P A t).err ∈ (As.map fun A => iterM P A t).map (·.err) :=
    List.mem_map.2 ⟨iterM P A t, List.mem_map.2 ⟨A, hA, rfl⟩, rfl⟩
  exact (maxList_spec (List.ne_nil_of_mem hmem)).2 _ hmem

/-- A member alone never runs longer than inside a batch (same rank, same tolerance). -/
theorem single_le_batch (P : Prim α) (As : List (Mat α n n)) (rank : Nat) (tol : α) (hrank : 0 < rank) (hn : 0 < n)
    (A : Mat α n n) (hA : A ∈ As) : (runM P [A] rank tol).1 ≤ (runM P As rank tol).1 := by
  have hB := runM_spec P As rank tol hrank hn
  have hS := runM_spec P [A] rank tol hrank hn
  by_contra hlt
  have hlt : (runM P As rank tol).1 < (runM P [A] rank tol).1 := by omega
  have h1 : 1 ≤ (runM P As rank tol).1 := hB.pos rfl
  have hstop := hB.stopped (lt_of_lt_of_le hlt hS.le_max) h1
  have hcont := hS.continued _ (Nat.zero_le _) h1 hlt
  rw [errAtM_single] at hcont
  exact hstop (lt_of_lt_of_le hcont (err_le_errAtM P As A hA _))

end LinOp.C10
