import LinOp.C10.Model
import LinOp.Core.Bridge
import Mathlib.Algebra.Order.Field.Basic
import Mathlib.Algebra.BigOperators.Fin
import Mathlib.Algebra.Order.BigOperators.Group.Finset
import Mathlib.Logic.Equiv.Basic
import Mathlib.Tactic.Ring
import Mathlib.Tactic.Linarith
import Mathlib.Tactic.FieldSimp
/-!
C10 — the pivoted-Cholesky model (`LinOp.C10.step`, `iter`) made usable: `scatter` on mapped index lists, the arg-max fold
(`torch.max`), the hypotheses `SqrtLaw` / `Symm` / `PSD`, the residual `A − L Lᵀ` under an appended row, one step in branch-free form
(`newRow`, `InTail`: `step_perm`, `step_rows`, `step_diag`), and the pivot swap as a transposition (`swapPerm_eq`).
-/
namespace LinOp.C10
set_option linter.unusedSectionVars false

theorem get_ofFn {β : Type} {n : Nat} (f : Fin n → β) (i : Fin n) : (Vector.ofFn f).get i = f i := by
  simp [Vector.get]; rfl

section lists
variable {β : Type} {n : Nat}

theorem upd_same (f : Fin n → β) (i : Fin n) (v : β) : upd f i v i = v := if_pos rfl

theorem scatter_map (idx : List (Fin n)) (base : Fin n → β) (f : Fin n → β) (i : Fin n) :
    scatter base idx (idx.map f) i = if i ∈ idx then f i else base i := by
  induction idx generalizing base with
  | nil => simp [scatter]
  | cons a as ih =>
    simp only [List.map_cons, scatter, ih, upd, List.mem_cons]
    by_cases h1 : i ∈ as
    · simp [h1]
    · by_cases h2 : i = a
      · simp [h2]
      · simp [h1, h2]

theorem zipWith_map_self {γ δ : Type} (l : List β) (g : β → γ) (f : β → γ → δ) :
    List.zipWith f l (l.map g) = l.map fun i => f i (g i) := by
  induction l with
  | nil => rfl
  | cons a as ih => simp [ih]

theorem mem_tailPos (m : Nat) (j : Fin n) : j ∈ tailPos n m ↔ m ≤ j.val := by
  simp [tailPos, List.mem_filter]

end lists

section order
variable {α : Type} [LinearOrder α] {n : Nat}

/-- A left fold keeping the first maximal element (`torch.max`): the result is the start or a member, and it is maximal. -/
theorem foldl_argmax {ι : Type} (v : ι → α) (l : List ι) (b : ι) :
    let r := l.foldl (fun best j => if v best < v j then j else best) b
    (r = b ∨ r ∈ l) ∧ v b ≤ v r ∧ ∀ j ∈ l, v j ≤ v r := by
  induction l generalizing b with
  | nil => simp
  | cons a as ih =>
    by_cases h : v b < v a
    · simp only [List.foldl_cons, if_pos h]
      obtain ⟨h1, h2, h3⟩ := ih a
      exact ⟨Or.inr (h1.elim (fun e => List.mem_cons.2 (Or.inl e)) (List.mem_cons_of_mem _)), h.le.trans h2,
        List.forall_mem_cons.2 ⟨h2, h3⟩⟩
    · simp only [List.foldl_cons, if_neg h]
      obtain ⟨h1, h2, h3⟩ := ih b
      exact ⟨h1.imp_right (List.mem_cons_of_mem _), h2, List.forall_mem_cons.2 ⟨(not_lt.1 h).trans h2, h3⟩⟩

/-- `maxList` of a non-empty list is a member and an upper bound. -/
theorem maxList_spec [Zero α] : ∀ {l : List α}, l ≠ [] → maxList l ∈ l ∧ ∀ x ∈ l, x ≤ maxList l
  | [], h => absurd rfl h
  | a :: as, _ => by
    obtain ⟨h1, h2, h3⟩ := foldl_argmax id as a
    refine ⟨?_, fun x hx => ?_⟩
    · rcases h1 with h1 | h1
      · exact List.mem_cons.2 (Or.inl h1)
      · exact List.mem_cons_of_mem _ h1
    · rcases List.mem_cons.1 hx with rfl | hx
      · exact h2
      · exact h3 x hx

/-- The arg-max position lies in the tail and carries a maximal value of the tail. -/
theorem argmaxFrom_spec (v : Fin n → α) (m : Fin n) :
    m.val ≤ (argmaxFrom v m).val ∧ ∀ j : Fin n, m.val ≤ j.val → v j ≤ v (argmaxFrom v m) := by
  obtain ⟨h1, h2, h3⟩ := foldl_argmax v (tailPos n (m.val + 1)) m
  refine ⟨?_, ?_⟩
  · rcases h1 with h1 | h1
    · unfold argmaxFrom; rw [h1]
    · have := (mem_tailPos _ _).1 h1
      unfold argmaxFrom; omega
  · intro j hj
    by_cases hjm : j = m
    · subst hjm; exact h2
    · have : m.val + 1 ≤ j.val := by
        have : m.val ≠ j.val := fun h => hjm (Fin.ext h.symm)
        omega
      exact h3 j ((mem_tailPos _ _).2 this)

end order

section field
variable {α : Type} [Field α] [LinearOrder α] [IsStrictOrderedRing α] {n : Nat}

theorem absv_eq_abs (x : α) : absv x = |x| := by
  rcases lt_or_ge x 0 with h | h
  · rw [absv, if_pos h, abs_of_neg h]
  · rw [absv, if_neg (not_lt.2 h), abs_of_nonneg h]

/-- The law assumed of `sqrt` (true of the real square root): on non-negative arguments it is a
non-negative root. -/
def SqrtLaw (P : Prim α) : Prop := ∀ x, 0 ≤ x → P.sqrt x * P.sqrt x = x ∧ 0 ≤ P.sqrt x

theorem sqrt_pos_of_law {P : Prim α} (hP : SqrtLaw P) {x : α} (hx : 0 < x) : 0 < P.sqrt x := by
  obtain ⟨h1, h2⟩ := hP x hx.le
  refine h2.lt_of_ne fun h => hx.ne' ?_
  rw [← h1, ← h, mul_zero]

def Symm (A : Mat α n n) : Prop := ∀ i j, A i j = A j i

/-- Positive semi-definite: `xᵀ A x ≥ 0` for every `x`. -/
def PSD (A : Mat α n n) : Prop := ∀ x : Fin n → α, 0 ≤ ∑ i, ∑ k, x i * A i k * x k

theorem lltEntry_append (rows : List (Vector α n)) (l : Vector α n) (i k : Fin n) :
    lltEntry (rows ++ [l]) i k = lltEntry rows i k + l.get i * l.get k := by
  simp only [lltEntry, List.map_append, List.sum_append, List.map_cons, List.map_nil, List.sum_cons, List.sum_nil, add_zero]

theorem resid_append (A : Mat α n n) (rows : List (Vector α n)) (l : Vector α n) (i k : Fin n) :
    resid A (rows ++ [l]) i k = resid A rows i k - l.get i * l.get k := by
  rw [resid, resid, lltEntry_append, sub_add_eq_sub_sub]

theorem lltEntry_symm (rows : List (Vector α n)) (i k : Fin n) : lltEntry rows i k = lltEntry rows k i := by
  simp only [lltEntry]; congr 1; apply List.map_congr_left; intro r _; ring

theorem resid_symm {A : Mat α n n} (hA : Symm A) (rows : List (Vector α n)) : Symm (resid A rows) := by
  intro i k; simp only [resid, hA i k, lltEntry_symm rows i k]

theorem resid_nil (A : Mat α n n) : resid A [] = A := by
  funext i k; simp [resid, lltEntry]

/-! ### What one step does, branch-free -/

/-- index `k` sits at a position after `m` in the swapped permutation (`k ∈ pi_i`) -/
def InTail (s : St α n) (m : Fin n) (k : Fin n) : Prop := ∃ j : Fin n, m.val < j.val ∧ swapPerm s m j = k

instance (s : St α n) (m k : Fin n) : Decidable (InTail s m k) := by unfold InTail; infer_instance

/-- the row `L[m, :]` the step writes -/
def newRow (P : Prim α) (A : Mat α n n) (s : St α n) (m : Fin n) (k : Fin n) : α :=
  let p := swapPerm s m m
  if InTail s m k then (A p k - lltEntry s.rows p k) / P.sqrt (pivotVal s m)
  else if k = p then P.sqrt (pivotVal s m) else 0

theorem mem_piI (s : St α n) (m k : Fin n) :
    k ∈ (tailPos n (m.val + 1)).map (Vector.ofFn (swapPerm s m)).get ↔ InTail s m k := by
  simp only [List.mem_map, mem_tailPos, get_ofFn, InTail]
  constructor
  · rintro ⟨j, h1, h2⟩; exact ⟨j, by omega, h2⟩
  · rintro ⟨j, h1, h2⟩; exact ⟨j, by omega, h2⟩

theorem step_perm (P : Prim α) (A : Mat α n n) (s : St α n) (m : Fin n) :
    (step P A s m).perm.get = swapPerm s m := by
  funext j
  unfold step
  split <;> exact get_ofFn _ _

theorem step_rows (P : Prim α) (A : Mat α n n) (s : St α n) (m : Fin n) :
    ∃ l : Vector α n, (step P A s m).rows = s.rows ++ [l] ∧ ∀ k, l.get k = newRow P A s m k := by
  unfold step
  by_cases h : m.val + 1 < n
  · simp only [h, if_true]
    refine ⟨_, rfl, ?_⟩
    intro k
    rw [get_ofFn, scatter_map]
    simp only [mem_piI, newRow, get_ofFn, upd, lltEntry, if_true]
  · simp only [h, if_false]
    refine ⟨_, rfl, ?_⟩
    intro k
    have hk : ¬ InTail s m k := by
      rintro ⟨j, hj, _⟩; have := j.isLt; omega
    simp [get_ofFn, newRow, hk, upd]

theorem step_diag (P : Prim α) (A : Mat α n n) (s : St α n) (m : Fin n) (k : Fin n) :
    (step P A s m).diag.get k =
      if InTail s m k then s.diag.get k - newRow P A s m k * newRow P A s m k else s.diag.get k := by
  unfold step
  by_cases h : m.val + 1 < n
  · simp only [h, if_true]
    rw [get_ofFn, zipWith_map_self, scatter_map]
    simp only [mem_piI, newRow, get_ofFn, upd, lltEntry, if_true]
    by_cases hk : InTail s m k <;> simp only [hk, if_true, if_false]
  · simp only [h, if_false]
    have hk : ¬ InTail s m k := by
      rintro ⟨j, hj, _⟩; have := j.isLt; omega
    simp [hk]

theorem iter_succ (P : Prim α) (A : Mat α n n) {m : Nat} (h : m < n) :
    iter P A (m + 1) = step P A (iter P A m) ⟨m, h⟩ := dif_pos h

theorem iter_rows_length (P : Prim α) (A : Mat α n n) : ∀ m, m ≤ n → (iter P A m).rows.length = m
  | 0, _ => rfl
  | m + 1, hm => by
    obtain ⟨l, hl, _⟩ := step_rows P A (iter P A m) ⟨m, hm⟩
    rw [iter_succ P A hm, hl, List.length_append, iter_rows_length P A m (Nat.le_of_succ_le hm)]
    rfl

/-! ### The permutation -/

theorem swapPerm_eq (s : St α n) (m : Fin n) :
    swapPerm s m = s.perm.get ∘ (Equiv.swap m (pivotPos s m)) := by
  funext j
  simp only [swapPerm, upd, Function.comp, Equiv.swap_apply_def]
  by_cases h1 : j = pivotPos s m <;> by_cases h2 : j = m
  · subst h2; rw [← h1]; simp
  · have h3 : ¬ pivotPos s m = m := fun h => h2 (h1.trans h)
    simp [h1, h3]
  · subst h2; simp [h1]
  · simp [h1, h2]

theorem swapPerm_bij (s : St α n) (m : Fin n) (h : Function.Bijective s.perm.get) :
    Function.Bijective (swapPerm s m) := by
  rw [swapPerm_eq]; exact h.comp (Equiv.bijective _)

theorem pivotPos_ge (s : St α n) (m : Fin n) : m.val ≤ (pivotPos s m).val :=
  (argmaxFrom_spec _ m).1

theorem swapPerm_lt (s : St α n) (m j : Fin n) (hj : j.val < m.val) : swapPerm s m j = s.perm.get j := by
  have := pivotPos_ge s m
  rw [swapPerm_eq, Function.comp, Equiv.swap_apply_of_ne_of_ne]
  · intro h; rw [h] at hj; omega
  · intro h; rw [h] at hj; omega

theorem swapPerm_m (s : St α n) (m : Fin n) : swapPerm s m m = s.perm.get (pivotPos s m) := by
  rw [swapPerm_eq, Function.comp, Equiv.swap_apply_left]

/-- positions at or after `m` stay at or after `m` under the swap -/
theorem swapPerm_ge (s : St α n) (m j : Fin n) (hj : m.val ≤ j.val) :
    ∃ j' : Fin n, m.val ≤ j'.val ∧ swapPerm s m j = s.perm.get j' := by
  refine ⟨Equiv.swap m (pivotPos s m) j, ?_, by rw [swapPerm_eq]; rfl⟩
  rw [Equiv.swap_apply_def]
  split
  · exact pivotPos_ge s m
  · split
    · exact le_refl _
    · exact hj

end field
end LinOp.C10
