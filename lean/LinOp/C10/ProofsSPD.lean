import LinOp.C10.ProofsPrecond
import Mathlib.LinearAlgebra.Matrix.DotProduct
import Mathlib.Algebra.Order.BigOperators.Group.Finset
import Mathlib.Tactic.Linarith
/-!
C10 — the preconditioner closure is positive definite: it solves with `L Lᵀ + D`, `D > 0`.
-/
namespace LinOp.C10
set_option linter.unusedSectionVars false
open Matrix

variable {α : Type} [Field α] [LinearOrder α] [IsStrictOrderedRing α] {n k : Nat}

/-- If `(L Lᵀ + D) y = x` with `D > 0` and `x ≠ 0` then `xᵀ y = |Lᵀy|² + Σ dᵢ yᵢ² > 0`. -/
theorem posdef_of_solve (L : Matrix (Fin n) (Fin k) α) (d : Fin n → α) (hd : ∀ i, 0 < d i) (x y : Fin n → α)
    (hPy : (L * Lᵀ + Matrix.diagonal d) *ᵥ y = x) (hx : x ≠ 0) : 0 < x ⬝ᵥ y := by
  have hy0 : y ≠ 0 := by
    intro h0; rw [h0, Matrix.mulVec_zero] at hPy; exact hx hPy.symm
  have e1 : (L * Lᵀ) *ᵥ y ⬝ᵥ y = (Lᵀ *ᵥ y) ⬝ᵥ (Lᵀ *ᵥ y) := by
    rw [dotProduct_comm, ← Matrix.mulVec_mulVec, Matrix.dotProduct_mulVec, ← Matrix.mulVec_transpose]
  have e2 : (Matrix.diagonal d *ᵥ y) ⬝ᵥ y = ∑ i, d i * (y i * y i) := by
    simp only [dotProduct, Matrix.mulVec_diagonal, mul_assoc]
  have hpos : 0 < ∑ i, d i * (y i * y i) := by
    obtain ⟨i, hi⟩ := Function.ne_iff.1 hy0
    exact Finset.sum_pos' (fun j _ => mul_nonneg (hd j).le (mul_self_nonneg _))
      ⟨i, Finset.mem_univ _, mul_pos (hd i) (mul_self_pos.2 hi)⟩
  rw [← hPy, Matrix.add_mulVec, add_dotProduct, e1, e2]
  exact lt_add_of_le_of_pos (Finset.sum_nonneg fun i _ => mul_self_nonneg _) hpos

/-- **A right inverse of `_precond_lt` is positive definite**: if `(L Lᵀ + D) Y = x` (one column), `D > 0`, `x ≠ 0`,
then `xᵀ Y > 0`.  Both closures are such inverses (`const_inverse`, `nonconst_inverse`). -/
theorem posdef_of_inverse (L : Mat α n k) (d : Fin n → α) (hd : ∀ i, 0 < d i) (x : Fin n → α) (hx : x ≠ 0)
    (Y : Mat α n 1) (hY : Mat.mul (precondLt L d) Y = fun a _ => x a) : 0 < ∑ i, x i * Y i 0 := by
  rw [precondLt_mul] at hY
  refine posdef_of_solve (Matrix.of L) d hd x (fun i => Y i 0) (funext fun i => ?_) hx
  exact congrFun (congrFun hY i) (0 : Fin 1)

end LinOp.C10
