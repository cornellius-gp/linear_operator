import LinOp.C10.Proofs
import Mathlib.Algebra.BigOperators.Field
/-!
C10 — the quadratic form `xᵀ R x` of a matrix and what a rank-one downdate by the scaled pivot column (a Schur complement)
does to it (`downdate_form`).
-/
namespace LinOp.C10
set_option linter.unusedSectionVars false

variable {α : Type} [Field α] [LinearOrder α] [IsStrictOrderedRing α] {n : Nat}

/-- the bilinear form `uᵀ R v` -/
def bil (R : Mat α n n) (u v : Fin n → α) : α := ∑ i, ∑ k, u i * R i k * v k

/-- unit vector -/
def e1 (p : Fin n) : Fin n → α := fun i => if i = p then 1 else 0

theorem bil_sub_left (R : Mat α n n) (u w v : Fin n → α) : bil R (fun i => u i - w i) v = bil R u v - bil R w v := by
  simp only [bil, sub_mul, Finset.sum_sub_distrib]

theorem bil_sub_right (R : Mat α n n) (u v w : Fin n → α) : bil R u (fun i => v i - w i) = bil R u v - bil R u w := by
  simp only [bil, mul_sub, Finset.sum_sub_distrib]

theorem bil_smul_left (R : Mat α n n) (c : α) (u v : Fin n → α) : bil R (fun i => c * u i) v = c * bil R u v := by
  simp only [bil, Finset.mul_sum, mul_assoc]

theorem bil_smul_right (R : Mat α n n) (c : α) (u v : Fin n → α) : bil R u (fun i => c * v i) = c * bil R u v := by
  simp only [bil, Finset.mul_sum]
  apply Finset.sum_congr rfl; intro i _
  apply Finset.sum_congr rfl; intro k _
  ring

theorem bil_e1_left (R : Mat α n n) (p : Fin n) (v : Fin n → α) : bil R (e1 p) v = ∑ k, R p k * v k := by
  rw [bil, Finset.sum_comm]
  simp only [e1, ite_mul, one_mul, zero_mul, Finset.sum_ite_eq', Finset.mem_univ, if_true]

theorem bil_e1_right (R : Mat α n n) (p : Fin n) (u : Fin n → α) : bil R u (e1 p) = ∑ i, u i * R i p := by
  simp only [bil, e1, mul_ite, mul_one, mul_zero, Finset.sum_ite_eq', Finset.mem_univ, if_true]

theorem bil_e1_e1 (R : Mat α n n) (p : Fin n) : bil R (e1 p) (e1 p) = R p p := by
  rw [bil_e1_left]
  simp only [e1, mul_ite, mul_one, mul_zero, Finset.sum_ite_eq', Finset.mem_univ, if_true]

/-- **Rank-one downdate by the scaled pivot column keeps `xᵀ R x` a value of the old form**:
`xᵀ (R − r rᵀ / d) x = yᵀ R y` with `y = x − (xᵀ r / d) e_p`, `r = R e_p`, `d = R[p,p] = sq²`. -/
theorem downdate_form {R : Mat α n n} (hS : Symm R) (p : Fin n) (sq : α) (hsq : sq * sq = R p p) (hne : sq ≠ 0)
    (x : Fin n → α) :
    ∃ c : α, bil (fun i k => R i k - R p i / sq * (R p k / sq)) x x =
      bil R (fun i => x i - c * e1 p i) (fun i => x i - c * e1 p i) := by
  refine ⟨(∑ j, x j * R p j) / R p p, ?_⟩
  set a := ∑ j, x j * R p j with ha
  have h1 : ∑ k, R p k * x k = a := by
    rw [ha]; apply Finset.sum_congr rfl; intro k _; ring
  have h2 : ∑ i, x i * R i p = a := by
    rw [ha]; apply Finset.sum_congr rfl; intro k _; rw [hS k p]
  have hl : bil (fun i k => R i k - R p i / sq * (R p k / sq)) x x = bil R x x - a / sq * (a / sq) := by
    have : a / sq * (a / sq) = ∑ i, ∑ k, x i * (R p i / sq * (R p k / sq)) * x k := by
      rw [ha, Finset.sum_div, Finset.sum_mul_sum]
      apply Finset.sum_congr rfl; intro i _
      apply Finset.sum_congr rfl; intro k _
      ring
    rw [this]
    simp only [bil, mul_sub, sub_mul, Finset.sum_sub_distrib]
  rw [hl, bil_sub_left, bil_sub_right, bil_sub_right, bil_smul_left, bil_smul_right, bil_smul_left, bil_smul_right,
    bil_e1_left, bil_e1_right, h1, h2, bil_e1_e1]
  rw [← hsq]
  field_simp
  ring

end LinOp.C10
