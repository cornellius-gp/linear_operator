import LinOp.C10.Proofs
/-!
C10 — the while loop of pivoted Cholesky on a batch: how many iterations run and why it stops.
-/
namespace LinOp.C10
set_option linter.unusedSectionVars false

variable {α : Type} [Field α] [LinearOrder α] [IsStrictOrderedRing α] {n : Nat}

/-- `torch.max(errors)` after `t` iterations of every member. -/
def errAt (P : Prim α) (As : List (Mat α n n)) (t : Nat) : α := batchErr (As.map fun A => iter P A t)

/-- What the loop guarantees about its exit counter `r` when entered with counter `m`. -/
structure Stops (P : Prim α) (As : List (Mat α n n)) (maxIter : Nat) (tol : α) (m : Nat)
    (res : Nat × List (St α n)) : Prop where
  le_max : res.1 ≤ maxIter
  ge : m ≤ res.1
  pos : m = 0 → 1 ≤ res.1
  states : res.2 = As.map fun A => iter P A res.1
  /-- every iteration after the first ran only because the error exceeded the tolerance -/
  continued : ∀ t, m ≤ t → 1 ≤ t → t < res.1 → tol < errAt P As t
  /-- stopping before `max_iter` means the error is within the tolerance -/
  stopped : res.1 < maxIter → 1 ≤ res.1 → ¬ tol < errAt P As res.1

/-! ### The loop for any body

`loop` and `loopM` are the same while loop around two bodies (`step`, `stepM`).  The argument is made once, for a body `stp`
with iterate `it` and any function `lp` that unfolds the way both loops do. -/

/-- `Stops` for a member iterate `it` (`iter P` or `iterM P`). -/
structure LoopStops (it : Mat α n n → Nat → St α n) (As : List (Mat α n n)) (maxIter : Nat) (tol : α) (m : Nat)
    (res : Nat × List (St α n)) : Prop where
  le_max : res.1 ≤ maxIter
  ge : m ≤ res.1
  pos : m = 0 → 1 ≤ res.1
  states : res.2 = As.map fun A => it A res.1
  continued : ∀ t, m ≤ t → 1 ≤ t → t < res.1 → tol < batchErr (As.map fun A => it A t)
  stopped : res.1 < maxIter → 1 ≤ res.1 → ¬ tol < batchErr (As.map fun A => it A res.1)

theorem loop_stops {stp : (m : Nat) → m < n → Mat α n n → St α n → St α n} {it : Mat α n n → Nat → St α n}
    (hit : ∀ A m (h : m < n), it A (m + 1) = stp m h A (it A m))
    {As : List (Mat α n n)} {maxIter : Nat} {tol : α} {lp : Nat → Nat → List (St α n) → Nat × List (St α n)}
    (lp_zero : ∀ m ss, lp 0 m ss = (m, ss))
    (lp_succ : ∀ fuel m ss, lp (fuel + 1) m ss =
      if m == 0 || (decide (m < maxIter) && decide (tol < batchErr ss)) then
        if h : m < n then lp fuel (m + 1) (List.zipWith (fun A s => stp m h A s) As ss) else (m, ss)
      else (m, ss))
    (hmax : maxIter ≤ n) (hpos : 0 < maxIter) :
    ∀ fuel m, m ≤ maxIter → maxIter < m + fuel →
      LoopStops it As maxIter tol m (lp fuel m (As.map fun A => it A m))
  | 0, m, h1, h2 => by omega
  | fuel + 1, m, h1, h2 => by
    rw [lp_succ]
    by_cases hc : (m == 0 || (decide (m < maxIter) && decide (tol < batchErr (As.map fun A => it A m)))) = true
    · -- the loop test holds: one more iteration of every member, then the induction hypothesis
      rw [if_pos hc]
      simp only [Bool.or_eq_true, beq_iff_eq, Bool.and_eq_true, decide_eq_true_eq] at hc
      have hlt : m < maxIter := hc.elim (fun h => h ▸ hpos) (·.1)
      have hn : m < n := lt_of_lt_of_le hlt hmax
      have hz : List.zipWith (fun A s => stp m hn A s) As (As.map fun A => it A m) = As.map fun A => it A (m + 1) := by
        rw [zipWith_map_self]
        exact List.map_congr_left fun A _ => (hit A m hn).symm
      rw [dif_pos hn, hz]
      have ih := loop_stops hit lp_zero lp_succ hmax hpos fuel (m + 1) hlt (by omega)
      refine ⟨ih.le_max, by have := ih.ge; omega, fun _ => by have := ih.ge; omega, ih.states, ?_, ih.stopped⟩
      intro t ht1 ht2 ht3
      by_cases htm : t = m
      · subst htm
        rcases hc with hc | hc
        · omega
        · exact hc.2
      · exact ih.continued t (by omega) ht2 ht3
    · rw [if_neg hc]
      simp only [Bool.or_eq_true, beq_iff_eq, Bool.and_eq_true, decide_eq_true_eq, not_or, not_and] at hc
      exact ⟨h1, le_refl _, fun h => absurd h hc.1, rfl, fun t a _ c => absurd c (by omega), fun hlt _ => hc.2 hlt⟩

theorem loop_spec (P : Prim α) (As : List (Mat α n n)) (maxIter : Nat) (tol : α) (hmax : maxIter ≤ n)
    (hpos : 0 < maxIter) (fuel m : Nat) (h1 : m ≤ maxIter) (h2 : maxIter < m + fuel) :
    Stops P As maxIter tol m (loop P As maxIter tol fuel m (As.map fun A => iter P A m)) :=
  have h := loop_stops (stp := fun m h A s => step P A s ⟨m, h⟩) (fun A _ h => iter_succ P A h)
    (lp := loop P As maxIter tol) (fun _ _ => rfl) (fun _ _ _ => rfl) hmax hpos fuel m h1 h2
  ⟨h.le_max, h.ge, h.pos, h.states, h.continued, h.stopped⟩

/-- The whole call: `run` executes exactly `r` iterations on every member, `1 ≤ r ≤ min rank n`, later iterations
only while the batch error exceeds the tolerance, and an exit before `min rank n` only when it does not. -/
theorem run_spec (P : Prim α) (As : List (Mat α n n)) (rank : Nat) (tol : α) (hrank : 0 < rank) (hn : 0 < n) :
    Stops P As (min rank n) tol 0 (run P As rank tol) :=
  loop_spec P As (min rank n) tol (Nat.min_le_right _ _) (by omega) _ 0 (by omega) (by omega)

end LinOp.C10
