import LinOp.C15.Proofs
import LinOp.C15.Gen
import LinOp.C15.BindNames
/-! C15 — the generated tables: what is evaluated, and what follows from it without evaluation.

Two closed propositions are evaluated, one per subject; their clauses are the fields of `ClassesChecked` and `EntriesChecked`.
`generated_classes_checked` is about the class table: the hierarchy is consistent, every operator class inherits from
`LinearOperator`, and every override of a registered method keeps the base-class parameter list and `alpha` capability; since
`resolve` only returns a class that defines the name (`resolve_of_definers`), dispatch sees the base-class definition on every
operator class (`resolve_generated`).  `generated_entries_checked` is about the registrations `(f, m)` on `"LinearOperator"`.
The `table_*` theorems of `LinOp/Properties/C15.lean` read the clauses off the two. -/
namespace LinOp.C15
open LinOp.Generated.C15

/-- A table with distinct keys is a function: `lookup` finds every entry. -/
theorem lookup_of_mem_of_nodup {α β : Type} [BEq α] [LawfulBEq α] :
    ∀ {l : List (α × β)}, (l.map Prod.fst).Nodup → ∀ {e : α × β}, e ∈ l → l.lookup e.1 = some e.2
  | (k, v) :: l, h, e, he => by
    rw [List.map_cons, List.nodup_cons] at h
    rcases List.mem_cons.1 he with rfl | he
    · exact List.lookup_cons_self
    · have hk : (e.1 == k) = false := beq_false_of_ne fun hk =>
        h.1 (hk ▸ (List.mem_map_of_mem he : e.1 ∈ l.map Prod.fst))
      rw [List.lookup_cons, hk]
      exact lookup_of_mem_of_nodup h.2 he

theorem isSubclass_iff_mem {t : ClassTable} {c d : String} : isSubclass t c d = true ↔ d ∈ (mro t c).getD [] := by
  unfold isSubclass
  cases mro t c <;> simp

/-- What is asked of the generated class table. -/
structure ClassesChecked : Prop where
  /-- 1. The hierarchy is C3-consistent: every class has a linearisation. -/
  mro_total : ∀ c ∈ classes, (mro classes c.1).isSome = true
  /-- 2. No proper superclass of an operator class is one of its subclasses. -/
  antisymm : ∀ b ∈ operatorClasses, ∀ a ∈ (mro classes b).getD [], a ≠ b → isSubclass classes a b = false
  /-- 3. Every operator class inherits from `LinearOperator` … -/
  inherits_base : ∀ c ∈ operatorClasses, isSubclass classes c "LinearOperator" = true
  /-- 4. … which defines every registered method, with a recorded signature. -/
  base_defines : ∀ e ∈ handledFirst ++ handledSecond,
    (definesOf classes "LinearOperator").contains e.2 = true ∧ (methodSig "LinearOperator" e.2).isSome = true
  /-- 5. **Every override** of a registered method, in whatever class, has the parameter list of the base-class definition and
  takes `alpha` exactly if that does. -/
  overrides_compatible : ∀ r ∈ classes, r.1 ≠ "LinearOperator" →
    ∀ m ∈ r.2.2, m ∈ (handledFirst ++ handledSecond).map Prod.snd →
      methodSig r.1 m = methodSig "LinearOperator" m ∧
        acceptsAlpha genTables r.1 m = acceptsAlpha genTables "LinearOperator" m
  /-- 6. `add`, `sub`, `rmatmul`, the reflected dunder methods and `__torch_function__` are defined in `LinearOperator` only. -/
  reflected_not_overridden : ∀ c ∈ classes, c.1 ≠ "LinearOperator" →
    ∀ m ∈ ["add", "sub", "rmatmul", "__rmatmul__", "__radd__", "__rsub__", "__mul__", "__rmul__", "__torch_function__"],
      c.2.2.contains m = false

/-- Decidable because its six clauses are (the conjunction is inferred from the constructor). -/
instance : Decidable ClassesChecked :=
  decidable_of_iff (_ ∧ _ ∧ _ ∧ _ ∧ _ ∧ _)
    ⟨fun ⟨a, b, c, d, e, f⟩ => ⟨a, b, c, d, e, f⟩, fun ⟨a, b, c, d, e, f⟩ => ⟨a, b, c, d, e, f⟩⟩

/-- The clauses are evaluated together: the kernel re-encodes a string literal at every comparison and shares nothing across
declarations, and every clause needs the linearisations and compares the same class and method names. -/
theorem generated_classes_checked : ClassesChecked := by
  decide +kernel

/-- On an operator class `getattr(cls, m)` finds, for a registered `m`, a definition that dispatch cannot tell from the
base-class one: it is the base-class definition or an override (`resolve_spec`), and overrides were checked. -/
theorem resolve_generated {c m : String} (hc : c ∈ operatorClasses) (hm : m ∈ (handledFirst ++ handledSecond).map Prod.snd) :
    ∃ d, resolve classes c m = some d ∧ methodSig d m = methodSig "LinearOperator" m ∧
      acceptsAlpha genTables d m = acceptsAlpha genTables "LinearOperator" m := by
  obtain ⟨e, he, rfl⟩ := List.mem_map.1 hm
  refine resolve_of_definers (generated_classes_checked.inherits_base c hc) (generated_classes_checked.base_defines e he).1
    fun r hr hmr => ?_
  by_cases h : r.1 = "LinearOperator"
  · rw [h]; exact ⟨rfl, rfl⟩
  · exact generated_classes_checked.overrides_compatible r hr h e.2 hmr hm

theorem handlerSig_generated {c m : String} (hc : c ∈ operatorClasses)
    (hm : m ∈ (handledFirst ++ handledSecond).map Prod.snd) : handlerSig c m = methodSig "LinearOperator" m := by
  obtain ⟨d, hd, hs, -⟩ := resolve_generated hc hm
  rw [handlerSig, hd, Option.bind_some, hs]

theorem linearOperator_mem : "LinearOperator" ∈ operatorClasses := List.mem_cons_self

/-- An entry check on an operator class is the same check on `LinearOperator`. -/
theorem entryCheck_generated {tbl : List (String × String)} {P : Bool → BinFn → Meth → Bool} {c : String}
    (hc : c ∈ operatorClasses) {e : String × String} (he : e ∈ handledFirst ++ handledSecond) :
    entryCheck genTables tbl P c e = entryCheck genTables tbl P "LinearOperator" e := by
  obtain ⟨d, hd, -, ha⟩ := resolve_generated hc (List.mem_map_of_mem he)
  obtain ⟨d', hd', -, ha'⟩ := resolve_generated linearOperator_mem (List.mem_map_of_mem he)
  refine entryCheck_congr ?_
  change (resolve classes c e.2).map _ = (resolve classes "LinearOperator" e.2).map _
  rw [hd, hd', Option.map_some, Option.map_some, ha, ha']

/-- The registered functions whose handler signature is **not** `sigCompat` with torch's, each with its own statement in
`LinOp/Properties/C15.lean`: `torch.diagonal` (default dims, finding), `add`/`sub` (`alpha=None` means 1), `transpose` / `linalg.solve`
(parameter names differ: positional forms only, keyword forms raise `TypeError`), `permute` (`*dims`). -/
def forwardingExceptions : List String :=
  ["torch.diagonal", "torch.add", "torch.sub", "torch.Tensor.add", "torch.Tensor.sub", "torch.transpose", "torch.linalg.solve",
   "torch.permute"]

/-- The registered functions whose parameter names differ from the method's: (torch function, method, number of operands). -/
def renamedEntries : List (String × String × Nat) :=
  [("torch.transpose", "transpose", 1), ("torch.linalg.solve", "solve", 2)]

def renamedOK (c : String) (r : String × String × Nat) : Bool :=
  handledFirst.contains (r.1, r.2.1) &&
    match handlerSig c r.2.1, torchSig r.1 with
    | some sM, some (n, sT) => n == r.2.2 && Sig.simple (sM.drop n) && Sig.simple sT && onlyPositional (sM.drop n) sT
    | _, _ => false

/-- Parameters after the operand of `LinearOperator.diagonal` (today's handler of `torch.diagonal`) and of `torch.diagonal`. -/
def diagSigMethod : Sig := toSig [("offset", 0, some "0"), ("dim1", 0, some "-2"), ("dim2", 0, some "-1")]
def diagSigTorch : Sig := toSig [("offset", 0, some "0"), ("dim1", 0, some "0"), ("dim2", 0, some "1")]

/-- What is asked of the registrations `(f, m)` themselves, on the base class. -/
structure EntriesChecked : Prop where
  /-- 1. The two tables are functions. -/
  keys_nodup : (handledFirst.map Prod.fst).Nodup ∧ (handledSecond.map Prod.fst).Nodup
  /-- 2. `torch.isclose` is registered in both, as `isclose` and `_risclose`. -/
  isclose_registered : ("torch.isclose", "isclose") ∈ handledFirst ∧ ("torch.isclose", "_risclose") ∈ handledSecond
  /-- 3. The first-argument handlers of add / sub / mul / matmul are the direct ones, `add` / `sub` taking `alpha`. -/
  first_base : ∀ e ∈ handledFirst, (BinFn.ofName e.1).isSome = true → firstEntryOK genTables "LinearOperator" e = true
  /-- 4. The second-argument handlers (but `torch.isclose`, which has no order semantics in this layer) are correctly reflected
  and cannot return a wrong value when given `alpha`; those of add / sub take `alpha` and apply it to the operator operand. -/
  second_base : ∀ e ∈ handledSecond,
    (e.1 = "torch.isclose" ∨
      secondEntryOK genTables "LinearOperator" e = true ∧ secondEntryAlphaOK genTables "LinearOperator" e = true) ∧
    ((BinFn.ofName e.1 = some .add ∨ BinFn.ofName e.1 = some .sub) →
      secondEntryAlphaExact genTables "LinearOperator" e = true)
  /-- 5. Outside `forwardingExceptions` the handler's parameters after the operands are torch's. -/
  forwarding : ∀ e ∈ handledFirst ++ handledSecond, e.1 ∈ forwardingExceptions ∨ entryForwardOK e = true
  /-- 6. `transpose` / `solve` have no keyword form in common with torch. -/
  renamed_base : ∀ r ∈ renamedEntries, renamedOK "LinearOperator" r = true
  /-- 7. `transpose`'s two dims and torch's `dim0, dim1` are all required. -/
  transpose_required :
    (methodSig "LinearOperator" "transpose").map (fun s => (s.drop 1).map (·.dflt)) = some [none, none] ∧
      (torchSig "torch.transpose").map (fun s => (s.1, s.2.map (·.dflt))) = some (1, [none, none])
  /-- 8. `permute(self, *dims)`. -/
  permute_signature : methodSig "LinearOperator" "permute" = some [⟨"self", .pos, none⟩, ⟨"dims", .varPos, none⟩] ∧
    ("torch.permute", "permute") ∈ handledFirst
  /-- 9. `torch.diagonal`: torch's signature, and the handler's with today's or with torch's defaults. -/
  diagonal_signatures : torchSig "torch.diagonal" = some (1, diagSigTorch) ∧
    ∀ e ∈ handledFirst, e.1 = "torch.diagonal" →
      (methodSig "LinearOperator" e.2).map (·.drop 1) = some diagSigMethod ∨
      (methodSig "LinearOperator" e.2).map (·.drop 1) = some diagSigTorch

/-- Decidable because its nine clauses are. -/
instance : Decidable EntriesChecked :=
  decidable_of_iff (_ ∧ _ ∧ _ ∧ _ ∧ _ ∧ _ ∧ _ ∧ _ ∧ _)
    ⟨fun ⟨a, b, c, d, e, f, g, h, i⟩ => ⟨a, b, c, d, e, f, g, h, i⟩,
      fun ⟨a, b, c, d, e, f, g, h, i⟩ => ⟨a, b, c, d, e, f, g, h, i⟩⟩

/-- The clauses are evaluated together: the kernel re-encodes a string literal at every comparison and shares nothing across
declarations, and all nine compare the same ≈ 40 keys (`torch.…` names, method names) with one another. -/
theorem generated_entries_checked : EntriesChecked := by
  decide +kernel

theorem registered_of_mem_first {f m : String} (h : (f, m) ∈ handledFirst) :
    m ∈ (handledFirst ++ handledSecond).map Prod.snd :=
  List.mem_map.2 ⟨(f, m), List.mem_append_left _ h, rfl⟩

/-- `renamedOK` asks first that the entry is registered. -/
theorem registered_of_renamedOK {c : String} {r : String × String × Nat} (h : renamedOK c r = true) :
    r.2.1 ∈ (handledFirst ++ handledSecond).map Prod.snd :=
  registered_of_mem_first (f := r.1) (by simpa using (Bool.and_eq_true_iff.1 h).1)

end LinOp.C15
