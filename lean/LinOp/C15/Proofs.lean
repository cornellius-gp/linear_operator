import LinOp.C15.Model
/-! C15 (core Lean only): method resolution; which class's `__torch_function__` runs and what it calls (`dispatch`, `dispatchK`,
`dispatchKN` on one or two operators, unregistered functions, foreign types, operands by keyword); then the decidable checks
of a table entry against the handler it names (`secondEntryOK`, …, `firstEntryOK`) and their common shape `entryCheck`. -/
namespace LinOp.C15

/-! ### mro / isSubclass -/

theorem mroFuel_head (t : ClassTable) (fuel : Nat) (c : String) (l : List String)
    (h : mroFuel t fuel c = some l) : ∃ l', l = c :: l' := by
  cases fuel with
  | zero => simp [mroFuel] at h
  | succ fuel =>
    simp only [mroFuel] at h
    split at h
    · simp at h
    · split at h
      · simp at h
      · simp only [Option.map_eq_some_iff] at h
        obtain ⟨l', _, rfl⟩ := h
        exact ⟨l', rfl⟩

theorem isSubclass_self_of_mro (t : ClassTable) (c : String) (l : List String) (h : mro t c = some l) :
    isSubclass t c c = true := by
  obtain ⟨l', rfl⟩ := mroFuel_head t _ c l h
  simp [isSubclass, h]

theorem mro_isSome_of_resolve (t : ClassTable) (c m d : String) (h : resolve t c m = some d) :
    ∃ l, mro t c = some l := by
  unfold resolve at h
  cases hm : mro t c with
  | none => simp [hm] at h
  | some l => exact ⟨l, rfl⟩

/-- An instance of `c` is an instance of `c` (whenever `c` has a linearisation at all). -/
theorem isInstance_self_of_resolve {t : ClassTable} {c m d : String} (h : resolve t c m = some d) :
    isInstance t (.op c) c = true := by
  obtain ⟨l, hl⟩ := mro_isSome_of_resolve t c m d h
  exact isSubclass_self_of_mro t c l hl

/-- The class found by `resolve` is in the MRO and defines the name; nothing earlier in the MRO does. -/
theorem resolve_spec (t : ClassTable) (c m d : String) (h : resolve t c m = some d) :
    ∃ l, mro t c = some l ∧ d ∈ l ∧ (definesOf t d).contains m = true := by
  obtain ⟨l, hl⟩ := mro_isSome_of_resolve t c m d h
  refine ⟨l, hl, ?_⟩
  simp only [resolve, hl, Option.bind_some] at h
  exact ⟨List.mem_of_find?_eq_some h, by simpa using List.find?_some h⟩

/-- A name that `definesOf` lists for `k` stands in a row of the table for `k`. -/
theorem mem_of_definesOf {t : ClassTable} {k m : String} (h : (definesOf t k).contains m = true) :
    ∃ r ∈ t, r.1 = k ∧ m ∈ r.2.2 := by
  unfold definesOf at h
  cases hf : t.find? fun e => e.1 == k with
  | none => simp [hf] at h
  | some r =>
    rw [hf] at h
    exact ⟨r, List.mem_of_find?_eq_some hf, by simpa using List.find?_some hf, by simpa using h⟩

/-- `getattr(c, m)` on a subclass `c` of a class that defines `m` finds a class that defines `m`: what holds of every such
class holds of the one found. -/
theorem resolve_of_definers {t : ClassTable} {c b m : String} {Q : String → Prop} (hsub : isSubclass t c b = true)
    (hdef : (definesOf t b).contains m = true) (hQ : ∀ r ∈ t, m ∈ r.2.2 → Q r.1) : ∃ d, resolve t c m = some d ∧ Q d := by
  have hd : (resolve t c m).isSome = true := by
    unfold isSubclass at hsub
    unfold resolve
    cases hm : mro t c with
    | none => simp [hm] at hsub
    | some l =>
      rw [hm] at hsub
      exact List.find?_isSome.2 ⟨b, by simpa using hsub, hdef⟩
  obtain ⟨d, hd⟩ := Option.isSome_iff_exists.1 hd
  obtain ⟨-, -, -, hdd⟩ := resolve_spec _ _ _ _ hd
  obtain ⟨r, hr, rfl, hm⟩ := mem_of_definesOf hdd
  exact ⟨_, hd, hQ r hr hm⟩

/-! ### overloaded-argument collection -/

def Arg.plain : Arg → Bool
  | .tensor => true
  | .scalar => true
  | _ => false

theorem collect_plain (t : ClassTable) (acc : List OType) (a : Arg) (h : a.plain = true) :
    collect t acc a = acc := by
  cases a <;> simp_all [Arg.plain, collect, Arg.otype?]

theorem foldl_collect_plain (t : ClassTable) (rest : List Arg) (acc : List OType)
    (h : ∀ a ∈ rest, a.plain = true) : rest.foldl (collect t) acc = acc := by
  induction rest generalizing acc with
  | nil => rfl
  | cons a rest ih =>
    simp only [List.foldl_cons]
    rw [collect_plain t acc a (h a (by simp))]
    exact ih acc (fun b hb => h b (by simp [hb]))

theorem overloaded_op_plain (t : ClassTable) (c : String) (rest : List Arg) (h : ∀ a ∈ rest, a.plain = true) :
    overloaded t (.op c :: rest) = [.opc c] := by
  simp only [overloaded, List.foldl_cons]
  have : collect t [] (.op c) = [.opc c] := by simp [collect, Arg.otype?, insertBeforeSuper]
  rw [this]
  exact foldl_collect_plain t rest _ h

theorem overloaded_plain_op_plain (t : ClassTable) (a0 : Arg) (c : String) (rest : List Arg)
    (h0 : a0.plain = true) (h : ∀ a ∈ rest, a.plain = true) :
    overloaded t (a0 :: .op c :: rest) = [.opc c] := by
  simp only [overloaded, List.foldl_cons]
  rw [collect_plain t [] a0 h0]
  exact overloaded_op_plain t c rest h

theorem mem_insertBeforeSuper (t : ClassTable) (ty x : OType) (l : List OType) :
    x ∈ insertBeforeSuper t ty l ↔ x = ty ∨ x ∈ l := by
  induction l with
  | nil => simp [insertBeforeSuper]
  | cons o rest ih =>
    simp only [insertBeforeSuper]
    split
    · simp
    · simp only [List.mem_cons, ih, or_left_comm]

theorem mem_collect_of_mem (t : ClassTable) (acc : List OType) (a : Arg) (x : OType) (h : x ∈ acc) :
    x ∈ collect t acc a := by
  unfold collect
  split
  · exact h
  · split
    · exact h
    · exact (mem_insertBeforeSuper t _ x acc).2 (Or.inr h)

theorem mem_collect_self (t : ClassTable) (acc : List OType) (a : Arg) (ty : OType) (h : a.otype? = some ty) :
    ty ∈ collect t acc a := by
  unfold collect
  rw [h]
  simp only
  split
  · rename_i hc; simpa using hc
  · exact (mem_insertBeforeSuper t _ ty acc).2 (Or.inl rfl)

theorem mem_foldl_collect_of_mem (t : ClassTable) (args : List Arg) (acc : List OType) (x : OType) (h : x ∈ acc) :
    x ∈ args.foldl (collect t) acc := by
  induction args generalizing acc with
  | nil => exact h
  | cons a rest ih => exact ih _ (mem_collect_of_mem t acc a x h)

theorem mem_overloaded (t : ClassTable) (args : List Arg) (a : Arg) (ty : OType) (ha : a ∈ args)
    (h : a.otype? = some ty) : ty ∈ overloaded t args := by
  unfold overloaded
  suffices ∀ acc, ty ∈ args.foldl (collect t) acc from this []
  induction args with
  | nil => simp at ha
  | cons b rest ih =>
    intro acc
    simp only [List.foldl_cons]
    rcases List.mem_cons.1 ha with rfl | hr
    · exact mem_foldl_collect_of_mem t rest _ ty (mem_collect_self t acc a ty h)
    · exact ih hr _

theorem hasOp_of_mem (l : List OType) (c : String) (h : OType.opc c ∈ l) : hasOp l = true := by
  induction l with
  | nil => simp at h
  | cons o rest ih =>
    cases o with
    | opc d => rfl
    | _ => exact ih (by simpa using h)

/-- If every LinearOperator handler gives `r`, so does the handler loop (some operator is present). -/
theorem handlers_const {κ : Type} (T : Tables) (f : String) (types : List OType) (args : List Arg) (kw : κ)
    (r : Outcome κ) (ov : List OType) (hop : hasOp ov = true)
    (hall : ∀ c, torchFunction T c f types args kw = r) : handlers T f types args kw ov = r := by
  induction ov with
  | nil => simp [hasOp] at hop
  | cons o rest ih =>
    cases o with
    | opc c => exact hall c
    | _ => exact ih hop

theorem typesOK_false_of_mem (types : List OType) (h : OType.foreign ∈ types) : typesOK types = false := by
  simp only [typesOK, List.all_eq_false]
  exact ⟨.foreign, h, by simp⟩

theorem typesOK_single (c : String) : typesOK [.opc c] = true := by simp [typesOK]

theorem typesOK_pair (a b : String) : typesOK [.opc a, .opc b] = true := by simp [typesOK]

/-! ### the two paths of `__torch_function__` -/

theorem torchFunction_first {κ : Type} {T : Tables} {c f m d : String} (types : List OType) (rest : List Arg) (kw : κ)
    (a0 : Arg) (hinst : isInstance T.classes a0 c = true) (hty : typesOK types = true)
    (hf : T.first.lookup f = some m) (hr : resolve T.classes c m = some d) :
    torchFunction T c f types (a0 :: rest) kw = .call d m (a0 :: rest) false kw := by
  simp [torchFunction, hinst, hf, hty, hr]

theorem torchFunction_second {κ : Type} {T : Tables} {c f m d : String} (types : List OType) (rest : List Arg) (kw : κ)
    (a0 a1 : Arg) (hinst : isInstance T.classes a0 c = false) (hty : typesOK types = true)
    (hf : T.second.lookup f = some m) (hr : resolve T.classes c m = some d) :
    torchFunction T c f types (a0 :: a1 :: rest) kw = .call d m (a1 :: a0 :: rest) true kw := by
  simp [torchFunction, hinst, hf, hty, hr]

theorem torchFunction_unregistered {κ : Type} (T : Tables) (c f : String) (types : List OType) (args : List Arg) (kw : κ)
    (hne : args ≠ []) (h1 : T.first.lookup f = none) (h2 : T.second.lookup f = none) :
    torchFunction T c f types args kw = .notImplementedError := by
  cases args with
  | nil => exact absurd rfl hne
  | cons a0 rest =>
    simp only [torchFunction, h1, h2]
    split <;> rfl

theorem torchFunction_foreign {κ : Type} (T : Tables) (c f : String) (types : List OType) (args : List Arg) (kw : κ)
    (hne : args ≠ []) (hty : typesOK types = false) :
    torchFunction T c f types args kw = .notImplementedError := by
  cases args with
  | nil => exact absurd rfl hne
  | cons a0 rest =>
    simp only [torchFunction, hty]
    split
    · split <;> simp
    · split <;> simp

theorem isInstance_plain (t : ClassTable) (a : Arg) (c : String) (h : a.plain = true) : isInstance t a c = false := by
  cases a <;> simp_all [Arg.plain, isInstance]

/-! ### two overloaded arguments -/

theorem overloaded_op_op (t : ClassTable) (a b : String) :
    overloaded t [.op a, .op b] =
      if a = b then [.opc a] else if isSubclass t b a then [.opc b, .opc a] else [.opc a, .opc b] := by
  simp only [overloaded, List.foldl_cons, List.foldl_nil]
  have h1 : collect t [] (.op a) = [.opc a] := by simp [collect, Arg.otype?, insertBeforeSuper]
  rw [h1]
  by_cases hab : a = b
  · subst hab; simp [collect, Arg.otype?]
  · have hne : (OType.opc a == OType.opc b) = false := by simpa using hab
    simp only [collect, Arg.otype?, List.contains_cons, List.contains_nil, Bool.or_false, hab, if_false]
    have : (OType.opc b == OType.opc a) = false := by simpa using fun h => hab h.symm
    simp only [this, insertBeforeSuper, OType.isSub]
    by_cases hs : isSubclass t b a = true <;> simp [hs]

/-- A Tensor-subclass instance keeps its place in front of the operator. -/
theorem overloaded_tsub_op (t : ClassTable) (c : String) : overloaded t [.tsub, .op c] = [.tsub, .opc c] := by
  simp [overloaded, collect, Arg.otype?, insertBeforeSuper, OType.isSub]

/-! ### dispatch: one operator -/

theorem dispatch_op_first {κ : Type} {T : Tables} {c f m d : String} (rest : List Arg) (kw : κ)
    (hrest : ∀ a ∈ rest, a.plain = true)
    (hf : T.first.lookup f = some m) (hr : resolve T.classes c m = some d) :
    dispatch T f (.op c :: rest) kw = .call d m (.op c :: rest) false kw := by
  simp only [dispatch, overloaded_op_plain T.classes c rest hrest, hasOp, if_true, handlers]
  exact torchFunction_first _ rest kw (.op c)
    (isInstance_self_of_resolve hr) (typesOK_single c) hf hr

theorem dispatch_op_second {κ : Type} {T : Tables} {c f m d : String} (a0 : Arg) (rest : List Arg) (kw : κ)
    (h0 : a0.plain = true) (hrest : ∀ a ∈ rest, a.plain = true)
    (hf : T.second.lookup f = some m) (hr : resolve T.classes c m = some d) :
    dispatch T f (a0 :: .op c :: rest) kw = .call d m (.op c :: a0 :: rest) true kw := by
  simp only [dispatch, overloaded_plain_op_plain T.classes a0 c rest h0 hrest, hasOp, if_true, handlers]
  exact torchFunction_second _ rest kw a0 (.op c) (isInstance_plain T.classes a0 c h0) (typesOK_single c) hf hr

/-- A Tensor-subclass instance as the other operand: its handler returns `NotImplemented` and is skipped, the operator's class
takes the second-argument path. -/
theorem dispatch_tsub_op {κ : Type} {T : Tables} {c f m d : String} (kw : κ)
    (hf : T.second.lookup f = some m) (hr : resolve T.classes c m = some d) :
    dispatch T f [.tsub, .op c] kw = .call d m [.op c, .tsub] true kw := by
  simp only [dispatch, overloaded_tsub_op, hasOp, if_true, handlers]
  exact torchFunction_second _ [] kw .tsub (.op c) (by simp [isInstance]) (by simp [typesOK]) hf hr

/-! ### dispatch: two operators -/

/-- Left operand's class handles the call unless the right operand's class is a strict subclass. -/
theorem dispatch_op_op_left {κ : Type} {T : Tables} {a b f m d : String} (kw : κ)
    (h : a = b ∨ isSubclass T.classes b a = false)
    (hf : T.first.lookup f = some m) (hr : resolve T.classes a m = some d) :
    dispatch T f [.op a, .op b] kw = .call d m [.op a, .op b] false kw := by
  have hinst := isInstance_self_of_resolve hr
  simp only [dispatch, overloaded_op_op]
  by_cases hab : a = b
  · subst hab
    simp only [if_true, hasOp, handlers]
    exact torchFunction_first _ _ kw (.op a) hinst (typesOK_single a) hf hr
  · have hs := h.resolve_left hab
    simp only [hab, if_false, hs, Bool.false_eq_true, hasOp, if_true, handlers]
    exact torchFunction_first _ _ kw (.op a) hinst (typesOK_pair a b) hf hr

/-- If the right operand's class is a strict subclass of the left operand's class, *its*
`__torch_function__` runs first, finds `args[0]` not to be an instance, and takes the second-argument path. -/
theorem dispatch_op_op_sub {κ : Type} {T : Tables} {a b f m d : String} (kw : κ)
    (hne : a ≠ b) (hsub : isSubclass T.classes b a = true) (hnot : isSubclass T.classes a b = false)
    (hf : T.second.lookup f = some m) (hr : resolve T.classes b m = some d) :
    dispatch T f [.op a, .op b] kw = .call d m [.op b, .op a] true kw := by
  simp only [dispatch, overloaded_op_op, hne, if_false, hsub, if_true, hasOp, handlers]
  exact torchFunction_second _ [] kw (.op a) (.op b) (by simpa [isInstance] using hnot)
    (typesOK_pair b a) hf hr

/-! ### dispatch: foreign types -/

theorem dispatch_foreign {κ : Type} (T : Tables) (f : String) (args : List Arg) (kw : κ) (c : String)
    (hc : Arg.op c ∈ args) (hf : Arg.foreign ∈ args) :
    dispatch T f args kw = .notImplementedError := by
  have hne : args ≠ [] := by intro h; simp [h] at hc
  have hop : hasOp (overloaded T.classes args) = true :=
    hasOp_of_mem _ c (mem_overloaded T.classes args (.op c) (.opc c) hc rfl)
  have hty : typesOK (overloaded T.classes args) = false :=
    typesOK_false_of_mem _ (mem_overloaded T.classes args .foreign .foreign hf rfl)
  simp only [dispatch, hop, if_true]
  exact handlers_const T f _ args kw _ _ hop (fun c' => torchFunction_foreign T c' f _ args kw hne hty)

/-! ### operators passed by keyword -/

theorem dispatchK_nil {κ : Type} (T : Tables) (f : String) (args : List Arg) (kw : κ) :
    dispatchK T f args [] kw = dispatch T f args kw := by
  simp [dispatchK, dispatch]

/-- `torch.f(x, other=op)`: the operator is found among the keyword arguments, its class handles the call,
`args[0]` is not an instance, the second-argument path evaluates `args[1]` of a 1-tuple: `IndexError`
(for a registered function; `NotImplementedError` otherwise). -/
theorem dispatchK_operator_by_keyword {κ : Type} (T : Tables) (c f m d : String) (a0 : Arg) (kw : κ)
    (h0 : a0.plain = true) (hf : T.second.lookup f = some m) (hr : resolve T.classes c m = some d) :
    dispatchK T f [a0] [.op c] kw = .indexError := by
  have hov : overloaded T.classes ([a0] ++ [.op c]) = [.opc c] :=
    overloaded_plain_op_plain T.classes a0 c [] h0 (by simp)
  simp only [dispatchK, hov, hasOp, if_true, handlers]
  simp [torchFunction, isInstance_plain T.classes a0 c h0, hf, typesOK_single, hr]

/-- `torch.f(op, other=x)`: first-argument path with the 1-tuple `(op,)`; `other` travels in kwargs. -/
theorem dispatchK_other_by_keyword {κ : Type} (T : Tables) (c f m d : String) (kwops : List Arg) (kw : κ)
    (hk : ∀ a ∈ kwops, a.plain = true) (hf : T.first.lookup f = some m) (hr : resolve T.classes c m = some d) :
    dispatchK T f [.op c] kwops kw = .call d m [.op c] false kw := by
  have hov : overloaded T.classes ([.op c] ++ kwops) = [.opc c] := overloaded_op_plain T.classes c kwops hk
  simp only [dispatchK, hov, hasOp, if_true, handlers]
  exact torchFunction_first _ [] kw (.op c)
    (isInstance_self_of_resolve hr) (typesOK_single c) hf hr

/-- An unregistered function raises `NotImplementedError` also when torch finds the operator somewhere else than among the
top-level positional arguments (inside a list / tuple argument as in `torch.cat([op, T])`, or passed by keyword). -/
theorem dispatchK_unregistered {κ : Type} (T : Tables) (f : String) (args kwops : List Arg) (kw : κ) (c : String)
    (hc : Arg.op c ∈ args ++ kwops) (hne : args ≠ []) (h1 : T.first.lookup f = none) (h2 : T.second.lookup f = none) :
    dispatchK T f args kwops kw = .notImplementedError := by
  have hop : hasOp (overloaded T.classes (args ++ kwops)) = true :=
    hasOp_of_mem _ c (mem_overloaded T.classes (args ++ kwops) (.op c) (.opc c) hc rfl)
  simp only [dispatchK, hop, if_true]
  exact handlers_const T f _ args kw _ _ hop (fun c' => torchFunction_unregistered T c' f _ args kw hne h1 h2)

/-- … in particular when it is among the positional arguments. -/
theorem dispatch_unregistered {κ : Type} (T : Tables) (f : String) (args : List Arg) (kw : κ) (c : String)
    (hc : Arg.op c ∈ args) (h1 : T.first.lookup f = none) (h2 : T.second.lookup f = none) :
    dispatch T f args kw = .notImplementedError := by
  rw [← dispatchK_nil]
  exact dispatchK_unregistered T f args [] kw c (by simpa using hc) (List.ne_nil_of_mem hc) h1 h2

theorem dispatchKN_false {κ : Type} (T : Tables) (f : String) (args kwops : List Arg) (kw : κ) :
    dispatchKN false T f args kwops kw = dispatchK T f args kwops kw := by
  simp [dispatchKN, dispatchK]

/-- With keyword operands normalised, `torch.f(x, other=op)` is the second-argument call `m(op, x)`. -/
theorem dispatchKN_operator_by_keyword {κ : Type} (T : Tables) (c f m d : String) (a0 : Arg) (kw : κ)
    (h0 : a0.plain = true) (hf : T.second.lookup f = some m) (hr : resolve T.classes c m = some d) :
    dispatchKN true T f [a0] [.op c] kw = .call d m [.op c, a0] true kw := by
  have hov : overloaded T.classes ([a0] ++ [.op c]) = [.opc c] :=
    overloaded_plain_op_plain T.classes a0 c [] h0 (by simp)
  simp only [dispatchKN, hov, hasOp, if_true, handlers]
  exact torchFunction_second _ [] kw a0 (.op c) (isInstance_plain T.classes a0 c h0) (typesOK_single c) hf hr

/-- kwargs reach the handler unchanged, on either path. -/
theorem torchFunction_kw {κ : Type} {T : Tables} {c f : String} {types : List OType} {args : List Arg} {kw : κ}
    {d m : String} {args' : List Arg} {sw : Bool} {kw' : κ}
    (h : torchFunction T c f types args kw = .call d m args' sw kw') : kw' = kw := by
  unfold torchFunction at h
  repeat' split at h
  all_goals first | (injection h with _ _ _ _ h5; exact h5.symm) | cases h

theorem handlers_kw {κ : Type} {T : Tables} {f : String} {types : List OType} {args : List Arg} {kw : κ}
    {ov : List OType} {d m : String} {args' : List Arg} {sw : Bool} {kw' : κ}
    (h : handlers T f types args kw ov = .call d m args' sw kw') : kw' = kw := by
  induction ov with
  | nil => simp [handlers] at h
  | cons o rest ih =>
    cases o with
    | opc c => exact torchFunction_kw h
    | _ => exact ih h

/-! ### table-level soundness predicates (decidable; evaluated on the generated tables) -/

/-- Handler `m` called as `m(op, T)` computes `f(T, op)` (no alpha). -/
def reflectedOK (b : BinFn) (m : Meth) : Bool :=
  match b, m with
  | .add, .add | .add, .dadd | .add, .dradd => true
  | .sub, .drsub => true
  | .mul, .mul | .mul, .dmul | .mul, .drmul => true
  | .matmul, .rmatmul | .matmul, .drmatmul => true
  | _, _ => false

/-- Handler `m` called as `m(op, X)` computes `f(op, X)`. -/
def directOK (b : BinFn) (m : Meth) : Bool :=
  match b, m with
  | .add, .add | .add, .dadd | .add, .dradd => true
  | .sub, .sub | .sub, .dsub => true
  | .mul, .mul | .mul, .dmul | .mul, .drmul => true
  | .matmul, .matmul | .matmul, .dmatmul => true
  | _, _ => false

/-- With `alpha=a` the reflected handler either rejects the keyword or computes `f(T, op, alpha=a)`. -/
def reflectedAlphaOK (accepts : Bool) (b : BinFn) (m : Meth) : Bool :=
  !accepts || (match b, m with
    | .add, .dradd => true
    | .sub, .drsub => true
    | _, _ => false)

/-- With `alpha=a` the reflected handler accepts the keyword and computes `f(T, op, alpha=a)`. -/
def reflectedAlphaExact (accepts : Bool) (b : BinFn) (m : Meth) : Bool :=
  accepts && (match b, m with
    | .add, .dradd => true
    | .sub, .drsub => true
    | _, _ => false)

def directAlphaOK (accepts : Bool) (b : BinFn) (m : Meth) : Bool :=
  accepts && (match b, m with
    | .add, .add => true
    | .sub, .sub => true
    | _, _ => false)

def secondEntryOK (T : Tables) (c : String) (e : String × String) : Bool :=
  T.second.lookup e.1 == some e.2 &&
    (match resolve T.classes c e.2, BinFn.ofName e.1, Meth.ofName e.2 with
     | some _, some b, some m => reflectedOK b m
     | _, _, _ => false)

def secondEntryAlphaOK (T : Tables) (c : String) (e : String × String) : Bool :=
  T.second.lookup e.1 == some e.2 &&
    (match resolve T.classes c e.2, BinFn.ofName e.1, Meth.ofName e.2 with
     | some d, some b, some m => reflectedAlphaOK (acceptsAlpha T d e.2) b m
     | _, _, _ => false)

def secondEntryAlphaExact (T : Tables) (c : String) (e : String × String) : Bool :=
  T.second.lookup e.1 == some e.2 &&
    (match resolve T.classes c e.2, BinFn.ofName e.1, Meth.ofName e.2 with
     | some d, some b, some m => reflectedAlphaExact (acceptsAlpha T d e.2) b m
     | _, _, _ => false)

def firstEntryOK (T : Tables) (c : String) (e : String × String) : Bool :=
  T.first.lookup e.1 == some e.2 &&
    (match resolve T.classes c e.2, BinFn.ofName e.1, Meth.ofName e.2 with
     | some d, some b, some m =>
       directOK b m && (directAlphaOK (acceptsAlpha T d e.2) b m || b == .mul || b == .matmul)
     | _, _, _ => false)

/-! ### the common shape of the four entry checks -/

/-- `e` is registered in `tbl`, its method resolves on `c`, both names are known, and `P` accepts
(does the definition found take `alpha`?, the function, the method). -/
def entryCheck (T : Tables) (tbl : List (String × String)) (P : Bool → BinFn → Meth → Bool) (c : String)
    (e : String × String) : Bool :=
  tbl.lookup e.1 == some e.2 &&
    match (resolve T.classes c e.2).map (acceptsAlpha T · e.2), BinFn.ofName e.1, Meth.ofName e.2 with
    | some acc, some b, some m => P acc b m
    | _, _, _ => false

theorem entryCheck_iff {T : Tables} {tbl : List (String × String)} {P : Bool → BinFn → Meth → Bool} {c : String}
    {e : String × String} :
    entryCheck T tbl P c e = true ↔ tbl.lookup e.1 = some e.2 ∧ ∃ d b m, resolve T.classes c e.2 = some d ∧
      BinFn.ofName e.1 = some b ∧ Meth.ofName e.2 = some m ∧ P (acceptsAlpha T d e.2) b m = true := by
  unfold entryCheck
  cases resolve T.classes c e.2 <;> cases BinFn.ofName e.1 <;> cases Meth.ofName e.2 <;> simp

/-- The class enters an entry check only through the definition found and whether it takes `alpha`. -/
theorem entryCheck_congr {T : Tables} {tbl : List (String × String)} {P : Bool → BinFn → Meth → Bool} {c c' : String}
    {e : String × String}
    (h : (resolve T.classes c e.2).map (acceptsAlpha T · e.2) = (resolve T.classes c' e.2).map (acceptsAlpha T · e.2)) :
    entryCheck T tbl P c e = entryCheck T tbl P c' e := by
  unfold entryCheck
  rw [h]

theorem secondEntryOK_eq (T : Tables) (c : String) (e : String × String) :
    secondEntryOK T c e = entryCheck T T.second (fun _ => reflectedOK) c e := by
  unfold secondEntryOK entryCheck
  cases resolve T.classes c e.2 <;> cases BinFn.ofName e.1 <;> cases Meth.ofName e.2 <;> rfl

theorem secondEntryAlphaOK_eq (T : Tables) (c : String) (e : String × String) :
    secondEntryAlphaOK T c e = entryCheck T T.second reflectedAlphaOK c e := by
  unfold secondEntryAlphaOK entryCheck
  cases resolve T.classes c e.2 <;> cases BinFn.ofName e.1 <;> cases Meth.ofName e.2 <;> rfl

theorem secondEntryAlphaExact_eq (T : Tables) (c : String) (e : String × String) :
    secondEntryAlphaExact T c e = entryCheck T T.second reflectedAlphaExact c e := by
  unfold secondEntryAlphaExact entryCheck
  cases resolve T.classes c e.2 <;> cases BinFn.ofName e.1 <;> cases Meth.ofName e.2 <;> rfl

/-- What `firstEntryOK` asks of (does the definition take `alpha`?, function, method). -/
def firstOK (acc : Bool) (b : BinFn) (m : Meth) : Bool :=
  directOK b m && (directAlphaOK acc b m || b == .mul || b == .matmul)

theorem firstEntryOK_eq (T : Tables) (c : String) (e : String × String) :
    firstEntryOK T c e = entryCheck T T.first firstOK c e := by
  unfold firstEntryOK entryCheck
  cases resolve T.classes c e.2 <;> cases BinFn.ofName e.1 <;> cases Meth.ofName e.2 <;> rfl

theorem directOK_of_firstOK {acc : Bool} {b : BinFn} {m : Meth} (h : firstOK acc b m = true) : directOK b m = true :=
  (Bool.and_eq_true_iff.1 h).1

theorem directAlphaOK_of_firstOK {acc : Bool} {b : BinFn} {m : Meth} (h : firstOK acc b m = true)
    (hb : b = .add ∨ b = .sub) : directAlphaOK acc b m = true := by
  rcases hb with rfl | rfl <;> simp [firstOK] at h <;> exact h.2

end LinOp.C15
