import LinOp.C15.Proofs
import LinOp.C15.Rect
import LinOp.Core.Bridge
import Mathlib.Tactic.Ring
/-! C15 — meaning of the base-class two-operand methods versus the dense torch functions, over any
commutative ring (Mathlib for `ring` and `Finset.sum`). -/
namespace LinOp.C15

variable {α : Type} [CommRing α] {n : Nat}

theorem rmatmulR_eq {n k p : Nat} (A : Mat α k p) (X : Mat α n k) : rmatmulR A X = Mat.mul X A := by
  funext i j
  simp only [rmatmulR, Mat.transpose, Mat.mul, tab_eq, sumFin_eq_sum]
  exact Finset.sum_congr rfl fun l _ => mul_comm _ _

theorem rmatmul_eq (A X : Mat α n n) :
    Mat.transpose (Mat.mul (Mat.transpose A) (Mat.transpose X)) = Mat.mul X A :=
  rmatmulR_eq A X

/-! ### the bodies against `spec`

Each proof follows the cases of the table predicate: its accepted (function, method) pairs, and the rest where it is `false`. -/

/-- A handler that passes `reflectedOK`, called with swapped operands `(op, T)`, computes `f(T, op)`. -/
theorem methSem_reflected (acc : Bool) {b : BinFn} {m : Meth} (h : reflectedOK b m = true) (X A : Mat α n n) :
    methSem acc m A X none = spec b X A none := by
  unfold reflectedOK at h
  split at h <;> first
    | (refine congrArg Except.ok ?_  -- not `congr 1`: it tries `rfl` first, which unfolds the matrix products
       first | (funext i j; simp only [madd, smul, had]; ring) | exact rmatmul_eq A X)
    | cases h

/-- A handler that passes `directOK`, called as `(op, X)`, computes `f(op, X)`. -/
theorem methSem_direct (acc : Bool) {b : BinFn} {m : Meth} (h : directOK b m = true) (A X : Mat α n n) :
    methSem acc m A X none = spec b A X none := by
  unfold directOK at h
  split at h <;> first
    | rfl
    | (refine congrArg Except.ok (funext fun i => funext fun j => ?_); simp only [madd, smul]; ring)
    | cases h

theorem methSem_direct_alpha (acc : Bool) {b : BinFn} {m : Meth} (h : directAlphaOK acc b m = true) (A X : Mat α n n) (a : α) :
    methSem acc m A X (some a) = spec b A X (some a) := by
  unfold directAlphaOK at h
  cases acc
  · cases h
  split at h <;> first
    | rfl
    | (refine congrArg Except.ok (funext fun i => funext fun j => ?_); simp only [madd, smul]; ring)
    | cases h

theorem methSem_reflected_alpha_exact (acc : Bool) {b : BinFn} {m : Meth} (h : reflectedAlphaExact acc b m = true)
    (X A : Mat α n n) (a : α) : methSem acc m A X (some a) = spec b X A (some a) := by
  unfold reflectedAlphaExact at h
  cases acc
  · cases h
  split at h <;> first
    | (refine congrArg Except.ok (funext fun i => funext fun j => ?_); simp only [madd, smul]; ring)
    | cases h

/-- With `alpha=a` a reflected handler passing `reflectedAlphaOK` never returns a wrong value. -/
theorem methSem_reflected_alpha (acc : Bool) {b : BinFn} {m : Meth} (h : reflectedAlphaOK acc b m = true)
    (X A : Mat α n n) (a : α) :
    methSem acc m A X (some a) = spec b X A (some a) ∨ methSem acc m A X (some a) = .error .typeError := by
  cases acc
  · exact .inr rfl
  · exact .inl (methSem_reflected_alpha_exact true h X A a)

/-- Two results differ as soon as one entry does (for the counterexamples). -/
theorem ok_ne_of_entry {α ε : Type} {n k : Nat} {A B : Mat α n k} (i : Fin n) (j : Fin k) (h : A i j ≠ B i j) :
    (Except.ok A : Except ε (Mat α n k)) ≠ .ok B :=
  fun e => h (congrFun (congrFun (Except.ok.inj e) i) j)

/-! ### from a table-entry check to the meaning of the call -/

/-- `evalBinary` once `dispatch` is known: the method found, applied to the operands in the order `dispatch` hands them over. -/
theorem evalBinary_of_call {T : Tables} {f d m : String} {xa ya : Arg} {args : List Arg} {sw : Bool} {alpha : Option α}
    {mm : Meth} (hd : dispatch T f [xa, ya] alpha = .call d m args sw alpha) (hm : Meth.ofName m = some mm)
    (x y : Mat α n n) :
    evalBinary T f xa ya x y alpha =
      methSem (acceptsAlpha T d m) mm (bif sw then y else x) (bif sw then x else y) alpha := by
  simp only [evalBinary, hd, hm]
  cases sw <;> rfl

theorem evalBinary_second {T : Tables} {c : String} {e : String × String} (h : secondEntryOK T c e = true)
    (a0 : Arg) (h0 : a0.plain = true) (X A : Mat α n n) :
    ∃ b, BinFn.ofName e.1 = some b ∧ evalBinary T e.1 a0 (.op c) X A none = spec b X A none := by
  rw [secondEntryOK_eq, entryCheck_iff] at h
  obtain ⟨hl, d, b, m, hr, hb, hm, hP⟩ := h
  exact ⟨b, hb, (evalBinary_of_call (dispatch_op_second a0 [] none h0 (by simp) hl hr) hm X A).trans
    (methSem_reflected _ hP X A)⟩

theorem evalBinary_second_alpha_exact {T : Tables} {c : String} {e : String × String}
    (h : secondEntryAlphaExact T c e = true) (a0 : Arg) (h0 : a0.plain = true) (X A : Mat α n n) (a : α) :
    ∃ b, BinFn.ofName e.1 = some b ∧ evalBinary T e.1 a0 (.op c) X A (some a) = spec b X A (some a) := by
  rw [secondEntryAlphaExact_eq, entryCheck_iff] at h
  obtain ⟨hl, d, b, m, hr, hb, hm, hP⟩ := h
  exact ⟨b, hb, (evalBinary_of_call (dispatch_op_second a0 [] (some a) h0 (by simp) hl hr) hm X A).trans
    (methSem_reflected_alpha_exact _ hP X A a)⟩

theorem evalBinary_second_alpha {T : Tables} {c : String} {e : String × String} (h : secondEntryAlphaOK T c e = true)
    (a0 : Arg) (h0 : a0.plain = true) (X A : Mat α n n) (a : α) (b : BinFn) (hb : BinFn.ofName e.1 = some b) :
    evalBinary T e.1 a0 (.op c) X A (some a) = spec b X A (some a) ∨
      evalBinary T e.1 a0 (.op c) X A (some a) = .error .typeError := by
  rw [secondEntryAlphaOK_eq, entryCheck_iff] at h
  obtain ⟨hl, d, b', m, hr, hb'', hm, hP⟩ := h
  obtain rfl : b = b' := Option.some.inj (hb.symm.trans hb'')
  rw [evalBinary_of_call (dispatch_op_second a0 [] (some a) h0 (by simp) hl hr) hm X A]
  exact methSem_reflected_alpha _ hP X A a

theorem evalBinary_first {T : Tables} {c : String} {e : String × String} (h : firstEntryOK T c e = true)
    (a1 : Arg) (h1 : a1.plain = true) (A X : Mat α n n) :
    ∃ b, BinFn.ofName e.1 = some b ∧ evalBinary T e.1 (.op c) a1 A X none = spec b A X none ∧
      ((b = .add ∨ b = .sub) → ∀ a : α, evalBinary T e.1 (.op c) a1 A X (some a) = spec b A X (some a)) := by
  rw [firstEntryOK_eq, entryCheck_iff] at h
  obtain ⟨hl, d, b, m, hr, hb, hm, hP⟩ := h
  have hd (alpha : Option α) := dispatch_op_first [a1] alpha (by simpa using h1) hl hr
  exact ⟨b, hb, (evalBinary_of_call (hd none) hm A X).trans (methSem_direct _ (directOK_of_firstOK hP) A X),
    fun hbb a => (evalBinary_of_call (hd (some a)) hm A X).trans
      (methSem_direct_alpha _ (directAlphaOK_of_firstOK hP hbb) A X a)⟩

/-- Two operators, the right one of a strict subclass of the left one's class: second-argument path. -/
theorem evalBinary_op_op_sub {T : Tables} {a b : String} {e : String × String} (h : secondEntryOK T b e = true)
    (hne : a ≠ b) (hsub : isSubclass T.classes b a = true) (hnot : isSubclass T.classes a b = false)
    (X Y : Mat α n n) :
    ∃ f, BinFn.ofName e.1 = some f ∧ evalBinary T e.1 (.op a) (.op b) X Y none = spec f X Y none := by
  rw [secondEntryOK_eq, entryCheck_iff] at h
  obtain ⟨hl, d, f, m, hr, hf, hm, hP⟩ := h
  exact ⟨f, hf, (evalBinary_of_call (dispatch_op_op_sub none hne hsub hnot hl hr) hm X Y).trans
    (methSem_reflected _ hP X Y)⟩

/-- Two operators otherwise: the left operand's class handles the call on the first-argument path. -/
theorem evalBinary_op_op_left {T : Tables} {a b : String} {e : String × String} (h : firstEntryOK T a e = true)
    (hab : a = b ∨ isSubclass T.classes b a = false) (X Y : Mat α n n) :
    ∃ f, BinFn.ofName e.1 = some f ∧ evalBinary T e.1 (.op a) (.op b) X Y none = spec f X Y none := by
  rw [firstEntryOK_eq, entryCheck_iff] at h
  obtain ⟨hl, d, f, m, hr, hf, hm, hP⟩ := h
  exact ⟨f, hf, (evalBinary_of_call (dispatch_op_op_left none hab hl hr) hm X Y).trans
    (methSem_direct _ (directOK_of_firstOK hP) X Y)⟩

end LinOp.C15
