import LinOp.C15.Bind
/-! Helper lemmas for the argument-forwarding model (`bind`), core Lean only. -/
namespace LinOp.C15

theorem lookup_tailmap (tail : Sig) (kw : Env) (q : String) :
    (tail.map fun p => (p.name, p.fill kw)).lookup q = (tail.find? fun p => p.name == q).map (·.fill kw) := by
  induction tail with
  | nil => rfl
  | cons p ps ih =>
    by_cases h : p.name = q
    · subst h; simp
    · have h1 : (q == p.name) = false := by simpa using fun h' => h h'.symm
      have h2 : (p.name == q) = false := by simpa using h
      simp only [List.map_cons, List.lookup_cons, List.find?_cons, h1, h2]
      exact ih

/-- A chain `if c then raise e else …` succeeds only if `c` fails. -/
theorem error_else_eq_ok {ε α : Type} {c : Prop} [Decidable c] {e : ε} {r : Except ε α} {v : α} :
    (if c then .error e else r) = .ok v ↔ ¬c ∧ r = .ok v := by
  split <;> simp [*]

/-- What a successful binding looks like. -/
theorem bind_ok {sig : Sig} {pos : List String} {kw env : Env} (h : bind sig pos kw = .ok env) :
    pos.length ≤ sig.length ∧ (∀ p ∈ sig.take pos.length, p.kind = .pos) ∧ (∀ e ∈ kw, e.1 ∈ sig.names) ∧
      (∀ e ∈ kw, e.1 ∉ (Sig.names (sig.take pos.length))) ∧
      (∀ p ∈ sig.drop pos.length, kw.lookup p.name = none → p.dflt ≠ none) ∧
      env = (Sig.names (sig.take pos.length)).zip pos ++ (sig.drop pos.length).map fun p => (p.name, p.fill kw) := by
  -- `bind` is four checks `if … then raise`, then the environment: each check failed
  simp only [bind, error_else_eq_ok, Except.ok.injEq] at h
  obtain ⟨h1, h2, h3, h4, rfl⟩ := h
  simp only [Bool.or_eq_true, decide_eq_true_eq, List.any_eq_true, bne_iff_ne, not_or, Nat.not_lt, not_exists, not_and,
    Decidable.not_not] at h1
  simp only [List.any_eq_true, Bool.not_eq_true', List.contains_eq_mem, decide_eq_false_iff_not, decide_eq_true_eq,
    not_exists, not_and, Decidable.not_not] at h2 h3
  simp only [List.any_eq_true, Bool.and_eq_true, Option.isNone_iff_eq_none, not_exists, not_and] at h4
  exact ⟨h1.1, h1.2, h2, h3, fun p hp hk => h4 p hp hk, rfl⟩

theorem zip_lookup_none_of_not_mem (ns vs : List String) (q : String) (h : q ∉ ns) : (ns.zip vs).lookup q = none := by
  rw [List.lookup_eq_none_iff]
  intro p hp
  have : p.1 ∈ ns := (List.of_mem_zip (a := p.1) (b := p.2) (by simpa using hp)).1
  simpa using fun h' : q = p.1 => h (h' ▸ this)

theorem zip_lookup_isSome_of_mem (ns vs : List String) (q : String) (hl : ns.length ≤ vs.length) (h : q ∈ ns) :
    ((ns.zip vs).lookup q).isSome = true := by
  rw [List.lookup_isSome_iff]
  have hm : (ns.zip vs).map Prod.fst = ns := List.map_fst_zip hl
  rw [← hm] at h
  obtain ⟨p, hp, rfl⟩ := List.mem_map.1 h
  exact ⟨p, hp, by simp⟩

theorem find?_eq_drop_of_not_mem_take (sig : Sig) (k : Nat) (q : String) (h : q ∉ (Sig.names (sig.take k))) :
    (sig.find? fun p => p.name == q) = ((sig.drop k).find? fun p => p.name == q) := by
  conv => lhs; rw [← List.take_append_drop k sig]
  rw [List.find?_append]
  have : ((sig.take k).find? fun p => p.name == q) = none := by
    rw [List.find?_eq_none]
    intro p hp hq
    exact h (List.mem_map.2 ⟨p, hp, by simpa using hq⟩)
  rw [this]
  rfl

/-- The value of parameter `q` after a successful binding. -/
theorem bind_lookup {sig : Sig} {pos : List String} {kw env : Env} (h : bind sig pos kw = .ok env) (q : String) :
    env.lookup q =
      if q ∈ (Sig.names (sig.take pos.length)) then ((Sig.names (sig.take pos.length)).zip pos).lookup q
      else (sig.find? fun p => p.name == q).map (·.fill kw) := by
  obtain ⟨hlen, _, _, _, _, rfl⟩ := bind_ok h
  rw [List.lookup_append]
  split
  · rename_i hq
    have hl : (Sig.names (sig.take pos.length)).length ≤ pos.length := by
      simp only [Sig.names, List.length_map, List.length_take]; omega
    have := zip_lookup_isSome_of_mem _ pos q hl hq
    obtain ⟨v, hv⟩ := Option.isSome_iff_exists.1 this
    simp [hv]
  · rename_i hq
    rw [zip_lookup_none_of_not_mem _ pos q hq, lookup_tailmap, find?_eq_drop_of_not_mem_take sig pos.length q hq]
    rfl

theorem take_names_of_prefix (sigM sigT : Sig) (k : Nat) (hk : k ≤ sigM.length)
    (hp : sigM.names.isPrefixOf sigT.names = true) : (Sig.names (sigT.take k)) = (Sig.names (sigM.take k)) := by
  rw [List.isPrefixOf_iff_prefix] at hp
  obtain ⟨r, hr⟩ := hp
  simp only [Sig.names] at hr ⊢
  rw [List.map_take, List.map_take, ← hr, List.take_append_of_le_length (by simpa using hk)]

theorem mem_names_of_prefix (sigM sigT : Sig) (q : String) (hp : sigM.names.isPrefixOf sigT.names = true)
    (hq : q ∈ sigM.names) : q ∈ sigT.names := by
  rw [List.isPrefixOf_iff_prefix] at hp
  obtain ⟨r, hr⟩ := hp
  rw [← hr]
  exact List.mem_append_left _ hq

theorem find?_name_of_mem (sig : Sig) (q : String) (hq : q ∈ sig.names) :
    ∃ p, (sig.find? fun p => p.name == q) = some p ∧ p.name = q ∧ p ∈ sig := by
  obtain ⟨p0, hp0, hn⟩ := List.mem_map.1 hq
  have : ((sig.find? fun p => p.name == q)).isSome = true := by
    rw [List.find?_isSome]
    exact ⟨p0, hp0, by simpa using hn⟩
  obtain ⟨p, hp⟩ := Option.isSome_iff_exists.1 this
  exact ⟨p, hp, by simpa using List.find?_some hp, List.mem_of_find?_eq_some hp⟩

/-- **Forwarding agrees with torch's own binding.**  If the method's signature is compatible with torch's for the
parameters the call does not supply (`sigCompatGiven`, `given` ⊆ supplied), then every parameter of the method receives
exactly the value torch's binding of the same call gives to the parameter of that name. -/
theorem bind_agree {sigM sigT : Sig} {pos : List String} {kw envM envT : Env} {given : List String}
    (hc : sigCompatGiven given sigM sigT = true)
    (hg : ∀ g ∈ given, g ∈ (Sig.names (sigM.take pos.length)) ∨ (kw.lookup g).isSome = true)
    (hM : bind sigM pos kw = .ok envM) (hT : bind sigT pos kw = .ok envT) (q : String) (hq : q ∈ sigM.names) :
    envM.lookup q = envT.lookup q := by
  simp only [sigCompatGiven, Bool.and_eq_true, List.all_eq_true, Bool.or_eq_true] at hc
  obtain ⟨hpre, hd⟩ := hc
  obtain ⟨hlenM, _, _, _, hmiss, _⟩ := bind_ok hM
  rw [bind_lookup hM q, bind_lookup hT q, take_names_of_prefix sigM sigT pos.length hlenM hpre]
  split
  · rfl
  · rename_i hnh
    obtain ⟨pM, hfM, hnM, hmemM⟩ := find?_name_of_mem sigM q hq
    obtain ⟨pT, hfT, hnT, _⟩ := find?_name_of_mem sigT q (mem_names_of_prefix sigM sigT q hpre hq)
    rw [hfM, hfT]
    simp only [Option.map_some, Option.some.injEq, Param.fill, hnM, hnT]
    cases hk : kw.lookup q with
    | some v => rfl
    | none =>
      simp only [Option.getD_none]
      have hin : pM ∈ sigM.drop pos.length := by
        have h2 := find?_eq_drop_of_not_mem_take sigM pos.length q hnh
        rw [hfM] at h2
        exact List.mem_of_find?_eq_some h2.symm
      rcases hd pM hmemM with (h | h) | h
      · exact absurd (by simpa using h) (hmiss pM hin (by rw [hnM]; exact hk))
      · have hgq := hg q (by simpa [hnM] using h)
        rcases hgq with h' | h'
        · exact absurd h' hnh
        · simp [hk] at h'
      · have h' : sigT.dflt pM.name = pM.dflt := by simpa using h
        rw [hnM, Sig.dflt, hfT] at h'
        simp only [Option.bind_some] at h'
        rw [h']

theorem sigCompatGiven_of_sigCompat {sigM sigT : Sig} (h : sigCompat sigM sigT = true) (given : List String) :
    sigCompatGiven given sigM sigT = true := by
  simp only [sigCompat, sigCompatGiven, Bool.and_eq_true, List.all_eq_true, Bool.or_eq_true] at h ⊢
  refine ⟨h.1, fun p hp => ?_⟩
  rcases h.2 p hp with h' | h'
  · exact Or.inl (Or.inl h')
  · exact Or.inr h'

/-- A torch parameter the method does not have cannot have been supplied by a call the method accepts, so torch's
binding leaves it at its default: the forwarding drops nothing silently. -/
theorem bind_rest_default {sigM sigT : Sig} {pos : List String} {kw envM envT : Env}
    (hpre : sigM.names.isPrefixOf sigT.names = true)
    (hM : bind sigM pos kw = .ok envM) (hT : bind sigT pos kw = .ok envT) (q : String) (hq : q ∉ sigM.names) :
    envT.lookup q = (sigT.find? fun p => p.name == q).map fun p => p.dflt.getD "" := by
  obtain ⟨hlenM, _, hkwM, _, _, _⟩ := bind_ok hM
  rw [bind_lookup hT q, take_names_of_prefix sigM sigT pos.length hlenM hpre]
  have hnh : q ∉ Sig.names (sigM.take pos.length) := by
    intro h
    apply hq
    simp only [Sig.names] at h ⊢
    obtain ⟨p, hp, hn⟩ := List.mem_map.1 h
    exact List.mem_map.2 ⟨p, List.mem_of_mem_take hp, hn⟩
  rw [if_neg hnh]
  have hk : kw.lookup q = none := by
    rw [List.lookup_eq_none_iff]
    intro e he
    simpa using fun h : q = e.1 => hq (h ▸ hkwM e he)
  cases hf : (sigT.find? fun p => p.name == q) with
  | none => rfl
  | some p =>
    have : p.name = q := by simpa using List.find?_some hf
    simp [Param.fill, this, hk]

/-- Whether a call binds, and with which error, depends on the positional values only through their number. -/
theorem bind_of_length_eq {sig : Sig} {pos pos' : List String} {kw : Env} (hl : pos'.length = pos.length) :
    bind sig pos' kw = (bind sig pos kw).map fun _ =>
      (Sig.names (sig.take pos.length)).zip pos' ++ (sig.drop pos.length).map fun p => (p.name, p.fill kw) := by
  unfold bind
  simp only [hl, apply_ite (Except.map _)]
  rfl

/-- Swapping the first two positional values (what the second-argument path of `__torch_function__` does) changes the
values of the first two parameters and nothing else. -/
theorem bind_swap {sig : Sig} {a b : String} {rest : List String} {kw env : Env}
    (h : bind sig (a :: b :: rest) kw = .ok env) :
    ∃ n1 n2 tl, env = (n1, a) :: (n2, b) :: tl ∧ bind sig (b :: a :: rest) kw = .ok ((n1, b) :: (n2, a) :: tl) := by
  obtain ⟨hlen, _, _, _, _, rfl⟩ := bind_ok h
  rw [bind_of_length_eq (pos := a :: b :: rest) (pos' := b :: a :: rest) rfl, h]
  match sig, hlen with
  | p1 :: p2 :: sig', _ => exact ⟨p1.name, p2.name, _, rfl, rfl⟩

/-- Nothing supplied is dropped: a successful binding uses every positional value and every keyword. -/
theorem bind_uses_everything {sig : Sig} {pos : List String} {kw env : Env} (h : bind sig pos kw = .ok env) :
    pos.length ≤ sig.length ∧ (∀ e ∈ kw, e.1 ∈ sig.names) ∧ env.map Prod.fst = sig.names := by
  obtain ⟨hlen, _, hkw, _, _, rfl⟩ := bind_ok h
  refine ⟨hlen, hkw, ?_⟩
  have hl : (Sig.names (sig.take pos.length)).length ≤ pos.length := by
    simp only [Sig.names, List.length_map, List.length_take]; omega
  rw [List.map_append, List.map_fst_zip hl]
  simp only [Sig.names, List.map_map]
  have : (Prod.fst ∘ fun p : Param => (p.name, p.fill kw)) = fun x : Param => x.name := rfl
  rw [this, ← List.map_append, List.take_append_drop]

end LinOp.C15
