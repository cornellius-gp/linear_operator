import LinOp.C15.ProofsBind
/-!
C15 — argument forwarding when the parameter **names differ** between torch and the method
(`torch.transpose(input, dim0, dim1)` → `transpose(self, dim1, dim2)`, `torch.linalg.solve(A, B, *, left=True)` →
`solve(self, right_tensor, left_tensor=None)`, `torch.permute(input, dims)` → `permute(self, *dims)`).

The call `torch.f(op, *pos, **kw)` is bound by torch against `sigT` and — because `__torch_function__` forwards it unchanged —
by Python against the method's `sigM`.  A keyword can only survive **both** bindings if its name is a parameter of both
signatures that neither side already filled positionally (`kwUsable`); every required parameter that was not filled
positionally must be such a keyword.  `onlyPositional` checks, for every possible number of positional values, that this
is impossible unless there are no keywords at all: then every call form that both sides accept is purely positional, and
positional values land by *position* (`bind_positional_values`), so equal position-wise defaults give equal values.
Core Lean only.
-/
namespace LinOp.C15

/-- Names a keyword may have if both signatures are to accept a call with `npos` positional values. -/
def kwUsable (sigM sigT : Sig) (npos : Nat) : List String :=
  (Sig.names (sigM.drop npos)).filter fun k =>
    (Sig.names (sigT.drop npos)).contains k && !((Sig.names (sigT.take npos)).contains k)

/-- Names of the required parameters that `npos` positional values leave unfilled. -/
def reqAfter (sig : Sig) (npos : Nat) : List String := Sig.names ((sig.drop npos).filter fun p => p.dflt.isNone)

/-- With `npos` positional values: either no keyword is usable, or some required parameter of one side cannot be supplied. -/
def noKeywordForm (sigM sigT : Sig) (npos : Nat) : Bool :=
  (kwUsable sigM sigT npos).isEmpty ||
    !((reqAfter sigM npos).all fun k => (kwUsable sigM sigT npos).contains k) ||
    !((reqAfter sigT npos).all fun k => (kwUsable sigM sigT npos).contains k)

/-- Every call form that both signatures accept is purely positional. -/
def onlyPositional (sigM sigT : Sig) : Bool :=
  (List.range (sigM.length + 1)).all fun npos => noKeywordForm sigM sigT npos

theorem mem_names_drop_of_not_take (sig : Sig) (k : Nat) (q : String) (h : q ∈ sig.names)
    (hn : q ∉ Sig.names (sig.take k)) : q ∈ Sig.names (sig.drop k) := by
  have : sig.names = Sig.names (sig.take k) ++ Sig.names (sig.drop k) := by
    simp only [Sig.names, ← List.map_append, List.take_append_drop]
  rw [this] at h
  rcases List.mem_append.1 h with h | h
  · exact absurd h hn
  · exact h

/-- A keyword accepted by both bindings is in `kwUsable`. -/
theorem kw_mem_usable {sigM sigT : Sig} {pos : List String} {kw envM envT : Env}
    (hM : bind sigM pos kw = .ok envM) (hT : bind sigT pos kw = .ok envT) (e : String × String) (he : e ∈ kw) :
    e.1 ∈ kwUsable sigM sigT pos.length := by
  obtain ⟨_, _, hkM, hnM, _, _⟩ := bind_ok hM
  obtain ⟨_, _, hkT, hnT, _, _⟩ := bind_ok hT
  simp only [kwUsable, List.mem_filter, Bool.and_eq_true, List.contains_eq_mem, decide_eq_true_eq, Bool.not_eq_eq_eq_not,
    Bool.not_true, decide_eq_false_iff_not]
  exact ⟨mem_names_drop_of_not_take sigM _ _ (hkM e he) (hnM e he),
    mem_names_drop_of_not_take sigT _ _ (hkT e he) (hnT e he), hnT e he⟩

/-- A required parameter that was not filled positionally was supplied by keyword. -/
theorem req_mem_kw {sig : Sig} {pos : List String} {kw env : Env} (h : bind sig pos kw = .ok env) (q : String)
    (hq : q ∈ reqAfter sig pos.length) : ∃ e ∈ kw, e.1 = q := by
  obtain ⟨_, _, _, _, hreq, _⟩ := bind_ok h
  simp only [reqAfter, Sig.names, List.mem_map, List.mem_filter, Option.isNone_iff_eq_none] at hq
  obtain ⟨p, ⟨hp, hd⟩, rfl⟩ := hq
  refine Classical.byContradiction fun hne => ?_
  apply hreq p hp _ hd
  rw [List.lookup_eq_none_iff]
  intro e he
  have : ¬ e.1 = p.name := fun h' => hne ⟨e, he, h'⟩
  simpa using fun h' : p.name = e.1 => this h'.symm

/-- **Keyword forms never bind on both sides** when `onlyPositional` holds. -/
theorem onlyPositional_kw_nil {sigM sigT : Sig} (h : onlyPositional sigM sigT = true) {pos : List String} {kw envM envT : Env}
    (hM : bind sigM pos kw = .ok envM) (hT : bind sigT pos kw = .ok envT) : kw = [] := by
  have hlen := (bind_ok hM).1
  -- every required parameter left unfilled was supplied by a keyword, and that keyword is usable
  have hreq {sig : Sig} {env : Env} (hb : bind sig pos kw = .ok env) :
      ((reqAfter sig pos.length).all fun k => (kwUsable sigM sigT pos.length).contains k) = true := by
    simp only [List.all_eq_true, List.contains_eq_mem, decide_eq_true_eq]
    intro q hq
    obtain ⟨e, he, rfl⟩ := req_mem_kw hb q hq
    exact kw_mem_usable hM hT e he
  simp only [onlyPositional, List.all_eq_true, List.mem_range] at h
  have hn := h pos.length (by omega)
  simp only [noKeywordForm, hreq hM, hreq hT, Bool.not_true, Bool.or_false, List.isEmpty_iff] at hn
  cases kw with
  | nil => rfl
  | cons e tl => exact absurd (kw_mem_usable hM hT e List.mem_cons_self) (by simp [hn])

/-- A purely positional call: the values land by position, the rest take the defaults. -/
theorem bind_positional_values {sig : Sig} {pos : List String} {env : Env} (h : bind sig pos [] = .ok env) :
    pos.length ≤ sig.length ∧ env.map (·.2) = pos ++ (sig.drop pos.length).map fun p => p.dflt.getD "" := by
  obtain ⟨hlen, _, _, _, _, rfl⟩ := bind_ok h
  refine ⟨hlen, ?_⟩
  have hl : pos.length ≤ (Sig.names (sig.take pos.length)).length := by
    simp only [Sig.names, List.length_map, List.length_take]; omega
  rw [List.map_append, List.map_snd_zip hl, List.map_map]
  rfl

/-- A purely positional call against a signature without defaults supplies every parameter. -/
theorem bind_all_required {sig : Sig} {pos : List String} {env : Env} (hreq : ∀ p ∈ sig, p.dflt = none)
    (h : bind sig pos [] = .ok env) : pos.length = sig.length ∧ env.map (·.2) = pos := by
  obtain ⟨hle, hval⟩ := bind_positional_values h
  -- a parameter left over would be required and missing
  have hnil : sig.drop pos.length = [] := by
    cases hd : sig.drop pos.length with
    | nil => rfl
    | cons p tl =>
      have hp : p ∈ sig.drop pos.length := hd ▸ List.mem_cons_self
      exact absurd (hreq p (List.mem_of_mem_drop hp)) ((bind_ok h).2.2.2.2.1 p hp rfl)
  rw [hnil, List.map_nil, List.append_nil] at hval
  exact ⟨Nat.le_antisymm hle (List.drop_eq_nil_iff.1 hnil), hval⟩

/-- A keyword that is not a parameter name makes the binding fail (`TypeError: unexpected keyword argument`). -/
theorem bind_unknown_keyword_fails (sig : Sig) (pos : List String) (kw : Env) (e : String × String) (he : e ∈ kw)
    (hn : e.1 ∉ sig.names) : ∃ err, bind sig pos kw = .error err := by
  cases hb : bind sig pos kw with
  | error err => exact ⟨err, rfl⟩
  | ok env => exact absurd ((bind_ok hb).2.2.1 e he) hn

/-- A keyword naming a parameter that a positional value already filled makes the binding fail (`multiple values`). -/
theorem bind_duplicate_fails (sig : Sig) (pos : List String) (kw : Env) (e : String × String) (he : e ∈ kw)
    (hn : e.1 ∈ Sig.names (sig.take pos.length)) : ∃ err, bind sig pos kw = .error err := by
  cases hb : bind sig pos kw with
  | error err => exact ⟨err, rfl⟩
  | ok env => exact absurd hn ((bind_ok hb).2.2.2.1 e he)

end LinOp.C15
