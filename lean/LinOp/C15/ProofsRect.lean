import LinOp.C15.ProofsSem
import LinOp.Core.Bridge
import Mathlib.Tactic.Ring
import Mathlib.Algebra.Order.Ring.Abs
import Mathlib.Algebra.Order.Field.Basic
/-! C15 — rectangular operands, div, isclose (ordered field), sum bodies: helper lemmas. -/
namespace LinOp.C15

section Ring
variable {α : Type} [CommRing α] {n k p : Nat}

theorem methSemEW_reflected (acc : Bool) {b : BinFn} {m : Meth} (h : reflectedOK b m = true) (hb : b ≠ .matmul)
    (X A : Mat α n k) : methSemEW acc m A X none = specEW b X A none := by
  unfold reflectedOK at h
  split at h <;> first
    | (refine congrArg Except.ok (funext fun i => funext fun j => ?_); simp only [maddR, smulR, hadR]; ring)
    | exact absurd rfl hb
    | cases h

theorem methSemEW_direct (acc : Bool) {b : BinFn} {m : Meth} (h : directOK b m = true) (hb : b ≠ .matmul)
    (A X : Mat α n k) : methSemEW acc m A X none = specEW b A X none := by
  unfold directOK at h
  split at h <;> first
    | rfl
    | (refine congrArg Except.ok (funext fun i => funext fun j => ?_); simp only [maddR, smulR]; ring)
    | exact absurd rfl hb
    | cases h

theorem methSemEW_reflected_alpha_exact (acc : Bool) {b : BinFn} {m : Meth} (h : reflectedAlphaExact acc b m = true)
    (X A : Mat α n k) (a : α) : methSemEW acc m A X (some a) = specEW b X A (some a) := by
  unfold reflectedAlphaExact at h
  cases acc
  · cases h
  split at h <;> first
    | (refine congrArg Except.ok (funext fun i => funext fun j => ?_); simp only [maddR, smulR]; ring)
    | cases h

theorem methSemEW_direct_alpha (acc : Bool) {b : BinFn} {m : Meth} (h : directAlphaOK acc b m = true) (A X : Mat α n k) (a : α) :
    methSemEW acc m A X (some a) = specEW b A X (some a) := by
  unfold directAlphaOK at h
  cases acc
  · cases h
  split at h <;> first
    | rfl
    | (refine congrArg Except.ok (funext fun i => funext fun j => ?_); simp only [maddR, smulR]; ring)
    | cases h

/-- `alpha = 0`: `torch.add/sub(x, y, alpha=0)` is `x`. -/
theorem specEW_alpha_zero (b : BinFn) (hb : b = .add ∨ b = .sub) (X Y : Mat α n k) : specEW b X Y (some 0) = .ok X := by
  rcases hb with rfl | rfl <;> simp [specEW]

/-- `evalEW` once `dispatch` is known (as `evalBinary_of_call`). -/
theorem evalEW_of_call {T : Tables} {f d m : String} {xa ya : Arg} {args : List Arg} {sw : Bool} {alpha : Option α}
    {mm : Meth} (hd : dispatch T f [xa, ya] alpha = .call d m args sw alpha) (hm : Meth.ofName m = some mm)
    (x y : Mat α n k) :
    evalEW T f xa ya x y alpha =
      methSemEW (acceptsAlpha T d m) mm (bif sw then y else x) (bif sw then x else y) alpha := by
  simp only [evalEW, hd, hm]
  cases sw <;> rfl

/-- Operator first with `alpha`, rectangular operands. -/
theorem evalEW_first_alpha {T : Tables} {c : String} {e : String × String} (h : firstEntryOK T c e = true)
    (a1 : Arg) (h1 : a1.plain = true) (A X : Mat α n k) (a : α) (b : BinFn) (hb : BinFn.ofName e.1 = some b)
    (hbb : b = .add ∨ b = .sub) : evalEW T e.1 (.op c) a1 A X (some a) = specEW b A X (some a) := by
  rw [firstEntryOK_eq, entryCheck_iff] at h
  obtain ⟨hl, d, b', m, hr, hb', hm, hP⟩ := h
  obtain rfl : b = b' := Option.some.inj (hb.symm.trans hb')
  exact (evalEW_of_call (dispatch_op_first [a1] (some a) (by simpa using h1) hl hr) hm A X).trans
    (methSemEW_direct_alpha _ (directAlphaOK_of_firstOK hP hbb) A X a)

/-- Elementwise two-operand call with the operator second, rectangular operands. -/
theorem evalEW_second {T : Tables} {c : String} {e : String × String} (h : secondEntryOK T c e = true)
    (a0 : Arg) (h0 : a0.plain = true) (X A : Mat α n k) :
    ∃ b, BinFn.ofName e.1 = some b ∧ (b ≠ .matmul → evalEW T e.1 a0 (.op c) X A none = specEW b X A none) := by
  rw [secondEntryOK_eq, entryCheck_iff] at h
  obtain ⟨hl, d, b, m, hr, hb, hm, hP⟩ := h
  exact ⟨b, hb, fun hne => (evalEW_of_call (dispatch_op_second a0 [] none h0 (by simp) hl hr) hm X A).trans
    (methSemEW_reflected _ hP hne X A)⟩

theorem evalEW_second_alpha {T : Tables} {c : String} {e : String × String} (h : secondEntryAlphaExact T c e = true)
    (a0 : Arg) (h0 : a0.plain = true) (X A : Mat α n k) (a : α) :
    ∃ b, BinFn.ofName e.1 = some b ∧ evalEW T e.1 a0 (.op c) X A (some a) = specEW b X A (some a) := by
  rw [secondEntryAlphaExact_eq, entryCheck_iff] at h
  obtain ⟨hl, d, b, m, hr, hb, hm, hP⟩ := h
  exact ⟨b, hb, (evalEW_of_call (dispatch_op_second a0 [] (some a) h0 (by simp) hl hr) hm X A).trans
    (methSemEW_reflected_alpha_exact _ hP X A a)⟩

theorem evalEW_first {T : Tables} {c : String} {e : String × String} (h : firstEntryOK T c e = true)
    (a1 : Arg) (h1 : a1.plain = true) (A X : Mat α n k) :
    ∃ b, BinFn.ofName e.1 = some b ∧ (b ≠ .matmul → evalEW T e.1 (.op c) a1 A X none = specEW b A X none) := by
  rw [firstEntryOK_eq, entryCheck_iff] at h
  obtain ⟨hl, d, b, m, hr, hb, hm, hP⟩ := h
  exact ⟨b, hb, fun hne =>
    (evalEW_of_call (dispatch_op_first [a1] none (by simpa using h1) hl hr) hm A X).trans
      (methSemEW_direct _ (directOK_of_firstOK hP) hne A X)⟩

/-- Table check: the second-argument handler of a matmul-like function is `rmatmul` / `__rmatmul__` and resolves on `c`. -/
def secondMMOK (T : Tables) (c : String) (e : String × String) : Bool :=
  T.second.lookup e.1 == some e.2 && (resolve T.classes c e.2).isSome &&
    (Meth.ofName e.2 == some .rmatmul || Meth.ofName e.2 == some .drmatmul)

def firstMMOK (T : Tables) (c : String) (e : String × String) : Bool :=
  T.first.lookup e.1 == some e.2 && (resolve T.classes c e.2).isSome &&
    (Meth.ofName e.2 == some .matmul || Meth.ofName e.2 == some .dmatmul)

/-- For a matmul-like function the handlers that `reflectedOK` accepts are `rmatmul` / `__rmatmul__` … -/
theorem secondMMOK_of_secondEntryOK {T : Tables} {c : String} {e : String × String} (h : secondEntryOK T c e = true)
    (hb : BinFn.ofName e.1 = some .matmul) : secondMMOK T c e = true := by
  rw [secondEntryOK_eq, entryCheck_iff] at h
  obtain ⟨hl, d, b, m, hr, hb', hm, hP⟩ := h
  obtain rfl : BinFn.matmul = b := Option.some.inj (hb.symm.trans hb')
  cases m <;> first | exact absurd hP (by decide) | simp [secondMMOK, hl, hr, hm]

/-- … and those that `directOK` accepts are `matmul` / `__matmul__`. -/
theorem firstMMOK_of_firstEntryOK {T : Tables} {c : String} {e : String × String} (h : firstEntryOK T c e = true)
    (hb : BinFn.ofName e.1 = some .matmul) : firstMMOK T c e = true := by
  rw [firstEntryOK_eq, entryCheck_iff] at h
  obtain ⟨hl, d, b, m, hr, hb', hm, hP⟩ := h
  obtain rfl : BinFn.matmul = b := Option.some.inj (hb.symm.trans hb')
  have hP := directOK_of_firstOK hP
  cases m <;> first | exact absurd hP (by decide) | simp [firstMMOK, hl, hr, hm]

theorem evalMM_second {T : Tables} {c : String} {e : String × String} (h : secondMMOK T c e = true)
    (a0 : Arg) (h0 : a0.plain = true) (X : Mat α n k) (A : Mat α k p) :
    evalMM T e.1 a0 (.op c) X A = .ok (Mat.mul X A) := by
  simp only [secondMMOK, Bool.and_eq_true, beq_iff_eq, Bool.or_eq_true, Option.isSome_iff_exists] at h
  obtain ⟨⟨hl, d, hr⟩, hm⟩ := h
  simp only [evalMM, dispatch_op_second a0 [] () h0 (by simp) hl hr]
  rcases hm with hm | hm <;> simp only [hm, rmatmulR_eq]

theorem evalMM_first {T : Tables} {c : String} {e : String × String} (h : firstMMOK T c e = true)
    (a1 : Arg) (h1 : a1.plain = true) (A : Mat α n k) (X : Mat α k p) :
    evalMM T e.1 (.op c) a1 A X = .ok (Mat.mul A X) := by
  simp only [firstMMOK, Bool.and_eq_true, beq_iff_eq, Bool.or_eq_true, Option.isSome_iff_exists] at h
  obtain ⟨⟨hl, d, hr⟩, hm⟩ := h
  simp only [evalMM, dispatch_op_first [a1] () (by simpa using h1) hl hr]
  rcases hm with hm | hm <;> simp only [hm]

theorem sumCols_eq (A : Mat α n k) (i : Fin n) : sumCols A i = ∑ j, A i j := by
  simp only [sumCols, Mat.mul, tab_eq, sumFin_eq_sum, onesCol, mul_one]

theorem sumRows_eq (A : Mat α n k) (j : Fin k) : sumRows A j = ∑ i, A i j := by
  simp only [sumRows, Mat.mul, Mat.transpose, tab_eq, sumFin_eq_sum, onesCol, mul_one]

theorem sumAll_eq (A : Mat α n k) : sumAll A = ∑ i, ∑ j, A i j := by
  simp only [sumAll, sumFin_eq_sum, sumCols_eq]

end Ring

section Field
variable {α : Type} [Field α] {n k : Nat}

theorem divSem_eq (A : Mat α n k) (c : α) : divSem A c = fun i j => A i j / c := by
  funext i j; simp only [divSem, smulR]; ring

theorem divSemT_eq (A B : Mat α n k) : divSemT A B = fun i j => A i j / B i j := by
  funext i j; simp only [divSemT, hadR]; ring

end Field

/-! ### the argument normalisation of `sum(dim)` -/

theorem normDim_eq_emod (nd : Nat) (d : Int) (hlo : -(nd : Int) ≤ d) (hhi : d < nd) : normDim nd d = d % (nd : Int) := by
  unfold normDim
  split
  · have : d % (nd : Int) = (d + nd) % (nd : Int) := (Int.add_emod_right d nd).symm
    rw [this, Int.emod_eq_of_lt (by omega) (by omega)]; omega
  · exact (Int.emod_eq_of_lt (by omega) (by omega)).symm

theorem sumShape_eq_torch (sh : List Nat) (h2 : 2 ≤ sh.length) (d : Int) (hlo : -(sh.length : Int) ≤ d) :
    sumShape sh (some d) = torchSumShape sh (some d) := by
  by_cases hhi : d < sh.length
  · -- in range: whichever branch runs, it erases the normalised dim `m`
    obtain ⟨m, hm⟩ : ∃ m : Nat, normDim sh.length d = m :=
      ⟨(normDim sh.length d).toNat, by unfold normDim; split <;> omega⟩
    have hlt : m < sh.length := by unfold normDim at hm; split at hm <;> omega
    rw [torchSumShape, if_pos ⟨hlo, hhi⟩, ← normDim_eq_emod _ d hlo hhi, hm]
    simp only [sumShape, sumBranch, hm, Int.toNat_natCast]
    by_cases h1 : m = sh.length - 1
    · rw [if_pos (by omega), h1]
    by_cases h3 : m = sh.length - 2
    · rw [if_neg (by omega), if_pos (by omega), h3]
    · rw [if_neg (by omega), if_neg (by omega), if_pos (by omega), if_neg (by omega)]
  · -- `dim ≥ ndim`: both raise
    have hn : normDim sh.length d = d := if_neg (by omega)
    simp only [sumShape, sumBranch, torchSumShape, hn, hhi, and_false, if_false]
    rw [if_neg (by omega), if_neg (by omega)]

/-! ### `torch.isclose` over an ordered field -/

section Ordered
variable {α : Type} [Field α] [LinearOrder α] [IsStrictOrderedRing α]

theorem absv_eq_abs (x : α) : absv x = |x| := by
  unfold absv
  split
  · rename_i h; exact (abs_of_neg h).symm
  · rename_i h; exact (abs_of_nonneg (not_lt.1 h)).symm

theorem closeSpec_iff (rtol atol x y : α) : closeSpec rtol atol x y = true ↔ |x - y| ≤ atol + rtol * |y| := by
  simp only [closeSpec, decide_eq_true_eq, absv_eq_abs]

theorem closeSpec_symm_rtol_zero (atol x y : α) : closeSpec 0 atol x y = closeSpec 0 atol y x := by
  rw [Bool.eq_iff_iff, closeSpec_iff, closeSpec_iff, abs_sub_comm]
  simp

theorem closeSpec_mono (rtol rtol' atol atol' x y : α) (hr : rtol ≤ rtol') (ha : atol ≤ atol')
    (h : closeSpec rtol atol x y = true) : closeSpec rtol' atol' x y = true := by
  rw [closeSpec_iff] at h ⊢
  have := mul_le_mul_of_nonneg_right hr (abs_nonneg y)
  exact le_trans h (add_le_add ha this)

end Ordered

section CloseDispatch
variable {α : Type} [Add α] [Sub α] [Mul α] [Neg α] [Zero α] [LT α] [DecidableLT α] [LE α] [DecidableLE α] {n k : Nat}

/-- Operator second, handler `_risclose`: `torch.isclose(X, op)` is `isclose(X, A)`. -/
theorem evalClose_second (T : Tables) (c d : String) (hl : T.second.lookup "torch.isclose" = some "_risclose")
    (hr : resolve T.classes c "_risclose" = some d) (a0 : Arg) (h0 : a0.plain = true) (X A : Mat α n k) (rtol atol : α) :
    evalClose T a0 (.op c) X A rtol atol = .ok fun i j => closeSpec rtol atol (X i j) (A i j) := by
  simp only [evalClose, dispatch_op_second a0 [] () h0 (by simp) hl hr]
  simp

/-- Operator second, handler `isclose` itself (the registration before the fix): the operands are compared in the wrong order. -/
theorem evalClose_second_symmetric_registration (T : Tables) (c d : String) (hl : T.second.lookup "torch.isclose" = some "isclose")
    (hr : resolve T.classes c "isclose" = some d) (a0 : Arg) (h0 : a0.plain = true) (X A : Mat α n k) (rtol atol : α) :
    evalClose T a0 (.op c) X A rtol atol = .ok fun i j => closeSpec rtol atol (A i j) (X i j) := by
  simp only [evalClose, dispatch_op_second a0 [] () h0 (by simp) hl hr]
  simp

theorem evalClose_first (T : Tables) (c d : String) (hl : T.first.lookup "torch.isclose" = some "isclose")
    (hr : resolve T.classes c "isclose" = some d) (a1 : Arg) (h1 : a1.plain = true) (A X : Mat α n k) (rtol atol : α) :
    evalClose T (.op c) a1 A X rtol atol = .ok fun i j => closeSpec rtol atol (A i j) (X i j) := by
  simp only [evalClose, dispatch_op_first [a1] () (by simpa using h1) hl hr]
  simp

end CloseDispatch

end LinOp.C15
