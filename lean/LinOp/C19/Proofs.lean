import LinOp.C19.Model
/-! Equations of the C19 model on shapes written `A ++ [m, n]`, with the facts about broadcasting, `expand` and integer
indices that the property theorems use (core Lean only). -/
namespace LinOp.C19
open Spec Impl

theorem split2_append (A : List Nat) (m n : Nat) : split2 (A ++ [m, n]) = some (A, m, n) := by
  simp [split2]

theorem shape_cases1 (d : List Nat) : d = [] ∨ ∃ D k, d = D ++ [k] := by
  cases hd : d.reverse with
  | nil => exact .inl (List.reverse_eq_nil_iff.1 hd)
  | cons k r => exact .inr ⟨r.reverse, k, by rw [← List.reverse_reverse d, hd, List.reverse_cons]⟩

/-- every shape is `[]`, `[p]` or `B ++ [k, p]`. -/
theorem shape_cases (b : List Nat) : b = [] ∨ (∃ p, b = [p]) ∨ (∃ B k p, b = B ++ [k, p]) := by
  rcases shape_cases1 b with rfl | ⟨D, p, rfl⟩
  · exact .inl rfl
  · rcases shape_cases1 D with rfl | ⟨B, k, rfl⟩
    · exact .inr (.inl ⟨p, rfl⟩)
    · exact .inr (.inr ⟨B, k, p, by simp⟩)

/-- python `b[:-2]` and `b[-2:]` of `B ++ [k, p]` (Identity `_maybe_reshape_rhs`). -/
theorem take_append_two (B : List Nat) (k p : Nat) :
    (B ++ [k, p]).take ((B ++ [k, p]).length - 2) = B := by
  simp

theorem drop_append_two (B : List Nat) (k p : Nat) :
    (B ++ [k, p]).drop ((B ++ [k, p]).length - 2) = [k, p] := by
  simp

/-! ### Broadcasting -/

theorem bcastRev_nil_right (a : List Nat) : bcastRev a [] = some a := by
  cases a <;> rfl

theorem bcastRev_nil_left (a : List Nat) : bcastRev [] a = some a := by
  cases a <;> rfl

theorem broadcast_nil_right (A : List Nat) : broadcastShapes? A [] = some A := by
  simp [broadcastShapes?, bcastRev_nil_right]

theorem broadcast_nil_left (A : List Nat) : broadcastShapes? [] A = some A := by
  simp [broadcastShapes?, bcastRev_nil_left]

theorem bcastRev_comm : ∀ a b : List Nat, bcastRev a b = bcastRev b a
  | [], b => by rw [bcastRev_nil_left, bcastRev_nil_right]
  | a :: as, [] => by rw [bcastRev_nil_left, bcastRev_nil_right]
  | x :: a, y :: b => by
    have hc : (x = y ∨ x = 1 ∨ y = 1) ↔ (y = x ∨ y = 1 ∨ x = 1) := by rw [eq_comm, or_comm (a := x = 1)]
    -- where the sizes are compatible, "the one that is not 1" does not depend on the order
    have hh : (y = x ∨ y = 1 ∨ x = 1) → (if x = 1 then y else x) = if y = 1 then x else y := by
      by_cases hx : x = 1 <;> by_cases hy : y = 1 <;> simp [hx, hy, eq_comm (a := y)]
    simp only [bcastRev, bcastRev_comm a b, hc]
    split
    · rw [hh ‹_›]
    · rfl

theorem broadcast_comm (a b : List Nat) : broadcastShapes? a b = broadcastShapes? b a := by
  simp [broadcastShapes?, bcastRev_comm a.reverse b.reverse]

theorem bcastRev_self : ∀ a : List Nat, bcastRev a a = some a
  | [] => rfl
  | x :: a => by simp [bcastRev, bcastRev_self a]

theorem broadcast_self (a : List Nat) : broadcastShapes? a a = some a := by
  simp [broadcastShapes?, bcastRev_self]

/-- broadcasting two non-empty shapes: last dimensions by the size rule, the rest recursively. -/
theorem broadcast_append_last (A D : List Nat) (n k : Nat) :
    broadcastShapes? (A ++ [n]) (D ++ [k]) =
      if n = k ∨ n = 1 ∨ k = 1 then (broadcastShapes? A D).map (· ++ [if n = 1 then k else n]) else none := by
  simp only [broadcastShapes?, List.reverse_append, List.reverse_cons, List.reverse_nil, List.nil_append,
    List.cons_append, bcastRev]
  split
  · cases bcastRev A.reverse D.reverse <;> simp
  · rfl

theorem broadcast_append_same (A B : List Nat) (x : Nat) :
    broadcastShapes? (A ++ [x]) (B ++ [x]) = (broadcastShapes? A B).map (· ++ [x]) := by
  rw [broadcast_append_last, if_pos (.inl rfl), ite_self]

theorem broadcast_append_same2 (A B : List Nat) (x y : Nat) :
    broadcastShapes? (A ++ [x, y]) (B ++ [x, y]) = (broadcastShapes? A B).map (· ++ [x, y]) := by
  rw [List.append_cons A, List.append_cons B, broadcast_append_same, broadcast_append_same, Option.map_map]
  congr 1; funext s; simp

/-- two shapes that end in the same matrix row count and `1` / `p` columns -/
theorem broadcast_append_col (A B : List Nat) (n p : Nat) :
    broadcastShapes? (A ++ [n, 1]) (B ++ [n, p]) = (broadcastShapes? A B).map (· ++ [n, p]) := by
  rw [List.append_cons A, List.append_cons B, broadcast_append_last, if_pos (.inr (.inl rfl)), if_pos rfl,
    broadcast_append_same, Option.map_map]
  congr 1; funext s; simp

theorem broadcast_append_vec (A : List Nat) (n : Nat) :
    broadcastShapes? (A ++ [n]) [n] = some (A ++ [n]) :=
  (broadcast_append_same A [] n).trans (by rw [broadcast_nil_right]; rfl)

/-! ### `torch.matmul` and the base guard -/

/-- torch.matmul of two operands of rank ≥ 2. -/
theorem torch_mm_mat (A B : List Nat) (m k k' p : Nat) :
    torchMatmulShape? (A ++ [m, k]) (B ++ [k', p]) =
      if k = k' then (broadcastShapes? A B).map (· ++ [m, p]) else none := by
  have e1 : ¬ (A.length + 2 = 0 ∨ B.length + 2 = 0) := by omega
  have e2 : ¬ (A.length + 2 = 1) := by omega
  have e3 : ¬ (B.length + 2 = 1) := by omega
  simp only [torchMatmulShape?, List.length_append, List.length_cons, List.length_nil, Nat.zero_add,
    e1, e2, e3, if_false, split2_append]
  by_cases h : k = k'
  · simp [h]
  · simp [h]

/-- torch.matmul of a rank ≥ 2 operand with a vector. -/
theorem torch_mm_vec (A : List Nat) (m k p : Nat) :
    torchMatmulShape? (A ++ [m, k]) [p] = if k = p then some (A ++ [m]) else none := by
  have e1 : ¬ (A.length + 2 = 0 ∨ 1 = 0) := by omega
  have e2 : ¬ (A.length + 2 = 1) := by omega
  have hs : split2 [p, 1] = some ([], p, 1) := split2_append [] p 1
  simp only [torchMatmulShape?, List.length_append, List.length_cons, List.length_nil, Nat.zero_add,
    e1, e2, if_false, if_true, split2_append, List.cons_append, List.nil_append, hs, broadcast_nil_right]
  by_cases h : k = p
  · simp [h]
  · simp [h]

/-- torch.matmul of a vector with a rank ≥ 2 operand. -/
theorem torch_mm_lvec (A : List Nat) (p m n : Nat) :
    torchMatmulShape? [p] (A ++ [m, n]) = if p = m then some (A ++ [n]) else none := by
  have e1 : ¬ (1 = 0 ∨ A.length + 2 = 0) := by omega
  have e3 : ¬ (A.length + 2 = 1) := by omega
  have hs : split2 [1, p] = some ([], 1, p) := split2_append [] 1 p
  simp only [torchMatmulShape?, List.length_append, List.length_cons, List.length_nil, Nat.zero_add,
    e1, e3, if_false, if_true, split2_append, hs, broadcast_nil_left]
  by_cases h : p = m
  · simp [h]
  · simp [h]

theorem torch_mm_scalar (a : List Nat) : torchMatmulShape? a [] = none := by
  simp [torchMatmulShape?]

theorem inner_eq_of_torch_mm_mat {A B : List Nat} {m k k' p : Nat} {s : List Nat}
    (h : torchMatmulShape? (A ++ [m, k]) (B ++ [k', p]) = some s) : k = k' := by
  rw [torch_mm_mat] at h
  split at h
  · assumption
  · cases h

theorem of_torch_mm_vec {A : List Nat} {m k p : Nat} {s : List Nat}
    (h : torchMatmulShape? (A ++ [m, k]) [p] = some s) : k = p ∧ A ++ [m] = s := by
  rw [torch_mm_vec] at h
  split at h
  · exact ⟨‹_›, Option.some.inj h⟩
  · cases h

/-- the base guard is torch's verdict; only the exception differs (`IndexError` for a 0-d operand) -/
theorem matmulBroadcastShape_eq_torch (A : List Nat) (m n : Nat) (b : List Nat) :
    matmulBroadcastShape (A ++ [m, n]) b =
      match torchMatmulShape? (A ++ [m, n]) b with
      | some s => .ok s
      | none => .error (if b = [] then .index else .shape) := by
  rcases shape_cases b with rfl | ⟨p, rfl⟩ | ⟨B, k, p, rfl⟩
  · simp only [matmulBroadcastShape, split2_append, torch_mm_scalar, List.reverse_nil, if_true]
  · rw [torch_mm_vec]
    simp only [matmulBroadcastShape, split2_append, List.reverse_cons, List.reverse_nil, List.nil_append, ne_eq,
      ite_not, List.cons_ne_nil, if_false]
    split <;> rfl
  · rw [torch_mm_mat]
    simp only [matmulBroadcastShape, split2_append, List.reverse_append, List.reverse_cons, List.reverse_nil,
      List.nil_append, List.cons_append, List.reverse_reverse, ne_eq, ite_not, List.append_eq_nil_iff,
      List.cons_ne_nil, and_false, if_false]
    split
    · cases broadcastShapes? A B <;> rfl
    · rfl

/-- "guard first, then a shortcut" (the overrides of `matmul`): the guard decides acceptance, so the whole accepts exactly
what torch accepts as soon as the shortcut returns torch's shape on everything torch accepts. -/
theorem guarded_iff_torch (A : List Nat) (m n : Nat) (b : List Nat) (short : List Nat → Except Err (List Nat))
    (hc : ∀ s, torchMatmulShape? (A ++ [m, n]) b = some s → short s = .ok s) (s : List Nat) :
    (match matmulBroadcastShape (A ++ [m, n]) b with
      | .error e => (.error e : Except Err (List Nat))
      | .ok g => short g) = .ok s ↔ torchMatmulShape? (A ++ [m, n]) b = some s := by
  rw [matmulBroadcastShape_eq_torch]
  cases ht : torchMatmulShape? (A ++ [m, n]) b with
  | none => simp
  | some t => simp [hc t ht]

/-! ### Integer indices -/

theorem indexValid_iff (size : Nat) (i : Int) : indexValid size i = true ↔ -(size : Int) ≤ i ∧ i < size := by
  simp only [indexValid, Bool.and_eq_true, decide_eq_true_eq]

/-- the debug range check = torch's validity test, then python's normalisation of a negative index -/
theorem rangeCheck_eq (size : Nat) (i : Int) :
    rangeCheck size i =
      if indexValid size i then .ok (if 0 ≤ i then i else size + i).toNat else .error .index := by
  simp only [rangeCheck, indexValid_iff]
  by_cases h0 : 0 ≤ i <;> simp only [h0, if_true, if_false]
  · simp only [show (-(size : Int) ≤ i ∧ i < size) ↔ i < size by omega]
  · simp only [show (-(size : Int) ≤ i ∧ i < size) ↔ 0 ≤ (size : Int) + i by omega]

theorem of_rangeCheck_ok {size : Nat} {i : Int} {k : Nat} (h : rangeCheck size i = .ok k) :
    (-(size : Int) ≤ i ∧ i < size) ∧ k = (if 0 ≤ i then i else size + i).toNat := by
  rw [rangeCheck_eq] at h
  split at h
  · exact ⟨(indexValid_iff size i).1 ‹_›, (Except.ok.inj h).symm⟩
  · cases h

/-- the `slice(i, i+1)` that `__getitem__` substitutes for an int selects one row on `0 ≤ i < size` and on
`-size ≤ i < -1`, and none elsewhere (for `i = -1` the stop `0` lies before the start) -/
theorem intAsSliceLen_eq (size : Nat) (i : Int) :
    intAsSliceLen size i = if (0 ≤ i ∧ i < size) ∨ (-(size : Int) ≤ i ∧ i < -1) then 1 else 0 := by
  simp only [intAsSliceLen, sliceBound]
  -- three regions: `0 ≤ i` (start and stop are cut off at `size`), `i < -1` (both are cut off at 0), `i = -1`
  by_cases h0 : 0 ≤ i
  · rw [if_neg (Int.not_lt.2 (Int.le_add_one h0)), if_neg (Int.not_lt.2 h0)]
    by_cases h1 : i < size
    · rw [Int.min_eq_left (Int.add_one_le_of_lt h1), Int.min_eq_left (Int.le_of_lt h1), if_pos (.inl ⟨h0, h1⟩)]; omega
    · have h1' := Int.not_lt.1 h1
      rw [Int.min_eq_right (Int.le_add_one h1'), Int.min_eq_right h1', if_neg (by omega), Int.sub_self]; rfl
  · by_cases h1 : i + 1 < 0
    · rw [if_pos h1, if_pos (Int.lt_of_le_of_lt (Int.le_add_one (Int.le_refl i)) h1)]
      by_cases h2 : -(size : Int) ≤ i
      · rw [Int.max_eq_left (by omega), Int.max_eq_left (by omega), if_pos (.inr ⟨h2, by omega⟩)]; omega
      · rw [Int.max_eq_right (by omega), Int.max_eq_right (by omega), if_neg (by omega)]; rfl
    · rw [if_neg h1, if_pos (by omega), if_neg (by omega)]; omega

/-! ### `expand` -/

/-- the batch check of base `expand` = torch's expand rule (with `-1`), all ranks. -/
theorem expandBatchOkRev_iff_torch : ∀ (o : List Nat) (t : List Int),
    expandBatchOkRev o t = true ↔ (torchExpandRev o t).isSome = true
  | [], [] => by simp [expandBatchOkRev, torchExpandRev]
  | [], t :: ts => by
    have ih := expandBatchOkRev_iff_torch [] ts
    simp only [expandBatchOkRev, List.all_cons, Bool.and_eq_true, decide_eq_true_eq] at ih ⊢
    simp only [torchExpandRev, ih]
    by_cases h : t < 0
    · simp [h]; omega
    · simp [h]; omega
  | _ :: _, [] => by simp [expandBatchOkRev, torchExpandRev]
  | o :: os, t :: ts => by
    have ih := expandBatchOkRev_iff_torch os ts
    simp only [expandBatchOkRev, torchExpandRev, Bool.and_eq_true, Bool.or_eq_true, decide_eq_true_eq, ih]
    by_cases h1 : t = -1
    · simp [h1]
    · by_cases h2 : t < 0
      · simp [h1, h2]; omega
      · have h4 : 0 ≤ t := by omega
        simp only [h1, h2, h4, if_false, false_or, true_and, eq_comm (a := t)]
        split <;> simp [*]

/-- torch `expand` validity = "broadcasting the source into the target leaves the target unchanged". -/
theorem expandOkRev_iff_bcast : ∀ (s t : List Nat), expandOkRev s t = true ↔ bcastRev t s = some t
  | [], t => by simp [expandOkRev, bcastRev_nil_right]
  | x :: s, [] => by simp [expandOkRev, bcastRev]
  | x :: s, y :: t => by
    -- the head sizes are compatible and the broadcast keeps `y` exactly when `x` is `y` or 1
    have hd : (x = y ∨ x = 1) ↔ (y = x ∨ y = 1 ∨ x = 1) ∧ (if y = 1 then x else y) = y := by
      by_cases hy : y = 1 <;> simp [hy, eq_comm (a := x)]
    simp only [expandOkRev, Bool.and_eq_true, Bool.or_eq_true, decide_eq_true_eq, bcastRev, hd,
      expandOkRev_iff_bcast s t]
    split
    · cases bcastRev t s <;> simp [*]
    · simp [*]

theorem expandOk_iff_broadcast (s t : List Nat) : expandOk s t = true ↔ broadcastShapes? t s = some t := by
  simp only [expandOk, broadcastShapes?, expandOkRev_iff_bcast]
  constructor
  · intro h; simp [h]
  · intro h
    cases hb : bcastRev t.reverse s.reverse with
    | none => simp [hb] at h
    | some r =>
      simp only [hb, Option.map_some, Option.some.injEq] at h
      have : r = t.reverse := by rw [← h]; simp
      rw [this]

theorem expandOk_append_one (D A : List Nat) (k x : Nat) :
    expandOk (D ++ [k]) (A ++ [x]) = ((decide (k = x) || decide (k = 1)) && expandOk D A) := by
  simp [expandOk, expandOkRev]

theorem expandMatrixGuard_append (A : List Nat) (m n : Nat) (S : List Int) (r c : Int) :
    expandMatrixGuard (A ++ [m, n]) (S ++ [r, c]) =
      if (r = m ∧ c = n) ∨ (r = -1 ∧ c = -1) then .ok S else .error .shape := by
  simp only [expandMatrixGuard, split2_append, List.reverse_append, List.reverse_cons, List.reverse_nil,
    List.nil_append, List.cons_append, List.reverse_reverse]

/-- torch's `expand` with the matrix sizes spelt either way keeps the matrix dimensions and expands the batch part -/
theorem torchExpand_matrix (A : List Nat) (m n : Nat) (S : List Int) (r c : Int)
    (h : (r = m ∧ c = n) ∨ (r = -1 ∧ c = -1)) :
    torchExpand? (A ++ [m, n]) (S ++ [r, c]) =
      (torchExpandRev A.reverse S.reverse).map (fun l => l.reverse ++ [m, n]) := by
  have hn : ¬ ((n : Int) < 0) := by omega
  have hm : ¬ ((m : Int) < 0) := by omega
  have hn1 : ¬ ((n : Int) = -1) := by omega
  have hm1 : ¬ ((m : Int) = -1) := by omega
  simp only [torchExpand?, List.reverse_append, List.reverse_cons, List.reverse_nil, List.nil_append,
    List.cons_append, torchExpandRev]
  rcases h with ⟨rfl, rfl⟩ | ⟨rfl, rfl⟩
  · simp only [hn, hm, hn1, hm1, if_false, true_or, if_true, Int.toNat_natCast]
    cases torchExpandRev A.reverse S.reverse <;> simp
  · cases torchExpandRev A.reverse S.reverse <;> simp

theorem expandOkRev_length : ∀ s t : List Nat, expandOkRev s t = true → s.length ≤ t.length
  | [], _, _ => by simp
  | _ :: _, [], h => by simp [expandOkRev] at h
  | x :: s, y :: t, h => by
    simp only [expandOkRev, Bool.and_eq_true] at h
    have := expandOkRev_length s t h.2
    simp only [List.length_cons]; omega

theorem expandOk_long (d t : List Nat) (hl : t.length < d.length) : expandOk d t = false := by
  cases h : expandOk d t with
  | false => rfl
  | true => have := expandOkRev_length _ _ h; simp only [List.length_reverse] at this; omega

/-! ### Elementwise guards, `add_diagonal` -/

theorem mulGuard_ok_iff (a b s : List Nat) : mulGuard a b = .ok s ↔ broadcastShapes? a b = some s := by
  simp only [mulGuard]
  cases broadcastShapes? a b <;> simp

theorem addDiagonalShape_append (A D : List Nat) (n k : Nat) :
    addDiagonalShape? (A ++ [n, n]) (D ++ [k]) =
      if k = n ∨ k = 1 then (broadcastShapes? A D).map (· ++ [n, n]) else none := by
  simp [addDiagonalShape?, split2_append]

theorem addDiagonalShape_nil (A : List Nat) (n : Nat) :
    addDiagonalShape? (A ++ [n, n]) [] = some (A ++ [n, n]) := by
  simp [addDiagonalShape?, split2_append]

/-- the two branches of base `add_diagonal` (`expand(shape[:-1])` for a diagonal whose last dimension is not 1,
`expand(*batch, 1)` otherwise) accept the same diagonals: those that expand to `shape[:-1]`. -/
theorem addDiagonalGuard_eq (A : List Nat) (n : Nat) (d : List Nat) :
    addDiagonalGuard (A ++ [n, n]) d = if expandOk d (A ++ [n]) then .ok (A ++ [n, n]) else .error .shape := by
  rcases shape_cases1 d with rfl | ⟨D, k, rfl⟩
  · simp [addDiagonalGuard, split2_append, expandOk, expandOkRev]
  · simp only [addDiagonalGuard, split2_append, ne_eq, not_true_eq_false, if_false, List.reverse_append,
      List.reverse_cons, List.reverse_nil, List.nil_append, List.cons_append, expandOk_append_one]
    by_cases hk : k = 1 <;> simp [hk]

/-- base `add_diagonal` accepts exactly the diagonals for which torch's `dense + diag_embed(d)` has the operator's own shape,
and returns that shape. -/
theorem addDiagonalGuard_ok_iff (A : List Nat) (n : Nat) (d s : List Nat) :
    addDiagonalGuard (A ++ [n, n]) d = .ok s ↔
      A ++ [n, n] = s ∧ addDiagonalShape? (A ++ [n, n]) d = some (A ++ [n, n]) := by
  rw [addDiagonalGuard_eq]
  rcases shape_cases1 d with rfl | ⟨D, k, rfl⟩
  · simp [addDiagonalShape_nil, expandOk, expandOkRev]
  · -- both sides say: the last size of `d` is `n` or 1 and the rest of `d` broadcasts into `A` without changing it
    have hb := expandOk_iff_broadcast D A
    rw [addDiagonalShape_append, expandOk_append_one]
    by_cases hk : k = n ∨ k = 1
    · cases hA : broadcastShapes? A D with
      | none => simp_all
      | some v => by_cases hv : v = A <;> simp_all
    · simp_all

/-! ### Broadcasting as a relation -/

theorem eq_of_dimAt (s b : List Nat) (hl : s.length = b.length) (h : ∀ i, i < s.length → dimAt s i = dimAt b i) : s = b := by
  apply List.ext_getElem hl
  intro i h1 h2
  have := h i h1
  simpa [dimAt, List.getD_eq_getElem?_getD, h1, h2] using this

/-- nothing broadcasts against the empty shape but the shape itself -/
theorem broadcastRel_nil_left (b s : List Nat) : BroadcastRel [] b s ↔ s = b := by
  constructor
  · intro ⟨hl, h⟩
    exact eq_of_dimAt s b (by simpa using hl) fun i hi => (h i hi).2.trans (if_pos rfl)
  · rintro rfl
    exact ⟨by simp, fun i _ => ⟨.inr (.inl rfl), (if_pos rfl).symm⟩⟩

theorem broadcastRel_nil_right (a s : List Nat) : BroadcastRel a [] s ↔ s = a := by
  have key : ∀ i, (if dimAt a i = 1 then dimAt [] i else dimAt a i) = dimAt a i := fun i => by
    split
    · exact (‹dimAt a i = 1›).symm
    · rfl
  constructor
  · intro ⟨hl, h⟩
    exact eq_of_dimAt s a (by simpa using hl) fun i hi => (h i hi).2.trans (key i)
  · rintro rfl
    exact ⟨by simp, fun i _ => ⟨.inr (.inr rfl), (key i).symm⟩⟩

theorem broadcastRel_cons (x y : Nat) (a b s : List Nat) :
    BroadcastRel (x :: a) (y :: b) s ↔
      ∃ r, s = (if x = 1 then y else x) :: r ∧ (x = y ∨ x = 1 ∨ y = 1) ∧ BroadcastRel a b r := by
  constructor
  · intro ⟨hl, h⟩
    cases s with
    | nil => simp at hl
    | cons z r =>
      have h0 := h 0 (Nat.succ_pos _)
      exact ⟨r, congrArg (· :: r) h0.2, h0.1, Nat.succ.inj (hl.trans (Nat.succ_max_succ _ _)),
        fun i hi => h (i + 1) (Nat.succ_lt_succ hi)⟩
  · rintro ⟨r, rfl, hc, hl, h⟩
    refine ⟨(congrArg Nat.succ hl).trans (Nat.succ_max_succ _ _).symm, fun i hi => ?_⟩
    cases i with
    | zero => exact ⟨hc, rfl⟩
    | succ j => exact h j (Nat.lt_of_succ_lt_succ hi)

theorem bcastRev_rel : ∀ (a b s : List Nat), bcastRev a b = some s ↔ BroadcastRel a b s
  | [], b, s => by rw [bcastRev_nil_left, broadcastRel_nil_left, Option.some.injEq, eq_comm]
  | x :: a, [], s => by rw [bcastRev_nil_right, broadcastRel_nil_right, Option.some.injEq, eq_comm]
  | x :: a, y :: b, s => by
    rw [broadcastRel_cons, bcastRev]
    constructor
    · intro h
      split at h
      · cases hr : bcastRev a b with
        | none => rw [hr] at h; cases h
        | some r => rw [hr] at h; exact ⟨r, (Option.some.inj h).symm, ‹_›, (bcastRev_rel a b r).1 hr⟩
      · cases h
    · rintro ⟨r, rfl, hc, hr⟩
      rw [if_pos hc, (bcastRev_rel a b r).2 hr]; rfl

end LinOp.C19
