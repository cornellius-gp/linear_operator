import LinOp.C19.ExtModel
import LinOp.C19.Proofs
/-! C19 — the guards of `ExtModel.lean` against torch's verdict: the `add_diagonal` overrides, `rmatmul`, `add_low_rank`, the Cat
constructor and `cat_rows` (closed form on operands of the operator's rank), the index-count guard of `__getitem__`. -/
namespace LinOp.C19.Ext
open LinOp.C19 Spec Impl

theorem diagOpShape_append (A : List Nat) (n : Nat) : diagOpShape (A ++ [n]) = A ++ [n, n] := by
  simp [diagOpShape]

theorem diagAddDiagonal_iff_torch (A : List Nat) (n : Nat) (hn : n ≠ 1) (d s : List Nat) :
    diagAddDiagonal A n d = .ok s ↔ addDiagonalShape? (A ++ [n, n]) d = some s := by
  rcases shape_cases1 d with rfl | ⟨D, k, rfl⟩
  · simp [diagAddDiagonal, broadcast_nil_right, addDiagonalShape_nil, diagOpShape_append]
  · rw [addDiagonalShape_append, diagAddDiagonal, broadcast_append_last]
    simp only [hn, if_false, false_or, eq_comm (a := n)]
    by_cases h : k = n ∨ k = 1 <;> cases broadcastShapes? A D <;> simp [h, diagOpShape_append]

theorem kronAddDiagonal_iff_torch (A : List Nat) (n : Nat) (hn : n ≠ 1) (d s : List Nat) :
    kronAddDiagonal (A ++ [n, n]) d = .ok s ↔ addDiagonalShape? (A ++ [n, n]) d = some s := by
  rcases shape_cases1 d with rfl | ⟨D, k, rfl⟩
  · simp [kronAddDiagonal, split2_append, addDiagonalShape_nil]
  · rw [addDiagonalShape_append]
    simp only [kronAddDiagonal, split2_append, ne_eq, not_true_eq_false, if_false, List.reverse_append,
      List.reverse_cons, List.reverse_nil, List.nil_append, List.cons_append, List.reverse_reverse]
    by_cases h2 : k = 1
    · subst h2
      cases h : broadcastShapes? A D with
      | none => simp
      | some r => simp
    · have := diagAddDiagonal_iff_torch A n hn (D ++ [k]) s
      rw [addDiagonalShape_append] at this
      simp only [diagAddDiagonal] at this
      simp only [h2, if_false, or_false] at this ⊢
      exact this

theorem lowRankRootAddDiagonal_sound (A : List Nat) (n : Nat) (d s : List Nat)
    (h : lowRankRootAddDiagonal (A ++ [n, n]) d = .ok s) : addDiagonalShape? (A ++ [n, n]) d = some s := by
  rcases shape_cases1 d with rfl | ⟨D, k, rfl⟩
  · simp [lowRankRootAddDiagonal, split2_append] at h
    rw [← h, addDiagonalShape_nil]
  · simp only [lowRankRootAddDiagonal, split2_append, ne_eq, not_true_eq_false, if_false, List.reverse_append,
      List.reverse_cons, List.reverse_nil, List.nil_append, List.cons_append, List.reverse_reverse] at h
    by_cases h2 : k = 1
    · subst h2
      rw [addDiagonalShape_append]
      cases hb : broadcastShapes? A D with
      | none => simp [hb] at h
      | some r => simp [hb] at h; simp [h]
    · -- the non-constant branch is the base class's `expand`, i.e. the base guard
      rw [if_neg h2, ← addDiagonalGuard_eq] at h
      obtain ⟨rfl, h'⟩ := (addDiagonalGuard_ok_iff A n _ s).1 h
      exact h'

/-- Zero `add_diagonal` = the base-class guard for operators with at most one batch dimension. -/
theorem zeroAddDiagonal_eq_base (A : List Nat) (hA : A.length ≤ 1) (n : Nat) (d : List Nat) :
    zeroAddDiagonal (A ++ [n, n]) d = addDiagonalGuard (A ++ [n, n]) d := by
  rw [addDiagonalGuard_eq]
  -- a diagonal of rank ≤ rank `A` + 1: both sides by evaluation; a longer one cannot expand to `A ++ [n]`, and Zero refuses it too
  match A, hA, d with
  | [], _, [] | [], _, [k] | [b], _, [] | [b], _, [k] | [b], _, [j, k] =>
    simp [zeroAddDiagonal, split2, expandOk, expandOkRev, diagOpShape]
  | [], _, x :: y :: r => simp [zeroAddDiagonal, split2, expandOk_long (x :: y :: r) [n]]
  | [b], _, x :: y :: z :: r => simp [zeroAddDiagonal, split2, expandOk_long (x :: y :: z :: r) [b, n]]

theorem swapLast2_append (A : List Nat) (m n : Nat) : swapLast2 (A ++ [m, n]) = A ++ [n, m] := by
  simp [swapLast2, split2_append]

theorem rmatmulGuard_iff_torch (A : List Nat) (m n : Nat) (b s : List Nat) :
    rmatmulGuard (A ++ [m, n]) b = .ok s ↔ torchMatmulShape? b (A ++ [m, n]) = some s := by
  rcases shape_cases b with rfl | ⟨p, rfl⟩ | ⟨B, q, p, rfl⟩
  · simp [rmatmulGuard, torchMatmulShape?]
  · rw [torch_mm_lvec]
    by_cases h : m = p
    · subst h; simp [rmatmulGuard, swapLast2_append, matmulBroadcastShape, split2_append]
    · have h' : ¬ p = m := fun e => h e.symm
      simp [rmatmulGuard, swapLast2_append, matmulBroadcastShape, split2_append, h, h']
  · rw [torch_mm_mat]
    have hl : ¬ (B ++ [q, p]).length = 0 := by simp
    have hl1 : ¬ (B ++ [q, p]).length = 1 := by simp
    simp only [rmatmulGuard, hl, hl1, if_false, swapLast2_append, matmulBroadcastShape, split2_append,
      List.reverse_append, List.reverse_cons, List.reverse_nil, List.nil_append, List.cons_append,
      List.reverse_reverse]
    by_cases h : m = p
    · subst h
      rw [broadcast_comm B A]
      cases hb : broadcastShapes? A B with
      | none => simp
      | some r => simp [swapLast2_append]
    · have h' : ¬ p = m := fun e => h e.symm
      simp [h, h']

theorem addLowRank_iff_torch (a b s : List Nat) :
    addLowRank a b = .ok s ↔ addLowRankShape? a b = some s := by
  rcases shape_cases b with rfl | ⟨p, rfl⟩ | ⟨B, k, p, rfl⟩
  · simp [addLowRank, addLowRankShape?, split2]
  · simp [addLowRank, addLowRankShape?, split2]
  · have hl : ¬ (B ++ [k, p]).length < 2 := by simp
    simp only [addLowRank, addLowRankShape?, split2_append, hl, if_false, swapLast2_append, torch_mm_mat, if_true,
      broadcast_self, Option.map_some, Option.bind_some, mulGuard_ok_iff]

/-- the constructor's shape is torch.cat's shape whenever `_check_args` ran and passed -/
theorem catCtor_debug_iff (s0 s1 : List Nat) (rest : List (List Nat)) (dim : Nat) (hd : dim < s0.length) (s : List Nat) :
    catCtor true (s0 :: s1 :: rest) dim = .ok s ↔ catShape? (s0 :: s1 :: rest) dim = some s := by
  simp only [catCtor, catShape?, ge_iff_le, Nat.not_le.2 hd, if_false, catCheckArgs, if_true, catSize]
  cases (s1 :: rest).all fun s => s.length = s0.length && s.eraseIdx dim = s0.eraseIdx dim <;> simp

/-! in `A ++ l` the position `A.length + i` is position `i` of `l` -/

theorem eraseIdx_append_add (A l : List Nat) (i : Nat) : (A ++ l).eraseIdx (A.length + i) = A ++ l.eraseIdx i := by
  rw [List.eraseIdx_append_of_length_le (Nat.le_add_right _ _), Nat.add_sub_cancel_left]

theorem set_append_add (A l : List Nat) (i v : Nat) : (A ++ l).set (A.length + i) v = A ++ l.set i v := by
  rw [List.set_append_right _ _ (Nat.le_add_right _ _), Nat.add_sub_cancel_left]

theorem getD_append_add (A l : List Nat) (i : Nat) : (A ++ l).getD (A.length + i) 0 = l.getD i 0 := by
  rw [List.getD_eq_getElem?_getD, List.getElem?_append_right (Nat.le_add_right _ _), Nat.add_sub_cancel_left,
    List.getD_eq_getElem?_getD]

/-- Cat (debug on) of two operands `A ++ l`, `C ++ l'` with batch parts of equal rank, along dimension `i` of the trailing
part: the operands must agree in what is left when that dimension is deleted; the sizes along it add up. -/
theorem catCtor_pair (A C l l' : List Nat) (i : Nat) (hi : i < l.length) (hl : C.length = A.length) :
    catCtor true [A ++ l, C ++ l'] (A.length + i) =
      if l'.length = l.length ∧ C = A ∧ l'.eraseIdx i = l.eraseIdx i then
        .ok (A ++ l.set i (l.getD i 0 + l'.getD i 0))
      else .error .shape := by
  have h1 : ¬ A.length + i ≥ A.length + l.length := by omega
  have e2 := eraseIdx_append_add C l' i
  have g2 := getD_append_add C l' i
  rw [hl] at e2 g2
  have hc : (C ++ l'.eraseIdx i = A ++ l.eraseIdx i) ↔ (C = A ∧ l'.eraseIdx i = l.eraseIdx i) :=
    ⟨fun h => List.append_inj h hl, fun ⟨h, h'⟩ => by rw [h, h']⟩
  simp only [catCtor, h1, if_false, if_true, catCheckArgs, List.all_cons, List.all_nil, Bool.and_true, catSize,
    List.foldl_cons, List.foldl_nil, Nat.zero_add, eraseIdx_append_add, set_append_add, getD_append_add, e2, g2, hc,
    List.length_append, hl, Nat.add_left_cancel_iff, Bool.and_eq_true, decide_eq_true_eq]
  by_cases h : l'.length = l.length ∧ C = A ∧ l'.eraseIdx i = l.eraseIdx i
  · rw [if_pos h, if_pos h]
  · rw [if_neg h, if_neg h]

/-- Cat of two operands of equal rank along the row dimension -/
theorem catCtor_rows (A C : List Nat) (m n o n' : Nat) (hl : C.length = A.length) :
    catCtor true [A ++ [m, n], C ++ [o, n']] A.length =
      if C = A ∧ n' = n then .ok (A ++ [m + o, n]) else .error .shape := by
  have := catCtor_pair A C [m, n] [o, n'] 0 (Nat.succ_pos _) hl
  simpa using this

/-- Cat of two operands of equal rank along the column dimension -/
theorem catCtor_cols (A C : List Nat) (m n m' p : Nat) (hl : C.length = A.length) :
    catCtor true [A ++ [m, n], C ++ [m', p]] (A.length + 1) =
      if C = A ∧ m' = m then .ok (A ++ [m, n + p]) else .error .shape := by
  have := catCtor_pair A C [m, n] [m', p] 1 (Nat.lt_succ_self _) hl
  simpa using this

/-- `cat_rows` (before the `is_square` guard) on a square operator, cross / new matrices of the operator's rank: the three
concatenations pass exactly when `cross_mat` is `… o × n` and `new_mat` is `… o × o` over the operator's batch shape. -/
theorem catRowsUnguarded_same_rank (A C W : List Nat) (n o n' o1 o2 : Nat) (hC : C.length = A.length)
    (hW : W.length = A.length) :
    catRowsUnguarded (A ++ [n, n]) (C ++ [o, n']) (W ++ [o1, o2]) =
      if (C = A ∧ n' = n) ∧ (W = C ∧ o2 = o) ∧ o1 = o then .ok (A ++ [n + o, n + o]) else .error .shape := by
  have hlt : ¬ (A ++ [n, n]).length < (C ++ [o, n']).length := by simp [hC]
  have hr2 : (A ++ [n, n]).length - 2 = A.length := by simp
  have hr1 : (A ++ [n, n]).length - 1 = A.length + 1 := by simp
  simp only [catRowsUnguarded, split2_append, hlt, if_false, hr2, hr1, swapLast2_append, catCtor_rows A C n n o n' hC]
  by_cases h1 : C = A ∧ n' = n
  · obtain ⟨rfl, rfl⟩ := h1
    have hlo := catCtor_rows C W n' o o1 o2 (hW.trans hC.symm)
    rw [hC] at hlo
    simp only [and_self, if_true, true_and, hlo]
    by_cases h2 : W = C ∧ o2 = o
    · obtain ⟨rfl, rfl⟩ := h2
      simp only [and_self, if_true, true_and, catCtor_cols W W (n' + o2) n' (n' + o1) o2 rfl, Nat.add_left_cancel_iff]
    · simp only [h2, if_false, false_and]
  · simp only [h1, if_false, false_and]

/-- …hence exactly when the dense block matrix `[[A, Bᵀ], [B, D]]` exists for torch, with its shape. -/
theorem catRowsUnguarded_square_same_rank_iff (A C W : List Nat) (n o n' o1 o2 : Nat) (hC : C.length = A.length)
    (hW : W.length = A.length) (s : List Nat) :
    catRowsUnguarded (A ++ [n, n]) (C ++ [o, n']) (W ++ [o1, o2]) = .ok s ↔
      catRowsShape? (A ++ [n, n]) (C ++ [o, n']) (W ++ [o1, o2]) = some s := by
  have hlt : ¬ (A ++ [n, n]).length < (C ++ [o, n']).length := by simp [hC]
  have hcond : ((C = A ∧ n' = n) ∧ (W = C ∧ o2 = o) ∧ o1 = o) ↔ (n = n' ∧ o1 = o ∧ o2 = o ∧ n = n ∧ A = C ∧ C = W) := by
    constructor
    · rintro ⟨⟨rfl, rfl⟩, ⟨rfl, rfl⟩, rfl⟩; exact ⟨rfl, rfl, rfl, rfl, rfl, rfl⟩
    · rintro ⟨rfl, rfl, rfl, -, rfl, rfl⟩; exact ⟨⟨rfl, rfl⟩, ⟨rfl, rfl⟩, rfl⟩
  simp only [catRowsUnguarded_same_rank A C W n o n' o1 o2 hC hW, catRowsShape?, split2_append, hlt, if_false, hcond]
  split <;> simp

/-- guarded `cat_rows`, any (also rectangular) operator, cross / new matrices of the operator's rank -/
theorem catRows_same_rank_iff (A C W : List Nat) (m n o n' o1 o2 : Nat) (hC : C.length = A.length)
    (hW : W.length = A.length) (s : List Nat) :
    catRows (A ++ [m, n]) (C ++ [o, n']) (W ++ [o1, o2]) = .ok s ↔
      catRowsShape? (A ++ [m, n]) (C ++ [o, n']) (W ++ [o1, o2]) = some s := by
  by_cases h : m = n
  · subst h
    simp only [catRows, split2_append, ne_eq, not_true_eq_false, if_false]
    exact catRowsUnguarded_square_same_rank_iff A C W m o n' o1 o2 hC hW s
  · have hlt : ¬ (A ++ [m, n]).length < (C ++ [o, n']).length := by simp [hC]
    simp only [catRows, catRowsShape?, split2_append, ne_eq, h, not_false_eq_true, if_true, hlt, if_false]
    simp

theorem nonEllipsis_count : ∀ idx : List Idx, nonEllipsis idx + idx.count .ellipsis = idx.length
  | [] => rfl
  | x :: r => by
    have ih := nonEllipsis_count r
    cases x <;> simp [nonEllipsis, ← ih, Nat.add_right_comm, Nat.add_assoc]

theorem tooManyIndices_iff_torch (ndim : Nat) (idx : List Idx) (h : idx.count .ellipsis ≤ 1) :
    indexCountGuard ndim idx = .error .index ↔ tooManyIndices ndim idx = true := by
  have hf := nonEllipsis_count idx
  have hg : indexCountGuard ndim idx = .error .index ↔ ndim < expandedIndexLen ndim idx := by
    unfold indexCountGuard; split <;> simp [*]
  -- padding a tuple of length `a` up to `ndim` entries leaves more than `ndim` exactly when `a > ndim`
  have pad : ∀ a, ndim < a + (ndim - a) ↔ ndim < a := fun a => by omega
  simp only [hg, expandedIndexLen, tooManyIndices, decide_eq_true_eq, pad]
  split
  · rw [pad]; omega
  · omega

end LinOp.C19.Ext
