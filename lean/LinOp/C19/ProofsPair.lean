import LinOp.C19.Proofs
import LinOp.C19.PairModel
/-! Helper lemmas for the operator ⋆ operator shortcut models (LinOp/C19/PairModel.lean) and for the table obligations
(`List.lookup`, `findSome?` over an MRO). -/
namespace LinOp.C19
open Spec Impl

theorem blockDiagShape_append (B : List Nat) (nb k k' : Nat) :
    blockDiagShape (B ++ [nb, k, k']) = some (B ++ [nb * k, nb * k']) := by
  simp [blockDiagShape]

theorem torch_mm_self (A : List Nat) (n : Nat) :
    torchMatmulShape? (A ++ [n, n]) (A ++ [n, n]) = some (A ++ [n, n]) := by
  rw [torch_mm_mat, if_pos rfl, broadcast_self]; rfl

/-- the block-wise product of two block-diagonal operators with the same base shape `B ++ [nb, k, k]` -/
theorem blockDiagOfBaseProduct_self (B : List Nat) (nb k : Nat) :
    blockDiagOfBaseProduct (B ++ [nb, k, k]) (B ++ [nb, k, k]) = .ok (B ++ [nb * k, nb * k]) := by
  have hg : matmulBroadcastShape (B ++ [nb, k, k]) (B ++ [nb, k, k]) = .ok (B ++ [nb, k, k]) := by
    rw [List.append_cons B nb, matmulBroadcastShape_eq_torch, torch_mm_self]
  simp only [blockDiagOfBaseProduct, hg, blockDiagShape_append]

/-- the product of the two diagonals returns torch's shape on everything torch accepts for the dense matrices -/
theorem diagPairMatmulUnguarded_complete (A : List Nat) (n : Nat) (B : List Nat) (m : Nat) (s : List Nat)
    (h : torchMatmulShape? (A ++ [n, n]) (B ++ [m, m]) = some s) : diagPairMatmulUnguarded A n B m = .ok s := by
  cases inner_eq_of_torch_mm_mat h
  rw [torch_mm_mat, if_pos rfl] at h
  rw [diagPairMatmulUnguarded, broadcast_append_same]
  cases hb : broadcastShapes? A B with
  | none => rw [hb] at h; cases h
  | some bc => rw [hb] at h; cases h; simp

/-! ### Association tables -/

theorem lookup_isSome_of_mem_keys {α β : Type} [BEq α] [LawfulBEq α] (l : List (α × β)) {k : α}
    (h : k ∈ l.map (·.1)) : (l.lookup k).isSome = true := by
  cases hl : l.lookup k with
  | some _ => rfl
  | none =>
    obtain ⟨p, hp, rfl⟩ := List.mem_map.1 h
    simpa using List.lookup_eq_none_iff.1 hl p hp

theorem findSome?_of_find?_isSome {α β : Type} (f : α → Option β) :
    ∀ (l : List α) (c : α), l.find? (fun c => (f c).isSome) = some c → l.findSome? f = f c
  | x :: l, c, h => by
    cases hx : f x with
    | none =>
      rw [List.find?_cons_of_neg (by simp [hx])] at h
      rw [List.findSome?_cons_of_isNone (by simp [hx])]
      exact findSome?_of_find?_isSome f l c h
    | some y =>
      rw [List.find?_cons_of_pos (by simp [hx])] at h
      cases h
      rw [List.findSome?_cons_of_isSome (by simp [hx]), hx]

end LinOp.C19
