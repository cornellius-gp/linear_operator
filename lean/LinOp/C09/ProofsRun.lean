/-
C09 — the summary for `lanczosTridiag`: its two ways out (after the first step, after the loop), and the invariants of the
returned state.  The single-column loop is the coupled loop on one column (`loopM_one`), so its invariant is the
`C = 1` case of `loopM_inv`.
-/
import LinOp.C09.ProofsMulti
import LinOp.C09.ProofsMultiOne

set_option linter.unusedSectionVars false

namespace LinOp.C09
open Matrix

variable {K : Type} [Field K] [LinearOrder K] [IsStrictOrderedRing K] {n : Nat}
variable {ops : NumOps K} {p : Params K} {amul : Vec K n → Vec K n} {numIter : Nat}

/-- View of a result as a loop state. -/
def Out.st (o : Out K n) : St K n := { q := o.q, t := o.t, passes := o.passes }

/-- The record returned for a final `num_iter` and state; `(Out.ofLoop r).count` is `r.1` and `(Out.ofLoop r).st` is
`r.2`, by `rfl`. -/
def Out.ofLoop (r : Nat × St K n) : Out K n := { count := r.1, q := r.2.q, t := r.2.t, passes := r.2.passes }

/-! ### the two ways out of `lanczosTridiag` -/

/-- Code as it is now, first step not passed (budget of one iteration, or `β_0` not above the threshold): the state before
the loop is returned with `num_iter = 1`. -/
theorem lanczosTridiag_single (hg : p.guardsSingle = true) {maxIter : Nat} {v : Vec K n} (h1 : 1 ≤ min maxIter n)
    (hc : (decide (1 < min maxIter n) &&
      ops.gt (ops.abs (init0 ops amul (min maxIter n) v).2.2) p.breakTol) = false) :
    lanczosTridiag ops p amul maxIter v = .ok (Out.ofLoop (1, (init0 ops amul (min maxIter n) v).1)) := by
  simp only [lanczosTridiag, show ¬ min maxIter n = 0 by omega, if_false, hg, if_true, hc, Bool.false_eq_true]
  rfl

/-- The loop is entered with `2 ≤ num_iter`, and in the code as it is now `β_0` above the threshold. -/
theorem lanczosTridiag_loop {maxIter : Nat} {v : Vec K n} (h2 : 2 ≤ min maxIter n)
    (hc : p.guardsSingle = true → ops.gt (ops.abs (init0 ops amul (min maxIter n) v).2.2) p.breakTol = true) :
    lanczosTridiag ops p amul maxIter v =
      .ok (Out.ofLoop (loop ops p amul (min maxIter n) (min maxIter n - 1) 1 (init ops amul (min maxIter n) v))) := by
  cases hg : p.guardsSingle
  · simp only [lanczosTridiag, show ¬ min maxIter n = 0 by omega, show ¬ min maxIter n = 1 by omega, if_false, hg,
      Bool.false_eq_true]
    rfl
  · simp only [lanczosTridiag, show ¬ min maxIter n = 0 by omega, show 1 < min maxIter n by omega, if_false, hg, if_true,
      hc hg, decide_true, Bool.and_self]
    rfl

/-! ### invariants of the returned state -/

/-- The loop branch (both versions of the code reach it with `2 ≤ num_iter`). -/
theorem loop_init (hs : SqrtLaw ops) (hA : SelfAdj amul) (N : Nat) (v : Vec K n) (hv : fn v ⬝ᵥ fn v ≠ 0)
    (h2 : 2 ≤ N) (r : Nat × St K n) (hr : r = loop ops p amul N (N - 1) 1 (init ops amul N v)) :
    1 ≤ r.1 ∧ r.1 ≤ N ∧ ColInv amul N r.1 r.2 := by
  have h := loopM_inv (p := p) (amuls := fun _ : Fin 1 => amul) (numIter := N) hs (fun _ => hA) (N - 1) 1
    #v[init ops amul N v] (by omega) le_rfl (fun c hc => by obtain rfl := Nat.lt_one_iff.mp hc; exact init_inv hs N v hv)
  rw [loopM_one] at h
  rw [hr]
  exact ⟨h.1, h.2.1, h.2.2 0 Nat.one_pos⟩

/-- Code as it is now (`guardsSingle = true`): every call with a budget of at least one iteration succeeds, and the returned
column satisfies the invariant at `count`. -/
theorem lanczos_ok (hs : SqrtLaw ops) (hA : SelfAdj amul) (hg : p.guardsSingle = true) (maxIter : Nat)
    (v : Vec K n) (hv : fn v ⬝ᵥ fn v ≠ 0) (h1 : 1 ≤ min maxIter n) :
    ∃ o, lanczosTridiag ops p amul maxIter v = .ok o ∧ 1 ≤ o.count ∧ o.count ≤ min maxIter n ∧
      ColInv amul (min maxIter n) o.count o.st := by
  cases hc : (decide (1 < min maxIter n) && ops.gt (ops.abs (init0 ops amul (min maxIter n) v).2.2) p.breakTol)
  · exact ⟨_, lanczosTridiag_single hg h1 hc, le_rfl, h1, init0_inv hs _ v hv⟩
  · rw [Bool.and_eq_true, decide_eq_true_eq] at hc
    exact ⟨_, lanczosTridiag_loop hc.1 fun _ => hc.2, loop_init hs hA _ v hv hc.1 _ rfl⟩

/-- The code before the fix of D14 (`guardsSingle = false`) needs a budget of two iterations. -/
theorem lanczos_ok_before_fix (hs : SqrtLaw ops) (hA : SelfAdj amul) (hg : p.guardsSingle = false) (maxIter : Nat)
    (v : Vec K n) (hv : fn v ⬝ᵥ fn v ≠ 0) (h2 : 2 ≤ min maxIter n) :
    ∃ o, lanczosTridiag ops p amul maxIter v = .ok o ∧ 1 ≤ o.count ∧ o.count ≤ min maxIter n ∧
      TStruct o.st ∧ (BetaOK (o.count - 1) o.st → Done amul (o.count - 1) o.st) :=
  have h := loop_init (p := p) hs hA _ v hv h2 _ rfl
  ⟨_, lanczosTridiag_loop h2 fun h => absurd (hg ▸ h) Bool.false_ne_true, h.1, h.2.1, h.2.2.tstruct, h.2.2.last h.1⟩

/-- Code as it is now, first step not passed: the call returns the single column `q_0 = v/‖v‖` (unit norm) and
`T = [q_0·A q_0]`, for every closure and non-zero start vector. -/
theorem lanczos_single (hs : SqrtLaw ops) (hg : p.guardsSingle = true) {maxIter : Nat} (v : Vec K n)
    (hv : fn v ⬝ᵥ fn v ≠ 0) (h1 : 1 ≤ min maxIter n)
    (hc : (decide (1 < min maxIter n) &&
      ops.gt (ops.abs (init0 ops amul (min maxIter n) v).2.2) p.breakTol) = false) :
    ∃ o, lanczosTridiag ops p amul maxIter v = .ok o ∧ o.count = 1 ∧
      Qf o.st 0 ⬝ᵥ Qf o.st 0 = 1 ∧ Tf o.st 0 0 = Qf o.st 0 ⬝ᵥ AQf amul o.st 0 :=
  have hd := init0_done (amul := amul) (numIter := min maxIter n) hs v hv
  ⟨_, lanczosTridiag_single hg h1 hc, rfl, (hd.orth 0 0 le_rfl le_rfl).trans (if_pos rfl), hd.alpha⟩

end LinOp.C09
