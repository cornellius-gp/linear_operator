/-
C09 — the coupled multi-column loop (`LinOp.C09.lanczosMulti`): every column of the coupled run performs, in each
iteration, a `Step` — the single-column iteration with SOME number of extra re-orthogonalisation passes (decided by all
columns together).  So every column keeps its invariant `ColInv` (ProofsLoop) through the coupled loop, whatever the other
columns do: every prefix up to that column's own breakdown is `Done`.
-/
import LinOp.C09.ProofsInit
import LinOp.C09.Multi

set_option linter.unusedSectionVars false

namespace LinOp.C09
open Matrix

variable {K : Type} [Field K] [LinearOrder K] [IsStrictOrderedRing K] {n C : Nat}
variable {ops : NumOps K} {p : Params K}

/-! ### the coupled extra passes and the coupled body, column by column

A column is addressed by `c : Nat` with `hc : c < C`: `xs[c]` then finds its bound at once, whereas for `c : Fin C` each
occurrence runs the index-bound tactic search.  `xs[c]` with `c : Fin C` unfolds to `xs[c.1]`, so the lemmas apply to
`Fin` indices as they stand (`amuls ⟨c.1, c.2⟩` is `amuls c`). -/

theorem extraPassesM_fixed (hs : SqrtLaw ops) (tol : K) (k : Nat) (qs : Vector (Fam (Vec K n)) C) {c : Nat}
    (hc : c < C) :
    ∀ (fuel : Nat) (rs : Vector (Vec K n) C), (∀ j, j ≤ k → fn (qs[c].get j) ⬝ᵥ fn rs[c] = 0) →
      fn rs[c] ⬝ᵥ fn rs[c] = 1 → (extraPassesM ops tol (k + 1) qs fuel rs).1[c] = rs[c] := by
  intro fuel
  induction fuel with
  | zero => intro rs _ _; rfl
  | succ f ih =>
    intro rs h0 h1
    rw [extraPassesM]
    split
    · rfl
    · -- one more pass: column `c` of the new vectors is `reorthPass … rs[c] = rs[c]`
      refine (ih _ ?_ ?_).trans ?_ <;>
        simp only [Vector.getElem_ofFn, Fin.getElem_fin, reorthPass_fixed hs rs[c] h0 h1]
      exacts [h0, h1]

theorem colAlpha_eq (amul : Vec K n → Vec K n) (k : Nat) (s : St K n) : colAlpha amul k s = bodyA amul k s := rfl

theorem colPre_eq (amul : Vec K n → Vec K n) (k : Nat) (s : St K n) :
    colPre ops amul k s = (bodyA amul k s, bodyN ops amul k s, bodyW ops amul k s) := rfl

variable {amuls : Fin C → Vec K n → Vec K n} {numIter k : Nat} {ss : Vector (St K n) C}

/-- Every column of the coupled body performs a `Step`. -/
theorem bodyM_step (hs : SqrtLaw ops) {c : Nat} (hc : c < C) :
    Step ops (amuls ⟨c, hc⟩) numIter k ss[c] (bodyM ops p amuls numIter k ss).1[c] := by
  constructor
  · intro h
    unfold bodyM
    simp only [h, if_true, Fin.getElem_fin, Vector.getElem_ofFn, colPre_eq]
    refine ⟨_, fun ho hb => ?_, rfl, trivial⟩
    refine (extraPassesM_fixed hs p.tol k _ hc p.extra _ ?_ ?_).trans ?_ <;>
      simp only [Vector.getElem_ofFn]
    exacts [bodyW_orth_gs ho, bodyW_unit hs hb]
  · intro h
    unfold bodyM
    simp only [h, if_false, Fin.getElem_fin, Vector.getElem_ofFn, colAlpha_eq]
    exact ⟨trivial, trivial⟩

/-! ### the coupled loop -/

/-- Every column keeps its invariant `ColInv` through the coupled loop: each iteration is a `Step` of every column. -/
theorem loopM_inv (hs : SqrtLaw ops) (hA : ∀ c, SelfAdj (amuls c)) :
    ∀ (rem k : Nat) (ss : Vector (St K n) C), k + rem = numIter → 1 ≤ k →
      (∀ (c : Nat) (hc : c < C), ColInv (amuls ⟨c, hc⟩) numIter k ss[c]) →
      1 ≤ (loopM ops p amuls numIter rem k ss).1 ∧ (loopM ops p amuls numIter rem k ss).1 ≤ numIter ∧
      ∀ (c : Nat) (hc : c < C),
        ColInv (amuls ⟨c, hc⟩) numIter (loopM ops p amuls numIter rem k ss).1 (loopM ops p amuls numIter rem k ss).2[c] := by
  intro rem
  induction rem with
  | zero =>
    intro k ss hkr hk h
    exact ⟨hk, by rw [loopM]; omega, h⟩
  | succ rem ih =>
    intro k ss hkr hk h
    have h' := fun c hc => (bodyM_step (p := p) (ss := ss) hs hc).inv hk (by omega) hs (hA _) (h c hc)
    rw [loopM]
    split
    · exact ⟨Nat.le_add_left 1 k, by omega, h'⟩
    · exact ih (k + 1) _ (by omega) (by omega) h'

/-- The coupled call: it succeeds for every budget `≥ 1`, returns ONE `count` for all columns, and every column satisfies
`ColInv` at `count` — symmetric tridiagonal `T`, and every prefix up to the column's own breakdown is `Done`. -/
theorem lanczosMulti_ok (hs : SqrtLaw ops) (hA : ∀ c, SelfAdj (amuls c)) (maxIter : Nat)
    (vs : Vector (Vec K n) C) (hv : ∀ (c : Nat) (hc : c < C), fn vs[c] ⬝ᵥ fn vs[c] ≠ 0) (h1 : 1 ≤ min maxIter n) :
    ∃ o, lanczosMulti ops p amuls maxIter vs = .ok o ∧ 1 ≤ o.count ∧ o.count ≤ min maxIter n ∧
      ∀ (c : Nat) (hc : c < C), ColInv (amuls ⟨c, hc⟩) (min maxIter n) o.count o.cols[c] := by
  simp only [lanczosMulti, show ¬ min maxIter n = 0 by omega, if_false]
  split
  next hc =>
    have h2 : 2 ≤ min maxIter n := by
      simp only [Bool.and_eq_true, decide_eq_true_eq] at hc
      omega
    refine ⟨_, rfl, loopM_inv hs hA _ 1 _ (by omega) le_rfl fun c hc => ?_⟩
    rw [Vector.getElem_ofFn]
    exact init_inv hs _ _ (hv c hc)
  next =>
    refine ⟨_, rfl, le_rfl, h1, fun c hc => ?_⟩
    simp only [Fin.getElem_fin, Vector.getElem_ofFn]
    exact init0_inv hs _ _ (hv c hc)

end LinOp.C09
