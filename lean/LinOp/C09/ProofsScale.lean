/-
C09 — the tridiagonal jitter is relative: homogeneity of degree 1 of `jitterOf` / `jitteredT` in the matrix, and the
resulting homogeneity of degree 1/2 of the Lanczos root (`root(c·A) = √c · root(A)`, `c > 0`, exact arithmetic).
-/
import LinOp.C09.ProofsPost
import LinOp.C09.Proofs

set_option linter.unusedSectionVars false

namespace LinOp.C09
open Matrix

variable {K : Type} [Field K] [LinearOrder K] [IsStrictOrderedRing K] {n m : Nat}

/-- `torch.lt` on an ordered field -/
def ltb : K → K → Bool := fun a b => decide (a < b)

/-- one step of the fold in `minDiag` takes the minimum -/
theorem ltb_ite (x a : K) : (if ltb x a then x else a) = min x a := by
  by_cases h : x < a
  · rw [ltb, decide_eq_true h, if_pos rfl, min_eq_left h.le]
  · rw [ltb, decide_eq_false h, if_neg Bool.false_ne_true, min_eq_right (not_lt.mp h)]

/-- `minDiag` on a non-empty diagonal is the fold of `min` over it, started at its first entry. -/
theorem minDiag_foldl (T : Mat K m m) (d : K) :
    minDiag ltb T d = (List.finRange m).foldl (fun acc i => min (T i i) acc)
      (match List.finRange m with | [] => d | i :: _ => T i i) := by
  simp only [minDiag, ltb_ite]
  rfl

theorem foldl_min_scale (c : K) (hc : 0 < c) (T : Mat K m m) (l : List (Fin m)) (a : K) :
    l.foldl (fun acc i => min (c * T i i) acc) (c * a) = c * l.foldl (fun acc i => min (T i i) acc) a := by
  induction l generalizing a with
  | nil => rfl
  | cons i l ih => rw [List.foldl_cons, List.foldl_cons, ← mul_min_of_nonneg _ _ hc.le, ih]

/-- `min diag (c·T) = c · min diag T` for `c > 0`. -/
theorem minDiag_scale (c : K) (hc : 0 < c) (T : Mat K m m) :
    minDiag ltb (fun a b => c * T a b) 0 = c * minDiag ltb T 0 := by
  simp only [minDiag_foldl]
  cases List.finRange m with
  | nil => exact (mul_zero c).symm
  | cons i l => exact foldl_min_scale c hc T (i :: l) (T i i)

/-- The jitter is homogeneous of degree 1 in the tridiagonal matrix (an absolute floor would break this). -/
theorem jitter_homogeneous (c : K) (hc : 0 < c) (jit : K) (T : Mat K m m) :
    jitterOf ltb jit (fun a b => c * T a b) = c * jitterOf ltb jit T := by
  unfold jitterOf
  rw [minDiag_scale c hc]; ring

/-- `c·T + jitter(c·T) = c · (T + jitter(T))`. -/
theorem jitteredT_homogeneous (c : K) (hc : 0 < c) (jit : K) (T : Mat K m m) :
    jitteredT ltb jit (fun a b => c * T a b) = fun a b => c * jitteredT ltb jit T a b := by
  funext a b
  simp only [jitteredT, addJitter, jitter_homogeneous c hc]
  split <;> ring

/-- Root assembly on scaled Ritz values: if `(θ, V)` diagonalises `T + jitter(T)` then `(c·θ, V)` diagonalises
`c·T + jitter(c·T)` (by `jitteredT_homogeneous`), and the assembled root is `√c` times the unscaled one — masked
(negative) Ritz values included, whose columns are zero in both. -/
theorem lanczos_root_scaled {ops : NumOps K} (hs : SqrtLaw ops) (c : K) (hc : 0 < c)
    (Q : Matrix (Fin n) (Fin m) K) (V : Matrix (Fin m) (Fin m) K) (θ : Fin m → K) :
    lanczosRoot ops Q V (fun j => c * θ j) = ops.sqrt c • lanczosRoot ops Q V θ := by
  ext i j
  have hmask : ∀ j, (0 ≤ c * θ j) ↔ (0 ≤ θ j) := fun j => mul_nonneg_iff_of_pos_left hc
  simp only [lanczosRoot, Matrix.of_apply, Matrix.smul_apply, smul_eq_mul, rootOf, qv, Mat.mul, tab_eq,
    sumFin_eq_sum, maskEvecs, maskEvals, ge0, decide_eq_true_eq, hmask]
  by_cases h : 0 ≤ θ j
  · simp only [h, if_true]
    rw [hs.sqrt_mul hc.le h]; ring
  · simp only [h, if_false, mul_zero, Finset.sum_const_zero, zero_mul]

/-- The eigendecomposition contract is preserved by the scaling. -/
theorem eig_scaled (c : K) (V T' : Matrix (Fin m) (Fin m) K) (θ : Fin m → K)
    (h : V * Matrix.diagonal θ * Vᵀ = T') :
    V * Matrix.diagonal (fun j => c * θ j) * Vᵀ = c • T' := by
  rw [← h, show (fun j => c * θ j) = c • θ from rfl, Matrix.diagonal_smul, Matrix.mul_smul, Matrix.smul_mul]

end LinOp.C09
