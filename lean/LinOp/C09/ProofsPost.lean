/-
C09 — post-processing of the Lanczos output: `lanczos_tridiag_to_diag` (masking of the eigenpairs of
`T + jitter`) and the assembly of the root / inverse root in `RootDecomposition.forward`.

    mask = evals.ge(0); evecs = evecs * mask; evals = evals.masked_fill_(~mask, 1)     -- `maskEvals`, `maskEvecs`
    q_mat = q_mat.matmul(eigenvectors)                                                 -- `qv`
    root_evals = eigenvalues.sqrt(); root = q_mat * root_evals                         -- `rootOf`
    inverse = q_mat / root_evals                                                       -- `rootInvOf`

The scalar type is an ordered field; `ops.sqrt` is only assumed to satisfy `sqrt x * sqrt x = x` on `0 ≤ x`.
-/
import LinOp.C09.Model
import LinOp.Core.Bridge
import Mathlib.Algebra.Order.Field.Basic
import Mathlib.Data.Matrix.Mul
import Mathlib.LinearAlgebra.Matrix.NonsingularInverse
import Mathlib.Tactic.Ring
import Mathlib.Tactic.FieldSimp

set_option linter.unusedSectionVars false

namespace LinOp.C09
open Matrix

variable {K : Type} [Field K] [LinearOrder K] [IsStrictOrderedRing K] {n m : Nat}

/-- `x.ge(0)` -/
def ge0 : K → Bool := fun x => decide (0 ≤ x)

/-- positive part of the spectrum: negative eigenvalues replaced by `0` -/
def pos (θ : Fin m → K) : Fin m → K := fun j => if 0 ≤ θ j then θ j else 0

/-- masked eigenvalues, as returned by `lanczos_tridiag_to_diag` -/
abbrev mEvals (θ : Fin m → K) : Fin m → K := maskEvals ge0 θ

/-- masked eigenvectors, as returned by `lanczos_tridiag_to_diag` -/
abbrev mEvecs (θ : Fin m → K) (V : Matrix (Fin m) (Fin m) K) : Matrix (Fin m) (Fin m) K :=
  Matrix.of (maskEvecs ge0 θ V)

/-- `root` of `RootDecomposition.forward` from `q_mat`, and the eigenpairs `(θ, V)` of `eigh` before masking -/
abbrev lanczosRoot (ops : NumOps K) (Q : Matrix (Fin n) (Fin m) K) (V : Matrix (Fin m) (Fin m) K)
    (θ : Fin m → K) : Matrix (Fin n) (Fin m) K :=
  Matrix.of (rootOf ops (qv Q (maskEvecs ge0 θ V)) (maskEvals ge0 θ))

/-- `inverse` of `RootDecomposition.forward` -/
abbrev lanczosRootInv (ops : NumOps K) (Q : Matrix (Fin n) (Fin m) K) (V : Matrix (Fin m) (Fin m) K)
    (θ : Fin m → K) : Matrix (Fin n) (Fin m) K :=
  Matrix.of (rootInvOf ops (qv Q (maskEvecs ge0 θ V)) (maskEvals ge0 θ))

/-! ### 1. the mask -/

theorem mEvals_of_nonneg (θ : Fin m → K) (j : Fin m) (h : 0 ≤ θ j) : mEvals θ j = θ j := by
  simp [mEvals, maskEvals, ge0, h]

theorem mEvals_of_neg (θ : Fin m → K) (j : Fin m) (h : ¬ 0 ≤ θ j) : mEvals θ j = 1 := by
  simp [mEvals, maskEvals, ge0, h]

theorem mEvecs_of_nonneg (θ : Fin m → K) (V : Matrix (Fin m) (Fin m) K) (i j : Fin m) (h : 0 ≤ θ j) :
    mEvecs θ V i j = V i j := by
  simp [mEvecs, maskEvecs, ge0, h]

theorem mEvecs_of_neg (θ : Fin m → K) (V : Matrix (Fin m) (Fin m) K) (i j : Fin m) (h : ¬ 0 ≤ θ j) :
    mEvecs θ V i j = 0 := by
  simp [mEvecs, maskEvecs, ge0, h]

theorem mEvals_nonneg (θ : Fin m → K) (j : Fin m) : 0 ≤ mEvals θ j := by
  by_cases h : 0 ≤ θ j
  · rw [mEvals_of_nonneg θ j h]; exact h
  · rw [mEvals_of_neg θ j h]; exact zero_le_one

theorem mEvals_ne_zero_of_pos (θ : Fin m → K) (j : Fin m) (h : θ j ≠ 0) : mEvals θ j ≠ 0 := by
  by_cases h0 : 0 ≤ θ j
  · rw [mEvals_of_nonneg θ j h0]; exact h
  · rw [mEvals_of_neg θ j h0]; exact one_ne_zero

/-- entries of `M diag(d) Nᵀ` -/
theorem mul_diagonal_mul_transpose_apply {p q : Nat} (M : Matrix (Fin p) (Fin m) K)
    (N : Matrix (Fin q) (Fin m) K) (d : Fin m → K) (i : Fin p) (j : Fin q) :
    (M * Matrix.diagonal d * Nᵀ) i j = ∑ k, M i k * d k * N j k := by
  rw [Matrix.mul_apply]
  exact Finset.sum_congr rfl fun k _ => by rw [Matrix.mul_diagonal, Matrix.transpose_apply]

/-- Masking replaces the spectrum by its positive part: the masked pair reconstructs `V diag(θ⁺) Vᵀ`. -/
theorem mask_reconstruct (θ : Fin m → K) (V : Matrix (Fin m) (Fin m) K) :
    mEvecs θ V * Matrix.diagonal (mEvals θ) * (mEvecs θ V)ᵀ
      = V * Matrix.diagonal (pos θ) * Vᵀ := by
  ext i j
  rw [mul_diagonal_mul_transpose_apply, mul_diagonal_mul_transpose_apply]
  refine Finset.sum_congr rfl fun k _ => ?_
  by_cases h : 0 ≤ θ k
  · rw [mEvecs_of_nonneg θ V i k h, mEvecs_of_nonneg θ V j k h, mEvals_of_nonneg θ k h]
    simp [pos, h]
  · rw [mEvecs_of_neg θ V i k h, mEvecs_of_neg θ V j k h]
    simp [pos, h]

theorem pos_of_nonneg (θ : Fin m → K) (h : ∀ j, 0 ≤ θ j) : pos θ = θ := by
  funext j; simp [pos, h j]

theorem mEvals_of_all_nonneg (θ : Fin m → K) (h : ∀ j, 0 ≤ θ j) : mEvals θ = θ := by
  funext j; exact mEvals_of_nonneg θ j (h j)

theorem mEvecs_of_all_nonneg (θ : Fin m → K) (V : Matrix (Fin m) (Fin m) K) (h : ∀ j, 0 ≤ θ j) :
    mEvecs θ V = V := by
  ext i j; exact mEvecs_of_nonneg θ V i j (h j)

/-! ### 2. the root -/

theorem qv_eq (Q : Matrix (Fin n) (Fin m) K) (θ : Fin m → K) (V : Matrix (Fin m) (Fin m) K) :
    (qv Q (maskEvecs ge0 θ V) : Matrix (Fin n) (Fin m) K) = Q * mEvecs θ V :=
  Mat.mul_eq_matrix_mul (α := K) Q (maskEvecs ge0 θ V)

/-- `root = (Q V') diag(sqrt θ')` -/
theorem lanczosRoot_eq (ops : NumOps K) (Q : Matrix (Fin n) (Fin m) K) (V : Matrix (Fin m) (Fin m) K)
    (θ : Fin m → K) :
    lanczosRoot ops Q V θ = Q * (mEvecs θ V * Matrix.diagonal fun j => ops.sqrt (mEvals θ j)) := by
  ext i j
  rw [← Matrix.mul_assoc, Matrix.mul_diagonal, ← qv_eq]
  rfl

/-- `inverse = (Q V') diag(1 / sqrt θ')` -/
theorem lanczosRootInv_eq (ops : NumOps K) (Q : Matrix (Fin n) (Fin m) K) (V : Matrix (Fin m) (Fin m) K)
    (θ : Fin m → K) :
    lanczosRootInv ops Q V θ
      = Q * (mEvecs θ V * Matrix.diagonal fun j => (ops.sqrt (mEvals θ j))⁻¹) := by
  ext i j
  rw [← Matrix.mul_assoc, Matrix.mul_diagonal, ← qv_eq, ← div_eq_mul_inv]
  rfl

/-- `(Q (W diag s)) (Q (W diag s))ᵀ = Q (W diag(s²) Wᵀ) Qᵀ` -/
theorem sandwich_diag (Q : Matrix (Fin n) (Fin m) K) (W : Matrix (Fin m) (Fin m) K) (s : Fin m → K) :
    (Q * (W * Matrix.diagonal s)) * (Q * (W * Matrix.diagonal s))ᵀ
      = Q * (W * Matrix.diagonal (fun j => s j * s j) * Wᵀ) * Qᵀ := by
  rw [Matrix.transpose_mul, Matrix.transpose_mul, Matrix.diagonal_transpose, ← Matrix.diagonal_mul_diagonal]
  simp only [Matrix.mul_assoc]

/-- `RootDecomposition.forward`: `root rootᵀ = Q (V diag(θ⁺) Vᵀ) Qᵀ` for ANY output `(θ, V)` of `eigh`
(no orthogonality needed). -/
theorem lanczos_root (ops : NumOps K) (hsq : ∀ x, 0 ≤ x → ops.sqrt x * ops.sqrt x = x)
    (Q : Matrix (Fin n) (Fin m) K) (V : Matrix (Fin m) (Fin m) K) (θ : Fin m → K) :
    lanczosRoot ops Q V θ * (lanczosRoot ops Q V θ)ᵀ
      = Q * (V * Matrix.diagonal (pos θ) * Vᵀ) * Qᵀ := by
  rw [lanczosRoot_eq, sandwich_diag, ← mask_reconstruct]
  simp only [hsq _ (mEvals_nonneg θ _)]

/-- If `(θ, V)` is a decomposition `V diag(θ) Vᵀ = T'` with `θ ≥ 0`, then `root rootᵀ = Q T' Qᵀ`. -/
theorem lanczos_root_nonneg (ops : NumOps K) (hsq : ∀ x, 0 ≤ x → ops.sqrt x * ops.sqrt x = x)
    (Q : Matrix (Fin n) (Fin m) K) (V T' : Matrix (Fin m) (Fin m) K) (θ : Fin m → K)
    (hθ : ∀ j, 0 ≤ θ j) (hT : V * Matrix.diagonal θ * Vᵀ = T') :
    lanczosRoot ops Q V θ * (lanczosRoot ops Q V θ)ᵀ = Q * T' * Qᵀ := by
  rw [lanczos_root ops hsq, pos_of_nonneg θ hθ, hT]

/-! ### 3. the inverse root -/

/-- General (masked) version: `inverse inverseᵀ = Q (V' diag(1/θ') V'ᵀ) Qᵀ`. -/
theorem lanczos_root_inv_masked (ops : NumOps K) (hsq : ∀ x, 0 ≤ x → ops.sqrt x * ops.sqrt x = x)
    (Q : Matrix (Fin n) (Fin m) K) (V : Matrix (Fin m) (Fin m) K) (θ : Fin m → K) :
    lanczosRootInv ops Q V θ * (lanczosRootInv ops Q V θ)ᵀ
      = Q * (mEvecs θ V * Matrix.diagonal (fun j => (mEvals θ j)⁻¹) * (mEvecs θ V)ᵀ) * Qᵀ := by
  rw [lanczosRootInv_eq, sandwich_diag]
  simp only [← mul_inv, hsq _ (mEvals_nonneg θ _)]

/-- `(Q X Qᵀ) (Q Y Qᵀ) = Q (X Y) Qᵀ` for orthonormal columns. -/
theorem sandwich_mul {Q : Matrix (Fin n) (Fin m) K} (hQ : Qᵀ * Q = 1) (X Y : Matrix (Fin m) (Fin m) K) :
    Q * X * Qᵀ * (Q * Y * Qᵀ) = Q * (X * Y) * Qᵀ := by
  calc Q * X * Qᵀ * (Q * Y * Qᵀ) = Q * (X * (Qᵀ * Q) * Y) * Qᵀ := by simp only [Matrix.mul_assoc]
    _ = Q * (X * Y) * Qᵀ := by rw [hQ, Matrix.mul_one]

/-- An orthogonal eigendecomposition with non-zero spectrum, times the one with the inverted spectrum. -/
theorem eig_mul_inv {V T' : Matrix (Fin m) (Fin m) K} {θ : Fin m → K}
    (hθ : ∀ j, θ j ≠ 0) (hV : Vᵀ * V = 1) (hT : V * Matrix.diagonal θ * Vᵀ = T') :
    T' * (V * Matrix.diagonal (fun j => (θ j)⁻¹) * Vᵀ) = 1 := by
  have hdd : Matrix.diagonal θ * Matrix.diagonal (fun j => (θ j)⁻¹) = 1 := by
    rw [Matrix.diagonal_mul_diagonal, ← Matrix.diagonal_one]
    exact congrArg _ (funext fun j => mul_inv_cancel₀ (hθ j))
  rw [← hT, sandwich_mul hV, hdd, Matrix.mul_one, mul_eq_one_comm.mp hV]

/-- inverse of an orthogonal eigendecomposition with non-zero spectrum -/
theorem inv_of_eigendecomposition (V T' : Matrix (Fin m) (Fin m) K) (θ : Fin m → K)
    (hθ : ∀ j, θ j ≠ 0) (hV : Vᵀ * V = 1) (hT : V * Matrix.diagonal θ * Vᵀ = T') :
    T'⁻¹ = V * Matrix.diagonal (fun j => (θ j)⁻¹) * Vᵀ :=
  Matrix.inv_eq_right_inv (eig_mul_inv hθ hV hT)

theorem mul_inv_of_eigendecomposition {V T' : Matrix (Fin m) (Fin m) K} {θ : Fin m → K}
    (hθ : ∀ j, θ j ≠ 0) (hV : Vᵀ * V = 1) (hT : V * Matrix.diagonal θ * Vᵀ = T') : T' * T'⁻¹ = 1 := by
  rw [inv_of_eigendecomposition V T' θ hθ hV hT]
  exact eig_mul_inv hθ hV hT

/-- `RootDecomposition.forward`: with an orthogonal eigendecomposition `V diag(θ) Vᵀ = T'`, `θ > 0`,
`inverse inverseᵀ = Q T'⁻¹ Qᵀ`. -/
theorem lanczos_root_inv (ops : NumOps K) (hsq : ∀ x, 0 ≤ x → ops.sqrt x * ops.sqrt x = x)
    (Q : Matrix (Fin n) (Fin m) K) (V T' : Matrix (Fin m) (Fin m) K) (θ : Fin m → K)
    (hθ : ∀ j, 0 < θ j) (hV : Vᵀ * V = 1) (hT : V * Matrix.diagonal θ * Vᵀ = T') :
    lanczosRootInv ops Q V θ * (lanczosRootInv ops Q V θ)ᵀ = Q * T'⁻¹ * Qᵀ := by
  have h0 : ∀ j, 0 ≤ θ j := fun j => (hθ j).le
  rw [lanczos_root_inv_masked ops hsq, mEvals_of_all_nonneg θ h0, mEvecs_of_all_nonneg θ V h0,
    inv_of_eigendecomposition V T' θ (fun j => (hθ j).ne') hV hT]

/-- In that case `root rootᵀ` and `inverse inverseᵀ` are built from inverse matrices. -/
theorem lanczos_root_mul_root_inv (ops : NumOps K) (hsq : ∀ x, 0 ≤ x → ops.sqrt x * ops.sqrt x = x)
    (Q : Matrix (Fin n) (Fin m) K) (V T' : Matrix (Fin m) (Fin m) K) (θ : Fin m → K)
    (hθ : ∀ j, 0 < θ j) (hV : Vᵀ * V = 1) (hT : V * Matrix.diagonal θ * Vᵀ = T') (hQ : Qᵀ * Q = 1) :
    (lanczosRoot ops Q V θ * (lanczosRoot ops Q V θ)ᵀ)
        * (lanczosRootInv ops Q V θ * (lanczosRootInv ops Q V θ)ᵀ) = Q * Qᵀ := by
  rw [lanczos_root_nonneg ops hsq Q V T' θ (fun j => (hθ j).le) hT, lanczos_root_inv ops hsq Q V T' θ hθ hV hT,
    sandwich_mul hQ, mul_inv_of_eigendecomposition (fun j => (hθ j).ne') hV hT, Matrix.mul_one]

/-! ### 4. `Q T Qᵀ`: compression onto the span of the Lanczos vectors, `= A` at full dimension -/

/-- `t_mat + jitter * eye` -/
theorem addJitter_eq (T : Matrix (Fin m) (Fin m) K) (c : K) :
    (Matrix.of (addJitter T c) : Matrix (Fin m) (Fin m) K) = T + c • (1 : Matrix (Fin m) (Fin m) K) := by
  ext a b
  by_cases h : a = b
  · subst h; simp [addJitter]
  · simp [addJitter, h]

theorem sandwich_jitter (Q : Matrix (Fin n) (Fin m) K) (T : Matrix (Fin m) (Fin m) K) (c : K) :
    Q * Matrix.of (addJitter T c) * Qᵀ = Q * T * Qᵀ + c • (Q * Qᵀ) := by
  rw [addJitter_eq, Matrix.mul_add, Matrix.add_mul, Matrix.mul_smul, Matrix.mul_one, Matrix.smul_mul]

/-- A partial run gives the orthogonal compression of `A` onto the span of the Lanczos vectors. -/
theorem lanczos_compression (Q : Matrix (Fin n) (Fin m) K) (A : Matrix (Fin n) (Fin n) K)
    (T : Matrix (Fin m) (Fin m) K) (hT : Qᵀ * A * Q = T) :
    Q * T * Qᵀ = (Q * Qᵀ) * A * (Q * Qᵀ) := by
  rw [← hT]; simp only [Matrix.mul_assoc]

/-- `QᵀQ = 1` and as many columns as rows: `Q Qᵀ = 1`. -/
theorem QQt_of_card (Q : Matrix (Fin n) (Fin m) K) (hm : m = n) (hQ : Qᵀ * Q = 1) : Q * Qᵀ = 1 :=
  (Matrix.mul_eq_one_comm_of_card_eq (m := Fin m) (n := Fin n) (R := K) (A := Qᵀ) (B := Q)
    (by rw [hm])).mp hQ

theorem full_of_card (Q : Matrix (Fin n) (Fin m) K) (A : Matrix (Fin n) (Fin n) K)
    (T : Matrix (Fin m) (Fin m) K) (hm : m = n) (hQ : Qᵀ * Q = 1) (hP : Qᵀ * A * Q = T) : Q * T * Qᵀ = A := by
  rw [lanczos_compression Q A T hP, QQt_of_card Q hm hQ, Matrix.one_mul, Matrix.mul_one]

/-- root of `RootDecomposition.forward` on a rectangular orthonormal `Q` with `QᵀAQ = T`, eigendecomposition of the
jittered `T` with non-negative Ritz values: `R Rᵀ = (QQᵀ) A (QQᵀ) + j QQᵀ`. -/
theorem root_of_compression (ops : NumOps K) (hsq : ∀ x, 0 ≤ x → ops.sqrt x * ops.sqrt x = x)
    (Q : Matrix (Fin n) (Fin m) K) (A : Matrix (Fin n) (Fin n) K) (T V : Matrix (Fin m) (Fin m) K)
    (θ : Fin m → K) (c : K) (hP : Qᵀ * A * Q = T)
    (hE : V * Matrix.diagonal θ * Vᵀ = Matrix.of (addJitter T c)) (hθ : ∀ j, 0 ≤ θ j) :
    lanczosRoot ops Q V θ * (lanczosRoot ops Q V θ)ᵀ = (Q * Qᵀ) * A * (Q * Qᵀ) + c • (Q * Qᵀ) := by
  rw [lanczos_root_nonneg ops hsq Q V _ θ hθ hE, sandwich_jitter, lanczos_compression Q A T hP]

/-- inverse root on a rectangular orthonormal `Q` with as many columns as rows: `R⁻ R⁻ᵀ = (A + j·1)⁻¹`. -/
theorem root_inv_full_of_card (ops : NumOps K) (hsq : ∀ x, 0 ≤ x → ops.sqrt x * ops.sqrt x = x)
    (Q : Matrix (Fin n) (Fin m) K) (A : Matrix (Fin n) (Fin n) K) (T V : Matrix (Fin m) (Fin m) K)
    (θ : Fin m → K) (c : K) (hm : m = n) (hQ : Qᵀ * Q = 1) (hP : Qᵀ * A * Q = T) (hV : Vᵀ * V = 1)
    (hE : V * Matrix.diagonal θ * Vᵀ = Matrix.of (addJitter T c)) (hθ : ∀ j, 0 < θ j) :
    lanczosRootInv ops Q V θ * (lanczosRootInv ops Q V θ)ᵀ
      = (A + c • (1 : Matrix (Fin n) (Fin n) K))⁻¹ := by
  have hQ' : Q * Qᵀ = 1 := QQt_of_card Q hm hQ
  -- `A + j·1 = Q (T + j·1) Qᵀ`, whose inverse is `Q (T + j·1)⁻¹ Qᵀ`
  rw [lanczos_root_inv ops hsq Q V _ θ hθ hV hE, ← full_of_card Q A T hm hQ hP, ← hQ', ← sandwich_jitter]
  refine (Matrix.inv_eq_right_inv ?_).symm
  rw [sandwich_mul hQ, mul_inv_of_eigendecomposition (fun j => (hθ j).ne') hV hE, Matrix.mul_one, hQ']

/-- `root_inv_full_of_card` for a square `Q`: `inverse inverseᵀ = (A + jitter * I)⁻¹`. -/
theorem lanczos_full_root_inv (ops : NumOps K) (hsq : ∀ x, 0 ≤ x → ops.sqrt x * ops.sqrt x = x)
    (Q A T V : Matrix (Fin n) (Fin n) K) (θ : Fin n → K) (c : K)
    (hQ : Qᵀ * Q = 1) (hT : Qᵀ * A * Q = T) (hV : Vᵀ * V = 1)
    (hE : V * Matrix.diagonal θ * Vᵀ = Matrix.of (addJitter T c)) (hθ : ∀ j, 0 < θ j) :
    lanczosRootInv ops Q V θ * (lanczosRootInv ops Q V θ)ᵀ
      = (A + c • (1 : Matrix (Fin n) (Fin n) K))⁻¹ :=
  root_inv_full_of_card ops hsq Q A T V θ c rfl hQ hT hV hE hθ

end LinOp.C09
