/-
C09 — one iteration of `lanczos_tridiag`.  `Step` says what iteration `k` does to the two buffers of one column, with the
extra re-orthogonalisation passes abstracted (they do not move a unit vector that is already orthogonal); the
single-column `body` and every column of the coupled body are `Step`s.  What an iteration keeps or establishes —
structure of `t_mat`, finished prefixes (`Done`), the state at the top of the next iteration (`Top`) — is proved for `Step`, and
collected in the invariant of one column, `ColInv`, which a `Step` keeps (`Step.inv`).
-/
import LinOp.C09.Proofs
import Mathlib.Tactic.Abel
import Mathlib.LinearAlgebra.Matrix.DotProduct

set_option linter.unusedSectionVars false

namespace LinOp.C09
open Matrix

variable {K : Type} [Field K] [LinearOrder K] [IsStrictOrderedRing K] {n : Nat}

/-! ### extra re-orthogonalisation passes do nothing in exact arithmetic -/

theorem reorthPass_fixed {ops : NumOps K} (hs : SqrtLaw ops) {q : Fam (Vec K n)} {k : Nat} (r : Vec K n)
    (h0 : ∀ j, j ≤ k → fn (q.get j) ⬝ᵥ fn r = 0) (h1 : fn r ⬝ᵥ fn r = 1) :
    reorthPass ops (k + 1) q r = r := by
  apply fn_inj
  simp only [reorthPass, fn_vdiv, fn_vsub, fn_correction, norm, dot_eq]
  rw [corr_zero (q := fun j => fn (q.get j)) (fn r) h0]
  simp [h1, hs.sqrt_one]

theorem extraPasses_fixed {ops : NumOps K} (hs : SqrtLaw ops) {q : Fam (Vec K n)} {k : Nat} (tol : K)
    (r : Vec K n) (h0 : ∀ j, j ≤ k → fn (q.get j) ⬝ᵥ fn r = 0) (h1 : fn r ⬝ᵥ fn r = 1) (fuel : Nat) :
    (extraPasses ops tol (k + 1) q fuel r).1 = r := by
  induction fuel with
  | zero => rfl
  | succ f ih =>
    simp only [extraPasses]
    split
    · rfl
    · simp only [reorthPass_fixed hs r h0 h1, ih]

/-! ### views of a state -/

/-- `q_mat[j]` as a function; `Tf s i j` is `t_mat[i, j]`, `AQf amul s j` is `A q_j`. -/
def Qf (s : St K n) (j : Nat) : Fin n → K := fn (s.q.get j)
def Tf (s : St K n) (i j : Nat) : K := (s.t.get i).get j
def AQf (amul : Vec K n → Vec K n) (s : St K n) (j : Nat) : Fin n → K := fn (amul (s.q.get j))

/-- The closure is self-adjoint for the Euclidean inner product (true of `x ↦ A x`, `A` symmetric). -/
def SelfAdj (amul : Vec K n → Vec K n) : Prop :=
  ∀ u w : Vec K n, fn u ⬝ᵥ fn (amul w) = fn (amul u) ⬝ᵥ fn w

/-- Structure of the buffer `t_mat`: symmetric, tridiagonal. -/
structure TStruct (s : St K n) : Prop where
  sym : ∀ i j, Tf s i j = Tf s j i
  tri : ∀ i j, i + 1 < j ∨ j + 1 < i → Tf s i j = 0

/-- State at the top of iteration `k`: `q_0 … q_k` orthonormal, recurrence for `j < k`. -/
structure Top (amul : Vec K n → Vec K n) (k : Nat) (s : St K n) : Prop where
  orth : Orth (Qf s) k
  recur : Rec (AQf amul s) (Qf s) (Tf s) k

theorem Top.of_and {amul : Vec K n → Vec K n} {k : Nat} {s : St K n}
    (h : Orth (Qf s) k ∧ Rec (AQf amul s) (Qf s) (Tf s) k) : Top amul k s := ⟨h.1, h.2⟩

/-- State when the loop is left with `num_iter = k + 1`. -/
structure Done (amul : Vec K n → Vec K n) (k : Nat) (s : St K n) : Prop where
  orth : Orth (Qf s) k
  recur : Rec (AQf amul s) (Qf s) (Tf s) k
  alpha : Tf s k k = Qf s k ⬝ᵥ AQf amul s k

/-- The off-diagonal entries written so far are non-zero ("no breakdown among the first `k` steps"). -/
def BetaOK (k : Nat) (s : St K n) : Prop := ∀ j, j < k → Tf s j (j + 1) ≠ 0

/-- A write on the diagonal keeps `t_mat` symmetric tridiagonal. -/
theorem TStruct.tset_diag {s s' : St K n} (hT : TStruct s) {k : Nat} {a : K} (h : s'.t = tset s.t k k a) :
    TStruct s' := by
  constructor
  · intro i j
    simp only [Tf, h, tset_get]
    by_cases h1 : i = k ∧ j = k
    · rw [if_pos h1, if_pos ⟨h1.2, h1.1⟩]
    · rw [if_neg h1, if_neg fun h => h1 ⟨h.2, h.1⟩]
      exact hT.sym i j
  · intro i j hij
    simp only [Tf, h, tset_get]
    rw [if_neg (by omega)]
    exact hT.tri i j hij

/-- So does the same value written to `[k, k+1]` and `[k+1, k]`. -/
theorem TStruct.tset_pair {s s' : St K n} (hT : TStruct s) {k : Nat} {b : K}
    (h : s'.t = tset (tset s.t k (k + 1) b) (k + 1) k b) : TStruct s' := by
  constructor
  · intro i j
    simp only [Tf, h, tset_get]
    by_cases h1 : i = k + 1 ∧ j = k
    · rw [if_pos h1, if_neg (by omega), if_pos ⟨h1.2, h1.1⟩]
    by_cases h2 : i = k ∧ j = k + 1
    · rw [if_neg h1, if_pos h2, if_pos ⟨h2.2, h2.1⟩]
    · rw [if_neg h1, if_neg h2, if_neg fun h => h2 ⟨h.2, h.1⟩, if_neg fun h => h1 ⟨h.2, h.1⟩]
      exact hT.sym i j
  · intro i j hij
    simp only [Tf, h, tset_get]
    rw [if_neg (by omega), if_neg (by omega)]
    exact hT.tri i j hij

/-- The three writes of one iteration. -/
theorem TStruct.tset_three {s s' : St K n} (hT : TStruct s) {k : Nat} {a b : K}
    (h : s'.t = tset (tset (tset s.t k k a) k (k + 1) b) (k + 1) k b) : TStruct s' :=
  (hT.tset_diag (s' := { s with t := tset s.t k k a }) rfl).tset_pair h

/-! ### one iteration -/

section step
variable (ops : NumOps K) (p : Params K) (amul : Vec K n → Vec K n) (numIter k : Nat) (s : St K n)

def bodyR0 : Vec K n := vsub (amul (s.q.get k)) (vscale (s.q.get (k - 1)) ((s.t.get k).get (k - 1)))
def bodyA : K := dot (s.q.get k) (bodyR0 amul k s)
def bodyR1 : Vec K n := vsub (bodyR0 amul k s) (vscale (s.q.get k) (bodyA amul k s))
def bodyR2 : Vec K n := vsub (bodyR1 amul k s) (correction (k + 1) s.q (bodyR1 amul k s))
def bodyN : K := norm ops (bodyR2 amul k s)
def bodyW : Vec K n := vdiv (bodyR2 amul k s) (bodyN ops amul k s)
def bodyEx : Vec K n × Bool × Nat := extraPasses ops p.tol (k + 1) s.q p.extra (bodyW ops amul k s)

end step

variable {ops : NumOps K} {p : Params K} {amul : Vec K n → Vec K n} {numIter k : Nat} {s s' : St K n}

theorem body_then (h : k + 1 < numIter) :
    (body ops p amul numIter k s).1 =
      { q := upd s.q (k + 1) (bodyEx ops p amul k s).1,
        t := tset (tset (tset s.t k k (bodyA amul k s)) k (k + 1) (bodyN ops amul k s)) (k + 1) k (bodyN ops amul k s),
        passes := s.passes + (bodyEx ops p amul k s).2.2 } := by
  unfold body
  simp only [h, if_true]
  rfl

theorem body_else (h : ¬ k + 1 < numIter) :
    body ops p amul numIter k s = ({ s with t := tset s.t k k (bodyA amul k s) }, false) := by
  unfold body
  simp only [h, if_false]
  rfl

/-- `t_mat` stays symmetric tridiagonal under the writes of one iteration, whatever the arithmetic. -/
theorem body_tstruct (hT : TStruct s) : TStruct (body ops p amul numIter k s).1 := by
  by_cases h : k + 1 < numIter
  · rw [body_then h]
    exact hT.tset_three rfl
  · rw [body_else h]
    exact hT.tset_diag rfl

theorem fn_bodyR1 :
    fn (bodyR1 amul k s) = AQf amul s k - Tf s k (k - 1) • Qf s (k - 1)
      - (Qf s k ⬝ᵥ (AQf amul s k - Tf s k (k - 1) • Qf s (k - 1))) • Qf s k := by
  simp [bodyR1, bodyR0, bodyA, dot_eq, AQf, Tf, Qf]

theorem bodyA_eq :
    bodyA amul k s = Qf s k ⬝ᵥ (AQf amul s k - Tf s k (k - 1) • Qf s (k - 1)) := by
  simp [bodyR0, bodyA, dot_eq, AQf, Tf, Qf]

theorem bodyN_eq : bodyN ops amul k s = ops.sqrt (fn (bodyR2 amul k s) ⬝ᵥ fn (bodyR2 amul k s)) := by
  rw [bodyN, norm, dot_eq]

/-- The residual of iteration `k` is orthogonal to `q_0 … q_k` (`residual_orth`). -/
theorem bodyR1_orth (hk : 1 ≤ k) (hA : SelfAdj amul) (hT : TStruct s) (ht : Top amul k s) (j : Nat) (hj : j ≤ k) :
    Qf s j ⬝ᵥ fn (bodyR1 amul k s) = 0 := by
  rw [fn_bodyR1]
  exact residual_orth hk ht.orth ht.recur (fun i j _ _ => hA _ _) hT.sym hT.tri j hj

/-- So in exact arithmetic the full re-orthogonalisation subtracts nothing. -/
theorem fn_bodyR2 (hk : 1 ≤ k) (hA : SelfAdj amul) (hT : TStruct s) (ht : Top amul k s) :
    fn (bodyR2 amul k s) = fn (bodyR1 amul k s) := by
  rw [bodyR2, fn_vsub, fn_correction, corr_zero (q := fun j => fn (s.q.get j)) _ (bodyR1_orth hk hA hT ht), sub_zero]

/-- The Gram–Schmidt part alone: whatever the closure is (symmetric or not), the new vector is
orthogonal to all previous ones. -/
theorem bodyW_orth_gs (ho : Orth (Qf s) k) (j : Nat) (hj : j ≤ k) :
    Qf s j ⬝ᵥ fn (bodyW ops amul k s) = 0 := by
  rw [bodyW, fn_vdiv, dotProduct_smul, bodyR2, fn_vsub, fn_correction]
  exact (congrArg _ (gs_orth ho (fn (bodyR1 amul k s)) j hj)).trans (smul_zero _)

theorem bodyW_unit (hs : SqrtLaw ops) (hb : bodyN ops amul k s ≠ 0) :
    fn (bodyW ops amul k s) ⬝ᵥ fn (bodyW ops amul k s) = 1 := by
  rw [bodyW, fn_vdiv]
  rw [bodyN_eq] at hb ⊢
  exact unit_of_norm hs _ hb

theorem bodyEx_eq (hs : SqrtLaw ops) (ho : Orth (Qf s) k) (hb : bodyN ops amul k s ≠ 0) :
    (bodyEx ops p amul k s).1 = bodyW ops amul k s :=
  extraPasses_fixed hs _ _ (fun j hj => bodyW_orth_gs ho j hj) (bodyW_unit hs hb) _

/-! ### one iteration of one column, extra passes abstracted -/

/-- `s'` is the state of one column after iteration `k`: the three writes to `t_mat` and `q_mat[k+1] = w`, where `w`
is the normalised residual `bodyW` whenever that one is a unit vector orthogonal to `q_0 … q_k` (extra passes do not
move it). -/
structure Step (ops : NumOps K) (amul : Vec K n → Vec K n) (numIter k : Nat) (s s' : St K n) : Prop where
  qt_then : k + 1 < numIter → ∃ w : Vec K n,
    (Orth (Qf s) k → bodyN ops amul k s ≠ 0 → w = bodyW ops amul k s) ∧
    s'.q = upd s.q (k + 1) w ∧
    s'.t = tset (tset (tset s.t k k (bodyA amul k s)) k (k + 1) (bodyN ops amul k s)) (k + 1) k (bodyN ops amul k s)
  qt_else : ¬ k + 1 < numIter → s'.q = s.q ∧ s'.t = tset s.t k k (bodyA amul k s)

/-- The single-column `body` is a `Step`. -/
theorem body_step (hs : SqrtLaw ops) (amul : Vec K n → Vec K n) (numIter k : Nat) (s : St K n) :
    Step ops amul numIter k s (body ops p amul numIter k s).1 := by
  constructor
  · intro h
    rw [body_then h]
    exact ⟨_, bodyEx_eq hs, rfl, rfl⟩
  · intro h
    rw [body_else h]
    exact ⟨rfl, rfl⟩

theorem Step.Tf_then (hst : Step ops amul numIter k s s') (h : k + 1 < numIter) (i j : Nat) :
    Tf s' i j =
      if i = k + 1 ∧ j = k then bodyN ops amul k s
      else if i = k ∧ j = k + 1 then bodyN ops amul k s
      else if i = k ∧ j = k then bodyA amul k s else Tf s i j := by
  obtain ⟨w, _, _, ht⟩ := hst.qt_then h
  simp only [Tf, ht, tset_get]

theorem Step.Tf_else (hst : Step ops amul numIter k s s') (h : ¬ k + 1 < numIter) (i j : Nat) :
    Tf s' i j = if i = k ∧ j = k then bodyA amul k s else Tf s i j := by
  obtain ⟨_, ht⟩ := hst.qt_else h
  simp only [Tf, ht, tset_get]

/-- Entries of `t_mat` other than the three written ones are untouched. -/
theorem Step.Tf_frame (hst : Step ops amul numIter k s s') (i j : Nat)
    (hne : ¬(i = k + 1 ∧ j = k) ∧ ¬(i = k ∧ j = k + 1) ∧ ¬(i = k ∧ j = k)) : Tf s' i j = Tf s i j := by
  by_cases h : k + 1 < numIter
  · rw [hst.Tf_then h, if_neg hne.1, if_neg hne.2.1, if_neg hne.2.2]
  · rw [hst.Tf_else h, if_neg hne.2.2]

theorem Step.Tf_alpha (hst : Step ops amul numIter k s s') : Tf s' k k = bodyA amul k s := by
  by_cases h : k + 1 < numIter
  · rw [hst.Tf_then h, if_neg (by omega), if_neg (by omega), if_pos ⟨rfl, rfl⟩]
  · rw [hst.Tf_else h, if_pos ⟨rfl, rfl⟩]

theorem Step.Tf_beta (hst : Step ops amul numIter k s s') (h : k + 1 < numIter) :
    Tf s' k (k + 1) = bodyN ops amul k s := by
  rw [hst.Tf_then h, if_neg (by omega), if_pos ⟨rfl, rfl⟩]

/-- Only `q_mat[k+1]` is written. -/
theorem Step.q_frame (hst : Step ops amul numIter k s s') (j : Nat) (hj : j ≠ k + 1) : s'.q.get j = s.q.get j := by
  by_cases h : k + 1 < numIter
  · obtain ⟨w, _, hq, _⟩ := hst.qt_then h
    rw [hq, upd_get, if_neg hj]
  · rw [(hst.qt_else h).1]

theorem Step.Qf_frame (hst : Step ops amul numIter k s s') (j : Nat) (hj : j ≠ k + 1) : Qf s' j = Qf s j :=
  congrArg fn (hst.q_frame j hj)

theorem Step.AQf_frame (hst : Step ops amul numIter k s s') (j : Nat) (hj : j ≠ k + 1) :
    AQf amul s' j = AQf amul s j :=
  congrArg (fun u => fn (amul u)) (hst.q_frame j hj)

/-- the vector written to `q_mat[k+1]`, when the residual norm is non-zero -/
theorem Step.Qf_new (hst : Step ops amul numIter k s s') (h : k + 1 < numIter) (ho : Orth (Qf s) k)
    (hb : bodyN ops amul k s ≠ 0) : Qf s' (k + 1) = fn (bodyW ops amul k s) := by
  obtain ⟨w, hw, hq, _⟩ := hst.qt_then h
  rw [Qf, hq, upd_get, if_pos rfl, hw ho hb]

theorem Step.tstruct (hst : Step ops amul numIter k s s') (hT : TStruct s) : TStruct s' := by
  by_cases h : k + 1 < numIter
  · obtain ⟨w, _, _, ht⟩ := hst.qt_then h
    exact hT.tset_three ht
  · exact hT.tset_diag (hst.qt_else h).2

/-- `BetaOK j`, `j ≤ k`, only reads entries that iteration `k` does not write. -/
theorem Step.betaOK_back (hst : Step ops amul numIter k s s') {j : Nat} (hj : j ≤ k) (h : BetaOK j s') :
    BetaOK j s := by
  intro i hi
  rw [← hst.Tf_frame i (i + 1) (by omega)]
  exact h i hi

/-- Orthonormality of `q_0 … q_j` and the recurrence below `j`, `j ≤ k`, read nothing that iteration `k` writes. -/
theorem Step.orth_rec_frame (hst : Step ops amul numIter k s s') {j : Nat} (hj : j ≤ k) (ho : Orth (Qf s) j)
    (hr : Rec (AQf amul s) (Qf s) (Tf s) j) : Orth (Qf s') j ∧ Rec (AQf amul s') (Qf s') (Tf s') j := by
  constructor
  · intro a b ha hb
    rw [hst.Qf_frame a (by omega), hst.Qf_frame b (by omega)]
    exact ho a b ha hb
  · intro i hi
    rw [hst.AQf_frame i (by omega), hst.Tf_frame i (i - 1) (by omega), hst.Tf_frame i i (by omega),
      hst.Tf_frame i (i + 1) (by omega), hst.Qf_frame (i - 1) (by omega), hst.Qf_frame i (by omega),
      hst.Qf_frame (i + 1) (by omega)]
    exact hr i hi

/-- A finished prefix stays finished: iteration `k` writes nothing that `Done j`, `j < k`, reads. -/
theorem Step.done_frame (hst : Step ops amul numIter k s s') {j : Nat} (hj : j < k) (hd : Done amul j s) :
    Done amul j s' := by
  obtain ⟨ho, hr⟩ := hst.orth_rec_frame hj.le hd.orth hd.recur
  refine ⟨ho, hr, ?_⟩
  rw [hst.Tf_frame j j (by omega), hst.Qf_frame j (by omega), hst.AQf_frame j (by omega)]
  exact hd.alpha

/-- After iteration `k` the first `k + 1` vectors are final (whether or not the loop goes on). -/
theorem Step.done (hst : Step ops amul numIter k s s') (hk : 1 ≤ k) (ht : Top amul k s) :
    Done amul k s' := by
  obtain ⟨ho, hr⟩ := hst.orth_rec_frame le_rfl ht.orth ht.recur
  refine ⟨ho, hr, ?_⟩
  -- `α_k = q_k · (A q_k − β_{k−1} q_{k−1}) = q_k · A q_k`, as `q_k ⟂ q_{k−1}`
  rw [hst.Tf_alpha, hst.Qf_frame k (by omega), hst.AQf_frame k (by omega), bodyA_eq, dotProduct_sub,
    dotProduct_smul, ht.orth k (k - 1) le_rfl (by omega), if_neg (by omega), smul_zero, sub_zero]

/-- If `β_k ≠ 0` the state at the top of iteration `k + 1` is fine (for this column): `lanczos_extend` with the residual
`bodyR1`, which the re-orthogonalisation leaves as it is. -/
theorem Step.top (hst : Step ops amul numIter k s s') (hk : 1 ≤ k) (hs : SqrtLaw ops) (hA : SelfAdj amul)
    (hT : TStruct s) (ht : Top amul k s) (h : k + 1 < numIter) (hb : bodyN ops amul k s ≠ 0) :
    Top amul (k + 1) s' := by
  obtain ⟨ho, hr⟩ := hst.orth_rec_frame le_rfl ht.orth ht.recur
  have hR2 := fn_bodyR2 hk hA hT ht
  refine .of_and (lanczos_extend hs ho hr (r := fn (bodyR1 amul k s)) (fun j hj => ?_) ?_ ?_ ?_ ?_)
  · rw [hst.Qf_frame j (by omega)]
    exact bodyR1_orth hk hA hT ht j hj
  · rw [if_neg (by omega), hst.AQf_frame k (by omega), hst.Tf_frame k (k - 1) (by omega), hst.Tf_alpha,
      hst.Qf_frame (k - 1) (by omega), hst.Qf_frame k (by omega), fn_bodyR1, ← bodyA_eq]
    abel
  · rw [hst.Tf_beta h, bodyN_eq, hR2]
  · rwa [hst.Tf_beta h]
  · rw [hst.Qf_new h ht.orth hb, hst.Tf_beta h, bodyW, fn_vdiv, hR2]

/-- What is known of one column at the top of iteration `k` (and of a returned column, with `k = count`): `T` symmetric
tridiagonal; every prefix before the column's own breakdown is finished; and, while the column has not broken down and the
budget is not exhausted, `q_0 … q_k` are ready for iteration `k`. -/
structure ColInv (amul : Vec K n → Vec K n) (numIter k : Nat) (s : St K n) : Prop where
  tstruct : TStruct s
  prefix_done : ∀ j, j < k → BetaOK j s → Done amul j s
  top : k < numIter → BetaOK k s → Top amul k s

/-- The whole returned prefix, if the column has not broken down on it. -/
theorem ColInv.last (h : ColInv amul numIter k s) (hk : 1 ≤ k) (hb : BetaOK (k - 1) s) : Done amul (k - 1) s :=
  h.prefix_done _ (Nat.sub_lt hk Nat.one_pos) hb

/-- One iteration keeps the invariant of a column — whether or not the loop goes on, and whatever the other columns do. -/
theorem Step.inv (hst : Step ops amul numIter k s s') (hk : 1 ≤ k) (hlt : k < numIter) (hs : SqrtLaw ops)
    (hA : SelfAdj amul) (h : ColInv amul numIter k s) : ColInv amul numIter (k + 1) s' := by
  refine ⟨hst.tstruct h.tstruct, fun j hj hb => ?_, fun hlt' hb => ?_⟩
  · have hb' := hst.betaOK_back (Nat.le_of_lt_succ hj) hb
    rcases Nat.lt_or_eq_of_le (Nat.le_of_lt_succ hj) with hjk | rfl
    · exact hst.done_frame hjk (h.prefix_done j hjk hb')
    · exact hst.done hk (h.top hlt hb')
  · have hbeta := hb k (Nat.lt_succ_self k)
    rw [hst.Tf_beta hlt'] at hbeta
    exact hst.top hk hs hA h.tstruct (h.top hlt (hst.betaOK_back le_rfl fun j hj => hb j (Nat.lt_succ_of_lt hj))) hlt' hbeta

/-- A column that breaks down in iteration `k` (`β_k = 0`) inside a run that goes on: its residual is the zero vector
(so the division `r_vec.div_(r_vec_norm)` is `0/0` entry by entry: NaN in IEEE arithmetic), and the two off-diagonal
entries written are `0`. -/
theorem Step.breakdown (hst : Step ops amul numIter k s s') (hs : SqrtLaw ops) (h : k + 1 < numIter)
    (hb : bodyN ops amul k s = 0) :
    fn (bodyR2 amul k s) = 0 ∧ bodyW ops amul k s = vdiv (bodyR2 amul k s) 0 ∧
      Tf s' k (k + 1) = 0 ∧ Tf s' (k + 1) k = 0 := by
  have hz : fn (bodyR2 amul k s) ⬝ᵥ fn (bodyR2 amul k s) = 0 := by
    rw [← hs.mul_self _ (dot_self_nonneg _), ← bodyN_eq, hb, mul_zero]
  refine ⟨dotProduct_self_eq_zero.mp hz, ?_, ?_, ?_⟩
  · rw [bodyW, hb]
  · rw [hst.Tf_beta h, hb]
  · rw [hst.Tf_then h, if_pos ⟨rfl, rfl⟩, hb]

end LinOp.C09
