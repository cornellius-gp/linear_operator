/-
C09 — model of `linear_operator/utils/lanczos.py` (`lanczos_tridiag`, `lanczos_tridiag_to_diag`) and of the
post-processing in `functions/_root_decomposition.py` / `_diagonalization.py`, statement by statement,
for ONE column (one batch member, one init vector).  Core Lean only.

    num_iter = min(max_iter, matrix_shape[-1])
    q_mat = zeros(num_iter, …, n, …);  t_mat = zeros(num_iter, num_iter, …)        -- `St.q`, `St.t` (zero families)
    q_0_vec = init_vecs / norm(init_vecs);  q_mat[0].copy_(q_0_vec)                 -- `init`
    r_vec = matmul_closure(q_0_vec);  alpha_0 = q_0_vec.mul(r_vec).sum(-2)
    r_vec.sub_(alpha_0.mul(q_0_vec));  beta_0 = norm(r_vec)
    t_mat[0,0] = alpha_0
    if num_iter > 1 and torch.sum(beta_0.abs() > 1e-6) > 0:                         -- `lanczosTridiag` (guard)
        t_mat[0,1] = beta_0; t_mat[1,0] = beta_0;  q_mat[1].copy_(r_vec.div_(beta_0))
    else: num_iter = 1
    k = 0
    for k in range(1, num_iter):                                                    -- `loop` / `body`
        q_prev = q_mat[k-1]; q_curr = q_mat[k]; beta_prev = t_mat[k, k-1]
        r_vec = matmul_closure(q_curr) - q_prev.mul(beta_prev)
        alpha_curr = q_curr.mul(r_vec).sum(-2);  t_mat[k,k] = alpha_curr
        if (k + 1) < num_iter:
            r_vec.sub_(alpha_curr.mul(q_curr))
            correction = r_vec.mul(q_mat[:k+1]).sum(-2); correction = q_mat[:k+1].mul(correction).sum(0)
            r_vec.sub_(correction)                                                  -- `correction`
            r_vec_norm = norm(r_vec);  r_vec.div_(r_vec_norm)
            beta_curr = r_vec_norm;  t_mat[k,k+1] = beta_curr;  t_mat[k+1,k] = beta_curr
            inner_products = q_mat[:k+1].mul(r_vec).sum(-2)                         -- `innerProducts`
            could_reorthogonalize = False
            for _ in range(10):                                                     -- `extraPasses`
                if not torch.sum(inner_products.abs() > tol): could_reorthogonalize = True; break
                (correction, subtract, renormalise, recompute inner_products)       -- `reorthPass`
            q_mat[k+1].copy_(r_vec)
            if torch.sum(beta_curr.abs() > 1e-6) == 0 or not could_reorthogonalize: break
    num_iter = k + 1;  q_mat[:num_iter], t_mat[:num_iter, :num_iter]                -- `Out.count`, `Out.Q`, `Out.T`

The batch members / init vectors of one call are coupled only through the two `torch.sum(...)` tests (extra passes
run on all columns as soon as one column asks for it, the break needs all columns); the theorems are proved for an
arbitrary number of extra passes, so they hold for each column of a multi-column call as long as that column itself
has not broken down.

Scalars are abstract: ring operations come from the notation classes (the same definitions run on `Float` in the
driver and are reasoned about over ordered fields in the proofs); `sqrt`, `>` and `abs` are the record `NumOps`.
The matmul closure and `torch.linalg.eigh` are parameters.
-/
import LinOp.Core.Basic
namespace LinOp.C09

/-- Non-ring primitives of the scalar type. -/
structure NumOps (α : Type) where
  sqrt : α → α
  /-- `torch.gt` -/
  gt : α → α → Bool
  abs : α → α

/-- Vectors are real data (`Vector`), so that every intermediate vector is computed once. -/
abbrev Vec (α : Type) (n : Nat) := Vector α n

/-- A `Nat`-indexed family (a preallocated buffer indexed along its first dimension), materialised on
its first `size` entries.  (A structure and not a bare function, so that building one evaluates it.) -/
structure Fam (β : Type) where
  get : Nat → β
  size : Nat

/-- Materialise the first `m` entries of `f`. -/
def Fam.tab {β : Type} (m : Nat) (f : Nat → β) : Fam β :=
  let v := Vector.ofFn (n := m) fun i => f i.1
  ⟨fun j => if h : j < m then v[j] else f j, m⟩

@[simp] theorem Fam.get_tab {β : Type} (m : Nat) (f : Nat → β) : (Fam.tab m f).get = f := by
  funext j; simp only [Fam.tab]; split <;> simp

/-- `x[a] = v` on a buffer. -/
def upd {β : Type} (f : Fam β) (a : Nat) (v : β) : Fam β :=
  Fam.tab f.size fun b => if b = a then v else f.get b

/-- `t_mat[a, b] = v` -/
def tset {β : Type} (t : Fam (Fam β)) (a b : Nat) (v : β) : Fam (Fam β) :=
  Fam.tab t.size fun i => Fam.tab t.size fun j => if i = a ∧ j = b then v else (t.get i).get j

/-- `torch.zeros(m, …)` -/
def Fam.const {β : Type} (m : Nat) (z : β) : Fam β := ⟨fun _ => z, m⟩

/-- Source constants / arguments of one call (`tol` is the keyword argument, the other two are literals;
the defaults are generated from the source). -/
structure Params (α : Type) where
  tol : α
  /-- the `10` of `for _ in range(10)` -/
  extra : Nat
  /-- the `1e-6` of `beta_curr.abs() > 1e-6` -/
  breakTol : α
  /-- the writes `t_mat[0, 1]`, `t_mat[1, 0]`, `q_mat[1]` are guarded by
  `num_iter > 1 and torch.sum(beta_0.abs() > 1e-6) > 0` (true for the code as it is now; false = the code
  before the fix of D14: `num_iter = 1` ends in IndexError and `β_0` is never tested) -/
  guardsSingle : Bool := false

inductive Err
  | indexError
  deriving DecidableEq, Repr

section
variable {α : Type} {n : Nat}

def dot [Add α] [Mul α] [Zero α] (u v : Vec α n) : α := sumFin n fun i => u[i] * v[i]
def vsub [Sub α] (u v : Vec α n) : Vec α n := Vector.ofFn fun i => u[i] - v[i]
/-- `u.mul(c)` with a broadcast scalar -/
def vscale [Mul α] (u : Vec α n) (c : α) : Vec α n := Vector.ofFn fun i => u[i] * c
def vdiv [Div α] (u : Vec α n) (c : α) : Vec α n := Vector.ofFn fun i => u[i] / c
def vzero [Zero α] : Vec α n := Vector.ofFn fun _ => 0
/-- `torch.norm(u, 2, dim=-2)` -/
def norm [Add α] [Mul α] [Zero α] (ops : NumOps α) (u : Vec α n) : α := ops.sqrt (dot u u)

/-- `q_mat[:m]ᵀ r` -/
def innerProducts [Add α] [Mul α] [Zero α] (m : Nat) (q : Fam (Vec α n)) (r : Vec α n) : Vector α m :=
  Vector.ofFn fun j => dot (q.get j.1) r

/-- `correction = q_mat[:m] (q_mat[:m]ᵀ r)` -/
def correction [Add α] [Mul α] [Zero α] (m : Nat) (q : Fam (Vec α n)) (r : Vec α n) : Vec α n :=
  let c := innerProducts m q r
  Vector.ofFn fun i => sumFin m fun j => (q.get j.1)[i] * c[j]

/-- `torch.sum(inner_products.abs() > tol)` is non-zero — the test on the MAGNITUDE of the inner products (code since
commit 7af42c2) -/
def anyGt (ops : NumOps α) {m : Nat} (ip : Vector α m) (tol : α) : Bool :=
  (List.finRange m).any fun j => ops.gt (ops.abs ip[j]) tol

/-- PREVIOUS code (before 7af42c2): `torch.sum(inner_products > tol)`, the signed test — a negative inner product, however
large, never asked for another re-orthogonalisation pass.  Kept only as the record of that defect. -/
def anyGtSigned (ops : NumOps α) {m : Nat} (ip : Vector α m) (tol : α) : Bool :=
  (List.finRange m).any fun j => ops.gt ip[j] tol

/-- one re-orthogonalisation pass: subtract the correction, renormalise -/
def reorthPass [Add α] [Sub α] [Mul α] [Div α] [Zero α] (ops : NumOps α) (m : Nat) (q : Fam (Vec α n))
    (r : Vec α n) : Vec α n :=
  let r1 := vsub r (correction m q r)
  vdiv r1 (norm ops r1)

/-- `for _ in range(fuel): if not sum(inner_products.abs() > tol): could = True; break; <pass>`
returns (r_vec, could_reorthogonalize, number of passes run) -/
def extraPasses [Add α] [Sub α] [Mul α] [Div α] [Zero α] (ops : NumOps α) (tol : α) (m : Nat)
    (q : Fam (Vec α n)) : (fuel : Nat) → Vec α n → Vec α n × Bool × Nat
  | 0, r => (r, false, 0)
  | fuel + 1, r =>
    if !anyGt ops (innerProducts m q r) tol then (r, true, 0)
    else
      let res := extraPasses ops tol m q fuel (reorthPass ops m q r)
      (res.1, res.2.1, res.2.2 + 1)

/-- The two preallocated buffers, and the number of extra passes run so far (observable only). -/
structure St (α : Type) (n : Nat) where
  q : Fam (Vec α n)
  t : Fam (Fam α)
  passes : Nat := 0

/-- Everything before the loop except the three writes at index 1. -/
def init0 [Add α] [Sub α] [Mul α] [Div α] [Zero α] (ops : NumOps α) (amul : Vec α n → Vec α n)
    (numIter : Nat) (v : Vec α n) : St α n × Vec α n × α :=
  let q0 := vdiv v (norm ops v)
  let r := amul q0
  let a0 := dot q0 r
  let r := vsub r (vscale q0 a0)
  let b0 := norm ops r
  ({ q := upd (Fam.const numIter vzero) 0 q0, t := tset (Fam.const numIter (Fam.const numIter 0)) 0 0 a0 }, r, b0)

/-- Everything before the loop (`num_iter ≥ 2`). -/
def init [Add α] [Sub α] [Mul α] [Div α] [Zero α] (ops : NumOps α) (amul : Vec α n → Vec α n)
    (numIter : Nat) (v : Vec α n) : St α n :=
  let i0 := init0 ops amul numIter v
  let s := i0.1
  let r := i0.2.1
  let b0 := i0.2.2
  { q := upd s.q 1 (vdiv r b0), t := tset (tset s.t 0 1 b0) 1 0 b0 }

/-- Loop body for loop variable `k`; the Boolean is "break". -/
def body [Add α] [Sub α] [Mul α] [Div α] [Zero α] (ops : NumOps α) (p : Params α)
    (amul : Vec α n → Vec α n) (numIter k : Nat) (s : St α n) : St α n × Bool :=
  let qprev := s.q.get (k - 1)
  let qcur := s.q.get k
  let bprev := (s.t.get k).get (k - 1)
  let r := vsub (amul qcur) (vscale qprev bprev)
  let a := dot qcur r
  let t1 := tset s.t k k a
  if k + 1 < numIter then
    let r := vsub r (vscale qcur a)
    let r := vsub r (correction (k + 1) s.q r)
    let nrm := norm ops r
    let r := vdiv r nrm
    let t2 := tset (tset t1 k (k + 1) nrm) (k + 1) k nrm
    let ex := extraPasses ops p.tol (k + 1) s.q p.extra r
    ({ q := upd s.q (k + 1) ex.1, t := t2, passes := s.passes + ex.2.2 },
     !(ops.gt (ops.abs nrm) p.breakTol) || !ex.2.1)
  else
    ({ s with t := t1 }, false)

/-- `for k in range(1, num_iter)` with `rem` iterations left; returns the final `num_iter = k + 1`. -/
def loop [Add α] [Sub α] [Mul α] [Div α] [Zero α] (ops : NumOps α) (p : Params α)
    (amul : Vec α n → Vec α n) (numIter : Nat) : (rem k : Nat) → St α n → Nat × St α n
  | 0, k, s => (k, s)
  | rem + 1, k, s =>
    let b := body ops p amul numIter k s
    if b.2 then (k + 1, b.1) else loop ops p amul numIter rem (k + 1) b.1

/-- Result of `lanczos_tridiag` for one column: the trimmed sizes and the two buffers. -/
structure Out (α : Type) (n : Nat) where
  count : Nat
  q : Fam (Vec α n)
  t : Fam (Fam α)
  passes : Nat

/-- `q_mat[:num_iter]` permuted to `n × num_iter` -/
def Out.Q (o : Out α n) : Mat α n o.count := fun i j => (o.q.get j.1)[i]
/-- `t_mat[:num_iter, :num_iter]` -/
def Out.T (o : Out α n) : Mat α o.count o.count := fun i j => (o.t.get i.1).get j.1

/-- `lanczos_tridiag(matmul_closure, max_iter, …, init_vecs=v, tol=p.tol)` on an `n × n` operator.

Code as it is now (`p.guardsSingle = true`, generated from the source):
    if num_iter > 1 and torch.sum(beta_0.abs() > 1e-6) > 0:  <writes at index 1>   else: num_iter = 1
    k = 0;  for k in range(1, num_iter): …;  num_iter = k + 1
so a budget of one iteration (`max_iter = 1`, 1×1 operator) or a start vector that already is an eigenvector
(`β_0` not above the threshold) returns the single column `q_0` and `T = [α_0]`.
`p.guardsSingle = false` is the code BEFORE commit c712633: no test of `β_0`, IndexError for `num_iter = 1`. -/
def lanczosTridiag [Add α] [Sub α] [Mul α] [Div α] [Zero α] (ops : NumOps α) (p : Params α)
    (amul : Vec α n → Vec α n) (maxIter : Nat) (v : Vec α n) : Except Err (Out α n) :=
  let numIter := min maxIter n
  if numIter = 0 then .error .indexError          -- `q_mat[0]` of an empty buffer
  else if p.guardsSingle then
    let i0 := init0 ops amul numIter v
    if decide (1 < numIter) && ops.gt (ops.abs i0.2.2) p.breakTol then
      let r := loop ops p amul numIter (numIter - 1) 1 (init ops amul numIter v)
      .ok { count := r.1, q := r.2.q, t := r.2.t, passes := r.2.passes }
    else
      .ok { count := 1, q := i0.1.q, t := i0.1.t, passes := 0 }
  else if numIter = 1 then .error .indexError     -- `t_mat[0, 1]` (previous code, D14)
  else
    let r := loop ops p amul numIter (numIter - 1) 1 (init ops amul numIter v)
    .ok { count := r.1, q := r.2.q, t := r.2.t, passes := r.2.passes }

/-! ### `lanczos_tridiag_to_diag` and the assembly of roots -/

/-- `mask = evals.ge(0); evecs = evecs * mask; evals = evals.masked_fill_(~mask, 1)`
(`ge0` is `· ≥ 0`; the eigendecomposition `(evals, evecs)` of `t_mat` is supplied by `torch.linalg.eigh`). -/
def maskEvals [One α] {m : Nat} (ge0 : α → Bool) (evals : Fin m → α) : Fin m → α :=
  fun j => if ge0 (evals j) then evals j else 1

def maskEvecs [Zero α] {m : Nat} (ge0 : α → Bool) (evals : Fin m → α) (evecs : Mat α m m) : Mat α m m :=
  fun i j => if ge0 (evals j) then evecs i j else 0

/-- `t_mat + jitter_mat`, `jitter_mat = (tridiagonal_jitter * min(diag t_mat)) * eye` -/
def addJitter [Add α] {m : Nat} (T : Mat α m m) (j : α) : Mat α m m :=
  fun a b => if a = b then T a b + j else T a b

/-- `min` over the diagonal (first element on ties is irrelevant for the value) -/
def minDiag {m : Nat} (lt : α → α → Bool) (T : Mat α m m) (dflt : α) : α :=
  (List.finRange m).foldl (fun acc i => if lt (T i i) acc then T i i else acc)
    (match List.finRange m with | [] => dflt | i :: _ => T i i)

/-- `settings.tridiagonal_jitter.value() * mins`, `mins = min(diag t_mat)`: the jitter is RELATIVE to the smallest
diagonal entry of `t_mat` (no floor, no clamp) — `RootDecomposition.forward` and `Diagonalization.forward`. -/
def jitterOf [Mul α] [Zero α] {m : Nat} (lt : α → α → Bool) (jit : α) (T : Mat α m m) : α :=
  jit * minDiag lt T 0

/-- `t_mat + jitter_mat`, the matrix handed to `lanczos_tridiag_to_diag`. -/
def jitteredT [Add α] [Mul α] [Zero α] {m : Nat} (lt : α → α → Bool) (jit : α) (T : Mat α m m) : Mat α m m :=
  addJitter T (jitterOf lt jit T)

/-- `Diagonalization.forward` before /repo 0faac5d (= notes/C09_fix_2.diff): `torch.diag_embed(jitter_val * mins).expand_as(t_mat)`
— `mins` has a trailing dimension of size 1, so `diag_embed` gives a 1×1 matrix that `expand_as` broadcasts to EVERY entry;
the documented behaviour, and the code since that commit, is `addJitter`. -/
def addJitterAll [Add α] {m : Nat} (T : Mat α m m) (j : α) : Mat α m m := fun a b => T a b + j

/-- `q_mat = q_mat.matmul(eigenvectors)` -/
def qv [Add α] [Mul α] [Zero α] {m : Nat} (Q : Mat α n m) (V : Mat α m m) : Mat α n m := Mat.mul Q V

/-- `root = q_mat * root_evals.unsqueeze(-2)`, `root_evals = eigenvalues.sqrt()` -/
def rootOf [Mul α] {m : Nat} (ops : NumOps α) (QV : Mat α n m) (evals : Fin m → α) : Mat α n m :=
  fun i j => QV i j * ops.sqrt (evals j)

/-- `inverse = q_mat / root_evals.unsqueeze(-2)` -/
def rootInvOf [Div α] {m : Nat} (ops : NumOps α) (QV : Mat α n m) (evals : Fin m → α) : Mat α n m :=
  fun i j => QV i j / ops.sqrt (evals j)

end
end LinOp.C09
