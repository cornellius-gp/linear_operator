/-
C09 — helper lemmas for the Lanczos model: vector algebra bridge, the contract of `sqrt`, and the Lanczos mathematics on
sequences `q, Aq : Nat → Fin n → K`, `t : Nat → Nat → K`, free of the model's state: coordinates in an orthonormal family,
Gram–Schmidt correction, the three-term recurrence read as column `j` of `Q T`, one Lanczos step (`lanczos_extend`).
-/
import LinOp.C09.Model
import LinOp.Core.Bridge
import Mathlib.Algebra.Order.Field.Basic
import Mathlib.Algebra.Order.BigOperators.Ring.Finset
import Mathlib.Data.Matrix.Mul
import Mathlib.Algebra.BigOperators.Fin
import Mathlib.Algebra.BigOperators.Intervals
import Mathlib.Tactic.Ring
import Mathlib.Tactic.Linarith
import Mathlib.Tactic.FieldSimp

set_option linter.unusedSectionVars false

namespace LinOp.C09
open Matrix

variable {K : Type} [Field K] [LinearOrder K] [IsStrictOrderedRing K] {n : Nat}

/-- A vector of the model seen as a function. -/
def fn (u : Vec K n) : Fin n → K := fun i => u[i]

theorem fn_inj {u v : Vec K n} (h : fn u = fn v) : u = v := by
  apply Vector.ext
  intro i hi
  exact congrFun h ⟨i, hi⟩

theorem dot_eq (u v : Vec K n) : dot u v = fn u ⬝ᵥ fn v := by
  simp [dot, sumFin_eq_sum, dotProduct, fn]

@[simp] theorem fn_vsub (u v : Vec K n) : fn (vsub u v) = fn u - fn v := by
  funext i; simp [fn, vsub]

@[simp] theorem fn_vscale (u : Vec K n) (c : K) : fn (vscale u c) = c • fn u := by
  funext i; simp [fn, vscale, mul_comm]

@[simp] theorem fn_vdiv (u : Vec K n) (c : K) : fn (vdiv u c) = c⁻¹ • fn u := by
  funext i; simp [fn, vdiv, div_eq_inv_mul]

@[simp] theorem fn_vzero : fn (vzero : Vec K n) = 0 := by
  funext i; simp [fn, vzero]

theorem fn_correction (m : Nat) (q : Fam (Vec K n)) (r : Vec K n) :
    fn (correction m q r) = ∑ j : Fin m, (fn (q.get j.1) ⬝ᵥ fn r) • fn (q.get j.1) := by
  funext i
  simp [fn, correction, innerProducts, sumFin_eq_sum, dot_eq, Finset.sum_apply, mul_comm]

@[simp] theorem upd_get {β : Type} (f : Fam β) (a : Nat) (v : β) (b : Nat) :
    (upd f a v).get b = if b = a then v else f.get b := by
  simp [upd]

@[simp] theorem tset_get {β : Type} (t : Fam (Fam β)) (a b : Nat) (v : β) (i j : Nat) :
    ((tset t a b v).get i).get j = if i = a ∧ j = b then v else (t.get i).get j := by
  simp [tset]

/-- Lawful `sqrt`: what the theorems assume about `NumOps.sqrt` (true of the real square root). -/
structure SqrtLaw (ops : NumOps K) : Prop where
  mul_self : ∀ x : K, 0 ≤ x → ops.sqrt x * ops.sqrt x = x
  nonneg : ∀ x : K, 0 ≤ ops.sqrt x

/-- `√(c²) = c` for `c ≥ 0` -/
theorem SqrtLaw.sqrt_mul_self {ops : NumOps K} (hs : SqrtLaw ops) {c : K} (hc : 0 ≤ c) : ops.sqrt (c * c) = c :=
  (mul_self_inj (hs.nonneg _) hc).mp (hs.mul_self _ (mul_nonneg hc hc))

/-- `√(c·x) = √c · √x` -/
theorem SqrtLaw.sqrt_mul {ops : NumOps K} (hs : SqrtLaw ops) {c x : K} (hc : 0 ≤ c) (hx : 0 ≤ x) :
    ops.sqrt (c * x) = ops.sqrt c * ops.sqrt x :=
  (mul_self_inj (hs.nonneg _) (mul_nonneg (hs.nonneg _) (hs.nonneg _))).mp (by
    rw [hs.mul_self _ (mul_nonneg hc hx), mul_mul_mul_comm, hs.mul_self c hc, hs.mul_self x hx])

theorem SqrtLaw.sqrt_one {ops : NumOps K} (hs : SqrtLaw ops) : ops.sqrt 1 = 1 := by
  simpa using hs.sqrt_mul_self zero_le_one

theorem SqrtLaw.sqrt_ne_zero {ops : NumOps K} (hs : SqrtLaw ops) {x : K} (hx : 0 ≤ x) (h : x ≠ 0) :
    ops.sqrt x ≠ 0 :=
  fun h0 => h (by rw [← hs.mul_self x hx, h0, mul_zero])

theorem dot_self_nonneg (w : Fin n → K) : 0 ≤ w ⬝ᵥ w := by
  simp only [dotProduct]
  exact Finset.sum_nonneg fun i _ => mul_self_nonneg (w i)

/-! ### Orthonormal families and the Gram–Schmidt correction -/

/-- `q 0, …, q k` are orthonormal. -/
def Orth (q : Nat → Fin n → K) (k : Nat) : Prop :=
  ∀ i j, i ≤ k → j ≤ k → q i ⬝ᵥ q j = if i = j then 1 else 0

/-- Coordinates in an orthonormal family: `q_i · Σ_{l ≤ k} a_l q_l = a_i`. -/
theorem Orth.dot_sum {q : Nat → Fin n → K} {k : Nat} (ho : Orth q k) (a : Nat → K) {i : Nat} (hi : i ≤ k) :
    q i ⬝ᵥ ∑ l : Fin (k + 1), a l.1 • q l.1 = a i := by
  rw [dotProduct_sum, Finset.sum_eq_single (⟨i, Nat.lt_succ_of_le hi⟩ : Fin (k + 1))]
  · rw [dotProduct_smul, ho i i hi hi, if_pos rfl, smul_eq_mul, mul_one]
  · intro l _ hl
    rw [dotProduct_smul, ho i l.1 hi (Nat.le_of_lt_succ l.2), if_neg fun h => hl (Fin.ext h.symm), smul_zero]
  · exact fun h => absurd (Finset.mem_univ _) h

/-- After subtracting `Σ_j (q_j·r) q_j` the vector is orthogonal to every `q_i` — for ANY `r`. -/
theorem gs_orth {q : Nat → Fin n → K} {k : Nat} (ho : Orth q k) (r : Fin n → K) (i : Nat) (hi : i ≤ k) :
    q i ⬝ᵥ (r - ∑ j : Fin (k + 1), (q j.1 ⬝ᵥ r) • q j.1) = 0 := by
  rw [dotProduct_sub, ho.dot_sum (fun j => q j ⬝ᵥ r) hi, sub_self]

/-- If `r` is already orthogonal to all `q_j` the correction vanishes. -/
theorem corr_zero {q : Nat → Fin n → K} {k : Nat} (r : Fin n → K) (h : ∀ j, j ≤ k → q j ⬝ᵥ r = 0) :
    ∑ j : Fin (k + 1), (q j.1 ⬝ᵥ r) • q j.1 = 0 := by
  apply Finset.sum_eq_zero
  intro j _
  rw [h j.1 (by omega), zero_smul]

/-- Normalising by a lawful square root gives a unit vector. -/
theorem unit_of_norm {ops : NumOps K} (hs : SqrtLaw ops) (w : Fin n → K)
    (hb : ops.sqrt (w ⬝ᵥ w) ≠ 0) :
    ((ops.sqrt (w ⬝ᵥ w))⁻¹ • w) ⬝ᵥ ((ops.sqrt (w ⬝ᵥ w))⁻¹ • w) = 1 := by
  rw [smul_dotProduct, dotProduct_smul, smul_eq_mul, smul_eq_mul]
  have h := hs.mul_self _ (dot_self_nonneg w)
  generalize ops.sqrt (w ⬝ᵥ w) = b at *
  rw [← h]; field_simp

/-- Extending an orthonormal family by a unit vector orthogonal to it. -/
theorem orth_extend {q : Nat → Fin n → K} {k : Nat} (ho : Orth q k) (hw : ∀ j, j ≤ k → q j ⬝ᵥ q (k + 1) = 0)
    (hu : q (k + 1) ⬝ᵥ q (k + 1) = 1) : Orth q (k + 1) := by
  intro i j hi hj
  rcases Nat.lt_or_eq_of_le hi with hi' | rfl <;> rcases Nat.lt_or_eq_of_le hj with hj' | rfl
  · exact ho i j (Nat.le_of_lt_succ hi') (Nat.le_of_lt_succ hj')
  · rw [hw i (Nat.le_of_lt_succ hi'), if_neg hi'.ne]
  · rw [dotProduct_comm, hw j (Nat.le_of_lt_succ hj'), if_neg hj'.ne']
  · rw [hu, if_pos rfl]

/-! ### The three-term recurrence -/

/-- `A q_j = β_{j-1} q_{j-1} + α_j q_j + β_j q_{j+1}` for `j < k`
(`Aq j` stands for `A q_j`, `t` for the buffer `t_mat`). -/
def Rec (Aq q : Nat → Fin n → K) (t : Nat → Nat → K) (k : Nat) : Prop :=
  ∀ j, j < k → Aq j = (if j = 0 then 0 else t j (j - 1) • q (j - 1)) + t j j • q j + t j (j + 1) • q (j + 1)

/-- A sum against a tridiagonal column has at most three terms: split the range at `j`. -/
theorem sum_tridiag {M : Type} [AddCommMonoid M] {m : Nat} (g : Nat → M) (j : Nat) (hj : j < m)
    (hz : ∀ l, l < m → (l + 1 < j ∨ j + 1 < l) → g l = 0) :
    ∑ l : Fin m, g l.1 = (if j = 0 then 0 else g (j - 1)) + g j + (if j + 1 < m then g (j + 1) else 0) := by
  rw [Fin.sum_univ_eq_sum_range (fun l => g l) m, ← Finset.sum_range_add_sum_Ico g (Nat.succ_le_of_lt hj),
    Finset.sum_range_succ]
  congr 2
  · -- below `j` only `g (j - 1)` is left
    cases j with
    | zero => rfl
    | succ j =>
      have h0 : ∑ l ∈ Finset.range j, g l = 0 := Finset.sum_eq_zero fun l hl => by
        have := Finset.mem_range.mp hl
        exact hz l (by omega) (.inl (by omega))
      rw [Finset.sum_range_succ, h0, zero_add, if_neg (Nat.succ_ne_zero j), Nat.add_sub_cancel]
  · -- above `j` only `g (j + 1)`
    by_cases h : j + 1 < m
    · rw [if_pos h, Finset.sum_eq_sum_Ico_succ_bot h,
        Finset.sum_eq_zero fun l hl => hz l (Finset.mem_Ico.mp hl).2 (.inr (Finset.mem_Ico.mp hl).1), add_zero]
    · rw [if_neg h, Finset.Ico_eq_empty (by omega), Finset.sum_empty]

/-- Column `j` of `Q T` for a symmetric tridiagonal `T`, in the shape of the three-term recurrence. -/
theorem tridiag_col {m : Nat} (q : Nat → Fin n → K) {t : Nat → Nat → K} (hsym : ∀ i j, t i j = t j i)
    (htri : ∀ i j, i + 1 < j ∨ j + 1 < i → t i j = 0) {j : Nat} (hj : j < m) :
    ∑ l : Fin m, t l.1 j • q l.1 =
      (if j = 0 then 0 else t j (j - 1) • q (j - 1)) + t j j • q j
        + (if j + 1 < m then t j (j + 1) • q (j + 1) else 0) := by
  rw [sum_tridiag (fun l => t l j • q l) j hj (fun l _ hl => by rw [htri l j hl, zero_smul]), hsym (j - 1) j,
    hsym (j + 1) j]

/-- The recurrence read as a sum: `A q_j` is column `j` of `Q T`, `A q_j = Σ_{l ≤ k} T[l,j] q_l` — the only place where the
three terms are matched against the band of `T`. -/
theorem Rec.sum {Aq q : Nat → Fin n → K} {t : Nat → Nat → K} {k : Nat} (hr : Rec Aq q t k)
    (hsym : ∀ i j, t i j = t j i) (htri : ∀ i j, i + 1 < j ∨ j + 1 < i → t i j = 0) {j : Nat} (hj : j < k) :
    Aq j = ∑ l : Fin (k + 1), t l.1 j • q l.1 := by
  rw [tridiag_col q hsym htri (Nat.lt_succ_of_lt hj), if_pos (Nat.succ_lt_succ hj)]
  exact hr j hj

/-- `q_i · A q_j = T[i,j]` for a column `j` that has its recurrence: the coordinates of `A q_j` in the orthonormal family. -/
theorem rec_proj {Aq q : Nat → Fin n → K} {t : Nat → Nat → K} {k : Nat} (ho : Orth q k) (hr : Rec Aq q t k)
    (hsym : ∀ i j, t i j = t j i) (htri : ∀ i j, i + 1 < j ∨ j + 1 < i → t i j = 0) {i j : Nat} (hi : i ≤ k)
    (hj : j < k) : q i ⬝ᵥ Aq j = t i j := by
  rw [hr.sum hsym htri hj, ho.dot_sum (fun l => t l j) hi]

/-- The residual of step `k` (after removing the `q_{k-1}` and `q_k` components) is orthogonal to all
previous Lanczos vectors: symmetry + recurrence + orthonormality. -/
theorem residual_orth {Aq q : Nat → Fin n → K} {t : Nat → Nat → K} {k : Nat} (hk : 1 ≤ k)
    (ho : Orth q k) (hr : Rec Aq q t k) (hA : ∀ i j, i ≤ k → j ≤ k → q i ⬝ᵥ Aq j = Aq i ⬝ᵥ q j)
    (hsym : ∀ i j, t i j = t j i) (htri : ∀ i j, i + 1 < j ∨ j + 1 < i → t i j = 0) (j : Nat) (hj : j ≤ k) :
    q j ⬝ᵥ (Aq k - t k (k - 1) • q (k - 1) - (q k ⬝ᵥ (Aq k - t k (k - 1) • q (k - 1))) • q k) = 0 := by
  have hkk : q k ⬝ᵥ q (k - 1) = 0 := (ho k (k - 1) le_rfl (by omega)).trans (if_neg (by omega))
  simp only [dotProduct_sub, dotProduct_smul, smul_eq_mul, hkk, mul_zero, sub_zero]
  rcases Nat.lt_or_eq_of_le hj with hlt | rfl
  · -- `q_j · A q_k = q_k · A q_j = T[k,j]`: it is `β_{k−1}` for `j = k − 1` and `0` below
    rw [hA j k hj le_rfl, dotProduct_comm, rec_proj ho hr hsym htri le_rfl hlt, ho j k hj le_rfl, if_neg hlt.ne,
      mul_zero, sub_zero, ho j (k - 1) hj (by omega)]
    by_cases h : j = k - 1
    · rw [if_pos h, h, mul_one, sub_self]
    · rw [if_neg h, mul_zero, sub_zero, htri k j (by omega)]
  · rw [ho j j le_rfl le_rfl, if_pos rfl, hkk, mul_zero, sub_zero, mul_one, sub_self]

/-- One Lanczos step on sequences.  If `q_0 … q_k` are orthonormal with the recurrence below `k`, the rest `r` of `A q_k` after its
`q_{k−1}` and `q_k` terms is orthogonal to them, `T[k,k+1] = ‖r‖ ≠ 0` and `q_{k+1} = r/‖r‖`, then `q_0 … q_{k+1}` are orthonormal
with the recurrence below `k + 1`.  The step before the loop (`k = 0`) and every iteration of the loop are instances. -/
theorem lanczos_extend {ops : NumOps K} (hs : SqrtLaw ops) {Aq q : Nat → Fin n → K} {t : Nat → Nat → K} {k : Nat}
    (ho : Orth q k) (hr : Rec Aq q t k) {r : Fin n → K} (h0 : ∀ j, j ≤ k → q j ⬝ᵥ r = 0)
    (hk : Aq k = (if k = 0 then 0 else t k (k - 1) • q (k - 1)) + t k k • q k + r)
    (hβ : t k (k + 1) = ops.sqrt (r ⬝ᵥ r)) (hb : t k (k + 1) ≠ 0) (hq : q (k + 1) = (t k (k + 1))⁻¹ • r) :
    Orth q (k + 1) ∧ Rec Aq q t (k + 1) := by
  refine ⟨orth_extend ho (fun j hj => ?_) ?_, fun j hj => ?_⟩
  · rw [hq, dotProduct_smul, h0 j hj, smul_zero]
  · rw [hq, hβ]
    exact unit_of_norm hs r (hβ ▸ hb)
  · rcases Nat.lt_or_eq_of_le (Nat.lt_succ_iff.mp hj) with hlt | rfl
    · exact hr j hlt
    · rw [hk, hq, smul_smul, mul_inv_cancel₀ hb, one_smul]

end LinOp.C09
