/-
C09 — the start vector enters `lanczos_tridiag` only through `q_0_vec = init_vecs / ‖init_vecs‖` (no eps, no clamp):
rescaling it by any `c > 0` gives the same `q_0`, hence the same state before the loop; and the loop never writes `q_mat[0]`.
-/
import LinOp.C09.ProofsRun

namespace LinOp.C09
open Matrix

variable {K : Type} [Field K] [LinearOrder K] [IsStrictOrderedRing K] {n : Nat}

/-- `‖c·v‖ = c·‖v‖` for `c ≥ 0` -/
theorem norm_vscale {ops : NumOps K} (hs : SqrtLaw ops) (v : Vec K n) {c : K} (hc : 0 ≤ c) :
    norm ops (vscale v c) = c * norm ops v := by
  simp only [norm, dot_eq, fn_vscale, smul_dotProduct, dotProduct_smul, smul_eq_mul]
  rw [← mul_assoc, hs.sqrt_mul (mul_nonneg hc hc) (dot_self_nonneg (fn v)), hs.sqrt_mul_self hc]

/-- The normalised start vector does not see a positive factor: `(c·v)/‖c·v‖ = v/‖v‖` (also for `v = 0`: both are `0/0`). -/
theorem q0_scale {ops : NumOps K} (hs : SqrtLaw ops) (v : Vec K n) {c : K} (hc : 0 < c) :
    vdiv (vscale v c) (norm ops (vscale v c)) = vdiv v (norm ops v) := by
  apply fn_inj
  rw [norm_vscale hs v hc.le, fn_vdiv, fn_vscale, fn_vdiv, smul_smul, mul_comm c, mul_inv, mul_assoc,
    inv_mul_cancel₀ hc.ne', mul_one]

variable {ops : NumOps K} {p : Params K}

theorem init0_scale (hs : SqrtLaw ops) (amul : Vec K n → Vec K n) (N : Nat) (v : Vec K n) {c : K} (hc : 0 < c) :
    init0 ops amul N (vscale v c) = init0 ops amul N v := by
  simp only [init0, q0_scale hs v hc]

theorem init_scale (hs : SqrtLaw ops) (amul : Vec K n → Vec K n) (N : Nat) (v : Vec K n) {c : K} (hc : 0 < c) :
    init ops amul N (vscale v c) = init ops amul N v := by
  simp only [init, init0_scale hs amul N v hc]

/-- the loop never writes `q_mat[0]` -/
theorem loop_Q0 (amul : Vec K n → Vec K n) (numIter : Nat) :
    ∀ (rem k : Nat) (s : St K n), 1 ≤ k → Qf (loop ops p amul numIter rem k s).2 0 = Qf s 0 := by
  intro rem
  induction rem with
  | zero => intro k s _; rfl
  | succ rem ih =>
    intro k s hk
    have hb : Qf (body ops p amul numIter k s).1 0 = Qf s 0 := by
      by_cases h : k + 1 < numIter
      · rw [body_then h, Qf, upd_get, if_neg (by omega)]; rfl
      · rw [body_else h]; rfl
    rw [loop]
    split
    · exact hb
    · exact (ih (k + 1) _ (by omega)).trans hb

end LinOp.C09
