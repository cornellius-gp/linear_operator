/-
C09 — end-to-end composition for `lanczosTridiag` run on the closure `x ↦ A x` of a symmetric matrix: the matrix
identities `QᵀQ = 1`, `QᵀAQ = T`, `A Q − Q T = r e_kᵀ` assembled from the column-wise invariants, bounds for the fold in
`minDiag`, and a concrete instance over `ℝ` with `Real.sqrt`.
-/
import LinOp.C09.ProofsRun
import LinOp.C09.ProofsPost
import LinOp.C09.ProofsScale
import Mathlib.Analysis.Real.Sqrt
import Mathlib.Data.Matrix.Mul
import Mathlib.Algebra.BigOperators.Fin
import Mathlib.Tactic.FinCases
import Mathlib.Tactic.NormNum

set_option linter.unusedSectionVars false

namespace LinOp.C09
open Matrix

variable {K : Type} [Field K] [LinearOrder K] [IsStrictOrderedRing K] {n : Nat}

/-! ### the closure of a matrix -/

/-- `matmul_closure = lambda x: A @ x` for one column -/
def amulOf (A : Matrix (Fin n) (Fin n) K) : Vec K n → Vec K n := fun v => Vector.ofFn (A.mulVec (fn v))

@[simp] theorem fn_amulOf (A : Matrix (Fin n) (Fin n) K) (v : Vec K n) : fn (amulOf A v) = A.mulVec (fn v) := by
  funext i; simp [fn, amulOf]

/-- A symmetric matrix gives a self-adjoint closure. -/
theorem selfAdj_amulOf {A : Matrix (Fin n) (Fin n) K} (hA : Aᵀ = A) : SelfAdj (amulOf A) := by
  intro u w
  rw [fn_amulOf, fn_amulOf, Matrix.dotProduct_mulVec, ← Matrix.mulVec_transpose, hA]

theorem AQf_amulOf (A : Matrix (Fin n) (Fin n) K) (s : St K n) (j : Nat) :
    AQf (amulOf A) s j = A.mulVec (Qf s j) := by
  simp [AQf, Qf]

/-! ### matrix identities from the column-wise ones -/

/-- `QᵀQ = 1` from pairwise orthonormality: entry `(i, j)` of `QᵀQ` is `q_i · q_j` by definition. -/
theorem QtQ_of_orth (o : Out K n)
    (h : ∀ i j, i < o.count → j < o.count → Qf o.st i ⬝ᵥ Qf o.st j = if i = j then 1 else 0) :
    (Matrix.of o.Q)ᵀ * Matrix.of o.Q = 1 := by
  ext i j
  simp only [Matrix.one_apply, Fin.ext_iff]
  exact h i.1 j.1 i.2 j.2

/-- `QᵀAQ = T` from `q_i · A q_j = T[i,j]`. -/
theorem QtAQ_of_entries (A : Matrix (Fin n) (Fin n) K) (o : Out K n)
    (h : ∀ i j, i < o.count → j < o.count → Qf o.st i ⬝ᵥ AQf (amulOf A) o.st j = Tf o.st i j) :
    (Matrix.of o.Q)ᵀ * A * Matrix.of o.Q = Matrix.of o.T := by
  ext i j
  rw [Matrix.mul_assoc]
  exact (congrArg (Qf o.st i ⬝ᵥ ·) (AQf_amulOf A o.st j)).symm.trans (h i.1 j.1 i.2 j.2)

/-- the unnormalised residual of the last returned vector: `A q_k − β_{k−1} q_{k−1} − α_k q_k`, `k = count − 1`
(`= β_k q_{k+1}` of the next step, had the loop gone on) -/
def lastResidual (A : Matrix (Fin n) (Fin n) K) (o : Out K n) : Fin n → K :=
  A.mulVec (Qf o.st (o.count - 1))
    - (if o.count - 1 = 0 then 0 else Tf o.st (o.count - 1) (o.count - 1 - 1) • Qf o.st (o.count - 1 - 1))
    - Tf o.st (o.count - 1) (o.count - 1) • Qf o.st (o.count - 1)

/-- `r e_kᵀ`: the residual in the last column, zero elsewhere -/
def residualMat (A : Matrix (Fin n) (Fin n) K) (o : Out K n) : Matrix (Fin n) (Fin o.count) K :=
  fun a j => if j.1 + 1 = o.count then lastResidual A o a else 0

/-- `A Q − Q T = r e_kᵀ` from the three-term recurrence and the structure of `T`. -/
theorem AQ_sub_QT (A : Matrix (Fin n) (Fin n) K) (o : Out K n) (hT : TStruct o.st)
    (hr : Rec (AQf (amulOf A) o.st) (Qf o.st) (Tf o.st) (o.count - 1)) :
    A * Matrix.of o.Q - Matrix.of o.Q * Matrix.of o.T = residualMat A o := by
  ext a j
  have hQT : (Matrix.of o.Q * Matrix.of o.T) a j = (∑ l : Fin o.count, Tf o.st l.1 j.1 • Qf o.st l.1) a := by
    rw [Matrix.mul_apply, Finset.sum_apply]
    exact Finset.sum_congr rfl fun (l : Fin o.count) _ => mul_comm (Qf o.st l.1 a) (Tf o.st l.1 j.1)
  rw [Matrix.sub_apply, hQT, tridiag_col (Qf o.st) hT.sym hT.tri j.2, residualMat]
  by_cases hlast : j.1 + 1 = o.count
  · -- last column: what is left of `A q_k` is the residual
    have hk : o.count - 1 = j.1 := by omega
    rw [if_pos hlast, if_neg (show ¬ j.1 + 1 < o.count by omega), add_zero, lastResidual, hk, sub_sub]
    rfl
  · have hrec := hr j.1 (by omega)
    rw [AQf_amulOf] at hrec
    rw [if_neg hlast, if_pos (show j.1 + 1 < o.count by omega), ← hrec]
    exact sub_self _

/-- Projection lemma on a finished state: `q_i · A q_j = T[i,j]` for all kept `i, j`. -/
theorem done_projection {amul : Vec K n → Vec K n} (hA : SelfAdj amul) {k : Nat} {s : St K n} (hT : TStruct s) (hd : Done amul k s)
    (i j : Nat) (hi : i ≤ k) (hj : j ≤ k) : Qf s i ⬝ᵥ AQf amul s j = Tf s i j := by
  have hlt : ∀ i j, i ≤ k → j < k → Qf s i ⬝ᵥ AQf amul s j = Tf s i j := fun i j =>
    rec_proj hd.orth hd.recur hT.sym hT.tri
  rcases Nat.lt_or_eq_of_le hj with hjl | rfl
  · exact hlt i j hi hjl
  · rcases Nat.lt_or_eq_of_le hi with hil | rfl
    · exact ((hA _ _).trans (dotProduct_comm _ _)).trans ((hlt j i le_rfl hil).trans (hT.sym j i))
    · exact hd.alpha.symm

/-- `Q Qᵀ` (always symmetric) is idempotent when `QᵀQ = 1`: an orthogonal projector. -/
theorem QQt_idem {m : Nat} (Q : Matrix (Fin n) (Fin m) K) (hQ : Qᵀ * Q = 1) : (Q * Qᵀ) * (Q * Qᵀ) = Q * Qᵀ := by
  calc Q * Qᵀ * (Q * Qᵀ) = Q * (Qᵀ * Q) * Qᵀ := by simp only [Matrix.mul_assoc]
    _ = Q * Qᵀ := by rw [hQ, Matrix.mul_one]

/-- From the column-wise invariants of a finished state to the matrix identities of the property, for the returned
`Q` (`n × count`) and `T` (`count × count`) and the closure `x ↦ A x` of a symmetric `A`:
`QᵀQ = 1`, `QᵀAQ = T`, `A Q − Q T = r e_kᵀ` (the residual `r = A q_k − β_{k−1} q_{k−1} − α_k q_k` in the LAST column,
zero elsewhere), `Q T Qᵀ = (QQᵀ) A (QQᵀ)` with `QQᵀ` an orthogonal projector, and `Q T Qᵀ = A` when `count = n`. -/
theorem matrix_identities_of_done {A : Matrix (Fin n) (Fin n) K} (hA : Aᵀ = A) (o : Out K n) (h1 : 1 ≤ o.count)
    (hT : TStruct o.st) (hd : Done (amulOf A) (o.count - 1) o.st) :
    (Matrix.of o.Q)ᵀ * Matrix.of o.Q = 1 ∧
    (Matrix.of o.Q)ᵀ * A * Matrix.of o.Q = Matrix.of o.T ∧
    A * Matrix.of o.Q - Matrix.of o.Q * Matrix.of o.T = residualMat A o ∧
    Matrix.of o.Q * Matrix.of o.T * (Matrix.of o.Q)ᵀ
      = (Matrix.of o.Q * (Matrix.of o.Q)ᵀ) * A * (Matrix.of o.Q * (Matrix.of o.Q)ᵀ) ∧
    (Matrix.of o.Q * (Matrix.of o.Q)ᵀ) * (Matrix.of o.Q * (Matrix.of o.Q)ᵀ) = Matrix.of o.Q * (Matrix.of o.Q)ᵀ ∧
    (o.count = n → Matrix.of o.Q * Matrix.of o.T * (Matrix.of o.Q)ᵀ = A) := by
  have hQ := QtQ_of_orth o (fun i j hi hj => hd.orth i j (by omega) (by omega))
  have hP := QtAQ_of_entries A o
    (fun i j hi hj => done_projection (selfAdj_amulOf hA) hT hd i j (by omega) (by omega))
  exact ⟨hQ, hP, AQ_sub_QT A o hT hd.recur, lanczos_compression _ A _ hP, QQt_idem _ hQ,
    fun hn => full_of_card _ A _ hn hQ hP⟩

/-! ### `minDiag` -/

theorem foldl_min_spec {m : Nat} (T : Mat K m m) (l : List (Fin m)) (a : K) :
    l.foldl (fun acc i => min (T i i) acc) a ≤ a ∧
    (∀ i ∈ l, l.foldl (fun acc i => min (T i i) acc) a ≤ T i i) ∧
    (l.foldl (fun acc i => min (T i i) acc) a = a ∨ ∃ i ∈ l, l.foldl (fun acc i => min (T i i) acc) a = T i i) := by
  induction l generalizing a with
  | nil => simp
  | cons i l ih =>
    obtain ⟨h1, h2, h3⟩ := ih (min (T i i) a)
    rw [List.foldl_cons]
    refine ⟨h1.trans (min_le_right _ _), ?_, ?_⟩
    · intro i' hi'
      rcases List.mem_cons.mp hi' with rfl | hmem
      · exact h1.trans (min_le_left _ _)
      · exact h2 i' hmem
    · rcases h3 with h3 | ⟨i', hi', h3⟩
      · rcases min_choice (T i i) a with hm | hm
        · exact Or.inr ⟨i, List.mem_cons_self, h3.trans hm⟩
        · exact Or.inl (h3.trans hm)
      · exact Or.inr ⟨i', List.mem_cons_of_mem _ hi', h3⟩

/-! ### a concrete instance over `ℝ` with the real square root -/

/-- the real scalar operations: `Real.sqrt`, `>`, `|·|` -/
noncomputable def realOps : NumOps ℝ :=
  { sqrt := Real.sqrt, gt := fun a b => decide (b < a), abs := fun x => |x| }

theorem realOps_law : SqrtLaw realOps :=
  ⟨fun _ hx => Real.mul_self_sqrt hx, Real.sqrt_nonneg⟩

/-- `A = [[2,1],[1,3]]`, start vector `e_0`, budget 2 -/
def exA : Matrix (Fin 2) (Fin 2) ℝ := !![2, 1; 1, 3]
def exV : Vec ℝ 2 := #v[1, 0]
noncomputable def exP : Params ℝ :=
  { tol := 1 / 100000, extra := 10, breakTol := 1 / 1000000, guardsSingle := true }

theorem exA_symm : exAᵀ = exA := by
  ext i j; fin_cases i <;> fin_cases j <;> rfl

theorem ex_fn_v : fn exV = ![1, 0] := by
  funext i; fin_cases i <;> rfl

theorem exV_ne : fn exV ⬝ᵥ fn exV ≠ 0 := by
  rw [ex_fn_v]; simp [dotProduct, Fin.sum_univ_two]

/-- `β_0 = ‖A q_0 − α_0 q_0‖ = ‖(0, 1)‖ = 1` with the real square root -/
theorem ex_beta0 : (init0 realOps (amulOf exA) 2 exV).2.2 = 1 := by
  simp only [init0, norm, dot_eq, fn_vsub, fn_vscale, fn_vdiv, fn_amulOf, ex_fn_v]
  simp [realOps, exA, Matrix.mulVec, dotProduct, Fin.sum_univ_two]

/-- The run of the model on this instance over `ℝ`: two iterations, no breakdown — all hypotheses of the
theorems (`SqrtLaw`, `SelfAdj`, non-zero start vector, `guardsSingle`, budget, `BetaOK`) hold together. -/
theorem real_instance :
    SqrtLaw realOps ∧ SelfAdj (amulOf exA) ∧ fn exV ⬝ᵥ fn exV ≠ 0 ∧ exP.guardsSingle = true ∧ 1 ≤ min 2 2 ∧
    ∃ o, lanczosTridiag realOps exP (amulOf exA) 2 exV = .ok o ∧ o.count = 2 ∧ BetaOK (o.count - 1) o.st := by
  refine ⟨realOps_law, selfAdj_amulOf exA_symm, exV_ne, rfl, by decide, ?_⟩
  have hguard : realOps.gt (realOps.abs (init0 realOps (amulOf exA) 2 exV).2.2) exP.breakTol = true := by
    rw [ex_beta0]
    simp [realOps, exP]
    norm_num
  -- one iteration, `k = 1`, without a re-orthogonalisation block: no break
  have hrun : lanczosTridiag realOps exP (amulOf exA) 2 exV
      = .ok (Out.ofLoop (2, (body realOps exP (amulOf exA) 2 1 (init realOps (amulOf exA) 2 exV)).1)) := by
    rw [lanczosTridiag_loop (by decide) fun _ => hguard]
    show Except.ok (Out.ofLoop (loop realOps exP (amulOf exA) 2 (0 + 1) 1 (init realOps (amulOf exA) 2 exV))) = _
    rw [loop, body_else (by omega)]
    rfl
  refine ⟨_, hrun, rfl, fun j hj => ?_⟩
  obtain rfl : j = 0 := by
    have : j < 2 - 1 := hj
    omega
  show Tf (body realOps exP (amulOf exA) 2 1 (init realOps (amulOf exA) 2 exV)).1 0 (0 + 1) ≠ 0
  rw [(body_step realOps_law ..).Tf_frame 0 (0 + 1) (by omega), init_T]
  simp [ex_beta0]

end LinOp.C09
