/-
C09 — the coupled model with ONE column is the single-column model: `lanczosMulti` on `C = 1` returns exactly what
`lanczosTridiag` returns (count, both buffers, number of extra passes).  A program equivalence: it holds for every scalar
type with the notation classes (so also for the `Float` run of the driver), no algebraic law is used.
-/
import LinOp.C09.Multi

namespace LinOp.C09

variable {α : Type} {n : Nat}

theorem ofFn_one {β : Type} (f : Fin 1 → β) : Vector.ofFn f = #v[f 0] := by
  apply Vector.ext
  intro i hi
  have : i = 0 := by omega
  subst this
  simp

theorem getElem_one {β : Type} (x : β) : (#v[x] : Vector β 1)[(0 : Fin 1)] = x := rfl

theorem anyCol_one (f : Fin 1 → Bool) : anyCol 1 f = f 0 := by
  simp [anyCol, List.finRange_succ]

section
variable [Add α] [Sub α] [Mul α] [Div α] [Zero α] (ops : NumOps α)

theorem extraPassesM_one (tol : α) (m : Nat) (q : Fam (Vec α n)) :
    ∀ (fuel : Nat) (r : Vec α n),
      extraPassesM ops tol m (#v[q] : Vector (Fam (Vec α n)) 1) fuel #v[r]
        = (#v[(extraPasses ops tol m q fuel r).1], (extraPasses ops tol m q fuel r).2.1,
            (extraPasses ops tol m q fuel r).2.2) := by
  intro fuel
  induction fuel with
  | zero => intro r; rfl
  | succ f ih =>
    intro r
    simp only [extraPassesM, extraPasses, anyCol_one, ofFn_one, getElem_one]
    split
    · rfl
    · rw [ih]

theorem bodyM_one (p : Params α) (amul : Vec α n → Vec α n) (numIter k : Nat) (s : St α n) :
    bodyM ops p (fun _ : Fin 1 => amul) numIter k #v[s]
      = (#v[(body ops p amul numIter k s).1], (body ops p amul numIter k s).2) := by
  unfold bodyM body
  by_cases h : k + 1 < numIter
  · simp only [h, if_true, ofFn_one, anyCol_one, getElem_one _, extraPassesM_one]
    rfl
  · simp only [h, if_false, ofFn_one, getElem_one _]
    rfl

theorem loopM_one (p : Params α) (amul : Vec α n → Vec α n) (numIter : Nat) :
    ∀ (rem k : Nat) (s : St α n),
      loopM ops p (fun _ : Fin 1 => amul) numIter rem k #v[s]
        = ((loop ops p amul numIter rem k s).1, #v[(loop ops p amul numIter rem k s).2]) := by
  intro rem
  induction rem with
  | zero => intro k s; rfl
  | succ rem ih =>
    intro k s
    simp only [loopM, loop, bodyM_one]
    split
    · rfl
    · exact ih _ _

/-- `lanczosMulti` on a single column is `lanczosTridiag` (code as it is now, `guardsSingle = true`). -/
theorem lanczosMulti_one (p : Params α) (hg : p.guardsSingle = true) (amul : Vec α n → Vec α n) (maxIter : Nat)
    (v : Vec α n) :
    (lanczosMulti ops p (fun _ : Fin 1 => amul) maxIter #v[v]).map (fun o => o.col 0)
      = lanczosTridiag ops p amul maxIter v := by
  unfold lanczosMulti lanczosTridiag
  by_cases h0 : min maxIter n = 0
  · simp only [h0, if_true]
    rfl
  · simp only [h0, if_false, hg, if_true, anyCol_one, getElem_one]
    split
    · simp only [ofFn_one, getElem_one, loopM_one]
      rfl
    · simp only [ofFn_one, getElem_one]
      rfl

end
end LinOp.C09
