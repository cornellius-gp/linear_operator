/-
C09 — the state before the loop of `lanczos_tridiag`: `init0` (everything except the three writes at index 1, which is
also what a call returns when the first step already exhausts the budget or the Krylov space) and `init`.
-/
import LinOp.C09.ProofsLoop

namespace LinOp.C09
open Matrix

variable {K : Type} [Field K] [LinearOrder K] [IsStrictOrderedRing K] {n : Nat}
variable {ops : NumOps K} {amul : Vec K n → Vec K n} {numIter : Nat}

/-- A state whose `q_0` is the normalised start vector and whose `t_mat[0,0]` is `q_0·A q_0` has one final vector. -/
theorem done_zero (hs : SqrtLaw ops) {s : St K n} {v : Vec K n} (hv : fn v ⬝ᵥ fn v ≠ 0)
    (hq : Qf s 0 = (ops.sqrt (fn v ⬝ᵥ fn v))⁻¹ • fn v) (ht : Tf s 0 0 = Qf s 0 ⬝ᵥ AQf amul s 0) : Done amul 0 s := by
  refine ⟨?_, fun j hj => absurd hj (Nat.not_lt_zero j), ht⟩
  intro i j hi hj
  obtain rfl : i = 0 := by omega
  obtain rfl : j = 0 := by omega
  rw [hq, if_pos rfl]
  exact unit_of_norm hs (fn v) (hs.sqrt_ne_zero (dot_self_nonneg _) hv)

section
variable (ops) (amul) (numIter) (v : Vec K n)

theorem init0_Q0 : Qf (init0 ops amul numIter v).1 0 = (ops.sqrt (fn v ⬝ᵥ fn v))⁻¹ • fn v := by
  show fn ((upd _ 0 (vdiv v (norm ops v))).get 0) = _
  rw [upd_get, if_pos rfl, fn_vdiv, norm, dot_eq]

theorem init0_T (i j : Nat) :
    Tf (init0 ops amul numIter v).1 i j =
      if i = 0 ∧ j = 0 then Qf (init0 ops amul numIter v).1 0 ⬝ᵥ AQf amul (init0 ops amul numIter v).1 0
      else 0 := by
  simp [Tf, Qf, AQf, init0, dot_eq, Fam.const]

theorem init0_tstruct : TStruct (init0 ops amul numIter v).1 :=
  TStruct.tset_diag (s := ({ q := Fam.const numIter vzero, t := Fam.const numIter (Fam.const numIter 0) } : St K n))
    ⟨fun _ _ => rfl, fun _ _ _ => rfl⟩ rfl

theorem init_Q0 : Qf (init ops amul numIter v) 0 = (ops.sqrt (fn v ⬝ᵥ fn v))⁻¹ • fn v := by
  rw [← init0_Q0 ops amul numIter v]
  show fn ((upd _ 1 _).get 0) = _
  rw [upd_get, if_neg (by decide)]
  rfl

theorem init_T (i j : Nat) :
    Tf (init ops amul numIter v) i j =
      if i = 1 ∧ j = 0 then (init0 ops amul numIter v).2.2
      else if i = 0 ∧ j = 1 then (init0 ops amul numIter v).2.2
      else if i = 0 ∧ j = 0 then Qf (init ops amul numIter v) 0 ⬝ᵥ AQf amul (init ops amul numIter v) 0
      else 0 := by
  simp [Tf, Qf, AQf, init, init0, dot_eq, Fam.const]

theorem init_tstruct : TStruct (init ops amul numIter v) :=
  (init0_tstruct ops amul numIter v).tset_pair (k := 0) rfl

end

theorem init0_done (hs : SqrtLaw ops) (v : Vec K n) (hv : fn v ⬝ᵥ fn v ≠ 0) :
    Done amul 0 (init0 ops amul numIter v).1 :=
  done_zero hs hv (init0_Q0 ..) (by rw [init0_T, if_pos ⟨rfl, rfl⟩])

theorem init_done (hs : SqrtLaw ops) (v : Vec K n) (hv : fn v ⬝ᵥ fn v ≠ 0) :
    Done amul 0 (init ops amul numIter v) :=
  done_zero hs hv (init_Q0 ..) (by rw [init_T]; simp)

/-- The first step is `lanczos_extend` at `k = 0`: `q_1 = r/β_0` for the residual `r = A q_0 − α_0 q_0`. -/
theorem init_top (hs : SqrtLaw ops) (v : Vec K n) (hv : fn v ⬝ᵥ fn v ≠ 0)
    (hb : BetaOK 1 (init ops amul numIter v)) : Top amul 1 (init ops amul numIter v) := by
  have hd := init_done (amul := amul) (numIter := numIter) hs v hv
  have t01 : Tf (init ops amul numIter v) 0 1 = (init0 ops amul numIter v).2.2 := by
    rw [init_T]; simp
  have hr : fn (init0 ops amul numIter v).2.1
      = AQf amul (init ops amul numIter v) 0 - Tf (init ops amul numIter v) 0 0 • Qf (init ops amul numIter v) 0 := by
    simp [Tf, Qf, AQf, init, init0, dot_eq]
  refine .of_and (lanczos_extend hs hd.orth hd.recur (r := fn (init0 ops amul numIter v).2.1) (fun j hj => ?_) ?_ ?_
    (hb 0 Nat.one_pos) ?_)
  · obtain rfl : j = 0 := by omega
    rw [hr, dotProduct_sub, dotProduct_smul, (hd.orth 0 0 le_rfl le_rfl).trans (if_pos rfl), hd.alpha, smul_eq_mul,
      mul_one, sub_self]
  · rw [if_pos rfl, hr]; abel
  · rw [t01]; simp [init0, norm, dot_eq]
  · rw [t01]; simp [Qf, init]

/-- The states before the loop satisfy the invariant at `k = 1`. -/
theorem init_inv (hs : SqrtLaw ops) (N : Nat) (v : Vec K n) (hv : fn v ⬝ᵥ fn v ≠ 0) :
    ColInv amul N 1 (init ops amul N v) :=
  ⟨init_tstruct .., fun j hj _ => by obtain rfl := Nat.lt_one_iff.mp hj; exact init_done hs v hv,
    fun _ hb => init_top hs v hv hb⟩

/-- …and so does the state returned when the first step is not passed (nothing at index 1 is written). -/
theorem init0_inv (hs : SqrtLaw ops) (N : Nat) (v : Vec K n) (hv : fn v ⬝ᵥ fn v ≠ 0) :
    ColInv amul N 1 (init0 ops amul N v).1 :=
  ⟨init0_tstruct .., fun j hj _ => by obtain rfl := Nat.lt_one_iff.mp hj; exact init0_done hs v hv,
    fun _ hb => absurd ((init0_T ..).trans (if_neg (by omega))) (hb 0 Nat.one_pos)⟩

end LinOp.C09
