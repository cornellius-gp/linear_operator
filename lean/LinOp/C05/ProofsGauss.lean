import Mathlib.LinearAlgebra.Matrix.NonsingularInverse
import Mathlib.Data.Matrix.Mul
/-!
C05 — Gauss–Lanczos quadrature below full dimension: for the tridiagonal matrix `T` of Krylov dimension `c` of `(A, u)`
the node `e₁ᵀ p(T) e₁` equals `uᵀ p(A) u` for every monomial (hence polynomial) of degree ≤ 2c−1 — the defining exactness
of a c-point Gauss rule for the spectral measure of `(A, u)`.  The Krylov dimension is a number `c` and the first index any
`e : Fin c` with `e.1 = 0`, so that `0 : Fin (k+1)` and `⟨0, h⟩ : Fin count` are both instances.
-/
namespace LinOp.C05
open Matrix

variable {R : Type} [CommRing R] {n c : Nat}

/-- The Lanczos relation: what `lanczos_tridiag` returns for a symmetric `A` (C09 `matrix_identities_of_done`): orthonormal
`Q` (`n × c`), `T = QᵀAQ` with nothing below the subdiagonal, and `A Q = Q T` off the last column (the residual lives there). -/
structure LanczosRel (A : Matrix (Fin n) (Fin n) R) (Q : Matrix (Fin n) (Fin c) R) (T : Matrix (Fin c) (Fin c) R) : Prop where
  symm : Aᵀ = A
  orth : Qᵀ * Q = 1
  proj : Qᵀ * A * Q = T
  hess : ∀ i j : Fin c, j.1 + 1 < i.1 → T i j = 0
  res : ∀ (i : Fin n) (j : Fin c), j.1 + 1 < c → (A * Q) i j = (Q * T) i j

variable {A : Matrix (Fin n) (Fin n) R} {Q : Matrix (Fin n) (Fin c) R} {T : Matrix (Fin c) (Fin c) R}

/-- `(T^d e₁)ᵢ = 0` for `i > d` -/
theorem pow_mulVec_e1_zero (hT : ∀ i j : Fin c, j.1 + 1 < i.1 → T i j = 0) (e : Fin c) (he : e.1 = 0) :
    ∀ (d : Nat) (i : Fin c), d < i.1 → ((T ^ d).mulVec (Pi.single e 1)) i = 0 := by
  intro d
  induction d with
  | zero =>
    intro i hi
    rw [pow_zero, Matrix.one_mulVec, Pi.single_eq_of_ne fun h => by subst h; exact Nat.lt_irrefl 0 (he ▸ hi)]
  | succ d ih =>
    intro i hi
    rw [pow_succ', ← Matrix.mulVec_mulVec, Matrix.mulVec, dotProduct]
    refine Finset.sum_eq_zero fun j _ => ?_
    by_cases hj : d < j.1
    · rw [ih j hj, mul_zero]
    · rw [hT i j (Nat.lt_of_le_of_lt (Nat.succ_le_succ (Nat.le_of_not_lt hj)) hi), zero_mul]

/-- `A^d u = Q T^d e₁` for `d < c` (`u = Q e₁`). -/
theorem LanczosRel.krylov_pow (h : LanczosRel A Q T) (e : Fin c) (he : e.1 = 0) :
    ∀ d, d < c → (A ^ d).mulVec (Q.mulVec (Pi.single e 1)) = Q.mulVec ((T ^ d).mulVec (Pi.single e 1)) := by
  intro d
  induction d with
  | zero => intro _; rw [pow_zero, pow_zero, Matrix.one_mulVec, Matrix.one_mulVec]
  | succ d ih =>
    intro hd
    rw [pow_succ', ← Matrix.mulVec_mulVec, ih (Nat.lt_of_succ_lt hd), Matrix.mulVec_mulVec, pow_succ',
      ← Matrix.mulVec_mulVec (M := T), Matrix.mulVec_mulVec (M := Q) (N := T)]
    -- `A Q` and `Q T` differ in the last column only, where `T^d e₁` vanishes
    have hw := pow_mulVec_e1_zero h.hess e he d
    generalize (T ^ d).mulVec (Pi.single e 1) = w at hw ⊢
    funext i
    simp only [Matrix.mulVec, dotProduct]
    refine Finset.sum_congr rfl fun j _ => ?_
    by_cases hj : j.1 + 1 < c
    · rw [h.res i j hj]
    · rw [hw j (Nat.lt_of_succ_lt_succ (Nat.lt_of_lt_of_le hd (Nat.le_of_not_lt hj))), mul_zero, mul_zero]

theorem sym_pow_dot {m : Nat} (M : Matrix (Fin m) (Fin m) R) (hM : Mᵀ = M) (a : Nat) (v x : Fin m → R) :
    (M ^ a).mulVec v ⬝ᵥ x = v ⬝ᵥ (M ^ a).mulVec x := by
  have ht : (M ^ a)ᵀ = M ^ a := by rw [Matrix.transpose_pow, hM]
  rw [← Matrix.vecMul_transpose, ht, ← Matrix.dotProduct_mulVec]

theorem mulVec_dot {m p : Nat} (Q : Matrix (Fin m) (Fin p) R) (w : Fin p → R) (y : Fin m → R) :
    Q.mulVec w ⬝ᵥ y = w ⬝ᵥ Qᵀ.mulVec y := by
  rw [← Matrix.vecMul_transpose, ← Matrix.dotProduct_mulVec]

/-- **Gauss–Lanczos exactness**: `uᵀ A^d u = e₁ᵀ T^d e₁` for every `d ≤ 2c − 1` (`u = Q e₁`). -/
theorem LanczosRel.gauss_exact (h : LanczosRel A Q T) (e : Fin c) (he : e.1 = 0) (d : Nat) (hd : d + 1 ≤ 2 * c) :
    Q.mulVec (Pi.single e 1) ⬝ᵥ (A ^ d).mulVec (Q.mulVec (Pi.single e 1))
      = (Pi.single e 1 : Fin c → R) ⬝ᵥ (T ^ d).mulVec (Pi.single e 1) := by
  have hTs : Tᵀ = T := by
    rw [← h.proj, Matrix.transpose_mul, Matrix.transpose_mul, Matrix.transpose_transpose, h.symm, Matrix.mul_assoc]
  have hkp := h.krylov_pow e he
  -- `d = a + s + b` with `a, b < c` (where `A^a u = Q T^a e₁`) and `Qᵀ A^s Q = T^s`: nothing to split for `d < c`,
  -- otherwise `(c − 1) + 1 + (d − c)`
  obtain ⟨a, s, b, rfl, ha, hb, hs⟩ : ∃ a s b, d = a + s + b ∧ a < c ∧ b < c ∧ Qᵀ * A ^ s * Q = T ^ s := by
    rcases Nat.lt_or_ge d c with hdc | hdc
    · exact ⟨d, 0, 0, rfl, hdc, e.pos, by rw [pow_zero, pow_zero, Matrix.mul_one, h.orth]⟩
    · exact ⟨c - 1, 1, d - c, by rw [Nat.sub_add_cancel e.pos, Nat.add_sub_of_le hdc], Nat.sub_lt e.pos Nat.one_pos,
        Nat.sub_lt_left_of_lt_add hdc (by rw [← Nat.two_mul]; exact hd), by rw [pow_one, pow_one, h.proj]⟩
  rw [pow_add, pow_add, ← Matrix.mulVec_mulVec, ← Matrix.mulVec_mulVec, ← sym_pow_dot A h.symm, hkp a ha, hkp b hb, mulVec_dot,
    Matrix.mulVec_mulVec, Matrix.mulVec_mulVec, hs, sym_pow_dot T hTs, Matrix.mulVec_mulVec, Matrix.mulVec_mulVec,
    ← pow_add, ← pow_add]

/-- spectral calculus for monomials: `(V diag(θ) Vᵀ)^d = V diag(θ^d) Vᵀ` when `VᵀV = 1`. -/
theorem eig_pow {m : Nat} (V : Matrix (Fin m) (Fin m) R) (θ : Fin m → R) (hV : Vᵀ * V = 1) (hV' : V * Vᵀ = 1) (d : Nat) :
    (V * Matrix.diagonal θ * Vᵀ) ^ d = V * Matrix.diagonal (fun j => θ j ^ d) * Vᵀ := by
  induction d with
  | zero => simp [hV']
  | succ d ih =>
    rw [pow_succ, ih]
    calc V * Matrix.diagonal (fun j => θ j ^ d) * Vᵀ * (V * Matrix.diagonal θ * Vᵀ)
        = V * (Matrix.diagonal (fun j => θ j ^ d) * ((Vᵀ * V) * Matrix.diagonal θ)) * Vᵀ := by
          simp only [Matrix.mul_assoc]
      _ = _ := by
          rw [hV, Matrix.one_mul, Matrix.diagonal_mul_diagonal]
          simp only [pow_succ]

theorem single_dot_single {m : Nat} (M : Matrix (Fin m) (Fin m) R) (e : Fin m) :
    (Pi.single e 1 : Fin m → R) ⬝ᵥ M.mulVec (Pi.single e 1) = M e e := by
  rw [single_one_dotProduct, mulVec_single_one]; rfl

/-- `(V diag(w) Vᵀ)[a,b] = Σⱼ V[a,j] V[b,j] wⱼ`: entry `(e,e)` is the quadrature sum with weights `V[e,j]²`. -/
theorem conj_diagonal_apply {ι κ : Type} [Fintype κ] [DecidableEq κ] (V : Matrix ι κ R) (w : κ → R) (a b : ι) :
    (V * Matrix.diagonal w * Vᵀ) a b = ∑ j, V a j * V b j * w j := by
  rw [Matrix.mul_apply]
  refine Finset.sum_congr rfl fun j _ => ?_
  rw [Matrix.mul_diagonal, Matrix.transpose_apply, mul_right_comm]

/-- one probe: the rule with nodes `θⱼ` and weights `V[0,j]²` integrates `x^d` to the moment `uᵀ A^d u`, `d ≤ 2c − 1`. -/
theorem LanczosRel.gauss_node_exact {V : Matrix (Fin c) (Fin c) R} {θ : Fin c → R}
    (h : LanczosRel A Q (V * Matrix.diagonal θ * Vᵀ)) (hV : Vᵀ * V = 1) (hV' : V * Vᵀ = 1)
    (e : Fin c) (he : e.1 = 0) (d : Nat) (hd : d + 1 ≤ 2 * c) :
    ∑ j, V e j * V e j * θ j ^ d
      = Q.mulVec (Pi.single e 1) ⬝ᵥ (A ^ d).mulVec (Q.mulVec (Pi.single e 1)) := by
  rw [h.gauss_exact e he d hd, single_dot_single, eig_pow V θ hV hV' d, conj_diagonal_apply]

/-- the hypotheses of `LanczosRel.gauss_node_exact` are satisfiable below full dimension (`n = 2`, Krylov dimension 1):
`A = [[2,1],[1,3]]`, `u = e₁`, `T = [2]`. -/
theorem slq_gauss_hyp_example :
    ∃ (A : Matrix (Fin 2) (Fin 2) ℚ) (Q : Matrix (Fin 2) (Fin 1) ℚ) (V : Matrix (Fin 1) (Fin 1) ℚ) (θ : Fin 1 → ℚ),
      Aᵀ = A ∧ Qᵀ * Q = 1 ∧ Qᵀ * A * Q = V * Matrix.diagonal θ * Vᵀ ∧ Vᵀ * V = 1 ∧ V * Vᵀ = 1 := by
  refine ⟨!![2, 1; 1, 3], !![1; 0], 1, fun _ => 2, ?_, ?_, ?_, ?_, ?_⟩ <;> decide +kernel

end LinOp.C05
