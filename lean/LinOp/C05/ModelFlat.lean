import LinOp.C05.ModelKron
import LinOp.Core.Index
/-!
C05 — row-major flattening of Kronecker multi-indices against flat index arithmetic (core Lean only).

`KIdx.flat l idx` is the position of the multi-index `idx` in a flat row-major tensor of sizes `l`
(`i₁·(n₂⋯n_k) + i₂·(n₃⋯n_k) + … + i_k`): what `reshape(-1)` / `view` do in `_kron_diag` and
`KroneckerProductLinearOperator._solve`.  `rowMajor_is_flat` proves that the enumeration `KIdx.all` used by the
model (`kronSolve`, `kronInvQuadCols`, and the driver's input / output order) visits exactly the flat positions
`0, 1, 2, …` in order — for every list of factor sizes.
-/
namespace LinOp.C05

/-- number of elements of a shape -/
def prodL (l : List Nat) : Nat := l.foldr (· * ·) 1

/-- flat row-major position of a multi-index -/
def KIdx.flat : (l : List Nat) → KIdx l → Nat
  | [], _ => 0
  | _ :: l, (i, j) => i.1 * prodL l + KIdx.flat l j

theorem prodL_cons (n : Nat) (l : List Nat) : prodL (n :: l) = n * prodL l := rfl

theorem KIdx.flat_lt : (l : List Nat) → (idx : KIdx l) → KIdx.flat l idx < prodL l
  | [], _ => by simp [KIdx.flat, prodL]
  | _ :: l, (i, j) => LinOp.flat_lt i.2 (KIdx.flat_lt l j)

/-- the leading index and the rest are recovered by division / remainder (flat index arithmetic) -/
theorem KIdx.flat_divmod (n : Nat) (l : List Nat) (i : Fin n) (j : KIdx l) :
    KIdx.flat (n :: l) (i, j) / prodL l = i.1 ∧ KIdx.flat (n :: l) (i, j) % prodL l = KIdx.flat l j :=
  ⟨mul_add_div_of_lt (KIdx.flat_lt l j), Nat.mul_add_mod_of_lt (KIdx.flat_lt l j)⟩

theorem range_blocks (P : Nat) : (n : Nat) →
    (List.range n).flatMap (fun i => (List.range P).map (i * P + ·)) = List.range (n * P)
  | 0 => by simp
  | n + 1 => by
    rw [List.range_succ, List.flatMap_append, range_blocks P n, Nat.add_mul, Nat.one_mul, List.range_add]
    simp

theorem map_val_finRange (n : Nat) : (List.finRange n).map Fin.val = List.range n := by
  apply List.ext_getElem
  · simp
  · intro i h1 h2; simp

theorem finRange_flatMap_val {β : Type} (n : Nat) (g : Nat → List β) :
    (List.finRange n).flatMap (fun i => g i.1) = (List.range n).flatMap g := by
  rw [← map_val_finRange, List.flatMap_map]

theorem map_pair_flat (n : Nat) (l : List Nat) (i : Fin n) (L : List (KIdx l)) :
    (L.map fun j => ((i, j) : KIdx (n :: l))).map (KIdx.flat (n :: l))
      = (L.map (KIdx.flat l)).map (i.1 * prodL l + ·) := by
  induction L with
  | nil => rfl
  | cons a t ih => exact congrArg (List.cons (i.1 * prodL l + KIdx.flat l a)) ih

/-- **Row-major order is flat order**: the `k`-th multi-index of `KIdx.all l` has flat position `k`. -/
theorem rowMajor_is_flat : (l : List Nat) → (KIdx.all l).map (KIdx.flat l) = List.range (prodL l)
  | [] => rfl
  | n :: l => by
    have ih := rowMajor_is_flat l
    show List.map (KIdx.flat (n :: l)) ((List.finRange n).flatMap fun i => (KIdx.all l).map fun j => (i, j)) = _
    rw [List.map_flatMap]
    refine Eq.trans (congrArg (fun f => List.flatMap f (List.finRange n))
      (funext fun i => map_pair_flat n l i (KIdx.all l))) ?_
    show (List.finRange n).flatMap (fun i => ((KIdx.all l).map (KIdx.flat l)).map (i.1 * prodL l + ·)) = _
    rw [ih, finRange_flatMap_val n (fun i => (List.range (prodL l)).map (i * prodL l + ·)), range_blocks, prodL_cons]

theorem KIdx.all_length (l : List Nat) : (KIdx.all l).length = prodL l := by
  have := congrArg List.length (rowMajor_is_flat l)
  simpa using this

end LinOp.C05
