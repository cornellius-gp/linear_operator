import LinOp.C05.Model
/-!
C05 — lemmas about the output-shape model `shapes` (core Lean only).

`ShapeOK p batch`: on path `p`, for an operator of batch shape `batch`, the two terms have the documented shapes for every
number of columns and every flag combination.  The leaf paths satisfy it by unfolding `shapes`; `block_step`, `rep_step` and
`cat_step` carry it through one wrapper each, using what `blockPost` / `repPost` / `catPost` do to well-shaped terms.
-/
namespace LinOp.C05

theorem numel_nil : numel [] = 1 := rfl
theorem numel_cons (a : Nat) (t : List Nat) : numel (a :: t) = a * numel t := rfl

theorem numel_append (a b : List Nat) : numel (a ++ b) = numel a * numel b := by
  induction a with
  | nil => rw [List.nil_append, numel_nil, Nat.one_mul]
  | cons x t ih => rw [List.cons_append, numel_cons, numel_cons, ih, Nat.mul_assoc]

theorem numel_append_single (b : List Nat) (m : Nat) : numel (b ++ [m]) = numel b * m := by
  rw [numel_append, numel_cons, numel_nil, Nat.mul_one]

theorem numel_pos (b : List Nat) (h : ∀ d ∈ b, 0 < d) : 0 < numel b := by
  induction b with
  | nil => exact Nat.one_pos
  | cons a t ih => exact Nat.mul_pos (h a List.mem_cons_self) (ih fun d hd => h d (List.mem_cons_of_mem a hd))

theorem pos_append_single (b : List Nat) (k : Nat) (h : ∀ d ∈ b, 0 < d) (hk : 0 < k) : ∀ d ∈ b ++ [k], 0 < d := by
  intro d hd
  rcases List.mem_append.mp hd with h1 | h1
  · exact h d h1
  · rw [List.mem_singleton.mp h1]; exact hk

theorem redIf_mat (b : List Nat) (m : Nat) (red : Bool) (h : ∀ d ∈ b, 0 < d) (hm : 0 < m) :
    redIf (b ++ [m]) red = if red then b else b ++ [m] := by
  have hp : numel (b ++ [m]) ≠ 0 := by
    rw [numel_append_single]; exact Nat.ne_of_gt (Nat.mul_pos (numel_pos b h) hm)
  cases red <;> simp [redIf, hp]

/-- Code paths for which the documented shapes are proved: every leaf path (Cholesky / base-class shortcut,
triangular, diagonal, identity, closed forms, the stochastic base path), Kronecker(-added-diag) over either
base path, and Block operators nested to any depth over all of those.  (BatchRepeat and the KPADLO fallback are
modelled and compared with the implementation, without a general theorem.) -/
inductive Good : Path → Prop
  | chol : Good .chol
  | tri : Good .tri
  | diag : Good .diag
  | identity : Good .identity
  | closed : Good .closed
  | slq : Good .slq
  | kronChol : Good (.kron .chol)
  | kronSlq : Good (.kron .slq)
  | block (p : Path) (k : Nat) : Good p → 0 < k → Good (.block p k)
  | cat (p : Path) : Good p → Good (.cat p)

/-! ### What the wrappers' post-processing does to well-shaped terms

In each lemma the log-determinant the base returned is `if lg then <its batch shape> else ph`: the batch shape when it was
requested, otherwise any placeholder `ph` that is not an error. -/

theorem Term.to_eq (t : Term) : t.to = t := by cases t <;> rfl

/-- `CatLinearOperator`'s post-processing changes nothing unless the base call raised. -/
theorem catPost_eq (x : Term × Term) (h1 : x.1 ≠ .err) (h2 : x.2 ≠ .err) : catPost x = x := by
  rcases x with ⟨a, b⟩
  cases a <;> cases b <;> first | rfl | exact absurd rfl h1 | exact absurd rfl h2

/-- Block over a base of batch shape `batch ++ [k]`, matrix rhs: the block dimension is summed out of both terms; a
log-determinant that was not requested is passed through. -/
theorem blockPost_mat (batch : List Nat) (k m : Nat) (lg red : Bool) (hb : numel batch ≠ 0) (hk : k ≠ 0) (hm : m ≠ 0)
    (ph : Term) (hph : ph ≠ .err) :
    blockPost batch k true lg red
        (.shape (if red then batch ++ [k] else batch ++ [k] ++ [m]), if lg then .shape (batch ++ [k]) else ph)
      = (.shape (if red then batch else batch ++ [m]), if lg then .shape batch else ph) := by
  cases lg
  · cases ph <;> cases red <;>
      simp [blockPost, numel_append, numel_cons, numel_nil, List.getLast?_append, Nat.mul_assoc, Nat.mul_eq_zero,
        hb, hk, hm] at hph ⊢
  · cases red <;>
      simp [blockPost, numel_append, numel_cons, numel_nil, List.getLast?_append, Nat.mul_assoc, Nat.mul_eq_zero,
        hb, hk, hm]

/-- Block without a rhs: the inverse quadratic placeholder is passed through. -/
theorem blockPost_absent (batch : List Nat) (k : Nat) (red : Bool) (hb : numel batch ≠ 0) (hk : k ≠ 0)
    (iq : Term) (hiq : iq ≠ .err) :
    blockPost batch k false true red (iq, .shape (batch ++ [k])) = (iq, .shape batch) := by
  cases iq <;> simp [blockPost, numel_append, numel_cons, numel_nil, Nat.mul_eq_zero, hb, hk] at hiq ⊢

/-- BatchRepeat over a base of batch shape `bb`, called with `m · Π rp` columns and `reduce_inv_quad=False`. -/
theorem repPost_mat (batch bb rp : List Nat) (m : Nat) (lg red : Bool) (hbb : numel bb ≠ 0) (hm : m * numel rp ≠ 0)
    (ph : Term) (hph : ph ≠ .err) :
    repPost batch bb rp (.mat m) lg red (.shape (bb ++ [m * numel rp]), if lg then .shape bb else ph)
      = (.shape (if red then batch else batch ++ [m]), if lg then .shape (repeatShape rp bb) else ph) := by
  have hN : numel (bb ++ [m * numel rp]) ≠ 0 := by
    rw [numel_append_single]; exact Nat.mul_ne_zero hbb hm
  cases lg
  · cases ph <;> simp [repPost, hN] at hph ⊢
  · simp [repPost, hN, hbb]

theorem repPost_absent (batch bb rp : List Nat) (red : Bool) (hbb : numel bb ≠ 0) (iq : Term) (hiq : iq ≠ .err) :
    repPost batch bb rp .absent true red (iq, .shape bb) = (iq, .shape (repeatShape rp bb)) := by
  cases iq <;> simp [repPost, hbb] at hiq ⊢

/-! ### The shape contract and the wrapper steps -/

/-- With a matrix rhs of `m` columns the inverse quadratic term has shape `batch` (reduced) or `batch ++ [m]` and the
log-determinant is `batch` when requested, some non-error placeholder otherwise; without a rhs the log-determinant is
`batch` and the inverse quadratic placeholder is not an error. -/
def ShapeOK (p : Path) (batch : List Nat) : Prop :=
  (∀ (m : Nat) (lg red : Bool), 0 < m → ∃ ph : Term, ph ≠ .err ∧
    shapes p batch (.mat m) lg red
      = (.shape (if red then batch else batch ++ [m]), if lg then .shape batch else ph)) ∧
  (∀ red : Bool, ∃ iq : Term, iq ≠ .err ∧ shapes p batch .absent true red = (iq, .shape batch))

/-- the contract term by term, as the property theorems state it -/
theorem ShapeOK.terms {p : Path} {batch : List Nat} (h : ShapeOK p batch) (m : Nat) (lg red : Bool) (hm : 0 < m) :
    (shapes p batch (.mat m) lg red).1 = .shape (if red then batch else batch ++ [m]) ∧
    (lg = true → (shapes p batch (.mat m) lg red).2 = .shape batch) ∧
    (shapes p batch (.mat m) lg red).2 ≠ .err ∧
    (shapes p batch .absent true red).1 ≠ .err ∧
    (shapes p batch .absent true red).2 = .shape batch := by
  obtain ⟨ph, hph, e⟩ := h.1 m lg red hm
  obtain ⟨iq, hiq, e'⟩ := h.2 red
  rw [e, e']
  refine ⟨rfl, fun hl => if_pos hl, ?_, hiq, rfl⟩
  cases lg
  · exact hph
  · exact nofun

theorem shapes_block_mat (p : Path) (k : Nat) (batch : List Nat) (m : Nat) (lg red : Bool) :
    shapes (.block p k) batch (.mat m) lg red
      = blockPost batch k true lg red (shapes p (batch ++ [k]) (.mat m) lg red) := rfl

theorem shapes_block_absent (p : Path) (k : Nat) (batch : List Nat) (lg red : Bool) :
    shapes (.block p k) batch .absent lg red
      = blockPost batch k false lg red (shapes p (batch ++ [k]) .absent lg red) := rfl

theorem shapes_rep_mat (p : Path) (bb rp batch : List Nat) (m : Nat) (lg red : Bool) :
    shapes (.rep p bb rp) batch (.mat m) lg red
      = repPost batch bb rp (.mat m) lg red (shapes p bb (.mat (m * numel rp)) lg false) := rfl

theorem shapes_rep_absent (p : Path) (bb rp batch : List Nat) (lg red : Bool) :
    shapes (.rep p bb rp) batch .absent lg red
      = repPost batch bb rp .absent lg red (shapes p bb .absent lg false) := rfl

theorem shapes_cat (p : Path) (batch : List Nat) (rhs : Rhs) (lg red : Bool) :
    shapes (.cat p) batch rhs lg red = catPost (shapes p batch rhs lg red) := rfl

/-- one `Block{Diag,Interleaved}` wrapper over ANY path that is right at batch shape `batch ++ [k]`. -/
theorem block_step (p : Path) (k : Nat) (batch : List Nat) (hb : ∀ d ∈ batch, 0 < d) (hk : 0 < k)
    (ih : ShapeOK p (batch ++ [k])) : ShapeOK (.block p k) batch := by
  have hN : numel batch ≠ 0 := Nat.ne_of_gt (numel_pos _ hb)
  have hk0 : k ≠ 0 := Nat.ne_of_gt hk
  refine ⟨fun m lg red hm => ?_, fun red => ?_⟩
  · obtain ⟨ph, hph, e⟩ := ih.1 m lg red hm
    exact ⟨ph, hph, by rw [shapes_block_mat, e, blockPost_mat batch k m lg red hN hk0 (Nat.ne_of_gt hm) ph hph]⟩
  · obtain ⟨iq, hiq, e⟩ := ih.2 red
    exact ⟨iq, hiq, by rw [shapes_block_absent, e, blockPost_absent batch k red hN hk0 iq hiq]⟩

/-- one `BatchRepeat` wrapper over ANY path that is right at the base batch shape `bb`. -/
theorem rep_step (p : Path) (bb rp : List Nat) (hbb : ∀ d ∈ bb, 0 < d) (hrp : ∀ d ∈ rp, 0 < d)
    (ih : ShapeOK p bb) : ShapeOK (.rep p bb rp) (repeatShape rp bb) := by
  have hN : numel bb ≠ 0 := Nat.ne_of_gt (numel_pos _ hbb)
  refine ⟨fun m lg red hm => ?_, fun red => ?_⟩
  · have hmr : 0 < m * numel rp := Nat.mul_pos hm (numel_pos rp hrp)
    obtain ⟨ph, hph, e⟩ := ih.1 (m * numel rp) lg false hmr
    exact ⟨ph, hph, by rw [shapes_rep_mat, e]; exact repPost_mat _ bb rp m lg red hN (Nat.ne_of_gt hmr) ph hph⟩
  · obtain ⟨iq, hiq, e⟩ := ih.2 false
    exact ⟨iq, hiq, by rw [shapes_rep_absent, e, repPost_absent _ bb rp red hN iq hiq]⟩

/-- `CatLinearOperator` over any path that is right at `batch`. -/
theorem cat_step (p : Path) (batch : List Nat) (ih : ShapeOK p batch) : ShapeOK (.cat p) batch := by
  refine ⟨fun m lg red hm => ?_, fun red => ?_⟩
  · obtain ⟨ph, hph, e⟩ := ih.1 m lg red hm
    refine ⟨ph, hph, ?_⟩
    rw [shapes_cat, e]
    refine catPost_eq _ nofun ?_
    cases lg
    · exact hph
    · exact nofun
  · obtain ⟨iq, hiq, e⟩ := ih.2 red
    exact ⟨iq, hiq, by rw [shapes_cat, e]; exact catPost_eq _ hiq nofun⟩

/-- Every `Good` path is right at every positive batch shape: the leaves by unfolding `shapes` (the inverse quadratic term
of the Cholesky-like paths goes through `redIf`), the wrappers by the steps above. -/
theorem good_shapes (p : Path) (hg : Good p) : ∀ batch : List Nat, (∀ d ∈ batch, 0 < d) → ShapeOK p batch := by
  induction hg with
  | chol | closed | kronChol =>
    exact fun batch hb => ⟨fun m lg red hm => ⟨.none, nofun, by rw [← redIf_mat batch m red hb hm]; rfl⟩,
      fun _ => ⟨.none, nofun, rfl⟩⟩
  | tri =>
    exact fun batch hb => ⟨fun m lg red hm => ⟨.empty, nofun, by rw [← redIf_mat batch m red hb hm]; rfl⟩,
      fun _ => ⟨.empty, nofun, rfl⟩⟩
  | diag | identity =>
    exact fun batch _ => ⟨fun m lg red _ => ⟨.empty, nofun, rfl⟩, fun _ => ⟨.empty, nofun, rfl⟩⟩
  | kronSlq =>
    exact fun batch _ => ⟨fun m lg red _ => ⟨.none, nofun, rfl⟩, fun _ => ⟨.none, nofun, rfl⟩⟩
  | slq =>
    refine fun batch hb => ⟨fun m lg red hm => ⟨.shape [], nofun, ?_⟩, fun red => ⟨.shape (redIf batch red), nofun, rfl⟩⟩
    cases lg
    · rfl
    · rw [← redIf_mat batch m red hb hm]; rfl
  | block p k _ hk ih => exact fun batch hb => block_step p k batch hb hk (ih _ (pos_append_single batch k hb hk))
  | cat p _ ih => exact fun batch hb => cat_step p batch (ih batch hb)

end LinOp.C05
