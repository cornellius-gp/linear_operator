import LinOp.C05.ModelKron
import LinOp.C05.Proofs
import Mathlib.LinearAlgebra.Matrix.Kronecker
import Mathlib.LinearAlgebra.Matrix.NonsingularInverse
import Mathlib.Algebra.BigOperators.Fin
/-!
C05 — Kronecker products with any number of factors, the algebra (any commutative (semi)ring, no analysis): the multi-index type
`KIdx l` as a `Fintype` with its sums and products, one matrix / vector per factor (`KMatsM`, `KVecs`) with factor-wise product,
transpose, identity and diagonal, the iterated Kronecker product `kronAll` and the fact that it respects each of these (hence
factor-wise inverses give an inverse of the product), and from the per-factor `eigh` contract `EigOK` the eigendecomposition of
`kronAll` and its determinant — as the product of all products of factor eigenvalues, and through `Matrix.det_kronecker`.
-/
namespace LinOp.C05
open Matrix LinOp
open scoped Kronecker

instance instFintypeKIdx : (l : List Nat) → Fintype (KIdx l)
  | [] => inferInstanceAs (Fintype Unit)
  | n :: l => haveI := instFintypeKIdx l; inferInstanceAs (Fintype (Fin n × KIdx l))

instance instDecEqKIdx : (l : List Nat) → DecidableEq (KIdx l)
  | [] => inferInstanceAs (DecidableEq Unit)
  | n :: l => haveI := instDecEqKIdx l; inferInstanceAs (DecidableEq (Fin n × KIdx l))

theorem card_KIdx : (l : List Nat) → Fintype.card (KIdx l) = l.prod
  | [] => by
    show @Fintype.card Unit (instFintypeKIdx []) = 1
    rw [show instFintypeKIdx [] = (inferInstance : Fintype Unit) from Subsingleton.elim _ _]
    simp
  | n :: l => by
    have := card_KIdx l
    show Fintype.card (Fin n × KIdx l) = _
    rw [Fintype.card_prod, Fintype.card_fin, this, List.prod_cons]

theorem sum_univ_KIdx_nil {S : Type} [AddCommMonoid S] (g : KIdx [] → S) : ∑ idx : KIdx [], g idx = g () := by
  show ∑ idx : Unit, g idx = g ()
  exact Fintype.sum_unique _

theorem prod_univ_KIdx_nil {S : Type} [CommMonoid S] (g : KIdx [] → S) : ∏ idx : KIdx [], g idx = g () := by
  show ∏ idx : Unit, g idx = g ()
  exact Fintype.prod_unique _

theorem sum_univ_KIdx_cons {S : Type} [AddCommMonoid S] (n : Nat) (l : List Nat) (g : KIdx (n :: l) → S) :
    ∑ idx : KIdx (n :: l), g idx = ∑ i : Fin n, ∑ j : KIdx l, g (i, j) := by
  exact Fintype.sum_prod_type (fun p : Fin n × KIdx l => g p)

theorem prod_univ_KIdx_cons {S : Type} [CommMonoid S] (n : Nat) (l : List Nat) (g : KIdx (n :: l) → S) :
    ∏ idx : KIdx (n :: l), g idx = ∏ i : Fin n, ∏ j : KIdx l, g (i, j) := by
  exact Fintype.prod_prod_type (fun p : Fin n × KIdx l => g p)

variable {R : Type}

/-- One square (Mathlib) matrix per factor; `toMats` is the identity into the model's `KMats`. -/
def KMatsM (R : Type) : List Nat → Type
  | [] => Unit
  | n :: l => Matrix (Fin n) (Fin n) R × KMatsM R l

def KMatsM.toMats : (l : List Nat) → KMatsM R l → KMats R l
  | [], _ => ()
  | _ :: l, (A, r) => (A, KMatsM.toMats l r)

/-- `⊗ᵢ Mᵢ` on multi-indices (the empty product is the 1×1 identity). -/
def kronAll [CommSemiring R] : (l : List Nat) → KMatsM R l → Matrix (KIdx l) (KIdx l) R
  | [], _ => 1
  | n :: l, (A, r) => (show Matrix (Fin n × KIdx l) (Fin n × KIdx l) R from A ⊗ₖ kronAll l r)

theorem kronAll_cons [CommSemiring R] (n : Nat) (l : List Nat) (A : Matrix (Fin n) (Fin n) R) (r : KMatsM R l) :
    kronAll (n :: l) (A, r) = (show Matrix (Fin n × KIdx l) (Fin n × KIdx l) R from A ⊗ₖ kronAll l r) := rfl

/-- One vector per factor (eigenvalues, diagonals). -/
def KVecs (R : Type) : List Nat → Type
  | [] => Unit
  | n :: l => (Fin n → R) × KVecs R l

/-- entries of `⊗ᵢ diag(vᵢ)`: the product of the factors' entries. -/
def kronEig [CommSemiring R] : (l : List Nat) → KVecs R l → KIdx l → R
  | [], _, _ => 1
  | _ :: l, (v, r), (i, j) => v i * kronEig l r j

def KVecs.toLists : (l : List Nat) → KVecs R l → List (List R)
  | [], _ => []
  | _ :: l, (v, r) => List.ofFn v :: KVecs.toLists l r

def KVecs.map (f : R → R) : (l : List Nat) → KVecs R l → KVecs R l
  | [], _ => ()
  | _ :: l, (v, r) => ((fun i => f (v i)), KVecs.map f l r)

def KMatsM.mul [CommSemiring R] : (l : List Nat) → KMatsM R l → KMatsM R l → KMatsM R l
  | [], _, _ => ()
  | n :: l, (A, r), (B, s) => (A * B, KMatsM.mul l r s)

def KMatsM.transpose : (l : List Nat) → KMatsM R l → KMatsM R l
  | [], _ => ()
  | n :: l, (A, r) => ((Aᵀ : Matrix _ _ R), KMatsM.transpose l r)

def KMatsM.one [CommSemiring R] : (l : List Nat) → KMatsM R l
  | [] => ()
  | n :: l => ((1 : Matrix (Fin n) (Fin n) R), KMatsM.one l)

def KMatsM.diagonal [CommSemiring R] : (l : List Nat) → KVecs R l → KMatsM R l
  | [], _ => ()
  | n :: l, (v, r) => ((Matrix.diagonal v : Matrix (Fin n) (Fin n) R), KMatsM.diagonal l r)

/-- every factor satisfies `P` -/
def KMatsM.All (P : ∀ n : Nat, Matrix (Fin n) (Fin n) R → Prop) : (l : List Nat) → KMatsM R l → Prop
  | [], _ => True
  | n :: l, (A, r) => P n A ∧ KMatsM.All P l r

/-! ### structure lemmas -/

theorem card_KIdx_nil : Fintype.card (KIdx []) = 1 := card_KIdx []

theorem kronAll_mul [CommSemiring R] : (l : List Nat) → (Ms Ns : KMatsM R l) →
    kronAll l (KMatsM.mul l Ms Ns) = kronAll l Ms * kronAll l Ns
  | [], _, _ => by
    show (1 : Matrix (KIdx []) (KIdx []) R) = 1 * 1
    rw [one_mul]
  | n :: l, (A, r), (B, s) => by
    show ((A * B) ⊗ₖ kronAll l (KMatsM.mul l r s) : Matrix (Fin n × KIdx l) (Fin n × KIdx l) R)
      = (A ⊗ₖ kronAll l r : Matrix (Fin n × KIdx l) (Fin n × KIdx l) R) * (B ⊗ₖ kronAll l s)
    rw [kronAll_mul l r s, Matrix.mul_kronecker_mul]

theorem kronAll_one [CommSemiring R] : (l : List Nat) → kronAll l (KMatsM.one l : KMatsM R l) = 1
  | [] => rfl
  | n :: l => by
    show ((1 : Matrix (Fin n) (Fin n) R) ⊗ₖ kronAll l (KMatsM.one l) : Matrix (Fin n × KIdx l) (Fin n × KIdx l) R) = 1
    rw [kronAll_one l, Matrix.one_kronecker_one]

theorem kronAll_transpose [CommSemiring R] : (l : List Nat) → (Ms : KMatsM R l) →
    kronAll l (KMatsM.transpose l Ms) = (kronAll l Ms)ᵀ
  | [], _ => by
    show (1 : Matrix (KIdx []) (KIdx []) R) = 1ᵀ
    rw [Matrix.transpose_one]
  | n :: l, (A, r) => by
    show (Aᵀ ⊗ₖ kronAll l (KMatsM.transpose l r) : Matrix (Fin n × KIdx l) (Fin n × KIdx l) R)
      = (A ⊗ₖ kronAll l r : Matrix (Fin n × KIdx l) (Fin n × KIdx l) R)ᵀ
    rw [kronAll_transpose l r]
    exact (Matrix.kroneckerMap_transpose _ _ _).symm

theorem kronAll_diagonal [CommSemiring R] : (l : List Nat) → (vs : KVecs R l) →
    kronAll l (KMatsM.diagonal l vs) = Matrix.diagonal (kronEig l vs)
  | [], _ => by
    show (1 : Matrix (KIdx []) (KIdx []) R) = Matrix.diagonal (fun _ => 1)
    exact Matrix.diagonal_one.symm
  | n :: l, (v, r) => by
    show (Matrix.diagonal v ⊗ₖ kronAll l (KMatsM.diagonal l r) : Matrix (Fin n × KIdx l) (Fin n × KIdx l) R)
      = (Matrix.diagonal (fun p : Fin n × KIdx l => v p.1 * kronEig l r p.2) : Matrix (Fin n × KIdx l) (Fin n × KIdx l) R)
    rw [kronAll_diagonal l r, Matrix.diagonal_kronecker_diagonal]

/-- factor-wise products being the identity give an inverse pair of Kronecker products:
`(⊗ᵢ Aᵢ)(⊗ᵢ Bᵢ) = 1` — the identity `(A ⊗ B)⁻¹ = A⁻¹ ⊗ B⁻¹` the `_solve` loop relies on. -/
theorem kronAll_mul_eq_one [CommSemiring R] (l : List Nat) (As Bs : KMatsM R l)
    (h : KMatsM.mul l As Bs = KMatsM.one l) : kronAll l As * kronAll l Bs = 1 := by
  rw [← kronAll_mul, h, kronAll_one]

theorem KMatsM.mul_eq_one_of_all [CommSemiring R] : (l : List Nat) → (As Bs : KMatsM R l) →
    KMatsM.All (fun _ M => M = 1) l (KMatsM.mul l As Bs) → KMatsM.mul l As Bs = KMatsM.one l
  | [], _, _, _ => rfl
  | n :: l, (A, r), (B, s), h => by
    obtain ⟨h1, h2⟩ := h
    show ((A * B : Matrix (Fin n) (Fin n) R), KMatsM.mul l r s) = ((1 : Matrix (Fin n) (Fin n) R), KMatsM.one l)
    rw [KMatsM.mul_eq_one_of_all l r s h2]
    exact congrArg (·, KMatsM.one l) h1

/-! ### eigendecomposition and determinant -/

/-- per factor: `Aᵢ = Qᵢ diag(λᵢ) Qᵢᵀ`, `Qᵢ Qᵢᵀ = 1` (the `eigh` contract). -/
def EigOK [CommSemiring R] : (l : List Nat) → KMatsM R l → KMatsM R l → KVecs R l → Prop
  | [], _, _, _ => True
  | _ :: l, (A, r), (Q, q), (v, w) => A = Q * Matrix.diagonal v * Qᵀ ∧ Q * Qᵀ = 1 ∧ EigOK l r q w

/-- the contract factor by factor, as equations between the lists of factors -/
theorem EigOK.eq [CommSemiring R] : (l : List Nat) → (As Qs : KMatsM R l) → (vs : KVecs R l) → EigOK l As Qs vs →
    As = KMatsM.mul l (KMatsM.mul l Qs (KMatsM.diagonal l vs)) (KMatsM.transpose l Qs) ∧
    KMatsM.mul l Qs (KMatsM.transpose l Qs) = KMatsM.one l
  | [], _, _, _, _ => ⟨rfl, rfl⟩
  | _ :: l, (_, r), (_, q), (_, w), ⟨hA, hQ, hr⟩ =>
    let ⟨h1, h2⟩ := EigOK.eq l r q w hr
    ⟨Prod.ext hA h1, Prod.ext hQ h2⟩

/-- `⊗ᵢ Aᵢ = (⊗ᵢ Qᵢ) diag(Πᵢ λᵢ[jᵢ]) (⊗ᵢ Qᵢ)ᵀ` with `⊗ᵢ Qᵢ` orthogonal: `kronAll` respects products, transposes and
diagonals. -/
theorem kronAll_eigendecomp [CommSemiring R] (l : List Nat) (As Qs : KMatsM R l) (vs : KVecs R l) (h : EigOK l As Qs vs) :
    kronAll l As = kronAll l Qs * Matrix.diagonal (kronEig l vs) * (kronAll l Qs)ᵀ ∧
    kronAll l Qs * (kronAll l Qs)ᵀ = 1 := by
  obtain ⟨h1, h2⟩ := EigOK.eq l As Qs vs h
  constructor
  · rw [← kronAll_diagonal, ← kronAll_transpose, ← kronAll_mul, ← kronAll_mul, ← h1]
  · rw [← kronAll_transpose, kronAll_mul_eq_one l _ _ h2]

theorem det_kronAll_eig [CommRing R] (l : List Nat) (As Qs : KMatsM R l) (vs : KVecs R l) (h : EigOK l As Qs vs) :
    (kronAll l As).det = ∏ idx : KIdx l, kronEig l vs idx :=
  let ⟨h1, h2⟩ := kronAll_eigendecomp l As Qs vs h
  det_of_eigendecomp _ _ _ h1 h2

/-- `det(A ⊗ K) = det(A)^{|K|} · det(K)^{n}` unfolded one factor: the induction step of
`log det(⊗ᵢ Aᵢ) = Σᵢ (N/nᵢ) log det Aᵢ`. -/
theorem det_kronAll_cons [CommRing R] (n : Nat) (l : List Nat) (A : Matrix (Fin n) (Fin n) R) (r : KMatsM R l) :
    (kronAll (n :: l) (A, r)).det = A.det ^ l.prod * (kronAll l r).det ^ n := by
  show (A ⊗ₖ kronAll l r : Matrix (Fin n × KIdx l) (Fin n × KIdx l) R).det = _
  rw [Matrix.det_kronecker, card_KIdx, Fintype.card_fin]

theorem det_kronAll_nil [CommRing R] (r : KMatsM R []) : (kronAll [] r).det = 1 := by
  show (1 : Matrix (KIdx []) (KIdx []) R).det = 1
  exact Matrix.det_one

end LinOp.C05
