import LinOp.C05.Model
/-!
C05 — batch-broadcast right-hand sides (core Lean only).

`inv_quad_rhs` whose batch shape `rb` differs from the operator's `batch`:
* `LinearOperator.inv_quad` (`_matmul_broadcast_shape` + `expand`): the result's batch is the torch broadcast of the two
  batch shapes, for ANY numbers of batch dimensions → `invQuadEntry`;
* `LinearOperator.inv_quad_logdet`, stochastic branch (`logdet=True`): explicit checks `self.dim() != rhs.dim()` and
  `self.batch_shape != rhs.shape[:-2]` → raises unless `rb = batch`; with `logdet=False` it returns
  `self.inv_quad(...)` and `torch.zeros([])`;
* Cholesky shortcut (`CholLinearOperator.inv_quad_logdet` → `inv_quad`): same number of dimensions required, batch
  dimensions broadcast by the triangular solve; the log-determinant keeps the operator's batch shape;
* `DiagLinearOperator` / `IdentityLinearOperator.inv_quad_logdet`: `_matmul_broadcast_shape` check, then an elementwise
  formula; modelled with the contract of the base class (same number of dimensions, batch dimensions broadcast —
  notes/C05_fix_9.diff; the unpatched Identity returns the rhs's own batch shape and both accept a different
  number of dimensions with a wrong reduction axis).
-/
namespace LinOp.C05

/-- torch broadcasting of two shapes given in REVERSED order (trailing dimension first). -/
def bcastRev : List Nat → List Nat → Option (List Nat)
  | [], l => some l
  | a :: as, [] => some (a :: as)
  | a :: as, b :: bs =>
    match bcastRev as bs with
    | none => none
    | some r =>
      if a = b then some (a :: r) else if a = 1 then some (b :: r) else if b = 1 then some (a :: r) else none

/-- `torch.broadcast_shapes(a, b)` (right-aligned); `none` = not broadcastable. -/
def bcast (a b : List Nat) : Option (List Nat) := (bcastRev a.reverse b.reverse).map List.reverse

/-- `LinearOperator.inv_quad(rhs, reduce_inv_quad)` for a matrix rhs with batch shape `rb` and `m` columns. -/
def invQuadEntry (batch rb : List Nat) (m : Nat) (reduce : Bool) : Term :=
  match bcast batch rb with
  | some bb => .shape (if reduce then bb else bb ++ [m])
  | none => .err

/-- leaf code paths for which the broadcast behaviour is modelled -/
inductive BLeaf where
  | chol | diag | identity | slq
  deriving DecidableEq, Repr

def BLeaf.path : BLeaf → Path
  | .chol => .chol
  | .diag => .diag
  | .identity => .identity
  | .slq => .slq

/-- both terms of `inv_quad_logdet(rhs, logdet, reduce_inv_quad)` for a matrix rhs of batch shape `rb`. -/
def shapesB (p : BLeaf) (batch rb : List Nat) (m : Nat) (logdet reduce : Bool) : Term × Term :=
  match p with
  | .slq =>
    if logdet then (if rb = batch then shapes .slq batch (.mat m) true reduce else bothErr)
    else match invQuadEntry batch rb m reduce with
      | .err => bothErr
      | t => (t, .shape [])
  | .chol =>
    if rb.length = batch.length then
      match bcast batch rb with
      | some bb => (.shape (redIf (bb ++ [m]) reduce), if logdet then .shape batch else .none)
      | none => bothErr
    else bothErr
  | .diag | .identity =>
    if rb.length = batch.length then
      match bcast batch rb with
      | some bb => (.shape (if reduce then bb else bb ++ [m]), if logdet then .shape batch else .empty)
      | none => bothErr
    else bothErr

theorem bcastRev_self (l : List Nat) : bcastRev l l = some l := by
  induction l with
  | nil => rfl
  | cons a t ih => simp [bcastRev, ih]

theorem bcast_self (b : List Nat) : bcast b b = some b := by
  simp [bcast, bcastRev_self]

theorem bcastRev_comm (a b : List Nat) : bcastRev a b = bcastRev b a := by
  induction a generalizing b with
  | nil => cases b <;> rfl
  | cons x xs ih =>
    cases b with
    | nil => rfl
    | cons y ys =>
      simp only [bcastRev, ih ys]
      cases bcastRev ys xs with
      | none => rfl
      | some r =>
        by_cases h : x = y
        · subst h; simp
        · have h' : ¬ y = x := fun e => h e.symm
          by_cases hx : x = 1 <;> by_cases hy : y = 1 <;> simp_all

theorem bcast_comm (a b : List Nat) : bcast a b = bcast b a := by
  simp [bcast, bcastRev_comm a.reverse b.reverse]

theorem bcastRev_ones (l : List Nat) : bcastRev l (List.replicate l.length 1) = some l := by
  induction l with
  | nil => rfl
  | cons a t ih =>
    simp only [List.length_cons, List.replicate_succ, bcastRev, ih]
    by_cases h : a = 1 <;> simp [h]

theorem bcastRev_length (a b r : List Nat) (h : bcastRev a b = some r) : r.length = max a.length b.length := by
  induction a generalizing b r with
  | nil =>
    cases Option.some.inj h
    exact (Nat.zero_max _).symm
  | cons x xs ih =>
    cases b with
    | nil =>
      cases Option.some.inj h
      exact (Nat.max_zero _).symm
    | cons y ys =>
      simp only [bcastRev] at h
      cases hr : bcastRev xs ys with
      | none => simp [hr] at h
      | some r' =>
        -- whichever of `x`, `y` is kept, one dimension is put in front of the broadcast of the tails
        have hl : ∀ c : Nat, (c :: r').length = max (x :: xs).length (y :: ys).length := fun c => by
          rw [List.length_cons, List.length_cons, List.length_cons, Nat.succ_max_succ, ih ys r' hr]
        simp only [hr] at h
        split at h
        · cases h; exact hl _
        · split at h
          · cases h; exact hl _
          · split at h
            · cases h; exact hl _
            · cases h

end LinOp.C05
