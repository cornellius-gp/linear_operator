import LinOp.C05.Proofs
import Mathlib.Analysis.SpecialFunctions.Log.Basic
/-!
C05 — the one helper about `Real.log` that is not about Kronecker products; it stands apart so that the ring-level lemmas of
`Proofs.lean` and the Kronecker algebra above them are elaborated without the analysis library in scope.
-/
namespace LinOp.C05
open Matrix LinOp

/-- `chol_diag.pow(2).log().sum(-1) = 2 Σ log Lᵢᵢ` (no sign condition: `log` is even). -/
theorem cholLogdet_eq_two_mul {n : Nat} (d : Fin n → ℝ) (hd : ∀ i, d i ≠ 0) :
    cholLogdet Real.log d = 2 * ∑ i, Real.log (d i) := by
  rw [cholLogdet, sumFin_eq_sum, Finset.mul_sum]
  exact Finset.sum_congr rfl fun i _ => by rw [Real.log_mul (hd i) (hd i), two_mul]

end LinOp.C05
