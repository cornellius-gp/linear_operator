import LinOp.C05.Model
import LinOp.Core.Bridge
import LinOp.Core.Spectral
import Mathlib.Algebra.BigOperators.Fin
import Mathlib.Algebra.BigOperators.Ring.Finset
import Mathlib.LinearAlgebra.Matrix.Determinant.Basic
import Mathlib.LinearAlgebra.Matrix.NonsingularInverse
/-!
C05 — helper lemmas, ring-level only (no analysis): bridges from the executable folds of `LinOp.C05.Model` to `Finset`
sums/products; the determinant of an orthogonal eigendecomposition (`det_of_eigendecomp`), of its shift by a constant (`shift_det`)
and of its sum with a diagonal matrix after symmetrisation (`symm_det`), each on any finite index type; the column-wise quadratic
form `(Yᵀ B Y)[j,j]`.
-/
namespace LinOp.C05
open Matrix LinOp

theorem foldl_mul_eq_prod {α : Type} [CommMonoid α] (n : Nat) (g : Fin n → α) :
    Fin.foldl n (fun acc i => acc * g i) 1 = ∏ i, g i := by
  induction n with
  | zero => simp [Fin.foldl_zero]
  | succ n ih =>
    rw [Fin.foldl_succ_last, Fin.prod_univ_castSucc]
    congr 1
    exact ih _

theorem slqAssemble_eq_sum {α : Type} [CommSemiring α] (c : α) {m k : Nat} (v0 fθ : Fin m → Fin k → α) :
    slqAssemble c v0 fθ = ∑ i, c * ∑ j, v0 i j * v0 i j * fθ i j := by
  have h : slqAssemble c v0 fθ = sumFin m (fun i => c * (sumFin k fun j => v0 i j * v0 i j * fθ i j)) := rfl
  rw [h, sumFin_eq_sum]
  refine Finset.sum_congr rfl fun i _ => ?_
  rw [sumFin_eq_sum]

/-- `slqAssemble` probe by probe: if probe `i`'s quadrature sum is `g i`, the assembled value is `c Σᵢ g i`. -/
theorem slqAssemble_eq_of_nodes {α : Type} [CommSemiring α] (c : α) {m k : Nat} (v0 fθ : Fin m → Fin k → α) (g : Fin m → α)
    (h : ∀ i, ∑ j, v0 i j * v0 i j * fθ i j = g i) : slqAssemble c v0 fθ = c * ∑ i, g i := by
  rw [slqAssemble_eq_sum, Finset.mul_sum]
  exact Finset.sum_congr rfl fun i _ => congrArg (c * ·) (h i)

/-- `A = Q diag(λ) Qᵀ` with `Q Qᵀ = I` has determinant `Π λᵢ` (any finite index type). -/
theorem det_of_eigendecomp {R : Type} [CommRing R] {ι : Type} [Fintype ι] [DecidableEq ι] (A Q : Matrix ι ι R)
    (lam : ι → R) (hA : A = Q * diagonal lam * Qᵀ) (hQ : Q * Qᵀ = 1) : A.det = ∏ i, lam i := by
  rw [hA, Matrix.det_mul, Matrix.det_mul, Matrix.det_diagonal, mul_right_comm, ← Matrix.det_mul, hQ, Matrix.det_one, one_mul]

/-- `det(Q Λ Qᵀ + cI) = Π (λᵢ + c)`: `(Q, λ + c)` is an eigendecomposition of the shifted matrix. -/
theorem shift_det {R : Type} [CommRing R] {ι : Type} [Fintype ι] [DecidableEq ι] (A Q : Matrix ι ι R) (lam : ι → R) (c : R)
    (hA : A = Q * diagonal lam * Qᵀ) (hQ : Q * Qᵀ = 1) :
    (A + c • (1 : Matrix ι ι R)).det = ∏ i, (lam i + c) := by
  refine det_of_eigendecomp _ Q _ ?_ hQ
  rw [conj_add_const, hQ, ← hA]

/-- `det(K + D) = det D · Π (σᵢ + 1)` when `D = diag δ`, `ρ² δ = 1` entrywise and `diag ρ · K · diag ρ = Q diag σ Qᵀ` with
`Q Qᵀ = 1`: the congruence by `diag ρ` turns `K + D` into `Q diag σ Qᵀ + 1`, whose determinant is `shift_det`. -/
theorem symm_det {R : Type} [CommRing R] {ι : Type} [Fintype ι] [DecidableEq ι] (K Q : Matrix ι ι R) (ρ δ σ : ι → R)
    (hρ : ∀ i, ρ i * ρ i * δ i = 1) (hS : diagonal ρ * (K * diagonal ρ) = Q * diagonal σ * Qᵀ) (hQ : Q * Qᵀ = 1) :
    (K + diagonal δ).det = (∏ i, δ i) * ∏ i, (σ i + 1) := by
  have hc : diagonal ρ * (K + diagonal δ) * diagonal ρ = diagonal ρ * (K * diagonal ρ) + (1 : R) • (1 : Matrix ι ι R) := by
    rw [Matrix.mul_add, Matrix.add_mul, Matrix.mul_assoc, Matrix.diagonal_mul_diagonal, Matrix.diagonal_mul_diagonal, one_smul,
      funext fun i => (mul_right_comm (ρ i) (δ i) (ρ i)).trans (hρ i), Matrix.diagonal_one]
  have hdet := shift_det _ Q σ 1 hS hQ
  rw [← hc, Matrix.det_mul, Matrix.det_mul, Matrix.det_diagonal] at hdet
  have hρδ : (∏ i, ρ i) * (∏ i, ρ i) * ∏ i, δ i = 1 := by
    rw [← Finset.prod_mul_distrib, ← Finset.prod_mul_distrib]
    exact Finset.prod_eq_one fun i _ => hρ i
  calc (K + diagonal δ).det = ((∏ i, ρ i) * (∏ i, ρ i) * ∏ i, δ i) * (K + diagonal δ).det := by rw [hρδ, one_mul]
    _ = (∏ i, δ i) * ((∏ i, ρ i) * (K + diagonal δ).det * ∏ i, ρ i) := by ring
    _ = _ := by rw [hdet]

/-- `(solves * rhs).sum(-2)` for `solves = B Y`: `Σ_r (B Y)[r,j] Y[r,j] = (Yᵀ B Y)[j,j]`, any finite index types. -/
theorem quad_form_col {R : Type} [CommSemiring R] {ι κ : Type} [Fintype ι] (B : Matrix ι ι R) (Y : Matrix ι κ R) (j : κ) :
    ∑ r, (B * Y) r j * Y r j = (Yᵀ * B * Y) j j := by
  rw [Matrix.mul_assoc, Matrix.mul_apply]
  exact Finset.sum_congr rfl fun r _ => by rw [Matrix.transpose_apply, mul_comm]

/-- inverse quadratic form from a solve: `A S = Y`, `A` invertible ⇒ `Σ_r S[r,j] Y[r,j] = (Yᵀ A⁻¹ Y)[j,j]`. -/
theorem invQuad_of_solve {R : Type} [CommRing R] {ι κ : Type} [Fintype ι] [DecidableEq ι] (A : Matrix ι ι R)
    (S Y : Matrix ι κ R)
    (hA : IsUnit A.det) (hS : A * S = Y) (j : κ) : ∑ r, S r j * Y r j = (Yᵀ * A⁻¹ * Y) j j := by
  rw [← Matrix.nonsing_inv_mul_cancel_left A S hA, hS]
  exact quad_form_col A⁻¹ Y j

end LinOp.C05
