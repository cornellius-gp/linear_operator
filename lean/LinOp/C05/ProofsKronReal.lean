import LinOp.C05.ProofsKron
import Mathlib.Analysis.SpecialFunctions.Log.Basic
/-!
C05 — Kronecker products with any number of factors, over `ℝ`: positivity of the product eigenvalues and the log-determinant as a
sum over them and as `Σᵢ (N/nᵢ) log det Aᵢ`; for the two Kronecker-structured-diagonal branches of KroneckerProductAddedDiag
`_logdet`, per-factor scalars `KScal` (constant diagonals) and the entrywise relation `RootInv` (`r = d^-½`) carried to the product.
-/
namespace LinOp.C05
open Matrix LinOp
open scoped Kronecker

/-- every factor's vector is entrywise positive -/
def KVecs.Pos : (l : List Nat) → KVecs ℝ l → Prop
  | [], _ => True
  | _ :: l, (v, r) => (∀ i, 0 < v i) ∧ KVecs.Pos l r

theorem kronEig_pos : (l : List Nat) → (vs : KVecs ℝ l) → KVecs.Pos l vs → ∀ idx, 0 < kronEig l vs idx
  | [], _, _, _ => by simp [kronEig]
  | _ :: l, (v, r), h, (i, j) => mul_pos (h.1 i) (kronEig_pos l r h.2 j)

/-- `log det(⊗ᵢ Aᵢ)` is the sum of the logs of all products of factor eigenvalues. -/
theorem log_det_kronAll_eig (l : List Nat) (As Qs : KMatsM ℝ l) (lams : KVecs ℝ l)
    (h : EigOK l As Qs lams) (hpos : KVecs.Pos l lams) :
    Real.log (kronAll l As).det = ∑ idx : KIdx l, Real.log (kronEig l lams idx) := by
  rw [det_kronAll_eig l As Qs lams h, Real.log_prod fun idx _ => ne_of_gt (kronEig_pos l lams hpos idx)]

/-- `Σᵢ (N/nᵢ) log det Aᵢ`, by recursion over the factor list: the head factor contributes `(Π rest) · log det A`
and every later term is multiplied by the head's size. -/
noncomputable def kronLogdetFormula : (l : List Nat) → KMatsM ℝ l → ℝ
  | [], _ => 0
  | n :: l, (A, r) => (l.prod : ℝ) * Real.log A.det + (n : ℝ) * kronLogdetFormula l r

def KMatsM.DetPos : (l : List Nat) → KMatsM ℝ l → Prop
  | [], _ => True
  | _ :: l, (A, r) => 0 < A.det ∧ KMatsM.DetPos l r

theorem det_kronAll_pos : (l : List Nat) → (As : KMatsM ℝ l) → KMatsM.DetPos l As → 0 < (kronAll l As).det
  | [], r, _ => by rw [det_kronAll_nil]; exact one_pos
  | n :: l, (A, r), h => by
    rw [det_kronAll_cons]
    exact mul_pos (pow_pos h.1 _) (pow_pos (det_kronAll_pos l r h.2) _)

theorem log_det_kronAll : (l : List Nat) → (As : KMatsM ℝ l) → KMatsM.DetPos l As →
    Real.log (kronAll l As).det = kronLogdetFormula l As
  | [], r, _ => by rw [det_kronAll_nil, Real.log_one]; rfl
  | n :: l, (A, r), h => by
    rw [det_kronAll_cons, Real.log_mul (pow_ne_zero _ (ne_of_gt h.1)) (pow_ne_zero _ (ne_of_gt (det_kronAll_pos l r h.2))),
      Real.log_pow, Real.log_pow, log_det_kronAll l r h.2]
    rfl

/-! ### KroneckerProductAddedDiag: per-factor constants -/

/-- one scalar per factor -/
def KScal : List Nat → Type
  | [] => Unit
  | _ :: l => ℝ × KScal l

def KScal.toList : (l : List Nat) → KScal l → List ℝ
  | [], _ => []
  | _ :: l, (c, r) => c :: KScal.toList l r

/-- `ConstantDiagLinearOperator._diagonal()` per factor -/
def KScal.vecs : (l : List Nat) → KScal l → KVecs ℝ l
  | [], _ => ()
  | _ :: l, (c, r) => ((fun _ => c), KScal.vecs l r)

noncomputable def KScal.prod : (l : List Nat) → KScal l → ℝ
  | [], _ => 1
  | _ :: l, (c, r) => c * KScal.prod l r

def KScal.Pos : (l : List Nat) → KScal l → Prop
  | [], _ => True
  | _ :: l, (c, r) => 0 < c ∧ KScal.Pos l r

noncomputable def KVecs.divScal : (l : List Nat) → KVecs ℝ l → KScal l → KVecs ℝ l
  | [], _, _ => ()
  | _ :: l, (v, r), (c, s) => ((fun i => v i / c), KVecs.divScal l r s)

theorem KScal.prod_pos : (l : List Nat) → (cs : KScal l) → KScal.Pos l cs → 0 < KScal.prod l cs
  | [], _, _ => one_pos
  | _ :: l, (_, r), h => mul_pos h.1 (KScal.prod_pos l r h.2)

theorem kronEig_const : (l : List Nat) → (cs : KScal l) → (idx : KIdx l) →
    kronEig l (KScal.vecs l cs) idx = KScal.prod l cs
  | [], _, _ => rfl
  | _ :: l, (c, r), (_, j) => by
    show c * kronEig l (KScal.vecs l r) j = c * KScal.prod l r
    rw [kronEig_const l r j]

theorem kronEig_divScal : (l : List Nat) → (vs : KVecs ℝ l) → (cs : KScal l) → (idx : KIdx l) →
    kronEig l (KVecs.divScal l vs cs) idx = kronEig l vs idx / KScal.prod l cs
  | [], _, _, _ => by simp [kronEig, KScal.prod]
  | _ :: l, (v, r), (c, s), (i, j) => by
    show v i / c * kronEig l (KVecs.divScal l r s) j = v i * kronEig l r j / (c * KScal.prod l s)
    rw [kronEig_divScal l r s j, div_mul_div_comm]

theorem zipWith_divScal : (l : List Nat) → (vs : KVecs ℝ l) → (cs : KScal l) →
    List.zipWith (fun ev c => ev.map fun x => x / c) (KVecs.toLists l vs) (KScal.toList l cs)
      = KVecs.toLists l (KVecs.divScal l vs cs)
  | [], _, _ => rfl
  | _ :: l, (v, r), (c, s) => by
    show (List.ofFn v).map (fun x => x / c) :: List.zipWith _ (KVecs.toLists l r) (KScal.toList l s)
      = List.ofFn (fun i => v i / c) :: KVecs.toLists l (KVecs.divScal l r s)
    rw [zipWith_divScal l r s, List.map_ofFn]
    rfl

/-! ### symmetrised branch -/

/-- `rᵢ = dᵢ^{-1/2}` entrywise (`dlt.sqrt().inverse()`), `dᵢ > 0`. -/
def RootInv : (l : List Nat) → KVecs ℝ l → KVecs ℝ l → Prop
  | [], _, _ => True
  | _ :: l, (r, rs), (d, ds) => (∀ i, r i * r i * d i = 1 ∧ 0 < d i) ∧ RootInv l rs ds

theorem kronEig_rootInv : (l : List Nat) → (rs ds : KVecs ℝ l) → RootInv l rs ds → ∀ idx,
    kronEig l rs idx * kronEig l rs idx * kronEig l ds idx = 1 ∧ 0 < kronEig l ds idx
  | [], _, _, _, _ => by simp [kronEig]
  | _ :: l, (r, rs), (d, ds), h, (i, j) => by
    obtain ⟨h1, h2⟩ := kronEig_rootInv l rs ds h.2 j
    obtain ⟨h3, h4⟩ := h.1 i
    refine ⟨?_, mul_pos h4 h2⟩
    show r i * kronEig l rs j * (r i * kronEig l rs j) * (d i * kronEig l ds j) = 1
    calc _ = (r i * r i * d i) * (kronEig l rs j * kronEig l rs j * kronEig l ds j) := by ring
      _ = 1 := by rw [h1, h3, one_mul]

end LinOp.C05
