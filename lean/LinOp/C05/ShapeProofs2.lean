import LinOp.C05.ShapeProofs
import LinOp.C05.ModelB
/-!
C05 — Block, BatchRepeat and Cat wrappers interleaved in ANY order (core Lean only).

`GoodAt` closes the leaf paths under the three wrapper steps of `ShapeProofs` (a BatchRepeat fixes the batch shape at which
it can be used, hence the index).
-/
namespace LinOp.C05

theorem zipWith_mul_pos : ∀ l1 l2 : List Nat, (∀ d ∈ l1, 0 < d) → (∀ d ∈ l2, 0 < d) →
    ∀ d ∈ List.zipWith (· * ·) l1 l2, 0 < d
  | [], _, _, _, _, hd => nomatch hd
  | _ :: _, [], _, _, _, hd => nomatch hd
  | a :: t, b :: u, h1, h2, d, hd => by
    rcases List.mem_cons.mp hd with rfl | hd
    · exact Nat.mul_pos (h1 a List.mem_cons_self) (h2 b List.mem_cons_self)
    · exact zipWith_mul_pos t u (fun d hd => h1 d (List.mem_cons_of_mem a hd))
        (fun d hd => h2 d (List.mem_cons_of_mem b hd)) d hd

/-- `tensor.repeat` with positive repeat counts of a positive shape is positive. -/
theorem repeatShape_pos (rp s : List Nat) (hrp : ∀ d ∈ rp, 0 < d) (hs : ∀ d ∈ s, 0 < d) :
    ∀ d ∈ repeatShape rp s, 0 < d := by
  refine zipWith_mul_pos rp _ hrp fun d hd => ?_
  rcases List.mem_append.mp hd with h | h
  · rw [(List.mem_replicate.mp h).2]; exact Nat.one_pos
  · exact hs _ h

/-- Paths closed under Block, BatchRepeat and Cat wrappers in any order and to any depth, indexed by the batch shape the
operator has: leaves are the `Good` paths at any positive batch shape. -/
inductive GoodAt : Path → List Nat → Prop
  | leaf (p : Path) (b : List Nat) : Good p → (∀ d ∈ b, 0 < d) → GoodAt p b
  | block (p : Path) (k : Nat) (b : List Nat) : GoodAt p (b ++ [k]) → (∀ d ∈ b, 0 < d) → 0 < k → GoodAt (.block p k) b
  | rep (p : Path) (bb rp : List Nat) : GoodAt p bb → (∀ d ∈ bb, 0 < d) → (∀ d ∈ rp, 0 < d) →
      GoodAt (.rep p bb rp) (repeatShape rp bb)
  | cat (p : Path) (b : List Nat) : GoodAt p b → GoodAt (.cat p) b

theorem goodAt_shapes (p : Path) (batch : List Nat) (h : GoodAt p batch) : ShapeOK p batch := by
  induction h with
  | leaf p b hg hb => exact good_shapes p hg b hb
  | block p k b _ hb hk ih => exact block_step p k b hb hk ih
  | rep p bb rp _ hbb hrp ih => exact rep_step p bb rp hbb hrp ih
  | cat p b _ ih => exact cat_step p b ih

theorem goodAt_pos (p : Path) (batch : List Nat) (h : GoodAt p batch) : ∀ d ∈ batch, 0 < d := by
  induction h with
  | leaf p b _ hb => exact hb
  | block p k b _ hb _ _ => exact hb
  | rep p bb rp _ hbb hrp _ => exact repeatShape_pos rp bb hrp hbb
  | cat p b _ ih => exact ih

end LinOp.C05
