import LinOp.C05.ProofsKron
import LinOp.Core.Bridge
/-!
C05 — the sequential Kronecker solve (`KroneckerProductLinearOperator._solve`) applies `⊗ᵢ Bᵢ`.
-/
namespace LinOp.C05
open Matrix LinOp
open scoped Kronecker

variable {R : Type}

/-- The mode-rotation loop computes `(⊗ᵢ Bᵢ) y` along the leading (flattened) dimension, for any list of factors,
any already-processed modes `D` and any column type. -/
theorem kronSolveRot_eq [CommSemiring R] {C : Type} : (l : List Nat) → (Bs : KMatsM R l) → {D : Type} →
    (y : KIdx l → D → C → R) → (d : D) → (idx : KIdx l) → (c : C) →
    kronSolveRot l (KMatsM.toMats l Bs) y (snocOf l d idx) c = ∑ idx' : KIdx l, kronAll l Bs idx idx' * y idx' d c
  | [], _, _, y, d, idx, c => by
    rw [sum_univ_KIdx_nil]
    show y () d c = (1 : Matrix (KIdx []) (KIdx []) R) idx () * y () d c
    have h1 : (1 : Matrix (KIdx []) (KIdx []) R) idx () = 1 := Matrix.one_apply_eq (idx : KIdx [])
    rw [h1, one_mul]
  | n :: l, (B, Bs), D, y, d, (i, idx), c => by
    show kronSolveRot l (KMatsM.toMats l Bs)
        (fun (j : KIdx l) (di : D × Fin n) c => sumFin n fun i' => B di.2 i' * y (i', j) di.1 c) (snocOf l (d, i) idx) c = _
    rw [kronSolveRot_eq l Bs _ (d, i) idx c, sum_univ_KIdx_cons]
    simp only [sumFin_eq_sum, Finset.mul_sum]
    rw [Finset.sum_comm]
    refine Finset.sum_congr rfl fun i' _ => Finset.sum_congr rfl fun j _ => ?_
    show _ = (B ⊗ₖ kronAll l Bs : Matrix (Fin n × KIdx l) (Fin n × KIdx l) R) (i, idx) (i', j) * y (i', j) d c
    rw [Matrix.kroneckerMap_apply]
    ring

theorem snocOf_surjective {D : Type} : (l : List Nat) → (s : SnocIdx D l) → ∃ d idx, snocOf l d idx = s
  | [], s => ⟨s, (), rfl⟩
  | n :: l, s => by
    obtain ⟨⟨d, i⟩, idx, h⟩ := snocOf_surjective (D := D × Fin n) l s
    exact ⟨d, (i, idx), h⟩

/-- `kronSolve = (⊗ᵢ Bᵢ) · rhs` as matrices. -/
theorem kronSolve_eq [CommSemiring R] {C : Type} (l : List Nat) (Bs : KMatsM R l) (Y : Matrix (KIdx l) C R) :
    (Matrix.of (kronSolve l (KMatsM.toMats l Bs) Y) : Matrix (KIdx l) C R) = kronAll l Bs * Y := by
  ext idx c
  simp only [Matrix.of_apply, kronSolve, Matrix.mul_apply]
  exact kronSolveRot_eq l Bs (fun j (_ : Unit) c => Y j c) () idx c

end LinOp.C05
