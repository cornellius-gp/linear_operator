import LinOp.C05.ProofsKron
import Mathlib.Data.List.FinRange
/-!
C05 — Kronecker products with any number of factors: the list model against the multi-indices.  `KIdx.all` enumerates `KIdx l`
(sums over the list are sums over the type), `kronDiag` (`_kron_diag`) lists the products `kronEig` in that order, hence every
sum over `kronDiag` — `kronLogdetN` in particular — is a sum over `KIdx l`.
-/
namespace LinOp.C05
open Matrix LinOp

variable {R : Type}

theorem kronDiag_cons [CommSemiring R] (d : List R) (rest : List (List R)) :
    kronDiag (d :: rest) = d.flatMap fun a => (kronDiag rest).map fun b => a * b := by
  cases rest with
  | nil => simp [kronDiag]
  | cons e r => rfl

theorem sum_map_flatMap {α β S : Type} [AddCommMonoid S] (d : List α) (g : α → List β) (f : β → S) :
    ((d.flatMap g).map f).sum = (d.map fun a => ((g a).map f).sum).sum := by
  induction d with
  | nil => simp
  | cons a t ih => simp [List.flatMap_cons, ih]

theorem sum_map_KIdx_all {S : Type} [AddCommMonoid S] : (l : List Nat) → (g : KIdx l → S) →
    ((KIdx.all l).map g).sum = ∑ idx : KIdx l, g idx
  | [], g => by
    rw [sum_univ_KIdx_nil]
    show g () + 0 = g ()
    exact add_zero _
  | n :: l, g => by
    rw [sum_univ_KIdx_cons]
    let g' : Fin n × KIdx l → S := g
    show (((List.finRange n).flatMap fun i => (KIdx.all l).map fun j => (i, j)).map g').sum
      = ∑ i : Fin n, ∑ j : KIdx l, g' (i, j)
    rw [sum_map_flatMap, ← List.ofFn_eq_map, List.sum_ofFn]
    refine Finset.sum_congr rfl fun i _ => ?_
    rw [List.map_map]
    exact sum_map_KIdx_all l (fun j => g' (i, j))

theorem KIdx.mem_all : (l : List Nat) → (idx : KIdx l) → idx ∈ KIdx.all l
  | [], _ => List.mem_singleton.mpr rfl
  | _ :: l, (i, j) =>
    List.mem_flatMap.mpr ⟨i, List.mem_finRange i, List.mem_map.mpr ⟨j, KIdx.mem_all l j, rfl⟩⟩

/-- **The list model is the multi-index family**: `_kron_diag(v₁,…,v_k)` lists the products `Πᵢ vᵢ[jᵢ]` in row-major
order of the multi-index. -/
theorem kronDiag_eq_map [CommSemiring R] : (l : List Nat) → (vs : KVecs R l) →
    kronDiag (KVecs.toLists l vs) = (KIdx.all l).map (kronEig l vs)
  | [], _ => rfl
  | n :: l, (v, r) => by
    show kronDiag (List.ofFn v :: KVecs.toLists l r)
      = ((List.finRange n).flatMap fun i => (KIdx.all l).map fun j => (i, j)).map fun p => v p.1 * kronEig l r p.2
    rw [kronDiag_cons, kronDiag_eq_map l r, List.ofFn_eq_map, List.flatMap_map, List.map_flatMap]
    simp only [List.map_map, Function.comp_def]

theorem sum_map_kronDiag [CommSemiring R] {S : Type} [AddCommMonoid S] (l : List Nat) (vs : KVecs R l) (f : R → S) :
    ((kronDiag (KVecs.toLists l vs)).map f).sum = ∑ idx : KIdx l, f (kronEig l vs idx) := by
  rw [kronDiag_eq_map, List.map_map]
  exact sum_map_KIdx_all l _

/-- membership form: every entry of `_kron_diag` is one of the products. -/
theorem mem_kronDiag [CommSemiring R] : (l : List Nat) → (vs : KVecs R l) → (x : R) →
    x ∈ kronDiag (KVecs.toLists l vs) → ∃ idx : KIdx l, x = kronEig l vs idx := by
  intro l vs x h
  rw [kronDiag_eq_map] at h
  obtain ⟨idx, -, rfl⟩ := List.mem_map.mp h
  exact ⟨idx, rfl⟩

theorem kronEig_mem [CommSemiring R] (l : List Nat) (vs : KVecs R l) (idx : KIdx l) :
    kronEig l vs idx ∈ kronDiag (KVecs.toLists l vs) := by
  rw [kronDiag_eq_map]
  exact List.mem_map.mpr ⟨idx, KIdx.mem_all l idx, rfl⟩

/-- `kronLogdetN` on the lists of a factor family is the sum over the multi-indices — any `lg`, `cl` (this is the strongest
form of `kronLogdetN_eq` / `kronLogdetN_clamped`: what is left is `log_det_kronAll_eig` and a fact about `max`). -/
theorem kronLogdetN_eq_sum [CommSemiring R] (lg cl : R → R) (l : List Nat) (vs : KVecs R l) :
    kronLogdetN lg cl (KVecs.toLists l vs) = ∑ idx : KIdx l, lg (cl (kronEig l vs idx)) :=
  sum_map_kronDiag l vs fun x => lg (cl x)

end LinOp.C05
