import LinOp.C12.Proofs
import LinOp.C12.Classes
/-! Helper lemmas for the wrapper state machine (`Classes.lean`): the `HooksOk` contract, the generic invariant proof over any
hooks meeting the contract, and the proof that the hooks of each modelled class meet it. -/
namespace LinOp.C12

/-! ### effects on the sub-operators -/

/-- Replacing every sub-operator by one with the same matrix whose cache is valid if the old one's was. -/
theorem WInv.mapSubs {m : Nat} {w : WSt} (h : WInv m w) (g : SubObj → SubObj)
    (hg : ∀ o, Inv o.m o.st.cache → Inv (g o).m (g o).st.cache) : WInv m { w with subs := w.subs.map g } := by
  refine ⟨h.1, ?_⟩
  intro o ho
  simp only [List.mem_map] at ho
  obtain ⟨o', ho', rfl⟩ := ho
  exact hg o' (h.2 o' ho')

theorem WInv.mapSt {m : Nat} {w : WSt} (h : WInv m w) (f : SubObj → St) (hf : ∀ o, Inv o.m o.st.cache → Inv o.m (f o).cache) :
    WInv m { w with subs := w.subs.map fun o => { o with st := f o } } :=
  h.mapSubs _ hf

theorem subsQuery_ok (σ : Settings) (q : Query) {m : Nat} {w : WSt} (h : WInv m w) :
    WInv m (subsQuery σ q w).1 ∧ (subsQuery σ q w).2 = true := by
  refine ⟨WInv.mapSt h _ (fun o ho => (runQuery_ok o.P σ o.n o.m q o.st ho).1), ?_⟩
  simp only [subsQuery, List.all_eq_true, decide_eq_true_eq]
  intro o ho
  exact (runQuery_ok o.P σ o.n o.m q o.st (h.2 o ho)).2

/-- A hook that asks every sub-operator and tags its own answer `mk ·` with the wrapper's matrix only if all of them answered
acceptably: they did. -/
theorem subsQuery_tagged (σ : Settings) (q : Query) (mk : Nat → Val) {m : Nat} {w : WSt} (h : WInv m w) :
    WInv m (subsQuery σ q w).1 ∧ mk (if (subsQuery σ q w).2 then m else 0) = mk m :=
  ⟨(subsQuery_ok σ q h).1, congrArg mk (if_pos (subsQuery_ok σ q h).2)⟩

theorem subsSymeig_ok {m : Nat} {w : WSt} (h : WInv m w) : WInv m (subsSymeig w) :=
  WInv.mapSt h _ (fun o ho => symeigRun_ok o.P o.m o.st ho)

theorem subsLanczosRoot_ok {m : Nat} {w : WSt} (h : WInv m w) : WInv m (subsLanczosRoot w) :=
  WInv.mapSt h _ (fun o ho => (lanczosRoot_ok o.P o.m .noargs o.st ho).1)

theorem subsLanczosRootInv_ok (σ : Settings) {m : Nat} {w : WSt} (h : WInv m w) : WInv m (subsLanczosRootInv σ w) :=
  WInv.mapSt h _ (fun o ho => (good_rootInvBody o.P σ o.n o.m .noargs "lanczos" o.st ho).1)

theorem WInv.putSelf {m : Nat} {w : WSt} (h : WInv m w) {k : Key} {v : Val} (hv : validFor m k v) : WInv m (w.putSelf k v) :=
  ⟨Inv.put h.1 hv, h.2⟩

theorem WInv.bump {m : Nat} {w : WSt} (h : WInv m w) : WInv m (wBump w) := ⟨h.1, h.2⟩

/-! ### the contract of the hooks and the generic proof -/

/-- What the generic base-class logic needs from the class's hooks. -/
structure HooksOk (H : Hooks) (m : Nat) : Prop where
  chol : ∀ u w, WInv m w → WInv m (H.chol u w).1 ∧ (H.chol u w).2 = Val.chol u m
  symeig : ∀ w, WInv m w → WInv m (H.symeig w)
  svd : ∀ w, WInv m w → WInv m (H.svd w).1 ∧ (H.svd w).2 = Val.svd m
  denseBody : ∀ w, WInv m w → WInv m (H.denseBody w)
  lroot : ∀ w, WInv m w → WInv m (H.lroot w).1 ∧ ∃ p t, (H.lroot w).2 = Val.root p t t m
  lrootInv : ∀ w, WInv m w → WInv m (H.lrootInv w).1 ∧ ∃ p, (H.lrootInv w).2 = Val.rootInv p m
  rootOv : ∀ f, H.rootOv = some f → ∀ c w, WInv m w → ∀ r, f c w = .inl r → WInv m r.1 ∧ ∃ p t, r.2 = Val.root p t t m
  rootInvOv : ∀ f, H.rootInvOv = some f → ∀ c w, WInv m w → ∀ r, f c w = .inl r → WInv m r.1 ∧ ∃ p, r.2 = Val.rootInv p m
  iqlOv : ∀ f, H.iqlOv = some f → ∀ w, WInv m w → WInv m (f w).1 ∧ (f w).2 = Val.num true m
  sampleOv : ∀ f, H.sampleOv = some f → ∀ w, WInv m w → WInv m (f w).1 ∧ (f w).2 = Val.num true m

/-- The outcome `r` of a wrapper step: every cache satisfies its invariant and the value satisfies `Q`. -/
def WOk (m : Nat) (Q : Val → Prop) (r : WSt × Val) : Prop := WInv m r.1 ∧ Q r.2

theorem WOk.ite {m : Nat} {Q : Val → Prop} {c : Prop} [Decidable c] {a b : WSt × Val} (ha : WOk m Q a) (hb : WOk m Q b) :
    WOk m Q (if c then a else b) := by
  split <;> assumption

/-- A wrapper computation that keeps the invariant and returns a valid entry for key `k`. -/
def WGood (m : Nat) (k : Key) (f : WSt → WSt × Val) : Prop :=
  ∀ w, WInv m w → WInv m (f w).1 ∧ validFor m k (f w).2

theorem wgood_cached {m : Nat} {k : Key} {f : WSt → WSt × Val} (hf : WGood m k f) : WGood m k (wCached k f) := by
  intro w hw
  unfold wCached
  cases hg : w.self.cache.get k with
  | some v => exact ⟨hw, hw.1 _ _ hg⟩
  | none =>
    have := hf w hw
    exact ⟨WInv.putSelf this.1 this.2, this.2⟩

theorem wCached_hit {k : Key} {f : WSt → WSt × Val} {w : WSt} {v : Val} (h : w.self.cache.get k = some v) :
    wCached k f w = (w, v) := by
  simp only [wCached, h]

theorem wCached_miss {k : Key} {f : WSt → WSt × Val} {w : WSt} (h : w.self.cache.get k = none) :
    wCached k f w = ((f w).1.putSelf k (f w).2, (f w).2) := by
  simp only [wCached, h]

theorem wCached_stores (k : Key) (f : WSt → WSt × Val) (w : WSt) :
    (wCached k f w).1.self.cache.get k = some (wCached k f w).2 := by
  cases hg : w.self.cache.get k with
  | some v => rw [wCached_hit hg]; exact hg
  | none => rw [wCached_miss hg]; exact Cache.get_put_same _ k _

/-- A memoised body that is itself a memoised call under a second key `k'` (an override re-entering the memoised base method):
after a miss on the outer key, `k'` too holds the answer that was returned. -/
theorem wCached_nested (k k' : Key) (g : WSt → WSt × Val) (w : WSt) (hmiss : w.self.cache.get k = none) :
    (wCached k (wCached k' g) w).1.self.cache.get k' = some (wCached k (wCached k' g) w).2 := by
  rw [wCached_miss hmiss]
  exact Cache.get_put_of_get (wCached_stores k' g w)

/-- A memoised method `key c ↦ compute c` with an optional memoised override (`Hooks.rootOv`, `Hooks.rootInvOv`): the override
answers itself (`.inl`) or re-enters the memoised base method with re-bound arguments, under a second key (`.inr c'`).  It is
good as soon as validity under `key c` does not depend on `c` (`hkey`), the base computation is good and the override's own
answers are. -/
theorem wgood_override {m : Nat} {key : Call → Key} {compute : Call → WSt → WSt × Val}
    {ov : Option (Call → WSt → (WSt × Val) ⊕ Call)}
    (hkey : ∀ {c c' v}, validFor m (key c') v → validFor m (key c) v)
    (hcomp : ∀ c, WGood m (key c) (compute c))
    (hov : ∀ f, ov = some f → ∀ c w, WInv m w → ∀ r, f c w = .inl r → WInv m r.1 ∧ validFor m (key c) r.2) (c : Call) :
    WGood m (key c) (wCached (key c) (match (generalizing := false) ov with
      | some f => fun w =>
        match f c w with
        | .inl r => r
        | .inr c' => wCached (key c') (compute c') w
      | none => compute c)) := by
  apply wgood_cached
  intro w hw
  cases ov with
  | none => exact hcomp c w hw
  | some f =>
    simp only
    cases hf : f c w with
    | inl r => exact hov f rfl c w hw r hf
    | inr c' => exact (wgood_cached (hcomp c') w hw).imp_right hkey

section
variable {H : Hooks} {m : Nat} (hH : HooksOk H m) (σ : Settings) (n : Nat)
include hH

theorem wCholHook_ok (u : Bool) (w : WSt) (hw : WInv m w) :
    WInv m (wCholHook H u w).1 ∧ (wCholHook H u w).2 = Val.chol u m := by
  have h := wgood_cached (k := .full "cholesky" [] [("upper", .bool u)]) (f := H.chol u)
    (fun w hw => ⟨(hH.chol u w hw).1, (hH.chol u w hw).2 ▸ ⟨rfl, .inl rfl⟩⟩) w hw
  -- the wrappers' `_cholesky` is keyed like the base class's
  exact ⟨h.1, (valid_cholKey (P := Profile.base)).1 h.2⟩

theorem wCholesky_ok (u : Bool) (w : WSt) (hw : WInv m w) :
    WInv m (wCholesky H u w).1 ∧ (wCholesky H u w).2 = Val.chol u m := by
  have h := wCholHook_ok hH false w hw
  unfold wCholesky
  simp only [h.2]
  exact ⟨h.1, by cases u <;> rfl⟩

theorem wToDense_ok (w : WSt) (hw : WInv m w) :
    WInv m (wToDense H m w).1 ∧ (wToDense H m w).2 = Val.dense m := by
  unfold wToDense
  split
  · have h := wgood_cached (k := denseKey) (f := fun w => (H.denseBody w, Val.dense m))
      (fun w hw => ⟨hH.denseBody w hw, rfl, rfl⟩) w hw
    exact ⟨h.1, valid_denseKey h.2⟩
  · exact ⟨hH.denseBody w hw, rfl⟩

theorem wgood_diagzBody (c : Call) (meth : String) : WGood m (diagzKey c) (wDiagzBody H m meth) := fun w hw =>
  WOk.ite ⟨WInv.bump hw, rfl, rfl⟩ ⟨hH.symeig w hw, rfl, rfl⟩

/-- With a re-binding override the entry lives under the re-bound key; whatever the key, it is a diagonalization of this matrix. -/
theorem wDiagonalization_ok (c : Call) (w : WSt) (hw : WInv m w) :
    WInv m (wDiagonalization H σ n m c w).1 ∧ ∃ p, (wDiagonalization H σ n m c w).2 = Val.diagz p m := by
  have h : WOk m (validFor m (diagzKey (H.diagzRebind c))) (wDiagonalization H σ n m c w) :=
    wgood_cached (wgood_diagzBody hH _ _) w hw
  exact ⟨h.1, valid_diagzKey h.2⟩

theorem wSvd_ok (w : WSt) (hw : WInv m w) : WInv m (wSvd H w).1 ∧ (wSvd H w).2 = Val.svd m := by
  have h := wgood_cached (k := svdKey) (f := H.svd) (fun w hw => ⟨(hH.svd w hw).1, (hH.svd w hw).2 ▸ ⟨rfl, rfl⟩⟩) w hw
  exact ⟨h.1, valid_svdKey h.2⟩

/-- Whatever the method, the body of `root_decomposition` returns a root of the wrapper's matrix, valid under any of its keys. -/
theorem wgood_rootBody (c : Call) (meth : String) : WGood m (rootKey c) (wRootBody H σ n m meth) := fun w hw =>
  WOk.ite
    (by have h := wCholesky_ok hH false w hw
        simp only [h.2]
        exact ⟨h.1, rootKey_valid c _ true⟩) <|
  WOk.ite ⟨(wToDense_ok hH w hw).1, rootKey_valid c _ false⟩ <|
  WOk.ite ⟨hH.symeig w hw, rootKey_valid c _ false⟩ <|
  WOk.ite
    (by obtain ⟨h, p, hp⟩ := wDiagonalization_ok hH σ n .noargs w hw
        simp only [hp]
        exact ⟨h, rootKey_valid c _ false⟩) <|
  WOk.ite
    (by have h := wSvd_ok hH w hw
        simp only [h.2]
        exact ⟨h.1, rootKey_valid c _ false⟩) <|
  by obtain ⟨h, p, t, hp⟩ := hH.lroot w hw
     exact ⟨h, hp ▸ rootKey_valid c p t⟩

theorem wRootDecomp_ok (c : Call) (w : WSt) (hw : WInv m w) : WOk m (Post m (.root c)) (wRootDecomp H σ n m c w) :=
  (wgood_override (compute := wRootCompute H σ n m)
    (fun h => by obtain ⟨p, tri, triOk, rfl, ht⟩ := valid_rootKey h; exact ⟨rfl, rfl, ht⟩)
    (fun c w hw => wgood_rootBody hH σ n c _ w hw)
    (fun f hf c w hw r hr => by obtain ⟨h, p, t, hp⟩ := hH.rootOv f hf c w hw r hr; exact ⟨h, hp ▸ rootKey_valid c p t⟩) c w hw).imp_right
    valid_rootKey

theorem wgood_rootInvBody (c : Call) (meth : String) : WGood m (rootInvKey c) (wRootInvBody H σ n m meth) := fun w hw =>
  WOk.ite
    (by have h := wCholesky_ok hH false w hw
        simp only [h.2]
        exact ⟨h.1, rootInvKey_valid c _⟩) <|
  WOk.ite ⟨hH.symeig w hw, rootInvKey_valid c _⟩ <|
  WOk.ite
    (by obtain ⟨h, p, hp⟩ := wDiagonalization_ok hH σ n .noargs w hw
        simp only [hp]
        exact ⟨h, rootInvKey_valid c _⟩) <|
  WOk.ite
    (by have h := wSvd_ok hH w hw
        simp only [h.2]
        exact ⟨h.1, rootInvKey_valid c _⟩) <|
  WOk.ite
    (by obtain ⟨h, p, tri, triOk, hv, _⟩ := wRootDecomp_ok hH σ n .noargs w hw
        simp only [hv]
        exact ⟨h, rootInvKey_valid c _⟩) <|
  by obtain ⟨h, p, hp⟩ := hH.lrootInv w hw
     exact ⟨h, hp ▸ rootInvKey_valid c p⟩

theorem wRootInvDecomp_ok (c : Call) (w : WSt) (hw : WInv m w) : WOk m (Post m (.rootInv c)) (wRootInvDecomp H σ n m c w) :=
  (wgood_override (compute := wRootInvCompute H σ n m)
    (fun h => by obtain ⟨p, rfl⟩ := valid_rootInvKey h; exact rootInvKey_valid _ p)
    (fun c w hw => wgood_rootInvBody hH σ n c _ w hw)
    (fun f hf c w hw r hr => by obtain ⟨h, p, hp⟩ := hH.rootInvOv f hf c w hw r hr; exact ⟨h, hp ▸ rootInvKey_valid c p⟩) c w hw).imp_right
    valid_rootInvKey

theorem wIqlBase_ok (w : WSt) (hw : WInv m w) :
    WInv m (wIqlBase H σ n m w).1 ∧ (wIqlBase H σ n m w).2 = Val.num true m := by
  have chol (w : WSt) (hw : WInv m w) :
      WOk m (· = Val.num true m) ((wCholesky H false w).1, Val.num (valMat (wCholesky H false w).2 == m) m) := by
    have h := wCholesky_ok hH false w hw
    exact ⟨h.1, by simp [h.2, valMat]⟩
  unfold wIqlBase
  cases hov : H.iqlOv with
  | some f => exact hH.iqlOv f hov w hw
  | none =>
    refine WOk.ite (WOk.ite ?_ (chol w hw)) ⟨hw, rfl⟩
    obtain ⟨h, p, tri, triOk, hv, ht⟩ := wRootDecomp_ok hH σ n .noargs w hw
    simp only [hv]
    cases tri with
    | true => exact ⟨h, by simp [ht rfl]⟩
    | false => exact chol _ h

theorem wLogdetDiagz_ok (w : WSt) (hw : WInv m w) :
    WInv m (wLogdetDiagz H σ n m w).1 ∧ (wLogdetDiagz H σ n m w).2 = Val.num true m := by
  obtain ⟨h, p, hp⟩ := wDiagonalization_ok hH σ n .noargs w hw
  exact ⟨h, by simp [wLogdetDiagz, hp, valMat]⟩

theorem wIql_ok (w : WSt) (hw : WInv m w) : WOk m (· = Val.num true m) (wIql H σ n m w) := by
  have h : WOk m (· = Val.num true m) _ := wIqlBase_ok hH σ n w hw
  refine WOk.ite ?_ h
  have h2 := wLogdetDiagz_ok hH σ n _ h.1
  exact ⟨h2.1, by simp only [h.2, h2.2]; rfl⟩

theorem wLogdet_ok (w : WSt) (hw : WInv m w) : WOk m (· = Val.num true m) (wLogdet H σ n m w) :=
  WOk.ite (wLogdetDiagz_ok hH σ n w hw) (wIql_ok hH σ n w hw)

theorem wEigh_ok (w : WSt) (hw : WInv m w) : WOk m (Post m .eigh) (wEigh H m w) := by
  unfold wEigh
  rw [symeig_absent hw.1]
  exact ⟨hH.symeig w hw, rfl⟩

theorem wSample_ok (w : WSt) (hw : WInv m w) : WOk m (Post m .sample) (wSample H σ n m w) := by
  unfold wSample
  cases hov : H.sampleOv with
  | some f => exact hH.sampleOv f hov w hw
  | none =>
    obtain ⟨h, p, tri, triOk, hv, _⟩ := wRootDecomp_ok hH σ n .noargs w hw
    simp only [hv]
    exact ⟨h, by simp [Post]⟩

/-- **One step of the generic wrapper logic on the wrapper itself**, the answer in solved form. -/
theorem wRunSelf_post (q : Query) (w : WSt) (hw : WInv m w) : WOk m (Post m q) (wRunSelf H σ n m q w) := by
  cases q with
  | toDense => exact wToDense_ok hH w hw
  | cholesky u => exact wCholesky_ok hH u w hw
  | cholHook u => exact wCholHook_ok hH u w hw
  | root c => exact wRootDecomp_ok hH σ n c w hw
  | rootInv c => exact wRootInvDecomp_ok hH σ n c w hw
  | diagz c => exact wDiagonalization_ok hH σ n c w hw
  | svd => exact wSvd_ok hH w hw
  | eigh => exact wEigh_ok hH w hw
  | iql => exact wIql_ok hH σ n w hw
  | sample => exact wSample_ok hH σ n w hw
  | pure => exact ⟨hw, rfl⟩

/-- **One step of the wrapper state machine** (query on the wrapper or on a held sub-operator). -/
theorem wRun_ok (q : WQuery) (w : WSt) (hw : WInv m w) :
    WInv m (wRun H σ n m q w).1 ∧ wAnswerOk m w q (wRun H σ n m q w).2 := by
  cases q with
  | self q => exact (wRunSelf_post hH σ n q w hw).imp_right Post.answerOk
  | sub j q =>
    refine ⟨WInv.mapSubs hw _ fun o ho => ?_, ?_⟩
    · split
      · exact (runQuery_ok o.P σ o.n o.m q o.st ho).1
      · exact ho
    · intro hex
      simp only [wRun]
      cases hf : w.subs.find? (fun o => o.m == j) with
      | none =>
        obtain ⟨o, ho, hj⟩ := hex
        have := List.find?_eq_none.mp hf o ho
        simp [hj] at this
      | some o =>
        have hmem := List.mem_of_find?_eq_some hf
        have hj : o.m = j := by simpa using List.find?_some hf
        simp only
        rw [← hj]
        exact (runQuery_ok o.P σ o.n o.m q o.st (hw.2 o hmem)).2
  | logdet => exact (wLogdet_ok hH σ n w hw).imp_right (Post.answerOk (q := .iql))

end

/-! ### the modelled classes meet the contract -/

theorem hooksOk_delegating (σ : Settings) (m : Nat) (b e : Bool) : HooksOk (Hooks.delegating σ m b e) m where
  chol u w hw := subsQuery_tagged σ _ (Val.chol u) hw
  symeig w hw := by
    cases e with
    | false => exact subsSymeig_ok hw
    | true => exact WInv.putSelf hw ⟨rfl, rfl⟩
  svd w hw := by
    cases e with
    | false => exact subsQuery_tagged σ _ Val.svd hw
    | true => exact ⟨WInv.putSelf hw ⟨rfl, rfl⟩, rfl⟩
  denseBody w hw := hw
  lroot w hw := ⟨WInv.bump (subsLanczosRoot_ok hw), _, false, rfl⟩
  lrootInv w hw := ⟨WInv.bump (subsLanczosRootInv_ok σ hw), _, rfl⟩
  rootOv f hf := nomatch hf
  rootInvOv f hf := nomatch hf
  iqlOv f hf w hw := by
    obtain rfl := Option.some.inj hf
    have h := subsQuery_ok σ .iql hw
    exact ⟨h.1, congrArg (Val.num · m) h.2⟩
  sampleOv f hf w hw := by
    cases b with
    | false => nomatch hf
    | true =>
      obtain rfl := Option.some.inj hf
      have h := subsQuery_ok σ .sample hw
      exact ⟨h.1, congrArg (Val.num · m) h.2⟩

theorem hooksOk_constMul (σ : Settings) (m : Nat) : HooksOk (Hooks.constMul σ m) m where
  chol u w hw := ⟨hw, rfl⟩
  symeig w hw := WInv.putSelf hw ⟨rfl, rfl⟩
  svd w hw := ⟨WInv.putSelf hw ⟨rfl, rfl⟩, rfl⟩
  denseBody w hw := hw
  lroot w hw := ⟨WInv.bump hw, _, false, rfl⟩
  lrootInv w hw := ⟨WInv.bump (WInv.putSelf hw (rootKey_valid .noargs _ false)), _, rfl⟩
  rootOv f hf c w hw r hr := by
    obtain rfl := Option.some.inj hf
    obtain rfl := Sum.inl.inj hr
    exact (subsQuery_tagged σ _ (Val.root _ false false) hw).imp_right fun e => ⟨_, false, e⟩
  rootInvOv f hf c w hw r hr := by
    obtain rfl := Option.some.inj hf
    obtain rfl := Sum.inl.inj hr
    exact (subsQuery_tagged σ _ (Val.rootInv _) hw).imp_right fun e => ⟨_, e⟩
  iqlOv f hf := nomatch hf
  sampleOv f hf := nomatch hf

/-- **KroneckerProductLinearOperator meets the contract** — for any number of factors of any modelled class, any size, any settings. -/
theorem hooksOk_kron (σ : Settings) (n m : Nat) : HooksOk (Hooks.kron σ n m) m where
  chol u w hw := subsQuery_tagged σ _ (Val.chol u) hw
  symeig w hw := subsSymeig_ok hw
  svd w hw := subsQuery_tagged σ _ Val.svd hw
  denseBody w hw := hw
  lroot w hw := ⟨WInv.bump hw, _, false, rfl⟩
  lrootInv w hw := ⟨WInv.bump (WInv.putSelf hw (rootKey_valid .noargs _ false)), _, rfl⟩
  rootOv f hf c w hw r hr := by
    obtain rfl := Option.some.inj hf
    by_cases hn : n ≤ σ.mcs
    · simp only [if_pos hn] at hr
      nomatch hr
    · simp only [if_neg hn] at hr
      obtain rfl := Sum.inl.inj hr
      exact (subsQuery_tagged σ _ (Val.root _ false false) hw).imp_right fun e => ⟨_, false, e⟩
  rootInvOv f hf c w hw r hr := by
    obtain rfl := Option.some.inj hf
    by_cases hn : n ≤ σ.mcs
    · simp only [if_pos hn] at hr
      nomatch hr
    · simp only [if_neg hn] at hr
      obtain rfl := Sum.inl.inj hr
      exact (subsQuery_tagged σ _ (Val.rootInv _) hw).imp_right fun e => ⟨_, e⟩
  iqlOv f hf := nomatch hf
  sampleOv f hf := nomatch hf

theorem sumDense_ok (σ : Settings) {m : Nat} {w : WSt} (hw : WInv m w) : WInv m (sumDense σ m w) := by
  unfold sumDense
  split
  · exact hw
  · exact WInv.putSelf (subsQuery_ok σ .toDense hw).1 ⟨rfl, rfl⟩

/-- Replacing the state of the first sub-operator by one that satisfies its invariant. -/
theorem WInv.setFirst {m : Nat} {w : WSt} (hw : WInv m w) {o : SubObj} {t : List SubObj} (hs : w.subs = o :: t)
    {st : St} (h : Inv o.m st.cache) : WInv m { w with subs := { o with st := st } :: t } := by
  refine ⟨hw.1, fun o' ho' => ?_⟩
  rcases List.mem_cons.1 ho' with rfl | ht
  · exact h
  · exact hw.2 o' (hs ▸ List.mem_cons_of_mem _ ht)

theorem firstQuery_ok (σ : Settings) (q : Query) {m : Nat} {w : WSt} (hw : WInv m w) :
    WInv m (firstQuery σ q w).1 ∧ (firstQuery σ q w).2 = true := by
  unfold firstQuery
  cases hs : w.subs with
  | nil => exact ⟨hw, rfl⟩
  | cons o t =>
    have h := runQuery_ok o.P σ o.n o.m q o.st (hw.2 o (hs ▸ List.mem_cons_self))
    exact ⟨hw.setFirst hs h.1, decide_eq_true h.2⟩

theorem firstSymeig_ok {m : Nat} {w : WSt} (hw : WInv m w) : WInv m (firstSymeig w) := by
  unfold firstSymeig
  cases hs : w.subs with
  | nil => exact hw
  | cons o t => exact hw.setFirst hs (symeigRun_ok o.P o.m o.st (hw.2 o (hs ▸ List.mem_cons_self)))

/-- **AddedDiagLinearOperator meets the contract** (general and constant diagonal part). -/
theorem hooksOk_addedDiag (σ : Settings) (m : Nat) (cd : Bool) : HooksOk (Hooks.addedDiag σ m cd) m where
  chol u w hw := ⟨hw, rfl⟩
  symeig w hw := by
    cases cd with
    | true => exact firstSymeig_ok hw
    | false => exact sumDense_ok σ hw
  svd w hw := by
    cases cd with
    | true =>
      have h := firstQuery_ok σ .svd hw
      exact ⟨h.1, congrArg _ (if_pos h.2)⟩
    | false => exact ⟨sumDense_ok σ hw, rfl⟩
  denseBody w hw := (subsQuery_ok σ .toDense hw).1
  lroot w hw := ⟨WInv.bump hw, _, false, rfl⟩
  lrootInv w hw := ⟨WInv.bump (WInv.putSelf hw (rootKey_valid .noargs _ false)), _, rfl⟩
  rootOv f hf := nomatch hf
  rootInvOv f hf := nomatch hf
  iqlOv f hf := nomatch hf
  sampleOv f hf := nomatch hf

theorem hooksOk_kind (k : WKind) (σ : Settings) (n m : Nat) : HooksOk (k.hooks σ n m) m := by
  cases k
  · exact hooksOk_delegating σ m false false
  · exact hooksOk_delegating σ m true false
  · exact hooksOk_constMul σ m
  · exact hooksOk_delegating σ m true true
  · exact hooksOk_kron σ n m
  · exact hooksOk_addedDiag σ m false
  · exact hooksOk_addedDiag σ m true

end LinOp.C12
