import LinOp.Generated.C12Table
/-! The decoration table against a reviewed list of cache names: every `@cached` decoration is found, by its cache name, in
`cacheNameFunction` with the function it decorates.  One evaluation over the generated table; that a name determines its function
and that no other name occurs are consequences that hold of any table with such a list. -/
namespace LinOp.C12
open LinOp.Generated.C12

/-- The cache names in use and the one function name each of them memoises. -/
def cacheNameFunction : List (String × String) :=
  [("cholesky", "_cholesky"), ("root_decomposition", "root_decomposition"), ("root_inv_decomposition", "root_inv_decomposition"),
   ("diagonalization", "diagonalization"), ("svd", "_svd"), ("size", "_size"), ("kernel_diag", "_diagonal"),
   ("covar_mat", "covar_mat"), ("chol_cap_mat", "chol_cap_mat"), ("fn:to_dense", "to_dense"), ("fn:_diagonal", "_diagonal"),
   ("fn:inverse", "inverse")]

/-- `tbl` lists the cache name of every decoration of `l` together with the decorated function. -/
def Listed (tbl : List (String × String)) (l : List Deco) : Prop := ∀ d ∈ l, tbl.lookup d.name = some d.fn

instance (tbl : List (String × String)) (l : List Deco) : Decidable (Listed tbl l) := List.decidableBAll _ l

theorem decos_listed : Listed cacheNameFunction decos := by decide +kernel

theorem Listed.name_determines_function {tbl : List (String × String)} {l : List Deco} (h : Listed tbl l) :
    l.all (fun d₁ => l.all fun d₂ => d₁.name != d₂.name || d₁.fn == d₂.fn) = true := by
  simp only [List.all_eq_true, Bool.or_eq_true, bne_iff_ne, beq_iff_eq]
  intro d₁ h₁ d₂ h₂
  by_cases e : d₁.name = d₂.name
  · exact .inr (Option.some.inj ((h d₁ h₁).symm.trans (e ▸ h d₂ h₂)))
  · exact .inl e

theorem Listed.names_known {tbl : List (String × String)} {l : List Deco} (h : Listed tbl l) :
    l.all (fun d => (tbl.map (·.1)).contains d.name) = true := by
  have mem_of_lookup (k v : String) : ∀ t : List (String × String), t.lookup k = some v → k ∈ t.map (·.1) := by
    intro t
    induction t with
    | nil => intro e; cases e
    | cons p t ih =>
      intro e
      by_cases hk : k = p.1
      · exact hk ▸ List.mem_cons_self
      · rw [List.lookup_cons, beq_false_of_ne hk] at e
        exact List.mem_cons_of_mem _ (ih e)
  simp only [List.all_eq_true, List.contains_iff_mem]
  exact fun d hd => mem_of_lookup _ _ _ (h d hd)

end LinOp.C12
