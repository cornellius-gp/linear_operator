import LinOp.C12.Model
/-! Helper lemmas for C12: finite-map laws of the memoize cache, the specification solved for the answer (`Post`), what a valid
entry under each key is, the predicates `Good` / `Ok` on computations, one lemma per public method and the one-step theorem
`runQuery_post` of the single-object model. -/
namespace LinOp.C12

namespace Cache

theorem get_put_same (c : Cache) (k : Key) (v : Val) : (c.put k v).get k = some v := by
  induction c with
  | nil => simp [put, get]
  | cons e t ih =>
    obtain ⟨k', v'⟩ := e
    by_cases h : k' = k <;> simp [put, get, h, ih]

theorem get_put_other (c : Cache) (k k' : Key) (v : Val) (h : k' ≠ k) : (c.put k v).get k' = c.get k' := by
  induction c with
  | nil => simp [put, get, Ne.symm h]
  | cons e t ih =>
    obtain ⟨k0, v0⟩ := e
    by_cases h0 : k0 = k
    · subst h0
      simp [put, get, Ne.symm h]
    · by_cases h1 : k0 = k'
      · subst h1
        simp [put, get, h0]
      · simp [put, get, h0, h1, ih]

theorem get_pop_same (c : Cache) (k : Key) : (c.pop k).get k = none := by
  induction c with
  | nil => simp [pop, get]
  | cons e t ih =>
    obtain ⟨k0, v0⟩ := e
    by_cases h0 : k0 = k <;> simp [pop, get, h0, ih]

theorem get_pop_other (c : Cache) (k k' : Key) (h : k' ≠ k) : (c.pop k).get k' = c.get k' := by
  induction c with
  | nil => simp [pop, get]
  | cons e t ih =>
    obtain ⟨k0, v0⟩ := e
    by_cases h0 : k0 = k
    · subst h0
      simp [pop, get, Ne.symm h, ih]
    · by_cases h1 : k0 = k'
      · subst h1
        simp [pop, get, h0]
      · simp [pop, get, h0, h1, ih]

/-- Inserting `v` leaves every key that already held `v` holding it. -/
theorem get_put_of_get {c : Cache} {k k' : Key} {v : Val} (h : c.get k' = some v) : (c.put k v).get k' = some v := by
  by_cases e : k' = k
  · rw [e, get_put_same]
  · rw [get_put_other _ _ _ _ e, h]

end Cache

theorem Inv.nil (m : Nat) : Inv m [] := by
  intro k v h; simp [Cache.get] at h

theorem Inv.put {m : Nat} {c : Cache} (h : Inv m c) {k : Key} {v : Val} (hv : validFor m k v) : Inv m (c.put k v) := by
  intro k' v' h'
  by_cases e : k' = k
  · subst e
    rw [Cache.get_put_same] at h'
    cases h'; exact hv
  · rw [Cache.get_put_other _ _ _ _ e] at h'
    exact h _ _ h'

theorem Inv.pop {m : Nat} {c : Cache} (h : Inv m c) (k : Key) : Inv m (c.pop k) := by
  intro k' v' h'
  by_cases e : k' = k
  · subst e
    rw [Cache.get_pop_same] at h'
    cases h'
  · rw [Cache.get_pop_other _ _ _ e] at h'
    exact h _ _ h'

theorem inv_pair {m : Nat} {k₁ k₂ : Key} {v₁ v₂ : Val} (h₁ : validFor m k₁ v₁) (h₂ : validFor m k₂ v₂) :
    Inv m [(k₁, v₁), (k₂, v₂)] := by
  intro k v h
  by_cases e1 : k₁ = k
  · subst e1; simp [Cache.get] at h; subst h; exact h₁
  · by_cases e2 : k₂ = k
    · subst e2; simp [Cache.get, e1] at h; subst h; exact h₂
    · simp [Cache.get, e1, e2] at h

/-! ### the specification, solved for the answer -/

section
variable {m : Nat} {v : Val}

/-- Queries whose specification pins the answer uniquely. -/
def Query.unique : Query → Bool
  | .toDense | .cholesky _ | .cholHook _ | .svd | .eigh | .iql | .sample | .pure => true
  | _ => false

/-- What the public method `q` returns on an operator with matrix `m`, whatever was asked before: `to_dense`, `cholesky(upper)`,
`_cholesky(upper)`, `svd`, `eigh` and the numbers have ONE possible answer; `root_decomposition`, `root_inv_decomposition` and
`diagonalization` return a factor of this matrix whose provenance (for a root also the triangular wrapping, truthful when present)
depends on the method the state of the cache selected.  This is `answerOk m q` solved for the value (`Post.answerOk`), and the
form in which the one-step theorems are proved. -/
def Post (m : Nat) (q : Query) (v : Val) : Prop :=
  match q with
  | .toDense => v = .dense m
  | .cholesky u | .cholHook u => v = .chol u m
  | .root _ => ∃ p tri triOk, v = .root p tri triOk m ∧ (tri = true → triOk = true)
  | .rootInv _ => ∃ p, v = .rootInv p m
  | .diagz _ => ∃ p, v = .diagz p m
  | .svd => v = .svd m
  | .eigh => v = .evals true m
  | .iql | .sample | .pure => v = .num true m

theorem Post.answerOk {q : Query} (h : Post m q v) : answerOk m q v := by
  cases q
  case root => obtain ⟨p, tri, triOk, rfl, ht⟩ := h; exact ⟨rfl, ht⟩
  case rootInv => obtain ⟨p, rfl⟩ := h; exact rfl
  case diagz => obtain ⟨p, rfl⟩ := h; exact rfl
  all_goals cases h; first | exact rfl | exact ⟨rfl, rfl⟩

/-- Where `Post m q` is an equation it has one solution. -/
theorem Post.eq_of_unique {q : Query} {a b : Val} (hq : q.unique = true) (ha : Post m q a) (hb : Post m q b) : a = b := by
  cases q <;> first | exact ha.trans hb.symm | cases hq

/-! ### what a valid entry under a given key is -/

theorem cholKey_name (P : Profile) (u : Bool) : (cholKey P u).name = "cholesky" := by
  cases hb : P.cholBare <;> simp [cholKey, hb, Key.name]

theorem valid_cholKey {P : Profile} {u : Bool} :
    validFor m (cholKey P u) v ↔ v = Val.chol (if P.cholBare then false else u) m := by
  constructor
  · intro h
    cases v <;> simp [validFor, cholKey_name] at h
    case chol u' a => cases hb : P.cholBare <;> simp_all [cholKey]
  · intro h
    subst h
    cases hb : P.cholBare
    · exact ⟨rfl, .inl (by simp [cholKey, hb])⟩
    · exact ⟨rfl, .inr ⟨by simp [cholKey, hb], rfl⟩⟩

theorem valid_rootKey {c : Call} (h : validFor m (rootKey c) v) : Post m (.root c) v := by
  cases v <;> simp [validFor, rootKey, Key.name] at h
  case root p tri triOk a => exact ⟨p, tri, triOk, by rw [h.1], h.2⟩

theorem valid_rootInvKey {c : Call} (h : validFor m (rootInvKey c) v) : Post m (.rootInv c) v := by
  cases v <;> simp [validFor, rootInvKey, Key.name] at h
  case rootInv p a => exact ⟨p, by rw [h]⟩

theorem valid_diagzKey {c : Call} (h : validFor m (diagzKey c) v) : Post m (.diagz c) v := by
  cases v <;> simp [validFor, diagzKey, Key.name] at h
  case diagz p a => exact ⟨p, by rw [h]⟩

theorem valid_svdKey (h : validFor m svdKey v) : v = Val.svd m := by
  cases v <;> simp [validFor, svdKey, Key.name] at h
  rw [h]

theorem valid_denseKey (h : validFor m denseKey v) : v = Val.dense m := by
  cases v <;> simp [validFor, denseKey, Key.name] at h
  rw [h]

/-- Nothing valid can ever sit under the `symeig` key: the library never writes it. -/
theorem symeig_absent {c : Cache} (hc : Inv m c) : c.get symeigKey = none := by
  cases hg : c.get symeigKey with
  | none => rfl
  | some v =>
    have := hc _ _ hg
    cases v <;> simp [validFor, symeigKey, Key.name] at this

theorem rootKey_valid (c : Call) (p : Prov) (t : Bool) : validFor m (rootKey c) (Val.root p t t m) := ⟨rfl, rfl, id⟩

theorem rootInvKey_valid (c : Call) (p : Prov) : validFor m (rootInvKey c) (Val.rootInv p m) := ⟨rfl, rfl⟩

/-- The test the transplants make before tagging the new entries with the new matrix: it succeeds for a paired root of this matrix. -/
theorem paired_valMat {c : Call} {r ri : Val} (hr : Post m (.root c) r) (hp : paired r ri = true) :
    (paired r ri && valMat r == m) = true := by
  obtain ⟨p, tri, triOk, rfl, _⟩ := hr
  simp [hp, valMat]

end

/-! ### computations that keep the invariant -/

/-- The outcome `r` of a step: its cache satisfies the invariant and its value satisfies `Q`. -/
def Ok (m : Nat) (Q : Val → Prop) (r : St × Val) : Prop := Inv m r.1.cache ∧ Q r.2

theorem Ok.ite {m : Nat} {Q : Val → Prop} {c : Prop} [Decidable c] {a b : St × Val} (ha : Ok m Q a) (hb : Ok m Q b) :
    Ok m Q (if c then a else b) := by
  split <;> assumption

/-- A computation that keeps the cache invariant and returns a valid answer for key `k`. -/
def Good (m : Nat) (k : Key) (f : St → St × Val) : Prop :=
  ∀ s, Inv m s.cache → Inv m (f s).1.cache ∧ validFor m k (f s).2

theorem good_cached {m : Nat} {k : Key} {f : St → St × Val} (hf : Good m k f) : Good m k (cachedCall k f) := by
  intro s hs
  unfold cachedCall
  cases hg : s.cache.get k with
  | some v => exact ⟨hs, hs _ _ hg⟩
  | none =>
    have := hf s hs
    exact ⟨Inv.put this.1 this.2, this.2⟩

/-- After the call, hit or miss, the key holds the returned value. -/
theorem cached_get {k : Key} {f : St → St × Val} (s : St) :
    (cachedCall k f s).1.cache.get k = some (cachedCall k f s).2 := by
  unfold cachedCall
  cases hg : s.cache.get k with
  | some v => simpa using hg
  | none => simp [Cache.get_put_same]

@[simp] theorem log_cache (s : St) (l : List String) : (s.log l).cache = s.cache := rfl

section
variable (P : Profile) (σ : Settings) (n m : Nat)

/-- `_cholesky(upper)` under its key: the memoised factor is the lower one for the classes with the bare key. -/
theorem good_cholBody (u : Bool) :
    Good m (cholKey P u) fun s => (if P.cholLogs then s.log ["chol"] else s, Val.chol (if P.cholBare then false else u) m) :=
  fun s hs => ⟨by split <;> exact hs, valid_cholKey.2 rfl⟩

theorem cholHook_ok (u : Bool) (s : St) (hs : Inv m s.cache) :
    Inv m (cholHook P m u s).1.cache ∧ (cholHook P m u s).2 = Val.chol u m := by
  have h := good_cached (good_cholBody P m u) s hs
  unfold cholHook
  simp only [valid_cholKey.1 h.2]
  exact ⟨h.1, by cases P.cholBare <;> rfl⟩

theorem cholesky_ok (u : Bool) (s : St) (hs : Inv m s.cache) :
    Inv m (cholesky P m u s).1.cache ∧ (cholesky P m u s).2 = Val.chol u m := by
  have h := good_cached (good_cholBody P m false) s hs
  simp only [ite_self] at h
  unfold cholesky cholLower
  simp only [valid_cholKey.1 h.2, ite_self]
  exact ⟨h.1, by cases u <;> rfl⟩

theorem toDense_ok (s : St) (hs : Inv m s.cache) :
    Inv m (toDense P m s).1.cache ∧ (toDense P m s).2 = Val.dense m := by
  unfold toDense
  split
  · have h := good_cached (k := denseKey) (f := fun s => (s, Val.dense m)) (fun s hs => ⟨hs, rfl, rfl⟩) s hs
    exact ⟨h.1, valid_denseKey h.2⟩
  · exact ⟨hs, rfl⟩

theorem symeigRun_ok (s : St) (hs : Inv m s.cache) : Inv m (symeigRun P m s).cache := by
  unfold symeigRun
  split
  · exact (toDense_ok P m s hs).1
  · exact hs

theorem good_diagzBody (c : Call) (meth : String) : Good m (diagzKey c) (diagzBody P m meth) := fun s hs =>
  Ok.ite ⟨hs, rfl, rfl⟩ ⟨symeigRun_ok P m s hs, rfl, rfl⟩

theorem diagonalization_ok (c : Call) (s : St) (hs : Inv m s.cache) : Ok m (Post m (.diagz c)) (diagonalization P σ n m c s) :=
  (good_cached (good_diagzBody P m c _) s hs).imp_right valid_diagzKey

theorem good_diagz_unused (c : Call) (s : St) (hs : Inv m s.cache) (meth : String) :
    Inv m (diagzBody P m meth s).1.cache :=
  (good_diagzBody P m c meth s hs).1

theorem svd_ok (s : St) (hs : Inv m s.cache) : Ok m (Post m .svd) (svd P m s) :=
  (good_cached (k := svdKey) (f := fun s => (symeigRun P m s, Val.svd m)) (fun s hs => ⟨symeigRun_ok P m s hs, rfl, rfl⟩) s hs).imp_right
    valid_svdKey

theorem lanczosRoot_ok (c : Call) (s : St) (hs : Inv m s.cache) :
    Inv m (lanczosRoot P m s).1.cache ∧ validFor m (rootKey c) (lanczosRoot P m s).2 :=
  Ok.ite ⟨hs, rootKey_valid c _ false⟩ ⟨hs, rootKey_valid c _ true⟩

/-- Whatever the method, the body of `root_decomposition` returns a root of this matrix, valid under any of its keys. -/
theorem good_rootBody (c : Call) (meth : String) : Good m (rootKey c) (rootBody P σ n m meth) := fun s hs =>
  Ok.ite ⟨(cholesky_ok P m false s hs).1, rootKey_valid c _ true⟩ <|
  Ok.ite ⟨(toDense_ok P m s hs).1, rootKey_valid c _ false⟩ <|
  Ok.ite ⟨symeigRun_ok P m s hs, rootKey_valid c _ false⟩ <|
  Ok.ite ⟨(diagonalization_ok P σ n m .noargs s hs).1, rootKey_valid c _ false⟩ <|
  Ok.ite ⟨(svd_ok P m s hs).1, rootKey_valid c _ false⟩ <|
  lanczosRoot_ok P m c s hs

theorem rootDecomp_ok (c : Call) (s : St) (hs : Inv m s.cache) : Ok m (Post m (.root c)) (rootDecomp P σ n m c s) :=
  Ok.ite ((good_cached (fun s hs => good_rootBody P σ n m c _ s hs) s hs).imp_right valid_rootKey) ⟨hs, _, _, _, rfl, id⟩

theorem good_rootInvBody (c : Call) (meth : String) : Good m (rootInvKey c) (rootInvBody P σ n m meth) := fun s hs =>
  Ok.ite ⟨(cholesky_ok P m false s hs).1, rootInvKey_valid c _⟩ <|
  Ok.ite ⟨symeigRun_ok P m s hs, rootInvKey_valid c _⟩ <|
  Ok.ite ⟨(diagonalization_ok P σ n m .noargs s hs).1, rootInvKey_valid c _⟩ <|
  Ok.ite ⟨(svd_ok P m s hs).1, rootInvKey_valid c _⟩ <|
  Ok.ite
    (by -- pinverse: the pseudo-inverse of whatever root `root_decomposition()` returns
      obtain ⟨h, p, tri, triOk, hv, _⟩ := rootDecomp_ok P σ n m .noargs s hs
      simp only [hv]
      exact ⟨h, rootInvKey_valid c _⟩) <|
  Ok.ite ⟨Inv.put hs (rootKey_valid .noargs _ false), rootInvKey_valid c _⟩ ⟨hs, rootInvKey_valid c _⟩

theorem rootInvDecomp_ok (c : Call) (s : St) (hs : Inv m s.cache) : Ok m (Post m (.rootInv c)) (rootInvDecomp P σ n m c s) :=
  Ok.ite ((good_cached (fun s hs => good_rootInvBody P σ n m c _ s hs) s hs).imp_right valid_rootInvKey) ⟨hs, _, rfl⟩

/-- `eigh` never finds the `symeig` entry it would pop, so it always returns its full form. -/
theorem eigh_ok (s : St) (hs : Inv m s.cache) : Ok m (Post m .eigh) (eigh P m s) := by
  unfold eigh
  rw [symeig_absent hs]
  exact ⟨symeigRun_ok P m s hs, rfl⟩

theorem invQuadLogdet_ok (s : St) (hs : Inv m s.cache) : Ok m (Post m .iql) (invQuadLogdet P σ n m s) := by
  have chol (s : St) (hs : Inv m s.cache) : Ok m (Post m .iql) ((cholesky P m false s).1, Val.num true m) :=
    ⟨(cholesky_ok P m false s hs).1, rfl⟩
  refine Ok.ite ⟨hs, rfl⟩ (Ok.ite (Ok.ite ?_ (chol s hs)) ⟨hs, rfl⟩)
  -- the triangular-root shortcut: a root flagged triangular is triangular, and is a root of this matrix
  obtain ⟨h, p, tri, triOk, hv, ht⟩ := rootDecomp_ok P σ n m .noargs s hs
  simp only [hv]
  cases tri with
  | true => exact ⟨h, by simp [Post, ht rfl]⟩
  | false => exact chol _ h

theorem sample_ok (s : St) (hs : Inv m s.cache) : Ok m (Post m .sample) (sample P σ n m s) := by
  refine Ok.ite ?_ ⟨hs, rfl⟩
  obtain ⟨h, p, tri, triOk, hv, _⟩ := rootDecomp_ok P σ n m .noargs s hs
  simp only [hv]
  exact ⟨h, by simp [Post]⟩

/-- One step of the single-object model: the invariant is preserved and the answer is what the specification says, in solved form. -/
theorem runQuery_post (q : Query) (s : St) (hs : Inv m s.cache) : Ok m (Post m q) (runQuery P σ n m q s) := by
  cases q with
  | toDense => exact toDense_ok P m s hs
  | cholesky u => exact cholesky_ok P m u s hs
  | cholHook u => exact cholHook_ok P m u s hs
  | root c => exact rootDecomp_ok P σ n m c s hs
  | rootInv c => exact rootInvDecomp_ok P σ n m c s hs
  | diagz c => exact diagonalization_ok P σ n m c s hs
  | svd => exact svd_ok P m s hs
  | eigh => exact eigh_ok P m s hs
  | iql => exact invQuadLogdet_ok P σ n m s hs
  | sample => exact sample_ok P σ n m s hs
  | pure => exact ⟨hs, rfl⟩

theorem runQuery_ok (q : Query) (s : St) (hs : Inv m s.cache) :
    Inv m (runQuery P σ n m q s).1.cache ∧ answerOk m q (runQuery P σ n m q s).2 :=
  (runQuery_post P σ n m q s hs).imp_right Post.answerOk

end

/-- On a fresh base-class object at or below `max_cholesky_size`, a root and an inverse root asked for without a method (in any
calling convention `c`) are both built from the Cholesky factor: an exact pair. -/
theorem fresh_cholesky_paired (σ : Settings) (n m : Nat) (hσ : n ≤ σ.mcs) (c : Call) (h0 : c.method = none)
    (h2 : c.method 2 = none) :
    paired (rootDecomp Profile.base σ n m c ⟨[], 0, []⟩).2
      (rootInvDecomp Profile.base σ n m c (rootDecomp Profile.base σ n m c ⟨[], 0, []⟩).1).2 = true := by
  simp [rootDecomp, rootInvDecomp, Profile.base, cachedCall, Cache.get, rootCompute, rootInvCompute, h0, h2,
    rootKey, rootInvKey, Cache.put, chooseRootMethod, Cache.hasFirst, Key.first, hσ, rootBody, rootInvBody, cholesky, cholLower,
    cholKey, St.log, paired]

end LinOp.C12
