import LinOp.C12.Model
/-!
C12 — per-class cache overrides as part of the state machine: a WRAPPER object (its own `_memoize_cache`) together with the
caches of the sub-operator objects it holds (`BatchRepeatLinearOperator.base_linear_op`, `Block*.base_linear_op`,
`ConstantMulLinearOperator.base_linear_op`, the factors of a `KroneckerProductLinearOperator`, …).  Core Lean only.

The public methods of these classes are the base-class methods (same keys, same method choice, on the wrapper's cache); what the
classes override are the HOOKS, which delegate into the sub-operators and thereby read and write THEIR caches:

  BatchRepeat / BlockDiag / BlockInterleaved / Kronecker
    `_cholesky(upper)`  @cached(name="cholesky")  -> `sub.cholesky(upper=upper)` for every sub-operator
  BatchRepeat / BlockDiag / Kronecker            (BlockInterleaved: base class, through the wrapper's memoised `to_dense`)
    `_svd`              @cached(name="svd")       -> `sub.svd()`
    `_symeig`                                     -> `sub._symeig(...)`                       (touches a memoised `sub.to_dense`)
  BatchRepeat / BlockDiag / BlockInterleaved
    `_root_decomposition`                         -> `sub._root_decomposition()`              (Lanczos on the sub-operator)
    `_root_inv_decomposition`                     -> `sub._root_inv_decomposition()`          (its SIDE WRITE lands in the SUB's cache)
    `inv_quad_logdet` / `logdet`                  -> `sub.inv_quad_logdet(...)`               (wrapper cache untouched)
  BlockDiag / BlockInterleaved
    `zero_mean_mvn_samples`                       -> `sub.zero_mean_mvn_samples`
  ConstantMul
    `to_dense`          @cached                   ;  `_cholesky`, `_symeig`, `_svd`, Lanczos hooks: base class (dense, on the wrapper)
    `root_decomposition(method)` @cached(name="root_decomposition")
                                                  -> `sub.root_decomposition(method=method)` scaled by sqrt(c)   (constant >= 0)

A wrapper value is tagged with the wrapper's matrix id only if every sub-answer it was built from is an acceptable answer of
the sub-operator for the query the hook issued (right kind, right ORIENTATION, right matrix) — otherwise with 0 ("not a
factorization of this matrix").  Queries may also be issued directly on a sub-operator (the second handle the caller holds).
-/
namespace LinOp.C12

/-- A sub-operator object held by the wrapper: its class profile, size, matrix id and cache state. -/
structure SubObj where
  P : Profile
  n : Nat
  m : Nat
  st : St
  deriving Repr

structure WSt where
  self : St
  subs : List SubObj
  deriving Repr

def WSt.putSelf (w : WSt) (k : Key) (v : Val) : WSt := { w with self := { w.self with cache := w.self.cache.put k v } }

/-- Issue the public query `q` to every sub-operator; the flag says that every answer is acceptable for that sub-operator. -/
def subsQuery (σ : Settings) (q : Query) (w : WSt) : WSt × Bool :=
  ({ w with subs := w.subs.map fun o => { o with st := (runQuery o.P σ o.n o.m q o.st).1 } },
   w.subs.all fun o => decide (answerOk o.m q (runQuery o.P σ o.n o.m q o.st).2))

/-- `sub._symeig(...)` on every sub-operator (not memoised; touches a memoised `to_dense`). -/
def subsSymeig (w : WSt) : WSt := { w with subs := w.subs.map fun o => { o with st := symeigRun o.P o.m o.st } }

/-- `sub._root_decomposition()` on every sub-operator (a Lanczos run; no cache access). -/
def subsLanczosRoot (w : WSt) : WSt := { w with subs := w.subs.map fun o => { o with st := (lanczosRoot o.P o.m o.st).1 } }

/-- `sub._root_inv_decomposition()` on every sub-operator: the Lanczos run side-writes `root_decomposition||` into the SUB's cache. -/
def subsLanczosRootInv (σ : Settings) (w : WSt) : WSt :=
  { w with subs := w.subs.map fun o => { o with st := (rootInvBody o.P σ o.n o.m "lanczos" o.st).1 } }

/-- What a class overrides (functions of the wrapper's matrix id `m`). -/
structure Hooks where
  chol : Bool → WSt → WSt × Val        -- body of `_cholesky(upper)`
  symeig : WSt → WSt                    -- body of `_symeig`
  svd : WSt → WSt × Val                 -- body of `_svd`
  lroot : WSt → WSt × Val               -- `_root_decomposition()`
  lrootInv : WSt → WSt × Val            -- `_root_inv_decomposition()` including its side write
  denseKey : Bool                       -- `to_dense` memoised on the wrapper
  /-- what COMPUTING `to_dense` does to the sub-operators (`SumLinearOperator.to_dense` = `sum(op.to_dense() for op in linear_ops)`:
  every part whose `to_dense` is memoised gets the key). -/
  denseBody : WSt → WSt := id
  /-- a memoised `root_decomposition` override: its body either computes the answer itself (`.inl`: ConstantMul; the structured
  branch of Kronecker) or calls `super().root_decomposition(**c')` — the memoised BASE method, a second key — (`.inr c'`). -/
  rootOv : Option (Call → WSt → (WSt × Val) ⊕ Call)
  /-- the same for a memoised `root_inv_decomposition` override (Kronecker). -/
  rootInvOv : Option (Call → WSt → (WSt × Val) ⊕ Call) := none
  /-- a NON-memoised `diagonalization` override that re-binds the arguments and calls `super().diagonalization(**c')`
  (Kronecker: `method=None -> "symeig"`, always by keyword). -/
  diagzRebind : Call → Call := id
  iqlOv : Option (WSt → WSt × Val)      -- `inv_quad_logdet` override
  sampleOv : Option (WSt → WSt × Val)   -- `zero_mean_mvn_samples` override
  /-- `inv_quad_logdet` override of Kronecker: inverse-quadratic term from `super().inv_quad_logdet(logdet=False)`, log-determinant
  from `_logdet()` = eigenvalues of `self.diagonalization()`; `logdet()` alone only runs `_logdet()`. -/
  logdetDiagz : Bool := false

section generic
variable (H : Hooks) (σ : Settings) (n m : Nat)

/-- memoize.`_cached.g` on the wrapper's own cache. -/
def wCached (k : Key) (f : WSt → WSt × Val) (w : WSt) : WSt × Val :=
  match w.self.cache.get k with
  | some v => (w, v)
  | none => let r := f w; (r.1.putSelf k r.2, r.2)

def wCholHook (u : Bool) (w : WSt) : WSt × Val := wCached (.full "cholesky" [] [("upper", .bool u)]) (H.chol u) w

/-- `cholesky(upper)`: `_cholesky(upper=False)` through the cache, transposed outside. -/
def wCholesky (u : Bool) (w : WSt) : WSt × Val :=
  let r := wCholHook H false w
  match r.2 with
  | .chol u' mm => (r.1, .chol (if u then !u' else u') mm)
  | v => (r.1, v)

def wToDense (w : WSt) : WSt × Val :=
  if H.denseKey then wCached denseKey (fun w => (H.denseBody w, Val.dense m)) w else (H.denseBody w, Val.dense m)

def wBump (w : WSt) : WSt := { w with self := { w.self with run := w.self.run + 1 } }

def wDiagzBody (meth : String) (w : WSt) : WSt × Val :=
  if meth == "lanczos" then (wBump w, Val.diagz (w.self.run + 1) m) else (H.symeig w, Val.diagz 0 m)

def wDiagonalization (c : Call) (w : WSt) : WSt × Val :=
  wCached (diagzKey (H.diagzRebind c)) (wDiagzBody H m (match (H.diagzRebind c).method with
    | some x => x
    | none => if n ≤ σ.mcs then "symeig" else "lanczos")) w

def wSvd (w : WSt) : WSt × Val := wCached svdKey H.svd w

def wRootBody (meth : String) (w : WSt) : WSt × Val :=
  if meth == "cholesky" then
    let r := wCholesky H false w
    (r.1, Val.root .chol true true (valMat r.2))
  else if meth == "pivoted_cholesky" then ((wToDense H m w).1, Val.root .pivchol false false m)
  else if meth == "symeig" then (H.symeig w, Val.root .symeig false false m)
  else if meth == "diagonalization" then
    let r := wDiagonalization H σ n m .noargs w
    (r.1, Val.root (.diagz (diagzProv r.2)) false false (valMat r.2))
  else if meth == "svd" then
    let r := wSvd H w
    (r.1, Val.root .svd false false (valMat r.2))
  else H.lroot w

def wRootCompute (c : Call) (w : WSt) : WSt × Val :=
  wRootBody H σ n m (match c.method with
    | some x => x
    | none => chooseRootMethod σ n w.self.cache) w

def wRootDecomp (c : Call) (w : WSt) : WSt × Val :=
  wCached (rootKey c) (match H.rootOv with
    | some f => fun w =>
      match f c w with
      | .inl r => r
      | .inr c' => wCached (rootKey c') (wRootCompute H σ n m c') w     -- `super().root_decomposition(**c')`
    | none => wRootCompute H σ n m c) w

def wRootInvBody (meth : String) (w : WSt) : WSt × Val :=
  if meth == "cholesky" then
    let r := wCholesky H false w
    (r.1, Val.rootInv .chol (valMat r.2))
  else if meth == "symeig" then (H.symeig w, Val.rootInv .symeig m)
  else if meth == "diagonalization" then
    let r := wDiagonalization H σ n m .noargs w
    (r.1, Val.rootInv (.diagz (diagzProv r.2)) (valMat r.2))
  else if meth == "svd" then
    let r := wSvd H w
    (r.1, Val.rootInv .svd (valMat r.2))
  else if meth == "pinverse" then
    let r := wRootDecomp H σ n m .noargs w
    match r.2 with
    | .root p _ _ mm => (r.1, Val.rootInv p mm)
    | _ => (r.1, Val.rootInv .transplant 0)
  else H.lrootInv w

def wRootInvCompute (c : Call) (w : WSt) : WSt × Val :=
  wRootInvBody H σ n m (match c.method 2 with
    | some x => x
    | none => chooseRootMethod σ n w.self.cache) w

def wRootInvDecomp (c : Call) (w : WSt) : WSt × Val :=
  wCached (rootInvKey c) (match H.rootInvOv with
    | some f => fun w =>
      match f c w with
      | .inl r => r
      | .inr c' => wCached (rootInvKey c') (wRootInvCompute H σ n m c') w   -- `super().root_inv_decomposition(**c')`
    | none => wRootInvCompute H σ n m c) w

def wEigh (w : WSt) : WSt × Val :=
  match w.self.cache.get symeigKey with
  | some _ => ({ w with self := { w.self with cache := w.self.cache.pop symeigKey } }, Val.evals false m)
  | none => (H.symeig w, Val.evals true m)

/-- base-class `inv_quad_logdet` / `logdet` on the wrapper (with the triangular-root shortcut), unless overridden. -/
def wIqlBase (w : WSt) : WSt × Val :=
  match H.iqlOv with
  | some f => f w
  | none =>
    if !σ.flp || n ≤ σ.mcs then
      if w.self.cache.hasFirst "root_decomposition" then
        let r := wRootDecomp H σ n m .noargs w
        match r.2 with
        | .root _ true triOk mm => (r.1, Val.num (triOk && mm == m) m)
        | _ => let r2 := wCholesky H false r.1; (r2.1, Val.num (valMat r2.2 == m) m)
      else let r2 := wCholesky H false w; (r2.1, Val.num (valMat r2.2 == m) m)
    else (w, Val.num true m)

def valOk : Val → Bool
  | .num ok _ => ok
  | _ => false

/-- `_logdet()` of Kronecker: `evals, _ = self.diagonalization()`. -/
def wLogdetDiagz (w : WSt) : WSt × Val :=
  let r := wDiagonalization H σ n m .noargs w
  (r.1, Val.num (valMat r.2 == m) m)

/-- `inv_quad_logdet(rhs, logdet=True)`. -/
def wIql (w : WSt) : WSt × Val :=
  if H.logdetDiagz then
    let r := wIqlBase H σ n m w
    let r2 := wLogdetDiagz H σ n m r.1
    (r2.1, Val.num (valOk r.2 && valOk r2.2) m)
  else wIqlBase H σ n m w

/-- `logdet()` = `inv_quad_logdet(inv_quad_rhs=None, logdet=True)`. -/
def wLogdet (w : WSt) : WSt × Val :=
  if H.logdetDiagz then wLogdetDiagz H σ n m w else wIql H σ n m w

def wSample (w : WSt) : WSt × Val :=
  match H.sampleOv with
  | some f => f w
  | none =>
    let r := wRootDecomp H σ n m .noargs w
    match r.2 with
    | .root _ _ _ mm => (r.1, Val.num (mm == m) m)
    | _ => (r.1, Val.num false m)

/-- A query on the wrapper, or on the sub-operator whose matrix id is `j` (the handle the caller also holds). -/
inductive WQuery
  | self (q : Query)
  | sub (j : Nat) (q : Query)
  | logdet                      -- `logdet()` on the wrapper (differs from `inv_quad_logdet(rhs, logdet=True)` for Kronecker)
  deriving DecidableEq, Repr

def wRunSelf (q : Query) (w : WSt) : WSt × Val :=
  match q with
  | .toDense => wToDense H m w
  | .cholesky u => wCholesky H u w
  | .cholHook u => wCholHook H u w
  | .root c => wRootDecomp H σ n m c w
  | .rootInv c => wRootInvDecomp H σ n m c w
  | .diagz c => wDiagonalization H σ n m c w
  | .svd => wSvd H w
  | .eigh => wEigh H m w
  | .iql => wIql H σ n m w
  | .sample => wSample H σ n m w
  | .pure => (w, Val.num true m)

def wRun (q : WQuery) (w : WSt) : WSt × Val :=
  match q with
  | .self q => wRunSelf H σ n m q w
  | .sub j q =>
    ({ w with subs := w.subs.map fun o => if o.m == j then { o with st := (runQuery o.P σ o.n o.m q o.st).1 } else o },
     match w.subs.find? (fun o => o.m == j) with
     | some o => (runQuery o.P σ o.n o.m q o.st).2
     | none => Val.num true j)
  | .logdet => wLogdet H σ n m w

end generic

/-! ### the classes -/

/-- Delegating wrappers (BatchRepeat, BlockDiag, BlockInterleaved; the `_cholesky` / `_svd` / `_symeig` hooks also of Kronecker). -/
def Hooks.delegating (σ : Settings) (m : Nat) (blockSample : Bool) (denseEig : Bool := false) : Hooks where
  chol u w := let r := subsQuery σ (.cholesky u) w; (r.1, Val.chol u (if r.2 then m else 0))
  -- BlockInterleaved overrides neither `_symeig` nor `_svd`: base class, through the wrapper's memoised `to_dense`
  symeig w := if denseEig then w.putSelf LinOp.C12.denseKey (Val.dense m) else subsSymeig w
  svd w := if denseEig then (w.putSelf LinOp.C12.denseKey (Val.dense m), Val.svd m)
    else let r := subsQuery σ .svd w; (r.1, Val.svd (if r.2 then m else 0))
  lroot w := (wBump (subsLanczosRoot w), Val.root (.lanczos w.self.run) false false m)
  lrootInv w := (wBump (subsLanczosRootInv σ w), Val.rootInv (.lanczos w.self.run) m)
  denseKey := true
  rootOv := none
  iqlOv := some fun w => let r := subsQuery σ .iql w; (r.1, Val.num r.2 m)
  sampleOv := if blockSample then some fun w => let r := subsQuery σ .sample w; (r.1, Val.num r.2 m) else none

/-- `method=<the bound method argument>` passed by keyword (how the overrides forward `method` to a sub-operator). -/
def kwMethod (c : Call) : Call := ⟨[], [("method", match c.method with | some x => .str x | none => .none)]⟩

/-- `initial_vectors=None, test_vectors=None, method=<bound method>`: how `KroneckerProductLinearOperator.root_inv_decomposition`
calls `super().root_inv_decomposition` (after fix D33) and how `ConstantMulLinearOperator.root_inv_decomposition` (after c4c33aa) calls
`self.base_linear_op.root_inv_decomposition` — all three by keyword. -/
def kwRootInv (c : Call) : Call :=
  ⟨[], [("initial_vectors", .none), ("test_vectors", .none), ("method", match c.method 2 with | some x => .str x | none => .none)]⟩

/-- ConstantMulLinearOperator (constant > 0; after /repo c4c33aa): dense base-class hooks on the wrapper (through its memoised `to_dense`);
`root_decomposition(method)` and `root_inv_decomposition(...)` are memoised overrides that scale the base operator's factors, so the base-class
`_root_inv_decomposition` hook (`lrootInv`, which would side-write the WRAPPER's `root_decomposition||`) is not reached through
`root_inv_decomposition`: the Lanczos side write lands in the BASE operator's cache. -/
def Hooks.constMul (σ : Settings) (m : Nat) : Hooks where
  chol u w := (w, Val.chol u m)
  symeig w := w.putSelf LinOp.C12.denseKey (Val.dense m)
  svd w := (w.putSelf LinOp.C12.denseKey (Val.dense m), Val.svd m)
  lroot w := (wBump w, Val.root (.lanczos w.self.run) false false m)
  lrootInv w := (wBump (w.putSelf (rootKey .noargs) (Val.root (.lanczos w.self.run) false false m)), Val.rootInv (.lanczos w.self.run) m)
  denseKey := true
  rootOv := some fun c w =>
    let kw : Call := kwMethod c
    let r := subsQuery σ (.root kw) w
    let p : Prov := match w.subs with
      | [o] => (match (runQuery o.P σ o.n o.m (.root kw) o.st).2 with | .root p _ _ _ => p | _ => .transplant)
      | _ => .transplant
    .inl (r.1, Val.root p false false (if r.2 then m else 0))
  -- after /repo c4c33aa (constant > 0): memoised override = the base operator's inverse root (all three arguments by keyword) scaled by c^-1/2;
  -- the Lanczos side write therefore lands in the BASE operator's cache, and root / inverse root come from the same factorization of the base
  rootInvOv := some fun c w =>
    let kw : Call := kwRootInv c
    let r := subsQuery σ (.rootInv kw) w
    let p : Prov := match w.subs with
      | [o] => (match (runQuery o.P σ o.n o.m (.rootInv kw) o.st).2 with | .rootInv p _ => p | _ => .transplant)
      | _ => .transplant
    .inl (r.1, Val.rootInv p (if r.2 then m else 0))
  iqlOv := none
  sampleOv := none


/-- ConstantMulLinearOperator as it was BEFORE /repo c4c33aa (kept only for `previous_constMul_side_write_location`; not what the driver runs): dense base-class hooks on the wrapper (through its memoised `to_dense`), the Lanczos
inverse root side-writes the WRAPPER's `root_decomposition||`, and `root_decomposition(method)` is the scaled root of the base. -/
def Hooks.constMulBefore_c4c33aa (σ : Settings) (m : Nat) : Hooks where
  chol u w := (w, Val.chol u m)
  symeig w := w.putSelf LinOp.C12.denseKey (Val.dense m)
  svd w := (w.putSelf LinOp.C12.denseKey (Val.dense m), Val.svd m)
  lroot w := (wBump w, Val.root (.lanczos w.self.run) false false m)
  lrootInv w := (wBump (w.putSelf (rootKey .noargs) (Val.root (.lanczos w.self.run) false false m)), Val.rootInv (.lanczos w.self.run) m)
  denseKey := true
  rootOv := some fun c w =>
    let kw : Call := kwMethod c
    let r := subsQuery σ (.root kw) w
    let p : Prov := match w.subs with
      | [o] => (match (runQuery o.P σ o.n o.m (.root kw) o.st).2 with | .root p _ _ _ => p | _ => .transplant)
      | _ => .transplant
    .inl (r.1, Val.root p false false (if r.2 then m else 0))
  iqlOv := none
  sampleOv := none

/-- `method=<method as bound by root_inv_decomposition (third positional, else keyword)>` by keyword. -/
def kwMethod2 (c : Call) : Call := ⟨[], [("method", match c.method 2 with | some x => .str x | none => .none)]⟩

/-- `KroneckerProductLinearOperator.diagonalization(method)`: `method=None -> "symeig"`, then `super().diagonalization(method=method)`. -/
def kronDiagzCall (c : Call) : Call := ⟨[], [("method", .str (match c.method with | some x => x | none => "symeig"))]⟩

/-- **KroneckerProductLinearOperator** over ANY number of factors (`w.subs`), matrix size `n`:
* `_cholesky(upper)` / `_svd` / `_symeig`: factor-wise (`lt.cholesky(upper=upper)`, `lt.svd()`, `lt._symeig`) — as `Hooks.delegating`;
* `_root_decomposition` / `_root_inv_decomposition` (Lanczos): base class ON THE WRAPPER (side write into the wrapper's cache);
* `root_decomposition(method)` `@cached(name="root_decomposition")`: at or below `max_cholesky_size` calls the memoised base method with
  `method=method` by keyword (a SECOND key on the same object), above it `lt.root_decomposition(method=method).root` for every factor;
* `root_inv_decomposition(...)`: the same with `initial_vectors=None, test_vectors=None, method=method` resp. `lt.root_inv_decomposition(method=method)`;
* `diagonalization(method)`: not memoised; `None -> "symeig"`, then the base method by keyword;
* `inv_quad_logdet`: inverse-quadratic term from the base class, log-determinant from `diagonalization()`. -/
def Hooks.kron (σ : Settings) (n m : Nat) : Hooks where
  chol u w := let r := subsQuery σ (.cholesky u) w; (r.1, Val.chol u (if r.2 then m else 0))
  symeig w := subsSymeig w
  svd w := let r := subsQuery σ .svd w; (r.1, Val.svd (if r.2 then m else 0))
  lroot w := (wBump w, Val.root (.lanczos w.self.run) false false m)
  lrootInv w := (wBump (w.putSelf (rootKey .noargs) (Val.root (.lanczos w.self.run) false false m)), Val.rootInv (.lanczos w.self.run) m)
  denseKey := true
  rootOv := some fun c w =>
    if n ≤ σ.mcs then .inr (kwMethod c)
    else let r := subsQuery σ (.root (kwMethod c)) w; .inl (r.1, Val.root .transplant false false (if r.2 then m else 0))
  rootInvOv := some fun c w =>
    if n ≤ σ.mcs then .inr (kwRootInv c)
    else
      let r := subsQuery σ (.rootInv (kwMethod2 c)) w; .inl (r.1, Val.rootInv .transplant (if r.2 then m else 0))
  diagzRebind := kronDiagzCall
  iqlOv := none
  sampleOv := none
  logdetDiagz := true

/-- `self.to_dense()` of a Sum-type wrapper, called from inside a hook (memoised on the wrapper; a miss densifies every part). -/
def sumDense (σ : Settings) (m : Nat) (w : WSt) : WSt :=
  match w.self.cache.get LinOp.C12.denseKey with
  | some _ => w
  | none => ((subsQuery σ .toDense w).1).putSelf LinOp.C12.denseKey (Val.dense m)

/-- Issue `q` to the FIRST sub-operator only (`AddedDiagLinearOperator._linear_op`). -/
def firstQuery (σ : Settings) (q : Query) (w : WSt) : WSt × Bool :=
  match w.subs with
  | [] => (w, true)
  | o :: t => ({ w with subs := { o with st := (runQuery o.P σ o.n o.m q o.st).1 } :: t },
               decide (answerOk o.m q (runQuery o.P σ o.n o.m q o.st).2))

def firstSymeig (w : WSt) : WSt :=
  match w.subs with
  | [] => w
  | o :: t => { w with subs := { o with st := symeigRun o.P o.m o.st } :: t }

/-- **AddedDiagLinearOperator** (`_linear_op + _diag_tensor`, a SumLinearOperator subclass), `constDiag` = the diagonal part is a
ConstantDiagLinearOperator:
* `to_dense` memoised on the wrapper; computing it densifies BOTH parts (a Diag part memoises its own `to_dense`);
* `_cholesky`, Lanczos hooks: base class on the wrapper (side write into the wrapper's cache);
* general diagonal: `_symeig` / `_svd` are the base class through `self.to_dense()`;
* constant diagonal: `_symeig` -> `self._linear_op._symeig(...)` (eigenvalues shifted), `_svd` -> `self._linear_op.svd()` — the FIRST part only.
The ad-hoc preconditioner attributes (`_q_cache`, `_r_cache`, `_precond_*`) are outside `_memoize_cache` and are not modelled. -/
def Hooks.addedDiag (σ : Settings) (m : Nat) (constDiag : Bool) : Hooks where
  chol u w := (w, Val.chol u m)
  symeig w := if constDiag then firstSymeig w else sumDense σ m w
  svd w := if constDiag then let r := firstQuery σ .svd w; (r.1, Val.svd (if r.2 then m else 0)) else (sumDense σ m w, Val.svd m)
  lroot w := (wBump w, Val.root (.lanczos w.self.run) false false m)
  lrootInv w := (wBump (w.putSelf (rootKey .noargs) (Val.root (.lanczos w.self.run) false false m)), Val.rootInv (.lanczos w.self.run) m)
  denseKey := true
  denseBody w := (subsQuery σ .toDense w).1
  rootOv := none
  iqlOv := none
  sampleOv := none

inductive WKind
  | batchRepeat | block | constMul | blockInterleaved | kron | addedDiag | addedDiagConst
  deriving DecidableEq, Repr

def WKind.hooks (k : WKind) (σ : Settings) (n m : Nat) : Hooks :=
  match k with
  | .batchRepeat => Hooks.delegating σ m false
  | .block => Hooks.delegating σ m true
  | .constMul => Hooks.constMul σ m
  | .blockInterleaved => Hooks.delegating σ m true true
  | .kron => Hooks.kron σ n m
  | .addedDiag => Hooks.addedDiag σ m false
  | .addedDiagConst => Hooks.addedDiag σ m true

/-- One step of the wrapper state machine of class `k`. -/
def wStep (k : WKind) (σ : Settings) (n m : Nat) (q : WQuery) (w : WSt) : WSt × Val := wRun (k.hooks σ n m) σ n m q w

/-- Wrapper cache invariant: every entry of the wrapper's cache is valid for the wrapper's matrix and every entry of every
sub-operator's cache is valid for that sub-operator's matrix. -/
def WInv (m : Nat) (w : WSt) : Prop := Inv m w.self.cache ∧ ∀ o ∈ w.subs, Inv o.m o.st.cache

/-- Acceptable answers: a wrapper query must satisfy the wrapper's cache-free specification, a query on a held sub-operator
the sub-operator's. -/
def wAnswerOk (m : Nat) (w : WSt) (q : WQuery) (v : Val) : Prop :=
  match q with
  | .self q => answerOk m q v
  | .sub j q => (∃ o ∈ w.subs, o.m = j) → answerOk j q v
  | .logdet => answerOk m .iql v

end LinOp.C12
