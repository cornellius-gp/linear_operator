import LinOp.C04.Proofs
import LinOp.C04.ProofsSelect
import LinOp.C04.ProofsCG
import LinOp.C04.ProofsKronN2
import LinOp.C04.ProofsBcast
import LinOp.C04.Expected
/-!
C04 — `solve` returns `A⁻¹B` (resp. `L A⁻¹ B`) whichever algorithm the library selects.  The property theorems; each matrix-level one
is proved here, in a few lines, from the lemma modules (`LinOp/C04/Proofs*.lean`, `Algebra.lean`), and `Runs.correct` — one case
per algorithm — cites them.

Scalars: any field `α` (the executions use `Rat`); floating point is not modelled.  Factorizations and the
iterative solver are parameters with explicit contracts (`L Lᵀ = A`, `Qᵀ Q = Q Qᵀ = I`, "CG returns a solution").
The model functions (`LinOp.C04.fwdSub`, `cholSolve`, `kronLoop2`, `solveForward`, `woodbury`, `selectSolve`,
`trace` …) are the ones the driver executes against the real library on every run.
-/
namespace LinOp.C04
open Matrix

variable {α : Type} [Field α]

/-! ### The translator tie: today's source is the source the model mirrors -/

/-- The regenerated branch structure of `functions/_solve.py::_solve`, `functions/_inv_quad.py::_solve`, the
CG stopping rule / iteration bound, the preconditioner switch and the table of classes overriding a
solve-related hook, and which linalg-dtype setting each operator method reads, are exactly the ones `selectSolve`, `selectInvQuad`, `trace` were written against. -/
theorem source_facts_mirrored :
    Generated.C04.solveTests = Expected.solveTests ∧ Generated.C04.solveReturns = Expected.solveReturns ∧
    Generated.C04.invQuadTests = Expected.invQuadTests ∧ Generated.C04.invQuadReturns = Expected.invQuadReturns ∧
    Generated.C04.cgStopTests = Expected.cgStopTests ∧ Generated.C04.cgNIter = Expected.cgNIter ∧
    Generated.C04.cgEps = Expected.cgEps ∧ Generated.C04.cgStopUpdatingAfter = Expected.cgStopUpdatingAfter ∧
    Generated.C04.precondSwitch = Expected.precondSwitch ∧ Generated.C04.hookTable = Expected.hookTable ∧
    Generated.C04.linalgDtypeReads = Expected.linalgDtypeReads :=
  ⟨rfl, rfl, rfl, rfl, rfl, rfl, rfl, rfl, rfl, rfl, rfl⟩

/-- Under today's default settings every operator that is not Chol/Triangular and has at most
`max_cholesky_size` (generated default) rows is solved through its Cholesky factor; larger ones iteratively. -/
theorem default_selection (n : Nat) :
    (n ≤ Generated.C04.maxCholeskySizeDefault → selectSolve false n defaultSettings = .cholesky) ∧
    (Generated.C04.maxCholeskySizeDefault < n → selectSolve false n defaultSettings = .iterative) := by
  have hf : defaultSettings.fastSolves = true := by decide
  have hm : defaultSettings.maxChol = Generated.C04.maxCholeskySizeDefault := rfl
  constructor <;> intro h <;> simp only [selectSolve, hf, hm]
  · simp [h]
  · have : ¬ n ≤ Generated.C04.maxCholeskySizeDefault := Nat.not_le.mpr h
    simp [this]

/-! ### Selection never changes the answer -/

/-- **cholSolve_refines** (lower): `L Lᵀ = A ⇒ L⁻ᵀ(L⁻¹B) = A⁻¹B`. -/
theorem cholSolve_refines {ι κ : Type} [Fintype ι] [DecidableEq ι] [Fintype κ] [DecidableEq κ] (L A : Matrix ι ι α) (B : Matrix ι κ α)
    (h : L * Lᵀ = A) : (Lᵀ)⁻¹ * (L⁻¹ * B) = A⁻¹ * B := by
  rw [← h, Matrix.mul_inv_rev, Matrix.mul_assoc]

/-- **cholSolve_refines** (upper): `RᵀR = A ⇒ R⁻¹(R⁻ᵀB) = A⁻¹B`. -/
theorem cholSolve_refines_upper {ι κ : Type} [Fintype ι] [DecidableEq ι] [Fintype κ] [DecidableEq κ] (R A : Matrix ι ι α) (B : Matrix ι κ α)
    (h : Rᵀ * R = A) : R⁻¹ * ((Rᵀ)⁻¹ * B) = A⁻¹ * B := by
  rw [← h, Matrix.mul_inv_rev, Matrix.mul_assoc]

/-- **solve_selection_contract** (the three-way form; `solve_any_branch` below is the per-class, per-algorithm form).
Whatever `(class tag, n, settings)` select, the value returned is `A⁻¹ B`, provided the
primitive of the branch taken meets its contract: the class's own structured solve returns a solution of
`A X = B` (discharged per class by the theorems below), the Cholesky oracle returns `L` with `L Lᵀ = A`
(lower; `cholSolve_refines_upper` is the mirror image), the iterative solver returns a solution (CG's contract — C08). -/
theorem solve_selection_contract {ι κ : Type} [Fintype ι] [DecidableEq ι] [Fintype κ] [DecidableEq κ]
    (cholOrTri : Bool) (n : Nat) (s : Settings) (A L : Matrix ι ι α) (B Xs Xc : Matrix ι κ α)
    (hA : IsUnit A.det)
    (hstruct : selectSolve cholOrTri n s = .structured → A * Xs = B)
    (hchol : selectSolve cholOrTri n s = .cholesky → L * Lᵀ = A)
    (hcg : selectSolve cholOrTri n s = .iterative → A * Xc = B) :
    (match selectSolve cholOrTri n s with
      | .structured => Xs
      | .cholesky => (Lᵀ)⁻¹ * (L⁻¹ * B)
      | .iterative => Xc) = A⁻¹ * B := by
  cases h : selectSolve cholOrTri n s with
  | structured => exact solve_unique hA (hstruct h)
  | cholesky => exact cholSolve_refines L A B (hchol h)
  | iterative => exact solve_unique hA (hcg h)

/-- The selection functions are total and the `inv_quad` path differs from the `solve` path only by the
`log_prob` flag and the missing Chol/Triangular shortcut. -/
theorem selectInvQuad_eq (n : Nat) (s : Settings) (h : s.fastLogProb = true) :
    selectInvQuad n s = selectSolve false n s := by
  simp [selectInvQuad, selectSolve, h]

/-- `fast_computations(solves=False)`: no CG anywhere in the solve of any operator tree. -/
theorem fast_off_never_runs_cg (s : Settings) (h : s.fastSolves = false) (op : Op) :
    ∀ e ∈ trace s op, e.isCg = false := trace_no_cg_of_ne_iterative s op (selectSolve_fast_off false _ s h)

/-- CG anywhere in the solve of `op` ⇒ the operator is not Chol/Triangular, fast solves are on and
`size > max_cholesky_size`. -/
theorem cg_only_above_threshold (s : Settings) (op : Op) (e : Ev) (he : e ∈ trace s op) (hc : e.isCg = true) :
    op.isCholOrTri = false ∧ s.fastSolves = true ∧ s.maxChol < op.size := by
  have hsel : selectSolve false op.size s = .iterative := by
    by_contra hne
    rw [trace_no_cg_of_ne_iterative s op hne e he] at hc
    cases hc
  refine ⟨Bool.eq_false_iff.mpr fun hct => ?_, selectSolve_iterative hsel⟩
  rw [trace_eq_nil_of_isCholOrTri s op hct] at he
  cases he

/-! ### Direct paths -/

/-- **triSolve_orientation.**  The substitution chosen by the stored `upper` flag inverts a triangular tensor of
the matching orientation, for every size: forward substitution for lower, back substitution for upper. -/
theorem triSolve_orientation {n m : Nat} (upper : Bool) (T : Mat α n n) (B : Mat α n m)
    (hT : if upper then IsUpper T else IsLower T) (hd : ∀ i, T i i ≠ 0) :
    (Matrix.of (triSolve upper T B) : Matrix (Fin n) (Fin m) α) = (Matrix.of T)⁻¹ * Matrix.of B := by
  rw [triSolve_triPart upper T B hd, triPart_of_matching upper T hT]

/-- The substitutions solve the triangular PART named by the flag, whatever the other triangle holds
(what `solve_triangular` does when flag and data disagree). -/
theorem substitution_reads_one_triangle (n : Nat) (T : Mat α n n) (b : Fin n → α) (hd : ∀ i, T i i ≠ 0) :
    (∀ i, ∑ j : Fin n, (if j ≤ i then T i j else 0) * fwdSub n T b j = b i) ∧
    (∀ i, ∑ j : Fin n, (if i ≤ j then T i j else 0) * bwdSub n T b j = b i) :=
  ⟨fwdSub_spec n T b hd, bwdSub_spec n T b hd⟩

/-- `TriangularLinearOperator._cholesky_solve` (both orientations) on the model: two substitutions in the order
fixed by `upper` give `(L Lᵀ)⁻¹B` resp. `(RᵀR)⁻¹B`. -/
theorem cholSolve_model_refines {n m : Nat} (upper : Bool) (T : Mat α n n) (B : Mat α n m)
    (hT : if upper then IsUpper T else IsLower T) (hd : ∀ i, T i i ≠ 0) :
    (Matrix.of (cholSolve upper T B) : Matrix (Fin n) (Fin m) α)
      = (if upper then (Matrix.of T)ᵀ * Matrix.of T else Matrix.of T * (Matrix.of T)ᵀ)⁻¹ * Matrix.of B := by
  -- the transposed tensor has the opposite orientation, which is the flag `triSolveT` passes
  cases upper
  · show Matrix.of (triSolve true (Mat.transpose T) (triSolve false T B)) = _
    rw [triSolve_orientation true (Mat.transpose T) _ (fun i j hij => hT j i hij) hd, triSolve_orientation false T B hT hd]
    exact cholSolve_refines _ _ (Matrix.of B) rfl
  · show Matrix.of (triSolve true T (triSolve false (Mat.transpose T) B)) = _
    rw [triSolve_orientation true T _ hT hd, triSolve_orientation false (Mat.transpose T) B (fun i j hij => hT j i hij) hd]
    exact cholSolve_refines_upper _ _ (Matrix.of B) rfl

/-- **diagSolve** and the diagonal Cholesky solve (`rhs / diag²`). -/
theorem diagSolve_refines {n m : Nat} (d : Fin n → α) (hd : ∀ i, d i ≠ 0) (B : Mat α n m) :
    (Matrix.of (LinOp.C04.diagSolve d B) : Matrix (Fin n) (Fin m) α) = (diagonal d)⁻¹ * Matrix.of B ∧
    (Matrix.of (diagCholSolve d B) : Matrix (Fin n) (Fin m) α) = (diagonal d * (diagonal d)ᵀ)⁻¹ * Matrix.of B :=
  ⟨(diagSolve_eq d hd (Matrix.of B)).symm, (diagCholSolve_eq d hd (Matrix.of B)).symm⟩

open scoped Kronecker in
/-- **kronSolve**: `(A ⊗ B)⁻¹ = A⁻¹ ⊗ B⁻¹` (two and three factors). -/
theorem kronSolve_inv {ι κ μ : Type} [Fintype ι] [DecidableEq ι] [Fintype κ] [DecidableEq κ] [Fintype μ] [DecidableEq μ]
    (A : Matrix ι ι α) (B : Matrix κ κ α) (C : Matrix μ μ α) :
    (A ⊗ₖ B)⁻¹ = A⁻¹ ⊗ₖ B⁻¹ ∧ ((A ⊗ₖ B) ⊗ₖ C)⁻¹ = (A⁻¹ ⊗ₖ B⁻¹) ⊗ₖ C⁻¹ :=
  ⟨inv_kronecker A B, by rw [inv_kronecker, inv_kronecker]⟩

/-- **kronSolve through the loop**: the reshape → factor-solve → reshape/permute loop of
`KroneckerProductLinearOperator._solve`, fed exact factor solves, returns `(A ⊗ B)⁻¹ · rhs` on row-major
flattened indices, for all factor sizes and any number of right-hand-side columns. -/
theorem kronLoop_refines {n1 n2 c : Nat} (A : Mat α n1 n1) (B : Mat α n2 n2) (rhs : Mat α (n1 * n2) c) :
    (Matrix.of (kronLoop2 ((Matrix.of A)⁻¹ : Matrix (Fin n1) (Fin n1) α) ((Matrix.of B)⁻¹ : Matrix (Fin n2) (Fin n2) α) rhs)
        : Matrix _ _ α)
      = (Matrix.of (kronDense A B))⁻¹ * Matrix.of rhs :=
  (kronLoop2_eq _ _ rhs).trans (congrArg (· * Matrix.of rhs) (KD_inv (Matrix.of A) (Matrix.of B)).symm)

/-- **kpadlo_constDiag_solve**: `Q(Λ+cI)⁻¹Qᵀ` solves `(QΛQᵀ + cI)X = B` when `QᵀQ = QQᵀ = I`, also in the
half-step form `Q(Λ+c)^{-1/2} · (Λ+c)^{-1/2}Qᵀ` the code evaluates. -/
theorem kpadlo_constDiag {ι κ : Type} [Fintype ι] [DecidableEq ι] [Fintype κ] [DecidableEq κ] (Q : Matrix ι ι α) (ev r : ι → α) (c : α)
    (h1 : Qᵀ * Q = 1) (h2 : Q * Qᵀ = 1) (hr : ∀ i, r i * r i = ev i + c) (hr0 : ∀ i, r i ≠ 0) (B : Matrix ι κ α) :
    (Q * diagonal (fun i => (r i)⁻¹)) * (diagonal (fun i => (r i)⁻¹) * (Qᵀ * B))
      = (Q * diagonal ev * Qᵀ + c • (1 : Matrix ι ι α))⁻¹ * B := by
  have hne : ∀ i, ev i + c ≠ 0 := fun i => by rw [← hr i]; exact mul_ne_zero (hr0 i) (hr0 i)
  rw [kpadlo_constDiag_solve ev c h1 h2 hne, Matrix.mul_assoc, ← Matrix.mul_assoc (diagonal _) (diagonal _),
    diagonal_mul_diagonal]
  congr 3
  funext i
  rw [← hr i, mul_inv]

/-- **kpadlo_kronConst_solve** (Kronecker-structured constant diagonal `D = d·I`): `D⁻¹Q(Λ/d + I)⁻¹Qᵀ`. -/
theorem kpadlo_kronConst {ι κ : Type} [Fintype ι] [DecidableEq ι] [Fintype κ] [DecidableEq κ] (Q : Matrix ι ι α) (ev : ι → α) (d : α) (hd : d ≠ 0)
    (h1 : Qᵀ * Q = 1) (h2 : Q * Qᵀ = 1) (hne : ∀ i, ev i / d + 1 ≠ 0) (B : Matrix ι κ α) :
    (Q * diagonal ev * Qᵀ + d • (1 : Matrix ι ι α))⁻¹ * B
      = d⁻¹ • (Q * (diagonal (fun i => (ev i / d + 1)⁻¹) * (Qᵀ * B))) := by
  have hne' : ∀ i, ev i + d ≠ 0 := fun i h => hne i (by rw [div_add_one hd, h, zero_div])
  have hdiag : (fun i => (ev i + d)⁻¹) = d⁻¹ • fun i => (ev i / d + 1)⁻¹ := funext fun i => by
    rw [Pi.smul_apply, smul_eq_mul, div_add_one hd, inv_div, div_eq_mul_inv, inv_mul_cancel_left₀ hd]
  rw [kpadlo_constDiag_solve ev d h1 h2 hne', hdiag, diagonal_smul, Matrix.smul_mul, Matrix.mul_smul]

/-- **woodbury_solve** on the model: `LowRankRootAddedDiagLinearOperator._solve` with the exact capacitance
inverse returns `(D + UUᵀ)⁻¹B`. -/
theorem woodbury_refines {n k m : Nat} (d : Fin n → α) (hd : ∀ i, d i ≠ 0) (U : Mat α n k) (B : Mat α n m)
    (hC : IsUnit ((1 : Matrix (Fin k) (Fin k) α) + (Matrix.of U)ᵀ * (diagonal d)⁻¹ * Matrix.of U).det) :
    (Matrix.of (woodbury d U
        (((1 : Matrix (Fin k) (Fin k) α) + (Matrix.of U)ᵀ * (diagonal d)⁻¹ * Matrix.of U)⁻¹ : Matrix (Fin k) (Fin k) α) B)
        : Matrix _ _ α)
      = (diagonal d + Matrix.of U * (Matrix.of U)ᵀ)⁻¹ * Matrix.of B := by
  -- the Woodbury identity `Matrix.add_mul_mul_inv_eq_sub` with `C = 1`
  have hw := add_mul_mul_inv_eq_sub (diagonal d) (Matrix.of U) (1 : Matrix (Fin k) (Fin k) α) (Matrix.of U)ᵀ
    ((isUnit_iff_isUnit_det _).2 (isUnit_det_diagonal hd)) isUnit_one
    (by rw [inv_one]; exact (isUnit_iff_isUnit_det _).2 hC)
  rw [Matrix.mul_one, inv_one] at hw
  refine (woodbury_unfold d hd U _ B).trans ?_
  rw [hw, Matrix.sub_mul]
  simp only [Matrix.mul_assoc]
  rfl

/-- **block_solve**: block-diagonal inverse = block diagonal of the inverses. -/
theorem block_solve_refines {ι μ : Type} [Fintype ι] [DecidableEq ι] [Fintype μ] [DecidableEq μ]
    (M : μ → Matrix ι ι α) (h : ∀ k, IsUnit (M k).det) :
    (blockDiagonal M)⁻¹ = blockDiagonal fun k => (M k)⁻¹ := by
  apply inv_eq_right_inv
  rw [← blockDiagonal_mul]
  have : (fun k => M k * (M k)⁻¹) = (1 : μ → Matrix ι ι α) := funext fun k => mul_nonsing_inv _ (h k)
  rw [this, blockDiagonal_one]

/-- **perm_solve**: `P⁻¹ = Pᵀ`, and on vectors `x ↦ x ∘ σ` is undone by `x ↦ x ∘ σ⁻¹`. -/
theorem perm_solve_refines {ι β : Type} [Fintype ι] [DecidableEq ι] (σ : Equiv.Perm ι) (x : ι → β) :
    (σ.permMatrix α)⁻¹ = (σ.permMatrix α)ᵀ ∧ permApply σ⁻¹ (permApply σ x) = x :=
  ⟨inv_eq_right_inv (by rw [transpose_permMatrix, ← permMatrix_mul]; simp), funext fun i => by simp [permApply]⟩

/-- **solveForward_left**: `Solve.forward` applies the left factor exactly once — the model's concatenate /
solve / slice / multiply equals `L · A⁻¹ · R` for every linear column-wise solve `A⁻¹`. -/
theorem solveForward_left_once {n o p : Nat} (ainv : Mat α n n) (L : Mat α o n) (R : Mat α n p) :
    (Matrix.of (solveForward ainv L R) : Matrix _ _ α) = Matrix.of L * Matrix.of ainv * Matrix.of R := by
  -- the model's `cat` and `sliced` are `catLR` and `sliceR` of the Mathlib product
  have h : (Matrix.of (solveForward ainv L R) : Matrix _ _ α)
      = Matrix.of L * sliceR (Matrix.of ainv * catLR (Matrix.of L) (Matrix.of R)) := by
    simp only [solveForward, Mat.mul_eq_matrix_mul]; rfl
  rw [h, sliceR_mul, sliceR_catLR, Matrix.mul_assoc]

/-! ### `CholLinearOperator.inverse()` -/

/-- `(L Lᵀ)⁻¹ = (L⁻¹)ᵀ L⁻¹` and `(RᵀR)⁻¹ = R⁻¹ (R⁻¹)ᵀ`: the inverse is a root times its transpose with the opposite
triangle first, so it is not of Cholesky form. -/
theorem cholInverse_orientation {ι : Type} [Fintype ι] [DecidableEq ι] (L : Matrix ι ι α) :
    (L * Lᵀ)⁻¹ = (L⁻¹)ᵀ * L⁻¹ ∧ (Lᵀ * L)⁻¹ = L⁻¹ * (L⁻¹)ᵀ :=
  ⟨by rw [Matrix.mul_inv_rev, transpose_nonsing_inv], by rw [Matrix.mul_inv_rev, transpose_nonsing_inv]⟩

/-- **cholInverse** (full, current code): the root `B` that `CholLinearOperator.inverse()` hands to `RootLinearOperator`
— `(L⁻¹)ᵀ` for a lower root, `R⁻¹` for an upper root, with `L⁻¹`/`R⁻¹` computed by the substitution the stored flag
selects — satisfies `B Bᵀ = A⁻¹`, for both orientations and every size. -/
theorem cholInverse_root {n : Nat} (upper : Bool) (T : Mat α n n)
    (hT : if upper then IsUpper T else IsLower T) (hd : ∀ i, T i i ≠ 0) :
    (Matrix.of (cholInverseRoot upper T) : Matrix (Fin n) (Fin n) α) * (Matrix.of (cholInverseRoot upper T))ᵀ
      = (if upper then (Matrix.of T)ᵀ * Matrix.of T else Matrix.of T * (Matrix.of T)ᵀ)⁻¹ := by
  have h : (Matrix.of (triSolve upper T (Mat.one : Mat α n n)) : Matrix (Fin n) (Fin n) α) = (Matrix.of T)⁻¹ := by
    rw [triSolve_orientation upper T _ hT hd, of_one, Matrix.mul_one]
  cases upper
  · show (Matrix.of (triSolve false T Mat.one))ᵀ * ((Matrix.of (triSolve false T Mat.one))ᵀ)ᵀ = _
    rw [h, transpose_transpose]
    exact (cholInverse_orientation _).1.symm
  · show Matrix.of (triSolve true T Mat.one) * (Matrix.of (triSolve true T Mat.one))ᵀ = _
    rw [h]
    exact (cholInverse_orientation _).2.symm

/-! #### About the PREVIOUS code (defect D09, fixed in /repo by 05006ba) — kept so that a re-introduction is recognisable -/

/-- The previous `CholLinearOperator(L).inverse().solve(B)` ran `cholesky_solve(B, L⁻¹, upper=True)` on a lower-triangular
`L⁻¹`: only its diagonal was read, so the result was `diag(L⁻¹)⁻² B`, for every size. -/
theorem previous_cholInverse_reads_diagonal {n m : Nat} (linv : Mat α n n) (B : Mat α n m) (h : IsLower linv)
    (hd : ∀ i, linv i i ≠ 0) :
    cholInverseSolvePrevious false linv B = fun i j => B i j / linv i i / linv i i := by
  show triSolve true linv (triSolve false (Mat.transpose linv) B) = _
  rw [triSolve_opposite false (Mat.transpose linv) B (fun i j hij => h j i hij) hd, triSolve_opposite true linv _ h hd]
  rfl

/-- Counterexample for the previous code (exact rationals): `L = [[1,0],[1,1]]`, `B = e₂`: it returned `(0,1)`, the
specification `A B = L Lᵀ B` is `(1,2)`. -/
theorem previous_cholInverse_counterexample :
    ∃ (root linv : Mat Rat 2 2) (B : Mat Rat 2 1),
      Mat.mul root linv = Mat.one ∧
      cholInverseSolvePrevious false linv B 0 0 ≠ cholInverseSolveSpec false root B 0 0 := by
  refine ⟨fun i j => if j ≤ i then 1 else 0, fun i j => if i = j then 1 else if j < i then -1 else 0,
    fun i _ => if i = 1 then 1 else 0, ?_, ?_⟩
  · funext i j; fin_cases i <;> fin_cases j <;> decide +kernel
  · decide +kernel


/-! ### Eigen-structured solves: full refinement theorems -/

/-- **Eigen-systems are closed under Kronecker products** — on Mathlib's product index and on the row-major flattened index the
code uses (`KD` = `kronDense`).  The flattened form is again `Fin`-indexed, so iterating it gives the eigen-system of a Kronecker
product of ANY number of factors (`K₁ ⊗ (K₂ ⊗ (… ⊗ K_m))`): the contract of `KroneckerProductLinearOperator.diagonalization()`
follows from the contracts of the factors' `eigh`. -/
theorem eig_kron_closed {n1 n2 : Nat} {K1 Q1 : Matrix (Fin n1) (Fin n1) α} {e1 : Fin n1 → α}
    {K2 Q2 : Matrix (Fin n2) (Fin n2) α} {e2 : Fin n2 → α} (h1 : IsEig K1 Q1 e1) (h2 : IsEig K2 Q2 e2) :
    IsEig (KD K1 K2) (KD Q1 Q2) (kronVec e1 e2) ∧
    IsEig (Matrix.kroneckerMap (· * ·) K1 K2) (Matrix.kroneckerMap (· * ·) Q1 Q2) (fun p => e1 p.1 * e2 p.2) :=
  ⟨IsEig.kronDense h1 h2,
    ⟨by rw [← kroneckerMap_transpose, ← mul_kronecker_mul, h1.orth1, h2.orth1, one_kronecker_one],
     by rw [← kroneckerMap_transpose, ← mul_kronecker_mul, h1.orth2, h2.orth2, one_kronecker_one],
     by rw [← kroneckerMap_transpose, ← diagonal_kronecker_diagonal, ← mul_kronecker_mul, ← mul_kronecker_mul,
          h1.recon, h2.recon]⟩⟩

/-- **kronLoopN_refines** (any number of Kronecker factors): the loop of `KroneckerProductLinearOperator._solve` / `_matmul` —
for each factor `reshape(n, -1)`, apply the factor (solve), `reshape(n, R/n, c).permute(1, 0, 2)` — run on the flat row-major
buffer (`kronLoopN`, the function the driver executes against `_solve` of 2-, 3- and 4-factor operators) returns
`(M_1 ⊗ … ⊗ M_N) · rhs` entry by entry, for every list of factors, all sizes and any number of columns.  Proof: the flat loop is
C01's `kronLoop` on square factors, pass by pass (`Sim.loop`); the layout invariant `(remaining multi-index, rotated earlier
indices, column)` is C01's (`C01.kronLoop_apply`). -/
theorem kronLoopN_refines {β : Type} [CommRing β] (c : Nat) (L : List (Nat × (Nat → Nat → β))) (y : Array β) (p k : Nat)
    (hp : p < prodSizes L) (hk : k < c) :
    (kronLoopN (prodSizes L) c L y).getD (p * c + k) 0
      = ∑ q ∈ Finset.range (prodSizes L), kronEntryN L p q * y.getD (q * c + k) 0 :=
  kronLoopN_spec c L y p k hp hk

/-- mixed-product property on flat indices, any number of factors: `(⊗ A_i)(⊗ B_i) = ⊗ (A_i B_i)` — with `B_i` the factor
solves (`A_i B_i = I`) the loop output solves the Kronecker system. -/
theorem kronEntryN_mixed_product {β : Type} [CommRing β] (A B : List (Nat × (Nat → Nat → β))) (h : SameSizes A B)
    (p r : Nat) (hp : p < prodSizes A) :
    ∑ q ∈ Finset.range (prodSizes A), kronEntryN A p q * kronEntryN B q r = kronEntryN (listMul A B) p r :=
  kronEntryN_mul A B h p r hp

/-- **kronLoopN_solve_refines** (any number of Kronecker factors): fed with the factor solves `B_i` (`A_i B_i = I` on the factor's
index range — the contract of each factor's `solve`), the loop output `X` satisfies `(A_1 ⊗ … ⊗ A_N) X = rhs` entry by entry; together
with invertibility this is `X = (⊗A_i)⁻¹ rhs`. -/
theorem kronLoopN_solve_refines {β : Type} [CommRing β] (c : Nat) (A B : List (Nat × (Nat → Nat → β))) (hs : SameSizes A B)
    (hf : FactorInv A B) (y : Array β) (p k : Nat) (hp : p < prodSizes A) (hk : k < c) :
    ∑ q ∈ Finset.range (prodSizes A), kronEntryN A p q * (kronLoopN (prodSizes A) c B y).getD (q * c + k) 0
      = y.getD (p * c + k) 0 :=
  kronLoopN_solves c A B hs hf y p k hp hk

example : SameSizes [((1 : Nat), fun _ _ => (2 : Rat))] [(1, fun _ _ => 1 / 2)] ∧
    FactorInv [((1 : Nat), fun _ _ => (2 : Rat))] [(1, fun _ _ => 1 / 2)] := by
  refine ⟨⟨rfl, trivial⟩, ⟨fun i k hi hk => ?_, trivial⟩⟩
  have h1 : i = 0 := by omega
  have h2 : k = 0 := by omega
  subst h1 h2
  norm_num

/-- **kpadlo_constDiag_solve_refines**: the modelled constant-diagonal branch of `KroneckerProductAddedDiagLinearOperator._solve`
(Kronecker matmul loops, `(Λ₁⊗Λ₂ + c)^{-1/2}` applied twice) equals `(K₁⊗K₂ + cI)⁻¹ rhs`, given the contracts of `eigh` per factor and of
`sqrt` at the shifted eigenvalues; all factor sizes, any number of columns. -/
theorem kpadlo_constDiag_solve_refines {n1 n2 c : Nat} (sq : α → α) {K1 : Matrix (Fin n1) (Fin n1) α} {Q1 : Mat α n1 n1}
    {e1 : Fin n1 → α} {K2 : Matrix (Fin n2) (Fin n2) α} {Q2 : Mat α n2 n2} {e2 : Fin n2 → α}
    (h1 : IsEig K1 (Matrix.of Q1) e1) (h2 : IsEig K2 (Matrix.of Q2) e2) (cst : α)
    (hsq : ∀ p, sq (kronVec e1 e2 p + cst) * sq (kronVec e1 e2 p + cst) = kronVec e1 e2 p + cst)
    (hpos : ∀ p, kronVec e1 e2 p + cst ≠ 0) (rhs : Mat α (n1 * n2) c) :
    (Matrix.of (kpadloConstSolve2 sq Q1 Q2 e1 e2 cst rhs) : Matrix _ _ α)
      = (KD K1 K2 + cst • (1 : Matrix _ _ α))⁻¹ * Matrix.of rhs := by
  have hE := IsEig.kronDense h1 h2
  have hr0 : ∀ p, sq (kronVec e1 e2 p + cst) ≠ 0 := fun p h0 => hpos p (by rw [← hsq p, h0, mul_zero])
  rw [← hE.recon, ← kpadlo_constDiag (KD (Matrix.of Q1) (Matrix.of Q2)) (kronVec e1 e2)
    (fun p => sq (kronVec e1 e2 p + cst)) cst hE.orth1 hE.orth2 hsq hr0]
  simp only [kpadloConstSolve2, kpadloConstSolve2V, ofV_matV, ofV1_vecV, one_div]
  rw [kronLoop2_eq, diagMul_eq, diagMul_eq, kronLoop2_transpose_eq, Matrix.mul_assoc]

/-- **kpadlo_kronConst_solve_refines**: diagonal `(d₁I) ⊗ (d₂I)` (`_constant_kpadlt_constructor`). -/
theorem kpadlo_kronConst_solve_refines {n1 n2 c : Nat} {K1 : Matrix (Fin n1) (Fin n1) α} {Q1 : Mat α n1 n1} {e1 : Fin n1 → α}
    {K2 : Matrix (Fin n2) (Fin n2) α} {Q2 : Mat α n2 n2} {e2 : Fin n2 → α}
    (h1 : IsEig K1 (Matrix.of Q1) e1) (h2 : IsEig K2 (Matrix.of Q2) e2) (d1 d2 : α)
    (hd1 : d1 ≠ 0) (hd2 : d2 ≠ 0) (hne : ∀ p, kronVec e1 e2 p / (d1 * d2) + 1 ≠ 0) (rhs : Mat α (n1 * n2) c) :
    (Matrix.of (kpadloKronConstSolve2 Q1 Q2 e1 e2 d1 d2 rhs) : Matrix _ _ α)
      = (KD K1 K2 + KD (diagonal fun _ => d1) (diagonal fun _ => d2))⁻¹ * Matrix.of rhs := by
  have hE := IsEig.kronDense h1 h2
  -- `kronVec` of two constants is the constant `d1 * d2`, by unfolding
  have hD : KD (diagonal fun _ : Fin n1 => d1) (diagonal fun _ : Fin n2 => d2) = (d1 * d2) • (1 : Matrix _ _ α) := by
    rw [KD_diagonal]; exact (smul_one_eq_diagonal (d1 * d2)).symm
  have hev : (fun p => kronVec (fun i => e1 i / d1) (fun j => e2 j / d2) p + 1)
      = fun p => kronVec e1 e2 p / (d1 * d2) + 1 :=
    funext fun p => congrArg (· + 1) (div_mul_div_comm _ _ _ _)
  rw [hD, ← hE.recon, kpadlo_kronConst _ (kronVec e1 e2) (d1 * d2) (mul_ne_zero hd1 hd2) hE.orth1 hE.orth2 hne]
  simp only [kpadloKronConstSolve2, kpadloKronConstSolve2V, ofV_matV, ofV1_vecV, hev]
  rw [diagSolve_eq_mul, kronLoop2_eq, diagSolve_eq_mul, kronLoop2_transpose_eq]
  exact (smul_eq_diagonal_mul _ (d1 * d2)⁻¹).symm

/-- **kpadlo_symmetrised_solve_refines**: diagonal `D₁ ⊗ D₂` with arbitrary non-zero diagonals (`_symmetrize_kpadlt_constructor`):
`S Q̃ (Λ̃+1)⁻¹ Q̃ᵀ S rhs = (K₁⊗K₂ + D₁⊗D₂)⁻¹ rhs` with `S = ⊗ D_i^{-1/2}` and `(Q̃_i, Λ̃_i)` the eigen-system of `S_i K_i S_i`. -/
theorem kpadlo_symmetrised_solve_refines {n1 n2 c : Nat} (sq : α → α) (K1 : Matrix (Fin n1) (Fin n1) α) (Q1 : Mat α n1 n1)
    (e1 d1 : Fin n1 → α) (K2 : Matrix (Fin n2) (Fin n2) α) (Q2 : Mat α n2 n2) (e2 d2 : Fin n2 → α)
    (hsq1 : ∀ i, sq (d1 i) * sq (d1 i) = d1 i) (hsq2 : ∀ j, sq (d2 j) * sq (d2 j) = d2 j)
    (hd1 : ∀ i, d1 i ≠ 0) (hd2 : ∀ j, d2 j ≠ 0)
    (h1 : IsEig (diagonal (fun i => 1 / sq (d1 i)) * K1 * diagonal (fun i => 1 / sq (d1 i))) (Matrix.of Q1) e1)
    (h2 : IsEig (diagonal (fun j => 1 / sq (d2 j)) * K2 * diagonal (fun j => 1 / sq (d2 j))) (Matrix.of Q2) e2)
    (hne : ∀ p, kronVec e1 e2 p + 1 ≠ 0) (rhs : Mat α (n1 * n2) c) :
    (Matrix.of (kpadloSymmSolve2 sq Q1 Q2 e1 e2 d1 d2 rhs) : Matrix _ _ α)
      = (KD K1 K2 + KD (diagonal d1) (diagonal d2))⁻¹ * Matrix.of rhs := by
  have hE := IsEig.kronDense h1 h2
  rw [← KD_mul, ← KD_mul, KD_diagonal] at hE
  have hs : ∀ p, kronVec (fun i => 1 / sq (d1 i)) (fun j => 1 / sq (d2 j)) p
      * kronVec (fun i => 1 / sq (d1 i)) (fun j => 1 / sq (d2 j)) p * kronVec d1 d2 p = 1 :=
    fun p => kron_inv_sqrt_sq (hsq1 _) (hsq2 _) (hd1 _) (hd2 _)
  rw [KD_diagonal, symm_solve (KD K1 K2) (KD (Matrix.of Q1) (Matrix.of Q2)) (kronVec e1 e2) _ (kronVec d1 d2) hs hE hne]
  simp only [kpadloSymmSolve2, kpadloSymmSolve2V, ofV_matV, ofV1_vecV]
  rw [diagMul_eq, kronLoop2_eq, diagSolve_eq_mul, kronLoop2_transpose_eq, diagMul_eq]

/-- **sumKron_solve_refines**: `SumKroneckerLinearOperator._solve` — `R (⊗(R_iᵀ A_i R_i) + I)⁻¹ Rᵀ rhs = (A₁⊗A₂ + C₁⊗C₂)⁻¹ rhs` given
`R_i R_iᵀ = C_i⁻¹` (contract of `root_inv_decomposition`) and an inner solve that returns the inner solution (discharged by
`kpadlo_constDiag_solve_refines` with `c = 1`, or by the Cholesky branch). -/
theorem sumKron_solve_refines {n1 n2 c : Nat} (A1 C1 : Matrix (Fin n1) (Fin n1) α) (R1 : Mat α n1 n1)
    (A2 C2 : Matrix (Fin n2) (Fin n2) α) (R2 : Mat α n2 n2) (hC1 : IsUnit C1.det) (hC2 : IsUnit C2.det)
    (hR1 : Matrix.of R1 * (Matrix.of R1)ᵀ = C1⁻¹) (hR2 : Matrix.of R2 * (Matrix.of R2)ᵀ = C2⁻¹)
    (innerSolve : Mat α (n1 * n2) c → Mat α (n1 * n2) c)
    (hinner : ∀ X, (Matrix.of (innerSolve X) : Matrix _ _ α)
      = (KD ((Matrix.of R1)ᵀ * A1 * Matrix.of R1) ((Matrix.of R2)ᵀ * A2 * Matrix.of R2) + 1)⁻¹ * Matrix.of X)
    (rhs : Mat α (n1 * n2) c) :
    (Matrix.of (sumKronSolve2 R1 R2 innerSolve rhs) : Matrix _ _ α) = (KD A1 A2 + KD C1 C2)⁻¹ * Matrix.of rhs := by
  have hC : IsUnit (KD C1 C2).det := isUnit_det_of_right_inverse (B := KD C1⁻¹ C2⁻¹) (by
    rw [KD_mul, mul_nonsing_inv _ hC1, mul_nonsing_inv _ hC2, KD_one])
  have hR : KD (Matrix.of R1) (Matrix.of R2) * (KD (Matrix.of R1) (Matrix.of R2))ᵀ = (KD C1 C2)⁻¹ := by
    rw [KD_transpose, KD_mul, hR1, hR2, KD_inv]
  rw [sumKron_inv (KD A1 A2) (KD C1 C2) (KD (Matrix.of R1) (Matrix.of R2)) hC hR]
  simp only [sumKronSolve2, sumKronSolve2V, ofV_matV]
  rw [kronLoop2_eq, hinner, kronLoop2_transpose_eq, KD_transpose, KD_mul, KD_mul]

/-- **batchRepeat_solve_refines**: `BatchRepeatLinearOperator._cholesky_solve` (repeats moved into columns, base solve, moved back)
solves member `p = rep·b + bi` of the repeated batch with base member `bi`, for every repeat count, base batch size, size and
number of columns. -/
theorem batchRepeat_solve_refines {r b n c : Nat} (A : Fin b → Matrix (Fin n) (Fin n) α)
    (X : Fin (r * b) → Mat α n c) (p : Fin (r * b)) :
    (Matrix.of (batchRepeatSolve (fun bi => ((A bi)⁻¹ : Matrix _ _ α)) X p) : Matrix _ _ α)
      = (A (sndIdx p))⁻¹ * Matrix.of (X p) := by
  ext i k
  simp only [batchRepeatSolve, brepBack, brepToCols, Matrix.of_apply, Mat.mul, tab_eq, sumFin_eq_sum, Matrix.mul_apply,
    fstIdx_pairIdx, sndIdx_pairIdx]
  -- `p = (p / b)·b + p % b`
  have hp : pairIdx (fstIdx p) (sndIdx p) = p := Fin.ext (Nat.div_add_mod' _ _)
  rw [hp]

/-- `CholLinearOperator.inv_quad` (one substitution, then squares): `(L⁻¹B)ᵀ(L⁻¹B) = Bᵀ (L Lᵀ)⁻¹ B`. -/
theorem cholHalf_inv_quad {ι κ : Type} [Fintype ι] [DecidableEq ι] [Fintype κ] [DecidableEq κ] (L : Matrix ι ι α)
    (B : Matrix ι κ α) : (L⁻¹ * B)ᵀ * (L⁻¹ * B) = Bᵀ * ((L * Lᵀ)⁻¹ * B) := by
  rw [Matrix.transpose_mul, Matrix.mul_inv_rev, Matrix.transpose_nonsing_inv]
  simp only [Matrix.mul_assoc]

/-! ### The decision function and every algorithm it can select -/

/-- Whatever algorithm ran, the value is `A⁻¹ B`: one of the theorems above per constructor of `Runs`. -/
theorem Runs.correct {a : Algo} {N c : Nat} {A : Matrix (Fin N) (Fin N) α} {B X : Matrix (Fin N) (Fin c) α}
    (h : Runs a N c A B X) (hA : IsUnit A.det) : X = A⁻¹ * B := by
  cases h with
  | triSubst upper T B hT hd => exact triSolve_orientation upper T B hT hd
  | kronTriFactors T1 T2 rhs => exact kronLoop_refines T1 T2 rhs
  | cholSubst upper T B hT hd => exact cholSolve_model_refines upper T B hT hd
  | diagDiv d hd B => exact (diagSolve_refines d hd B).1
  | identCopy B => rw [inv_one, Matrix.one_mul]
  | cholFresh A L B h => exact cholSolve_refines L A B h
  | cholCached A L B h => exact cholSolve_refines L A B h
  | cholFromRoot A L B h => exact cholSolve_refines L A B h
  | pcg p A B X h => exact solve_unique hA h
  | blockBase A B X h => exact solve_unique hA h
  | kronFactors A1 A2 rhs => exact kronLoop_refines A1 A2 rhs
  | eigConst sq K1 Q1 e1 K2 Q2 e2 h1 h2 cst hsq hpos rhs => exact kpadlo_constDiag_solve_refines sq h1 h2 cst hsq hpos rhs
  | eigKronConst K1 Q1 e1 K2 Q2 e2 h1 h2 d1 d2 hd1 hd2 hne rhs =>
    exact kpadlo_kronConst_solve_refines h1 h2 d1 d2 hd1 hd2 hne rhs
  | eigSymm sq K1 Q1 e1 d1 K2 Q2 e2 d2 hsq1 hsq2 hd1 hd2 h1 h2 hne rhs =>
    exact kpadlo_symmetrised_solve_refines sq K1 Q1 e1 d1 K2 Q2 e2 d2 hsq1 hsq2 hd1 hd2 h1 h2 hne rhs
  | sumKronCongr A1 C1 R1 A2 C2 R2 hC1 hC2 hR1 hR2 innerSolve hinner rhs =>
    exact sumKron_solve_refines A1 C1 R1 A2 C2 R2 hC1 hC2 hR1 hR2 innerSolve hinner rhs
  | woodbury cached d hd U B hC => exact woodbury_refines d hd U B hC

/-- **solve_any_branch.**  `methodOf` is the total decision function mirrored from the code
(`solveMethod = methodOf .solve`): entry point × operator class × size × settings × cache state ↦ algorithm.  For EVERY
combination, if the selected algorithm — the modelled computation (`triSolve`, `cholSolve`, `diagSolve`, `kronLoop2`,
`kpadloConstSolve2`, `kpadloKronConstSolve2`, `kpadloSymmSolve2`, `sumKronSolve2`, `woodbury`, Cholesky fresh / cached / from a cached
triangular root, CG) fed with primitive outputs that meet their contracts (`Runs`) — returns `X` for the operator with dense
matrix `A` and right-hand side `B`, then `X = A⁻¹ B`. -/
theorem solve_any_branch (e : Entry) (cls : OpClass) (n : Nat) (s : Settings) (cache : CacheState)
    {N c : Nat} (A : Matrix (Fin N) (Fin N) α) (B X : Matrix (Fin N) (Fin c) α) (hA : IsUnit A.det)
    (hrun : Runs (methodOf e cls n s cache) N c A B X) : X = A⁻¹ * B := hrun.correct hA

/-- … with a left factor: `Solve.forward` concatenates `[Lᵀ | R]`, runs the selected algorithm ONCE on it, slices the last `p`
columns and multiplies by `L`; the result is `L A⁻¹ R` for every combination. -/
theorem solve_any_branch_left (e : Entry) (cls : OpClass) (n : Nat) (s : Settings) (cache : CacheState)
    {N o p : Nat} (A : Matrix (Fin N) (Fin N) α) (L : Matrix (Fin o) (Fin N) α) (R : Matrix (Fin N) (Fin p) α)
    (X : Matrix (Fin N) (Fin (o + p)) α) (hA : IsUnit A.det)
    (hrun : Runs (methodOf e cls n s cache) N (o + p) A (catLR L R) X) : L * sliceR X = L * A⁻¹ * R := by
  rw [hrun.correct hA, sliceR_mul, sliceR_catLR, Matrix.mul_assoc]

/-- The decision function is defined (never `unmodelled`) for every class, size, settings and cache state on the `solve` and
`inv_quad` entry points, and on `inv_quad_logdet` for the classes that inherit the base implementation. -/
theorem solveMethod_total (cls : OpClass) (n : Nat) (s : Settings) (c : CacheState) :
    solveMethod cls n s c ≠ .unmodelled ∧ methodOf .invQuad cls n s c ≠ .unmodelled ∧
    (cls.baseInvQuadLogdet = true → methodOf .invQuadLogdet cls n s c ≠ .unmodelled) := by
  refine ⟨methodOf_solve_modelled cls n s c, methodOf_invQuad_modelled cls n s c, fun hb => ?_⟩
  unfold methodOf
  simp only [hb, Bool.not_true, Bool.false_eq_true, if_false]
  split
  · split
    · simp
    · split <;> simp
  · cases hsel : selectInvQuad n s with
    | iterative => exact innerSolve_modelled cls n s _
    | cholesky => simp
    | structured => simp

/-- **Cached factors.**  `solve` / `inv_quad` rebuild the operator from its representation, so a Cholesky factor or root cached on
the caller's object never changes their algorithm (only LowRankRootAddedDiag's own `chol_cap_mat` does, and only for `solve`, which
that class overrides; `inv_quad` sees no cache at all); the base
`inv_quad_logdet` in its Cholesky branch uses a cached triangular root first, a cached Cholesky factor second, and factorizes
otherwise — all three are inside `solve_any_branch` (`Runs.cholFromRoot`, `.cholCached`, `.cholFresh`). -/
theorem cached_factor_branches (cls : OpClass) (n : Nat) (s : Settings) (c : CacheState) :
    (solveMethod cls n s c = solveMethod cls n s ⟨false, false, c.capChol⟩ ∧
      methodOf .invQuad cls n s c = methodOf .invQuad cls n s ⟨false, false, false⟩) ∧
    (cls.baseInvQuadLogdet = true → (s.fastLogProb = false ∨ n ≤ s.maxChol) →
      methodOf .invQuadLogdet cls n s c
        = if c.triRoot then .cholFromRoot else if c.chol then .cholCached else .cholFresh) := by
  refine ⟨⟨?_, ?_⟩, fun hb hsel => ?_⟩
  · cases cls <;> rfl
  · unfold methodOf; rfl
  · unfold methodOf
    have : ((!s.fastLogProb) || decide (n ≤ s.maxChol)) = true := by
      rcases hsel with h | h <;> simp [h]
    simp [hb, this]

/-- The decision function agrees with the trace model (`trace`, compared with the library's `verbose_linalg` log on every run):
`pcg` ⇔ the log is one CG run (preceded by the pivoted-Cholesky event exactly for `pcg true`), `cholFresh` ⇔ the log is the
Cholesky event. -/
theorem solveMethod_matches_trace (s : Settings) (n : Nat) :
    (solveMethod .generic n s ⟨false, false, false⟩ = .pcg false ↔ trace s (.gen n) = [.cg n]) ∧
    (solveMethod .addedDiag n s ⟨false, false, false⟩ = .pcg true ↔ trace s (.addedDiag n) = [.pivchol n, .cg n]) ∧
    (solveMethod .addedDiag n s ⟨false, false, false⟩ = .pcg false ↔ trace s (.addedDiag n) = [.cg n]) ∧
    (solveMethod .generic n s ⟨false, false, false⟩ = .cholFresh ↔ trace s (.gen n) = cholEv n) := by
  have hne1 : cholEv n ≠ [.cg n] := fun h => Bool.noConfusion (cholEv_no_cg n (.cg n) (h ▸ List.mem_singleton_self _))
  have hne2 : cholEv n ≠ [.pivchol n, .cg n] := by unfold cholEv; split <;> simp
  have hne3 : ([Ev.cg n] : List Ev) ≠ cholEv n := fun h => hne1 h.symm
  simp only [solveMethod, methodOf, OpClass.isCholOrTri, trace]
  cases hsel : selectSolve false n s with
  | structured => exact absurd hsel (selectSolve_false_ne_structured n s)
  | cholesky => simp [hne1, hne2]
  | iterative =>
    simp only [innerSolve, hasPrecond]
    by_cases hp : s.precSize = 0 ∨ n < s.minPrec
    · have : (s.precSize == 0 || decide (n < s.minPrec)) = true := by
        rcases hp with h | h <;> simp [h]
      simp [hp, this, hne3]
    · have : (s.precSize == 0 || decide (n < s.minPrec)) = false := by
        simp only [not_or] at hp; simp [hp.1]; omega
      simp [hp, this, hne3]

/-! ### The iterative branch: composition with C08 (imported theorems) -/

/-- **cg_branch_exact** (C08 `exact_at_n` composed with the matrix closures of `LinearOperator._solve`): preconditioned CG on a
symmetric positive definite `A` with a symmetric preconditioner `W` returns `A⁻¹ b̂` after `n` regular steps — the hypothesis
`A X = B` of the `pcg` case of `solve_any_branch`, in exact arithmetic. -/
theorem cg_branch_exact_solution {n : Nat} {N : C08.NumOps ℝ} (hN : C08.Lawful N) (P : C08.Params ℝ) (he : 0 < P.eps)
    (hp : P.precond = true) (A W : Matrix (Fin n) (Fin n) ℝ) (hAs : Aᵀ = A)
    (hApd : ∀ v : C08.Vec ℝ n, v ≠ 0 → 0 < C08.dot v (A.mulVec v)) (hWs : Wᵀ = W) (b x0 : C08.Vec ℝ n)
    (hreg : ∀ j < n, C08.Regular P (matSys A W b x0) (C08.traj N P (matSys A W b x0) j)) :
    (C08.traj N P (matSys A W b x0) n).x = (A⁻¹).mulVec (C08.prep N P (matSys A W b x0)).b :=
  cg_branch_exact hN P he hp A W hAs hApd hWs b x0 hreg

/-- **cg_branch_within_bound** (C08 `chebyshev_rate_pre` composed): preconditioned CG on `A` with the pivoted-Cholesky
preconditioner `W = (L_k L_kᵀ + D)⁻¹` (symmetric positive definite by `pivchol_preconditioner_spd`) approaches `A⁻¹ b̂` within the C08
bound `2 ((√κ−1)/(√κ+1))^j` in the `A`-norm, `κ = lmax/lmin` the condition number of the preconditioned operator. -/
theorem cg_branch_within_bound {n : Nat} {N : C08.NumOps ℝ} (hN : C08.Lawful N) (P : C08.Params ℝ) (he : 0 < P.eps)
    (hp : P.precond = true) (A W : Matrix (Fin n) (Fin n) ℝ) (hAs : Aᵀ = A)
    (hApd : ∀ v : C08.Vec ℝ n, v ≠ 0 → 0 < C08.dot v (A.mulVec v))
    (hWs : Wᵀ = W) (hWpd : ∀ v : C08.Vec ℝ n, v ≠ 0 → 0 < C08.dot v (W.mulVec v)) (b x0 : C08.Vec ℝ n)
    (lmin lmax : ℝ) (hpos : 0 < lmin) (hle : lmin ≤ lmax)
    (hlo : ∀ y : C08.Vec ℝ n, lmin * C08.dot y (W.mulVec y) ≤ C08.dot (W.mulVec y) (A.mulVec (W.mulVec y)))
    (hhi : ∀ y : C08.Vec ℝ n, C08.dot (W.mulVec y) (A.mulVec (W.mulVec y)) ≤ lmax * C08.dot y (W.mulVec y))
    (j : Nat) (hreg : ∀ i < j, C08.Regular P (matSys A W b x0) (C08.traj N P (matSys A W b x0) i)) :
    Real.sqrt (C08.errA (matSys A W b x0) ((A⁻¹).mulVec (C08.prep N P (matSys A W b x0)).b)
        (C08.traj N P (matSys A W b x0) j).x)
      ≤ 2 * C08.rho lmin lmax ^ j
        * Real.sqrt (C08.errA (matSys A W b x0) ((A⁻¹).mulVec (C08.prep N P (matSys A W b x0)).b)
            (C08.traj N P (matSys A W b x0) 0).x) :=
  cg_branch_rate hN P he hp A W hAs hApd hWs hWpd b x0 lmin lmax hpos hle hlo hhi j hreg

/-- The pivoted-Cholesky preconditioner of `AddedDiagLinearOperator` meets the hypotheses of `cg_branch_within_bound`:
`(L Lᵀ + diag d)⁻¹` with `d > 0` is symmetric positive definite, for every `n × k` factor `L`. -/
theorem pivchol_preconditioner_spd {n k : Nat} (L : Matrix (Fin n) (Fin k) ℝ) (d : Fin n → ℝ) (hd : ∀ i, 0 < d i) :
    ((L * Lᵀ + diagonal d)⁻¹)ᵀ = (L * Lᵀ + diagonal d)⁻¹ ∧
    ∀ v : C08.Vec ℝ n, v ≠ 0 → 0 < C08.dot v (((L * Lᵀ + diagonal d)⁻¹).mulVec v) :=
  inv_spd _ (lowrank_plus_diag_spd L d hd).1 (lowrank_plus_diag_spd L d hd).2

/-! ### Batch-broadcast right-hand sides: flat row-major batch buffers -/

open LinOp.C01 (broadcastShape restrict) in
/-- **solve_broadcast_refines**: an operator batch of shape `sA` (flat buffer of `prodL sA` matrices) solved against a rhs batch of
shape `sB` — either may have size-1 dimensions or lack leading dimensions (`torch.cholesky_solve` / `solve_triangular` / `rhs / diag`
broadcasting, `rhs.expand(*batch_shape, …)` in `KroneckerProductLinearOperator._solve` and `BatchRepeat._cholesky_solve`): member `p` of
the result (shape `out = broadcast_shapes(sA, sB)`) is `A[mA]⁻¹ · B[mB]` where the members read are in range and are exactly the
members whose multi-index is C01's `restrict` of the output multi-index (size-1 dimension ↦ 0, missing leading dimension dropped).
All batch shapes, sizes and column counts. -/
theorem solve_broadcast_refines {n c : Nat} (sA sB out : List Nat) (A : Nat → Matrix (Fin n) (Fin n) α)
    (B : Nat → Mat α n c) (p : Nat) (h : broadcastShape sA sB = some out) (hp : p < prodL out) :
    (Matrix.of (solveBroadcastFlat sA sB out (fun m => ((A m)⁻¹ : Matrix _ _ α)) B p) : Matrix _ _ α)
        = (A (bcastMember sA out p))⁻¹ * Matrix.of (B (bcastMember sB out p)) ∧
      bcastMember sA out p < prodL sA ∧ bcastMember sB out p < prodL sB ∧
      unflat sA (bcastMember sA out p) = restrict sA (unflat out p) ∧
      unflat sB (bcastMember sB out p) = restrict sB (unflat out p) ∧
      flatOf out (unflat out p) = p :=
  ⟨solveBroadcastFlat_refines sA sB out A B p, (bcastMember_spec h hp).1, (bcastMember_spec h hp).2.1,
    (bcastMember_spec h hp).2.2.1, (bcastMember_spec h hp).2.2.2, flatOf_unflat out p hp⟩

open LinOp.C01 (broadcastShape restrict) in
/-- **kronSolve_broadcast_refines**: `KroneckerProductLinearOperator._solve` with batched factors (batch shape `sA`) and a broadcasting
rhs (batch shape `sB`): the rhs is expanded to `out`, the reshape / factor-solve / permute loop runs member by member; member `p` of the
result is `(A[mA] ⊗ B[mA])⁻¹ · X[mB]` with the same index maps. -/
theorem kronSolve_broadcast_refines {n1 n2 c : Nat} (sA sB out : List Nat) (A : Nat → Mat α n1 n1) (B : Nat → Mat α n2 n2)
    (X : Nat → Mat α (n1 * n2) c) (p : Nat) (h : broadcastShape sA sB = some out) (hp : p < prodL out) :
    (Matrix.of (kronSolveBroadcastFlat sA sB out (fun m => ((Matrix.of (A m))⁻¹ : Matrix (Fin n1) (Fin n1) α))
        (fun m => ((Matrix.of (B m))⁻¹ : Matrix (Fin n2) (Fin n2) α)) X p) : Matrix _ _ α)
      = (Matrix.of (kronDense (A (bcastMember sA out p)) (B (bcastMember sA out p))))⁻¹ * Matrix.of (X (bcastMember sB out p)) ∧
      bcastMember sA out p < prodL sA ∧ bcastMember sB out p < prodL sB :=
  ⟨kronLoop_refines _ _ _, (bcastMember_spec h hp).1, (bcastMember_spec h hp).2.1⟩

open LinOp.C01 (broadcastShape restrict) in
/-- **solve_broadcast_left_refines** (`Solve.forward`: `left @ solve`): a left factor with its own batch shape `sL` broadcast against
the solve result of batch shape `out`: member `p` of the final result (shape `out2 = broadcast_shapes(sL, out)`) is
`L[mL] · A[mA]⁻¹ · B[mB]`, the operator / rhs members being read through the composition of the two index maps; all members in range. -/
theorem solve_broadcast_left_refines {n c o : Nat} (sA sB sL out out2 : List Nat) (A : Nat → Matrix (Fin n) (Fin n) α)
    (B : Nat → Mat α n c) (L : Nat → Mat α o n) (p : Nat) (h : broadcastShape sA sB = some out)
    (h2 : broadcastShape sL out = some out2) (hp : p < prodL out2) :
    (Matrix.of (leftBroadcastFlat sL out out2 L (solveBroadcastFlat sA sB out (fun m => ((A m)⁻¹ : Matrix _ _ α)) B) p) : Matrix _ _ α)
        = Matrix.of (L (bcastMember sL out2 p)) *
          ((A (bcastMember sA out (bcastMember out out2 p)))⁻¹ * Matrix.of (B (bcastMember sB out (bcastMember out out2 p)))) ∧
      bcastMember sL out2 p < prodL sL ∧ bcastMember out out2 p < prodL out ∧
      bcastMember sA out (bcastMember out out2 p) < prodL sA ∧ bcastMember sB out (bcastMember out out2 p) < prodL sB := by
  have hq := (bcastMember_spec h2 hp).2.1
  refine ⟨?_, (bcastMember_spec h2 hp).1, hq, (bcastMember_spec h hq).1, (bcastMember_spec h hq).2.1⟩
  rw [← solveBroadcastFlat_refines]
  ext i k
  simp only [leftBroadcastFlat, Matrix.of_apply, Mat.mul, tab_eq, sumFin_eq_sum, Matrix.mul_apply]

/-- the hypotheses are satisfiable by a non-trivial instance: operator batch `(2,1)`, rhs batch `(3,)` → output `(2,3)`; output member 4
= multi-index `(1,1)` reads operator member 1 and rhs member 1; a left factor of batch `(2,1,1)` gives output `(2,2,3)`. -/
example : LinOp.C01.broadcastShape [2, 1] [3] = some [2, 3] ∧ 4 < prodL [2, 3] ∧ unflat [2, 3] 4 = [1, 1] ∧
    bcastMember [2, 1] [2, 3] 4 = 1 ∧ bcastMember [3] [2, 3] 4 = 1 ∧ bcastMember [3] [2, 3] 2 = 2 ∧
    LinOp.C01.broadcastShape [2, 1, 1] [2, 3] = some [2, 2, 3] ∧ bcastMember [2, 3] [2, 2, 3] 11 = 5 ∧
    bcastMember [2, 1, 1] [2, 2, 3] 11 = 1 := by decide

/-- hypotheses are satisfiable: every diagonal matrix has the eigen-system `(1, diag)`, so `Runs .eigConst …` etc. are inhabited
for all factor sizes; `Runs` itself is inhabited for a 2×2 diagonal solve. -/
example {n : Nat} (e : Fin n → α) : IsEig (diagonal e) (1 : Matrix (Fin n) (Fin n) α) e :=
  ⟨by simp, by simp, by simp⟩

example : Runs (methodOf .solve .diag 2 defaultSettings ⟨false, false, false⟩) 2 1
    (diagonal (fun _ : Fin 2 => (2 : Rat))) (Matrix.of fun _ _ => 1) (Matrix.of (LinOp.C04.diagSolve (fun _ => 2) fun _ _ => 1)) :=
  Runs.diagDiv _ (fun _ => by norm_num) _

example : solveMethod .kpadloConst 6 ⟨0, true, true, 15, 2000⟩ ⟨false, false, false⟩ = .eigConst ∧
    solveMethod .sumKron 6 ⟨800, true, true, 15, 2000⟩ ⟨true, false, false⟩ = .cholFresh ∧
    methodOf .invQuadLogdet .generic 6 ⟨800, true, true, 15, 2000⟩ ⟨true, false, false⟩ = .cholCached ∧
    solveMethod .lrrad 6 ⟨800, true, true, 15, 2000⟩ ⟨false, false, true⟩ = .woodbury true := by decide

/-- The hypotheses of the theorems above are satisfiable by non-trivial instances. -/
example : IsLower (fun i j : Fin 2 => if j ≤ i then (1 : Rat) else 0) := by
  intro i j hij
  have : ¬ j ≤ i := not_le.mpr hij
  simp [this]

example : selectSolve false 3 ⟨0, true, true, 15, 2000⟩ = .iterative ∧
    selectSolve false 3 ⟨800, true, true, 15, 2000⟩ = .cholesky ∧
    selectSolve true 3 ⟨0, true, true, 15, 2000⟩ = .structured ∧
    trace ⟨0, true, true, 5, 0⟩ (.kron (.addedDiag 2) (.block 2 (.gen 3))) = [.pivchol 2, .cg 2, .cg 3] := by
  decide

end LinOp.C04
