import LinOp.C08.Proofs15
import LinOp.C08.ProofsReal
import LinOp.C08.Known
import LinOp.Generated.C08Consts
/-!
C08 — conjugate gradients converges to the solution and returns true Lanczos matrices.
Property theorems only.  `N : NumOps α` with `Lawful N` is the scalar interface over a linearly ordered
field with square roots (e.g. `ℝ` with `Real.sqrt`); `s : Sys α n` is one system column with its
`matmul_closure` (`s.amul`) and preconditioner (`s.pre`); `colStep` is one pass through the loop body of
`linear_cg` for that column, `iterCol … k` is `k` passes, `linearCg` the whole call on all columns.
The model (LinOp/C08/Model.lean) mirrors the source statement by statement; its thresholds are the
generated constants pinned below; the harness compares it with the real `linear_cg` on every run.
-/
set_option linter.unusedSectionVars false
namespace LinOp.C08

variable {α : Type} [Field α] [LinearOrder α] [IsStrictOrderedRing α]

/-! ### generated facts about the source -/

/-- The thresholds and defaults of the source are the ones the property statement names
(`eps = stop_updating_after = 1e-10`, early-stop floor 10, tridiagonal switch-off `1e-6`,
`max_cg_iterations = 1000`, `max_lanczos_quadrature_iterations = 20`, `cg_tolerance = 1`,
`terminate_cg_by_size` off). -/
theorem generated_thresholds :
    Generated.C08.eps = 1 / 10000000000 ∧ Generated.C08.stopUpdatingAfter = 1 / 10000000000 ∧
    Generated.C08.iterFloor = 10 ∧ Generated.C08.iterFloorFound = true ∧
    Generated.C08.triOff = 1 / 1000000 ∧ Generated.C08.maxCgIterations = 1000 ∧
    Generated.C08.maxLanczosQuadratureIterations = 20 ∧ Generated.C08.cgTolerance = 1 ∧
    Generated.C08.terminateCgBySize = "False" ∧ Generated.C08.nTridiagDefault = 0 :=
  ⟨rfl, rfl, rfl, rfl, rfl, rfl, rfl, rfl, rfl, rfl⟩

/-- Hypotheses `0 < eps`, `0 < stop_updating_after` of the theorems below hold for the defaults, and the
default tridiagonal budget does not exceed the default iteration budget (no spurious `RuntimeError`). -/
theorem generated_hypotheses :
    0 < Generated.C08.eps ∧ 0 < Generated.C08.stopUpdatingAfter ∧ 0 < Generated.C08.triOff ∧
    Generated.C08.maxLanczosQuadratureIterations ≤ Generated.C08.maxCgIterations := by
  decide +kernel

/-- The statements of the source that the model mirrors are the ones it was written against:
both kernels mask `alpha` by `has_converged` after the safe division, the residual norm is masked by
`rhs_is_zero`, the stopping rule and the tridiagonal guard have the modelled form, the tridiagonal block
precedes the tolerance exit in the loop body, the warning guard is `not tolerance_reached and n_iter > 0`, and
`LinearOperator._solve` passes the two settings as limits. -/
theorem generated_structure :
    Generated.C08.kernelNoPrecond =
      ["torch.mul(curr_conjugate_vec, mvms, out=mul_storage)",
       "torch.sum(mul_storage, dim=-2, keepdim=True, out=alpha)",
       "torch.lt(alpha, eps, out=is_zero)", "alpha.masked_fill_(is_zero, 1)",
       "torch.div(residual_inner_prod, alpha, out=alpha)", "alpha.masked_fill_(is_zero, 0)",
       "alpha.masked_fill_(has_converged, 0)", "torch.addcmul(residual, -alpha, mvms, out=residual)",
       "precond_residual = residual.clone()",
       "_jit_linear_cg_updates(result, alpha, residual_inner_prod, eps, beta, residual, precond_residual, mul_storage, is_zero, curr_conjugate_vec)"] ∧
    Generated.C08.precondBranch =
      ["torch.mul(curr_conjugate_vec, mvms, out=mul_storage)",
       "torch.sum(mul_storage, -2, keepdim=True, out=alpha)",
       "torch.lt(alpha, eps, out=is_zero)", "alpha.masked_fill_(is_zero, 1)",
       "torch.div(residual_inner_prod, alpha, out=alpha)", "alpha.masked_fill_(is_zero, 0)",
       "alpha.masked_fill_(has_converged, 0)",
       "residual = torch.addcmul(residual, alpha, mvms, value=-1, out=residual)",
       "precond_residual = preconditioner(residual)",
       "_jit_linear_cg_updates(result, alpha, residual_inner_prod, eps, beta, residual, precond_residual, mul_storage, is_zero, curr_conjugate_vec)"] ∧
    Generated.C08.kernel =
      ["result = torch.addcmul(result, alpha, curr_conjugate_vec, out=result)",
       "beta.resize_as_(residual_inner_prod).copy_(residual_inner_prod)",
       "torch.mul(residual, precond_residual, out=mul_storage)",
       "torch.sum(mul_storage, -2, keepdim=True, out=residual_inner_prod)",
       "torch.lt(beta, eps, out=is_zero)", "beta.masked_fill_(is_zero, 1)",
       "torch.div(residual_inner_prod, beta, out=beta)", "beta.masked_fill_(is_zero, 0)",
       "curr_conjugate_vec.mul_(beta).add_(precond_residual)"] ∧
    Generated.C08.postKernel =
      ["torch.norm(residual, 2, dim=-2, keepdim=True, out=residual_norm)",
       "residual_norm.masked_fill_(rhs_is_zero, 0)",
       "torch.lt(residual_norm, stop_updating_after, out=has_converged)"] ∧
    Generated.C08.stopRule =
      "k >= min(10, max_iter - 1) and bool(residual_norm.mean() < tolerance) and (not (n_tridiag and k < min(n_tridiag_iter, max_iter - 1)))" ∧
    Generated.C08.stopBody = ["tolerance_reached = True", "break"] ∧
    Generated.C08.loopOrder = ["assign:mvms", "kernel", "torch.norm(residual, 2, dim=-2, keepdim=True, out=residual_n",
      "residual_norm.masked_fill_(rhs_is_zero, 0)", "torch.lt(residual_norm, stop_updating_after, out=has_converg",
      "tridiag-block", "stop-rule"] ∧
    Generated.C08.warnGuard = "not tolerance_reached and n_iter > 0" ∧
    Generated.C08.triGuard = "n_tridiag and k < n_tridiag_iter and update_tridiag" ∧
    Generated.C08.mvms = "mvms = matmul_closure(curr_conjugate_vec)" ∧
    Generated.C08.loopIter = "range(n_iter)" ∧
    Generated.C08.solveCall =
      "utils.linear_cg(self._matmul, rhs, n_tridiag=num_tridiag, max_iter=settings.max_cg_iterations.value(), max_tridiag_iter=settings.max_lanczos_quadrature_iterations.value(), preconditioner=preconditioner)" :=
  ⟨rfl, rfl, rfl, rfl, rfl, rfl, rfl, rfl, rfl, rfl, rfl, rfl⟩

/-! ### one iteration -/

/-- **The modelled step is the textbook PCG step** while the column is not frozen, `pᵀAp ≥ eps` and
`rᵀz ≥ eps`: `x' = x + a p`, `r' = r − a A p` with `a = rᵀz / pᵀAp`; `z' = M⁻¹ r'` (or `r'` without
preconditioner); `p' = z' + b p` with `b = r'ᵀz' / rᵀz`.  Both kernels (`precond` on/off) agree on this. -/
theorem cg_step_is_textbook {N : NumOps α} (hN : Lawful N) (P : Params α) {n : Nat} (s : Sys α n) (iz : Bool)
    (c : Col α n) (hc : c.conv = false) (hp : ¬ dot c.p (s.amul c.p) < P.eps) (hz : ¬ c.rz < P.eps) :
    let a := c.rz / dot c.p (s.amul c.p)
    let c' := colStep N P s iz c
    c'.x = c.x + a • c.p ∧ c'.r = c.r - a • s.amul c.p ∧
    c'.z = (if P.precond then s.pre c'.r else c'.r) ∧ c'.rz = dot c'.r c'.z ∧
    c'.beta = c'.rz / c.rz ∧ c'.p = c'.z + (c'.rz / c.rz) • c.p ∧ c'.alpha = a := by
  intro a c'
  have ha : alphaF N P s c = a := alphaF_regular hN P s c hc hp
  have hb : c'.beta = c'.rz / c.rz := colStep_beta_regular hN P s iz c hz
  refine ⟨by rw [colStep_x, ha], by rw [colStep_r, ha], colStep_z N P s iz c, colStep_rz N P s iz c, hb, ?_,
    by rw [colStep_alpha, ha]⟩
  rw [colStep_p, hb]

/-- **Recurrence residual = true residual, for every iteration count**: with a linear
`matmul_closure`, the `residual` the loop carries is `b̂ − A x_k` after any number `k` of iterations
(any mix of regular, safe-division and frozen steps), where `b̂` is the normalised right-hand side. -/
theorem cg_residual_invariant (N : NumOps α) (P : Params α) {n : Nat} {s : Sys α n} (hA : Lin s.amul)
    (iz : Bool) (k : Nat) :
    (iterCol N P s iz k (initCol N P s (prep N P s))).r
      = (prep N P s).b - s.amul (iterCol N P s iz k (initCol N P s (prep N P s))).x :=
  iterCol_residual N P hA _ iz _ (initCol_residual N P s) k

/-- **Zero right-hand side and zero guess give zero**, for every iteration budget `k`, every
preconditioner with `M⁻¹0 = 0`, either kernel: the un-normalised result `x_k · rhs_norm` is `0`. -/
theorem cg_zero_rhs {N : NumOps α} (hN : Lawful N) (P : Params α) (he : 0 < P.eps) {n : Nat} {s : Sys α n}
    (hA : Lin s.amul) (hM : s.pre 0 = 0) (hr : s.rhs = 0) (hx : s.x0 = 0) (k : Nat) :
    (fun i => (iterCol N P s (prep N P s).isZero k (initCol N P s (prep N P s))).x i * (prep N P s).nrm)
      = (0 : Vec α n) := by
  obtain ⟨hg, hr0, _⟩ := prep_zero hN P he hA hr hx
  have h0 := iterCol_zero hN P he hA hM (prep N P s).isZero _ (initCol_zero (N := N) P hM (prep N P s) hg hr0) k
  funext i
  simp [h0.1]

/-- **Scaling law through the normalisation**: multiplying a right-hand-side column and its initial
guess by `c > 0` (both norms staying `≥ eps`) leaves the normalised problem — hence every later state of
the column, every stopping decision and the tridiagonal entries — unchanged and multiplies `rhs_norm`,
by which the result is finally multiplied, by `c`.  So `x(c·b) = c·x(b)`. -/
theorem cg_scaling {N : NumOps α} (hN : Lawful N) (P : Params α) (he : 0 < P.eps) {n : Nat} (s : Sys α n)
    (c : α) (hc : 0 < c) (h1 : ¬ norm2 N s.rhs < P.eps) (h2 : ¬ c * norm2 N s.rhs < P.eps) (k : Nat) :
    (fun i => (iterCol N P (scaleSys c s) (prep N P (scaleSys c s)).isZero k
                (initCol N P (scaleSys c s) (prep N P (scaleSys c s)))).x i * (prep N P (scaleSys c s)).nrm)
      = c • fun i => (iterCol N P s (prep N P s).isZero k (initCol N P s (prep N P s))).x i * (prep N P s).nrm := by
  rw [prep_scale hN P s c hc h1 h2, iterCol_scaleSys]
  funext i
  show (iterCol N P s (prep N P s).isZero k (initCol N P s (prep N P s))).x i * (c * (prep N P s).nrm) = _
  simp only [Pi.smul_apply, smul_eq_mul]
  ring

/-- **Converged columns stop changing**: once `has_converged` is set for a column (initially or after
any iteration), its iterate and residual are the same after every further iteration, and it stays
converged (`0 < stop_updating_after`). -/
theorem cg_frozen_fixed {N : NumOps α} (hN : Lawful N) (P : Params α) (hs : 0 < P.stopAfter) {n : Nat}
    (s : Sys α n) (iz : Bool) (c : Col α n)
    (hreach : c = initCol N P s (prep N P s) ∨ ∃ c₀, c = colStep N P s iz c₀)
    (hconv : c.conv = true) (k : Nat) :
    (iterCol N P s iz k c).x = c.x ∧ (iterCol N P s iz k c).r = c.r ∧ (iterCol N P s iz k c).conv = true := by
  have hf : Frozen N P iz c := by
    rcases hreach with h | ⟨c₀, h⟩
    · subst h; exact frozen_of_init N P s _ iz hconv
    · subst h; exact frozen_of_step N P s iz c₀ hconv
  obtain ⟨h1, h2, h3⟩ := iterCol_frozen hN P hs s iz c hf k
  exact ⟨h1, h2, h3.1⟩

/-- **A-norm error never increases, step by step** (`A` symmetric linear, `A x* = b̂`): a regular step
(column not frozen, `pᵀAp ≥ eps > 0`) keeps the invariant (`r = b̂ − A x`, `pᵀr = rᵀz`), makes the new
residual orthogonal to the old direction, and lowers `‖x* − x‖²_A` by exactly `(rᵀz)²/pᵀAp ≥ 0`. -/
theorem cg_Anorm_step {N : NumOps α} (hN : Lawful N) (P : Params α) (he : 0 < P.eps) {n : Nat} {s : Sys α n}
    (hA : LinSym s.amul) (xs b : Vec α n) (hxs : s.amul xs = b) (iz : Bool) (c : Col α n)
    (hc : c.conv = false) (hp : ¬ dot c.p (s.amul c.p) < P.eps) (hI : Inv s b c) :
    Inv s b (colStep N P s iz c) ∧ dot c.p (colStep N P s iz c).r = 0 ∧
      errA s xs (colStep N P s iz c).x = errA s xs c.x - c.rz ^ 2 / dot c.p (s.amul c.p) ∧
      errA s xs (colStep N P s iz c).x ≤ errA s xs c.x :=
  colStep_regular hN P he hA xs b hxs iz c hc hp hI

/-- **A-norm error is non-increasing in the iteration budget**: if the first `k` iterations of a column
are regular steps or the column is frozen (`has_converged`) — i.e. no step hit the `pᵀAp < eps` safe
division, the accuracy floor of the property statement — then `‖x* − x_{j+1}‖_A ≤ ‖x* − x_j‖_A` for all
`j < k`, for every `n`, every preconditioner closure, either kernel.
(Steps with `pᵀAp < eps` leave `x` unchanged too, but break `pᵀr = rᵀz` for the steps after them.) -/
theorem cg_Anorm_monotone {N : NumOps α} (hN : Lawful N) (P : Params α) (he : 0 < P.eps) (hs : 0 < P.stopAfter)
    {n : Nat} {s : Sys α n} (hA : LinSym s.amul) (xs : Vec α n) (hxs : s.amul xs = (prep N P s).b) (k : Nat)
    (hreg : ∀ j < k, let c := iterCol N P s (prep N P s).isZero j (initCol N P s (prep N P s))
      c.conv = true ∨ ¬ dot c.p (s.amul c.p) < P.eps) :
    ∀ j < k, errA s xs (iterCol N P s (prep N P s).isZero (j + 1) (initCol N P s (prep N P s))).x
      ≤ errA s xs (iterCol N P s (prep N P s).isZero j (initCol N P s (prep N P s))).x := by
  -- every state is frozen or satisfies the descent invariant `Inv`
  have step := fun j (hj : j < k) =>
    colStep_descent hN P he hs hA xs _ hxs (prep N P s).isZero _
      (iterCol_frozen_of_conv N P s _ _ j) (hreg j hj)
  have key : ∀ j ≤ k, Frozen N P (prep N P s).isZero (iterCol N P s (prep N P s).isZero j (initCol N P s (prep N P s))) ∨
      Inv s (prep N P s).b (iterCol N P s (prep N P s).isZero j (initCol N P s (prep N P s))) := by
    intro j
    induction j with
    | zero => exact fun _ => .inr (initCol_inv N P s)
    | succ j ih => exact fun hj => (step j hj (ih (Nat.le_of_lt hj))).1
  exact fun j hj => (step j hj (key j (Nat.le_of_lt hj))).2

/-- **Local orthogonality and conjugacy** (`A` and the preconditioner symmetric): along regular steps with
unmasked `β` (`rᵀz ≥ eps`) consecutive residuals are `M⁻¹`-orthogonal, `r_{k+1}ᵀ z_k = 0`, consecutive
directions are `A`-conjugate, `p_{k+1}ᵀ A p_k = 0`, and the invariant `Inv2` (true residual, `pᵀr = rᵀz`,
`z = M⁻¹r`, `zᵀAp = pᵀAp`) propagates — for every `n`, either kernel.  It holds initially (`initCol_inv2`).
This is the induction step; the all-pairs statement is `cg_invariants` below. -/
theorem cg_orthogonality_partial {N : NumOps α} (hN : Lawful N) (P : Params α) (he : 0 < P.eps) {n : Nat}
    {s : Sys α n} (hA : LinSym s.amul) (hM : ∀ u v, dot u (preF P s v) = dot (preF P s u) v)
    (xs b : Vec α n) (hxs : s.amul xs = b) (iz : Bool) (c : Col α n)
    (hc : c.conv = false) (hp : ¬ dot c.p (s.amul c.p) < P.eps) (hz : ¬ c.rz < P.eps) (hI : Inv2 P s b c) :
    Inv2 P s b (colStep N P s iz c) ∧ dot (colStep N P s iz c).r c.z = 0 ∧
      dot (colStep N P s iz c).p (s.amul c.p) = 0 :=
  colStep_conjugate hN P he hA hM b iz c hc hp hz hI

/-- **All-pairs orthogonality and conjugacy** (`cg_invariants` of the design, full): let `traj k` be the loop
state of a column after `k` iterations of `linear_cg`.  If the first `m` iterations are regular steps
(column not frozen, `pᵀAp ≥ eps`, `rᵀz ≥ eps`), `A` is symmetric linear and the preconditioner symmetric, then
for every `k ≤ m` and EVERY earlier `i < k`: `r_kᵀ z_i = 0` (residuals mutually `M⁻¹`-orthogonal) and
`p_kᵀ A p_i = 0` (directions mutually `A`-conjugate), and `Inv2` holds at `k`.  Induction over `k` with the
invariant quantified over all earlier iterations; any `n`, either kernel. -/
theorem cg_invariants {N : NumOps α} (hN : Lawful N) (P : Params α) (he : 0 < P.eps) {n : Nat}
    {s : Sys α n} (hA : LinSym s.amul) (hM : ∀ u v, dot u (preF P s v) = dot (preF P s u) v)
    (xs : Vec α n) (hxs : s.amul xs = (prep N P s).b) (m : Nat)
    (hreg : ∀ j < m, Regular P s (traj N P s j)) :
    ∀ k ≤ m, Inv2 P s (prep N P s).b (traj N P s k) ∧
      ∀ i < k, dot (traj N P s k).r (traj N P s i).z = 0 ∧
               dot (traj N P s k).p (s.amul (traj N P s i).p) = 0 := fun k hk =>
  have h := traj_isPCG hN he hreg
  ⟨{ res := iterCol_residual N P hA.toLin _ _ _ (initCol_residual N P s) k
     pr := (h.p_dot_r hA hM hk).trans (traj_rzdef N P s k).symm
     zdef := traj_zdef N P s k
     rzdef := traj_rzdef N P s k
     zAp := h.z_Ap hA hM hk }, h.orth hA hM k hk⟩

/-- **Exact termination at `n`** (`cg_exact_at_n`): if the first `n` iterations of an `n × n` column are
regular steps, the residual after them is exactly zero, i.e. `A x_n = b̂`; if moreover `A` is injective
(positive definite) `x_n` is the solution.  Consequently every symmetric preconditioner for which the `n`
steps are regular leads to the same `x_n` (`cg_precond_same_limit` in exact arithmetic).  Proof: the `n`
residuals `r_0 … r_{n−1}` have a diagonal, positive Gram matrix against `z_0 … z_{n−1}` (`cg_invariants`), hence
are a basis of the `n`-dimensional space, and `r_n` is orthogonal to all `z_j`. -/
theorem cg_exact_at_n {N : NumOps α} (hN : Lawful N) (P : Params α) (he : 0 < P.eps) {n : Nat}
    {s : Sys α n} (hA : LinSym s.amul) (hM : ∀ u v, dot u (preF P s v) = dot (preF P s u) v)
    (xs : Vec α n) (hxs : s.amul xs = (prep N P s).b)
    (hreg : ∀ j < n, Regular P s (traj N P s j)) :
    (traj N P s n).r = 0 ∧ s.amul (traj N P s n).x = (prep N P s).b ∧
      ((∀ v, s.amul v = 0 → v = 0) → (traj N P s n).x = xs) := by
  have h0 := exact_at_n hN P he hA hM xs hxs hreg
  have hres := cg_residual_invariant N P hA.toLin (prep N P s).isZero n
  have hAx : s.amul (traj N P s n).x = (prep N P s).b := by
    have : (prep N P s).b - s.amul (traj N P s n).x = 0 := by rw [← h0]; exact hres.symm
    exact (sub_eq_zero.mp this).symm
  refine ⟨h0, hAx, fun hinj => ?_⟩
  have : s.amul (xs - (traj N P s n).x) = 0 := by rw [hA.toLin.map_sub, hxs, hAx, sub_self]
  exact (sub_eq_zero.mp (hinj _ this)).symm

/-- **Residuals are mutually orthogonal** (classical CG, unpreconditioned kernel `precond = false`): if the first
`m` iterations of a column are regular steps — the column is not frozen and no safe division fires, i.e. no
breakdown (`pᵀAp ≥ eps > 0`, `rᵀr ≥ eps`) — and `A` is symmetric, then `r_iᵀ r_j = 0` for ALL `i ≠ j`, `i, j ≤ m`
(both orders), for every size `n`. -/
theorem cg_residuals_orthogonal {N : NumOps α} (hN : Lawful N) (P : Params α) (he : 0 < P.eps) (hnp : P.precond = false)
    {n : Nat} {s : Sys α n} (hA : LinSym s.amul) (xs : Vec α n) (hxs : s.amul xs = (prep N P s).b) (m : Nat)
    (hreg : ∀ j < m, Regular P s (traj N P s j)) (i j : Nat) (hi : i ≤ m) (hj : j ≤ m) (hij : i ≠ j) :
    dot (traj N P s i).r (traj N P s j).r = 0 := by
  have h := (traj_isPCG hN he hreg).r_orth hA (preF_sym_of_noprecond P s hnp) hi hj hij
  rwa [traj_zdef N P s j, preF_id_of_noprecond P s hnp] at h

/-- Preconditioned form: with a symmetric preconditioner the residuals are mutually `M⁻¹`-orthogonal,
`r_iᵀ (M⁻¹ r_j) = 0` for all `i ≠ j ≤ m` (`z_j = M⁻¹ r_j` is the `precond_residual` of the code). -/
theorem cg_residuals_M_orthogonal {N : NumOps α} (hN : Lawful N) (P : Params α) (he : 0 < P.eps) {n : Nat}
    {s : Sys α n} (hA : LinSym s.amul) (hM : ∀ u v, dot u (preF P s v) = dot (preF P s u) v)
    (xs : Vec α n) (hxs : s.amul xs = (prep N P s).b) (m : Nat)
    (hreg : ∀ j < m, Regular P s (traj N P s j)) (i j : Nat) (hi : i ≤ m) (hj : j ≤ m) (hij : i ≠ j) :
    dot (traj N P s i).r (traj N P s j).z = 0 ∧ (traj N P s j).z = preF P s (traj N P s j).r :=
  ⟨(traj_isPCG hN he hreg).r_orth hA hM hi hj hij, traj_zdef N P s j⟩

/-- **Search directions are mutually A-conjugate**: under the same hypotheses (either kernel, any symmetric
preconditioner) `p_iᵀ A p_j = 0` for ALL `i ≠ j`, `i, j ≤ m`.  Proved together with the orthogonality of the
residuals by the classical simultaneous induction over the steps (`IsPCG.orth`). -/
theorem cg_directions_conjugate {N : NumOps α} (hN : Lawful N) (P : Params α) (he : 0 < P.eps) {n : Nat}
    {s : Sys α n} (hA : LinSym s.amul) (hM : ∀ u v, dot u (preF P s v) = dot (preF P s u) v)
    (xs : Vec α n) (hxs : s.amul xs = (prep N P s).b) (m : Nat)
    (hreg : ∀ j < m, Regular P s (traj N P s j)) (i j : Nat) (hi : i ≤ m) (hj : j ≤ m) (hij : i ≠ j) :
    dot (traj N P s i).p (s.amul (traj N P s j).p) = 0 :=
  (traj_isPCG hN he hreg).p_conj hA hM hi hj hij

/-- **Termination within `n` steps**: on an `n × n` column there are never `n + 1` regular steps — once the
first `n` iterations were regular the residual is exactly zero and the next state is not regular (its `rᵀz`
is `0 < eps`, so the code's safe division / freeze takes over and the iterate stays at the solution).
`n + 1` mutually orthogonal non-zero vectors do not fit into dimension `n`. -/
theorem cg_terminates_within_n {N : NumOps α} (hN : Lawful N) (P : Params α) (he : 0 < P.eps) {n : Nat}
    {s : Sys α n} (hA : LinSym s.amul) (hM : ∀ u v, dot u (preF P s v) = dot (preF P s u) v)
    (xs : Vec α n) (hxs : s.amul xs = (prep N P s).b)
    (hreg : ∀ j < n, Regular P s (traj N P s j)) :
    (traj N P s n).r = 0 ∧ ¬ Regular P s (traj N P s n) :=
  have h0 := exact_at_n hN P he hA hM xs hxs hreg
  ⟨h0, fun h => h.2.2 (by rw [traj_rzdef, h0, dot_zero_left]; exact he)⟩

/-- **Krylov optimality** (`cg_optimal`): if the first `m` iterations are regular steps, `A` is symmetric positive
semidefinite (`0 ≤ vᵀAv`) and the preconditioner symmetric and linear, then for every `k ≤ m` the iterate `x_k`
minimises the A-norm of the error over `x_0 + K_k`, where
`K_k = span{ (M⁻¹A)^j (M⁻¹ r_0) : j < k }` is the Krylov space of the preconditioned operator:
`‖x* − x_k‖²_A ≤ ‖x* − (x_0 + u)‖²_A` for every `u ∈ K_k`.  (Proof: `r_k ⟂ p_i` for all `i < k`, so `x_k` is optimal over
`x_k + span{p_0 … p_{k−1}}`; `x_k − x_0` and `K_k` lie in that span because `M⁻¹A p_i = (z_i − z_{i+1})/α_i`.)
In particular the error is no larger than for ANY polynomial method of degree `< k` — the starting point of the
Chebyshev rate. -/
theorem cg_optimal {N : NumOps α} (hN : Lawful N) (P : Params α) (he : 0 < P.eps) {n : Nat}
    {s : Sys α n} (hA : LinSym s.amul) (hpsd : ∀ v, 0 ≤ dot v (s.amul v))
    (hM : ∀ u v, dot u (preF P s v) = dot (preF P s u) v) (hMl : Lin (preF P s))
    (xs : Vec α n) (hxs : s.amul xs = (prep N P s).b) (m : Nat)
    (hreg : ∀ j < m, Regular P s (traj N P s j)) (k : Nat) (hk : k ≤ m) (u : Vec α n)
    (hu : u ∈ Submodule.span α (Set.range fun j : Fin k => (preA P s)^[j] (traj N P s 0).z)) :
    errA s xs (traj N P s k).x ≤ errA s xs ((traj N P s 0).x + u) :=
  krylov_optimal_from_x0 hN P he hA hpsd hM hMl xs hxs m hreg k hk u hu

/-! ### the whole call -/

/-- **No NumericalWarning ⇒ tolerance met**: if `linear_cg` returns without the warning then either no
iteration ran, or the loop left through the tolerance test, i.e. the mean over all columns of the
(masked) relative residual norms it reports is `< tolerance`.  Any scalar type, any closures. -/
theorem cg_no_warning_implies_tol {β : Type} [Add β] [Sub β] [Mul β] [Div β] [Neg β] [Zero β] [One β]
    (N : NumOps β) (P : Params β) {n : Nat} (sys : List (Sys β n)) (o : Out β n)
    (h : linearCg N P sys = .ok o) (hw : o.warn = false) :
    o.iters = 0 ∨ N.lt (mean o.rns) P.tol = true := by
  rw [linearCg_ok N P sys o h] at hw ⊢
  exact linearCgCore_no_warning N P sys hw

/-- **The whole call is column-wise CG**: every column of the solution returned by `linear_cg` (any number
of columns and batch members, any coupling through the mean-residual stopping rule, the tridiagonal
bookkeeping and the switch-off) is the `iters`-th iterate of that column's own recurrence `iterCol`,
multiplied by its `rhs_norm` — so the per-column theorems above and below are statements about the
values `linear_cg` returns. -/
theorem cg_columns (N : NumOps α) (P : Params α) {n : Nat} (sys : List (Sys α n)) (o : Out α n)
    (h : linearCg N P sys = .ok o) :
    o.x = sys.map fun s => fun i =>
      (iterCol N P s (prep N P s).isZero o.iters (initCol N P s (prep N P s))).x i * (prep N P s).nrm := by
  rw [linearCg_ok N P sys o h]
  obtain ⟨_, _, _, hx, _⟩ := linearCgCore_columns N P sys
  exact hx

/-- Whole-call form of `cg_zero_rhs`: in the value returned by `linear_cg`, the `j`-th column is exactly
zero whenever that column's right-hand side and initial guess are zero — whatever the other columns,
the budget, the tolerance and the preconditioner (linear) are. -/
theorem cg_call_zero_rhs {N : NumOps α} (hN : Lawful N) (P : Params α) (he : 0 < P.eps) {n : Nat}
    (sys : List (Sys α n)) (o : Out α n) (h : linearCg N P sys = .ok o) (j : Nat) (s : Sys α n)
    (hj : sys[j]? = some s) (hA : Lin s.amul) (hM : s.pre 0 = 0) (hr : s.rhs = 0) (hx : s.x0 = 0) :
    o.x[j]? = some (0 : Vec α n) := by
  rw [cg_columns N P sys o h, List.getElem?_map, hj]
  simp only [Option.map_some]
  exact congrArg some (cg_zero_rhs hN P he hA hM hr hx o.iters)

/-- Whole-call form of `cg_frozen_fixed`/`cg_residual_invariant`: the residual the loop holds for column `s`
when the call returns is the true residual `b̂ − A x̂` of the normalised system. -/
theorem cg_call_residual (N : NumOps α) (P : Params α) {n : Nat} (sys : List (Sys α n)) (o : Out α n)
    (_h : linearCg N P sys = .ok o) (s : Sys α n) (_hs : s ∈ sys) (hA : Lin s.amul) :
    (iterCol N P s (prep N P s).isZero o.iters (initCol N P s (prep N P s))).r
      = (prep N P s).b - s.amul (iterCol N P s (prep N P s).isZero o.iters (initCol N P s (prep N P s))).x :=
  cg_residual_invariant N P hA _ _

/-- **Inconsistent limits and NaNs raise** instead of returning: `max_tridiag_iter > max_iter` is the
first exit; otherwise a NaN anywhere in the first residual `b̂ − A x̂₀` is the second. -/
theorem cg_raises {β : Type} [Add β] [Sub β] [Mul β] [Div β] [Neg β] [Zero β] [One β]
    (N : NumOps β) (P : Params β) {n : Nat} (sys : List (Sys β n)) :
    (P.maxTridiagIter > P.maxIter → linearCg N P sys = .error .tridiagLimit) ∧
    (¬ P.maxTridiagIter > P.maxIter → ∀ s ∈ sys, vecHasNan N (prep N P s).r0 = true →
      linearCg N P sys = .error .nan) :=
  ⟨linearCg_limit N P sys, fun h s hs hn => linearCg_nan N P sys h s hs hn⟩

/-- Conversely, with consistent limits and NaN-free arithmetic the call returns. -/
theorem cg_returns {N : NumOps α} (hN : Lawful N) (P : Params α) {n : Nat} (sys : List (Sys α n))
    (h : ¬ P.maxTridiagIter > P.maxIter) : linearCg N P sys = .ok (linearCgCore N P sys) := by
  have hv : ∀ v : Vec α n, vecHasNan N v = false := fun v =>
    List.any_eq_false.mpr fun i _ => hN.no_nan (v i) ▸ Bool.false_ne_true
  have : (sys.map fun s => prep N P s).any (fun q => vecHasNan N q.r0) = false :=
    List.any_eq_false.mpr fun q _ => hv q.r0 ▸ Bool.false_ne_true
  rw [linearCg, if_neg h, this, if_neg Bool.false_ne_true]

/-! ### tridiagonal matrices -/

/-- **Entries of the tridiagonal matrix**: two consecutive tridiagonal updates (iterations `k`, `k+1`,
column states `c₁`, `c₂` after their kernels) write `T[k+1,k+1] = 1/α_{k+1} + β_k/α_k` and
`T[k+1,k] = T[k,k+1] = √β_k/α_k` (for non-zero step lengths); the first writes `T[0,0] = 1/α₀`. -/
theorem cg_tridiag_entries {N : NumOps α} (hN : Lawful N) {n : Nat} (k : Nat) (c1 c2 : Col α n) (t0 : Tri α)
    (h1 : c1.alpha ≠ 0) (h2 : c2.alpha ≠ 0) :
    let T := (triStep N (k + 1) c2 (triStep N k c1 t0)).t
    T (k + 1) (k + 1) = 1 / c2.alpha + c1.beta / c1.alpha ∧
    T (k + 1) k = N.sqrt c1.beta / c1.alpha ∧ T k (k + 1) = N.sqrt c1.beta / c1.alpha ∧
    (triStep N 0 c1 t0).t 0 0 = 1 / c1.alpha := by
  obtain ⟨e1, e2, e3⟩ := triStep_entries N k c1 c2 t0
  refine ⟨?_, ?_, ?_, ?_⟩
  · rw [e1, alphaRecip_eq hN _ h1, alphaRecip_eq hN _ h2, mul_one_div]
  · rw [e2, alphaRecip_eq hN _ h1, mul_one_div]
  · rw [e3, alphaRecip_eq hN _ h1, mul_one_div]
  · rw [triStep_first, alphaRecip_eq hN _ h1]

/-- **T is symmetric tridiagonal**: each tridiagonal update keeps the matrix symmetric and supported on
the three central diagonals of the leading block (any scalar type, any history of updates at
consecutive indices starting from the zero matrix). -/
theorem cg_tridiag_symmetric {β : Type} [Add β] [Sub β] [Mul β] [Div β] [Neg β] [Zero β] [One β]
    (N : NumOps β) {n : Nat} (cs : Nat → Col β n) (m : Nat) :
    TriOK ((List.range m).foldl (fun t k => triStep N k (cs k) t) (emptyTri : Tri β)).t m := by
  induction m with
  | zero => exact ⟨fun _ _ => rfl, fun _ _ _ => rfl⟩
  | succ m ih =>
    rw [List.range_succ, List.foldl_append]
    exact triStep_ok N m (cs m) _ ih

/-- **The final iteration's tridiagonal entries are written** (code after `fix:` be05109, tridiagonal block
before the tolerance exit): on the 1×1 system `2·x = 1` with `max_iter = max_tridiag_iter = 1`, tolerance
`1e-3` (met in the only iteration) the model — like the code now — runs one iteration, does not warn, returns
`x = 1/2` and the 1×1 tridiagonal matrix `[[2]]`, the Lanczos matrix.  No `max_iter > 1` restriction is
needed by `cg_tridiag_entries` / `cg_tridiag_symmetric`: they are statements about every executed update. -/
theorem cg_tridiag_one_iter :
    Known.summary = (1, 1, false, [2], [1 / 2]) := by
  decide +kernel

/-- **About the PREVIOUS code only** (before be05109; `Known.iterateBreakFirst` is that loop, tolerance exit
first): on the same system it left `last_tridiag_iter = 0` with `T[0,0] = 0` untouched — the returned matrix
was `[[0]]`, Ritz value 0 outside the spectrum `{2}` — whereas the current loop writes `T[0,0] = 2`.
Kept as the machine-checked record of the fixed finding; moving the `break` back re-creates it (and breaks
`generated_structure` and the `C08/tridiag-empty/maxit=1` implementation cell). -/
theorem previous_code_tridiag_one_iter_counterexample :
    Known.loopSummary (Known.iterateBreakFirst Known.ratOps Known.params1 Known.sysz1 1) = (1, true, 0, [0]) ∧
    Known.loopSummary (iterate Known.ratOps Known.params1 Known.sysz1 1) = (1, true, 0, [2]) := by
  decide +kernel

/-- Three-term relation (per-step ingredient of `cg_tridiag_eq_lanczos` below, kept as an obligation): for consecutive
iterations with non-zero step lengths, `A z₁ = −(1/α₁) r₂ + (1/α₁ + β₀/α₀) r₁ − (β₀/α₀) r₀`, whose middle coefficient is the
diagonal entry written by the code (`cg_tridiag_entries`) and whose outer coefficients multiply to the square `β₀/α₀²` of its
off-diagonal entry — `T` is the matrix of `A M⁻¹` in the residual basis.  Any linear closure, no regularity assumption. -/
theorem cg_tridiag_eq_lanczos_partial (N : NumOps α) (P : Params α) {n : Nat} {s : Sys α n} (hA : Lin s.amul)
    (iz : Bool) (c0 : Col α n)
    (h0 : (colStep N P s iz c0).alpha ≠ 0) (h1 : (colStep N P s iz (colStep N P s iz c0)).alpha ≠ 0) :
    let c1 := colStep N P s iz c0
    let c2 := colStep N P s iz c1
    s.amul c1.z = (-(1 / c2.alpha)) • c2.r + (1 / c2.alpha + c1.beta / c1.alpha) • c1.r
        - (c1.beta / c1.alpha) • c0.r :=
  three_term_vec hA h0 h1 (by rw [colStep_alpha, colStep_r]) (by rw [colStep_alpha, colStep_r]) (colStep_p N P s iz _)

/-- **Closed form of the accumulated tridiagonal matrix**, any history: after `m` consecutive tridiagonal updates
(`triFold`: iterations `0 … m−1` of the `update_tridiag` block, `cs k` the column state after the kernel of iteration `k`,
starting from the zero `t_mat`) EVERY entry of `t_mat` is the one of
`lanczosT`: `T[0,0] = 1/α₀`, `T[k,k] = 1/α_k + β_{k−1}/α_{k−1}`, `T[k+1,k] = T[k,k+1] = √β_k/α_k` for indices `< m`, zero elsewhere
(`1/α` is the code's masked reciprocal `alphaRecip`).  Later updates never overwrite earlier entries. -/
theorem cg_tridiag_closed_form (N : NumOps α) {n : Nat} (cs : Nat → Col α n) (m : Nat) (i j : Nat) :
    (triFold N cs m).t i j = if i < m ∧ j < m then lanczosT N cs i j else 0 :=
  (triFold_closed N cs m).1 i j

/-- **`QᵀBQ = T`: the tridiagonal matrix is the Lanczos matrix of the preconditioned operator** (`cg_tridiag_eq_lanczos`,
FULL matrix identity, every size `n`, every number `m` of regular steps, either kernel, any ordered field with lawful `sqrt`).
Let `r_k, z_k = M⁻¹ r_k` be the residual / preconditioned residual after `k` iterations and
`q̂_k = (−1)^k r_k/√(r_kᵀz_k)`, `ẑ_k = (−1)^k z_k/√(r_kᵀz_k) = M⁻¹ q̂_k`.  If the first `m` iterations are regular steps, `A` is
symmetric and the preconditioner symmetric linear, then for ALL `i, j < m`:
* `q̂_iᵀ ẑ_j = δ_ij`  (with `Q = M⁻¹ᐟ² Q̂ = M¹ᐟ² Ẑ`: `QᵀQ = I`; `q̂_0 = r_0/‖r_0‖_{M⁻¹}` is the normalised start vector), and
* `ẑ_iᵀ A ẑ_j = t_mat[i, j]`  (`= Qᵀ (M⁻¹ᐟ² A M⁻¹ᐟ²) Q`), where `t_mat` is what the `m` tridiagonal updates of the loop wrote
  (`triFold` over the column's own trajectory) — diagonal, sub- and super-diagonal and the zeros outside the band.
Proof: `z_k = p_k − β_{k−1} p_{k−1}`, all-pairs conjugacy `p_iᵀAp_j = δ_ij·rz_i/α_i` and `M⁻¹`-orthogonality of the residuals
(`cg_invariants`), then normalisation (`rz_{k+1} = β_k rz_k`, `√(ab) = √a√b`). -/
theorem cg_tridiag_eq_lanczos {N : NumOps α} (hN : Lawful N) (P : Params α) (he : 0 < P.eps) {n : Nat}
    {s : Sys α n} (hA : LinSym s.amul) (hM : ∀ u v, dot u (preF P s v) = dot (preF P s u) v) (hMl : Lin (preF P s))
    (xs : Vec α n) (hxs : s.amul xs = (prep N P s).b) (m : Nat)
    (hreg : ∀ j < m, Regular P s (traj N P s j)) (i j : Nat) (hi : i < m) (hj : j < m) :
    dot (qhat N P s i) (zhat N P s j) = (if i = j then 1 else 0) ∧
    dot (zhat N P s i) (s.amul (zhat N P s j)) = (triFold N (fun k => traj N P s (k + 1)) m).t i j ∧
    zhat N P s j = preF P s (qhat N P s j) := by
  refine ⟨qhat_zhat hN P he hA hM m hreg i j hi hj, ?_, ?_⟩
  · rw [(triFold_closed N _ m).1 i j, if_pos ⟨hi, hj⟩]
    exact zhat_gram hN P he hA hM m hreg i j hi hj
  · exact zhat_eq_pre N hMl j

/-- **Ritz values inside the spectrum** (`ritz_in_spectrum`, numerical-range form, FULL; any ordered field, either kernel):
along `m` regular steps, for EVERY coefficient vector `c`,
`lmin · cᵀc ≤ cᵀ T c ≤ lmax · cᵀc`, where `T` is the `m × m` matrix the tridiagonal updates built and `lmin`, `lmax` are
Rayleigh-quotient bounds of the preconditioned operator `M⁻¹ᐟ²AM⁻¹ᐟ²` written with the closures
(`lmin·yᵀM⁻¹y ≤ (M⁻¹y)ᵀA(M⁻¹y) ≤ lmax·yᵀM⁻¹y`; without preconditioner `lmin‖y‖² ≤ yᵀAy ≤ lmax‖y‖²`).  Hence every eigenvalue
of `T` (Ritz value: take `c` an eigenvector) lies in `[lmin, lmax]`; in particular `T` is positive definite and `log`/`1/t`
quadrature on it is well defined.  Proof: `cᵀc = yᵀM⁻¹y`, `cᵀTc = (M⁻¹y)ᵀA(M⁻¹y)` for `y = Σ c_i q̂_i` by
`cg_tridiag_eq_lanczos`. -/
theorem cg_ritz_in_spectrum {N : NumOps α} (hN : Lawful N) (P : Params α) (he : 0 < P.eps) {n : Nat}
    {s : Sys α n} (hA : LinSym s.amul) (hM : ∀ u v, dot u (preF P s v) = dot (preF P s u) v) (hMl : Lin (preF P s))
    (xs : Vec α n) (hxs : s.amul xs = (prep N P s).b) (m : Nat)
    (hreg : ∀ j < m, Regular P s (traj N P s j)) (lmin lmax : α)
    (hlo : ∀ y, lmin * dot y (preF P s y) ≤ dot (preF P s y) (s.amul (preF P s y)))
    (hhi : ∀ y, dot (preF P s y) (s.amul (preF P s y)) ≤ lmax * dot y (preF P s y)) (c : Nat → α) :
    lmin * ∑ i ∈ Finset.range m, c i * c i
      ≤ ∑ i ∈ Finset.range m, ∑ j ∈ Finset.range m, c i * (triFold N (fun k => traj N P s (k + 1)) m).t i j * c j ∧
    ∑ i ∈ Finset.range m, ∑ j ∈ Finset.range m, c i * (triFold N (fun k => traj N P s (k + 1)) m).t i j * c j
      ≤ lmax * ∑ i ∈ Finset.range m, c i * c i :=
  ritz_in_spectrum hN P he hA hM m hreg hMl lmin lmax hlo hhi c

/-- **Ritz values inside the spectrum, eigenvalue form** (over ℝ): under the hypotheses of `cg_ritz_in_spectrum`, EVERY
eigenvalue of the returned-size block of `T` — Mathlib's `Matrix.IsHermitian.eigenvalues` of the symmetric `m × m` matrix
`(triFold …).t` (`eigVal` of its closure `blockMul`) — lies in `[lmin, lmax]`, the spectral interval of the (preconditioned)
operator.  This is the clause "Ritz values inside the spectrum" of the property statement, for every `m`, `n`, either kernel. -/
theorem cg_ritz_eigenvalues {N : NumOps ℝ} (hN : Lawful N) (P : Params ℝ) (he : 0 < P.eps) {n : Nat}
    {s : Sys ℝ n} (hA : LinSym s.amul) (hM : ∀ u v, dot u (preF P s v) = dot (preF P s u) v) (hMl : Lin (preF P s))
    (xs : Vec ℝ n) (hxs : s.amul xs = (prep N P s).b) (m : Nat)
    (hreg : ∀ j < m, Regular P s (traj N P s j)) (lmin lmax : ℝ)
    (hlo : ∀ y, lmin * dot y (preF P s y) ≤ dot (preF P s y) (s.amul (preF P s y)))
    (hhi : ∀ y, dot (preF P s y) (s.amul (preF P s y)) ≤ lmax * dot y (preF P s y)) (i : Fin m) :
    lmin ≤ (matOf_hermitian (blockMul_linSym m _ (triFold_symm N (fun k => traj N P s (k + 1)) m))).eigenvalues i ∧
    (matOf_hermitian (blockMul_linSym m _ (triFold_symm N (fun k => traj N P s (k + 1)) m))).eigenvalues i ≤ lmax :=
  ritz_eigenvalues hN P he hA hM hMl m hreg lmin lmax hlo hhi i

/-- **Whole-call form: the returned `t_mat`s are the columns' own Lanczos recurrences.**  For every call that returns
(any number of columns / batch members, any coupling through the stopping rule and the `< 1e-6` switch-off, any budget)
there is a number `K ≤ iterations run`, `K ≤ min(max_tridiag_iter, n)` — the number of iterations during which the
tridiagonal block was active — such that the list of returned tridiagonal matrices is, for the tridiagonal columns in order,
`triFold` over THAT column's own trajectory `traj` (the same trajectory whose `iters`-th iterate is the returned solution,
`cg_columns`), `K` updates; and for `K > 0` the returned size `last_tridiag_iter + 1` (clipped to `n_tridiag_iter`) is `K`.
Hence `cg_tridiag_closed_form` and `cg_tridiag_eq_lanczos` (with `m = K` when the first `K` steps of the column are regular)
are statements about the matrices `linear_cg` returns. -/
theorem cg_call_tridiag (N : NumOps α) (P : Params α) {n : Nat} (sys : List (Sys α n)) (o : Out α n)
    (h : linearCg N P sys = .ok o) :
    ∃ K, K ≤ o.iters ∧ K ≤ min P.maxTridiagIter n ∧
      o.t = ((sys.filter fun s => s.tri).map fun s => (triFold N (fun q => traj N P s (q + 1)) K).t) ∧
      (0 < K → P.nTridiag ≠ 0 → o.tSize = K) := by
  rw [linearCg_ok N P sys o h]
  obtain ⟨K, h1, h2, _, h3, h4⟩ := linearCgCore_columns N P sys
  exact ⟨K, h1, h2, h3, h4⟩

/-! ### convergence rate -/

/-- **Polynomial (minimax) form of Krylov optimality** — either kernel, any symmetric linear preconditioner, any
ordered field: let `E` be an eigenbasis of the preconditioned operator `M⁻¹A` that is orthogonal for the `A`-inner
product (`M⁻¹A v_i = λ_i v_i`, `v_iᵀ A v_j = g_i δ_ij`, every vector a combination of the `v_i`; for `M = I` an orthonormal
eigenbasis of `A`).  If the first `j` iterations are regular steps then for EVERY polynomial `p` with `p(0) = 1` and
degree `≤ j`:  `‖x* − x_j‖²_A ≤ max_i p(λ_i)² · ‖x* − x_0‖²_A`  (`B` is any bound of `p(λ_i)²` on the spectrum).
Proof: `x_0 + q(M⁻¹A) M⁻¹ r_0` with `q = (1 − p)/X` lies in `x_0 + K_j`, its error is `p(M⁻¹A) e_0`, expand in the
eigenbasis, then `cg_optimal`. -/
theorem cg_minimax {N : NumOps α} (hN : Lawful N) (P : Params α) (he : 0 < P.eps) {n : Nat}
    {s : Sys α n} (hA : LinSym s.amul) (hpsd : ∀ v, 0 ≤ dot v (s.amul v))
    (hM : ∀ u v, dot u (preF P s v) = dot (preF P s u) v) (hMl : Lin (preF P s))
    (xs : Vec α n) (hxs : s.amul xs = (prep N P s).b) (j : Nat)
    (hreg : ∀ i < j, Regular P s (traj N P s i))
    {ι : Type} [Fintype ι] [DecidableEq ι] (E : AEig ι P s)
    (p : Polynomial α) (hp0 : p.eval 0 = 1) (hpd : p.natDegree ≤ j) (B : α)
    (hB : ∀ i, (p.eval (E.lam i)) ^ 2 ≤ B) :
    errA s xs (traj N P s j).x ≤ B * errA s xs (traj N P s 0).x :=
  minimax_p hN P he hA hpsd hM hMl xs hxs j hreg E p hp0 hpd B hB

/-- **Minimax bound over ℝ, spectral theorem discharged** (unpreconditioned kernel): for `A` symmetric with
`lmin·I ≤ A ≤ lmax·I` (Rayleigh-quotient form, `0 < lmin`) and EVERY real polynomial `p` with `p(0) = 1`, degree `≤ j`:
`‖x* − x_j‖²_A ≤ max_{t ∈ [lmin, lmax]} p(t)² · ‖x* − x_0‖²_A`.  The eigenbasis is Mathlib's
(`Matrix.IsHermitian.eigenvectorUnitary` of the matrix of the closure), its eigenvalues lie in `[lmin, lmax]`. -/
theorem cg_minimax_real {N : NumOps ℝ} (hN : Lawful N) (P : Params ℝ) (he : 0 < P.eps) (hnp : P.precond = false)
    {n : Nat} {s : Sys ℝ n} (hA : LinSym s.amul) (lmin lmax : ℝ) (hpos : 0 < lmin)
    (hlo : ∀ v, lmin * dot v v ≤ dot v (s.amul v)) (hhi : ∀ v, dot v (s.amul v) ≤ lmax * dot v v)
    (xs : Vec ℝ n) (hxs : s.amul xs = (prep N P s).b) (j : Nat)
    (hreg : ∀ i < j, Regular P s (traj N P s i))
    (p : Polynomial ℝ) (hp0 : p.eval 0 = 1) (hpd : p.natDegree ≤ j) (B : ℝ)
    (hB : ∀ t, lmin ≤ t → t ≤ lmax → (p.eval t) ^ 2 ≤ B) :
    errA s xs (traj N P s j).x ≤ B * errA s xs (traj N P s 0).x :=
  rate_of_poly hN P he hnp hA lmin lmax hpos hlo hhi xs hxs j hreg p hp0 hpd B hB

/-- **The classical Chebyshev rate** (`cg_chebyshev_rate`, unpreconditioned kernel, over ℝ, FULL): let `A` be symmetric
with `lmin·‖v‖² ≤ vᵀAv ≤ lmax·‖v‖²`, `0 < lmin ≤ lmax`, `κ = lmax/lmin`, `A x* = b̂`.  If the first `j` iterations of the
column are regular steps (not frozen, `pᵀAp ≥ eps`, `rᵀr ≥ eps` — i.e. above the safe-division floors of the statement) then
`‖x* − x_j‖_A ≤ 2 ((√κ − 1)/(√κ + 1))^j ‖x* − x_0‖_A`   (`rho lmin lmax = (√κ−1)/(√κ+1)`, `errA` is the squared A-norm),
for every size `n` and every `j`.  With the default zero initial guess `x_0 = 0` this is the bound of the property
statement.  Ingredients: `cg_optimal`, the spectral theorem (Mathlib), and the shifted/scaled Chebyshev polynomial
`T_j((lmax+lmin−2t)/(lmax−lmin)) / T_j((lmax+lmin)/(lmax−lmin))` with Mathlib's `|T_j| ≤ 1` on `[−1,1]` and
`T_j((y+y⁻¹)/2) = (y^j+y^{−j})/2`. -/
theorem cg_chebyshev_rate {N : NumOps ℝ} (hN : Lawful N) (P : Params ℝ) (he : 0 < P.eps) (hnp : P.precond = false)
    {n : Nat} {s : Sys ℝ n} (hA : LinSym s.amul) (lmin lmax : ℝ) (hpos : 0 < lmin) (hle : lmin ≤ lmax)
    (hlo : ∀ v, lmin * dot v v ≤ dot v (s.amul v)) (hhi : ∀ v, dot v (s.amul v) ≤ lmax * dot v v)
    (xs : Vec ℝ n) (hxs : s.amul xs = (prep N P s).b) (j : Nat)
    (hreg : ∀ i < j, Regular P s (traj N P s i)) :
    Real.sqrt (errA s xs (traj N P s j).x)
        ≤ 2 * ((Real.sqrt (lmax / lmin) - 1) / (Real.sqrt (lmax / lmin) + 1)) ^ j
            * Real.sqrt (errA s xs (traj N P s 0).x) ∧
    errA s xs (traj N P s j).x
        ≤ (2 * ((Real.sqrt (lmax / lmin) - 1) / (Real.sqrt (lmax / lmin) + 1)) ^ j) ^ 2
            * errA s xs (traj N P s 0).x :=
  chebyshev_rate_nopre hN P he hnp hA lmin lmax hpos hle hlo hhi xs hxs j hreg

/-- **The Chebyshev rate for the preconditioned kernel** (`preconditioner is not None`, over ℝ, FULL): let `A` be symmetric
positive semidefinite, the preconditioner closure `W = M⁻¹` symmetric positive definite, and `lmin`, `lmax` bounds of the
spectrum of `M⁻¹ᐟ² A M⁻¹ᐟ²` in Rayleigh-quotient form written with the closures only,
`lmin · yᵀWy ≤ (Wy)ᵀ A (Wy) ≤ lmax · yᵀWy` (substitute `z = W¹ᐟ² y`), `0 < lmin ≤ lmax`, `κ = lmax/lmin`.  Along `j` regular steps
`‖x* − x_j‖_A ≤ 2 ((√κ − 1)/(√κ + 1))^j ‖x* − x_0‖_A` — any SPD preconditioner changes only `κ`, i.e. the speed.
The `A`-orthogonal eigenbasis of `M⁻¹A` is constructed from two uses of the spectral theorem
(`W = Σ μ_k u_k u_kᵀ`, `S = W¹ᐟ²`, `S A S = Σ λ_i y_i y_iᵀ`, `v_i = S y_i`). -/
theorem cg_chebyshev_rate_precond {N : NumOps ℝ} (hN : Lawful N) (P : Params ℝ) (he : 0 < P.eps)
    (hp : P.precond = true) {n : Nat} {s : Sys ℝ n} (hA : LinSym s.amul) (hpsd : ∀ v, 0 ≤ dot v (s.amul v))
    (hW : LinSym s.pre) (hWpd : ∀ v, v ≠ 0 → 0 < dot v (s.pre v))
    (lmin lmax : ℝ) (hpos : 0 < lmin) (hle : lmin ≤ lmax)
    (hlo : ∀ y, lmin * dot y (s.pre y) ≤ dot (s.pre y) (s.amul (s.pre y)))
    (hhi : ∀ y, dot (s.pre y) (s.amul (s.pre y)) ≤ lmax * dot y (s.pre y))
    (xs : Vec ℝ n) (hxs : s.amul xs = (prep N P s).b) (j : Nat)
    (hreg : ∀ i < j, Regular P s (traj N P s i)) :
    Real.sqrt (errA s xs (traj N P s j).x)
        ≤ 2 * ((Real.sqrt (lmax / lmin) - 1) / (Real.sqrt (lmax / lmin) + 1)) ^ j
            * Real.sqrt (errA s xs (traj N P s 0).x) ∧
    errA s xs (traj N P s j).x
        ≤ (2 * ((Real.sqrt (lmax / lmin) - 1) / (Real.sqrt (lmax / lmin) + 1)) ^ j) ^ 2
            * errA s xs (traj N P s 0).x :=
  chebyshev_rate_pre hN P he hp hA hpsd hW hWpd lmin lmax hpos hle hlo hhi xs hxs j hreg

/-! ### the hypotheses are satisfiable -/

/-- `Lawful` is inhabited over `ℚ`-like fields on the inputs that occur when no square root is irrational:
here the trivial instance on any field where `sqrt` is only needed at perfect squares is not available in
general, so we exhibit the structural hypotheses: the identity closure is linear and symmetric. -/
example {n : Nat} : LinSym (fun v : Vec α n => v) :=
  { add := fun _ _ => rfl, smul := fun _ _ => rfl, sym := fun _ _ => rfl }

/-- a diagonal closure `v ↦ d ∘ v` is linear and symmetric -/
example {n : Nat} (d : Vec α n) : LinSym (fun v : Vec α n => fun i => d i * v i) :=
  { add := fun u v => funext fun i => mul_add _ _ _
    smul := fun c u => funext fun i => mul_left_comm _ _ _
    sym := fun u v => by
      rw [dot_eq, dot_eq]
      exact Finset.sum_congr rfl fun i _ => (mul_left_comm _ _ _).trans (mul_assoc _ _ _).symm }

/-- The scalar hypotheses are satisfiable: ℝ with `Real.sqrt` is `Lawful`. -/
example : Lawful realOps := realOps_lawful

/-- The trajectory hypotheses are satisfiable by a non-trivial instance: for the system `2·x = 1` over ℝ with the
default thresholds the first step is regular, so `cg_exact_at_n` applies with `n = 1` and yields the solution
`x₁ = 1/2` exactly (un-normalised: `rhs_norm = 1`). -/
example : (traj realOps realParams realSys 1).x = fun _ => (1 / 2 : ℝ) := by
  have hinj : ∀ v, realSys.amul v = 0 → v = 0 := fun v hv => funext fun i =>
    (mul_eq_zero.mp (congrFun hv i)).resolve_left two_ne_zero
  exact (cg_exact_at_n realOps_lawful realParams (by norm_num [realParams]) realSys_linSym
    (preF_sym_of_noprecond realParams realSys rfl) _ (realSys_solution realParams rfl)
    (fun j hj => Nat.lt_one_iff.mp hj ▸ realSys_regular)).2.2 hinj

/-- The hypotheses of `cg_chebyshev_rate` are satisfiable with `lmin < lmax` (`κ = 3/2`, the Chebyshev branch) by a
regular trajectory: the system `2·x = 1` over ℝ with the default thresholds, `2·‖v‖² ≤ vᵀAv ≤ 3·‖v‖²`, one regular step. -/
example : errA realSys (fun _ => (1 / 2 : ℝ)) (traj realOps realParams realSys 1).x
    ≤ (2 * ((Real.sqrt (3 / 2) - 1) / (Real.sqrt (3 / 2) + 1)) ^ 1) ^ 2
        * errA realSys (fun _ => (1 / 2 : ℝ)) (traj realOps realParams realSys 0).x :=
  (cg_chebyshev_rate realOps_lawful realParams (by norm_num [realParams]) rfl realSys_linSym 2 3
    (by norm_num) (by norm_num) (fun v => (realSys_dotA v).ge)
    (fun v => by rw [realSys_dotA]; linarith [dot_self_nonneg v]) _ (realSys_solution realParams rfl) 1
    (fun j hj => Nat.lt_one_iff.mp hj ▸ realSys_regular)).2

/-- The hypotheses of `cg_chebyshev_rate_precond` are satisfiable (`κ = 3/2`): the same system with the preconditioned
kernel selected and the identity closure as (symmetric positive definite) preconditioner. -/
example : errA realSys (fun _ => (1 / 2 : ℝ)) (traj realOps realParamsPre realSys 1).x
    ≤ (2 * ((Real.sqrt (3 / 2) - 1) / (Real.sqrt (3 / 2) + 1)) ^ 1) ^ 2
        * errA realSys (fun _ => (1 / 2 : ℝ)) (traj realOps realParamsPre realSys 0).x := by
  have hW : LinSym realSys.pre :=
    { add := fun _ _ => rfl, smul := fun _ _ => rfl, sym := fun _ _ => rfl }
  have hWpd : ∀ v : Vec ℝ 1, v ≠ 0 → 0 < dot v (realSys.pre v) := by
    intro v hv
    have h0 : v 0 ≠ 0 := fun h => hv (funext fun i => by rw [Subsingleton.elim i 0, h]; rfl)
    have : dot v (realSys.pre v) = v 0 * v 0 := by simp [realSys, dot_eq]
    rw [this]; exact mul_self_pos.mpr h0
  exact (cg_chebyshev_rate_precond realOps_lawful realParamsPre (by norm_num [realParamsPre, realParams]) rfl
    realSys_linSym (fun v => by rw [realSys_dotA]; linarith [dot_self_nonneg v]) hW hWpd 2 3 (by norm_num) (by norm_num)
    (fun y => (realSys_dotA y).ge)
    (fun y => by show dot y (realSys.amul y) ≤ 3 * dot y y; rw [realSys_dotA]; linarith [dot_self_nonneg y])
    _ (realSys_solution realParamsPre rfl) 1 (fun j hj => Nat.lt_one_iff.mp hj ▸ realSys_regular_pre)).2

end LinOp.C08
