import LinOp.C01.ProofsA
import LinOp.C01.ProofsB
import LinOp.C01.ProofsC
import LinOp.C01.ProofsD
import LinOp.C01.ProofsE
import LinOp.C01.ProofsF
import LinOp.C01.ProofsH
import LinOp.C01.ProofsI
import LinOp.C01.ProofsG
/-!
C01 — every operator acts exactly as the dense matrix it represents.  Property theorems only.

The model (`LinOp/C01/Model.lean`, core Lean, executable — the driver runs exactly these definitions) mirrors the
index-heavy multiplication code paths of linear_operator; the `…Dense` functions are the documented dense meaning of
the constructor arguments.  Every theorem below is for all sizes (and any number of Kronecker factors / blocks /
concatenated operators), over an arbitrary commutative semiring.  The parts are lettered after the modules
`LinOp/C01/Proofs?.lean` that hold their lemmas (`ProofsI` also serves part H) and stand in the order A, B, C, D, E, F, H, G
(G uses H).
Part A: Kronecker, block, batch-sum, batch-repeat, Mul-over-roots.  Part B: interpolation, Toeplitz circulant embedding,
Cat, Masked.  Part C: permutations, sums / products / roots / diagonals, the Cholesky orientation (both orientations;
D01 of the previous code kept as a named counterexample), base-class `to_dense`, `rmatmul` and the minimal user subclass.
Part D: the Kronecker `_t_matmul` loop mirrored on its own.  Part E: batch broadcasting (`torch.broadcast_shapes`,
`expand`, `_matmul_broadcast_shape`, batched matmul member by member) for batch shapes of arbitrary rank.  Part F: the
permutation `BlockLinearOperator.__init__` applies to the batch dimensions.  Part H: operator trees of arbitrary depth
(one structural induction), 1-D operands, result shapes.  Part G: batch broadcasting of the structured code.
-/

/-! # part A — Kronecker, block, batch-sum, batch-repeat, Mul over roots -/
namespace LinOp.C01
open LinOp Matrix Kronecker

/-- Loop invariant of the `for linear_op in linear_ops:` loop of `KroneckerProductLinearOperator._matmul`, for
any number of rectangular factors with non-empty column dimension, started on a state with
`colsProd fs * q` rows: the loop ends with `q * rowsProd fs` rows, and row `b * rowsProd fs + i` of the final
state is `Σ_j (A₁ ⊗ … ⊗ A_P)[i, j] · res[j * q + b]`.  (Each iteration multiplies the leading mixed-radix digit
of the row index by the factor and rotates it to the end; after all factors the digits are back in order.) -/
theorem kronLoop_spec {α : Type} [CommSemiring α] {c : Nat} (fs : List (Factor α))
    (hpos : ∀ f ∈ fs, 0 < f.n) (q : Nat) (res : Nat → Fin c → α) :
    (kronLoop fs (colsProd fs * q) res).1 = q * rowsProd fs ∧
    ∀ b, b < q → ∀ (i : Fin (rowsProd fs)) (col : Fin c),
      (kronLoop fs (colsProd fs * q) res).2 (b * rowsProd fs + i.1) col
        = ∑ j : Fin (colsProd fs), kronDense fs i j * res (j.1 * q + b) col :=
  ⟨kronLoop_rows fs hpos q res, fun b hb i col => kronLoop_apply fs hpos q res b hb i col⟩

/-- `KroneckerProductLinearOperator._matmul` computes `(A₁ ⊗ … ⊗ A_P) X` for any number of factors of any
(rectangular) sizes with non-empty column dimensions. -/
theorem kronMatmul_eq {α : Type} [CommSemiring α] {c : Nat} (fs : List (Factor α))
    (hpos : ∀ f ∈ fs, 0 < f.n) (X : Mat α (colsProd fs) c) :
    kronMatmul fs X = Mat.mul (kronDense fs) X := by
  funext i col
  have h := (kronLoop_spec fs hpos 1
    (fun i col => if h : i < colsProd fs then X ⟨i, h⟩ col else 0)).2 0 Nat.one_pos i col
  simp only [Nat.mul_one, Nat.zero_mul, Nat.zero_add, Nat.add_zero] at h
  rw [mul_apply]
  refine h.trans (Finset.sum_congr rfl fun j _ => ?_)
  rw [dif_pos j.2]

/-- the hypothesis of `kronMatmul_eq` is not needed in the model: if some factor has an empty column dimension
the loop returns the zero matrix, and so does the (empty-sum) dense product.  (In PyTorch `res.view(0, -1)` raises,
so this case is a totalisation of the model, not a statement about the library.) -/
theorem kronMatmul_eq_total {α : Type} [CommSemiring α] {c : Nat} (fs : List (Factor α))
    (X : Mat α (colsProd fs) c) :
    kronMatmul fs X = Mat.mul (kronDense fs) X := by
  by_cases h0 : ∃ f ∈ fs, f.n = 0
  · funext i col
    rw [mul_apply]
    show (kronLoop fs (colsProd fs) _).2 i.1 col = _
    rw [kronLoop_of_empty_factor fs h0]
    exact (Finset.sum_eq_zero fun j _ =>
      absurd (Nat.lt_of_lt_of_eq j.2 (colsProd_of_empty_factor fs h0)) (Nat.not_lt_zero _)).symm
  · exact kronMatmul_eq fs (fun f hf => Nat.pos_of_ne_zero fun h => h0 ⟨f, hf, h⟩) X

/-- the hypothesis of `kronLoop_spec` / `kronMatmul_eq` holds for a non-trivial list of rectangular factors. -/
example : ∀ f ∈ ([⟨2, 3, fun i j => (i.1 : Int) + 2 * j.1⟩, ⟨3, 2, fun i j => (i.1 : Int) * j.1 - 1⟩] :
    List (Factor Int)), 0 < f.n := by
  intro f hf
  simp only [List.mem_cons, List.not_mem_nil, or_false] at hf
  rcases hf with rfl | rfl <;> decide

/-- the div/mod definition of the two-factor Kronecker product is Mathlib's `A ⊗ₖ B`, reindexed along the
row-major equivalence `Fin m × Fin p ≃ Fin (m * p)`. -/
theorem kron2Dense_eq_kronecker {α : Type} [CommSemiring α] {m n p q : Nat} (A : Mat α m n) (B : Mat α p q) :
    kron2Dense A B
      = Matrix.reindex finProdFinEquiv finProdFinEquiv (Matrix.kroneckerMap (· * ·) (Matrix.of A) (Matrix.of B)) := by
  funext i j
  rfl

/-- the `P`-factor dense definition is the iterated two-factor one. -/
theorem kronDense_cons {α : Type} [CommSemiring α] (f : Factor α) (fs : List (Factor α)) :
    kronDense (f :: fs) = kron2Dense f.A (kronDense fs) := rfl

/-- `_transpose_nonbatch` swaps the sizes: the transposed product has `colsProd fs` rows. -/
theorem kronTranspose_rows {α : Type} (fs : List (Factor α)) : rowsProd (kronTranspose fs) = colsProd fs :=
  rowsProd_kronTranspose fs

/-- `_transpose_nonbatch` swaps the sizes: the transposed product has `rowsProd fs` columns. -/
theorem kronTranspose_cols {α : Type} (fs : List (Factor α)) : colsProd (kronTranspose fs) = rowsProd fs :=
  colsProd_kronTranspose fs

/-- `_transpose_nonbatch` (transpose every factor) denotes the transpose of the Kronecker product:
`(A₁ᵀ ⊗ … ⊗ A_Pᵀ)[i, j] = (A₁ ⊗ … ⊗ A_P)[j, i]`, the indices being transported along the size equalities. -/
theorem kronTranspose_dense {α : Type} [CommSemiring α] (fs : List (Factor α))
    (i : Fin (rowsProd (kronTranspose fs))) (j : Fin (colsProd (kronTranspose fs))) :
    kronDense (kronTranspose fs) i j
      = Mat.transpose (kronDense fs) (Fin.cast (kronTranspose_rows fs) i) (Fin.cast (kronTranspose_cols fs) j) :=
  kronTranspose_dense_of_val_eq fs i j _ _ rfl rfl

/-- `_t_matmul` computes `(A₁ ⊗ … ⊗ A_P)ᵀ X` (entrywise, with the index transport of `kronTranspose_dense`). -/
theorem kronTMatmul_eq {α : Type} [CommSemiring α] {c : Nat} (fs : List (Factor α))
    (hpos : ∀ f ∈ fs, 0 < f.m) (X : Mat α (colsProd (kronTranspose fs)) c)
    (i : Fin (rowsProd (kronTranspose fs))) (col : Fin c) :
    kronTMatmul fs X i col
      = ∑ j : Fin (colsProd (kronTranspose fs)),
          kronDense fs (Fin.cast (kronTranspose_cols fs) j) (Fin.cast (kronTranspose_rows fs) i) * X j col := by
  rw [kronTMatmul, kronMatmul_eq _ (D.pos_kronTranspose hpos), mul_apply]
  refine Finset.sum_congr rfl fun j _ => ?_
  rw [kronTranspose_dense, Mat.transpose]

/-- `blockDiagDense` at `[b*m + r, b'*n + s]` is `B[b][r,s]` on the diagonal blocks and zero elsewhere. -/
theorem blockDiagDense_pair {α : Type} [CommSemiring α] {k m n : Nat} (B : Ten3 α k m n)
    (b b' : Fin k) (r : Fin m) (s : Fin n) :
    blockDiagDense B (pairIdx b r) (pairIdx b' s) = if b = b' then B b r s else 0 := by
  simp only [blockDiagDense, divIdx_pairIdx, modIdx_pairIdx]

/-- `BlockDiagLinearOperator._matmul` (view, batched base matmul, reshape back) is multiplication by the dense
block-diagonal matrix, for any number of rectangular blocks. -/
theorem blockDiag_matmul {α : Type} [CommSemiring α] {k m n c : Nat} (B : Ten3 α k m n) (X : Mat α (k * n) c) :
    blockDiagMatmul B X = Mat.mul (blockDiagDense B) X := by
  funext i col
  rw [mul_apply, sum_pairIdx']
  simp only [blockDiagMatmul, blockDiagRemove, bmm, blockDiagAdd, mul_apply, blockDiagDense, divIdx_pairIdx, modIdx_pairIdx,
    ite_mul, zero_mul, Finset.sum_ite_eq, Finset.mem_univ, if_true]

/-- `blockInterDense` at `[r*k + b, s*k + b']` is `B[b][r,s]` if `b = b'` and zero otherwise. -/
theorem blockInterDense_pair {α : Type} [CommSemiring α] {k m n : Nat} (B : Ten3 α k m n)
    (b b' : Fin k) (r : Fin m) (s : Fin n) :
    blockInterDense B (pairIdx r b) (pairIdx s b') = if b = b' then B b r s else 0 := by
  simp only [blockInterDense, divIdx_pairIdx, modIdx_pairIdx]

/-- `BlockInterleavedLinearOperator._matmul` is multiplication by the dense interleaved-block matrix. -/
theorem blockInter_matmul {α : Type} [CommSemiring α] {k m n c : Nat} (B : Ten3 α k m n) (X : Mat α (n * k) c) :
    blockInterMatmul B X = Mat.mul (blockInterDense B) X := by
  funext i col
  rw [mul_apply, sum_pairIdx]
  simp only [blockInterMatmul, blockInterRemove, bmm, blockInterAdd, mul_apply, blockInterDense, divIdx_pairIdx,
    modIdx_pairIdx, ite_mul, zero_mul, Finset.sum_ite_eq, Finset.mem_univ, if_true]

/-- transposing every block transposes the dense block-diagonal matrix. -/
theorem blockDiag_transpose {α : Type} [CommSemiring α] {k m n : Nat} (B : Ten3 α k m n) :
    blockDiagDense (blockTranspose B) = Mat.transpose (blockDiagDense B) := by
  funext i j
  exact ite_congr (propext eq_comm) (fun h => by rw [h]; rfl) fun _ => rfl

/-- transposing every block transposes the dense interleaved-block matrix. -/
theorem blockInter_transpose {α : Type} [CommSemiring α] {k m n : Nat} (B : Ten3 α k m n) :
    blockInterDense (blockTranspose B) = Mat.transpose (blockInterDense B) := by
  funext i j
  exact ite_congr (propext eq_comm) (fun h => by rw [h]; rfl) fun _ => rfl

/-- `SumBatchLinearOperator._matmul` (expand the rhs, batched matmul, sum over the batch) is multiplication by
the sum of the blocks. -/
theorem sumBatch_matmul {α : Type} [CommSemiring α] {k m n c : Nat} (B : Ten3 α k m n) (X : Mat α n c) :
    sumBatchMatmul B X = Mat.mul (sumBatchDense B) X := by
  funext i col
  simp only [sumBatchMatmul, sumBatchRemove, bmm, sumBatchAdd, sumBatchDense, mul_apply, sumFin_eq_sum, Finset.sum_mul]
  exact Finset.sum_comm

/-- `BatchRepeatLinearOperator._matmul` (move the repeat batches into columns, batched base matmul, move back)
multiplies batch entry `t` of the rhs by batch entry `t` of `base.repeat(r, 1, 1)`. -/
theorem batchRepeat_matmul {α : Type} [CommSemiring α] {r b n c : Nat} (B : Ten3 α b n n)
    (X : Ten3 α (r * b) n c) (t : Fin (r * b)) :
    batchRepeatMatmul B X t = Mat.mul (batchRepeatDense (r := r) B t) (X t) := by
  funext i col
  simp only [batchRepeatMatmul, repeatBack, bmm, repeatToColumns, batchRepeatDense, mul_apply,
    divIdx_pairIdx, modIdx_pairIdx, pairIdx_divIdx_modIdx]

/-- the same at batch index `ρ*b + β`: the result is `base[β] · rhs[ρ*b + β]`. -/
theorem batchRepeat_matmul_pair {α : Type} [CommSemiring α] {r b n c : Nat} (B : Ten3 α b n n)
    (X : Ten3 α (r * b) n c) (ρ : Fin r) (β : Fin b) :
    batchRepeatMatmul B X (pairIdx ρ β) = Mat.mul (B β) (X (pairIdx ρ β)) := by
  rw [batchRepeat_matmul]
  simp only [batchRepeatDense, modIdx_pairIdx]

/-- `MulLinearOperator._matmul` with a left root `L`: the rank-expanded formula equals multiplication by the
Hadamard product `(L Lᵀ) ∘ B`. -/
theorem mul_matmul_roots {α : Type} [CommSemiring α] {n k c : Nat} (L : Mat α n k) (B : Mat α n n)
    (X : Mat α n c) :
    mulRootsMatmul L B X = Mat.mul (hadamard (rootDense L) B) X := by
  funext i col
  simp only [mulRootsMatmul, hadamard, rootDense, Mat.transpose, mul_apply, sumFin_eq_sum, divIdx_pairIdx,
    modIdx_pairIdx, Finset.sum_mul]
  rw [Finset.sum_comm]
  refine Finset.sum_congr rfl fun j _ => Finset.sum_congr rfl fun l _ => ?_
  ring

end LinOp.C01


/-!
C01, part B — property theorems for the interpolation, Toeplitz, Cat and Masked code paths.
All statements are for every size, over an arbitrary commutative semiring (the dense-structure facts need no
algebra at all).  The lemmas they rest on are in `LinOp.C01.ProofsB` (namespace `LinOp.C01.B`).
-/
namespace LinOp.C01

variable {α : Type}

/-! ## Interpolation -/

/-- Row `r` of the interpolation matrix `W` is `Σ_k val[r,k] · e_{idx[r,k]}` (`e_i` = row `i` of the identity):
every (index, value) pair contributes, so duplicate indices inside a row add up. -/
theorem interpW_eq_sum_basis [CommSemiring α] {n K nb : Nat} (idx : Fin n → Fin K → Fin nb) (val : Mat α n K)
    (r : Fin n) : interpW idx val r = fun j => ∑ k, val r k * Mat.one (idx r k) j := by
  funext j
  rw [B.interpW_apply]
  refine Finset.sum_congr rfl fun k _ => ?_
  simp only [Mat.one, mul_ite, mul_one, mul_zero]

/-- `left_interp` (gather rows `idx[r,k]` of the rhs, scale by `val[r,k]`, sum over `k`) equals `W · X` with the
dense interpolation matrix `W`; no distinctness assumption on the indices. -/
theorem leftInterp_eq [CommSemiring α] {n K nb c : Nat} (idx : Fin n → Fin K → Fin nb) (val : Mat α n K)
    (X : Mat α nb c) : leftInterp idx val X = Mat.mul (interpW idx val) X := by
  funext r col
  simp only [leftInterp, sumFin_eq_sum, mul_apply, B.interpW_apply, Finset.sum_mul]
  rw [Finset.sum_comm]
  refine Finset.sum_congr rfl fun k _ => ?_
  simp only [ite_mul, zero_mul, Finset.sum_ite_eq, Finset.mem_univ, if_true]
  exact mul_comm _ _

/-- `left_t_interp` (scale row `r` of the rhs by `val[r,k]`, flatten the `(r,k)` pairs row-major, multiply by the
0/1 summing matrix `S[idx[r,k], r*K+k]`) equals `Wᵀ · X`: the scatter-add accumulates all pairs that hit the
same target row. -/
theorem leftTInterp_eq [CommSemiring α] {n K nb c : Nat} (idx : Fin n → Fin K → Fin nb) (val : Mat α n K)
    (X : Mat α n c) : leftTInterp idx val X = Mat.mul (Mat.transpose (interpW idx val)) X := by
  funext j col
  simp only [leftTInterp, sumFin_eq_sum, mul_apply, Mat.transpose, B.interpW_apply, Finset.sum_mul]
  rw [sum_pairIdx]
  refine Finset.sum_congr rfl fun r _ => Finset.sum_congr rfl fun k _ => ?_
  rw [divIdx_pairIdx, modIdx_pairIdx]
  split_ifs
  · exact mul_comm _ _
  · exact (zero_mul _).symm

/-- `InterpolatedLinearOperator._matmul` through the coalesced sparse matrices
(`W_l · (K · (W_rᵀ · X))`) multiplies by the same dense definition `W_l · K · W_rᵀ`. -/
theorem interp_matmul_sparse [CommSemiring α] {n n' K K' nb nb' c : Nat} (base : Mat α nb nb')
    (lidx : Fin n → Fin K → Fin nb) (lval : Mat α n K) (ridx : Fin n' → Fin K' → Fin nb') (rval : Mat α n' K')
    (X : Mat α n' c) :
    interpMatmulSparse base lidx lval ridx rval X = Mat.mul (interpDense base lidx lval ridx rval) X := by
  simp only [interpMatmulSparse, interpDense, C.mul_assoc]

/-- `InterpolatedLinearOperator.matmul` (`left_interp ∘ base.matmul ∘ left_t_interp`) multiplies by the dense
definition `W_l · K · W_rᵀ`. -/
theorem interp_matmul [CommSemiring α] {n n' K K' nb nb' c : Nat} (base : Mat α nb nb')
    (lidx : Fin n → Fin K → Fin nb) (lval : Mat α n K) (ridx : Fin n' → Fin K' → Fin nb') (rval : Mat α n' K')
    (X : Mat α n' c) :
    interpMatmul base lidx lval ridx rval X = Mat.mul (interpDense base lidx lval ridx rval) X := by
  rw [← interp_matmul_sparse, interpMatmul, interpMatmulSparse, leftInterp_eq, leftTInterp_eq]

/-- `_transpose_nonbatch` of an interpolated operator (transpose the base, swap left and right
indices/values) denotes the transpose of the dense definition. -/
theorem interp_transpose [CommSemiring α] {n n' K K' nb nb' : Nat} (base : Mat α nb nb')
    (lidx : Fin n → Fin K → Fin nb) (lval : Mat α n K) (ridx : Fin n' → Fin K' → Fin nb') (rval : Mat α n' K') :
    interpDense (Mat.transpose base) ridx rval lidx lval
      = Mat.transpose (interpDense base lidx lval ridx rval) := by
  simp only [interpDense, C.transpose_mul, C.transpose_transpose, C.mul_assoc]

/-! ## Toeplitz -/

/-- The entry of the embedding vector that output row `i` pairs with input position `j < n` in the circular
convolution, `e[(i + L − j) mod L]` with `L = 2n−1`, is exactly `T[i,j]`. -/
theorem toeplitz_embedding_entry [Zero α] {n : Nat} (col row : Fin n → α) (i j : Fin n) :
    toeplitzEmbedding col row ((i.1 + (2 * n - 1) - j.1) % (2 * n - 1)) = toeplitzDense col row i j := by
  rw [circ_index i.2]
  unfold toeplitzDense
  by_cases hji : j.1 ≤ i.1
  · rw [if_pos hji, dif_pos hji]
    exact B.toeplitzEmbedding_of_lt col row _
  · rw [if_neg hji, dif_neg hji]
    exact B.toeplitzEmbedding_sub col row _

/-- `toeplitz_matmul`: the first `n` entries of the length-`(2n−1)` circular convolution of the embedding
`[col, reverse(row[1:])]` with the zero-padded rhs equal `T · X`, where `T[i,j] = col[i−j]` for `i ≥ j` and
`row[j−i]` for `i < j` (so the diagonal is `col[0]`; `row[0]` is never read).  Holds for every `n` and arbitrary
`col`, `row` (no `0 < n` hypothesis is needed: for `n = 0` there are no entries). -/
theorem toeplitz_circulant_embedding [CommSemiring α] {n c : Nat} (col row : Fin n → α) (X : Mat α n c) :
    toeplitzMatmul col row X = Mat.mul (toeplitzDense col row) X := by
  funext i cc
  have hnL : n ≤ 2 * n - 1 :=
    Nat.le_sub_one_of_lt (by rw [Nat.two_mul]; exact Nat.lt_add_of_pos_left (Nat.zero_lt_of_lt i.2))
  simp only [toeplitzMatmul, circConv, sumFin_eq_sum, mul_apply]
  rw [B.sum_truncate hnL
    (fun t => toeplitzEmbedding col row ((i.1 + (2 * n - 1) - t) % (2 * n - 1)) * zeroPad X t cc)]
  · refine Finset.sum_congr rfl fun j _ => ?_
    rw [toeplitz_embedding_entry, zeroPad, dif_pos j.2]
  · intro t ht
    rw [zeroPad, dif_neg (Nat.not_lt.2 ht), mul_zero]

/-- The symmetric Toeplitz operator (`row = col`) has a symmetric dense definition. -/
theorem toeplitz_symm_transpose {n : Nat} (c : Fin n → α) :
    toeplitzDense c c = Mat.transpose (toeplitzDense c c) := by
  funext i j
  simp only [Mat.transpose, toeplitzDense]
  by_cases h1 : j.1 ≤ i.1 <;> by_cases h2 : i.1 ≤ j.1
  · cases Fin.ext (Nat.le_antisymm h2 h1); rfl
  · rw [dif_pos h1, dif_neg h2]
  · rw [dif_neg h1, dif_pos h2]
  · exact absurd (Nat.le_of_not_le h1) h2

/-- Sanity instance (not a theorem about all sizes): `n = 2`, non-symmetric `col = [1,2]`, `row = [1,4]`,
`X = [1,10]ᵀ`; `T = [[1,4],[2,1]]`, so `T·X = [41, 12]ᵀ`. -/
example :
    (fun i : Fin 2 => toeplitzMatmul (α := Int) (c := 1) (fun i => i.1 + 1) (fun i => 1 + 3 * i.1)
      (fun i _ => 10 ^ i.1) i ⟨0, Nat.one_pos⟩) = fun i => if i.1 = 0 then 41 else 12 := by
  decide

/-! ## Cat -/

/-- `CatLinearOperator._matmul` with `cat_dim = -2` (concatenate the per-block products) multiplies by the
row-concatenation of the blocks. -/
theorem cat_matmul_rows [CommSemiring α] {a b n c : Nat} (A : Mat α a n) (B : Mat α b n) (X : Mat α n c) :
    catRowsMatmul A B X = Mat.mul (catRows A B) X := by
  funext i col
  rw [mul_apply]
  unfold catRowsMatmul catRows
  split <;> exact mul_apply ..

/-- Loop invariant of the `cat_dim = -1` path: after running the slice-and-accumulate loop over the blocks `bs`
from row offset `curr` with accumulator `acc`, the result is `acc` plus the column-concatenation of `bs` applied
to rows `curr, curr+1, …` of the rhs. -/
theorem cat_cols_loop_invariant [CommSemiring α] {n c : Nat} (bs : List (ColBlock α n)) (curr : Nat)
    (rhs : Nat → Fin c → α) (acc : Mat α n c) (i : Fin n) (col : Fin c) :
    catColsLoop bs curr rhs acc i col
      = acc i col + ∑ j : Fin (totalCols bs), catColsDense bs i j * rhs (curr + j.1) col := by
  induction bs generalizing curr acc with
  | nil => exact (add_zero _).symm
  | cons b bs ih =>
    show catColsLoop bs (curr + b.m) rhs _ i col
      = acc i col + ∑ j : Fin (b.m + totalCols bs), catCols b.A (catColsDense bs) i j * rhs (curr + j.1) col
    rw [ih, B.sum_catCols b.A (catColsDense bs) i fun j => rhs (curr + j.1) col, mul_apply, add_assoc]
    simp only [Fin.val_natAdd, Fin.val_castAdd, Nat.add_assoc]

/-- `CatLinearOperator._matmul` with `cat_dim = -1`, any number of blocks of any widths: slicing the rhs by the
running offset and summing the per-block products multiplies by the column-concatenation of the blocks. -/
theorem cat_matmul_cols [CommSemiring α] {n c : Nat} (bs : List (ColBlock α n)) (X : Mat α (totalCols bs) c) :
    catColsMatmul bs X = Mat.mul (catColsDense bs) X := by
  funext i col
  rw [catColsMatmul, cat_cols_loop_invariant, mul_apply, zero_add]
  refine Finset.sum_congr rfl fun j _ => ?_
  rw [Nat.zero_add, dif_pos j.2]

/-- Transposing a row-concatenation gives the column-concatenation of the transposed blocks. -/
theorem cat_transpose {a b c : Nat} (A : Mat α a c) (B : Mat α b c) :
    Mat.transpose (catRows A B) = catCols (Mat.transpose A) (Mat.transpose B) := rfl

/-! ## Masked -/

/-- `MaskedLinearOperator._matmul` (expand the rhs to the full column range with zeros at unselected
positions, multiply by the base, keep the selected rows) multiplies by `base[row_mask, :][:, col_mask]`. -/
theorem masked_matmul [CommSemiring α] {N M c : Nat} (base : Mat α N M) (rmask : Fin N → Bool)
    (cmask : Fin M → Bool) (X : Mat α (maskSel cmask).length c) :
    maskedMatmul base rmask cmask X = Mat.mul (maskedDense base rmask cmask) X := by
  funext k col
  simp only [maskedMatmul, maskRows, mul_apply, maskedDense, maskExpand]
  exact B.sum_expand (maskSel cmask) (B.maskSel_nodup cmask) (fun j => base ((maskSel rmask).get k) j)
    (fun l => X l col)

/-- `_transpose_nonbatch` of a masked operator (transpose the base, swap the masks) denotes the transpose. -/
theorem masked_transpose {N M : Nat} (base : Mat α N M) (rmask : Fin N → Bool) (cmask : Fin M → Bool) :
    maskedDense (Mat.transpose base) cmask rmask = Mat.transpose (maskedDense base rmask cmask) := rfl

end LinOp.C01


namespace LinOp.C01
open LinOp LinOp.C01.C

/-! # part C — permutations, sums / products / roots / diagonals, Cholesky orientation, base class -/

/-! ### 1. permutations -/

/-- `PermutationLinearOperator._matmul` (the gather `rhs[perm]`) equals multiplication by the dense permutation
matrix `P[i, perm i] = 1`, for every size and every index map `perm` (bijectivity is not needed here). -/
theorem perm_matmul {α : Type} [CommSemiring α] {n c : Nat} (perm : Fin n → Fin n) (X : Mat α n c) :
    permMatmul perm X = Mat.mul (permDense perm) X := by
  funext i col
  simp only [permMatmul, permDense, mul_apply, ite_mul, one_mul, zero_mul, Finset.sum_ite_eq, Finset.mem_univ,
    if_true]

/-- `PermutationLinearOperator._transpose_nonbatch` swaps `perm` and `inv_perm`: when the two maps are mutually
inverse, the dense matrix of `inv` is the transpose of the dense matrix of `perm`. -/
theorem perm_transpose {α : Type} [CommSemiring α] {n : Nat} (perm inv : Fin n → Fin n)
    (h1 : ∀ i, perm (inv i) = i) (h2 : ∀ j, inv (perm j) = j) :
    permDense inv = Mat.transpose (permDense (α := α) perm) := by
  funext i j
  exact if_congr ⟨fun h => by rw [← h]; exact h1 i, fun h => by rw [← h]; exact h2 j⟩ rfl rfl

/-- `TransposePermutationLinearOperator._matmul` (unflatten to `(m, m)`, swap, flatten) equals multiplication by
the dense commutation matrix `K[a*m+b, b*m+a] = 1`. -/
theorem transposePerm_matmul {α : Type} [CommSemiring α] {m c : Nat} (X : Mat α (m * m) c) :
    transposePermMatmul X = Mat.mul transposePermDense X := by
  funext i col
  have hc : ∀ l : Fin (m * m),
      (divIdx i = modIdx l ∧ modIdx i = divIdx l) ↔ pairIdx (modIdx i) (divIdx i) = l := by
    intro l
    rw [← div_mod_eq_iff]
    constructor
    · rintro ⟨h1, h2⟩; exact ⟨h2.symm, h1.symm⟩
    · rintro ⟨h1, h2⟩; exact ⟨h2.symm, h1.symm⟩
  simp only [transposePermMatmul, transposePermDense, mul_apply, hc, ite_mul, one_mul, zero_mul,
    Finset.sum_ite_eq, Finset.mem_univ, if_true]

/-- The commutation matrix is symmetric: `TransposePermutationLinearOperator._transpose_nonbatch` returns `self`. -/
theorem transposePerm_symm {α : Type} [CommSemiring α] {m : Nat} :
    Mat.transpose (transposePermDense (α := α) (m := m)) = transposePermDense := by
  funext i j
  exact if_congr ⟨fun h => ⟨h.2.symm, h.1.symm⟩, fun h => ⟨h.2.symm, h.1.symm⟩⟩ rfl rfl

/-- Entry formula of the commutation matrix in pair coordinates: row `(a, b)`, column `(b', a')` holds `1` exactly
when `(a, b) = (a', b')`, i.e. `K vec(X) = vec(Xᵀ)`. -/
theorem transposePermDense_pair {α : Type} [CommSemiring α] {m : Nat} (a b b' a' : Fin m) :
    transposePermDense (α := α) (pairIdx a b) (pairIdx b' a') = if a = a' ∧ b = b' then 1 else 0 := by
  simp only [transposePermDense, divIdx_pairIdx, modIdx_pairIdx]

/-! ### 2. sums, products, roots, diagonals -/

/-- `AddedDiagLinearOperator._matmul` (`addcmul(A @ rhs, d[:, None], rhs)`) multiplies by `A + diag(d)`. -/
theorem addedDiag_matmul {α : Type} [CommSemiring α] {n c : Nat} (A : Mat α n n) (d : Fin n → α) (X : Mat α n c) :
    addedDiagMatmul A d X = Mat.mul (Mat.add A (Mat.diag d)) X := by
  rw [C.add_mul, diag_mul]; rfl

/-- `DiagLinearOperator.matmul` (`diag[:, None] * rhs`) multiplies by `diag(d)`. -/
theorem diag_matmul {α : Type} [CommSemiring α] {n c : Nat} (d : Fin n → α) (X : Mat α n c) :
    diagMatmul d X = Mat.mul (Mat.diag d) X := by
  rw [diag_mul]; rfl

/-- `ConstantMulLinearOperator._matmul` (`base @ rhs * k`) multiplies by the dense matrix `A * k`. -/
theorem constMul_matmul {α : Type} [CommSemiring α] {n m c : Nat} (A : Mat α n m) (k : α) (X : Mat α m c) :
    constMulMatmul A k X = Mat.mul (constMulDense A k) X := by
  funext i col
  simp only [constMulMatmul, constMulDense, mul_apply, Finset.sum_mul]
  exact Finset.sum_congr rfl fun l _ => mul_right_comm _ _ _

/-- `SumLinearOperator._matmul` (sum of the summands' products) multiplies by `A + B`. -/
theorem sum_matmul {α : Type} [CommSemiring α] {n m c : Nat} (A B : Mat α n m) (X : Mat α m c) :
    sumMatmul A B X = Mat.mul (Mat.add A B) X := by
  rw [C.add_mul]; rfl

/-- `MatmulLinearOperator._matmul` (`left @ (right @ rhs)`) multiplies by the dense product `A B`. -/
theorem matmulOp_matmul {α : Type} [CommSemiring α] {n k m c : Nat} (A : Mat α n k) (B : Mat α k m)
    (X : Mat α m c) : matmulMatmul A B X = Mat.mul (Mat.mul A B) X :=
  (C.mul_assoc A B X).symm

/-- `RootLinearOperator._matmul` (`R @ (Rᵀ @ rhs)`) multiplies by `to_dense() = R Rᵀ`. -/
theorem root_matmul {α : Type} [CommSemiring α] {n k c : Nat} (R : Mat α n k) (X : Mat α n c) :
    rootMatmul R X = Mat.mul (rootDense R) X :=
  (C.mul_assoc R (Mat.transpose R) X).symm

/-- `R Rᵀ` is symmetric (`RootLinearOperator._transpose_nonbatch` returns `self`). -/
theorem root_symm {α : Type} [CommSemiring α] {n k : Nat} (R : Mat α n k) :
    Mat.transpose (rootDense R) = rootDense R :=
  C.transpose_mul R (Mat.transpose R)

/-- `ConstantMulLinearOperator._transpose_nonbatch`: transposing `A * k` is `Aᵀ * k`. -/
theorem constMul_transpose {α : Type} [CommSemiring α] {n m : Nat} (A : Mat α n m) (k : α) :
    Mat.transpose (constMulDense A k) = constMulDense (Mat.transpose A) k := rfl

/-- `SumLinearOperator._transpose_nonbatch`: transposing `A + B` is `Aᵀ + Bᵀ`. -/
theorem sum_transpose {α : Type} [CommSemiring α] {n m : Nat} (A B : Mat α n m) :
    Mat.transpose (Mat.add A B) = Mat.add (Mat.transpose A) (Mat.transpose B) := rfl

/-- `MatmulLinearOperator._transpose_nonbatch`: `(A B)ᵀ = Bᵀ Aᵀ` (factors transposed *and* swapped). -/
theorem matmulOp_transpose {α : Type} [CommSemiring α] {n k m : Nat} (A : Mat α n k) (B : Mat α k m) :
    Mat.transpose (Mat.mul A B) = Mat.mul (Mat.transpose B) (Mat.transpose A) :=
  C.transpose_mul A B

/-- `DiagLinearOperator._transpose_nonbatch` returns `self`: a diagonal matrix is symmetric. -/
theorem diag_symm {α : Type} [CommSemiring α] {n : Nat} (d : Fin n → α) :
    Mat.transpose (Mat.diag d) = Mat.diag d := by
  funext i j
  exact ite_congr (propext eq_comm) (fun h => by rw [h]) fun _ => rfl

/-! ### 3. Cholesky orientation (D01, fixed in /repo 05006ba): `CholLinearOperator(R, upper)` -/

/-- `upper = False`: `_matmul` (`R (Rᵀ rhs)`) agrees with the dense definition `R Rᵀ` for every `R`. -/
theorem chol_lower_matmul {α : Type} [CommSemiring α] {n c : Nat} (R : Mat α n n) (X : Mat α n c) :
    cholMatmul R false X = Mat.mul (cholDense R false) X :=
  root_matmul R X

/-- `upper = True`: `_matmul` (`Rᵀ (R rhs)`) agrees with the dense definition `Rᵀ R` for every `R` and every size
(FULL theorem for the current code; it was a counterexample for the previous code, see below). -/
theorem chol_upper_matmul {α : Type} [CommSemiring α] {n c : Nat} (R : Mat α n n) (X : Mat α n c) :
    cholMatmul R true X = Mat.mul (cholDense R true) X :=
  (C.mul_assoc (Mat.transpose R) R X).symm

/-- Both orientations at once: `CholLinearOperator._matmul` multiplies by the matrix its arguments denote. -/
theorem chol_matmul {α : Type} [CommSemiring α] {n c : Nat} (R : Mat α n n) (upper : Bool) (X : Mat α n c) :
    cholMatmul R upper X = Mat.mul (cholDense R upper) X := by
  cases upper
  · exact chol_lower_matmul R X
  · exact chol_upper_matmul R X

/-- `CholLinearOperator._transpose_nonbatch` returns `self`: `Rᵀ R` and `R Rᵀ` are symmetric. -/
theorem chol_symm {α : Type} [CommSemiring α] {n : Nat} (R : Mat α n n) (upper : Bool) :
    Mat.transpose (cholDense R upper) = cholDense R upper := by
  cases upper
  · exact C.transpose_mul R (Mat.transpose R)
  · exact C.transpose_mul (Mat.transpose R) R

/-- About the PREVIOUS code (defect D01, before /repo 05006ba): the inherited `_matmul` (`R Rᵀ rhs`, ignoring
`upper`) disagreed with the dense definition `Rᵀ R` — witness `R = [[1,1],[0,1]]` (a valid upper Cholesky factor),
`rhs = e₀`: that code returned `(2,1)ᵀ`, the dense matrix gives `(1,1)ᵀ`. -/
theorem chol_upper_matmul_previous_counterexample :
    ∃ (R : Mat Int 2 2) (X : Mat Int 2 1), cholMatmulPrevious R true X ≠ Mat.mul (cholDense R true) X :=
  ⟨fun i j => if i.1 = 1 ∧ j.1 = 0 then 0 else 1, fun i _ => if i.1 = 0 then 1 else 0, by decide⟩

/-- About the PREVIOUS code: it was right exactly on normal factors (`R Rᵀ = Rᵀ R`), which is why the suite never
noticed. -/
theorem chol_upper_matmul_previous_correct_iff_normal {α : Type} [CommSemiring α] {n : Nat} (R : Mat α n n) :
    (∀ c (X : Mat α n c), cholMatmulPrevious R true X = Mat.mul (cholDense R true) X) ↔
      Mat.mul R (Mat.transpose R) = Mat.mul (Mat.transpose R) R := by
  rw [show cholDense R true = Mat.mul (Mat.transpose R) R from if_pos rfl]
  constructor
  · intro h
    have h1 := h n (Mat.one (α := α))
    rwa [cholMatmulPrevious, rootMatmul, C.mul_one, C.mul_one] at h1
  · intro hR c X
    rw [← hR]
    exact root_matmul R X

/-! ### 4. base class / minimal user subclass -/

/-- Base `to_dense` (multiply the identity, through the transposed operator when `num_rows < num_cols`) returns
the denoted matrix, in both branches. -/
theorem toDense_default {α : Type} [CommSemiring α] {n m : Nat} (op : UserOp α n m) (D : Mat α n m)
    (h : op.Denotes D) : toDenseDefault op = D := by
  unfold toDenseDefault
  by_cases hnm : n < m
  · rw [if_pos hnm, h.2, C.mul_one]; rfl
  · rw [if_neg hnm, h.1, C.mul_one]

/-- Base `rmatmul` (`self.mT.matmul(other.mT).mT`) is left multiplication `Y D`. -/
theorem rmatmul_refines {α : Type} [CommSemiring α] {n m p : Nat} (op : UserOp α n m) (D : Mat α n m)
    (Y : Mat α p n) (h : op.Denotes D) : rmatmul op Y = Mat.mul Y D := by
  unfold rmatmul
  rw [h.2, C.transpose_mul]; rfl

/-- Base `rmatmul` with a 1-D left operand (`self.mT.matmul(other)`) is the vector–matrix product `y D`. -/
theorem rmatmulVec_refines {α : Type} [CommSemiring α] {n m : Nat} (op : UserOp α n m) (D : Mat α n m)
    (y : Fin n → α) (h : op.Denotes D) : rmatmulVec op y = fun j => ∑ i, y i * D i j := by
  funext j
  unfold rmatmulVec
  rw [h.2, mul_apply]
  exact Finset.sum_congr rfl fun i _ => mul_comm _ _

/-- Every base-class-derived observation of a minimal user subclass (`to_dense`, `matmul`, `rmatmul`, the
transposed operator's `matmul` and `to_dense`) agrees with the single dense matrix `D` it denotes. -/
theorem userMinimal_refines {α : Type} [CommSemiring α] {n m : Nat} (op : UserOp α n m) (D : Mat α n m)
    (h : op.Denotes D) :
    toDenseDefault op = D ∧
    (∀ c (X : Mat α m c), op.mm X = Mat.mul D X) ∧
    (∀ p (Y : Mat α p n), rmatmul op Y = Mat.mul Y D) ∧
    (∀ c (X : Mat α n c), op.tmm X = Mat.mul (Mat.transpose D) X) ∧
    toDenseDefault (⟨op.tmm, op.mm⟩ : UserOp α m n) = Mat.transpose D :=
  ⟨toDense_default op D h, h.1, fun _ Y => rmatmul_refines op D Y h, h.2,
    toDense_default ⟨op.tmm, op.mm⟩ (Mat.transpose D) ⟨h.2, h.1⟩⟩

/-- The hypothesis `Denotes` is satisfiable: the operator built from a dense matrix denotes it. -/
theorem ofDense_denotes {α : Type} [CommSemiring α] {n m : Nat} (D : Mat α n m) : (UserOp.ofDense D).Denotes D :=
  ⟨fun _ _ => rfl, fun _ _ => rfl⟩

/-- Non-vacuity, concrete: a non-square integer operator. -/
example : (UserOp.ofDense (fun (i : Fin 2) (j : Fin 3) => (i.1 + 2 * j.1 : Int))).Denotes
    (fun i j => (i.1 + 2 * j.1 : Int)) := ofDense_denotes _

/-- Non-vacuity, structured: the subclass whose `_matmul` is the row scaling `d[:, None] * rhs` (and which is its
own transpose) denotes `diag(d)` — an instance not built from its dense matrix. -/
example {α : Type} [CommSemiring α] {n : Nat} (d : Fin n → α) :
    (⟨fun X => diagMatmul d X, fun X => diagMatmul d X⟩ : UserOp α n n).Denotes (Mat.diag d) :=
  ⟨fun _ X => diag_matmul d X, fun _ X => by rw [diag_symm]; exact diag_matmul d X⟩

end LinOp.C01


/-!
C01, part D — the second module-level Kronecker loop, `_t_matmul(linear_ops, kp_shape, rhs)`, modelled on its own
(`kronTStep`, `kronTLoop`, `kronTMatmulLoop`) rather than through `_transpose_nonbatch`.  Property theorems only.
-/
namespace LinOp.C01
open LinOp

/-- One iteration of the `_t_matmul` loop is the `_matmul` iteration of the transposed factor
(`linear_op._t_matmul` in place of `linear_op._matmul`, `size(-2)` and `size(-1)` swapped). -/
theorem kronTStep_eq_kronStep_transpose {α : Type} [CommSemiring α] {c : Nat} (f : Factor α) (R : Nat)
    (res : Nat → Fin c → α) :
    kronTStep f R res = kronStep ⟨f.n, f.m, Mat.transpose f.A⟩ R res := rfl

/-- The whole `_t_matmul` loop is the `_matmul` loop run on the transposed factors (`_transpose_nonbatch`),
on any state: same final row count and same final state. -/
theorem kronTLoop_eq {α : Type} [CommSemiring α] {c : Nat} (fs : List (Factor α)) (R : Nat)
    (res : Nat → Fin c → α) :
    kronTLoop fs R res = kronLoop (kronTranspose fs) R res :=
  D.kronTLoop_eq fs R res

/-- Loop invariant of the `for linear_op in linear_ops:` loop of `_t_matmul`, stated directly (no index
transport), for any number of rectangular factors with non-empty row dimension, started on a state with
`rowsProd fs * q` rows: the loop ends with `q * colsProd fs` rows, and row `b * colsProd fs + j` of the final
state is `Σ_i (A₁ ⊗ … ⊗ A_P)[i, j] · res[i * q + b]`. -/
theorem kronTLoop_spec {α : Type} [CommSemiring α] {c : Nat} (fs : List (Factor α))
    (hpos : ∀ f ∈ fs, 0 < f.m) (q : Nat) (res : Nat → Fin c → α) :
    (kronTLoop fs (rowsProd fs * q) res).1 = q * colsProd fs ∧
    ∀ b, b < q → ∀ (j : Fin (colsProd fs)) (col : Fin c),
      (kronTLoop fs (rowsProd fs * q) res).2 (b * colsProd fs + j.1) col
        = ∑ i : Fin (rowsProd fs), kronDense fs i j * res (i.1 * q + b) col := by
  -- `kronLoop_spec` for the transposed factors, with both sizes generalised so that `rowsProd (kronTranspose fs) = colsProd fs`
  -- and `colsProd (kronTranspose fs) = rowsProd fs` can be substituted in the index types
  have key : ∀ r k (hr : rowsProd (kronTranspose fs) = r) (hk : colsProd (kronTranspose fs) = k),
      (kronLoop (kronTranspose fs) (k * q) res).1 = q * r ∧
      ∀ b, b < q → ∀ (j : Fin r) (col : Fin c),
        (kronLoop (kronTranspose fs) (k * q) res).2 (b * r + j.1) col
          = ∑ i : Fin k, kronDense (kronTranspose fs) (Fin.cast hr.symm j) (Fin.cast hk.symm i)
              * res (i.1 * q + b) col := by
    rintro _ _ rfl rfl
    exact kronLoop_spec _ (D.pos_kronTranspose hpos) q res
  obtain ⟨h1, h2⟩ := key _ _ (rowsProd_kronTranspose fs) (colsProd_kronTranspose fs)
  rw [D.kronTLoop_eq]
  refine ⟨h1, fun b hb j col => (h2 b hb j col).trans (Finset.sum_congr rfl fun i _ => ?_)⟩
  rw [kronTranspose_dense_of_val_eq fs _ _ i j rfl rfl]

/-- The `_t_matmul` loop computes `(A₁ ⊗ … ⊗ A_P)ᵀ Y` for any number of factors of any (rectangular) sizes with
non-empty row dimensions. -/
theorem kronTMatmulLoop_eq {α : Type} [CommSemiring α] {c : Nat} (fs : List (Factor α))
    (hpos : ∀ f ∈ fs, 0 < f.m) (Y : Mat α (rowsProd fs) c) :
    kronTMatmulLoop fs Y = Mat.mul (Mat.transpose (kronDense fs)) Y := by
  funext j col
  have h := (kronTLoop_spec fs hpos 1
    (fun i col => if h : i < rowsProd fs then Y ⟨i, h⟩ col else 0)).2 0 Nat.one_pos j col
  simp only [Nat.mul_one, Nat.zero_mul, Nat.zero_add, Nat.add_zero] at h
  rw [mul_apply]
  refine h.trans (Finset.sum_congr rfl fun i _ => ?_)
  rw [dif_pos i.2, Mat.transpose]

/-- The hypothesis of `kronTMatmulLoop_eq` is not needed in the model: if some factor has an empty row dimension
the loop returns the zero matrix, and so does the (empty-sum) dense product.  (In PyTorch `res.view(0, -1)` raises,
so this case is a totalisation of the model, not a statement about the library.) -/
theorem kronTMatmulLoop_eq_total {α : Type} [CommSemiring α] {c : Nat} (fs : List (Factor α))
    (Y : Mat α (rowsProd fs) c) :
    kronTMatmulLoop fs Y = Mat.mul (Mat.transpose (kronDense fs)) Y := by
  by_cases h0 : ∃ f ∈ fs, f.m = 0
  · funext j col
    rw [mul_apply]
    show (kronTLoop fs (rowsProd fs) _).2 j.1 col = _
    rw [D.kronTLoop_of_empty_factor fs h0]
    exact (Finset.sum_eq_zero fun i _ =>
      absurd (Nat.lt_of_lt_of_eq i.2 (D.rowsProd_of_empty_factor fs h0)) (Nat.not_lt_zero _)).symm
  · exact kronTMatmulLoop_eq fs (fun f hf => Nat.pos_of_ne_zero fun h => h0 ⟨f, hf, h⟩) Y

end LinOp.C01

/-!
C01, part E — batch broadcasting of `matmul` for batch shapes of ARBITRARY rank
(`torch.broadcast_shapes`, `expand`, `_matmul_broadcast_shape`).  All statements quantify over lists of any
length; the proofs are by induction on the shape lists (see `ProofsE.lean`).
-/
namespace LinOp.C01

variable {α : Type}

/-! ## 1. `expand` reads valid members -/

/-- (reversed-order lists) If the shapes `s`, `t` broadcast to `out` and `idx` is a valid multi-index of `out`,
then the multi-indices that `expand` reads from the two operands are valid multi-indices of `s` and of `t`. -/
theorem bcastRev_restrict_inBox {s t out idx : List Nat} (h : bcastRev s t = some out) (hb : InBox out idx) :
    InBox s (restrictRev s idx) ∧ InBox t (restrictRev t idx) :=
  E.bcastRev_restrict_inBox h hb

/-- `InBox` does not depend on the order in which dimensions are listed (both lists reversed together). -/
theorem inBox_reverse_iff {s idx : List Nat} : InBox s.reverse idx.reverse ↔ InBox s idx :=
  E.inBox_reverse_iff

/-- Index-wise characterisation of `InBox`: same rank and every coordinate below the corresponding size. -/
theorem inBox_iff_getElem {s idx : List Nat} :
    InBox s idx ↔ idx.length = s.length ∧ ∀ k (h : k < idx.length) (h' : k < s.length), idx[k] < s[k] := by
  induction s generalizing idx with
  | nil =>
    cases idx with
    | nil => exact ⟨fun _ => ⟨rfl, fun k h => absurd h (Nat.not_lt_zero k)⟩, fun _ => trivial⟩
    | cons => exact ⟨False.elim, fun h => absurd h.1 (Nat.succ_ne_zero _)⟩
  | cons a s ih =>
    cases idx with
    | nil => exact ⟨False.elim, fun h => absurd h.1.symm (Nat.succ_ne_zero _)⟩
    | cons i idx =>
      rw [E.inBox_cons_cons, ih]
      constructor
      · rintro ⟨hi, hl, hk⟩
        refine ⟨congrArg Nat.succ hl, fun k h h' => ?_⟩
        cases k with
        | zero => exact hi
        | succ k => exact hk k (Nat.lt_of_succ_lt_succ h) (Nat.lt_of_succ_lt_succ h')
      · rintro ⟨hl, hk⟩
        exact ⟨hk 0 (Nat.succ_pos _) (Nat.succ_pos _), Nat.succ.inj hl,
          fun k h h' => hk (k + 1) (Nat.succ_lt_succ h) (Nat.succ_lt_succ h')⟩

/-- (user-facing order) If `torch.broadcast_shapes(s, t) = out` and `idx` is a valid batch multi-index of `out`,
then `restrict s idx` / `restrict t idx` (the members that `expand` reads) are valid batch multi-indices of the
operands with batch shapes `s` / `t`. -/
theorem restrict_inBox {s t out idx : List Nat} (h : broadcastShape s t = some out) (hb : InBox out idx) :
    InBox s (restrict s idx) ∧ InBox t (restrict t idx) :=
  E.restrict_inBox h hb

/-! ## 2. batched matmul, member by member -/

/-- Member `idx` of the library's batched matmul is the per-member code path `f` applied to the operand members
`restrict sA idx` and `restrict sB idx`. -/
theorem matmulBroadcast_member {n m c : Nat} (f : Mat α n m → Mat α m c → Mat α n c)
    (sA : List Nat) (A : BMat α n m) (sB : List Nat) (X : BMat α m c) (idx : List Nat) :
    matmulBroadcast f sA A sB X idx = f (A (restrict sA idx)) (X (restrict sB idx)) := rfl

section
variable [Add α] [Mul α] [Zero α]

/-- With the dense product as the per-member path: member `idx` of the batched product is the dense product of
operand members `restrict sA idx` and `restrict sB idx`. -/
theorem matmulBroadcast_mul_member {n m c : Nat}
    (sA : List Nat) (A : BMat α n m) (sB : List Nat) (X : BMat α m c) (idx : List Nat) :
    matmulBroadcast Mat.mul sA A sB X idx = Mat.mul (A (restrict sA idx)) (X (restrict sB idx)) := rfl

/-- Batched matmul refines the dense definition: for every valid member `idx` of the broadcast batch shape, the
result member is the dense product of operand members which are themselves valid members of the operands. -/
theorem matmul_broadcast_refines {n m c : Nat} {sA sB out idx : List Nat} (A : BMat α n m) (X : BMat α m c)
    (h : broadcastShape sA sB = some out) (hb : InBox out idx) :
    matmulBroadcast Mat.mul sA A sB X idx = Mat.mul (A (restrict sA idx)) (X (restrict sB idx)) ∧
      InBox sA (restrict sA idx) ∧ InBox sB (restrict sB idx) :=
  ⟨rfl, restrict_inBox h hb⟩

end

/-! ## 3. shape facts about `torch.broadcast_shapes` -/

/-- A shape broadcasts with itself to itself. -/
theorem broadcastShape_self (s : List Nat) : broadcastShape s s = some s := by
  rw [broadcastShape, E.bcastRev_self]
  exact congrArg some (List.reverse_reverse s)

/-- The empty batch shape broadcasts with anything (left). -/
theorem broadcastShape_nil_left (t : List Nat) : broadcastShape [] t = some t := by
  rw [broadcastShape, List.reverse_nil, E.bcastRev_nil_left]
  exact congrArg some (List.reverse_reverse t)

/-- The empty batch shape broadcasts with anything (right). -/
theorem broadcastShape_nil_right (s : List Nat) : broadcastShape s [] = some s := by
  rw [broadcastShape, List.reverse_nil, E.bcastRev_nil_right]
  exact congrArg some (List.reverse_reverse s)

/-- Broadcasting is symmetric (including which pairs raise). -/
theorem broadcastShape_comm (s t : List Nat) : broadcastShape s t = broadcastShape t s := by
  rw [broadcastShape, broadcastShape, E.bcastRev_comm]

/-- The broadcast shape has the rank of the higher-rank operand. -/
theorem broadcastShape_length {s t out : List Nat} (h : broadcastShape s t = some out) :
    out.length = max s.length t.length := by
  have := E.bcastRev_length (E.broadcastShape_eq_some.mp h)
  rwa [List.length_reverse, List.length_reverse, List.length_reverse] at this

/-- An operand that already has the output batch shape reads its own member (true even with size-1 dimensions,
since then the index entry is `< 1`, i.e. `0`). -/
theorem restrict_of_eq {s idx : List Nat} (h : InBox s idx) : restrict s idx = idx :=
  E.restrict_of_inBox h

/-- Special case of `restrict_of_eq` (the size-1 hypothesis is not needed). -/
theorem restrict_same {s idx : List Nat} (h : InBox s idx) (_h1 : ∀ a ∈ s, a ≠ 1) : restrict s idx = idx :=
  restrict_of_eq h

/-! ## 4. `_matmul_broadcast_shape` raises exactly on incompatible sizes -/

/-- `_matmul_broadcast_shape` raises iff the inner sizes differ or the batch shapes do not broadcast. -/
theorem matmulShape_none_iff (sA : List Nat) (m n : Nat) (sB : List Nat) (n' p : Nat) :
    matmulShape sA m n sB n' p = none ↔ (n ≠ n' ∨ broadcastShape sA sB = none) := by
  unfold matmulShape
  by_cases h : n = n'
  · rw [if_pos h, Option.map_eq_none_iff]
    exact ⟨Or.inr, fun h' => h'.resolve_left (not_not.2 h)⟩
  · rw [if_neg h]
    exact ⟨fun _ => Or.inl h, fun _ => rfl⟩

/-- For a 1-D right-hand side, `_matmul_broadcast_shape` raises iff the lengths differ. -/
theorem matmulShapeVec_none_iff (sA : List Nat) (m n p : Nat) : matmulShapeVec sA m n p = none ↔ n ≠ p := by
  unfold matmulShapeVec
  by_cases h : n = p
  · rw [if_pos h]
    exact ⟨fun h' => (nomatch h'), fun h' => absurd h h'⟩
  · rw [if_neg h]
    exact ⟨fun _ => h, fun _ => rfl⟩

/-- With matching inner sizes the result shape is the broadcast batch shape followed by `(m, p)`. -/
theorem matmulShape_some (sA : List Nat) (m n : Nat) (sB : List Nat) (p : Nat) :
    matmulShape sA m n sB n p = (broadcastShape sA sB).map (· ++ [m, p]) :=
  if_pos rfl

/-! ## concrete instances -/

example : broadcastShape [2, 1, 3] [4, 1] = some [2, 4, 3] := rfl
example : broadcastShape [2, 3] [4, 1, 1] = some [4, 2, 3] := rfl
example : broadcastShape [2, 3] [4, 2] = none := rfl
example : broadcastShape [0, 1] [1, 5] = some [0, 5] := rfl
example : restrict [4, 1] [1, 3, 2] = [3, 0] := rfl
example : restrict [2, 1, 3] [1, 3, 2] = [1, 0, 2] := rfl
example : matmulShape [2, 1, 3] 5 6 [4, 1] 6 7 = some [2, 4, 3, 5, 7] := rfl
example : matmulShape [2, 1, 3] 5 6 [4, 1] 8 7 = none := rfl

end LinOp.C01

/-! # part F — `BlockLinearOperator.__init__`: the block dimension is MOVED (not swapped) to the last batch position -/
namespace LinOp.C01

/-- The permutation `(*range(p), *range(p+1, nb), p)` the constructor hands to `_permute_batch` is a permutation of
the `nb` batch positions, for every number of batch dims and every block position. -/
theorem blockMove_is_perm {nb p : Nat} (h : p < nb) : (blockMovePerm nb p).Perm (List.range nb) :=
  blockMovePerm_perm h

/-- It is the list of all positions with `p` removed — the other dims in their original order — followed by `p`. -/
theorem blockMove_eq_erase_then_block {nb p : Nat} (h : p < nb) :
    blockMovePerm nb p = (List.range nb).eraseIdx p ++ [p] :=
  blockMovePerm_eq_eraseIdx h

/-- Hence the base's batch shape after the constructor is the original batch shape with the block dim removed
(all other dims in order), followed by the block dim: the move keeps the remaining batch dims in order. -/
theorem blockMove_keeps_order (shape : List Nat) {p : Nat} (h : p < shape.length) :
    permuteShape shape (blockMovePerm shape.length p) = shape.eraseIdx p ++ [shape[p]] := by
  -- `permuteShape` is a `map`, which commutes with erasing a position
  rw [blockMovePerm_eq_eraseIdx h, permuteShape, List.map_append, ← List.eraseIdx_map, map_getD_range,
    List.map_singleton, List.getD_eq_getElem?_getD, List.getElem?_eq_getElem h]
  rfl

/-- A swap of the block position with the last batch position (`transpose(block_dim, -3)`) is a different
permutation as soon as the block dim is two or more positions away from the end (smallest case: 3 batch dims,
block dim first) — it transposes the remaining batch dims. -/
theorem blockSwap_differs_nonadjacent : blockSwapPerm 3 0 ≠ blockMovePerm 3 0 ∧ blockSwapPerm 4 1 ≠ blockMovePerm 4 1 := by
  decide

/-- …while it coincides with the move in the adjacent cases the test-suite uses (checked for 2 and 3 batch dims). -/
theorem blockSwap_same_adjacent : blockSwapPerm 2 0 = blockMovePerm 2 0 ∧ blockSwapPerm 3 1 = blockMovePerm 3 1 ∧
    blockSwapPerm 3 2 = blockMovePerm 3 2 :=
  ⟨rfl, rfl, rfl⟩

end LinOp.C01

/-! # part H — operator TREES of arbitrary depth (`LinOp/C01/OpTree.lean`): structural induction over the nesting grammar
dense | diag | toeplitz | sum | matmul | constMul | addedDiag | root | transpose | kron | blockDiag | blockInter | sumBatch |
catRows | catCols | masked | interp | perm | transposePerm | chol | mulRoots | lowRankRoot | identity | constDiag | zero |
kernel, where every sub-operator is again a tree whose own structured `_matmul`/`_t_matmul` is what the outer class calls. -/
namespace LinOp.C01
open LinOp
section treeH
variable {α : Type} [CommSemiring α]

/-- The structured evaluator of every tree denotes the tree's dense semantics: by structural induction, using the
one-level theorem of the outermost class on the dense semantics of the sub-trees. -/
theorem eval_tree_denotes : ∀ {n m : Nat} (t : Op α n m), t.WF → t.eval.Denotes t.denseSem := by
  intro n m t
  induction t with
  | dense A => exact fun _ => ofDense_denotes A
  | diag d | constDiag d => exact fun _ => denotes_of_symm (diag_symm _) fun _ X => diag_matmul _ X
  | toeplitz col =>
    exact fun _ => denotes_of_symm (toeplitz_symm_transpose col).symm fun _ X => toeplitz_circulant_embedding col col X
  | sum a b iha ihb =>
    intro h
    -- the evaluators of the sub-trees ARE the dense operators of their semantics (`UserOp.Denotes.eq_ofDense`): substituted, the
    -- class runs on dense sub-operators; its `_matmul` is the one-level theorem, its `_t_matmul` the same on the transposes
    -- (`unfold`, not `simp only [Op.eval]`: the latter makes Lean generate all 26 equations of `Op.eval` first)
    unfold Op.eval
    simp only [(iha h.1).eq_ofDense, (ihb h.2).eq_ofDense]
    exact denotes_of_transpose (fun _ X => sum_matmul _ _ X) (fun _ Y => sum_matmul _ _ Y) (sum_transpose _ _).symm
  | matmul a b iha ihb =>
    intro h
    unfold Op.eval
    simp only [(iha h.1).eq_ofDense, (ihb h.2).eq_ofDense]
    exact denotes_of_transpose (fun _ X => matmulOp_matmul _ _ X) (fun _ Y => matmulOp_matmul _ _ Y)
      (matmulOp_transpose _ _).symm
  | constMul a k iha =>
    intro h
    unfold Op.eval
    simp only [(iha h).eq_ofDense]
    exact denotes_of_transpose (fun _ X => constMul_matmul _ k X) (fun _ Y => constMul_matmul _ k Y)
      (constMul_transpose _ k).symm
  | addedDiag a d iha =>
    intro h
    unfold Op.eval
    simp only [(iha h).eq_ofDense]
    exact denotes_of_transpose (fun _ X => addedDiag_matmul _ d X) (fun _ Y => addedDiag_matmul _ d Y)
      (congrArg (Mat.add _) (diag_symm d).symm)
  | root a iha | lowRankRoot a iha =>
    intro h
    unfold Op.eval
    simp only [(iha h).eq_ofDense]
    exact denotes_of_symm (root_symm _) fun _ X => root_matmul _ X
  | transpose a iha => exact fun h => ⟨(iha h).2, (iha h).1⟩
  | kron a b iha ihb =>
    intro h
    unfold Op.eval
    simp only [(iha h.1).eq_ofDense, (ihb h.2).eq_ofDense]
    exact denotes_of_transpose (fun _ X => kron_two_step _ _ X) (fun _ Y => kron_two_step _ _ Y)
      (kron2Dense_transpose _ _).symm
  | blockDiag blocks ih =>
    intro h
    unfold Op.eval
    simp only [fun b => (ih b (h b)).eq_ofDense]
    -- the blocks are spelled out here and in the next two cases: left to unification (`blockDiag_matmul _ X`), `whnf` times out
    exact denotes_of_transpose (fun _ X => blockDiag_matmul (fun b => (blocks b).denseSem) X)
      (fun _ Y => blockDiag_matmul (blockTranspose fun b => (blocks b).denseSem) Y) (blockDiag_transpose _)
  | blockInter blocks ih =>
    intro h
    unfold Op.eval
    simp only [fun b => (ih b (h b)).eq_ofDense]
    exact denotes_of_transpose (fun _ X => blockInter_matmul (fun b => (blocks b).denseSem) X)
      (fun _ Y => blockInter_matmul (blockTranspose fun b => (blocks b).denseSem) Y) (blockInter_transpose _)
  | sumBatch blocks ih =>
    intro h
    unfold Op.eval
    simp only [fun b => (ih b (h b)).eq_ofDense]
    exact denotes_of_transpose (fun _ X => sumBatch_matmul (fun b => (blocks b).denseSem) X)
      (fun _ Y => sumBatch_matmul (blockTranspose fun b => (blocks b).denseSem) Y)
      (sumBatchDense_transpose fun b => (blocks b).denseSem)
  | catRows a b iha ihb =>
    intro h
    unfold Op.eval
    simp only [(iha h.1).eq_ofDense, (ihb h.2).eq_ofDense]
    exact denotes_of_transpose (fun _ X => cat_matmul_rows _ _ X) (fun _ Y => (catCols_mul _ _ Y).symm) (cat_transpose _ _).symm
  | catCols a b iha ihb =>
    intro h
    unfold Op.eval
    simp only [(iha h.1).eq_ofDense, (ihb h.2).eq_ofDense]
    exact denotes_of_transpose (fun _ X => (catCols_mul _ _ X).symm) (fun _ Y => cat_matmul_rows _ _ Y) (catCols_transpose _ _).symm
  | masked a rmask cmask iha =>
    intro h
    unfold Op.eval
    simp only [(iha h).eq_ofDense]
    exact denotes_of_transpose (fun _ X => masked_matmul _ rmask cmask X) (fun _ Y => masked_matmul _ cmask rmask Y)
      (masked_transpose _ rmask cmask)
  | interp base lidx lval ridx rval ih =>
    intro h
    unfold Op.eval
    simp only [(ih h).eq_ofDense]
    exact denotes_of_transpose (fun _ X => interp_matmul base.denseSem lidx lval ridx rval X)
      (fun _ Y => interp_matmul (Mat.transpose base.denseSem) ridx rval lidx lval Y)
      (interp_transpose _ lidx lval ridx rval)
  | perm p inv =>
    exact fun h => denotes_of_transpose (fun _ X => perm_matmul p X) (fun _ Y => perm_matmul inv Y)
      (perm_transpose p inv h (perm_left_inv_of_right_inv p inv h))
  | transposePerm => exact fun _ => denotes_of_symm transposePerm_symm fun _ X => transposePerm_matmul X
  | chol r upper ih =>
    intro h
    unfold Op.eval
    simp only [(ih h).eq_ofDense]
    exact denotes_of_symm (chol_symm _ upper) fun _ X => chol_matmul _ upper X
  | mulRoots l r ihl ihr =>
    intro h
    unfold Op.eval
    -- `left.root.to_dense()` of a dense root is its matrix; the right operand's routine `R (Rᵀ ·)` multiplies by `R Rᵀ`, and
    -- over a dense right operand the code is `mulRootsMatmul`
    simp only [(ihl h.1).eq_ofDense, (ihr h.2).eq_ofDense, toDense_default _ _ (ofDense_denotes _)]
    refine denotes_of_symm (hadamard_symm _ _ (root_symm _) (root_symm _)) fun c X => ?_
    exact (congrArg (mulRootsWith _ · X) (funext fun Z => root_matmul _ Z)).trans
      ((mulRootsWith_eq _ _ X).trans (mul_matmul_roots _ _ X))
  | identity => exact fun _ => denotes_of_symm transpose_one fun _ X => (one_mul' X).symm
  | zero => exact fun _ => ⟨fun c X => (zero_mul' X).symm, fun c Y => (zero_mul' Y).symm⟩
  | kernel K Kt => exact fun h => denotes_of_transpose (fun _ _ => rfl) (fun _ _ => rfl) h

/-- **Tree refinement** — for every tree `t` of any depth and every right-hand side, the structured `_matmul`
(outer class calling the structured routines of its sub-operators, recursively) multiplies by the dense semantics. -/
theorem eval_tree_refines {n m c : Nat} (t : Op α n m) (h : t.WF) (X : Mat α m c) : t.eval.mm X = Mat.mul t.denseSem X :=
  (eval_tree_denotes t h).1 c X

/-- The same for `_t_matmul`: it multiplies by the transpose of the dense semantics. -/
theorem eval_tree_refines_t {n m c : Nat} (t : Op α n m) (h : t.WF) (Y : Mat α n c) :
    t.eval.tmm Y = Mat.mul (Mat.transpose t.denseSem) Y :=
  (eval_tree_denotes t h).2 c Y

/-- `toDense (structured t) = denseSem t`: the base-class default `to_dense` (multiply the identity through the
structured code, through the transposed operator when there are fewer rows than columns) of any tree is its dense semantics. -/
theorem toDense_tree {n m : Nat} (t : Op α n m) (h : t.WF) : t.toDense = t.denseSem :=
  toDense_default t.eval t.denseSem (eval_tree_denotes t h)

/-- `x @ t` (base-class `rmatmul`, double transpose through the structured code) of any tree. -/
theorem rmatmul_tree {n m p : Nat} (t : Op α n m) (h : t.WF) (Y : Mat α p n) : rmatmul t.eval Y = Mat.mul Y t.denseSem :=
  rmatmul_refines t.eval t.denseSem Y (eval_tree_denotes t h)

/-- transposing a tree transposes its dense semantics, and `mT.mT` is the identity on semantics. -/
theorem transpose_tree {n m : Nat} (t : Op α n m) : (Op.transpose t).denseSem = Mat.transpose t.denseSem := rfl

theorem mT_mT_tree {n m : Nat} (t : Op α n m) : (Op.transpose (Op.transpose t)).denseSem = t.denseSem := rfl

/-! ### permutation pairs (the guard of `Op.WF`), added-diagonal forms -/

/-- **Ill-formed permutation pair** (`validate_args=False`): `_matmul` still multiplies by the dense matrix of `perm`, and
the transposed operator multiplies by the dense matrix of `inv_perm` — whatever `inv_perm` is. -/
theorem perm_tree_any {n c : Nat} (p inv : Fin n → Fin n) (X : Mat α n c) :
    (Op.perm (α := α) p inv).eval.mm X = Mat.mul (permDense p) X ∧
      (Op.perm (α := α) p inv).eval.tmm X = Mat.mul (permDense inv) X :=
  ⟨perm_matmul p X, perm_matmul inv X⟩

/-- … and that matrix is the transpose of `P` EXACTLY when the pair passes the constructor's validation
(`perm[inv_perm] = arange`): the guard of `eval_tree_denotes` is necessary, not only sufficient. -/
theorem perm_transpose_iff [Nontrivial α] {n : Nat} (p inv : Fin n → Fin n) :
    permDense inv = Mat.transpose (permDense (α := α) p) ↔ ∀ i, p (inv i) = i := by
  constructor
  · intro h i
    have e := congrFun (congrFun h i) (inv i)
    simp only [permDense, Mat.transpose, if_true] at e
    by_contra hne
    rw [if_neg hne] at e
    exact one_ne_zero e
  · intro h
    exact perm_transpose p inv h (perm_left_inv_of_right_inv p inv h)

/-- `LowRankRootAddedDiagLinearOperator` (inherits the addcmul `_matmul` of `AddedDiagLinearOperator`) over any sub-tree:
structured product = `(A Aᵀ + diag d) X`, both sides. -/
theorem lowRankRootAddedDiag_tree {n k : Nat} (a : Op α n k) (d : Fin n → α) (h : a.WF) :
    (Op.lowRankRootAddedDiag a d).eval.Denotes (Mat.add (rootDense a.denseSem) (Mat.diag d)) :=
  eval_tree_denotes (Op.lowRankRootAddedDiag a d) h

/-- `KroneckerProductAddedDiagLinearOperator` over any two sub-trees: `(A ⊗ B + diag d) X`. -/
theorem kronAddedDiag_tree {m p : Nat} (a : Op α m m) (b : Op α p p) (d : Fin (m * p) → α) (ha : a.WF) (hb : b.WF) :
    (Op.kronAddedDiag a b d).eval.Denotes (Mat.add (kron2Dense a.denseSem b.denseSem) (Mat.diag d)) :=
  eval_tree_denotes (Op.kronAddedDiag a b d) ⟨ha, hb⟩

/-! ### 1-D operands (promotion `unsqueeze(-1)` … `squeeze(-1)`), value and shape -/

/-- `t @ x` with a 1-D `x`: the matrix–vector product with the dense semantics. -/
theorem matmulVec_tree {n m : Nat} (t : Op α n m) (h : t.WF) (x : Fin m → α) :
    matmulVec t.eval x = fun i => ∑ j, t.denseSem i j * x j := by
  funext i
  simp only [matmulVec, vecOfCol, eval_tree_refines t h, mul_apply, colOfVec]

/-- `t.mT @ y` / `t._t_matmul(y)` with a 1-D `y`. -/
theorem tmatmulVec_tree {n m : Nat} (t : Op α n m) (h : t.WF) (y : Fin n → α) :
    tmatmulVec t.eval y = fun j => ∑ i, t.denseSem i j * y i := by
  funext j
  simp only [tmatmulVec, vecOfCol, eval_tree_refines_t t h, mul_apply, colOfVec, Mat.transpose]

/-- `y @ t` with a 1-D `y` (`rmatmul` → `self.mT.matmul(other)`): the vector–matrix product. -/
theorem rmatmulVec_tree {n m : Nat} (t : Op α n m) (h : t.WF) (y : Fin n → α) :
    rmatmulVec t.eval y = fun j => ∑ i, y i * t.denseSem i j :=
  rmatmulVec_refines t.eval t.denseSem y (eval_tree_denotes t h)

/-- the 1-D `rmatmul` is the 1-D transposed product (the code path is literally the same). -/
theorem rmatmulVec_eq_tmatmulVec {n m : Nat} (op : UserOp α n m) (y : Fin n → α) : rmatmulVec op y = tmatmulVec op y := rfl

/-- **Shapes.**  `op @ x`: a 1-D rhs of the right length gives `(*batch, n)`; an `(*sB, m, c)` rhs gives
`(*broadcast(sA, sB), n, c)`; wrong inner size or non-broadcastable batch shapes raise. -/
theorem matmulResultShape_vec (sA : List Nat) (n m : Nat) : matmulResultShape sA n m [m] = some (sA ++ [n]) :=
  if_pos rfl

theorem matmulResultShape_mat (sA sB : List Nat) (n m c : Nat) :
    matmulResultShape sA n m (sB ++ [m, c]) = (broadcastShape sA sB).map (· ++ [n, c]) := by
  rw [matmulResultShape_of_two_le _ _ _ (two_le_length_append_pair _ _ _), take_append_pair, getD_append_pair_fst,
    getD_append_pair_snd, matmulShape_some]

/-- `x @ op` (`rmatmul`): 1-D `x` of length `n` gives `(*batch, m)`; `x = (*sB, c, n)` gives `(*broadcast(sA, sB), c, m)` —
the shape `torch.matmul(x, dense)` has. -/
theorem rmatmulResultShape_vec (sA : List Nat) (n m : Nat) : rmatmulResultShape sA n m [n] = some (sA ++ [m]) :=
  if_pos rfl

theorem rmatmulResultShape_mat (sA sB : List Nat) (n m c : Nat) :
    rmatmulResultShape sA n m (sB ++ [c, n]) = (broadcastShape sA sB).map (· ++ [c, m]) := by
  rw [rmatmulResultShape_of_two_le _ _ _ (two_le_length_append_pair _ _ _), take_append_pair, getD_append_pair_fst,
    getD_append_pair_snd, matmulShape_some, Option.map_map]
  congr 1
  funext s
  show (s ++ [m, c]).take _ ++ [(s ++ [m, c]).getD _ 0, (s ++ [m, c]).getD _ 0] = _
  rw [take_append_pair, getD_append_pair_fst, getD_append_pair_snd]

end treeH

/-- Non-vacuity: a tree over `Int` with four levels of nesting below the root —
`Sum(Kronecker(Transpose(Matmul(dense, Diag)), Toeplitz), ConstantMul(Root(CatRows(dense, dense)), 2))` — typechecks, and
the theorem applies to it. -/
example : ∃ (t : Op Int (2 * 2) (2 * 2)), 3 ≤ t.depth ∧ ∀ (X : Mat Int (2 * 2) 1), t.eval.mm X = Mat.mul t.denseSem X :=
  ⟨Op.sum (Op.kron (Op.transpose (Op.matmul (Op.dense fun i j => (i.1 : Int) + 2 * j.1) (Op.diag fun i => (i.1 : Int) + 1)))
      (Op.toeplitz fun i => (3 : Int) - i.1))
    (Op.constMul (Op.root (Op.catRows (Op.dense (n := 2) (m := 3) (fun _ j => (j.1 : Int))) (Op.dense (n := 2) (m := 3) (fun i j => (i.1 : Int) - j.1)))) 2),
   by decide, fun X => eval_tree_refines _ (by exact ⟨⟨⟨trivial, trivial⟩, trivial⟩, trivial, trivial⟩) X⟩

end LinOp.C01

/-! # part G — batch broadcasting of the structured code: structured matmul of broadcast operands = pointwise dense
product per broadcast batch index (batch shapes of arbitrary rank; `LinOp/C01/BatchModel.lean`) -/
namespace LinOp.C01
open LinOp
section batchG
variable {α : Type} [CommSemiring α]

/-- `torch.broadcast_shapes` with a common trailing block dimension: `(sA ++ [k])` against `(sB ++ [k])` broadcasts to
`broadcast(sA, sB) ++ [k]` (and fails exactly when `sA`, `sB` do not broadcast). -/
theorem broadcastShape_append_block (sA sB : List Nat) (k : Nat) :
    broadcastShape (sA ++ [k]) (sB ++ [k]) = (broadcastShape sA sB).map (· ++ [k]) := by
  rw [broadcastShape, List.reverse_append, List.reverse_append]
  show Option.map List.reverse (bcastRev (k :: sA.reverse) (k :: sB.reverse)) = _
  rw [E.bcastRev_cons_cons, if_pos (Or.inl rfl), broadcastShape, Option.map_map, Option.map_map]
  exact congrArg (Option.map · _) (funext fun l => List.reverse_cons)

/-- `expand` with a trailing block dimension reads block `b` of the restricted member (also for `k = 1`). -/
theorem restrict_append_block (s idx : List Nat) {k b : Nat} (hb : b < k) :
    restrict (s ++ [k]) (idx ++ [b]) = restrict s idx ++ [b] :=
  restrict_append_block' s idx hb

theorem inBox_append_block (s idx : List Nat) (k b : Nat) : InBox (s ++ [k]) (idx ++ [b]) ↔ InBox s idx ∧ b < k := by
  rw [← inBox_reverse_iff, List.reverse_append, List.reverse_append, ← inBox_reverse_iff (s := s)]
  exact and_comm

/-- **BlockDiag with batch dims** (base batch `sA ++ [k]`, the last batch dim IS the block dim; rhs batch `sB`): member
`idx` of `_add_batch_dim → base batched matmul (broadcasting sA++[k] against sB++[k]) → _remove_batch_dim` is the dense
block-diagonal matrix of operator member `restrict sA idx` times rhs member `restrict sB idx`; both are valid members. -/
theorem blockDiag_broadcast_refines {m n c : Nat} (k : Nat) (sA sB out idx : List Nat) (base : BMat α m n)
    (X : BMat α (k * n) c) (h : broadcastShape sA sB = some out) (hb : InBox out idx) :
    blockDiagMatmulB k sA base sB X idx = Mat.mul (blockDiagDenseB k base (restrict sA idx)) (X (restrict sB idx)) ∧
      InBox sA (restrict sA idx) ∧ InBox sB (restrict sB idx) := by
  refine ⟨?_, restrict_inBox h hb⟩
  show blockDiagRemove (fun b : Fin k => matmulBroadcast Mat.mul _ base _ (addBlockDiagB k X) (idx ++ [b.1])) = _
  simp only [matmulBroadcast_append_block _ _ _ _ _ _ (Fin.is_lt _), addBlockDiagB_concat]
  exact blockDiag_matmul (fun b => base (restrict sA idx ++ [b.1])) (X (restrict sB idx))

/-- **BlockInterleaved with batch dims**, same statement with the interleaved layout. -/
theorem blockInter_broadcast_refines {m n c : Nat} (k : Nat) (sA sB out idx : List Nat) (base : BMat α m n)
    (X : BMat α (n * k) c) (h : broadcastShape sA sB = some out) (hb : InBox out idx) :
    blockInterMatmulB k sA base sB X idx = Mat.mul (blockInterDenseB k base (restrict sA idx)) (X (restrict sB idx)) ∧
      InBox sA (restrict sA idx) ∧ InBox sB (restrict sB idx) := by
  refine ⟨?_, restrict_inBox h hb⟩
  show blockInterRemove (fun b : Fin k => matmulBroadcast Mat.mul _ base _ (addBlockInterB k X) (idx ++ [b.1])) = _
  simp only [matmulBroadcast_append_block _ _ _ _ _ _ (Fin.is_lt _), addBlockInterB_concat]
  exact blockInter_matmul (fun b => base (restrict sA idx ++ [b.1])) (X (restrict sB idx))

/-- **SumBatch with batch dims**: the rhs is expanded over the summed dimension, the base multiplies per member, the
results are summed over the block dimension: member `idx` is (Σ_b base[restrict sA idx ++ [b]]) · X[restrict sB idx]. -/
theorem sumBatch_broadcast_refines {m n c : Nat} (k : Nat) (sA sB out idx : List Nat) (base : BMat α m n)
    (X : BMat α n c) (h : broadcastShape sA sB = some out) (hb : InBox out idx) :
    sumBatchMatmulB k sA base sB X idx = Mat.mul (sumBatchDenseB k base (restrict sA idx)) (X (restrict sB idx)) ∧
      InBox sA (restrict sA idx) ∧ InBox sB (restrict sB idx) := by
  refine ⟨?_, restrict_inBox h hb⟩
  show sumBatchRemove (fun b : Fin k => matmulBroadcast Mat.mul _ base _ (addSumBatchB X) (idx ++ [b.1])) = _
  simp only [matmulBroadcast_append_block _ _ _ _ _ _ (Fin.is_lt _), addSumBatchB_concat]
  exact sumBatch_matmul (fun b => base (restrict sA idx ++ [b.1])) (X (restrict sB idx))

/-- **Any batched operator tree** (in particular a Kronecker product of any number of nested, batch-expanded factors,
BatchRepeat-free nestings of all classes of the grammar) times a broadcast rhs: member `idx` of the structured result is
the dense semantics of operator member `restrict sA idx` times rhs member `restrict sB idx`. -/
theorem tree_broadcast_refines {n m c : Nat} (sA sB out idx : List Nat) (t : List Nat → Op α n m) (X : BMat α m c)
    (hwf : ∀ i, (t i).WF) (h : broadcastShape sA sB = some out) (hb : InBox out idx) :
    treeMatmulB sA t sB X idx = Mat.mul ((t (restrict sA idx)).denseSem) (X (restrict sB idx)) ∧
      InBox sA (restrict sA idx) ∧ InBox sB (restrict sB idx) :=
  ⟨eval_tree_refines _ (hwf _) _, restrict_inBox h hb⟩

/-- **Batched tree × broadcasting operand, all three products at once** (composition of `eval_tree_denotes` with the
broadcasting lemmas): for a batched operator tree with batch shape `sA` and an operand with batch shape `sB` — either may
have size-1 dims or lack leading dims — member `idx` of `op @ X`, of `op.mT @ Y` and of `Z @ op` is the dense product of the
operator member `restrict sA idx` with the operand member `restrict sB idx`, and both are valid members. -/
theorem tree_broadcast_refines_all {n m c : Nat} (sA sB out idx : List Nat) (t : List Nat → Op α n m)
    (X : BMat α m c) (Y : BMat α n c) (Z : BMat α c n)
    (hwf : ∀ i, (t i).WF) (h : broadcastShape sA sB = some out) (hb : InBox out idx) :
    treeMatmulB sA t sB X idx = Mat.mul ((t (restrict sA idx)).denseSem) (X (restrict sB idx)) ∧
    treeTMatmulB sA t sB Y idx = Mat.mul (Mat.transpose (t (restrict sA idx)).denseSem) (Y (restrict sB idx)) ∧
    treeRmatmulB sA t sB Z idx = Mat.mul (Z (restrict sB idx)) ((t (restrict sA idx)).denseSem) ∧
      InBox sA (restrict sA idx) ∧ InBox sB (restrict sB idx) :=
  ⟨eval_tree_refines _ (hwf _) _, eval_tree_refines_t _ (hwf _) _, rmatmul_tree _ (hwf _) _, restrict_inBox h hb⟩

/-- Kronecker instance of the previous theorem: batched factors `A`, `B` (expanded to the operator batch shape `sA`),
rhs batch `sB`: member `idx` of the view/transpose loop result is `(A[i] ⊗ B[i]) · X[j]` with `i = restrict sA idx`,
`j = restrict sB idx`. -/
theorem kron_broadcast_refines {m n p q c : Nat} (sA sB out idx : List Nat) (A : BMat α m n) (B : BMat α p q)
    (X : BMat α (n * q) c) (h : broadcastShape sA sB = some out) (hb : InBox out idx) :
    treeMatmulB sA (fun i => Op.kron (Op.dense (A i)) (Op.dense (B i))) sB X idx =
        Mat.mul (kron2Dense (A (restrict sA idx)) (B (restrict sA idx))) (X (restrict sB idx)) ∧
      InBox sA (restrict sA idx) ∧ InBox sB (restrict sB idx) :=
  tree_broadcast_refines sA sB out idx _ X (fun _ => ⟨trivial, trivial⟩) h hb

/-- **BatchRepeat in batch-index form**: operator batch `[r*b]`, member `ρ*b + β` is `base[β]`; the column-folding code
returns at that member `base[β] · X[ρ*b+β]`. -/
theorem batchRepeat_batch_refines {r b n c : Nat} (B : Ten3 α b n n) (X : Ten3 α (r * b) n c) (ρ : Fin r) (β : Fin b) :
    batchRepeatMatmul B X (pairIdx ρ β) = Mat.mul (batchRepeatDense (r := r) B (pairIdx ρ β)) (X (pairIdx ρ β)) :=
  batchRepeat_matmul B X _

/-- **Cat along a batch dimension** (`cat_dim < -2`; rhs already expanded to the output batch shape): every member of
narrow → per-operand matmul → cat equals the member of the concatenated dense tensor times the rhs member, for every
batch position `d` and every index whose entry `d` is within the concatenated size. -/
theorem catBatch_refines {n m c : Nat} (d a₁ : Nat) (A₁ A₂ : BMat α n m) (X : BMat α m c) (idx : List Nat)
    (hd : d < idx.length) :
    catBatchMatmul d a₁ A₁ A₂ X idx = Mat.mul (catBatchDense d a₁ A₁ A₂ idx) (X idx) := by
  unfold catBatchMatmul catBatchDense
  split
  · rfl
  · next hlt =>
    -- `narrow` shifts entry `d` back by `a₁`; setting it to its old value again restores `idx`
    have hv : (idx.set d (idx.getD d 0 - a₁)).getD d 0 = idx.getD d 0 - a₁ := by
      rw [List.getD_eq_getElem?_getD, List.getElem?_set_self hd]; rfl
    rw [hv, List.set_set, Nat.sub_add_cancel (Nat.le_of_not_lt hlt), ← List.getElem_eq_getD (h := hd) 0,
      List.set_getElem_self]

end batchG

/-- Non-vacuity of the hypotheses: `[2,1]` against `[3]` broadcasts to `[2,3]`; with block dim `k = 2` the base shapes
`[2,1,2]`/`[3,2]` broadcast to `[2,3,2]`, and output member `[1,2]` reads operator member `[1,0]`, rhs member `[2]`. -/
example : broadcastShape [2, 1] [3] = some [2, 3] ∧ broadcastShape ([2, 1] ++ [2]) ([3] ++ [2]) = some [2, 3, 2] ∧
    InBox [2, 3] [1, 2] ∧ restrict [2, 1] [1, 2] = [1, 0] ∧ restrict [3] [1, 2] = [2] :=
  ⟨rfl, rfl, ⟨by decide, by decide, trivial⟩, rfl, rfl⟩

/-- … and with the roles exchanged: the OPERATOR lacks a leading dim and has a size-1 dim (`[1,3]` against `[2,4,1]`):
output member `[1,3,2]` reads operator member `[0,2]` and rhs member `[1,3,0]`. -/
example : broadcastShape [1, 3] [2, 4, 1] = some [2, 4, 3] ∧ InBox [2, 4, 3] [1, 3, 2] ∧
    restrict [1, 3] [1, 3, 2] = [0, 2] ∧ restrict [2, 4, 1] [1, 3, 2] = [1, 3, 0] :=
  ⟨rfl, ⟨by decide, by decide, by decide, trivial⟩, rfl, rfl⟩

/-- Non-vacuity of `Op.WF`: a tree containing a valid permutation pair, a symmetric kernel pair, Chol,
Mul over roots, LowRankRootAddedDiag, identity / constant-diagonal / zero leaves is well-formed. -/
example : (Op.sum (Op.matmul (Op.perm (α := Int) (n := 3) (fun i => ⟨(i.1 + 1) % 3, Nat.mod_lt _ (by decide)⟩)
      (fun i => ⟨(i.1 + 2) % 3, Nat.mod_lt _ (by decide)⟩)) (Op.chol (Op.dense fun i j => if j.1 ≤ i.1 then 1 else 0) true))
    (Op.sum (Op.mulRoots (Op.kernel (fun (i : Fin 3) (j : Fin 2) => (i.1 : Int) * j.1) (fun j i => (i.1 : Int) * j.1)) (Op.dense (m := 1) fun i _ => (i.1 : Int)))
      (Op.sum (Op.lowRankRootAddedDiag (Op.dense (m := 2) fun i j => (i.1 : Int) - j.1) (fun _ => 2)) (Op.sum Op.identity (Op.sum (Op.constDiag 3) Op.zero))))).WF :=
  show ((∀ i : Fin 3, _) ∧ True) ∧ (_ ∧ True) ∧ True ∧ True ∧ True ∧ True from
    ⟨⟨by decide, trivial⟩, ⟨rfl, trivial⟩, trivial, trivial, trivial, trivial⟩

end LinOp.C01
