import LinOp.C16.Proofs
import LinOp.C16.ProofsWeak
import LinOp.C16.ProofsSkeleton
import LinOp.C16.ProofsPSD
import LinOp.C16.ProofsSkSem
import LinOp.Generated.C16Consts
import Mathlib.Data.Matrix.Mul
import Mathlib.Data.Matrix.Diagonal
/-!
C16 — `psd_safe_cholesky` perturbs minimally, per batch member, or fails loudly.  Property theorems only.

Everything is stated about the model `LinOp.C16.psdSafeCholesky` of
`linear_operator/utils/cholesky.py` for an arbitrary batch (`A : List M`, any length), an arbitrary
`cholesky_ex` (`ops.cholEx`, hence *every info history*), every `max_tries`, every `jitter`, every base
of the schedule (`c.base`; the generated value is shown to be 10 below), over any ring of scalars.
`Lawful ops` = adding 0 to a diagonal changes nothing and two additions add up.
-/
namespace LinOp.C16
open LinOp.Generated

variable {M F α : Type} [Ring α] (ops : Ops M F α) (c : Consts) (env : Env α) (args : Args α) (A : List M)

/-! ### Whole-function theorems -/

/-- **PD ⇒ exact factor, one call, no warning, nothing perturbed**: if `cholesky_ex` reports `info = 0`
for every member, the result is the factor of `A` itself (transposed if `upper`), after exactly one
`cholesky_ex` call, without a warning, and `A` is untouched — whatever jitter/max_tries/settings. -/
theorem psc_pd_exact (hpd : ∀ a ∈ A, (ops.cholEx a).2 = 0) :
    (psdSafeCholesky ops c env args A).result = .ok (A.map fun a => orient ops args.upper (ops.cholEx a).1) ∧
    (psdSafeCholesky ops c env args A).calls = 1 ∧ (psdSafeCholesky ops c env args A).warns = [] ∧
    (psdSafeCholesky ops c env args A).work = A ∧ (psdSafeCholesky ops c env args A).input = A := by
  rw [wrapper_result, wrapper_calls, wrapper_warns, wrapper_work, wrapper_input,
    core_first ops c env args A (by rw [anyInfo_init_false ops A hpd, Bool.not_false, Bool.or_true])]
  exact ⟨congrArg Except.ok List.map_map, rfl, rfl, rfl, rfl⟩

/-- **NaN ⇒ NanError before any try**: if some member contains a NaN and the first `cholesky_ex` reports a
failure anywhere in the batch, `NanError` is raised after that single call: no jitter, no warning, `A` untouched. -/
theorem psc_nan_raises (ht : env.traceMode = false) (hinfo : ∃ a ∈ A, (ops.cholEx a).2 ≠ 0) (hnan : ∃ a ∈ A, ops.hasNan a = true) :
    (psdSafeCholesky ops c env args A).result = .error .nanError ∧
    (psdSafeCholesky ops c env args A).calls = 1 ∧ (psdSafeCholesky ops c env args A).warns = [] ∧
    (psdSafeCholesky ops c env args A).work = A ∧ (psdSafeCholesky ops c env args A).input = A := by
  rw [wrapper_result, wrapper_calls, wrapper_warns, wrapper_work, wrapper_input,
    core_nan ops c env args A ht (anyInfo_init_true ops A hinfo) (List.any_eq_true.2 hnan)]
  exact ⟨rfl, rfl, rfl, rfl, rfl⟩

/-- The same under the contract that `cholesky_ex` never reports success on a member containing NaN
(LAPACK's pivot test `ajj <= 0 || isnan(ajj)`; holds for NaNs in the triangle that is read). -/
theorem psc_nan_raises_contract (ht : env.traceMode = false) (hc : ∀ a, ops.hasNan a = true → (ops.cholEx a).2 ≠ 0)
    (hnan : ∃ a ∈ A, ops.hasNan a = true) :
    (psdSafeCholesky ops c env args A).result = .error .nanError ∧ (psdSafeCholesky ops c env args A).calls = 1 := by
  obtain ⟨a, ha, h⟩ := hnan
  have := psc_nan_raises ops c env args A ht ⟨a, ha, hc a h⟩ ⟨a, ha, h⟩
  exact ⟨this.1, this.2.1⟩

/-- **The smallest succeeding try is the one used; the result is what `cholesky_ex` returns for exactly the
perturbed batch**: if (no trace mode, no NaN, first call failed somewhere and) try `k < max_tries` is the first after which
every member has `info = 0`, then the function returns — after `k+2` calls and the `k+1` warnings
`jitter·base^0 … jitter·base^k` — the factors of the members `memberAfter … (k+1)` (see the per-member theorems
for what these are), and these members are the final `Aprime`. -/
theorem psc_minimal_try (ht : env.traceMode = false) (hinfo : ∃ a ∈ A, (ops.cholEx a).2 ≠ 0)
    (hnan : ∀ a ∈ A, ops.hasNan a = false) (k : Nat) (hk : k < effMaxTries env args)
    (hfail : ∀ j, j < k → batchFailsAfter ops c.base (effJitter env args) A j = true)
    (hok : batchFailsAfter ops c.base (effJitter env args) A k = false) :
    let o := psdSafeCholesky ops c env args A
    o.result = .ok (A.map fun a => orient ops args.upper (memberAfter ops c.base (effJitter env args) a (k + 1)).2.1) ∧
    o.calls = k + 2 ∧ o.warns = (List.range (k + 1)).map (jitterAt c.base (effJitter env args)) ∧
    o.work = A.map (fun a => (memberAfter ops c.base (effJitter env args) a (k + 1)).1) ∧
    (c.clones = true → o.input = A) := by
  have hn : A.any ops.hasNan = false := List.any_eq_false.2 fun a ha => by simp [hnan a ha]
  dsimp only
  rw [wrapper_result, wrapper_calls, wrapper_warns, wrapper_work, wrapper_input,
    core_succ ops c env args A ht (anyInfo_init_true ops A hinfo) hn hk hfail hok]
  exact ⟨congrArg Except.ok List.map_map, rfl, rfl, rfl, fun h => if_pos h⟩

/-- **All tries fail ⇒ loud failure after exactly `max_tries` tries**: if after each of the tries `0 … max_tries-1` some
member still has `info ≠ 0`, the function raises after `max_tries + 1` calls and `max_tries` warnings and the caller's
tensor is untouched.  The exception is `NotPSDError` when `max_tries > 0`, or when the source binds `jitter_new` before the
loop (`c.jitterNewBound`, extracted; true since /repo 773f6da, so `psc_all_fail_raises` applies to today's source; a source
without that binding ends in `UnboundLocalError`, see `psc_max_tries_zero_counterexample`). -/
theorem psc_all_fail_raises_partial (ht : env.traceMode = false) (hinfo : ∃ a ∈ A, (ops.cholEx a).2 ≠ 0)
    (hnan : ∀ a ∈ A, ops.hasNan a = false)
    (hfail : ∀ j, j < effMaxTries env args → batchFailsAfter ops c.base (effJitter env args) A j = true) :
    let o := psdSafeCholesky ops c env args A
    o.result = .error (if effMaxTries env args = 0 ∧ c.jitterNewBound = false then .unboundLocalError else .notPSDError) ∧
    o.calls = effMaxTries env args + 1 ∧
    o.warns = (List.range (effMaxTries env args)).map (jitterAt c.base (effJitter env args)) ∧
    (c.clones = true → o.input = A) := by
  have hn : A.any ops.hasNan = false := List.any_eq_false.2 fun a ha => by simp [hnan a ha]
  dsimp only
  rw [wrapper_result, wrapper_calls, wrapper_warns, wrapper_input,
    core_fail ops c env args A ht (anyInfo_init_true ops A hinfo) hn hfail]
  exact ⟨rfl, rfl, rfl, fun h => if_pos h⟩

/-- The full claim "all tries fail ⇒ NotPSDError" is false for a source that binds `jitter_new` only inside the loop
(`jitterNewBound := false`, the code before /repo 773f6da) when `max_tries = 0`: the message of the final `raise` formats
`jitter_new`, which the loop never bound. -/
theorem psc_max_tries_zero_counterexample :
    (psdSafeCholesky (M := Int) (F := Unit) (α := Int)
      { cholEx := fun a => ((), if a > 0 then 0 else 1), hasNan := fun _ => false, addDiag := fun a x => a + x, transposeF := id }
      { base := 10, clones := true } { settingsJitter := 1, settingsMaxTries := 3, traceMode := false }
      { maxTries := some 0 } [-5]).result = .error .unboundLocalError := by decide

/-- Corollary: with `max_tries > 0` (or `jitter_new` bound) the loud failure is `NotPSDError`. -/
theorem psc_all_fail_raises (ht : env.traceMode = false) (hinfo : ∃ a ∈ A, (ops.cholEx a).2 ≠ 0)
    (hnan : ∀ a ∈ A, ops.hasNan a = false) (hpos : 0 < effMaxTries env args ∨ c.jitterNewBound = true)
    (hfail : ∀ j, j < effMaxTries env args → batchFailsAfter ops c.base (effJitter env args) A j = true) :
    (psdSafeCholesky ops c env args A).result = .error .notPSDError := by
  have h := (psc_all_fail_raises_partial ops c env args A ht hinfo hnan hfail).1
  rw [h]
  rcases hpos with hp | hb
  · rw [if_neg fun hh => Nat.ne_of_gt hp hh.1]
  · rw [if_neg fun hh => Bool.noConfusion (hb.symm.trans hh.2)]

/-- **Warnings ⇔ tries; no warning ⇒ nothing was added**: for every input and every info history the number of warnings is
the number of `cholesky_ex` calls minus one, the `i`-th warning reports `jitter·base^i`, and if there was no warning
`Aprime` equals the input. -/
theorem psc_warns_iff_jitter (ht : env.traceMode = false) :
    let o := psdSafeCholesky ops c env args A
    o.calls = o.warns.length + 1 ∧
    o.warns = (List.range o.warns.length).map (jitterAt c.base (effJitter env args)) ∧
    (o.warns = [] → o.work = A) := by
  dsimp only
  rw [wrapper_calls, wrapper_warns, wrapper_work]
  obtain ⟨t, res, e, -⟩ := core_exit ops c env args A
  rw [e]
  simp only [exitAfter, List.length_map, List.length_range, true_and]
  intro h
  obtain rfl : t = 0 := by simpa using congrArg List.length h
  exact congrArg Outcome.work (exitAfter_zero ops c env args A res)

/-- **The returned factors are `cholesky_ex` of exactly the final perturbed batch, and all of them succeeded** — for every
input, configuration and info history: whenever the function returns (outside trace mode), the `b`-th returned factor is
(the transpose, if `upper`, of) `cholesky_ex(Aprime_b).L` and `cholesky_ex(Aprime_b).info = 0`.  With the contract
"`info = 0` ⇒ the factor is finite" this is "never returns a factor containing NaN or Inf" (`psc_no_nan_out`). -/
theorem psc_result_is_factor_of_work (ht : env.traceMode = false) (ls : List F)
    (h : (psdSafeCholesky ops c env args A).result = .ok ls) :
    ls = (psdSafeCholesky ops c env args A).work.map (fun w => orient ops args.upper (ops.cholEx w).1) ∧
    ∀ w ∈ (psdSafeCholesky ops c env args A).work, (ops.cholEx w).2 = 0 := by
  obtain ⟨l0, hr, rfl⟩ := wrapper_ok ops c env args A h
  rw [wrapper_work]
  obtain ⟨t, res, e, -, hok, -⟩ := core_exit ops c env args A
  rw [e] at hr ⊢
  obtain ⟨rfl, hany⟩ := hok l0 hr
  have hz := (anyInfo_false_iff _).1 (hany ht)
  refine ⟨?_, fun w hw => ?_⟩
  · show (A.map _).map _ = (A.map _).map _
    rw [List.map_map, List.map_map]
    exact List.map_congr_left fun a _ =>
      congrArg (fun r : F × Nat => orient ops args.upper r.1) (memberAfter_consistent ops c.base (effJitter env args) a t)
  · obtain ⟨a, ha, rfl⟩ := List.mem_map.1 hw
    rw [← memberAfter_consistent]
    exact hz _ (List.mem_map_of_mem ha)

/-- **Never a factor containing NaN or Inf**: if `cholesky_ex` returns finite factors whenever `info = 0` and transposition
keeps factors finite, every factor the function returns (outside trace mode) is finite. -/
theorem psc_no_nan_out (ht : env.traceMode = false) (Finite : F → Prop)
    (hfin : ∀ w, (ops.cholEx w).2 = 0 → Finite (ops.cholEx w).1) (htr : ∀ l, Finite l → Finite (ops.transposeF l))
    (ls : List F) (h : (psdSafeCholesky ops c env args A).result = .ok ls) : ∀ l ∈ ls, Finite l := by
  obtain ⟨h1, h2⟩ := psc_result_is_factor_of_work ops c env args A ht ls h
  intro l hl
  rw [h1] at hl
  obtain ⟨w, hw, rfl⟩ := List.mem_map.1 hl
  have := hfin w (h2 w hw)
  unfold orient
  split
  · exact htr _ this
  · exact this

/-- **`upper=True` returns the transposes of the lower factors** and changes nothing else. -/
theorem psc_upper :
    (psdSafeCholesky ops c env { args with upper := true } A).result
      = (psdSafeCholesky ops c env { args with upper := false } A).result.map (fun ls => ls.map ops.transposeF) ∧
    (psdSafeCholesky ops c env { args with upper := true } A).calls = (psdSafeCholesky ops c env { args with upper := false } A).calls ∧
    (psdSafeCholesky ops c env { args with upper := true } A).warns = (psdSafeCholesky ops c env { args with upper := false } A).warns ∧
    (psdSafeCholesky ops c env { args with upper := true } A).work = (psdSafeCholesky ops c env { args with upper := false } A).work := by
  have hcore : psdSafeCholeskyCore ops c env { args with upper := true } A = psdSafeCholeskyCore ops c env { args with upper := false } A := rfl
  refine ⟨?_, ?_, ?_, ?_⟩
  · rw [wrapper_result, wrapper_result, hcore]
    cases (psdSafeCholeskyCore ops c env { args with upper := false } A).result <;> simp [Except.map, orient]
  · rw [wrapper_calls, wrapper_calls, hcore]
  · rw [wrapper_warns, wrapper_warns, hcore]
  · rw [wrapper_work, wrapper_work, hcore]

/-- **With `out=`, the caller's buffer holds exactly what is returned.** -/
theorem psc_out (ho : args.out = true) (ls : List F) (h : (psdSafeCholesky ops c env args A).result = .ok ls) :
    (psdSafeCholesky ops c env args A).outBuf = some ls := by
  obtain ⟨l0, hr, rfl⟩ := wrapper_ok ops c env args A h
  have hob : (psdSafeCholeskyCore ops c env args A).outBuf = some l0 := by
    obtain ⟨t, res, e, -, hok, -⟩ := core_exit ops c env args A
    rw [e] at hr ⊢
    rw [(hok l0 hr).1]
    exact if_pos ho
  unfold psdSafeCholesky
  cases args.upper <;> simp [hr, hob, orient]

/-- **The input is never modified**: if the tensor that is written in place is a clone (`c.clones`, extracted from the
source), the caller's tensor at exit is the caller's tensor at entry — for every input, configuration and history,
including the error exits. -/
theorem psc_input_unchanged (hc : c.clones = true) : (psdSafeCholesky ops c env args A).input = A := by
  rw [wrapper_input]
  obtain ⟨t, res, e, -⟩ := core_exit ops c env args A
  rw [e]
  exact if_pos hc

/-- Without the clone the property fails (so `clones` is load-bearing): a 1-member batch that needs jitter. -/
theorem psc_no_clone_counterexample :
    (psdSafeCholesky (M := Int) (F := Unit) (α := Int)
      { cholEx := fun a => ((), if a > 0 then 0 else 1), hasNan := fun _ => false, addDiag := fun a x => a + x, transposeF := id }
      { base := 10, clones := false } { settingsJitter := 1, settingsMaxTries := 3, traceMode := false }
      {} [0]).input = [1] := by decide

/-- Trace mode returns the first factors unconditionally (one call, no warning) — documented behaviour of the code,
outside the property. -/
theorem psc_trace_mode (ht : env.traceMode = true) :
    (psdSafeCholesky ops c env args A).result = .ok (A.map fun a => orient ops args.upper (ops.cholEx a).1) ∧
    (psdSafeCholesky ops c env args A).calls = 1 ∧ (psdSafeCholesky ops c env args A).warns = [] := by
  rw [wrapper_result, wrapper_calls, wrapper_warns, core_first ops c env args A (by rw [ht, Bool.true_or])]
  exact ⟨congrArg Except.ok List.map_map, rfl, rfl⟩

/-! ### The operator route `op.cholesky(upper)` -/

/-- **Operator route, size ≠ 1**: `op.cholesky(upper)` of a dense-backed operator is `psd_safe_cholesky(dense, upper)` with
jitter and max_tries from the settings — same factors, calls, warnings, perturbed batch and (untouched) input; every theorem
above applies. -/
theorem op_route_eq_psc (sqrtClamp : M → F) (size : Nat) (hs : size ≠ 1) (upper : Bool) :
    (opCholesky ops sqrtClamp size c env upper A).result = (psdSafeCholesky ops c env { upper := upper } A).result ∧
    (opCholesky ops sqrtClamp size c env upper A).calls = (psdSafeCholesky ops c env { upper := upper } A).calls ∧
    (opCholesky ops sqrtClamp size c env upper A).warns = (psdSafeCholesky ops c env { upper := upper } A).warns ∧
    (opCholesky ops sqrtClamp size c env upper A).work = (psdSafeCholesky ops c env { upper := upper } A).work ∧
    (opCholesky ops sqrtClamp size c env upper A).input = (psdSafeCholesky ops c env { upper := upper } A).input := by
  have hop : opCholesky ops sqrtClamp size c env upper A =
      (let o := psdSafeCholesky ops c env {} A
       if upper then { o with result := o.result.map fun ls => ls.map ops.transposeF } else o) := by
    unfold opCholesky; rw [if_neg hs]
  rw [hop]
  cases upper
  · exact ⟨rfl, rfl, rfl, rfl, rfl⟩
  · -- `cholesky(upper=True)` transposes the lower factors, which is what `psd_safe_cholesky(…, upper=True)` returns
    obtain ⟨h1, h2, h3, h4⟩ := psc_upper ops c env {} A
    exact ⟨h1.symm, h2.symm, h3.symm, h4.symm,
      (wrapper_input ops c env {} A).trans (wrapper_input ops c env { upper := true } A).symm⟩

/-- **Operator route, 1×1 shortcut** (`evaluated_mat.clamp_min(0.0).sqrt()` in `LinearOperator._cholesky`): no `cholesky_ex`
call, no jitter, no warning, never an error, input untouched — `psd_safe_cholesky` is not involved for 1×1 operators. -/
theorem op_route_scalar_shortcut (sqrtClamp : M → F) (upper : Bool) :
    (opCholesky ops sqrtClamp 1 c env upper A).result = .ok (A.map fun a => orient ops upper (sqrtClamp a)) ∧
    (opCholesky ops sqrtClamp 1 c env upper A).calls = 0 ∧ (opCholesky ops sqrtClamp 1 c env upper A).warns = [] ∧
    (opCholesky ops sqrtClamp 1 c env upper A).input = A := by
  unfold opCholesky
  cases upper <;> simp [Except.map, orient, Function.comp_def]

/-- The *function* has no size shortcut: on 1×1 members (any `M`) it behaves as on every other size — in particular a
non-PD, NaN-free 1×1 batch that fails every try raises (instance of `psc_all_fail_raises_partial`), shown here on the concrete
batch `[-500, 4]` of 1×1 members with jitter 1 and 3 tries: four calls, three warnings, NotPSDError. -/
theorem psc_scalar_members_no_shortcut :
    let o := psdSafeCholesky (M := Int) (F := Int) (α := Int)
      { cholEx := fun a => (a, if a > 0 then 0 else 1), hasNan := fun _ => false, addDiag := fun a x => a + x, transposeF := id }
      { base := 10, clones := true, jitterNewBound := true } { settingsJitter := 1, settingsMaxTries := 3, traceMode := false } {} [-500, 4]
    o.result = .error .notPSDError ∧ o.calls = 4 ∧ o.warns = [1, 10, 100] := by decide

/-! ### Per-member theorems (what `memberAfter … (k+1)` is) -/

variable (base : Nat) (jitter : α)

/-- **Cumulative jitter telescopes**: a member that failed the first call and the tries `0 … k-1` carries exactly
`jitter·base^k` on its diagonal after try `k` (not the sum of all increments), and its `L, info` are those of
exactly that matrix. -/
theorem psc_cumulative (hl : Lawful ops) (a : M) (k : Nat) (h0 : 0 < (ops.cholEx a).2)
    (hf : ∀ j, j < k → 0 < (ops.cholEx (ops.addDiag a (jitter * (base : α) ^ j))).2) :
    memberAfter ops base jitter a (k + 1)
      = (ops.addDiag a (jitter * (base : α) ^ k), ops.cholEx (ops.addDiag a (jitter * (base : α) ^ k))) := by
  simpa only [jitterAt_eq] using memberAfter_cumulative ops base jitter hl a k h0 (by simpa only [jitterAt_eq] using hf)

/-- **Only members that failed are perturbed**: a member with `info = 0` at the first call is never changed and its
factor is the factor of `A` itself, however long the loop runs for the other members. -/
theorem psc_only_failed (hl : Lawful ops) (a : M) (h0 : (ops.cholEx a).2 = 0) (m : Nat) :
    memberAfter ops base jitter a m = (a, ops.cholEx a) :=
  memberAfter_pd ops base jitter hl a h0 m

/-- **A member is frozen once it succeeds** (masking by the *current* info): after its `info` became 0 at some
point of the loop, later tries leave its matrix, factor and info as they are. -/
theorem psc_frozen_after_success (hl : Lawful ops) (a : M) (k m : Nat) (h0 : (memberAfter ops base jitter a k).2.2 = 0) :
    memberAfter ops base jitter a (k + m) = memberAfter ops base jitter a k :=
  memberAfter_frozen ops base jitter hl a k h0 m

/-- **Per-member minimal jitter**: a member whose `info` is 0 after try `k` is either unperturbed (it never failed), or
carries `jitter·base^j` where `j ≤ k` is the *least* exponent for which `cholesky_ex` succeeds on `A + jitter·base^j·I`;
its returned factor is `cholesky_ex` of exactly that matrix. -/
theorem psc_minimal_i (hl : Lawful ops) (a : M) (k : Nat) (hz : (memberAfter ops base jitter a (k + 1)).2.2 = 0) :
    ((ops.cholEx a).2 = 0 ∧ memberAfter ops base jitter a (k + 1) = (a, ops.cholEx a)) ∨
    (0 < (ops.cholEx a).2 ∧ ∃ j, j ≤ k ∧ (∀ i, i < j → 0 < (ops.cholEx (ops.addDiag a (jitter * (base : α) ^ i))).2)
      ∧ (ops.cholEx (ops.addDiag a (jitter * (base : α) ^ j))).2 = 0
      ∧ memberAfter ops base jitter a (k + 1)
          = (ops.addDiag a (jitter * (base : α) ^ j), ops.cholEx (ops.addDiag a (jitter * (base : α) ^ j)))) := by
  have h := memberAfter_final ops base jitter hl a (k + 1) hz
  simp only [jitterAt_eq, Nat.lt_succ_iff] at h
  exact h

/-- **Minimality in terms of positive definiteness, and the factor really factorises the perturbed matrix**: under the
`cholesky_ex` contract (`info = 0 ↔ PD`, `info = 0 → IsFactor L W`), a member that ends with `info = 0` is PD and returned
with a factor of `A` itself, or is not PD and returned with a factor of `A + jitter·base^j·I` for the least `j` making that PD. -/
theorem psc_factor_of_perturbed (hl : Lawful ops) (PD : M → Prop) (IsFactor : F → M → Prop)
    (hpd : ∀ w, (ops.cholEx w).2 = 0 ↔ PD w) (hfac : ∀ w, (ops.cholEx w).2 = 0 → IsFactor (ops.cholEx w).1 w)
    (a : M) (k : Nat) (hz : (memberAfter ops base jitter a (k + 1)).2.2 = 0) :
    (PD a ∧ (memberAfter ops base jitter a (k + 1)).1 = a ∧ IsFactor (memberAfter ops base jitter a (k + 1)).2.1 a) ∨
    (¬ PD a ∧ ∃ j, j ≤ k ∧ (∀ i, i < j → ¬ PD (ops.addDiag a (jitter * (base : α) ^ i)))
      ∧ PD (ops.addDiag a (jitter * (base : α) ^ j))
      ∧ (memberAfter ops base jitter a (k + 1)).1 = ops.addDiag a (jitter * (base : α) ^ j)
      ∧ IsFactor (memberAfter ops base jitter a (k + 1)).2.1 (ops.addDiag a (jitter * (base : α) ^ j))) := by
  rcases psc_minimal_i ops base jitter hl a k hz with ⟨h0, he⟩ | ⟨h0, j, hj, hf, hs, he⟩
  · left
    rw [he]
    exact ⟨(hpd a).1 h0, rfl, hfac a h0⟩
  · right
    refine ⟨fun h => Nat.ne_of_gt h0 ((hpd a).2 h), j, hj, fun i hi h => Nat.ne_of_gt (hf i hi) ((hpd _).2 h),
      (hpd _).1 hs, ?_, ?_⟩
    · rw [he]
    · rw [he]; exact hfac _ hs

/-! ### Concrete members: square matrices -/

/-- `A.diagonal().add_(c)` is `A + c·I`, and it satisfies the two laws. -/
theorem addDiag_eq_add_smul_one {R : Type} [Ring R] {n : Nat} (A : Mat R n n) (x : R) :
    Matrix.of (addDiag A x) = Matrix.of A + x • (1 : Matrix (Fin n) (Fin n) R) := by
  ext i j
  by_cases h : i = j <;> simp [addDiag, h]

theorem matOps_lawful {R G : Type} [Ring R] {n : Nat} (cholEx : Mat R n n → G × Nat) (isNan : R → Bool) (tr : G → G) :
    Lawful (matOps cholEx isNan tr) where
  addDiag_zero w := by funext i j; by_cases h : i = j <;> simp [matOps, addDiag, h]
  addDiag_add w a b := by funext i j; by_cases h : i = j <;> simp [matOps, addDiag, h, add_assoc]

/-- **Matrix form**: with `cholesky_ex` meeting `info = 0 → L Lᵀ = W`, every member that ends with `info = 0` after try
`k` is returned with `L Lᵀ = A` (it never failed) or `L Lᵀ = A + (jitter·base^j)·I` for the least `j ≤ k` at which
`cholesky_ex` succeeds — for every size `n`. -/
theorem psc_factor_of_perturbed_matrix {R : Type} [CommRing R] {n : Nat}
    (cholEx : Mat R n n → Matrix (Fin n) (Fin n) R × Nat) (isNan : R → Bool)
    (hfac : ∀ w, (cholEx w).2 = 0 → (cholEx w).1 * (cholEx w).1.transpose = Matrix.of w)
    (jit : R) (a : Mat R n n) (k : Nat)
    (hz : (memberAfter (matOps cholEx isNan Matrix.transpose) base jit a (k + 1)).2.2 = 0) :
    let L := (memberAfter (matOps cholEx isNan Matrix.transpose) base jit a (k + 1)).2.1
    ((cholEx a).2 = 0 ∧ L * L.transpose = Matrix.of a) ∨
    (0 < (cholEx a).2 ∧ ∃ j, j ≤ k ∧ (∀ i, i < j → 0 < (cholEx (addDiag a (jit * (base : R) ^ i))).2) ∧
      L * L.transpose = Matrix.of a + (jit * (base : R) ^ j) • (1 : Matrix (Fin n) (Fin n) R)) := by
  intro L
  rcases psc_minimal_i (matOps cholEx isNan Matrix.transpose) base jit (matOps_lawful cholEx isNan _) a k hz with
    ⟨h0, he⟩ | ⟨h0, j, hj, hf, hs, he⟩
  · left
    refine ⟨h0, ?_⟩
    simp only [L, he]
    exact hfac a h0
  · right
    refine ⟨h0, j, hj, hf, ?_⟩
    simp only [L, he]
    rw [← addDiag_eq_add_smul_one]
    exact hfac _ hs

/-! ### The weak `cholesky_ex` contract: `info = 0 ⇒ L Lᵀ = A′ and L finite` (no ⇔ with positive definiteness)

Which theorem needs which part of the contract of `torch.linalg.cholesky_ex`:
* NOTHING about `cholesky_ex` (any function `M → F × Nat`): `psc_pd_exact`, `psc_nan_raises`, `psc_minimal_try`, `psc_all_fail_raises(_partial)`,
  `psc_warns_iff_jitter`, `psc_result_is_factor_of_work`, `psc_upper`, `psc_out`, `psc_input_unchanged`, `psc_trace_mode`, `op_route_*`,
  `psc_cumulative`, `psc_only_failed`, `psc_frozen_after_success`, `psc_minimal_i`, `psc_work_minimal`, `psc_fail_every_try`.
* WEAK contract only (`info = 0 ⇒ IsFactor L W ∧ Finite L`): `psc_weak_contract`, `psc_weak_contract_matrix`, `psc_weak_contract_psd`,
  `psc_no_nan_out`, `psc_factor_of_perturbed_matrix`.
* COMPLETENESS only (`PD W ⇒ info = 0`): `psc_pd_exact_of_complete` (PD input ⇒ exact factor), `psc_minimal_of_complete` (the exponent is
  minimal in terms of positive definiteness), `psc_notpsd_genuine`, `psc_no_notpsd_if_repairable`.
* SOUNDNESS only (`info = 0 ⇒ PD W`): `psc_work_pd_of_sound` (the perturbed matrix that is factorised is PD).
* the full ⇔: only the combined statement `psc_factor_of_perturbed`.
`psc_nan_raises_contract` needs "NaN member ⇒ info ≠ 0". -/

/-- **Whenever the function returns, every member of the final `Aprime` is a minimal perturbation of its input member**:
`cholesky_ex` succeeds on it, and it is the input member itself (which never failed) or the input member plus
`jitter·base^j` for the least `j < max_tries` at which `cholesky_ex` succeeds.  No assumption on `cholesky_ex`. -/
theorem psc_work_minimal (hl : Lawful ops) (ht : env.traceMode = false) (ls : List F)
    (h : (psdSafeCholesky ops c env args A).result = .ok ls) :
    List.Forall₂ (MinimalPerturbation ops c.base (effJitter env args) (effMaxTries env args)) A
      (psdSafeCholesky ops c env args A).work := by
  obtain ⟨l0, hr, -⟩ := wrapper_ok ops c env args A h
  rw [wrapper_work]
  exact core_ok_work_minimal ops c env args A hl ht l0 hr

/-- **Main theorem under the weak contract**: assume only that `cholesky_ex` returning `info = 0` on `W` gives a factor of `W`
that is finite.  Then whenever `psd_safe_cholesky` returns, the `b`-th returned factor is (the transpose, if `upper`, of) a finite
factor of a matrix `W_b` that is a minimal perturbation of `A_b`: `A_b` itself if it never failed, else `A_b + jitter·base^j·I`
for the least `j < max_tries` at which `cholesky_ex` succeeds.  Every batch, history, `max_tries`, jitter. -/
theorem psc_weak_contract (hl : Lawful ops) (ht : env.traceMode = false) (IsFactor : F → M → Prop) (Finite : F → Prop)
    (hw : ∀ w, (ops.cholEx w).2 = 0 → IsFactor (ops.cholEx w).1 w ∧ Finite (ops.cholEx w).1)
    (ls : List F) (h : (psdSafeCholesky ops c env args A).result = .ok ls) :
    List.Forall₂ (fun a l => ∃ w, MinimalPerturbation ops c.base (effJitter env args) (effMaxTries env args) a w ∧
        l = orient ops args.upper (ops.cholEx w).1 ∧ IsFactor (ops.cholEx w).1 w ∧ Finite (ops.cholEx w).1) A ls := by
  obtain ⟨h1, _⟩ := psc_result_is_factor_of_work ops c env args A ht ls h
  rw [h1, List.forall₂_map_right_iff]
  exact (psc_work_minimal ops c env args A hl ht ls h).imp fun a w hm => ⟨w, hm, rfl, hw w hm.1⟩

/-- **Weak contract, matrices of any size `n`**: with `info = 0 ⇒ L Lᵀ = W ∧ Finite L`, every returned factor `l` is finite and
`l lᵀ = A_b + t·I` (`lᵀ l` if `upper`) with `t = 0` or `t = jitter·base^j`, `j < max_tries`. -/
theorem psc_weak_contract_matrix {R : Type} [CommRing R] {n : Nat}
    (cholEx : Mat R n n → Matrix (Fin n) (Fin n) R × Nat) (isNan : R → Bool) (Finite : Matrix (Fin n) (Fin n) R → Prop)
    (hfac : ∀ w, (cholEx w).2 = 0 → (cholEx w).1 * (cholEx w).1.transpose = Matrix.of w ∧ Finite (cholEx w).1)
    (hfinT : ∀ L, Finite L → Finite L.transpose)
    (envR : Env R) (argsR : Args R) (As : List (Mat R n n)) (ht : envR.traceMode = false) (ls : List (Matrix (Fin n) (Fin n) R))
    (h : (psdSafeCholesky (matOps cholEx isNan Matrix.transpose) c envR argsR As).result = .ok ls) :
    List.Forall₂ (fun a l => Finite l ∧ ∃ t : R, (t = 0 ∨ ∃ j, j < effMaxTries envR argsR ∧ t = effJitter envR argsR * (c.base : R) ^ j) ∧
        (if argsR.upper then l.transpose * l else l * l.transpose) = Matrix.of a + t • (1 : Matrix (Fin n) (Fin n) R)) As ls := by
  have := psc_weak_contract (matOps cholEx isNan Matrix.transpose) c envR argsR As (matOps_lawful cholEx isNan _) ht
    (fun L w => L * L.transpose = Matrix.of w) Finite hfac ls h
  refine this.imp fun a l ⟨w, hm, hl, hf, hfin⟩ => ?_
  have hor : Finite l ∧ (if argsR.upper then l.transpose * l else l * l.transpose) = Matrix.of w := by
    subst hl
    unfold orient
    cases argsR.upper
    · exact ⟨hfin, hf⟩
    · refine ⟨hfinT _ hfin, ?_⟩
      show (cholEx w).1.transpose.transpose * (cholEx w).1.transpose = Matrix.of w
      rw [Matrix.transpose_transpose]
      exact hf
  refine ⟨hor.1, ?_⟩
  rcases hm.2 with ⟨_, rfl⟩ | ⟨_, j, hj, _, rfl⟩
  · exact ⟨0, Or.inl rfl, by rw [hor.2, zero_smul, add_zero]⟩
  · refine ⟨_, Or.inr ⟨j, hj, rfl⟩, ?_⟩
    rw [hor.2]
    exact addDiag_eq_add_smul_one a _

/-- **The matrix that is factorised is positive semidefinite — derived from the weak contract, not assumed** (ordered scalars with
trivial star, e.g. ℝ or ℚ): with only `info = 0 ⇒ L Lᵀ = W`, whenever the function returns, every member satisfies
`A_b + t·I` PSD with `t = 0` or `t = jitter·base^j`, `j < max_tries` — so a returned factor certifies semidefiniteness of the
(perturbed) member without the soundness half of the `cholesky_ex` contract. -/
theorem psc_weak_contract_psd {K : Type} [CommRing K] [PartialOrder K] [StarRing K] [StarOrderedRing K] [TrivialStar K] {n : Nat}
    (cholEx : Mat K n n → Matrix (Fin n) (Fin n) K × Nat) (isNan : K → Bool)
    (hfac : ∀ w, (cholEx w).2 = 0 → (cholEx w).1 * (cholEx w).1.transpose = Matrix.of w)
    (envR : Env K) (argsR : Args K) (As : List (Mat K n n)) (ht : envR.traceMode = false) (ls : List (Matrix (Fin n) (Fin n) K))
    (h : (psdSafeCholesky (matOps cholEx isNan Matrix.transpose) c envR argsR As).result = .ok ls) :
    List.Forall₂ (fun a _ => ∃ t : K, (t = 0 ∨ ∃ j, j < effMaxTries envR argsR ∧ t = effJitter envR argsR * (c.base : K) ^ j) ∧
        (Matrix.of a + t • (1 : Matrix (Fin n) (Fin n) K)).PosSemidef) As ls := by
  have := psc_weak_contract_matrix c cholEx isNan (fun _ => True) (fun w hw => ⟨hfac w hw, trivial⟩) (fun _ _ => trivial)
    envR argsR As ht ls h
  refine this.imp fun a l ⟨_, t, ht', he⟩ => ⟨t, ht', ?_⟩
  rw [← he]
  split
  · have := posSemidef_self_mul_transpose l.transpose
    rwa [Matrix.transpose_transpose] at this
  · exact posSemidef_self_mul_transpose l

example : ∃ (_ : CommRing ℝ) (_ : PartialOrder ℝ) (_ : StarRing ℝ) (_ : StarOrderedRing ℝ), TrivialStar ℝ := ⟨_, _, _, inferInstance, inferInstance⟩

/-- **Loud failure is justified, no assumption on `cholesky_ex`**: whenever the function raises `NotPSDError` (or the
`UnboundLocalError` of a source that does not bind `jitter_new` before the loop), then for EVERY try `j < max_tries` some member failed without jitter and with each of
`jitter·base^0 … jitter·base^j` — in particular (with `j = max_tries − 1`) with the largest allowed jitter. -/
theorem psc_fail_every_try (hl : Lawful ops) (ht : env.traceMode = false) (e : Err) (he : e ≠ .nanError)
    (h : (psdSafeCholesky ops c env args A).result = .error e) :
    ∀ j, j < effMaxTries env args → ∃ a ∈ A, 0 < (ops.cholEx a).2 ∧
      ∀ i, i ≤ j → 0 < (ops.cholEx (ops.addDiag a (effJitter env args * (c.base : α) ^ i))).2 :=
  core_fail_every_try ops c env args A hl e he (wrapper_error ops c env args A h)

/-- **Completeness (`PD ⇒ info = 0`) is all that "PD input ⇒ exact factor" needs.** -/
theorem psc_pd_exact_of_complete (PD : M → Prop) (hcomp : ∀ w, PD w → (ops.cholEx w).2 = 0) (hpd : ∀ a ∈ A, PD a) :
    (psdSafeCholesky ops c env args A).result = .ok (A.map fun a => orient ops args.upper (ops.cholEx a).1) ∧
    (psdSafeCholesky ops c env args A).calls = 1 ∧ (psdSafeCholesky ops c env args A).warns = [] ∧
    (psdSafeCholesky ops c env args A).work = A ∧ (psdSafeCholesky ops c env args A).input = A :=
  psc_pd_exact ops c env args A fun a ha => hcomp a (hpd a ha)

/-- **Completeness is all that minimality in terms of positive definiteness needs**: whenever the function returns, each member
of `Aprime` is the input member, or the input member is not PD and carries `jitter·base^j` where no smaller exponent makes it PD. -/
theorem psc_minimal_of_complete (hl : Lawful ops) (ht : env.traceMode = false) (PD : M → Prop)
    (hcomp : ∀ w, PD w → (ops.cholEx w).2 = 0) (ls : List F) (h : (psdSafeCholesky ops c env args A).result = .ok ls) :
    List.Forall₂ (fun a w => w = a ∨ (¬ PD a ∧ ∃ j, j < effMaxTries env args ∧
        (∀ i, i < j → ¬ PD (ops.addDiag a (effJitter env args * (c.base : α) ^ i))) ∧
        w = ops.addDiag a (effJitter env args * (c.base : α) ^ j))) A (psdSafeCholesky ops c env args A).work := by
  refine (psc_work_minimal ops c env args A hl ht ls h).imp fun a w hm => ?_
  rcases hm.2 with ⟨_, rfl⟩ | ⟨h0, j, hj, hf, rfl⟩
  · exact Or.inl rfl
  · exact Or.inr ⟨fun hp => Nat.ne_of_gt h0 (hcomp a hp), j, hj, fun i hi hp => Nat.ne_of_gt (hf i hi) (hcomp _ hp), rfl⟩

/-- **Soundness (`info = 0 ⇒ PD`) is all that "the factorised perturbed matrix is PD" needs.** -/
theorem psc_work_pd_of_sound (ht : env.traceMode = false) (PD : M → Prop)
    (hsound : ∀ w, (ops.cholEx w).2 = 0 → PD w) (ls : List F) (h : (psdSafeCholesky ops c env args A).result = .ok ls) :
    ∀ w ∈ (psdSafeCholesky ops c env args A).work, PD w :=
  fun w hw => hsound w ((psc_result_is_factor_of_work ops c env args A ht ls h).2 w hw)

/-- **`NotPSDError` is genuine (completeness only)**: if it is raised, then for every try `j < max_tries` some member is not PD and
stays not PD with each of the jitters `jitter·base^0 … jitter·base^j`. -/
theorem psc_notpsd_genuine (hl : Lawful ops) (ht : env.traceMode = false) (PD : M → Prop)
    (hcomp : ∀ w, PD w → (ops.cholEx w).2 = 0) (h : (psdSafeCholesky ops c env args A).result = .error .notPSDError) :
    ∀ j, j < effMaxTries env args → ∃ a ∈ A, ¬ PD a ∧ ∀ i, i ≤ j → ¬ PD (ops.addDiag a (effJitter env args * (c.base : α) ^ i)) := by
  intro j hj
  obtain ⟨a, ha, h0, hf⟩ := psc_fail_every_try ops c env args A hl ht _ (by decide) h j hj
  exact ⟨a, ha, fun hp => Nat.ne_of_gt h0 (hcomp a hp), fun i hi hp => Nat.ne_of_gt (hf i hi) (hcomp _ hp)⟩

/-- **No spurious `NotPSDError` (completeness only)**: if some allowed jitter level `jitter·base^j`, `j < max_tries`, makes every member
PD that is not PD already, the function does not raise `NotPSDError`. -/
theorem psc_no_notpsd_if_repairable (hl : Lawful ops) (ht : env.traceMode = false) (PD : M → Prop)
    (hcomp : ∀ w, PD w → (ops.cholEx w).2 = 0) (j : Nat) (hj : j < effMaxTries env args)
    (hrep : ∀ a ∈ A, PD a ∨ PD (ops.addDiag a (effJitter env args * (c.base : α) ^ j))) :
    (psdSafeCholesky ops c env args A).result ≠ .error .notPSDError := by
  intro h
  obtain ⟨a, ha, hn, hf⟩ := psc_notpsd_genuine ops c env args A hl ht PD hcomp h j hj
  rcases hrep a ha with hp | hp
  · exact hn hp
  · exact hf j (Nat.le_refl _) hp

/-- The weak contract (and completeness, soundness) is satisfiable by a non-trivial instance: 1×1 integer "matrices",
`PD a := a > 0`, factor = the matrix. -/
example :
    let ops' : Ops Int Int Int := { cholEx := fun a => (a, if a > 0 then 0 else 1), hasNan := fun _ => false, addDiag := fun a x => a + x, transposeF := id }
    (∀ w, (ops'.cholEx w).2 = 0 → (ops'.cholEx w).1 = w ∧ True) ∧ (∀ w, w > 0 → (ops'.cholEx w).2 = 0) ∧
    (∀ w, (ops'.cholEx w).2 = 0 → w > 0) := by
  refine ⟨fun w _ => ⟨rfl, trivial⟩, fun w h => by simp [h], fun w h => ?_⟩
  by_contra hn
  simp [hn] at h

/-! ### Obligations on the constants and structure extracted from today's source -/

/-- The schedule in the source is `jitter * 10**i`, the increment is the masked difference to the previous try
starting from 0, and the mask is `info > 0` (or an equivalent test on a non-negative `info`). -/
theorem gen_schedule :
    C16.base = 10 ∧ C16.expOffset = 0 ∧ C16.jitterPrevInit = 0 ∧ C16.cumulative = true ∧ C16.loopBound = "max_tries" ∧
    C16.maskVar = "info" ∧ (C16.maskOp, C16.maskThreshold) ∈ [("Gt", (0 : Int)), ("NotEq", 0), ("GtE", 1)] :=
  ⟨rfl, rfl, rfl, rfl, rfl, rfl, .head _⟩  -- today's mask is `info > 0`, the first of the three accepted forms

/-- The tensor that is written in place and re-factorised is `A.clone()`; the first call is on `A` itself. -/
theorem gen_clones : C16.clones = true ∧ C16.firstCallArg = "A" := ⟨rfl, rfl⟩

/-- NaN screen before the loop on the input, raising `NanError`; `NotPSDError` after it; one `NumericalWarning` per try. -/
theorem gen_errors :
    C16.raises = ["NanError", "NotPSDError"] ∧ C16.nanScreenBeforeLoop = true ∧ C16.nanSource = "torch.isnan(A)" ∧
    C16.warnCategory = "NumericalWarning" ∧ C16.warnInLoop = true := ⟨rfl, rfl, rfl, rfl, rfl⟩

/-- Defaults come from the settings by dtype, and the settings defaults are the documented ones. -/
theorem gen_defaults :
    C16.jitterDefaultExpr = "settings.cholesky_jitter.value(A.dtype)" ∧
    C16.maxTriesDefaultExpr = "settings.cholesky_max_tries.value()" ∧
    C16.jitterFloat = C16.docJitterFloat ∧ C16.jitterDouble = C16.docJitterDouble ∧ C16.maxTries = C16.docMaxTries ∧
    0 < C16.jitterFloat ∧ 0 < C16.jitterDouble ∧ 0 < C16.maxTries ∧
    C16.wrapperParams = [("A", "<required>"), ("upper", "False"), ("out", "None"), ("jitter", "None"), ("max_tries", "None")] :=
  ⟨rfl, rfl, rfl, rfl, rfl, by decide +kernel, by decide +kernel, by decide, rfl⟩

/-- Neither function has an exit (size shortcut or other) before the first `cholesky_ex` / before the call of the core, the
wrapper forwards all arguments; the only size shortcut is the 1×1 one of `LinearOperator._cholesky` modelled by `opCholesky`,
and `cholesky(upper)` transposes the lower factor. -/
theorem gen_no_shortcut :
    C16.coreEarlyExits = 0 ∧ C16.wrapperEarlyExits = 0 ∧
    C16.wrapperCoreCall = "_psd_safe_cholesky(A, out=out, jitter=jitter, max_tries=max_tries)" ∧
    C16.opShortcutTest = "evaluated_mat.size(-1) == 1" ∧
    C16.opShortcutReturn = "TriangularLinearOperator(evaluated_mat.clamp_min(0.0).sqrt())" ∧
    C16.opPscCall = "psd_safe_cholesky(evaluated_mat, upper=upper)" ∧ C16.opCholeskyCallsLower = true :=
  ⟨rfl, rfl, rfl, rfl, rfl, rfl, rfl⟩

/-! ### The statement skeleton of the two function bodies (AST-derived, `LinOp/C16/Skeleton.lean`) -/

/-- The body of `_psd_safe_cholesky` in today's source consists — in this order, with nothing else except effect-free
logging — of: `out` packing, first `cholesky_ex` on the input, exit test (trace mode or no info), NaN scan of the input, `NanError`
raise, the two defaults, clone, `jitter_prev` initialisation, the loop over `range(max_tries)` with body schedule / masked increment /
in-place write on the clone's diagonal / `jitter_prev` update / `NumericalWarning` / `cholesky_ex` on the clone / exit test, and the
final `NotPSDError` raise.  This is the statement order the model `psdSafeCholeskyCore` mirrors. -/
theorem gen_skeleton_core : C16.coreSkeleton = expectedCore C16.jitterNewBound := rfl

/-- The body of `psd_safe_cholesky`: call of the core forwarding `A, out, jitter, max_tries`; under `if upper:` the in-place transpose
of `out` if given, else the transpose of the result; `return` of the result.  Mirrored by `psdSafeCholesky`. -/
theorem gen_skeleton_wrapper : C16.wrapperSkeleton = expectedWrapper := rfl

theorem splitSk_expectedCore (b : Bool) :
    splitSk (expectedCore b) =
      (["outpack", "chol(input)", "return-if(trace|noinfo)", "nanscan(input)", "raise-if(nan):NanError", "default(jitter)",
        "default(max_tries)", "clone", if b then "init(jitter_new,jitter_prev=0)" else "init(jitter_prev=0)"],
       ["for(range(max_tries))"],
       ["sched", "incr(masked)", "write(clone.diagonal)", "prev", "warn:NumericalWarning", "chol(clone)", "return-if(noinfo)"],
       ["raise:NotPSDError"]) := by
  revert b; decide +kernel

/-- **The control flow of the pinned skeleton agrees with the model's counters, for every number of tries**: the statement sequence
executed when the loop runs `k` times (returning from inside, or falling through to the raise) contains exactly one first attempt
on the input, one clone, `k` schedule/increment/write steps, `k` warnings and `k` retries on the clone — i.e. `k + 1` `cholesky_ex`
calls and `k` warnings, as `Outcome.calls` / `Outcome.warns` of the model (`psc_minimal_try`, `psc_all_fail_raises_partial`,
`psc_warns_iff_jitter`) — and the final raise is reached only in the fall-through case. -/
theorem skeleton_trace_counts (b : Bool) (k : Nat) (o : String) (ho : o = "ok" ∨ o = "fail") :
    (roleTrace (expectedCore b) o k).count "chol(input)" = 1 ∧ (roleTrace (expectedCore b) o k).count "clone" = 1 ∧
    (roleTrace (expectedCore b) o k).count "chol(clone)" = k ∧ (roleTrace (expectedCore b) o k).count "warn:NumericalWarning" = k ∧
    (roleTrace (expectedCore b) o k).count "write(clone.diagonal)" = k ∧ (roleTrace (expectedCore b) o k).count "incr(masked)" = k ∧
    (roleTrace (expectedCore b) o k).count "raise:NotPSDError" = (if o = "fail" then 1 else 0) := by
  -- for each of the seven roles: occurrences before the loop, in header + body, in header + statements after the loop
  have h : (["chol(input)", "clone", "chol(clone)", "warn:NumericalWarning", "write(clone.diagonal)", "incr(masked)",
        "raise:NotPSDError"].map fun x =>
      let p := splitSk (expectedCore b)
      (p.1.count x, (p.2.1 ++ p.2.2.1).count x, (p.2.1 ++ p.2.2.2).count x))
      = [(1, 0, 0), (1, 0, 0), (0, 1, 0), (0, 1, 0), (0, 1, 0), (0, 1, 0), (0, 0, 1)] := by
    rw [splitSk_expectedCore]
    revert b; decide +kernel
  simp only [List.map_cons, List.map_nil, List.cons.injEq, Prod.mk.injEq, and_true] at h
  unfold roleTrace
  rcases ho with rfl | rfl
  · simp only [count_assemble_ok, h]
    simp
  · simp only [count_assemble_fail, h]
    simp

/-- Early exits of the skeleton: returning at the first exit test executes no NaN scan, clone or loop statement; the NaN raise
happens after exactly one `cholesky_ex` and before the clone. -/
theorem skeleton_trace_early (b : Bool) (k : Nat) :
    roleTrace (expectedCore b) "first" k = ["outpack", "chol(input)", "return-if(trace|noinfo)"] ∧
    roleTrace (expectedCore b) "nan" k = ["outpack", "chol(input)", "return-if(trace|noinfo)", "nanscan(input)", "raise-if(nan):NanError"] := by
  unfold roleTrace
  rw [splitSk_expectedCore, assemble_first, assemble_nan]
  revert b; decide +kernel

/-- The input-immutability theorem applies to today's source. -/
theorem psc_input_unchanged_generated (base : Nat) :
    (psdSafeCholesky ops { base := base, clones := C16.clones, jitterNewBound := C16.jitterNewBound } env args A).input = A :=
  psc_input_unchanged ops _ env args A gen_clones.1


/-! ### State semantics of the skeleton: translated body ⇒ model, by theorem

`LinOp/C16/SkSem.lean` gives every statement role a meaning as a transformer of the Python-level state (locals, the aliasing of
`Aprime` with the caller's tensor, call counter, warning log) and runs ANY skeleton in the order of its statements (`runSkeleton`).
The theorems below are unbounded: every batch (length and content), every `cholesky_ex` (= every info history), every NaN test,
every `jitter`, `max_tries`, base, settings/trace state, `out`. -/

/-- **Running the pinned skeleton statement by statement IS the model**: for every input the state-semantics interpreter applied
to `expectedCore b` terminates without getting stuck and produces exactly the `Outcome` (result / error, `cholesky_ex` calls,
warning log, final `Aprime`, caller's tensor, `out` buffer) of `psdSafeCholeskyCore` with `clones := true`. -/
theorem skeleton_semantics_eq_model (base : Nat) (b : Bool) :
    runSkeleton ops base env args A (expectedCore b) =
      some (psdSafeCholeskyCore ops { base := base, clones := true, jitterNewBound := b } env args A) := by
  rw [runSkeleton_of_parse _ _ _ _ _ (parse_expected b).1]
  exact run_expectedProg ops base env args A b true

/-- **The semantics is sensitive to the statements** (it is not a constant function of the skeleton): the same skeleton without its
`clone` statement runs to the model with `clones := false` — the one for which `psc_no_clone_counterexample` shows that the
caller's tensor is modified. -/
theorem skeleton_noclone_semantics_eq_model (base : Nat) (b : Bool) :
    runSkeleton ops base env args A (expectedCoreNoClone b) =
      some (psdSafeCholeskyCore ops { base := base, clones := false, jitterNewBound := b } env args A) := by
  rw [runSkeleton_of_parse _ _ _ _ _ (parse_expected b).2]
  exact run_expectedProg ops base env args A b false

/-- **Translated body ⇒ model** (the analogue of C17's `model_refines_translated_bodies`): the skeleton that the `ast` translator
extracted from today's `_psd_safe_cholesky`, executed by the state-semantics interpreter with the extracted base, is the model
instantiated with the extracted constants — the object all `psc_*` theorems speak about.  Uses the generated obligations
`gen_skeleton_core` and `gen_clones` only to identify the extracted skeleton; everything else is proof. -/
theorem model_refines_translated_body :
    runSkeleton ops C16.base env args A C16.coreSkeleton =
      some (psdSafeCholeskyCore ops { base := C16.base, clones := C16.clones, jitterNewBound := C16.jitterNewBound } env args A) := by
  rw [gen_skeleton_core, gen_clones.1]
  exact skeleton_semantics_eq_model ops env args A C16.base C16.jitterNewBound

/-- **Running the pinned WRAPPER skeleton is `psdSafeCholesky`**: the nested `if upper: (if out: in-place transpose of out / else:
transpose of the result)` and the `return`, interpreted statement by statement on the outcome of the core call, give exactly the
model of the public function — for every outcome of the core (returned or raised), `upper`, `out`. -/
theorem wrapper_semantics_eq_model :
    runWrapperSk ops args expectedWrapper (psdSafeCholeskyCore ops c env args A) = some (psdSafeCholesky ops c env args A) := by
  rw [wrapper_semantics_of_core ops args _ (core_outBuf_none ops c env args A)]
  rfl

/-- **Both translated bodies ⇒ model**: interpret the extracted skeleton of `_psd_safe_cholesky`, feed its outcome to the interpreted
extracted skeleton of `psd_safe_cholesky`: the result is `psdSafeCholesky` with the extracted constants, for every input. -/
theorem model_refines_translated_bodies :
    (runSkeleton ops C16.base env args A C16.coreSkeleton).bind (runWrapperSk ops args C16.wrapperSkeleton) =
      some (psdSafeCholesky ops { base := C16.base, clones := C16.clones, jitterNewBound := C16.jitterNewBound } env args A) := by
  rw [model_refines_translated_body, Option.bind_some, gen_skeleton_wrapper]
  exact wrapper_semantics_eq_model ops _ env args A

/-- the wrapper interpreter really executes and distinguishes the branches: `upper` with and without `out=` (transpose = negation
here, to make it visible), and a wrapper that transposes `out` in place although no `out=` was passed is stuck. -/
example :
    let ops : Ops Int Int Int :=
      { cholEx := fun a => (a, if a > 0 then 0 else 1), hasNan := fun _ => false, addDiag := fun a x => a + x, transposeF := fun x => -x }
    let env : Env Int := { settingsJitter := 1, settingsMaxTries := 3, traceMode := false }
    let run := fun (args : Args Int) (sk : List (Nat × String)) =>
      ((runSkeleton ops 10 env args [4, -5, 0] C16.coreSkeleton).bind (runWrapperSk ops args sk)).map fun o => (o.result, o.outBuf)
    run { upper := true } C16.wrapperSkeleton = some (.ok [-4, -5, -1], none) ∧
    run { upper := true, out := true } C16.wrapperSkeleton = some (.ok [-4, -5, -1], some [-4, -5, -1]) ∧
    run { out := true } C16.wrapperSkeleton = some (.ok [4, 5, 1], some [4, 5, 1]) ∧
    run { upper := true } [(0, "core-call(forward-all)"), (0, "transpose-out-inplace"), (0, "return-result")] = none := by
  simp only [runSkeleton_of_parse _ _ _ _ _ (gen_skeleton_core ▸ (parse_expected _).1)]
  decide +kernel

/-- Consequence stated purely about the TRANSLATED body: whatever the input, executing the extracted statements terminates (never
stuck, never falls off the end) with an outcome whose caller-side tensor is the input. -/
theorem translated_body_input_unchanged :
    ∃ o, runSkeleton ops C16.base env args A C16.coreSkeleton = some o ∧ o.input = A := by
  refine ⟨_, model_refines_translated_body ops env args A, ?_⟩
  rw [← wrapper_input]; exact psc_input_unchanged_generated ops env args A C16.base

/-- The interpreter really executes: the 3-member `Int` batch of the example below, run through the EXTRACTED skeleton. -/
example :
    (runSkeleton (M := Int) (F := Int) (α := Int)
      { cholEx := fun a => (a, if a > 0 then 0 else 1), hasNan := fun _ => false, addDiag := fun a x => a + x, transposeF := id }
      10 { settingsJitter := 1, settingsMaxTries := 3, traceMode := false } {} [4, -5, 0] C16.coreSkeleton).map
        (fun o => (o.result, o.calls, o.warns, o.work, o.input)) = some (.ok [4, 5, 1], 3, [1, 10], [4, 5, 1], [4, -5, 0]) := by
  rw [runSkeleton_of_parse _ _ _ _ _ (gen_skeleton_core ▸ (parse_expected _).1)]
  decide +kernel

/-- … and a skeleton whose statements are in another order means something else: with the `clone` removed the caller's tensor is
written; with the `sched` statement removed the interpreter is stuck (the increment reads `jitter_new`, which the
initialisation `init(jitter_prev=0)` does not bind). -/
example :
    (runSkeleton (M := Int) (F := Int) (α := Int)
      { cholEx := fun a => (a, if a > 0 then 0 else 1), hasNan := fun _ => false, addDiag := fun a x => a + x, transposeF := id }
      10 { settingsJitter := 1, settingsMaxTries := 3, traceMode := false } {} [4, -5, 0] (expectedCoreNoClone true)).map
        (fun o => o.input) = some [4, 5, 1] ∧
    (runSkeleton (M := Int) (F := Int) (α := Int)
      { cholEx := fun a => (a, if a > 0 then 0 else 1), hasNan := fun _ => false, addDiag := fun a x => a + x, transposeF := id }
      10 { settingsJitter := 1, settingsMaxTries := 3, traceMode := false } {} [4, -5, 0]
      ((expectedCore false).filter fun e => e.2 != "sched")).isNone = true := by
  decide +kernel

/-! ### The hypotheses are satisfiable by non-trivial instances -/

/-- A 3-member batch over `Int` "matrices" (1×1): one PD, one needing `jitter·10`, one needing `jitter·1`;
two tries, three calls, per-member jitters 0 / 10 / 1. -/
example :
    let o := psdSafeCholesky (M := Int) (F := Int) (α := Int)
      { cholEx := fun a => (a, if a > 0 then 0 else 1), hasNan := fun _ => false, addDiag := fun a x => a + x, transposeF := id }
      { base := 10, clones := true } { settingsJitter := 1, settingsMaxTries := 3, traceMode := false } {} [4, -5, 0]
    o.result = .ok [4, 5, 1] ∧ o.calls = 3 ∧ o.warns = [1, 10] ∧ o.work = [4, 5, 1] ∧ o.input = [4, -5, 0] := by decide

example : Lawful (α := Int) (M := Int) (F := Int)
    { cholEx := fun a => (a, if a > 0 then 0 else 1), hasNan := fun _ => false, addDiag := fun a x => a + x, transposeF := id } :=
  ⟨fun w => by simp, fun w a b => by simp [add_assoc]⟩

end LinOp.C16
