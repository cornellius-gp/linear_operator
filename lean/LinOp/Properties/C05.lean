import LinOp.C05.Model
import LinOp.C05.Proofs
import LinOp.C05.ProofsLog
import LinOp.C05.ShapeProofs
import LinOp.C05.ShapeProofs2
import LinOp.C05.ProofsGauss
import LinOp.Properties.C09
import LinOp.C05.ModelFlat
import LinOp.Generated.C05Overrides
import LinOp.C05.ProofsKronList
import LinOp.C05.ProofsKronSolve
import LinOp.C05.ProofsKronReal
import LinOp.Core.Bridge
import Mathlib.LinearAlgebra.Matrix.Block
import Mathlib.LinearAlgebra.Matrix.SchurComplement
import Mathlib.LinearAlgebra.Matrix.NonsingularInverse
import Mathlib.LinearAlgebra.Matrix.Trace
import Mathlib.LinearAlgebra.Matrix.Kronecker
import Mathlib.Analysis.SpecialFunctions.Log.Basic
import Mathlib.Data.Sign.Basic
/-!
C05 — logdet and inverse quadratic forms equal the dense values or their quadrature.
The property's theorems, by subject: stochastic Lanczos quadrature, inverse quadratic forms, closed-form log-determinants,
Kronecker products with any number of factors, output shapes.  A few are short facts the next ones use
(`chol_det`, `diagLogdet_eq`, `invQuadCols_eq`, `kronLogdet_sum`, `kpadlo_const_det`); the general lemmas are in `LinOp/C05/Proofs*.lean`
and `ShapeProofs*.lean`.  The model functions (`LinOp.C05.Model`, `ModelKron`) mirror the value assembly of the
Python; factorization primitives (Cholesky, eigh, solves) enter as hypotheses, the Lanczos relations as hypotheses in
`slq_gauss_quadrature_exact` and from C09's model of `lanczos_tridiag` in `slq_gauss_of_lanczos_tridiag`.
-/
namespace LinOp.C05
open Matrix LinOp
open scoped Kronecker

/-! ### Stochastic Lanczos quadrature -/

/-- `StochasticLQ.to_dense` (as called by `InvQuadLogdet.forward`): from the eigendecompositions
`Tᵢ = Vᵢ diag(θᵢ) Vᵢᵀ` of the Lanczos tridiagonal matrices it returns
`(n/m) Σᵢ e₁ᵀ f(Tᵢ) e₁` with `f` applied spectrally — the Gauss–Lanczos quadrature.  Any number of
probes `m`, any Krylov dimension, any `f` (the code uses `log`). -/
theorem slq_is_gauss_lanczos {R : Type} [CommRing R] {m kk : Nat} (c : R)
    (V : Fin m → Matrix (Fin (kk + 1)) (Fin (kk + 1)) R) (θ : Fin m → Fin (kk + 1) → R) (f : R → R) :
    slqAssemble c (fun i j => V i 0 j) (fun i j => f (θ i j))
      = c * ∑ i, (V i * Matrix.diagonal (fun j => f (θ i j)) * (V i)ᵀ) 0 0 :=
  slqAssemble_eq_of_nodes c _ _ _ fun i => (conj_diagonal_apply (V i) _ 0 0).symm

/-- Full Krylov dimension: if `A Q = Q T`, `Q` orthogonal, `T = V diag(θ) Vᵀ` with `V` orthogonal,
then `(QV, θ)` is an eigendecomposition of `A` … -/
theorem slq_full_dimension_eigen {k : Nat} (A Q V : Matrix (Fin k) (Fin k) ℝ) (θ : Fin k → ℝ)
    (hAQ : A * Q = Q * (V * diagonal θ * Vᵀ)) (hQQt : Q * Qᵀ = 1) (hQtQ : Qᵀ * Q = 1) (hV : Vᵀ * V = 1) :
    A = (Q * V) * diagonal θ * (Q * V)ᵀ ∧ (Q * V)ᵀ * (Q * V) = 1 := by
  constructor
  · calc A = A * (Q * Qᵀ) := by rw [hQQt, Matrix.mul_one]
      _ = (A * Q) * Qᵀ := by rw [Matrix.mul_assoc]
      _ = _ := by rw [hAQ, Matrix.transpose_mul]; simp only [Matrix.mul_assoc]
  · rw [Matrix.transpose_mul]
    calc Vᵀ * Qᵀ * (Q * V) = Vᵀ * ((Qᵀ * Q) * V) := by simp only [Matrix.mul_assoc]
      _ = 1 := by rw [hQtQ, Matrix.one_mul, hV]

/-- … and the quadrature node is exact: `e₁ᵀ f(T) e₁ = uᵀ f(A) u` for the probe `u = Q e₁`
(first Lanczos vector), where `f(A) := (QV) diag(f θ) (QV)ᵀ` is `f` applied spectrally to `A`.
Hence with budget ≥ n the SLQ value is `(n/m) Σᵢ uᵢᵀ f(A) uᵢ`: its only error is probe variance. -/
theorem slq_full_dimension {kk : Nat} (Q V : Matrix (Fin (kk + 1)) (Fin (kk + 1)) ℝ) (θ : Fin (kk + 1) → ℝ)
    (f : ℝ → ℝ) (u : Fin (kk + 1) → ℝ) (hQtQ : Qᵀ * Q = 1) (hu : ∀ i, u i = Q i 0) :
    (V * diagonal (fun j => f (θ j)) * Vᵀ) 0 0
      = ∑ i, ∑ j, u i * ((Q * V) * diagonal (fun j => f (θ j)) * (Q * V)ᵀ) i j * u j := by
  have hM : Qᵀ * ((Q * V) * diagonal (fun j => f (θ j)) * (Q * V)ᵀ) * Q = V * diagonal (fun j => f (θ j)) * Vᵀ := by
    rw [Matrix.transpose_mul]
    calc Qᵀ * (Q * V * diagonal (fun j => f (θ j)) * (Vᵀ * Qᵀ)) * Q
        = (Qᵀ * Q) * V * diagonal (fun j => f (θ j)) * Vᵀ * (Qᵀ * Q) := by simp only [Matrix.mul_assoc]
      _ = _ := by rw [hQtQ, Matrix.one_mul, Matrix.mul_one]
  rw [← hM]
  simp only [Matrix.mul_apply (M := Qᵀ * _) (N := Q), Matrix.mul_apply (M := Qᵀ), Matrix.transpose_apply,
    Finset.sum_mul, hu]
  rw [Finset.sum_comm]

/-- **SLQ below full Krylov dimension is the exact Gauss quadrature** (`max_lanczos_quadrature_iterations < n`): let every
probe `i` come with Lanczos data of Krylov dimension `k+1`: `Qᵢ` (`n × (k+1)`) with `QᵢᵀQᵢ = 1`, `QᵢᵀAQᵢ = Tᵢ`,
`A Qᵢ = Qᵢ Tᵢ` off the last column (the residual `r e_{k+1}ᵀ` lives in the last column only), `Tᵢ` lower-Hessenberg (tridiagonal)
and `Tᵢ = Vᵢ diag(θᵢ) Vᵢᵀ` the orthogonal eigendecomposition handed to `StochasticLQ.to_dense`; `A` symmetric.  Then for
EVERY monomial degree `d ≤ 2k+1` the value `to_dense` assembles for `f = x^d` is `(n/m) Σᵢ uᵢᵀ A^d uᵢ` with `uᵢ = Qᵢ e₁`
the probe: the nodes/weights `(θᵢⱼ, Vᵢ[0,j]²)` form THE (k+1)-point Gauss rule of the spectral measure of `(A, uᵢ)` (exact to
degree `2k+1`), not only at full dimension.  Any commutative ring; by linearity the same holds for every polynomial of degree
`≤ 2k+1`.  Preconditioned variant: apply it to `Ã = W⁻¹AW⁻ᵀ`, `ũ = W⁻¹z/‖·‖` and add `log|P|` (`logdet_precond_correction`).
The Lanczos relations are exactly the conclusions of C09's `lanczos_tridiag_matrix_identities` (hypotheses here). -/
theorem slq_gauss_quadrature_exact {R : Type} [CommRing R] {n m k : Nat} (c : R) (A : Matrix (Fin n) (Fin n) R)
    (Q : Fin m → Matrix (Fin n) (Fin (k + 1)) R) (V : Fin m → Matrix (Fin (k + 1)) (Fin (k + 1)) R)
    (θ : Fin m → Fin (k + 1) → R) (hA : Aᵀ = A)
    (hQ : ∀ i, (Q i)ᵀ * Q i = 1) (hP : ∀ i, (Q i)ᵀ * A * Q i = V i * Matrix.diagonal (θ i) * (V i)ᵀ)
    (hV : ∀ i, (V i)ᵀ * V i = 1) (hV' : ∀ i, V i * (V i)ᵀ = 1)
    (hT : ∀ i (a b : Fin (k + 1)), b.1 + 1 < a.1 → (V i * Matrix.diagonal (θ i) * (V i)ᵀ) a b = 0)
    (hres : ∀ i (a : Fin n) (b : Fin (k + 1)), b.1 < k →
      (A * Q i) a b = (Q i * (V i * Matrix.diagonal (θ i) * (V i)ᵀ)) a b)
    (d : Nat) (hd : d ≤ 2 * k + 1) :
    slqAssemble c (fun i j => V i 0 j) (fun i j => θ i j ^ d)
      = c * ∑ i, (Q i).mulVec (Pi.single 0 1) ⬝ᵥ (A ^ d).mulVec ((Q i).mulVec (Pi.single 0 1)) :=
  slqAssemble_eq_of_nodes c _ _ _ fun i =>
    LanczosRel.gauss_node_exact ⟨hA, hQ i, hP i, hT i, fun a b hb => hres i a b (Nat.lt_of_succ_lt_succ hb)⟩
      (hV i) (hV' i) 0 rfl d (by rw [Nat.mul_add_one]; exact Nat.succ_le_succ hd)

/-- its hypotheses are satisfiable below full dimension (`n = 2`, Krylov dimension 1; the Hessenberg and residual
conditions are vacuous for a 1×1 `T`). -/
example : ∃ (A : Matrix (Fin 2) (Fin 2) ℚ) (Q : Matrix (Fin 2) (Fin 1) ℚ) (V : Matrix (Fin 1) (Fin 1) ℚ) (θ : Fin 1 → ℚ),
    Aᵀ = A ∧ Qᵀ * Q = 1 ∧ Qᵀ * A * Q = V * Matrix.diagonal θ * Vᵀ ∧ Vᵀ * V = 1 ∧ V * Vᵀ = 1 := slq_gauss_hyp_example

/-- **SLQ is the Gauss rule of the probes, with the Lanczos relations PROVED (C09 by import)**: for every symmetric `A`
over an ordered field, every size, budget `≥ 1` and non-zero start vector, the verified model of `lanczos_tridiag`
(`LinOp.C09.lanczosTridiag`, tied to the source by C09's translator and correspondence) returns `Q`, `T` with
`1 ≤ count ≤ min max_iter n`, and — unless a returned off-diagonal entry is zero (`BetaOK`, breakdown) — for ANY orthogonal
eigendecomposition `T = V diag θ Vᵀ` (the `eigh` primitive of `lanczos_tridiag_to_diag`) the weights and nodes that
`StochasticLQ.to_dense` uses satisfy `Σⱼ V[0,j]² θⱼ^d = uᵀ A^d u`, `u = Q e₁`, for EVERY degree `d ≤ 2·count − 1`.
`slq_gauss_quadrature_exact` takes `QᵀQ = 1`, `QᵀAQ = T`, tridiagonality and the residual structure as hypotheses; here they
come from `LinOp.C09.lanczos_ok` and `LinOp.C09.matrix_identities_of_done`.  (The tridiagonal matrix of the SLQ path is
produced by CG — C08's `cg_tridiag_eq_lanczos` identifies it with the Lanczos matrix; that step is still checked numerically here.) -/
theorem slq_gauss_of_lanczos_tridiag {K : Type} [Field K] [LinearOrder K] [IsStrictOrderedRing K] {n : Nat}
    {ops : LinOp.C09.NumOps K} {p : LinOp.C09.Params K} (hs : LinOp.C09.SqrtLaw ops)
    {A : Matrix (Fin n) (Fin n) K} (hA : Aᵀ = A) (maxIter : Nat) (v : LinOp.C09.Vec K n)
    (hv : LinOp.C09.fn v ⬝ᵥ LinOp.C09.fn v ≠ 0) (hg : p.guardsSingle = true) (h1 : 1 ≤ min maxIter n) :
    ∃ o, LinOp.C09.lanczosTridiag ops p (LinOp.C09.amulOf A) maxIter v = .ok o ∧ o.count ≤ min maxIter n ∧
      ∃ hc : 0 < o.count,
      (LinOp.C09.BetaOK (o.count - 1) o.st →
        ∀ (V : Matrix (Fin o.count) (Fin o.count) K) (θ : Fin o.count → K), Vᵀ * V = 1 → V * Vᵀ = 1 →
          Matrix.of o.T = V * Matrix.diagonal θ * Vᵀ → ∀ d, d + 1 ≤ 2 * o.count →
          ∑ j, V ⟨0, hc⟩ j * V ⟨0, hc⟩ j * θ j ^ d
            = (Matrix.of o.Q).mulVec (Pi.single ⟨0, hc⟩ 1) ⬝ᵥ
                (A ^ d).mulVec ((Matrix.of o.Q).mulVec (Pi.single ⟨0, hc⟩ 1))) := by
  obtain ⟨o, ho, h1', h3, hc⟩ :=
    LinOp.C09.lanczos_ok (p := p) hs (LinOp.C09.selfAdj_amulOf hA) hg maxIter v hv h1
  refine ⟨o, ho, h3, h1', fun hb V θ hV hV' hE d hdd => ?_⟩
  obtain ⟨hQ, hP, hres, -⟩ := LinOp.C09.matrix_identities_of_done hA o h1' hc.tstruct (hc.last h1' hb)
  refine LanczosRel.gauss_node_exact (hE ▸ ⟨hA, hQ, hP, fun i j hij => hc.tstruct.tri i.1 j.1 (Or.inr hij), fun i j hj => ?_⟩)
    hV hV' ⟨0, h1'⟩ rfl d hdd
  -- the residual `A Q − Q T` lives in the last column only
  have := congrFun (congrFun hres i) j
  simp only [Matrix.sub_apply, LinOp.C09.residualMat] at this
  rw [if_neg (by omega)] at this
  exact sub_eq_zero.mp this

/-- its hypotheses hold together on a concrete real instance with two Lanczos steps and no breakdown (C09's `real_instance`). -/
example : LinOp.C09.SqrtLaw LinOp.C09.realOps ∧ LinOp.C09.exAᵀ = LinOp.C09.exA ∧
    LinOp.C09.fn LinOp.C09.exV ⬝ᵥ LinOp.C09.fn LinOp.C09.exV ≠ 0 ∧ LinOp.C09.exP.guardsSingle = true ∧
    ∃ o, LinOp.C09.lanczosTridiag LinOp.C09.realOps LinOp.C09.exP (LinOp.C09.amulOf LinOp.C09.exA) 2 LinOp.C09.exV = .ok o ∧
      o.count = 2 ∧ LinOp.C09.BetaOK (o.count - 1) o.st :=
  ⟨LinOp.C09.real_instance.1, LinOp.C09.exA_symm, LinOp.C09.real_instance.2.2.1, LinOp.C09.real_instance.2.2.2.1,
   LinOp.C09.real_instance.2.2.2.2.2⟩

/-! ### Inverse quadratic forms -/

/-- `InvQuad.forward` / `InvQuadLogdet.forward`: `(solves * rhs).sum(-2)` is, per column `j`,
`(Rᵀ B R)[j,j]` for `solves = B R` (any `B`; `B = A⁻¹` below). -/
theorem invQuadCols_eq {n m : Nat} (B : Matrix (Fin n) (Fin n) ℝ) (R : Matrix (Fin n) (Fin m) ℝ) (j : Fin m) :
    invQuadCols (B * R) R j = (Rᵀ * B * R) j j :=
  (sumFin_eq_sum _ _).trans (quad_form_col B R j)

/-- **inv_quad refines the dense value**: if the solver returns `S` with `A S = R` (A invertible),
the per-column result (reduce_inv_quad=False) is `diag(Rᵀ A⁻¹ R)` and the reduced result
(`.sum(-1)`) is `tr(Rᵀ A⁻¹ R)`; any number of columns. -/
theorem invQuad_refines {n m : Nat} (A : Matrix (Fin n) (Fin n) ℝ) (S R : Matrix (Fin n) (Fin m) ℝ)
    (hA : IsUnit A.det) (hS : A * S = R) :
    (∀ j, invQuadCols S R j = (Rᵀ * A⁻¹ * R) j j) ∧
    invQuadReduce (invQuadCols S R) = Matrix.trace (Rᵀ * A⁻¹ * R) := by
  have h1 : ∀ j, invQuadCols S R j = (Rᵀ * A⁻¹ * R) j j := fun j =>
    (sumFin_eq_sum _ _).trans (invQuad_of_solve A S R hA hS j)
  exact ⟨h1, (sumFin_eq_sum _ _).trans (Finset.sum_congr rfl fun j _ => h1 j)⟩

/-- `CholLinearOperator.inv_quad`: with `R' = L⁻¹ R` (the triangular solve) the column sums of
squares are `diag(Rᵀ (L Lᵀ)⁻¹ R)`. -/
theorem cholInvQuad_refines {n m : Nat} (L : Matrix (Fin n) (Fin n) ℝ) (R' R : Matrix (Fin n) (Fin m) ℝ)
    (hL : IsUnit L.det) (hR : L * R' = R) (j : Fin m) :
    cholInvQuadCols R' j = (Rᵀ * (L * Lᵀ)⁻¹ * R) j j := by
  -- `Rᵀ (L Lᵀ)⁻¹ R = R'ᵀ Lᵀ (Lᵀ)⁻¹ L⁻¹ L R' = R'ᵀ R'`
  subst hR
  rw [Matrix.mul_inv_rev, Matrix.transpose_mul]
  simp only [Matrix.mul_assoc]
  rw [Matrix.nonsing_inv_mul_cancel_left L R' hL,
    Matrix.mul_nonsing_inv_cancel_left Lᵀ R' (by rwa [Matrix.det_transpose]), Matrix.mul_apply]
  exact sumFin_eq_sum _ _

/-! ### Closed-form log-determinants -/

/-- `det(L Lᵀ) = (Π Lᵢᵢ)²` for lower-triangular `L` of any size. -/
theorem chol_det {R : Type} [CommRing R] {n : Nat} (L : Matrix (Fin n) (Fin n) R) (hL : L.IsLowerTriangular) :
    (L * Lᵀ).det = (∏ i, L i i) ^ 2 := by
  rw [Matrix.det_mul, Matrix.det_transpose, Matrix.det_of_isLowerTriangular L hL, sq]

/-- **CholLinearOperator.inv_quad_logdet** (also the base class' Cholesky shortcut):
`chol_diag.pow(2).log().sum(-1) = log det(L Lᵀ)`. -/
theorem cholLogdet_eq {n : Nat} (L : Matrix (Fin n) (Fin n) ℝ) (hL : L.IsLowerTriangular) (hd : ∀ i, L i i ≠ 0) :
    cholLogdet Real.log (fun i => L i i) = Real.log (L * Lᵀ).det := by
  rw [chol_det L hL, cholLogdet_eq_two_mul _ hd, Real.log_pow, Real.log_prod (fun i _ => hd i), Nat.cast_ofNat]

/-- `DiagLinearOperator.inv_quad_logdet`: `diag.log().sum(-1) = log det(diag d)`. -/
theorem diagLogdet_eq {n : Nat} (d : Fin n → ℝ) (hd : ∀ i, d i ≠ 0) :
    diagLogdet Real.log d = Real.log (Matrix.diagonal d).det := by
  rw [Matrix.det_diagonal, diagLogdet, sumFin_eq_sum, Real.log_prod (fun i _ => hd i)]

/-- **Matrix determinant lemma** used by `LowRankRootAddedDiagLinearOperator._logdet`:
`det(D + U Uᵀ) = det(D) · det(I + Uᵀ D⁻¹ U)`. -/
theorem detLemma {n k : Nat} (D : Matrix (Fin n) (Fin n) ℝ) (U : Matrix (Fin n) (Fin k) ℝ) (hD : IsUnit D.det) :
    (D + U * Uᵀ).det = D.det * (1 + Uᵀ * D⁻¹ * U).det := by
  -- `det(I + (UᵀD⁻¹) U) = det(I + U (UᵀD⁻¹))`, and `(I + U UᵀD⁻¹) D = D + U Uᵀ`
  rw [mul_comm, Matrix.det_one_add_mul_comm, ← Matrix.det_mul, Matrix.add_mul, Matrix.one_mul, Matrix.mul_assoc,
    Matrix.mul_assoc, Matrix.nonsing_inv_mul _ hD, Matrix.mul_one]

/-- **LowRankRootAddedDiag `_logdet`**: with `C` the (lower) Cholesky factor of the capacitance matrix
`I + Uᵀ D⁻¹ U`, `2 Σ log Cᵢᵢ + logdet(D) = log det(D + U Uᵀ)`. -/
theorem lrradLogdet_eq {n k : Nat} (d : Fin n → ℝ) (U : Matrix (Fin n) (Fin k) ℝ) (C : Matrix (Fin k) (Fin k) ℝ)
    (hd : ∀ i, d i ≠ 0) (hC : C.IsLowerTriangular) (hCd : ∀ i, C i i ≠ 0)
    (hcap : C * Cᵀ = 1 + Uᵀ * (diagonal d)⁻¹ * U) :
    lrradLogdet Real.log 2 (fun i => C i i) d = Real.log (diagonal d + U * Uᵀ).det := by
  have hD : IsUnit (diagonal d).det := by
    rw [Matrix.det_diagonal]; exact isUnit_iff_ne_zero.mpr (Finset.prod_ne_zero_iff.mpr fun i _ => hd i)
  have hcapdet : (C * Cᵀ).det ≠ 0 := by
    rw [chol_det C hC]; exact pow_ne_zero _ (Finset.prod_ne_zero_iff.mpr fun i _ => hCd i)
  rw [detLemma _ U hD, ← hcap, Real.log_mul (isUnit_iff_ne_zero.mp hD) hcapdet, ← cholLogdet_eq C hC hCd,
    ← diagLogdet_eq d hd, lrradLogdet, cholLogdet_eq_two_mul _ hCd, sumFin_eq_sum, add_comm]

/-- Block-diagonal operators: `det = Π det(blocks)`, also after any simultaneous permutation of
rows and columns (BlockInterleaved is the block-diagonal matrix re-indexed). -/
theorem block_det {k n : Nat} {ι : Type} [Fintype ι] [DecidableEq ι] (M : Fin k → Matrix (Fin n) (Fin n) ℝ)
    (e : Fin n × Fin k ≃ ι) :
    (Matrix.reindex e e (Matrix.blockDiagonal M)).det = ∏ b, (M b).det := by
  rw [Matrix.det_reindex_self, Matrix.det_blockDiagonal]

/-- `Block*.inv_quad_logdet`: summing the per-block log-determinants over the block dimension
gives the log-determinant of the block-diagonal matrix. -/
theorem block_logdet {k n : Nat} (M : Fin k → Matrix (Fin n) (Fin n) ℝ) (h : ∀ b, (M b).det ≠ 0) :
    blockReduce (fun b => Real.log (M b).det) = Real.log (Matrix.blockDiagonal M).det := by
  rw [Matrix.det_blockDiagonal, blockReduce, sumFin_eq_sum, Real.log_prod (fun b _ => h b)]

/-- **TriangularLinearOperator sign rule**: the code returns NaN exactly when the product of the signs
of the diagonal is negative, i.e. exactly when the determinant is negative; otherwise, for a positive
determinant, `Σ log|Tᵢᵢ| = log det T`.  (`hdet` holds for lower and upper triangular matrices:
`Matrix.det_of_isLowerTriangular` / `det_of_isUpperTriangular`.) -/
theorem triLogdet_sign {n : Nat} (T : Matrix (Fin n) (Fin n) ℝ) (hdet : T.det = ∏ i, T i i) :
    (triLogdet Real.log (fun x => |x|) (fun x => decide (x < 0)) (fun x => decide (x = 0)) (fun i => T i i) = none
        ↔ T.det < 0) ∧
    (∀ v, triLogdet Real.log (fun x => |x|) (fun x => decide (x < 0)) (fun x => decide (x = 0)) (fun i => T i i) = some v
        → 0 < T.det → v = Real.log T.det) := by
  have hs : ∀ x : ℝ, sgn (fun x => decide (x < 0)) (fun x => decide (x = 0)) x = SignType.sign x := by
    intro x
    unfold sgn
    rcases lt_trichotomy x 0 with h | h | h
    · simp [h, sign_neg h]
    · subst h; simp
    · simp [not_lt.mpr h.le, h.ne', sign_pos h]
  -- the product of the signs of the diagonal is the sign of the determinant
  have hprod : Fin.foldl n (fun acc i => acc * sgn (fun x => decide (x < 0)) (fun x => decide (x = 0)) (T i i)) 1
      = ((SignType.sign T.det : SignType) : ℝ) := by
    rw [foldl_mul_eq_prod, hdet,
      show SignType.sign (∏ i, T i i) = ∏ i, SignType.sign (T i i) from map_prod (signHom : ℝ →*₀ SignType) _ _]
    simp only [hs]
    exact (map_prod (SignType.castHom : SignType →*₀ ℝ) _ _).symm
  have hneg : (((SignType.sign T.det : SignType) : ℝ) < 0) ↔ T.det < 0 := by
    rw [← sign_eq_neg_one_iff (a := T.det)]
    generalize SignType.sign T.det = s
    cases s <;> simp
  unfold triLogdet
  simp only [hprod, decide_eq_true_eq, hneg]
  constructor
  · by_cases h : T.det < 0
    · rw [if_pos h]; exact iff_of_true rfl h
    · rw [if_neg h]; exact iff_of_false nofun h
  · intro v hv hpos
    rw [if_neg (not_lt.mpr hpos.le), Option.some.injEq] at hv
    rw [hdet] at hpos
    rw [← hv, sumFin_eq_sum, hdet, Real.log_prod fun i _ => Finset.prod_ne_zero_iff.mp hpos.ne' i (Finset.mem_univ i)]
    exact Finset.sum_congr rfl fun i _ => Real.log_abs _

/-- **Preconditioner correction** in `inv_quad_logdet`: for `P = W Wᵀ`,
`det A = det P · det(W⁻¹ A W⁻ᵀ)`, so `logdet_term + logdet_p` is `log|A|` when `logdet_term` is the
log-determinant of the preconditioned matrix and `logdet_p = log|P|`. -/
theorem logdet_precond_correction {n : Nat} (A W : Matrix (Fin n) (Fin n) ℝ) (hW : IsUnit W.det) (hA : 0 < A.det) :
    Real.log A.det = precondCorrect (Real.log (W⁻¹ * A * (W⁻¹)ᵀ).det) (Real.log (W * Wᵀ).det) := by
  have hw : W.det ≠ 0 := isUnit_iff_ne_zero.mp hW
  have hinv : W⁻¹.det * W.det = 1 := by rw [← Matrix.det_mul, Matrix.nonsing_inv_mul _ hW, Matrix.det_one]
  have hwi : W⁻¹.det ≠ 0 := fun h => by rw [h, zero_mul] at hinv; exact zero_ne_one hinv
  have h1 : (W⁻¹ * A * (W⁻¹)ᵀ).det = W⁻¹.det * A.det * W⁻¹.det := by
    rw [Matrix.det_mul, Matrix.det_mul, Matrix.det_transpose]
  have h2 : (W * Wᵀ).det = W.det * W.det := by rw [Matrix.det_mul, Matrix.det_transpose]
  rw [precondCorrect, h1, h2, ← Real.log_mul (mul_ne_zero (mul_ne_zero hwi (ne_of_gt hA)) hwi) (mul_ne_zero hw hw)]
  congr 1
  calc A.det = (W⁻¹.det * W.det) * A.det * (W⁻¹.det * W.det) := by rw [hinv]; ring
    _ = _ := by ring

/-- **KroneckerProductAddedDiag `_logdet`, constant diagonal**: `det(Q Λ Qᵀ + cI) = Π (λᵢ + c)`. -/
theorem kpadlo_const_det {R : Type} [CommRing R] {n : Nat} (A Q : Matrix (Fin n) (Fin n) R) (lam : Fin n → R) (c : R)
    (hA : A = Q * diagonal lam * Qᵀ) (hQ : Q * Qᵀ = 1) :
    (A + c • (1 : Matrix (Fin n) (Fin n) R)).det = ∏ i, (lam i + c) :=
  shift_det A Q lam c hA hQ

/-- … hence `log(evals + c).sum(-1) = log det(A + cI)` whenever all shifted eigenvalues are positive. -/
theorem kpadloLogdet_const {n : Nat} (A Q : Matrix (Fin n) (Fin n) ℝ) (lam : Fin n → ℝ) (c : ℝ)
    (hA : A = Q * diagonal lam * Qᵀ) (hQ : Q * Qᵀ = 1) (hpos : ∀ i, 0 < lam i + c) :
    shiftLogdet Real.log lam c = Real.log (A + c • (1 : Matrix (Fin n) (Fin n) ℝ)).det := by
  rw [kpadlo_const_det A Q lam c hA hQ, shiftLogdet, sumFin_eq_sum, Real.log_prod (fun i _ => ne_of_gt (hpos i))]

/-- Eigenvalue form used by `KroneckerProductLinearOperator._logdet`: the sum of the logs of all
products `λᵢ μⱼ` is `m Σ log λᵢ + n Σ log μⱼ` (any number and size of eigenvalues, all positive). -/
theorem kronLogdet_sum {n m : Nat} (lam : Fin n → ℝ) (mu : Fin m → ℝ) (hl : ∀ i, 0 < lam i) (hm : ∀ j, 0 < mu j) :
    kronLogdet Real.log lam mu = m * ∑ i, Real.log (lam i) + n * ∑ j, Real.log (mu j) := by
  simp only [kronLogdet, sumFin_eq_sum]
  have : ∀ i j, Real.log (lam i * mu j) = Real.log (lam i) + Real.log (mu j) :=
    fun i j => Real.log_mul (ne_of_gt (hl i)) (ne_of_gt (hm j))
  simp only [this, Finset.sum_add_distrib, Finset.sum_const, Finset.card_univ, Fintype.card_fin, nsmul_eq_mul,
    Finset.mul_sum]

/-- **Kronecker `_logdet`**: with eigendecompositions `A = Qa diag(λ) Qaᵀ`, `B = Qb diag(μ) Qbᵀ`
(orthogonal `Q`s, positive eigenvalues) the value computed from the eigenvalues is
`log det(A ⊗ B)` (`det(A⊗B) = det(A)^m det(B)^n`, Mathlib `det_kronecker`). -/
theorem kronLogdet_eq {n m : Nat} (A Qa : Matrix (Fin n) (Fin n) ℝ) (B Qb : Matrix (Fin m) (Fin m) ℝ)
    (lam : Fin n → ℝ) (mu : Fin m → ℝ) (hl : ∀ i, 0 < lam i) (hm : ∀ j, 0 < mu j)
    (hA : A = Qa * diagonal lam * Qaᵀ) (hQa : Qa * Qaᵀ = 1) (hB : B = Qb * diagonal mu * Qbᵀ) (hQb : Qb * Qbᵀ = 1) :
    kronLogdet Real.log lam mu = Real.log (A ⊗ₖ B).det := by
  have hdA : A.det = ∏ i, lam i := det_of_eigendecomp A Qa lam hA hQa
  have hdB : B.det = ∏ j, mu j := det_of_eigendecomp B Qb mu hB hQb
  have hpA : A.det ≠ 0 := by rw [hdA]; exact ne_of_gt (Finset.prod_pos fun i _ => hl i)
  have hpB : B.det ≠ 0 := by rw [hdB]; exact ne_of_gt (Finset.prod_pos fun i _ => hm i)
  rw [kronLogdet_sum lam mu hl hm, Matrix.det_kronecker, Real.log_mul (pow_ne_zero _ hpA) (pow_ne_zero _ hpB),
    Real.log_pow, Real.log_pow, hdA, hdB, Real.log_prod (fun i _ => ne_of_gt (hl i)),
    Real.log_prod (fun j _ => ne_of_gt (hm j)), Fintype.card_fin, Fintype.card_fin]

/-! ### Kronecker products with ANY number of factors (induction over the factor list)

`l = [n₁,…,n_k]` are the factor sizes, `KMatsM ℝ l` one matrix per factor, `KVecs ℝ l` one vector per factor,
`kronAll l As = A₁ ⊗ … ⊗ A_k` on the multi-index type `KIdx l` (row-major flattening = `torch.kron` layout),
`EigOK l As Qs lams` the per-factor `eigh` contract `Aᵢ = Qᵢ diag(λᵢ) Qᵢᵀ`, `Qᵢ Qᵢᵀ = 1`. -/

/-- **`KroneckerProductLinearOperator._logdet`, any number of factors of any sizes**:
`_kron_diag(factor eigenvalues).clamp(min=eps).log().sum(-1) = log det(A₁ ⊗ … ⊗ A_k)` whenever the factor
eigenvalues are positive and no product of them is below the clamp. -/
theorem kronLogdetN_eq (l : List Nat) (As Qs : KMatsM ℝ l) (lams : KVecs ℝ l) (eps : ℝ)
    (h : EigOK l As Qs lams) (hpos : KVecs.Pos l lams) (hcl : ∀ x ∈ kronDiag (KVecs.toLists l lams), eps ≤ x) :
    kronLogdetN Real.log (fun x => max x eps) (KVecs.toLists l lams) = Real.log (kronAll l As).det := by
  rw [kronLogdetN_eq_sum, log_det_kronAll_eig l As Qs lams h hpos]
  exact Finset.sum_congr rfl fun idx _ => by rw [max_eq_left (hcl _ (kronEig_mem l lams idx))]

/-- **`clamp(min=1e-7)` ACTIVE in `KroneckerProductLinearOperator._logdet`** (any number of factors, positive factor
eigenvalues): the value is `Σ_idx log(max(λ_idx, eps))` over all products `λ_idx` of factor eigenvalues — the log-determinant
of the operator with its spectrum clamped from below; it never under-estimates `log det(⊗Aᵢ)` and is STRICTLY larger as soon
as one product eigenvalue is below the clamp (so `kronLogdetN_eq`'s hypothesis `eps ≤ x` is necessary, not only sufficient). -/
theorem kronLogdetN_clamped (l : List Nat) (As Qs : KMatsM ℝ l) (lams : KVecs ℝ l) (eps : ℝ)
    (h : EigOK l As Qs lams) (hpos : KVecs.Pos l lams) :
    kronLogdetN Real.log (fun x => max x eps) (KVecs.toLists l lams)
      = ∑ idx : KIdx l, Real.log (max (kronEig l lams idx) eps) ∧
    Real.log (kronAll l As).det ≤ kronLogdetN Real.log (fun x => max x eps) (KVecs.toLists l lams) ∧
    ((∃ idx, kronEig l lams idx < eps) →
      Real.log (kronAll l As).det < kronLogdetN Real.log (fun x => max x eps) (KVecs.toLists l lams)) := by
  have e1 : kronLogdetN Real.log (fun x => max x eps) (KVecs.toLists l lams)
      = ∑ idx : KIdx l, Real.log (max (kronEig l lams idx) eps) := kronLogdetN_eq_sum ..
  have e2 := log_det_kronAll_eig l As Qs lams h hpos
  have hle : ∀ idx : KIdx l, Real.log (kronEig l lams idx) ≤ Real.log (max (kronEig l lams idx) eps) :=
    fun idx => Real.log_le_log (kronEig_pos l lams hpos idx) (le_max_left _ _)
  refine ⟨e1, ?_, ?_⟩
  · rw [e1, e2]; exact Finset.sum_le_sum fun idx _ => hle idx
  · rintro ⟨idx, hlt⟩
    rw [e1, e2]
    refine Finset.sum_lt_sum (fun i _ => hle i) ⟨idx, Finset.mem_univ _, ?_⟩
    rw [max_eq_right (le_of_lt hlt)]
    exact Real.log_lt_log (kronEig_pos l lams hpos idx) hlt

/-- **`log det(⊗ᵢ Aᵢ) = Σᵢ (N/nᵢ) log det Aᵢ`** for any factor list with positive determinants
(`kronLogdetFormula`: the head contributes `(Π of the other sizes) · log det A`, every later term is multiplied by
the head's size — i.e. term `i` carries the weight `N/nᵢ`). -/
theorem kronLogdet_formula (l : List Nat) (As : KMatsM ℝ l) (h : KMatsM.DetPos l As) :
    Real.log (kronAll l As).det = kronLogdetFormula l As ∧
    (∀ (n : Nat) (A : Matrix (Fin n) (Fin n) ℝ), kronLogdetFormula (n :: l) (A, As)
        = (l.prod : ℝ) * Real.log A.det + (n : ℝ) * kronLogdetFormula l As) :=
  ⟨log_det_kronAll l As h, fun _ _ => rfl⟩

/-- **`KroneckerProductLinearOperator._solve` (sequential mode-rotation loop) and the inverse quadratic form**:
if `Bᵢ` is what `qᵢ.solve` applies (`Aᵢ Bᵢ = 1` for every factor), the loop returns `S` with `(⊗ᵢ Aᵢ) S = R`, the
Kronecker product is invertible, and `(S * R).sum(-2)` is `diag(Rᵀ (⊗ᵢ Aᵢ)⁻¹ R)`; any number of factors, sizes, columns. -/
theorem kronInvQuad_refines {m : Nat} (l : List Nat) (As Bs : KMatsM ℝ l) (R : Matrix (KIdx l) (Fin m) ℝ)
    (h : KMatsM.mul l As Bs = KMatsM.one l) (j : Fin m) :
    IsUnit (kronAll l As).det ∧
    kronAll l As * (Matrix.of (kronSolve l (KMatsM.toMats l Bs) R) : Matrix (KIdx l) (Fin m) ℝ) = R ∧
    kronInvQuadCols l (KMatsM.toMats l Bs) R j = (Rᵀ * (kronAll l As)⁻¹ * R) j j := by
  have h1 := kronAll_mul_eq_one l As Bs h
  have hu : IsUnit (kronAll l As).det := Matrix.isUnit_det_of_right_inverse h1
  have hs : kronAll l As * (Matrix.of (kronSolve l (KMatsM.toMats l Bs) R) : Matrix (KIdx l) (Fin m) ℝ) = R := by
    rw [kronSolve_eq, ← Matrix.mul_assoc, h1, Matrix.one_mul]
  refine ⟨hu, hs, ?_⟩
  unfold kronInvQuadCols
  rw [sum_map_KIdx_all]
  exact invQuad_of_solve _ (Matrix.of (kronSolve l (KMatsM.toMats l Bs) R)) R hu hs j

/-- The loop of `_solve` itself, for ANY semiring and any already-rotated modes `D`: after processing all factors the
entry at the row-major position of `(d, idx)` is `Σ_{idx'} (⊗ᵢ Bᵢ)[idx, idx'] · y[idx', d, c]`; and every position
of the final tensor is of that form. -/
theorem kronSolve_loop {K : Type} [CommSemiring K] {C D : Type} (l : List Nat) (Bs : KMatsM K l)
    (y : KIdx l → D → C → K) :
    (∀ d idx c, kronSolveRot l (KMatsM.toMats l Bs) y (snocOf l d idx) c
        = ∑ idx' : KIdx l, kronAll l Bs idx idx' * y idx' d c) ∧
    (∀ s : SnocIdx D l, ∃ d idx, snocOf l d idx = s) :=
  ⟨fun d idx c => kronSolveRot_eq l Bs y d idx c, snocOf_surjective l⟩

/-- **Row-major flattening against flat index arithmetic**, any list of factor sizes: `KIdx.flat` is
`i₁·(n₂⋯n_k) + flat(rest)`, it is `< n₁⋯n_k`, the leading index / the rest are recovered by `/` and `%` of the trailing
product, and the enumeration `KIdx.all` (the order in which the model reads and writes flat tensors — `reshape(-1)` in
`_kron_diag`, `reshape(n, -1)` / `reshape(n_rows, -1)` in `_solve`) visits exactly the flat positions `0, 1, 2, …` in order. -/
theorem rowMajor_flat (l : List Nat) :
    (KIdx.all l).map (KIdx.flat l) = List.range (prodL l) ∧ (KIdx.all l).length = prodL l ∧
    (∀ idx : KIdx l, KIdx.flat l idx < prodL l) ∧
    (∀ (n : Nat) (i : Fin n) (j : KIdx l), KIdx.flat (n :: l) (i, j) = i.1 * prodL l + KIdx.flat l j ∧
      KIdx.flat (n :: l) (i, j) / prodL l = i.1 ∧ KIdx.flat (n :: l) (i, j) % prodL l = KIdx.flat l j) :=
  ⟨rowMajor_is_flat l, KIdx.all_length l, KIdx.flat_lt l,
   fun n i j => ⟨rfl, (KIdx.flat_divmod n l i j).1, (KIdx.flat_divmod n l i j).2⟩⟩

/-- instance: sizes `[2, 3]`, multi-index `(1, 2)` sits at flat position `1·3 + 2 = 5`, the last of `6`. -/
example : KIdx.flat [2, 3] ((1 : Fin 2), ((2 : Fin 3), ())) = 5 ∧ prodL [2, 3] = 6 := by decide

/-- **KPADLO `_logdet`, Kronecker-structured diagonal with constant factors** (`D = ⊗ᵢ cᵢ I`, taken when
`n ≥ max_cholesky_size`): `diag_term + first_term = log det(⊗ᵢ Kᵢ + ⊗ᵢ cᵢ I)`, any number of factors. -/
theorem kpadloLogdet_kronConst (l : List Nat) (Ks Qs : KMatsM ℝ l) (lams : KVecs ℝ l) (cs : KScal l) (eps : ℝ)
    (h : EigOK l Ks Qs lams) (hc : KScal.Pos l cs) (heps : eps ≤ KScal.prod l cs)
    (hpos : ∀ idx, 0 < kronEig l lams idx + KScal.prod l cs) :
    kpadloKronConstLogdet Real.log (fun x => max x eps) (KVecs.toLists l lams) (KVecs.toLists l (KScal.vecs l cs))
        (KScal.toList l cs)
      = Real.log (kronAll l Ks + kronAll l (KMatsM.diagonal l (KScal.vecs l cs))).det := by
  have hC := KScal.prod_pos l cs hc
  obtain ⟨h1, h2⟩ := kronAll_eigendecomp l Ks Qs lams h
  have hD : kronAll l (KMatsM.diagonal l (KScal.vecs l cs)) = KScal.prod l cs • (1 : Matrix (KIdx l) (KIdx l) ℝ) := by
    rw [kronAll_diagonal, funext (kronEig_const l cs), Matrix.smul_one_eq_diagonal]
  unfold kpadloKronConstLogdet
  rw [hD, shift_det _ _ _ _ h1 h2, Real.log_prod (fun idx _ => ne_of_gt (hpos idx)), zipWith_divScal,
    sum_map_kronDiag l (KScal.vecs l cs) (fun x => Real.log (max x eps)),
    sum_map_kronDiag l (KVecs.divScal l lams cs) (fun x => Real.log (x + 1)), ← Finset.sum_add_distrib]
  refine Finset.sum_congr rfl fun idx _ => ?_
  rw [kronEig_const, kronEig_divScal, max_eq_left heps, div_add_one hC.ne', Real.log_div (hpos idx).ne' hC.ne',
    add_sub_cancel]

/-- **KPADLO `_logdet`, symmetrised branch** (Kronecker-structured, non-constant diagonal `D = ⊗ᵢ Dᵢ`): with
`rᵢ = dᵢ^-½` and the `eigh` contract for the symmetrised factors `diag(rᵢ) Kᵢ diag(rᵢ) = Qᵢ diag(σᵢ) Qᵢᵀ`,
`D.logdet() + DiagLinearOperator(evals + 1).logdet() = log det(⊗ᵢ Kᵢ + ⊗ᵢ Dᵢ)`, any number of factors. -/
theorem kpadloLogdet_symm (l : List Nat) (Ks Qs : KMatsM ℝ l) (sigs ds rs : KVecs ℝ l)
    (hr : RootInv l rs ds)
    (h : EigOK l (KMatsM.mul l (KMatsM.diagonal l rs) (KMatsM.mul l Ks (KMatsM.diagonal l rs))) Qs sigs)
    (hpos : ∀ idx, 0 < kronEig l sigs idx + 1) :
    kpadloSymmLogdet Real.log (KVecs.toLists l sigs) (KVecs.toLists l ds)
      = Real.log (kronAll l Ks + kronAll l (KMatsM.diagonal l ds)).det := by
  obtain ⟨h1, h2⟩ := kronAll_eigendecomp l _ Qs sigs h
  rw [kronAll_mul, kronAll_mul, kronAll_diagonal] at h1
  have hrd := kronEig_rootInv l rs ds hr
  unfold kpadloSymmLogdet
  rw [kronAll_diagonal, symm_det _ _ _ _ _ (fun idx => (hrd idx).1) h1 h2,
    Real.log_mul (Finset.prod_pos fun idx _ => (hrd idx).2).ne' (Finset.prod_pos fun idx _ => hpos idx).ne',
    Real.log_prod (fun idx _ => (hrd idx).2.ne'), Real.log_prod (fun idx _ => (hpos idx).ne'),
    sum_map_kronDiag l ds Real.log, sum_map_kronDiag l sigs (fun x => Real.log (x + 1))]

/-- the hypotheses above are satisfiable with three factors: `[2] ⊗ [3] ⊗ [5]`, constants / diagonals `4, 1, 1`
(`rᵢ = ½, 1, 1`). -/
example : ∃ (As Qs : KMatsM ℝ [1, 1, 1]) (lams : KVecs ℝ [1, 1, 1]),
    EigOK [1, 1, 1] As Qs lams ∧ KVecs.Pos [1, 1, 1] lams ∧ KMatsM.DetPos [1, 1, 1] As ∧
    (∀ x ∈ kronDiag (KVecs.toLists [1, 1, 1] lams), (1e-7 : ℝ) ≤ x) := by
  refine ⟨(Matrix.diagonal fun _ => 2, Matrix.diagonal fun _ => 3, Matrix.diagonal fun _ => 5, ()),
    (1, 1, 1, ()), ((fun _ => 2), (fun _ => 3), (fun _ => 5), ()), ?_, ?_, ?_, ?_⟩
  · simp [EigOK]
  · simp [KVecs.Pos]
  · simp [KMatsM.DetPos]
  · intro x hx
    simp [KVecs.toLists, kronDiag] at hx
    subst hx; norm_num

example : ∃ (ds rs : KVecs ℝ [1, 1]), RootInv [1, 1] rs ds :=
  ⟨((fun _ => 4), (fun _ => 1), ()), ((fun _ => 1 / 2), (fun _ => 1), ()), by simp [RootInv]; norm_num⟩

/-! ### Output shapes

The shape model describes the code WITH the proposed patches notes/C05_fix_2…6.diff applied (1-D rhs treated as a
one-column matrix; batched triangular sign rule; Block / BatchRepeat overrides post-process only the terms that
were requested).  Until they land, the cells where the unpatched code raises are `open:` findings. -/

/-- **Documented output shapes of `inv_quad_logdet`** for every flag combination, on every code path
of the `Good` family (Chol / base-class Cholesky shortcut, Triangular, Diag, Identity, SumKronecker /
LowRankRootAddedDiag closed forms, the stochastic base path, Kronecker and KroneckerAddedDiag over either
base path, and Block operators nested to any depth over all of those): with a matrix rhs of `m` columns the
inverse quadratic term has shape `batch` (reduce_inv_quad=True) or `batch ++ [m]` (False); the
log-determinant, when requested, has shape `batch`; terms that were not requested never make the call
raise.  Any batch shape with positive dimensions, any `m > 0`, any nesting depth. -/
theorem invQuadLogdet_shape (p : Path) (hg : Good p) (batch : List Nat) (m : Nat) (lg red : Bool)
    (hb : ∀ d ∈ batch, 0 < d) (hm : 0 < m) :
    (shapes p batch (.mat m) lg red).1 = .shape (if red then batch else batch ++ [m]) ∧
    (lg = true → (shapes p batch (.mat m) lg red).2 = .shape batch) ∧
    (shapes p batch (.mat m) lg red).2 ≠ .err ∧
    (shapes p batch .absent true red).1 ≠ .err ∧
    (shapes p batch .absent true red).2 = .shape batch :=
  (good_shapes p hg batch hb).terms m lg red hm

/-- A 1-D right-hand side on an unbatched operator of the closed-form classes behaves as a one-column
matrix: reduced shape `[]`, unreduced `[1]`; the log-determinant is unaffected. -/
theorem vector_rhs_shape (lg red : Bool) :
    (shapes .chol [] .vec lg red).1 = .shape (if red then [] else [1]) ∧
    (shapes .tri [] .vec lg red).1 = .shape (if red then [] else [1]) ∧
    (shapes .closed [] .vec lg red).1 = .shape (if red then [] else [1]) ∧
    (shapes .slq [] .vec lg red).1 = .shape (if red then [] else [1]) ∧
    (shapes .chol [] .vec lg red).2 = (shapes .chol [] (.mat 1) lg red).2 := by
  cases lg <;> cases red <;> decide

/-- Block over the stochastic path: the numel-1 placeholders the base returns for terms that were not
requested are passed through untouched, for every block count and batch shape (this is the case that raises
in the unpatched code — finding). -/
theorem block_slq_placeholders (batch : List Nat) (k : Nat) (red : Bool) (hb : ∀ d ∈ batch, 0 < d) (hk : 0 < k) :
    (shapes (.block .slq k) batch .absent true red).2 = .shape batch ∧
    (shapes (.block .slq k) batch .absent true red).1 ≠ .err :=
  let h := (good_shapes (.block .slq k) (.block _ _ .slq hk) batch hb).terms 1 true red Nat.one_pos
  ⟨h.2.2.2.2, h.2.2.2.1⟩

/-- **BatchRepeat output shapes, general**: `BatchRepeatLinearOperator.inv_quad_logdet` over any `Good` base path
(Chol / shortcut, Triangular, Diag, Identity, closed forms, the stochastic path, Kronecker, Block nests of any depth; the
base-class path is also what `CatLinearOperator` and `SumBatchLinearOperator` take — Cat only adds `.to(device)` on
the non-`None` terms), for EVERY base batch shape `bb` and repeat vector `rp` with positive entries (operator batch
shape `repeatShape rp bb`), every `m > 0` and flag combination: inverse quadratic term `batch` / `batch ++ [m]`,
log-determinant `batch`, nothing raises; without a rhs the log-determinant has shape `batch`. -/
theorem batchRepeat_shape (p : Path) (hg : Good p) (bb rp : List Nat) (m : Nat) (lg red : Bool)
    (hbb : ∀ d ∈ bb, 0 < d) (hrp : ∀ d ∈ rp, 0 < d) (hm : 0 < m) (batch : List Nat) (hbatch : batch = repeatShape rp bb) :
    (shapes (.rep p bb rp) batch (.mat m) lg red).1 = .shape (if red then batch else batch ++ [m]) ∧
    (lg = true → (shapes (.rep p bb rp) batch (.mat m) lg red).2 = .shape batch) ∧
    (shapes (.rep p bb rp) batch (.mat m) lg red).2 ≠ .err ∧
    (shapes (.rep p bb rp) batch .absent true red).1 ≠ .err ∧
    (shapes (.rep p bb rp) batch .absent true red).2 = .shape batch :=
  hbatch ▸ (rep_step p bb rp hbb hrp (good_shapes p hg bb hbb)).terms m lg red hm

/-- `repeatShape` is the batch shape `torch.Size` arithmetic of `BatchRepeatLinearOperator._size`: instances. -/
example : repeatShape [2, 1] [3] = [2, 3] ∧ repeatShape [3] [] = [3] ∧ repeatShape [2, 2] [1, 4] = [2, 8] := by decide

/-- BatchRepeat over the stochastic path without a rhs (raises in the unpatched code — finding): instances of
the patched behaviour (the general statement is `batchRepeat_shape`; Block OVER BatchRepeat is not covered by a theorem). -/
theorem rep_slq_partial :
    shapes (.rep .slq [] [2]) [2] .absent true true = (.shape [], .shape [2]) ∧
    shapes (.rep .slq [3] [2, 1]) [2, 3] (.mat 2) true false = (.shape [2, 3, 2], .shape [2, 3]) := by decide

/-! ### Wrappers interleaved in any order, Cat, batch-broadcast right-hand sides, `inv_quad` -/

/-- **Block, BatchRepeat and Cat wrappers interleaved in ANY order and to ANY depth** (`GoodAt`: leaves are the `Good`
paths at any positive batch shape; `Block` over a path that is good at `batch ++ [k]`; `BatchRepeat` over a path good
at its base batch shape `bb`, giving batch shape `repeatShape rp bb`; `Cat` over anything good).  In particular Block
OVER BatchRepeat (over Block …), which `invQuadLogdet_shape` / `batchRepeat_shape` do not reach: for every number of
columns `m > 0` and every flag combination the inverse quadratic term has shape `batch` / `batch ++ [m]`, the
log-determinant `batch`, no unrequested term makes the call raise, and without a rhs the log-determinant is `batch`. -/
theorem nested_wrappers_shape (p : Path) (batch : List Nat) (h : GoodAt p batch) (m : Nat) (lg red : Bool) (hm : 0 < m) :
    (shapes p batch (.mat m) lg red).1 = .shape (if red then batch else batch ++ [m]) ∧
    (lg = true → (shapes p batch (.mat m) lg red).2 = .shape batch) ∧
    (shapes p batch (.mat m) lg red).2 ≠ .err ∧
    (shapes p batch .absent true red).1 ≠ .err ∧
    (shapes p batch .absent true red).2 = .shape batch :=
  (goodAt_shapes p batch h).terms m lg red hm

/-- satisfiable, non-trivially: BlockDiag over BatchRepeat over BlockInterleaved over the stochastic path
(blocks 3, base batch `[2, 3]`·… repeated by `[2, 1, 1]`), and Cat over the Cholesky path. -/
example : GoodAt (.block (.rep (.block .slq 4) [1, 3] [2, 1]) 3) [2] ∧ GoodAt (.cat .chol) [2, 5] := by
  refine ⟨?_, .cat _ _ (.leaf _ _ .chol (by decide))⟩
  have h : GoodAt (.rep (.block .slq 4) [1, 3] [2, 1]) (repeatShape [2, 1] [1, 3]) :=
    .rep _ _ _ (.block _ _ _ (.leaf _ _ .slq (by decide)) (by decide) (by decide)) (by decide) (by decide)
  exact .block _ _ _ h (by decide) (by decide)

/-- `CatLinearOperator.inv_quad_logdet` returns exactly what the base-class call on the same operator returns
(`.to(device)` keeps kind and shape of every term; `None` stays `None`), on every `Good` base path, every batch shape,
rhs kind and flag combination that does not raise. -/
theorem cat_is_base (p : Path) (batch : List Nat) (rhs : Rhs) (lg red : Bool)
    (h1 : (shapes p batch rhs lg red).1 ≠ .err) (h2 : (shapes p batch rhs lg red).2 ≠ .err) :
    shapes (.cat p) batch rhs lg red = shapes p batch rhs lg red :=
  catPost_eq _ h1 h2

/-- **Translator fact** (regenerated from /repo's source on every run, `rfl`): the classes that define
`inv_quad_logdet` are exactly the ones the shape model has a `Path` constructor for — so every other class
(SumBatchLinearOperator, …) takes the base-class path — `inv_quad` is defined by the base class and CholLinearOperator only,
and `CatLinearOperator.inv_quad_logdet` is `super().inv_quad_logdet(...)` followed by `.to(...)` on the non-`None` terms. -/
theorem override_table_as_modelled :
    LinOp.Generated.C05.definers "inv_quad_logdet" =
      ["BatchRepeatLinearOperator", "BlockDiagLinearOperator", "BlockInterleavedLinearOperator", "CatLinearOperator",
       "CholLinearOperator", "DiagLinearOperator", "IdentityLinearOperator", "KroneckerProductAddedDiagLinearOperator",
       "KroneckerProductLinearOperator", "LinearOperator", "LowRankRootAddedDiagLinearOperator", "SumKroneckerLinearOperator",
       "TriangularLinearOperator", "ZeroLinearOperator"] ∧
    LinOp.Generated.C05.definers "inv_quad" = ["CholLinearOperator", "LinearOperator", "ZeroLinearOperator"] ∧
    LinOp.Generated.C05.catSkeleton =
      ["assign-super.inv_quad_logdet/3", "return-tuple-genexp/to=1/else-none=1/test-is-not-none=1"] :=
  ⟨LinOp.Generated.C05.inv_quad_logdet_overrides_as_modelled, LinOp.Generated.C05.inv_quad_overrides_as_modelled,
   LinOp.Generated.C05.cat_override_skeleton⟩

/-- torch broadcasting of batch shapes as modelled: a shape broadcasts with itself to itself, with all-ones of the
same length to itself, the operation is symmetric, and the result has the longer length — any shapes. -/
theorem bcast_laws (a b : List Nat) :
    bcast a a = some a ∧ bcast a b = bcast b a ∧ bcast a (List.replicate a.length 1) = some a ∧
    (∀ r, bcast a b = some r → r.length = max a.length b.length) := by
  refine ⟨bcast_self a, bcast_comm a b, ?_, ?_⟩
  · have := bcastRev_ones a.reverse
    simp only [List.length_reverse] at this
    simp [bcast, this]
  · intro r hr
    simp only [bcast, Option.map_eq_some_iff] at hr
    obtain ⟨r', hr', rfl⟩ := hr
    simpa using bcastRev_length _ _ _ hr'

/-- **Batch-broadcast right-hand side, consistency**: when the rhs has the operator's own batch shape the broadcast
model `shapesB` IS the shape model `shapes` on that leaf path — every leaf, batch shape, `m`, flag combination. -/
theorem broadcast_rhs_consistent (p : BLeaf) (batch : List Nat) (m : Nat) (lg red : Bool) :
    shapesB p batch batch m lg red = shapes p.path batch (.mat m) lg red := by
  cases p <;> cases lg <;> cases red <;> simp [shapesB, invQuadEntry, bcast_self, shapes, BLeaf.path]

/-- **Batch-broadcast right-hand side, shapes**: (1) on the Cholesky-shortcut, Diag and Identity paths a rhs with the same
number of batch dimensions whose batch shape `rb` broadcasts with the operator's to `bb` gives an inverse quadratic
term of shape `bb` / `bb ++ [m]` and a log-determinant of the OPERATOR's batch shape; a different number of dimensions
raises; (2) the stochastic branch (`logdet=True`) raises unless `rb = batch`; (3) with `logdet=False` the base class
delegates to `inv_quad`, which broadcasts for any numbers of batch dimensions. -/
theorem broadcast_rhs_shape (batch rb bb : List Nat) (m : Nat) (lg red : Bool)
    (hbb : bcast batch rb = some bb) (hpos : ∀ d ∈ bb, 0 < d) (hm : 0 < m) :
    (∀ p : BLeaf, p ≠ .slq → rb.length = batch.length →
      (shapesB p batch rb m lg red).1 = .shape (if red then bb else bb ++ [m]) ∧
      (lg = true → (shapesB p batch rb m lg red).2 = .shape batch)) ∧
    (∀ p : BLeaf, p ≠ .slq → rb.length ≠ batch.length → shapesB p batch rb m lg red = bothErr) ∧
    (rb ≠ batch → shapesB .slq batch rb m true red = bothErr) ∧
    shapesB .slq batch rb m false red = (.shape (if red then bb else bb ++ [m]), .shape []) ∧
    invQuadEntry batch rb m red = .shape (if red then bb else bb ++ [m]) := by
  refine ⟨?_, ?_, ?_, ?_, ?_⟩
  · intro p hp hl
    cases p
    · simp only [shapesB, hl, hbb, redIf_mat bb m red hpos hm]
      cases lg <;> simp
    · simp only [shapesB, hl, hbb]; cases lg <;> simp
    · simp only [shapesB, hl, hbb]; cases lg <;> simp
    · exact absurd rfl hp
  · intro p hp hl
    cases p <;> first | exact absurd rfl hp | simp [shapesB, hl]
  · intro h; simp [shapesB, h]
  · cases red <;> simp [shapesB, invQuadEntry, hbb]
  · simp [invQuadEntry, hbb]

/-- satisfiable with a genuinely broadcasting pair: operator batch `[2, 1]`, rhs batch `[1, 3]` → `[2, 3]`. -/
example : bcast [2, 1] [1, 3] = some [2, 3] ∧ bcast [2, 3] [3] = some [2, 3] ∧ bcast [2] [3] = none := by decide

/-- **`inv_quad` entry point**: `LinearOperator.inv_quad(rhs, reduce_inv_quad)` with a rhs of the operator's batch shape
returns shape `batch` (reduced) or `batch ++ [m]`; it is the inverse quadratic term of `inv_quad_logdet(logdet=False)` on
the base-class path (which delegates to it) for every rhs batch shape. -/
theorem invQuad_entry_shape (batch rb : List Nat) (m : Nat) (red : Bool) :
    invQuadEntry batch batch m red = .shape (if red then batch else batch ++ [m]) ∧
    (shapesB .slq batch rb m false red).1 = invQuadEntry batch rb m red := by
  refine ⟨by simp [invQuadEntry, bcast_self], ?_⟩
  simp only [shapesB]
  cases h : invQuadEntry batch rb m red <;> simp [bothErr]

end LinOp.C05
