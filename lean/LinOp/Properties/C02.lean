import LinOp.C02.Proofs3
import LinOp.C02.ProofsBatch3
import LinOp.C02.ProofsBProg
import LinOp.C02.ProofsBlock
import LinOp.Generated.C02Table
/-!
C02 — composition and structure-preserving rewrites never change the matrix.  Property theorems only.

`Op` is the deep embedding of the operator classes, `denote` the matrix a class documents, and
`add` / `addDiagonal` / `addJitter` / `matmulOp` / … the library's type-dispatching methods
(LinOp/C02/Model.lean).  All statements hold for every operand of every class at every nesting depth
and every size, over any commutative ring.
-/
namespace LinOp.C02
open Op
variable {α : Type} [CommRing α]

/-- **`a + b` denotes `⟦a⟧ + ⟦b⟧` whichever class the dispatch picks** — all 24 × 24 pairs of
constructors, arbitrary nesting (AddedDiag / Triangular / LowRankRootAddedDiag recurse into their
components), Sum flattening, Kronecker → KroneckerProductAddedDiag / SumKronecker, root operands
through `add_low_rank`.  A `.ok` result is never a wrong value. -/
theorem add_value (a b r : Op α) (h : add a b = .ok r) (i j : Nat) (hi : i < a.rows) :
    r.denote i j = a.denote i j + b.denote i j := add_refines a b r h i j hi

/-- **Zero is absorbed**: `Zero + b` is `b` itself and `a + Zero` is `a` itself for the classes whose
ladder ends in the base class or in `SumLinearOperator.__add__` (no wrapper object is built). -/
theorem zero_add_absorb (n m : Nat) (b : Op α) : add (.zero n m) b = .ok b := rfl

theorem add_zero_absorb_base (a : Op α) (n m : Nat) : baseAdd a (.zero n m) = .ok a := rfl

theorem add_zero_absorb_sum (a : Op α) (n m : Nat) : sumAdd a (.zero n m) = .ok a := rfl

/-- **`add_diagonal` adds `diag(d)`** for the three accepted shapes of `d`, for every class (Diag stays
Diag, Kronecker → KroneckerProductAddedDiag, LowRankRoot → LowRankRootAddedDiag, Triangular and the
AddedDiag family recurse, Zero becomes a Diag, everything else becomes an AddedDiag). -/
theorem addDiagonal_value (a r : Op α) (g : DiagArg α) (h : addDiagonal a g = .ok r) (i j : Nat) (hi : i < a.rows) :
    r.denote i j = a.denote i j + (if i = j then g.fn i else 0) := addDiagonal_refines a r g h i j hi

/-- size-1 corner: a full diagonal of a 1×1 operator is a length-1 tensor, which the code treats as a constant
diagonal (`diag.shape[-1] != 1` is false) — the class is ConstantDiag, the value is the same. -/
theorem addDiagonal_one_by_one (t : NMat α) (d : Nat → α) :
    addDiagonal (.dense 1 1 t) (.full d) = .ok (.addedDiag (.dense 1 1 t) (.constDiag 1 (d 0))) := rfl

/-- **`add_jitter` adds `c·I`**, including the Toeplitz override that only touches the first column entry. -/
theorem addJitter_value (a r : Op α) (c : α) (h : addJitter a c = .ok r) (i j : Nat) (hi : i < a.rows) :
    r.denote i j = a.denote i j + (if i = j then c else 0) := addJitter_refines a r c h i j hi

/-- **`a @ b` for an operator `b`** (rows of the result inside `a`'s row range): the structured results of
`Zero.matmul`, `Identity.matmul`, `ConstantDiag.matmul`, `Diag.matmul` (× Dense, × Triangular(Dense),
× Diag) and the lazy `MatmulLinearOperator` all denote the matrix product. -/
theorem matmulOp_value (a b r : Op α) (h : matmulOp a b = .ok r) (i j : Nat) (hi : i < a.rows)
    (hk : a.cols = b.rows) :
    r.denote i j = sumN a.cols fun k => a.denote i k * b.denote k j := matmulOp_refines a b r h i j hi hk

/-- **Orientation is kept**: `Diag @ Triangular(T, upper=u)` is a TriangularLinearOperator with the SAME `upper` flag
(`TriangularLinearOperator(self @ other._tensor, upper=other.upper)`); the class-tree correspondence compares the flag. -/
theorem diag_matmul_tri_keeps_orientation (n k m : Nat) (d : Nat → α) (up : Bool) (t : NMat α) :
    matmulOp (.diag n d) (.tri up (.dense k m t)) = .ok (.tri up (.dense n m fun i j => d i * t i j)) := rfl

/-- transposing a Triangular flips the flag, transposing twice restores it. -/
theorem transpose_tri_flag (up : Bool) (t : Op α) :
    transposeOp (.tri up t) = .tri (!up) (transposeOp t) := rfl

/-- The Mul constructor's operand swap (larger root first) is invisible in the value. -/
theorem mkMul_value (a b : Op α) (i j : Nat) : (mkMul a b).denote i j = a.denote i j * b.denote i j :=
  mkMul_refines a b i j

/-- **`a - b` denotes `⟦a⟧ - ⟦b⟧`** (`self + other.mul(-1)`; includes `X - Zero` since fix 63d7878), for every
pair of classes; `S` supplies the positivity test and square root used for root folding. -/
theorem sub_value (S : ScalarOps α) (hS : SqrtLaw S) (a b r : Op α) (h : sub S a b = .ok r) (i j : Nat)
    (hi : i < a.rows) :
    r.denote i j = a.denote i j - b.denote i j := by
  rw [sub_refines S hS a b r h i j hi, mul_neg_one, sub_eq_add_neg]

/-- **Multiplication by a constant** (python number, 0-d tensor …) denotes the scaled matrix whatever the class
does with it: Diag/ConstantDiag/Identity/KroneckerProductDiag rescale their diagonal, Triangular and the Sum family
recurse, **Root/LowRankRoot/Chol fold `sqrt c` into the root when `c > 0`** (needs `sqrt c · sqrt c = c`) and
wrap in ConstantMul otherwise, Mul scales its left root, LowRankRootAddedDiag degrades to AddedDiag for
non-positive constants, Zero stays Zero, everything else becomes a ConstantMulLinearOperator. -/
theorem mulScalar_value (S : ScalarOps α) (hS : SqrtLaw S) (a : Op α) (c : α) (i j : Nat) :
    (mulScalar S a c).denote i j = a.denote i j * c := mulScalar_refines S hS a c i j

theorem mulConst_value (S : ScalarOps α) (hS : SqrtLaw S) (a : Op α) (c : α) (i j : Nat) :
    (mulConst S a c).denote i j = a.denote i j * c := mulConst_refines S hS a c i j

/-- `op / c` = `op * (1/c)`. -/
theorem divScalar_value (S : ScalarOps α) (hS : SqrtLaw S) (a : Op α) (cinv : α) (i j : Nat) :
    (divScalar S a cinv).denote i j = a.denote i j * cinv := divScalar_refines S hS a cinv i j

/-- scaling never changes the shape. -/
theorem mulConst_shape (S : ScalarOps α) (a : Op α) (c : α) :
    (mulConst S a c).rows = a.rows ∧ (mulConst S a c).cols = a.cols := shape_mulConst S a c

/-- **Transpose** (`_transpose_nonbatch` of every class) denotes the transposed matrix and swaps the shape. -/
theorem transpose_value (a : Op α) (i j : Nat) : (transposeOp a).denote i j = a.denote j i := transpose_refines a i j

theorem transpose_shape (a : Op α) : (transposeOp a).rows = a.cols ∧ (transposeOp a).cols = a.rows :=
  shape_transpose a

/-- **Elementwise product of two operators** (`mul` → `_mul_matrix`): Zero on either side, ConstantDiag∘ConstantDiag,
Diag-like ∘ anything (only the diagonal of the other operand is read — Identity included: it inherits ConstantDiag's `_mul_matrix`), the Dense
shortcut, and the MulLinearOperator built from root decompositions (`rootDec` is the numerical primitive, assumed to
return an operator with the same value) all denote the Hadamard product. -/
theorem mulMatrix_value (rootDec : Op α → Op α) (hroot : ∀ x i j, (rootDec x).denote i j = x.denote i j)
    (a b r : Op α) (h : mulMatrix rootDec a b = .ok r) (i j : Nat) :
    r.denote i j = a.denote i j * b.denote i j := mulMatrix_refines rootDec hroot a b r h i j

/-- `Identity * b` is the diagonal part of `b` (the inherited `ConstantDiag._mul_matrix`, fix 7b74d3a), never an error. -/
theorem mulMatrix_identity (rootDec : Op α → Op α) (n : Nat) (b : Op α) (hz : b.isZero = false)
    (hc : b.isConstDiag = false) :
    mulMatrix rootDec (.identity n) b = .ok (.diag n fun i => 1 * b.denote i i) := by
  unfold mulMatrix
  rw [hz, hc]; rfl

/-- `Triangular * b` (be9ba88): a triangular operator (same orientation) over the dense Hadamard product — never a
MulLinearOperator of root decompositions (triangular operators are not PSD). -/
theorem mulMatrix_triangular (rootDec : Op α → Op α) (up : Bool) (t b : Op α) (hz : b.isZero = false) :
    mulMatrix rootDec (.tri up t) b
      = .ok (.tri up (.dense t.rows t.cols fun i j => t.denote i j * b.denote i j)) := by
  unfold mulMatrix
  rw [hz]; rfl

/-- **Programs**: for every expression program `p` (any depth) over operators of any class, built from +, −, scalar * and /,
elementwise *, @, add_diagonal, add_jitter and transpose: if the library's evaluation (every step through the
dispatch model) yields `r`, then `r` has the shape of the dense expression and denotes the dense value on it.
Which result classes were chosen along the way is invisible. -/
theorem eval_refines (E : Env α) (hS : SqrtLaw E.S)
    (hroot : ∀ x i j, (E.rootDec x).denote i j = x.denote i j) (p : Prog α) (r : Op α)
    (h : Impl.eval E p = .ok r) :
    r.rows = p.rows ∧ r.cols = p.cols ∧ ∀ i j, i < p.rows → j < p.cols → r.denote i j = Spec.eval p i j :=
  eval_refines_aux E hS hroot p r h

/-- Corollary (**result class irrelevant**): two evaluations of the same program under different numerical
primitives / scalar implementations (hence possibly different class trees) agree entrywise. -/
theorem resultClass_irrelevant (E E' : Env α) (hS : SqrtLaw E.S) (hS' : SqrtLaw E'.S)
    (hroot : ∀ x i j, (E.rootDec x).denote i j = x.denote i j)
    (hroot' : ∀ x i j, (E'.rootDec x).denote i j = x.denote i j)
    (p : Prog α) (r r' : Op α) (h : Impl.eval E p = .ok r) (h' : Impl.eval E' p = .ok r')
    (i j : Nat) (hi : i < p.rows) (hj : j < p.cols) : r.denote i j = r'.denote i j := by
  rw [(eval_refines E hS hroot p r h).2.2 i j hi hj, (eval_refines E' hS' hroot' p r' h').2.2 i j hi hj]


/-! ### batched layer (LinOp/C02/Batch.lean): batch shapes, broadcasting, batch rewrites — all batch shapes, all nesting depths -/
section batched
open BOp

/-- **Every batch rewrite denotes the torch rewrite of the dense value** (`expand` / `_expand_batch`, `permute`, `unsqueeze`,
`sum(dim)`, `prod(dim)` over a batch dimension): for an operator `o` whose tensors all have batch shape `S` (what the
constructors establish; the constant of a ConstantMul may be 0-d) and every valid batch index `idx` of the rewritten shape,
the rewritten operator's matrix at `idx` is what torch computes from the dense batched value of `o` — whichever per-class
override did the work (tensor.expand / .permute / .unsqueeze / .sum / .prod on the class's own tensor, recursion through
Triangular / Root / Sum / Matmul, ConstantMul expanding its constant first, Identity → ConstantDiag of the count for `sum`). -/
theorem batchRewrite_value (ρ : Rewrite) (S : Shape) (o r : BOp α) (hu : o.uniform S = true) (hok : ρ.okFor o = true)
    (h : ρ.apply o = .ok r) (idx : BIdx) (hidx : inRange (ρ.shape S) idx = true) (i j : Nat) :
    r.denote idx i j = ρ.spec S o.denote idx i j := rewrite_value_aux ρ S o r hu hok h idx hidx i j

/-- **…and has the torch batch shape**: every tensor of the result has batch shape `ρ.shape S` (so rewrites compose), the
matrix shape is unchanged. -/
theorem batchRewrite_shape (ρ : Rewrite) (S : Shape) (o r : BOp α) (hu : o.uniform S = true) (hok : ρ.okFor o = true)
    (h : ρ.apply o = .ok r) : r.uniform (ρ.shape S) = true ∧ r.bshape = ρ.shape S :=
  ⟨rewrite_uniform_aux ρ S o r hu hok h, bshape_of_uniform _ r (rewrite_uniform_aux ρ S o r hu hok h)⟩

/-- `_expand_batch(S')` spelled out: the expanded operator at `idx` is the old one at the broadcast index. -/
theorem expandBatch_value (S' S : Shape) (o : BOp α) (hu : o.uniform S = true) (idx : BIdx) (hidx : inRange S' idx = true)
    (i j : Nat) : (expandBatch S' o).denote idx i j = o.denote (bcast S idx) i j := expand_value S' S idx hidx o hu i j

/-- `_permute_batch(dims)` of a tree without a ZeroLinearOperator: `out[idx] = in[old]` with `old[dims[k]] = idx[k]`. -/
theorem permuteBatch_value (dims : List Nat) (S : Shape) (o : BOp α) (hu : o.uniform S = true) (hz : o.hasZero = false)
    (idx : BIdx) (hidx : inRange (permShape dims S) idx = true) (i j : Nat) :
    (permuteBatch dims o).denote idx i j = o.denote (permIdx dims idx) i j := by
  rw [permuteBatch_eq_reindex dims o hz]
  exact reindex_value _ _ S idx (bcast_id _ idx hidx) o hu i j

/-- **ZeroLinearOperator inherits the generic `_permute_batch`, which rebuilds it from its unpermuted sizes** (open finding):
the value is still zero but the batch shape is not the permuted one. -/
theorem zero_permute_shape_counterexample :
    (permuteBatch [1, 0] (BOp.zero [2, 3] 2 2 : BOp Int)).bshape ≠ permShape [1, 0] [2, 3] := by decide

/-- **`a @ b` with operands of different batch shapes** (`MatmulLinearOperator.__init__` expands both factors to the broadcast
shape `S`): the product at every batch index of `S` multiplies the operands read at their broadcast indices (torch
broadcasting of `@`), the result is batch-uniform — so every later batch rewrite of the lazy product is covered by
`batchRewrite_value`. -/
theorem matmul_broadcast_value (a b r : BOp α) (sa sb : Shape) (ha : a.uniform sa = true) (hb : b.uniform sb = true)
    (h : mkMatmul a b = .ok r) :
    ∃ S, bshapes sa sb = some S ∧ r.bshape = S ∧ r.uniform S = true ∧ r.rows = a.rows ∧ r.cols = b.cols ∧
      ∀ idx, inRange S idx = true → ∀ i j,
        r.denote idx i j = sumN a.cols fun k => a.denote (bcast sa idx) i k * b.denote (bcast sb idx) k j :=
  mkMatmul_value a b r sa sb ha hb h

/-- **`a + b` through `SumLinearOperator(a, b)` with operands of different batch shapes** (the `_expand_batch` wrappers of the
constructor): the sum at every batch index of the broadcast shape adds the operands read at their broadcast indices. -/
theorem add_broadcast_value (a b r : BOp α) (sa sb : Shape) (ha : a.uniform sa = true) (hb : b.uniform sb = true)
    (h : mkSum2 a b = .ok r) :
    ∃ S, bshapes sa sb = some S ∧ r.bshape = S ∧ r.uniform S = true ∧ r.rows = a.rows ∧ r.cols = a.cols ∧
      ∀ idx, inRange S idx = true → ∀ i j,
        r.denote idx i j = a.denote (bcast sa idx) i j + b.denote (bcast sb idx) i j :=
  mkSum2_value a b r sa sb ha hb h

/-- **`op * c` for a batch of constants** (`c` of batch shape `cbs`, e.g. a `(b,1,1)` tensor after the front-end's `view`, or a
0-d constant): Diag / ConstantDiag / Identity rescale their diagonal with torch broadcasting, Triangular and Sum recurse, Zero
stays Zero, everything else is wrapped in a ConstantMulLinearOperator that keeps the constant's own batch shape — at every
batch index the matrix is scaled by the constant read at its broadcast index. -/
theorem mulConstBatch_value (cbs : Shape) (c : BIdx → α) (S : Shape) (o r : BOp α) (hu : o.uniform S = true)
    (h : mulConstB cbs c o = some r) (idx : BIdx) (hidx : inRange S idx = true) (i j : Nat) :
    r.denote idx i j = o.denote idx i j * c (bcast cbs idx) := mulConstB_value cbs c S o r hu h idx hidx i j

/-- **`a + Zero` broadcasts (since d734ac2)**: `a + ZeroLinearOperator(zbs…)` is `a` expanded to the broadcast batch shape `S`
(`a` itself when it already has that shape): batch shape `S`, batch-uniform, and at every batch index the matrix of `a` read at
its broadcast index. -/
theorem add_zero_broadcast_value (a r : BOp α) (sa zbs : Shape) (ha : a.uniform sa = true) (h : addZeroRight a zbs = .ok r) :
    ∃ S, bshapes sa zbs = some S ∧ r.bshape = S ∧ r.uniform S = true ∧
      ∀ idx, inRange S idx = true → ∀ i j, r.denote idx i j = a.denote (bcast sa idx) i j + 0 := by
  unfold addZeroRight at h
  rw [bshape_of_uniform sa a ha] at h
  split at h
  next S hS =>
    cases h
    obtain ⟨hu, hv⟩ := matchBatch_spec S sa a ha
    exact ⟨S, hS, bshape_of_uniform S _ hu, hu, fun idx hidx i j => (hv idx hidx i j).trans (add_zero _).symm⟩
  · cases h

/-- **`a * Zero` is a Zero of the broadcast shape (since d734ac2)**. -/
theorem mul_zero_broadcast_value (a r : BOp α) (zbs : Shape) (h : mulZeroRight a zbs = .ok r) :
    ∃ S, bshapes a.bshape zbs = some S ∧ r.bshape = S ∧ r.rows = a.rows ∧ r.cols = a.cols ∧
      ∀ idx i j, r.denote idx i j = 0 := by
  unfold mulZeroRight at h
  split at h
  next S hS => cases h; exact ⟨S, hS, rfl, rfl, rfl, fun _ _ _ => rfl⟩
  · cases h

/-- **The code before d734ac2 returned the left operand of `a + Zero(b…)` unchanged**: statement about the OLD formula only — an
unbatched `a` plus a `(2,)`-batched Zero kept batch shape `()` instead of the broadcast shape `(2,)`. -/
theorem old_code_add_zero_shape_counterexample :
    (oldAddZeroRight (BOp.dense [] 1 1 fun _ _ _ => (1 : Int)) [2]).bshape ≠ [2] ∧
    bshapes ([] : Shape) [2] = some [2] := by decide

/-- **The code before d734ac2 returned the Zero operand of `a * Zero` unchanged**: a `(2,)`-batched `a` times an unbatched
Zero kept batch shape `()`; statement about the OLD formula only. -/
theorem old_code_mul_zero_shape_counterexample :
    (oldMulZeroRight (BOp.dense [2] 1 1 fun _ _ _ => (1 : Int)) [] 1 1).bshape ≠ [2] ∧
    bshapes ([2] : Shape) [] = some [2] := by decide

/-- the front-end tests of `LinearOperator.mul`: a `(b,1,1)` tensor against an operator of batch shape `(b,)` is a batch of
constants, a one-element tensor is a 0-d constant, an `(n,n)` tensor is a matrix. -/
theorem mulKind_examples :
    mulKind [2] [2, 1, 1] = .constantBatch ∧ mulKind [2, 3] [3, 1, 1] = .constantBatch ∧ mulKind [2] [1, 1, 1] = .constant0d ∧
    mulKind [2] [3, 1, 1] = .matrix ∧ mulKind [2] [3, 3] = .matrix ∧ mulKind [] [] = .constant0d := by decide

/-- hypotheses of the batched theorems are satisfiable on a non-trivial instance: Matmul of a (3,2)-batched Dense and a
(2,)-batched Diag, then `unsqueeze(1)`. -/
example : ∃ r : BOp Int, mkMatmul (.dense [3, 2] 2 2 fun idx i j => ((idx.sum + i + j : Nat) : Int))
      (.diag [2] 2 fun idx i => ((idx.sum + i : Nat) : Int)) = .ok r ∧
    r.uniform [3, 2] = true ∧ (unsqueezeBatch 1 r).tree = "Matmul(Dense[3,1,2],Diag[3,1,2])" :=
  ⟨.matmul (.dense [3, 2] 2 2 fun idx i j => ((idx.sum + i + j : Nat) : Int))
      (expandBatch [3, 2] (.diag [2] 2 fun idx i => ((idx.sum + i : Nat) : Int))), rfl, rfl, by decide +kernel⟩

/-- **All programs of the batched layer refine the dense torch computation** (`beval_refines`): for EVERY program `p` built from
batch-uniform library objects (11 classes, any nesting), any chain of batch rewrites (`_expand_batch` / `expand`, `_permute_batch`,
`_unsqueeze_batch`, `_sum_batch`, `_prod_batch`) and the broadcasting constructors `SumLinearOperator(p, q)` /
`MatmulLinearOperator(p, q)` (operands of different batch ranks), nested in any order and to any depth: if the model evaluator
(`beval`: the per-class overrides of `Batch.lean`, step by step) returns an operator `r`, then the dense specification `bspec p`
(torch's `expand` / `permute` / `unsqueeze` / `sum` / `prod` / broadcasting `+` and `@` on dense batched tensors) is defined, `r` is
batch-uniform with the specification's batch and matrix shape, and `r`'s matrix at every valid batch index is the specification's.
Induction over programs; the composition step rests on the range-preservation lemmas of torch's index maps (`bcast_inRange`,
`permIdx_inRange`, `eraseIdx_inRange`, `insertIdx_inRange`).
Named `_partial` because the program grammar leaves out `repeat` / BatchRepeat, `squeeze` (a `__getitem__`, C03), the
base-class `_sum_batch` (SumBatchLinearOperator) and `_prod_batch`, and because `beval` re-checks `expOk` (each operand shape
expands to the broadcast shape) instead of deriving it from `bshapes … = some S` (a lemma about `torch.broadcast_shapes` that is
not proved; the correspondence cells `C02/batchm/prog/*` show the check never rejects a program the library accepts). -/
theorem beval_refines_partial (p : BProg α) (r : BOp α) (h : beval p = .ok r) :
    ∃ x, bspec p = some x ∧ r.uniform x.bs = true ∧ r.bshape = x.bs ∧ r.rows = x.rows ∧ r.cols = x.cols ∧
      ∀ idx, inRange x.bs idx = true → ∀ i j, r.denote idx i j = x.v idx i j := beval_refines_aux p r h

/-- the hypothesis of `beval_refines_partial` is satisfiable by a non-trivial program: `sum(0)` of the transposed-batch
`(Diag[2] unsqueezed to [1,2]) @ Dense[3,2]`, plus an expanded Toeplitz. -/
example : ∃ r : BOp Int, beval (.add
    (.rw (.permute [1, 0]) (.matmul (.rw (.unsqueeze 0) (.leaf (.diag [2] 2 fun idx i => ((idx.getD 0 0 + i : Nat) : Int))))
      (.leaf (.dense [3, 2] 2 2 fun idx i j => ((idx.getD 0 0 + 2 * idx.getD 1 0 + i * j : Nat) : Int)))))
    (.rw (.expand [2, 3]) (.leaf (.toep [3] 2 fun idx k => ((idx.getD 0 0 + k : Nat) : Int))))) = .ok r :=
  ⟨_, rfl⟩

/-- **torch's index maps preserve validity** (what lets rewrites compose): a valid index of the rewritten shape is mapped to a
valid index of the old shape by `expand` / broadcasting (`bcast`), `permute` (`permIdx`, `dims` any list containing every batch dim),
`unsqueeze` (`eraseIdx`) and by every summand of `sum` / `prod` (`insertIdx`). -/
theorem index_maps_preserve_range (S : Shape) (idx : BIdx) :
    (∀ S', expOk S S' = true → inRange S' idx = true → inRange S (bcast S idx) = true) ∧
    (∀ dims : List Nat, dims.length = S.length → (∀ j, j < S.length → j ∈ dims) → inRange (permShape dims S) idx = true →
      inRange S (permIdx dims idx) = true) ∧
    (∀ d, d ≤ S.length → inRange (S.insertIdx d 1) idx = true → inRange S (idx.eraseIdx d) = true) ∧
    (∀ d k, d < S.length → k < S.getD d 0 → inRange (S.eraseIdx d) idx = true → inRange S (idx.insertIdx d k) = true) :=
  ⟨fun S' => bcast_inRange S S' idx, fun dims => permIdx_inRange dims S idx, fun d => eraseIdx_inRange d S idx,
   fun d k => insertIdx_inRange d S idx k⟩

end batched

/-! ### cat / cat_rows / add_low_rank (LinOp/C02/Block.lean) -/

/-- **`cat([a, b], dim)` over a matrix dimension denotes the stacked matrix** and has the stacked shape. -/
theorem cat_value (rowwise : Bool) (cls : Nat) (a b r : Op α) (h : catOp rowwise cls a b = .ok r) :
    (r.rows = if rowwise then a.rows + b.rows else a.rows) ∧ (r.cols = if rowwise then a.cols else a.cols + b.cols) ∧
    ∀ i j, r.denote i j = if rowwise then vcat a.rows a.denote b.denote i j else hcat a.cols a.denote b.denote i j :=
  catOp_refines rowwise cls a b r h

/-- **`A.cat_rows(B, D)` denotes the block matrix `[[A, Bᵀ], [B, D]]`** (for a square `A` of any class). -/
theorem catRows_value (cls : Nat) (a r : Op α) (o : Nat) (B D : NMat α) (h : catRowsOp cls a o B D = .ok r)
    (hsq : a.rows = a.cols) :
    r.rows = a.rows + o ∧ r.cols = a.cols + o ∧ ∀ i j, r.denote i j =
      if i < a.rows then (if j < a.cols then a.denote i j else B (j - a.cols) i)
      else (if j < a.cols then B (i - a.rows) j else D (i - a.rows) (j - a.cols)) :=
  catRowsOp_refines cls a r o B D h hsq

/-- **`A.add_low_rank(B)` denotes `A + B Bᵀ`** whichever branch is taken (re-dispatched `self + Dense(B Bᵀ)`, or the
Sum-family branch that returns a DenseLinearOperator). -/
theorem addLowRank_value (a r : Op α) (k : Nat) (B : NMat α) (h : addLowRank a k B = .ok r) (i j : Nat)
    (hi : i < a.rows) : r.denote i j = a.denote i j + sumN k fun l => B i l * B j l := addLowRank_refines a r k B h i j hi

open Matrix in
/-- **The Schur-complement identity the root transplant of `cat_rows` relies on**: with `E Eᵀ = A` (cached root), `E Rᵀ = 1`
(the inverse root the code multiplies with; it gives `R Rᵀ = A⁻¹`), `F = B R` and `G Gᵀ = D − F Fᵀ`, the new root
`Z = [[E, 0], [F, G]]` satisfies `Z Zᵀ = [[A, Bᵀ], [B, D]]` — the cached `root_decomposition` of the result denotes the
result.  (With the wrong sign `D + F Fᵀ` the lower-right block would be `D + 2 F Fᵀ`.) -/
theorem catRows_root_identity {n o k q : Type} [Fintype n] [Fintype o] [Fintype k] [Fintype q] [DecidableEq n]
    [DecidableEq o] [DecidableEq k] [DecidableEq q]
    (A : Matrix n n α) (B : Matrix o n α) (D : Matrix o o α) (E : Matrix n k α) (R : Matrix n k α) (G : Matrix o q α)
    (hE : E * Eᵀ = A) (hR : E * Rᵀ = 1) (hG : G * Gᵀ = D - (B * R) * (B * R)ᵀ) :
    fromBlocks E 0 (B * R) G * (fromBlocks E 0 (B * R) G)ᵀ = fromBlocks A Bᵀ B D := by
  rw [fromBlocks_transpose, fromBlocks_multiply, transpose_zero, Matrix.zero_mul, Matrix.zero_mul, Matrix.mul_zero,
    add_zero, add_zero, add_zero, hE, root_mul_transpose_inverseRoot hR, mul_inverseRoot_mul_transpose hR, hG,
    add_sub_cancel]

/-- the hypotheses of `catRows_root_identity` are satisfiable (1×1 blocks over ℤ: A = 1, B = 2, D = 5, E = R = G = 1). -/
example : ∃ (A B D E R G : Matrix (Fin 1) (Fin 1) Int), E * E.transpose = A ∧ E * R.transpose = 1 ∧
    G * G.transpose = D - (B * R) * (B * R).transpose :=
  ⟨1, 2, 5, 1, 1, 1, by decide, by decide, by decide⟩

/-- The model has no other failure mode than the two explicit errors: a dispatch step either returns an operator
(with the right value, by the theorems above) or says `notSupported` / `shape`. -/
theorem error_explicit (e : Err) : e = .notSupported ∨ e = .shape := by
  cases e
  · exact .inl rfl
  · exact .inr rfl

/-- the hypotheses of `eval_refines` are satisfiable (exact square roots of 0/1 over ℤ, identity root stand-in) -/
example : ∃ E : Env Int, SqrtLaw E.S ∧ ∀ x i j, (E.rootDec x).denote i j = x.denote i j :=
  ⟨⟨⟨fun c => c == 1, fun c => c⟩, id⟩, by intro c hc; simp at hc; subst hc; rfl, fun _ _ _ => rfl⟩

/-- **The previous `IdentityLinearOperator._mul_matrix` (`return other`, before fix 7b74d3a) was wrong**: a statement
about the OLD formula only — `A`'s off-diagonal entries differ from the elementwise product `I ∘ A`. -/
theorem old_code_identity_mul_counterexample :
    (oldIdentityMulMatrix 2 (Op.dense 2 2 fun _ _ => (1 : Int))).denote 0 1 ≠
      (Op.identity 2 : Op Int).denote 0 1 * (Op.dense 2 2 fun _ _ => (1 : Int)).denote 0 1 := by decide

/-- **The previous `ZeroLinearOperator.mul(python number)` (before fix 63d7878) produced no value** (AttributeError), so
`X - Zero` failed for every `X`; statement about the OLD formula only. -/
theorem old_code_zero_mul_counterexample : (oldZeroMulPyNumber 2 2 : Option (Op Int)) = none := rfl

/-! ### the dispatch model's case lists are the ladders in /repo's source (regenerated every run) -/
open LinOp.Generated.C02

/-- which classes define `__add__` themselves (= the left-operand cases of `add`). -/
theorem table_add_overriders : overriders "__add__" =
    ["LinearOperator", "AddedDiagLinearOperator", "DenseLinearOperator", "DiagLinearOperator",
     "ConstantDiagLinearOperator", "KroneckerProductAddedDiagLinearOperator", "KroneckerProductLinearOperator",
     "LowRankRootAddedDiagLinearOperator", "LowRankRootLinearOperator", "SumLinearOperator",
     "TriangularLinearOperator", "ZeroLinearOperator"] := by decide +kernel

theorem ladder_base_add : ladder "LinearOperator" "__add__" =
    some ["other:ZeroLinearOperator", "other:DiagLinearOperator", "other:RootLinearOperator", "other:Tensor",
          "other:numbers.Number"] := by decide +kernel
theorem ladder_dense_add : ladder "DenseLinearOperator" "__add__" =
    some ["other:DenseLinearOperator", "other:torch.Tensor"] := by decide +kernel
theorem ladder_diag_add : ladder "DiagLinearOperator" "__add__" = some ["other:DiagLinearOperator"] := by decide +kernel
theorem ladder_constdiag_add : ladder "ConstantDiagLinearOperator" "__add__" =
    some ["other:ConstantDiagLinearOperator"] := by decide +kernel
theorem ladder_tri_add : ladder "TriangularLinearOperator" "__add__" =
    some ["other:DiagLinearOperator", "other:TriangularLinearOperator"] := by decide +kernel
theorem ladder_kron_add : ladder "KroneckerProductLinearOperator" "__add__" =
    some ["other:KroneckerProductDiagLinearOperator|ConstantDiagLinearOperator", "other:KroneckerProductLinearOperator",
          "other:DiagLinearOperator"] := by decide +kernel
theorem ladder_kpad_add : ladder "KroneckerProductAddedDiagLinearOperator" "__add__" =
    some ["other:ConstantDiagLinearOperator"] := by decide +kernel
theorem ladder_addeddiag_add : ladder "AddedDiagLinearOperator" "__add__" = some ["other:DiagLinearOperator"] := by
  decide +kernel
theorem ladder_lrr_add : ladder "LowRankRootLinearOperator" "__add__" = some ["other:DiagLinearOperator"] := by
  decide +kernel
theorem ladder_lrrad_add : ladder "LowRankRootAddedDiagLinearOperator" "__add__" = some ["other:DiagLinearOperator"] := by
  decide +kernel
theorem ladder_sum_add : ladder "SumLinearOperator" "__add__" =
    some ["other:ZeroLinearOperator", "other:DiagLinearOperator", "other:SumLinearOperator", "other:LinearOperator",
          "other:Tensor"] := by decide +kernel
theorem ladder_zero_add : ladder "ZeroLinearOperator" "__add__" =
    some ["other:is_tensor", "other:LinearOperator", "other:LinearOperator"] := by decide +kernel
theorem ladder_zero_mul : ladder "ZeroLinearOperator" "mul" = some ["other:is_tensor", "other:LinearOperator"] := by
  decide +kernel
/-- `IdentityLinearOperator` has no `_mul_matrix` of its own any more (it must inherit ConstantDiag's). -/
theorem ladder_identity_mul_matrix : ladder "IdentityLinearOperator" "_mul_matrix" = none := by decide +kernel
theorem ladder_tri_init : ladder "TriangularLinearOperator" "__init__" =
    some ["tensor:TriangularLinearOperator", "tensor:BatchRepeatLinearOperator", "base_linear_op:TriangularLinearOperator",
          "tensor:is_tensor"] := by decide +kernel

/-- since d734ac2 the `isinstance(other, ZeroLinearOperator)` branches hand over to the Zero operand's own methods
(`ZeroLinearOperator.__add__` / `.mul` validate and broadcast); before, they returned `self` / `other` unchanged. -/
theorem zero_branch_base_add : zeroReturn "LinearOperator" "__add__" = some ["other + self"] := by decide +kernel
theorem zero_branch_sum_add : zeroReturn "SumLinearOperator" "__add__" = some ["other + self"] := by decide +kernel
theorem zero_branch_base_mul : zeroReturn "LinearOperator" "mul" = some ["other.mul(self)"] := by decide +kernel
/-- `BlockDiagLinearOperator.matmul` (53611b1): shapes are validated (`_matmul_broadcast_shape`) before the block-wise / diagonal
shortcuts, whose ladder is BlockDiag, then Diag. -/
theorem ladder_blockdiag_matmul : ladder "BlockDiagLinearOperator" "matmul" =
    some ["other:BlockDiagLinearOperator", "other:DiagLinearOperator"] := by decide +kernel
theorem blockdiag_matmul_validates_first : (callsOf "BlockDiagLinearOperator" "matmul").map List.head? =
    some (some "_matmul_broadcast_shape") := by decide +kernel

theorem table_mul_constant_overriders : overriders "_mul_constant" =
    ["LinearOperator", "BlockLinearOperator", "CholLinearOperator", "DiagLinearOperator", "ConstantDiagLinearOperator",
     "IdentityLinearOperator", "InterpolatedLinearOperator", "KroneckerProductDiagLinearOperator",
     "LowRankRootAddedDiagLinearOperator", "MulLinearOperator", "RootLinearOperator", "SumKroneckerLinearOperator",
     "SumLinearOperator", "TriangularLinearOperator"] := by decide +kernel
/-- a constant multiple of a SumKronecker is built as a plain SumLinearOperator (608f21e). -/
theorem builds_sumkron_mul_constant : builds "SumKroneckerLinearOperator" "_mul_constant" = some ["SumLinearOperator"] := by
  decide +kernel
theorem table_mul_matrix_overriders : overriders "_mul_matrix" =
    ["LinearOperator", "DiagLinearOperator", "ConstantDiagLinearOperator", "TriangularLinearOperator"] := by decide +kernel
theorem table_mul_overriders : overriders "mul" = ["LinearOperator", "ZeroLinearOperator"] := by decide +kernel
theorem table_matmul_overriders : overriders "matmul" =
    ["LinearOperator", "BlockDiagLinearOperator", "DiagLinearOperator", "ConstantDiagLinearOperator",
     "IdentityLinearOperator", "InterpolatedLinearOperator", "ZeroLinearOperator"] := by decide +kernel
theorem table_add_diagonal_overriders : overriders "add_diagonal" =
    ["LinearOperator", "AddedDiagLinearOperator", "DiagLinearOperator", "KroneckerProductLinearOperator",
     "LowRankRootLinearOperator", "TriangularLinearOperator", "ZeroLinearOperator"] := by decide +kernel
theorem table_add_jitter_overriders : overriders "add_jitter" =
    ["LinearOperator", "BatchRepeatLinearOperator", "ToeplitzLinearOperator"] := by decide +kernel
theorem ladder_diag_matmul : ladder "DiagLinearOperator" "matmul" =
    some ["other:Tensor", "other:DenseLinearOperator", "other:DiagLinearOperator", "other:TriangularLinearOperator",
          "other:BlockDiagLinearOperator"] := by decide +kernel
theorem ladder_constdiag_matmul : ladder "ConstantDiagLinearOperator" "matmul" =
    some ["other:ConstantDiagLinearOperator"] := by decide +kernel
theorem ladder_base_mul : ladder "LinearOperator" "mul" =
    some ["other:ZeroLinearOperator", "other:is_tensor", "other:LinearOperator", "other:is_tensor"] := by decide +kernel
theorem ladder_base_mul_matrix : ladder "LinearOperator" "_mul_matrix" =
    some ["self:DenseLinearOperator", "other:DenseLinearOperator"] := by decide +kernel
theorem ladder_constdiag_mul_matrix : ladder "ConstantDiagLinearOperator" "_mul_matrix" =
    some ["other:ConstantDiagLinearOperator"] := by decide +kernel
/-- the inheritance facts the `isinstance` predicates of the model encode. -/
theorem bases_kpdiag : basesOf "KroneckerProductDiagLinearOperator" =
    some ["DiagLinearOperator", "KroneckerProductTriangularLinearOperator"] := by decide +kernel
theorem bases_diag : basesOf "DiagLinearOperator" = some ["TriangularLinearOperator"] := by decide +kernel
theorem bases_identity : basesOf "IdentityLinearOperator" = some ["ConstantDiagLinearOperator"] := by decide +kernel
theorem bases_constdiag : basesOf "ConstantDiagLinearOperator" = some ["DiagLinearOperator"] := by decide +kernel
theorem bases_kpad : basesOf "KroneckerProductAddedDiagLinearOperator" = some ["AddedDiagLinearOperator"] := by decide +kernel
theorem bases_lrrad : basesOf "LowRankRootAddedDiagLinearOperator" = some ["AddedDiagLinearOperator"] := by decide +kernel
theorem bases_addeddiag : basesOf "AddedDiagLinearOperator" = some ["SumLinearOperator"] := by decide +kernel
theorem bases_chol : basesOf "CholLinearOperator" = some ["RootLinearOperator"] := by decide +kernel
theorem bases_lrr : basesOf "LowRankRootLinearOperator" = some ["RootLinearOperator"] := by decide +kernel

/-- hypotheses are satisfiable on a non-trivial instance: Kronecker + ConstantDiag. -/
example : ∃ r : Op Int, add (.kron (.dense 1 1 fun _ _ => 2) (.dense 2 2 fun i j => ((i + j : Nat) : Int))) (.constDiag 2 3) = .ok r ∧
    r.tree = "KroneckerProductAddedDiag(KroneckerProduct(Dense,Dense),ConstantDiag)" := ⟨_, rfl, by decide +kernel⟩

end LinOp.C02
