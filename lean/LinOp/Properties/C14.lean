import LinOp.C14.ProofsRebuild
import LinOp.C14.ProofsExamples
import LinOp.Generated.C14Classes
import LinOp.Generated.C14Alloc
import LinOp.C14.ShapeProofs
import LinOp.Generated.C14Shape
import LinOp.C14.BcastProofs
import LinOp.C14.KernelBProofs
/-!
C14 — copies, conversions and rebuilds denote the same matrix with the right dtype.  Property theorems only.

`cfg : Cfg` (constructor layout table + torch default dtype) is arbitrary in the general theorems, so they hold
for every table the translator can generate from the source.
-/
namespace LinOp.C14

/-! ### Flatten / rebuild -/

/-- **The slice bookkeeping of `LinearOperatorRepresentationTree.__init__` is right**: for every argument list
(any length, any nesting) the counter advances by exactly the number of tensors `representation()` emits. -/
theorem representation_length (xs : List Op) (h : representableL xs = true) :
    widthL xs = (repL xs).length := widthL_eq xs h

/-- **`representation_tree()(*representation())` returns the same operator** — every class in the layout table,
any nesting depth, any number of positional / differentiable-keyword arguments, any trailing extra tensors —
provided every node is as its constructor leaves it (`normal`: normal form of the class specific argument
normalisation, keyword arguments known to the constructor, *hidden attributes at their defaults*). -/
theorem rebuild_flatten (cfg : Cfg) (o : Op) (hn : normal cfg o = true) (hr : representable o = true)
    (rest : List Leaf) : call cfg (tree o) (rep o ++ rest) = some o := by
  obtain ⟨o', h1, _, _, h4⟩ := call_spec cfg o hn hr [] (rep o) rest rfl
  rw [h4 rfl] at h1
  exact h1

/-- **Rebuilding with other tensors** (what every autograd Function does in forward and backward): for any list
`ts` of as many tensors as `representation()` returns, the rebuild succeeds and yields an operator with the same
skeleton — classes, arities, keyword names, all non-tensor arguments and flags — holding exactly `ts`, in order. -/
theorem rebuild_any_tensors (cfg : Cfg) (o : Op) (hn : normal cfg o = true) (hr : representable o = true)
    (ts rest : List Leaf) (hlen : ts.length = (rep o).length) :
    ∃ o', call cfg (tree o) (ts ++ rest) = some o' ∧ skel o' = skel o ∧ rep o' = ts :=
  let ⟨o', h1, h2, h3, _⟩ := call_spec cfg o hn hr [] ts rest hlen
  ⟨o', h1, h2, h3⟩

/-- **clone / detach / to / type (double, float, half) preserve the structure** of every normal operator —
class tree, arities, keyword names, non-tensor arguments, flags — for every nesting depth and every mode,
for all classes whose conversion does not rewrite a dtype/device keyword (`plain`: everything except
Identity / Zero / Cat, whose keyword rewrite is mirrored separately and tied by the correspondence). -/
theorem conversions_preserve_structure (cfg : Cfg) (o : Op) (hn : normal cfg o = true) (hp : plain o = true) (m : Mode) :
    ∃ o', conv cfg m o = some o' ∧ skel o' = skel o := conv_skel cfg o hn hp m

/-- A constructor applied to what it stored (`cls(*_args, **_kwargs)`, the last step of every clone / detach /
to / type / rebuild) is the identity on normal nodes. -/
theorem constructor_idempotent (cfg : Cfg) (cls : String) (a : List Op) (dn : List String) (d : List Op)
    (nkw hid : KV) (h : nodeOK cfg cls a dn d nkw hid = true) :
    construct cfg cls a (kwOf dn d nkw) = some (.node cls a dn d nkw hid) := construct_fix h

/-- The class specific normalisations (to_linear_operator wrapping, Triangular unwrapping, Cat's negative dim,
Kernel's defaultdict) are the identity on their normal form. -/
theorem normalise_idempotent (cls : String) (a : List Op) (kw : List (String × Op))
    (h : normalForm cls a kw = true) : normalise cls a kw = some (a, kw) := normalise_fix h

/-- Being normal depends only on the skeleton, never on the tensors: replacing / casting / cloning tensors keeps
an operator a fixed point of its constructors. -/
theorem normal_node_depends_on_skeleton_only (cfg : Cfg) (cls : String) (a a' : List Op) (dn : List String)
    (d d' : List Op) (nkw hid : KV) (ha : skelL a = skelL a') (hd : skelL d = skelL d')
    (h : nodeOK cfg cls a dn d nkw hid = true) : nodeOK cfg cls a' dn d' nkw hid = true :=
  nodeOK_congr ha hd h

/-! ### Examples, and the defects D16 / D17 / D18 as machine-checked counterexamples

D16 / D16b / D17 were repaired in /repo (commits 05006ba, ebb6d3b): `upper` resp. `dtype`/`device` are now forwarded to
`LinearOperator.__init__` and live in `_kwargs`.  The statements named `previous_code_…` below are about the
constructor layouts *before* those commits (the literal `snapshot`); the `…_today` statements are about the layout
table generated from today's source, where the general theorems apply to upper-orientation operators as well. -/

open LinOp.Generated.C14 in
/-- Every snapshot layout is today's generated layout, or differs from it only in that the formerly hidden
parameters are now forwarded as keywords (a landed fix of D16 / D17). -/
theorem snapshot_matches_source :
    snapshot.all (fun c =>
      decide (layoutOf c.1 = some c.2) ||
      (decide ((layoutOf c.1).map (fun L => (L.npos, L.vararg, L.posNames, L.hidden)) =
          some (c.2.npos, c.2.vararg, c.2.posNames, ([] : KV))) &&
        c.2.hidden.all (fun h => (layoutOf c.1).map (fun L => hasKey L.kwStored h.1) == some true))) = true := by
  decide +kernel

def hidOf : Op → KV
  | .node _ _ _ _ _ h => h
  | _ => []

/-- Non-vacuity: a three-level nesting with integer tensors, keyword arguments and a hidden attribute at its
default satisfies the hypotheses of `rebuild_flatten`, `rebuild_any_tensors`, `conversions_preserve_structure`. -/
theorem hypotheses_satisfiable :
    normal (genCfg .f32) exSum = true ∧ representable exSum = true ∧ plain exSum = true ∧ (rep exSum).length = 7 := by
  decide +kernel

/-- **D16, previous code (counterexample)**: with the pre-05006ba constructor (`upper` only kept as an attribute)
`CholLinearOperator(R, upper=True)` is *not* reproduced by the rebuild — the result has `upper = False`. -/
theorem previous_code_chol_upper_lost_counterexample :
    (call (genCfg .f32) (tree (exChol true)) (rep (exChol true))).map hidOf = some [("upper", .bool false)] ∧
    hidOf (exChol true) = [("upper", .bool true)] := by
  decide +kernel

/-- **D16, previous code (partial)**: with the flag at its default the Cholesky operator round-tripped. -/
theorem previous_code_chol_default_roundtrip (rest : List Leaf) :
    call (genCfg .f32) (tree (exChol false)) (rep (exChol false) ++ rest) = some (exChol false) :=
  let ⟨⟨nC, rC⟩, _⟩ := snapshot_examples_ok
  rebuild_flatten _ _ nC rC rest

/-! ### Today's constructors (layout table generated from the current source) -/

/-- **D16 / D16b fixed**: with today's constructors (`upper` is a stored keyword argument) upper-orientation Cholesky and
Kronecker-triangular operators are normal, so `rebuild_flatten`, `rebuild_any_tensors` and
`conversions_preserve_structure` apply to them: the rebuild returns the same operator, `upper = True` included. -/
theorem rebuild_flatten_upper_today (rest : List Leaf) :
    call (todayCfg .f32) (tree (exCholToday true)) (rep (exCholToday true) ++ rest) = some (exCholToday true) ∧
    call (todayCfg .f32) (tree (exKronTriToday true)) (rep (exKronTriToday true) ++ rest) = some (exKronTriToday true) :=
  let ⟨⟨nC, rC, _⟩, ⟨nK, rK⟩, _⟩ := today_examples_ok
  ⟨rebuild_flatten _ _ nC rC rest, rebuild_flatten _ _ nK rK rest⟩

/-- **Operator-valued keyword arguments** are rebuilt from the *unflattened* children: the general theorems cover
them (`dv : List Op` may hold operators of any depth); here instantiated for a keyword operator that flattens to
five tensors followed by a tensor keyword — rebuilt exactly, and with other tensors the skeleton is kept. -/
theorem rebuild_flatten_operator_valued_kwargs (rest : List Leaf) :
    (rep exUserWrap).length = 7 ∧
    call (todayCfg .f32) (tree exUserWrap) (rep exUserWrap ++ rest) = some exUserWrap :=
  let ⟨_, _, ⟨nU, rU, _⟩, _⟩ := today_examples_ok
  ⟨rfl, rebuild_flatten _ _ nU rU rest⟩

/-- **ZeroLinearOperator has an empty representation and a total rebuild (since /repo 7504982)**: it contributes no
tensors, its private tree re-creates it from sizes / dtype / device, and operators containing Zeros at any depth are
covered by `rebuild_flatten` / `rebuild_any_tensors` (instantiated here for a Zero nested at two depths). -/
theorem rebuild_flatten_nested_zero_today (rest : List Leaf) :
    rep exZeroToday = [] ∧ (rep exZeroNested).length = 5 ∧
    call (todayCfg .f32) (tree exZeroToday) rest = some exZeroToday ∧
    call (todayCfg .f32) (tree exZeroNested) (rep exZeroNested ++ rest) = some exZeroNested := by
  obtain ⟨_, _, _, ⟨nZ, rZ⟩, ⟨nN, rN⟩⟩ := today_examples_ok
  exact ⟨rfl, rfl, rebuild_flatten (todayCfg .f32) exZeroToday nZ rZ rest, rebuild_flatten _ _ nN rN rest⟩

/-- clone / to / type of today's upper-orientation operators keep the skeleton (hence `upper = True`). -/
theorem conversions_keep_upper_today (m : Mode) :
    ∃ o', conv (todayCfg .f32) m (exCholToday true) = some o' ∧ skel o' = skel (exCholToday true) :=
  let ⟨⟨nC, _, pC⟩, _⟩ := today_examples_ok
  conversions_preserve_structure _ _ nC pC m

/-- **D17 fixed**: today a ZeroLinearOperator built with `dtype=float64` keeps reporting float64 after clone, and
`to(float32)` / `type(float32)` change the reported dtype, whatever torch's default dtype is. -/
theorem zero_dtype_kept_today (d : DT) :
    let z : Op := .node "ZeroLinearOperator" [.val (.int 3), .val (.int 3)] [] [] [("device", .none), ("dtype", .dt .f64)] []
    ((conv (todayCfg d) .clone z).bind (dtypeOf (todayCfg d) false)) = some .f64 ∧
    ((conv (todayCfg d) (.to .f32) z).bind (dtypeOf (todayCfg d) false)) = some .f32 ∧
    ((conv (todayCfg d) (.type .f32) z).bind (dtypeOf (todayCfg d) false)) = some .f32 := by
  -- the evaluation never inspects the default dtype `d`
  intro z
  exact ⟨rfl, rfl, rfl⟩

/-! ### Conversions: which tensors are cast -/

/-- **`type` / `double` / `float` cast exactly the floating tensors** held directly by an operator, and clone all. -/
theorem type_casts_exactly_float (t : DT) (g : Bool) (l : Leaf) :
    (convLeaf (.type t) g l).dt = (if l.dt.isFloat then t else l.dt) ∧ (convLeaf (.type t) g l).fresh = true ∧
    (convLeaf (.type t) g l).shape = l.shape ∧ (convLeaf (.type t) g l).rg = l.rg := by
  unfold convLeaf; cases h : l.dt.isFloat <;> simp

/-- **Index tensors are never cast** by the `to` overrides of Interpolated / Masked operators (`guard`). -/
theorem index_tensors_not_cast (t : DT) (l : Leaf) (h : l.dt.isFloat = false) :
    (convLeaf (.to t) true l) = l ∧ (convLeaf (.cloneTo t) true l).dt = l.dt ∧ (convLeaf (.type t) true l).dt = l.dt := by
  unfold convLeaf; simp [h]

/-- **`type` / `double` / `float` / `half` touch exactly the floating-point leaves of the whole tree.**
For every operator tree — any nesting depth, sub-operators in positional *and* keyword position, any number of
tensors — that is normal and `typeOK` (no Identity/Zero/Cat dtype keyword, no TransposePermutation, every sub-operator
reports a floating dtype: otherwise `type` merely clones that child), and a base-class `to` that leaves integer /
boolean tensors alone (`baseToGuard`, true since /repo f389e83), the conversion succeeds, keeps the skeleton (classes,
arities, keyword names, non-tensor arguments, flags), and its flattened representation is the old one with
`tyLeaf t` applied leaf by leaf: floating leaves get dtype `t`, integer / boolean leaves keep theirs, all get fresh
storage, shapes and requires_grad are kept. -/
theorem type_tree_spec (cfg : Cfg) (hb : cfg.baseToGuard = true) (t : DT) (o : Op)
    (hn : normal cfg o = true) (hp : typeOK cfg o = true) :
    ∃ o', conv cfg (.type t) o = some o' ∧ skel o' = skel o ∧ rep o' = (rep o).map (tyLeaf t) ∧
      (rep o').map (·.dt) = (rep o).map (fun l => if l.dt.isFloat then t else l.dt) := by
  obtain ⟨o', h1, h2, h3⟩ := conv_type cfg hb t o hn hp
  refine ⟨o', h1, h2, h3, ?_⟩
  rw [h3, List.map_map]
  exact List.map_congr_left fun l _ => tyLeaf_dt t l

open LinOp.Generated.C14 in
/-- Today's source satisfies the `baseToGuard` hypothesis of `type_tree_spec` (re-introducing D32 breaks this). -/
theorem base_to_guards_today : baseToGuardsKind = true := rfl

/-- `type_tree_spec` for the layout table and base `to` generated from today's source, for every torch default dtype. -/
theorem type_tree_spec_today (dflt t : DT) (o : Op)
    (hn : normal (todayCfg dflt) o = true) (hp : typeOK (todayCfg dflt) o = true) :
    ∃ o', conv (todayCfg dflt) (.type t) o = some o' ∧ skel o' = skel o ∧ rep o' = (rep o).map (tyLeaf t) :=
  conv_type (todayCfg dflt) base_to_guards_today t o hn hp

/-- **`to(dtype)` over the whole tree** (operator root; base `to` guarding, every sub-operator reporting a floating
dtype, no Identity/Zero/Cat keyword rewrite): same skeleton, and leaf by leaf `toLeaf t` — a floating tensor of another
dtype is cast (new storage), a tensor that already has dtype `t` is *the same tensor* (no copy), integer / boolean
tensors are never touched, at any depth, positional or keyword. -/
theorem to_tree_spec (cfg : Cfg) (hb : cfg.baseToGuard = true) (t : DT) (o : Op)
    (hn : normal cfg o = true) (hp : toOK cfg o = true) (hnode : ∀ l, o ≠ .leaf l) :
    ∃ o', conv cfg (.to t) o = some o' ∧ skel o' = skel o ∧ rep o' = (rep o).map (toLeaf t) :=
  conv_to_node cfg hb t o hn hp hnode

example : toOK { genCfg .f32 with baseToGuard := true } exSum = true ∧ (∀ l, exSum ≠ .leaf l) :=
  let ⟨_, _, _, toS⟩ := snapshot_examples_ok
  ⟨toS, by intro l h; cases h⟩

/-- **`clone` is deep and independent**: for every normal operator tree (any depth, kwargs sub-operators included,
no further side condition) `clone` succeeds, keeps the skeleton, and *every* tensor leaf of the result — floating,
integer or boolean, at every depth — has fresh storage (`fresh = true`: the leaf-identity abstraction that the
correspondence compares with `untyped_storage()` overlap against all leaves of the original), while dtype, shape,
position and requires_grad are unchanged. -/
theorem clone_deep_independent (cfg : Cfg) (o : Op) (hn : normal cfg o = true) :
    ∃ o', conv cfg .clone o = some o' ∧ skel o' = skel o ∧
      rep o' = (rep o).map (fun l => { l with fresh := true }) ∧ (∀ l ∈ rep o', l.fresh = true) := by
  obtain ⟨o', h1, h2, h3⟩ := conv_simple cfg .clone (Or.inl rfl) o hn
  refine ⟨o', h1, h2, h3, fun l hl => ?_⟩
  rw [h3] at hl
  obtain ⟨l0, _, rfl⟩ := List.mem_map.mp hl
  rfl

/-- **`detach` over the whole tree**: same skeleton, every leaf keeps its storage (shares it with the original) and
has `requires_grad = False`. -/
theorem detach_tree_spec (cfg : Cfg) (o : Op) (hn : normal cfg o = true) :
    ∃ o', conv cfg .detach o = some o' ∧ skel o' = skel o ∧ rep o' = (rep o).map (fun l => { l with rg := false }) :=
  conv_simple cfg .detach (Or.inr rfl) o hn

/-- Satisfiability of the hypotheses of `type_tree_spec` / `clone_deep_independent`: the three-level example with
integer tensors, keyword arguments and a kwargs sub-operator variant, under a guarding base `to`. -/
example : normal { genCfg .f32 with baseToGuard := true } exSum = true ∧
    typeOK { genCfg .f32 with baseToGuard := true } exSum = true ∧
    typeOK (todayCfg .f32) exUserWrap = true ∧ normal (todayCfg .f32) exUserWrap = true :=
  let ⟨_, nS, tS, _⟩ := snapshot_examples_ok
  let ⟨_, _, ⟨nU, _, tU⟩, _⟩ := today_examples_ok
  ⟨nS, tS, tU, nU⟩

/-- **Keyword tensors obey the same casting law as positional tensors**: for every class, mode, and lists of
positional / keyword tensors of any length, a conversion passes `convLeaf` of each tensor to the constructor —
so with `type_casts_exactly_float` an integer index tensor or boolean mask held as a *keyword* argument (Kernel
`**params`, user subclasses) keeps its dtype under `type` / `double` / `float` / `half`, exactly like a positional one. -/
theorem conversion_casts_kwargs_like_args (cfg : Cfg) (m : Mode) (cls : String) (la ld : List Leaf)
    (dn : List String) (nkw hid : KV)
    (hc : (decide (cls = "TransposePermutationLinearOperator") && isTypeMode m) = false) :
    conv cfg m (.node cls (la.map Op.leaf) dn (ld.map Op.leaf) nkw hid) =
      construct cfg cls
        (la.map fun l => Op.leaf (convLeaf (nodeMode m cls) (floatOnlyTo cls || cfg.baseToGuard) l))
        (kwOf dn (ld.map fun l => Op.leaf (convLeaf (nodeMode m cls) (floatOnlyTo cls || cfg.baseToGuard) l))
          (convNkw m cls nkw)) := by
  rw [conv_node, if_neg (by simp [hc]), convL_leaves, convL_leaves]

/-- `KernelLinearOperator(x1, x2, covar_func, active_dims=<int64>, keep=<bool>, lengthscale=<float>)` as stored -/
def exKernelKw : Op :=
  .node "KernelLinearOperator" [tL 0 .f32, tL 1 .f32] ["active_dims", "keep", "lengthscale"]
    [.leaf ⟨.i64, [2], 2, false, false⟩, .leaf ⟨.bool, [2], 3, false, false⟩, tL 4 .f32]
    [("covar_func", .str "fn"), ("num_nonbatch_dimensions", .str "dict"), ("num_outputs_per_input", .ints [1, 1])] []

/-- `type` (double / float / half) never casts integer / boolean **keyword** tensors — also one level down
(`Sum(Kernel, …)` is converted through `clone().to(dtype)` of the child, which needs the base `to` to guard). -/
theorem type_keeps_index_kwargs_example :
    normal (genCfg .f32) exKernelKw = true ∧
    (conv (genCfg .f32) (.type .f64) exKernelKw).map (fun o => (rep o).map (·.dt)) = some [.f64, .f64, .i64, .bool, .f64] ∧
    (conv (genCfg .f32) (.type .f16) exKernelKw).map (fun o => (rep o).map (·.dt)) = some [.f16, .f16, .i64, .bool, .f16] := by
  decide +kernel

/-- **D32 (counterexample)**: the base-class `to(dtype)` casts integer / boolean keyword tensors of a class without
a `to` override (today's `LinearOperator.to`, `baseToGuard = false`), directly and — through `type` — below a parent. -/
theorem to_casts_index_kwargs_counterexample :
    (conv (genCfg .f32) (.to .f64) exKernelKw).map (fun o => (rep o).map (·.dt)) = some [.f64, .f64, .f64, .f64, .f64] ∧
    (conv (genCfg .f32) (.type .f64) (.node "SumLinearOperator" [exKernelKw] [] [] [] [])).map
      (fun o => (rep o).map (·.dt)) = some [.f64, .f64, .f64, .f64, .f64] := by
  decide +kernel

/-- **D32 (partial / proposed fix)**: once the base `to` tests the kind of each tensor (`baseToGuard = true`,
notes/C14_fix_4.diff) integer / boolean tensors survive `to` and nested `type` for args and kwargs alike. -/
theorem to_keeps_index_kwargs_when_base_guards :
    let cfg : Cfg := { genCfg .f32 with baseToGuard := true }
    (conv cfg (.to .f64) exKernelKw).map (fun o => (rep o).map (·.dt)) = some [.f64, .f64, .i64, .bool, .f64] ∧
    (conv cfg (.type .f64) (.node "SumLinearOperator" [exKernelKw] [] [] [] [])).map
      (fun o => (rep o).map (·.dt)) = some [.f64, .f64, .i64, .bool, .f64] ∧
    (conv cfg (.to .f64)
      (.node "PermutationLinearOperator" [.leaf ⟨.i64, [3], 0, false, false⟩, .leaf ⟨.i64, [3], 1, false, false⟩]
        [] [] [("validate_args", .bool false)] [])).map (fun o => (rep o).map (·.dt)) = some [.i64, .i64] := by
  decide +kernel

/-- **D18 (counterexample)**: the base-class `to` casts *every* tensor argument, so an integer tensor held by a class
without a `to` override (PermutationLinearOperator) becomes floating point. -/
theorem to_casts_index_counterexample :
    (convLeaf (.to .f64) false ⟨.i64, [3], 0, false, false⟩).dt = .f64 ∧
    (conv (genCfg .f32) (.to .f64)
      (.node "PermutationLinearOperator" [.leaf ⟨.i64, [3], 0, false, false⟩, .leaf ⟨.i64, [3], 1, false, false⟩]
        [] [] [("validate_args", .bool false)] [])).map (fun o => (rep o).map (·.dt)) = some [.f64, .f64] := by
  decide +kernel

/-- **D18 (partial)**: below an Interpolated operator the integer index tensors survive `to` and `type` at every
nesting level of this example (Sum → Interpolated → Dense). -/
theorem to_keeps_index_example :
    (conv (genCfg .f32) (.to .f64) exSum).map (fun o => (rep o).map (·.dt)) =
      some [.f64, .i64, .f64, .i64, .f64, .f64, .f64] ∧
    (conv (genCfg .f32) (.type .f64) exSum).map (fun o => (rep o).map (·.dt)) =
      some [.f64, .i64, .f64, .i64, .f64, .f64, .f64] := by
  decide +kernel

/-- clone gives every tensor fresh storage; detach clears requires_grad and shares storage. -/
theorem clone_fresh_detach_shares (g : Bool) (l : Leaf) :
    (convLeaf .clone g l).fresh = true ∧ (convLeaf .clone g l).dt = l.dt ∧
    (convLeaf .detach g l).rg = false ∧ (convLeaf .detach g l).fresh = l.fresh ∧ (convLeaf .detach g l).id = l.id := by
  simp [convLeaf]

/-- **`requires_grad_(v)` reaches every floating tensor, whatever the flags were before**: for every operator tree
of any depth, any number of args / kwargs and *any initial requires_grad pattern* (all off, all on, mixed), if every
sub-operator reports a floating `dtype` (`fdt`; that is the test `_set_requires_grad` itself applies before it
descends), then afterwards the flattened representation is the old one with every floating leaf's flag set to `v`
and every integer / boolean leaf untouched.  In particular the result does not depend on the initial flags of the
floating leaves (no "already done" shortcut for a partially switched-on child). -/
theorem requires_grad_reaches_every_floating_leaf (cfg : Cfg) (v : Bool) (o : Op) (h : fdt cfg o = true) :
    rep (setRG cfg v o) = (rep o).map (rgLeaf v) ∧
    (∀ l ∈ rep (setRG cfg v o), l.dt.isFloat = true → l.rg = v) := by
  have e := rep_setRG cfg v o h
  refine ⟨e, fun l hl hf => ?_⟩
  rw [e] at hl
  obtain ⟨l0, _, rfl⟩ := List.mem_map.mp hl
  exact rgLeaf_rg v l0 hf

/-- Non-vacuity and the mixed-history instance: in `Sum(Interpolated(…), Chol(…), ConstantDiag)` with only
`left_interp_values` (leaf 2) already requiring grad, `requires_grad_(True)` switches on all five floating leaves and
leaves the two index tensors off; `requires_grad_(False)` switches everything off. -/
theorem requires_grad_mixed_history_example :
    let mixed : Op := .node "SumLinearOperator"
      [.node "InterpolatedLinearOperator"
        [.node "DenseLinearOperator" [tL 0 .f32] [] [] [] [], tL 1 .i64, .leaf ⟨.f32, [2, 2], 2, false, true⟩, tL 3 .i64,
         tL 4 .f32] [] [] [] [],
       exChol false, .node "ConstantDiagLinearOperator" [tL 5 .f32] [] [] [("diag_shape", .int 2)] []] [] [] [] []
    fdt (genCfg .f32) mixed = true ∧
    (rep (setRG (genCfg .f32) true mixed)).map (·.rg) = [true, false, true, false, true, true, true] ∧
    (rep (setRG (genCfg .f32) false mixed)).map (·.rg) = [false, false, false, false, false, false, false] := by
  decide +kernel

/-- `_set_requires_grad` touches exactly the floating tensors held directly by an operator. -/
theorem requires_grad_exactly_float (cfg : Cfg) (v : Bool) (l : Leaf) :
    setRG cfg v (.leaf l) = .leaf (if l.dt.isFloat then { l with rg := v } else l) := by
  simp [setRG]

/-- **D17, previous code (counterexample)**: with the pre-ebb6d3b constructor a ZeroLinearOperator built with
`dtype=float64` reported float64 while its copy reported torch's default dtype (hidden attribute, never copied). -/
theorem previous_code_zero_dtype_lost_counterexample :
    let z : Op := .node "ZeroLinearOperator" [.val (.int 3), .val (.int 3)] [] [] [] [("dtype", .dt .f64), ("device", .none)]
    dtypeOf (genCfg .f32) false z = some .f64 ∧
    ((conv (genCfg .f32) .clone z).bind (dtypeOf (genCfg .f32) false)) = some .f32 := by
  decide +kernel

/-! ### Shape-dependent constructor normalisations (BatchRepeat unsqueeze loop, Block* block_dim move) -/

/-- **`op.unsqueeze(0)` through the generic `LinearOperator._unsqueeze_batch`** (any nesting depth; every node reached
through positional arguments uses the generic method — `genU`): the result has exactly one more dimension, the same
skeleton (classes, arities, keyword names, all non-tensor arguments), and the same tensors up to their shapes — storage
identity, dtype and requires_grad of every leaf are kept (views, nothing copied or cast); keyword tensors are untouched. -/
theorem unsqueeze_adds_one_dim (o : Op) (h : genU o = true) :
    ndim (unsqT o) = ndim o + 1 ∧ skel (unsqT o) = skel o ∧
      (rep (unsqT o)).map Leaf.noShape = (rep o).map Leaf.noShape ∧ genU (unsqT o) = true :=
  ⟨ndim_unsqT o h, skel_unsqT o, rep_unsqT o, by rw [genU_unsqT]; exact h⟩

/-- **`BatchRepeatLinearOperator.__init__` unsqueeze loop** (`for _ in range(len(batch_repeat) + 2 - base.dim())`), for
every base operator and every `r = len(batch_repeat)`: if the pre-pass succeeds, the stored base has
`max(base.dim(), r + 2)` dimensions (so the repeat sizes line up with batch dimensions), the same skeleton, and the same
tensors up to shape. -/
theorem batch_repeat_constructor_spec (base b' : Op) (r : Nat) (h : preBR base r = some b') :
    r + 2 ≤ ndim b' ∧ ndim b' = max (ndim base) (r + 2) ∧ skel b' = skel base ∧
      (rep b').map Leaf.noShape = (rep base).map Leaf.noShape := preBR_spec base b' r h

/-- **The generic `_permute_batch`** (tensors permuted in their leading `len(dims)` dimensions, sub-operators
recursively, keyword arguments untouched) keeps the number of dimensions, the skeleton and every tensor up to its
shape, for every tree in which no class overrides the method and every tensor has at least `len(dims)` dimensions. -/
theorem permute_batch_keeps_structure (dims : List Nat) (o : Op) (h : genP dims.length o = true) :
    ndim (permT dims o) = ndim o ∧ skel (permT dims o) = skel o ∧
      (rep (permT dims o)).map Leaf.noShape = (rep o).map Leaf.noShape :=
  ⟨ndim_permT dims o h, skel_permT dims o, rep_permT dims o⟩

/-- **`BlockLinearOperator.__init__` moves the block dimension last**: the permutation
`(*range(p), *range(p + 1, nd - 2), p)` it passes to `_permute_batch` has one entry per batch dimension and ends in
`p`, and a tensor with at least that many dimensions keeps its number of dimensions — for all `nd`, `p < nd - 2`. -/
theorem block_dim_moved_last (nd p : Nat) (h : p + 2 < nd) (s : List Nat) (hs : nd - 2 ≤ s.length) :
    (moveDims nd p).length = nd - 2 ∧ (moveDims nd p).getLast? = some p ∧
      (permShape (moveDims nd p) s).length = s.length :=
  ⟨moveDims_length nd p h, moveDims_last nd p, permShape_length _ _ (by rw [moveDims_length nd p h]; exact hs)⟩

/-- **The shape-dependent constructor normalisations are idempotent** — every class, every raw argument list: whatever
the BatchRepeat unsqueeze loop / the Block* block_dim move produce is a fixed point of the same pre-pass (the loop runs
zero times, `block_dim` is `-3`).  Together with `constructor_idempotent` this is why `cls(*_args, **_kwargs)` — the last
step of every clone / detach / to / type / rebuild — does not reshape anything again. -/
theorem shape_normalisation_idempotent (cls : String) (pos : List Op) (kw : List (String × Op)) (pos' : List Op)
    (kw' : List (String × Op)) (h : preNorm cls pos kw = some (pos', kw')) :
    preNorm cls pos' kw' = some (pos', kw') := preNorm_idem cls pos kw pos' kw' h

/-- The full constructor (shape pre-pass, class normalisation, parameter binding) is the identity on every stored node
whose arguments are shape-normal. -/
theorem constructor_with_shape_pass_idempotent (cfg : Cfg) (cls : String) (a : List Op) (dn : List String) (d : List Op)
    (nkw hid : KV) (hs : preNorm cls a (kwOf dn d nkw) = some (a, kwOf dn d nkw))
    (h : nodeOK cfg cls a dn d nkw hid = true) :
    constructS cfg cls a (kwOf dn d nkw) = some (.node cls a dn d nkw hid) := constructS_fix cfg cls a dn d nkw hid hs h

def exDense22 : Op := .node "DenseLinearOperator" [tL 0 .f32] [] [] [] []
def exSumDD : Op := .node "SumLinearOperator" [exDense22, .node "DiagLinearOperator" [.leaf ⟨.f32, [2], 1, false, true⟩] [] [] [] []] [] [] [] []

/-- `cls(*_args, **_kwargs)` of a constructed operator, shape pre-pass included -/
def reS (cfg : Cfg) : Option Op → Option Op
  | some (.node c a dn d nkw _) => constructS cfg c a (kwOf dn d nkw)
  | _ => none

/-- Satisfiability of `genU` / `genP` / `preBR` / `preNorm` hypotheses, and an end-to-end instance with today's layouts:
`BatchRepeat(Sum(Dense 2x2, Diag 2), batch_repeat=Size([2, 3]))` stores the base with shapes `[1,1,2,2]` / `[1,1,2]`
(same storage ids, requires_grad kept), and re-applying the constructor to what was stored returns the same node;
`BlockDiag(Dense[2,3,2,2], block_dim=0)` stores the base permuted to `[3,2,2,2]` and is a fixed point as well. -/
theorem shape_constructor_examples :
    genU exSumDD = true ∧ genP 2 exSumDD = false ∧
    (constructS (todayCfg .f32) "BatchRepeatLinearOperator" [exSumDD] [("batch_repeat", .val (.ints [2, 3]))]).map
        (fun o => (rep o).map (fun l => (l.shape, l.id, l.rg))) = some [([1, 1, 2, 2], 0, false), ([1, 1, 2], 1, true)] ∧
    (reS (todayCfg .f32) (constructS (todayCfg .f32) "BatchRepeatLinearOperator" [exSumDD]
        [("batch_repeat", .val (.ints [2, 3]))])).map (fun o => (rep o).map (·.shape)) = some [[1, 1, 2, 2], [1, 1, 2]] ∧
    (constructS (todayCfg .f32) "BlockDiagLinearOperator"
        [.node "DenseLinearOperator" [.leaf ⟨.f32, [2, 3, 2, 2], 0, false, false⟩] [] [] [] [], .val (.int 0)] []).map
        (fun o => (rep o).map (·.shape)) = some [[3, 2, 2, 2]] := by
  decide +kernel

open LinOp.Generated.C14 in
/-- **The generic `_unsqueeze_batch` / `_permute_batch` are applied exactly to the classes that inherit them**: the
override lists of the model equal the classes whose C3-MRO-resolved method is not `LinearOperator`'s in today's source
(a new override, or a removed one, breaks this obligation). -/
theorem batch_method_owners_reviewed :
    batchOwners.filterMap (fun r => if r.2.1 = "LinearOperator" then none else some r.1) = unsqOverride ∧
    batchOwners.filterMap (fun r => if r.2.2.1 = "LinearOperator" then none else some r.1) = permOverride := by
  decide +kernel

/-- reviewed source text of the code regions mirrored by `LinOp/C14/Shape.lean` -/
def reviewedPinned : List (String × List String) := [
  ("BatchRepeatLinearOperator.__init__", ["if settings.debug.on():\n    if not isinstance(batch_repeat, torch.Size):\n        raise RuntimeError('batch_repeat must be a torch.Size, got a {} instead'.format(batch_repeat.__class__.__name__))\n    if isinstance(base_linear_op, BatchRepeatLinearOperator):\n        raise RuntimeError('BatchRepeatLinearOperator received the following args:\\nbase_linear_op: {} (size: {}), batch_repeat: {}.'.format(base_linear_op, base_linear_op.shape, batch_repeat))",
    "for _ in range(len(batch_repeat) + 2 - base_linear_op.dim()):\n    base_linear_op = base_linear_op.unsqueeze(0)",
    "super().__init__(base_linear_op, batch_repeat=batch_repeat)"]),
  ("BlockLinearOperator.__init__", ["if base_linear_op.dim() < 3:\n    raise RuntimeError('base_linear_op must be a batch matrix (i.e. at least 3 dimensions - got {}'.format(base_linear_op.dim()))",
    "block_dim = block_dim if block_dim < 0 else block_dim - base_linear_op.dim()",
    "if block_dim != -3:\n    positive_block_dim = base_linear_op.dim() + block_dim\n    base_linear_op = base_linear_op._permute_batch(*range(positive_block_dim), *range(positive_block_dim + 1, base_linear_op.dim() - 2), positive_block_dim)",
    "super(BlockLinearOperator, self).__init__(to_linear_operator(base_linear_op))"]),
  ("LinearOperator._unsqueeze_batch", ["components = [component.unsqueeze(dim) for component in self._args]",
    "res = self.__class__(*components, **self._kwargs)",
    "return res"]),
  ("LinearOperator._permute_batch", ["components = []",
    "for component in self._args:\n    if torch.is_tensor(component):\n        extra_dims = range(len(dims), component.dim())\n        components.append(component.permute(*dims, *extra_dims))\n    elif isinstance(component, LinearOperator):\n        components.append(component._permute_batch(*dims))\n    else:\n        components.append(component)",
    "res = self.__class__(*components, **self._kwargs)",
    "return res"]),
  ("LinearOperator.unsqueeze", ["positive_dim = self.dim() + dim + 1 if dim < 0 else dim",
    "if positive_dim > len(self.batch_shape):\n    raise ValueError('Can only unsqueeze batch dimensions of {} (size {}). Got dim={}.'.format(self.__class__.__name__, self.shape, dim))",
    "res = self._unsqueeze_batch(positive_dim)",
    "return res"]),
  ("DenseLinearOperator._expand_batch", ["return self.__class__(self.tensor.expand(*batch_shape, *self.matrix_shape))"])]

open LinOp.Generated.C14 in
/-- **The mirrored constructor code is unchanged**: the statements of `BatchRepeatLinearOperator.__init__` and
`BlockLinearOperator.__init__` up to their `super().__init__` call, and the bodies of the generic
`_unsqueeze_batch`, `_permute_batch`, `unsqueeze` and `DenseLinearOperator._expand_batch`, are literally the reviewed
ones (any edit of these lines must be re-reviewed against `preBR` / `preBlock` / `unsqT` / `permT`). -/
theorem pinned_source_reviewed : pinnedSource = reviewedPinned := rfl

/-! ### Batch-broadcasting constructors (Sum / PsdSum / AddedDiag / Matmul / Interpolated) -/

/-- **`_expand_batch(bs)` yields batch shape `bs`** for every operator tree the model follows (Dense / Diag / ConstantDiag /
Toeplitz tensors `.expand`ed; Triangular / Chol / Root / LowRankRoot expanding the wrapped operator; Sum / PsdSum / AddedDiag /
Matmul expanding every component), any nesting depth, any non-empty target shape. -/
theorem expand_batch_gives_shape (bs : List Nat) (hbs : bs.isEmpty = false) (o o' : Op) (h : expandB bs o = some o') :
    bshape o' = some bs := bshape_expandB bs hbs o o' h

/-- **The broadcasting part of `SumLinearOperator.__init__` / `MatmulLinearOperator.__init__`** (also reached by PsdSum and
AddedDiag), for every argument list: afterwards all stored arguments have one common batch shape, their number is
unchanged, and the pre-pass applied to its own result changes nothing (so `cls(*_args, **_kwargs)` never expands again). -/
theorem broadcast_constructor_spec (pos pos' : List Op) (h : preBroadcast pos = some pos') :
    (∃ bs, ∀ x ∈ pos', bshape x = some bs) ∧ pos'.length = pos.length ∧ preBroadcast pos' = some pos' :=
  preBroadcast_spec pos pos' h

/-- **`InterpolatedLinearOperator.__init__` base expansion** is idempotent (the stored base already has the batch shape of
the interpolation indices), and stores five arguments. -/
theorem interpolated_base_expansion_idempotent (pos pos' : List Op) (h : preInterp pos = some pos') :
    preInterp pos' = some pos' ∧ pos'.length = 5 := preInterp_idem pos pos' h

/-- `torch.broadcast_shapes` laws used above: a shape broadcasts with itself and with `()` to itself. -/
theorem broadcast_shapes_laws (bs : List Nat) : bcast bs bs = some bs ∧ bcast bs [] = some bs :=
  ⟨bcast_self bs, bcast_nil_right bs⟩

/-- **All shape-dependent constructor normalisations of the model together are idempotent** — BatchRepeat unsqueeze loop,
Block* block_dim move, Sum / PsdSum / AddedDiag / Matmul batch broadcasting, Interpolated base expansion — for every class and
every raw argument list. -/
theorem all_shape_normalisations_idempotent (cls : String) (pos : List Op) (kw : List (String × Op)) (pos' : List Op)
    (kw' : List (String × Op)) (h : preNormB cls pos kw = some (pos', kw')) :
    preNormB cls pos' kw' = some (pos', kw') := preNormB_idem cls pos kw pos' kw' h

/-- The full constructor with all shape pre-passes is the identity on every stored, shape-normal node. -/
theorem constructor_with_broadcast_idempotent (cfg : Cfg) (cls : String) (a : List Op) (dn : List String) (d : List Op)
    (nkw hid : KV) (hs : preNormB cls a (kwOf dn d nkw) = some (a, kwOf dn d nkw))
    (h : nodeOK cfg cls a dn d nkw hid = true) :
    constructB cfg cls a (kwOf dn d nkw) = some (.node cls a dn d nkw hid) := constructB_fix cfg cls a dn d nkw hid hs h

def exDiagB (sh : List Nat) (i : Nat) : Op := .node "DiagLinearOperator" [.leaf ⟨.f32, sh, i, false, false⟩] [] [] [] []
def exTriB (sh : List Nat) (i : Nat) : Op :=
  .node "TriangularLinearOperator" [.node "DenseLinearOperator" [.leaf ⟨.f32, sh, i, false, true⟩] [] [] [] []] [] []
    [("upper", .bool true)] []

/-- `cls(*_args, **_kwargs)` of a constructed operator, all shape pre-passes included -/
def reB (cfg : Cfg) : Option Op → Option Op
  | some (.node c a dn d nkw _) => constructB cfg c a (kwOf dn d nkw)
  | _ => none

/-- Satisfiability and end-to-end instances with today's layouts: `Sum(TriU(Dense[2,2]), Diag[3,1,2], <tensor [2,2]>)`
stores `TriU(Dense[3,1,2,2])` (upper kept, same storage id, requires_grad kept), the Diag unchanged and the raw tensor
wrapped and expanded to `[3,1,2,2]`; `Matmul(Dense[2,2], Dense[2,2,2])` expands the left factor; re-applying the
constructor to what was stored returns the same shapes. -/
theorem broadcast_constructor_examples :
    (constructB (todayCfg .f32) "SumLinearOperator" [exTriB [2, 2] 0, exDiagB [3, 1, 2] 1, tL 2 .f32] []).map
        (fun o => (rep o).map (fun l => (l.shape, l.id, l.rg))) =
      some [([3, 1, 2, 2], 0, true), ([3, 1, 2], 1, false), ([3, 1, 2, 2], 2, false)] ∧
    (reB (todayCfg .f32) (constructB (todayCfg .f32) "SumLinearOperator"
        [exTriB [2, 2] 0, exDiagB [3, 1, 2] 1, tL 2 .f32] [])).map (fun o => (rep o).map (·.shape)) =
      some [[3, 1, 2, 2], [3, 1, 2], [3, 1, 2, 2]] ∧
    (constructB (todayCfg .f32) "MatmulLinearOperator" [tL 0 .f32, .leaf ⟨.f32, [2, 2, 2], 1, false, false⟩] []).map
        (fun o => (rep o).map (·.shape)) = some [[2, 2, 2], [2, 2, 2]] ∧
    expandB [3] (exTriB [2, 2] 0) ≠ none ∧ preBroadcast [exTriB [2, 2] 0, exDiagB [3, 1, 2] 1] ≠ none := by
  decide +kernel

/-! ### `KernelLinearOperator.__init__` broadcasting of x1 / x2 / tensor `**params` -/

/-- **The Kernel constructor's broadcasting is idempotent** (all batch shapes, any number of tensor / operator / non-tensor
`**params`), provided every tensor parameter has the two non-batch dimensions that the default
`num_nonbatch_dimensions` assumes: re-applying the constructor to the stored `x1`, `x2`, `**params` neither reshapes nor
copies anything again. -/
theorem kernel_broadcast_idempotent (pos : List Op) (kw : List (String × Op)) (pos' : List Op) (kw' : List (String × Op))
    (hk : kwDims2 kw = true) (h : preKernel pos kw = some (pos', kw')) : preKernel pos' kw' = some (pos', kw') :=
  preKernel_idem pos kw pos' kw' hk h

/-- **Every shape-dependent constructor pre-pass of the model is idempotent** (BatchRepeat, Block*, Sum / PsdSum /
AddedDiag / Matmul, Interpolated, Kernel), every class and raw argument list. -/
theorem all_constructor_prepasses_idempotent (cls : String) (pos : List Op) (kw : List (String × Op)) (pos' : List Op)
    (kw' : List (String × Op)) (hk : cls = "KernelLinearOperator" → kwDims2 kw = true)
    (h : preNormK cls pos kw = some (pos', kw')) : preNormK cls pos' kw' = some (pos', kw') :=
  preNormK_idem cls pos kw pos' kw' hk h

def exKx1 : Op := .leaf ⟨.f32, [3, 2], 0, false, true⟩
def exKx2 : Op := .leaf ⟨.f32, [2, 2, 2], 1, false, false⟩
def kwShapes (r : Option (List Op × List (String × Op))) : Option (List (List Nat) × List (List Nat) × List Bool) :=
  r.map fun p => (repL p.1 |>.map (·.shape), repL (p.2.map (·.2)) |>.map (·.shape), repL p.1 |>.map (·.fresh))

/-- Instances: `Kernel(x1[3,2], x2[2,2,2], scale[1,1], sel:int64[1,1], op=<operator>)` stores x1 expanded **and copied**
(`contiguous`: fresh storage), x2 untouched (same storage), both tensor parameters expanded to `[2,1,1]`, the operator-valued
parameter untouched; the hypothesis of `kernel_broadcast_idempotent` holds for it. -/
theorem kernel_broadcast_example :
    let kw : List (String × Op) := [("scale", .leaf ⟨.f32, [1, 1], 2, false, true⟩), ("sel", .leaf ⟨.i64, [1, 1], 3, false, false⟩),
      ("op", exDense22), ("flag", .val (.int 2))]
    kwDims2 kw = true ∧
    kwShapes (preKernel [exKx1, exKx2, .val (.str "fn")] kw) =
      some ([[2, 3, 2], [2, 2, 2]], [[2, 1, 1], [2, 1, 1], [2, 2]], [true, false]) := by
  decide +kernel

/-- **Observation (counterexample to unconditional idempotence)**: a tensor parameter with fewer than two dimensions
(here a 0-dim `scale`) under the default `num_nonbatch_dimensions` is expanded to `[2]` by the constructor and to `[2, 2]`
by the next `cls(*_args, **_kwargs)` — every clone / rebuild of such an operator grows the parameter.  (Such parameters
are outside the documented contract of KernelLinearOperator; the constructor does not validate it.) -/
theorem kernel_lowdim_param_grows_counterexample :
    let kw : List (String × Op) := [("scale", .leaf ⟨.f32, [], 2, false, false⟩)]
    kwShapes (preKernel [exKx1, exKx2] kw) = some ([[2, 3, 2], [2, 2, 2]], [[2]], [true, false]) ∧
    kwShapes ((preKernel [exKx1, exKx2] kw).bind (fun p => preKernel p.1 p.2)) =
      some ([[2, 3, 2], [2, 2, 2]], [[2, 2]], [true, false]) := by
  decide +kernel

/-! ### Obligations on the tables generated from today's source -/

/-- Reviewed allocation sites that use torch's default dtype: index lists and scalars whose dtype is irrelevant.
(The two `ZeroLinearOperator` sites of defect D17 are gone since /repo ebb6d3b; re-introducing them breaks the obligation.) -/
def reviewedDefaultDtype : List (String × String × String) := [
  ("linear_operator/operators/_linear_operator.py", "LinearOperator.__getitem__", "torch.tensor(idx)"),
  ("linear_operator/operators/cat_linear_operator.py", "CatLinearOperator.__init__",
    "torch.tensor([t.size(dim) for t in linear_ops], device=output_device)"),
  ("linear_operator/operators/zero_linear_operator.py", "ZeroLinearOperator.logdet", "torch.tensor(0.0)"),
  ("linear_operator/utils/deprecation.py", "<module>", "torch.ones(1)"),
  ("linear_operator/utils/sparse.py", "sparse_eye", "torch.tensor(1.0)")]

open LinOp.Generated.C14 in
/-- **No floating allocation without an explicit dtype** anywhere in `linear_operator/` beyond the reviewed list:
every `torch.zeros/ones/eye/tensor/full/empty/randn/rand/linspace/as_tensor/…` call passes `dtype=`, or is
index-valued (`arange`, `randperm`, integer dtype).  A new default-dtype allocation breaks this obligation. -/
theorem no_default_dtype_float_alloc :
    ∀ s ∈ allocSites, s.hasDtype = true ∨ s.intIndex = true ∨ (s.file, s.func, s.src) ∈ reviewedDefaultDtype := by
  decide +kernel

open LinOp.Generated.C14 in
/-- The translator expressed every constructor chain as a layout. -/
theorem layouts_complete : issues = [] := rfl

open LinOp.Generated.C14 in
/-- **No constructor parameter is only kept as an attribute**: every parameter of every operator class reaches
`_args`/`_kwargs` (or is consumed by a normalisation), so no flag can be reset by a copy or a rebuild.
Re-introducing D16 / D16b / D17 (dropping `upper`, `dtype`, `device` from the `super().__init__` call), or dropping any
other parameter in any class, breaks this obligation. -/
theorem no_hidden_parameters : ∀ c ∈ classes, c.2.hidden = [] := by
  decide +kernel

open LinOp.Generated.C14 in
/-- Layout sanity: stored positionals are a prefix of the signature, `*args` classes have no named stored
positionals, consumed parameters are only the block operators' `block_dim` (normalised to −3 by a permute). -/
theorem layouts_wellformed :
    ∀ c ∈ classes, c.2.npos ≤ c.2.posNames.length ∧ (c.2.vararg = true → c.2.npos = 0) ∧
      (∀ k ∈ c.2.consumed, k = "block_dim") ∧
      (∀ k ∈ c.2.kwStored, (!hasKey c.2.hidden k.1 && !c.2.consumed.contains k.1) = true) := by
  decide +kernel

open LinOp.Generated.C14 in
/-- The copy / conversion methods are overridden only where the model mirrors an override. -/
theorem overrides_reviewed :
    ∀ c ∈ overrides, ∀ m ∈ c.2, (c.1, m) ∈
      [("CatLinearOperator", "to"), ("CatLinearOperator", "device"),
       ("IdentityLinearOperator", "to"), ("IdentityLinearOperator", "type"), ("IdentityLinearOperator", "dtype"),
       ("IdentityLinearOperator", "device"), ("InterpolatedLinearOperator", "to"), ("MaskedLinearOperator", "to"),
       ("TransposePermutationLinearOperator", "type"), ("TransposePermutationLinearOperator", "dtype"),
       ("TransposePermutationLinearOperator", "device"), ("ZeroLinearOperator", "dtype"), ("ZeroLinearOperator", "device"),
       ("ZeroLinearOperator", "to"), ("ZeroLinearOperator", "type"),
       -- Zero's empty representation and private representation tree are mirrored by `representable` / `RT.zero`
       ("ZeroLinearOperator", "representation"), ("ZeroLinearOperator", "representation_tree"),
       ("AddedDiagLinearOperator", "evaluate_kernel"), ("MulLinearOperator", "representation"),
       ("MulLinearOperator", "representation_tree")] := by
  decide +kernel

end LinOp.C14
