import LinOp.C07.ProofsSteps
import LinOp.C07.ProofsFlat
import LinOp.C07.ProofsTrace
import Mathlib.LinearAlgebra.Matrix.Charpoly.Coeff
import Mathlib.Tactic.NormNum
import LinOp.Generated.C07Funcs
/-!
C07 — gradients through operators equal gradients through the dense computation.  The property theorems; the lemmas they share
are in `LinOp/C07/Proofs*.lean`.

Derivatives are defined algebraically by dual numbers (`Dual α` = α[ε]/ε², `dDenote o θ δ` = ε-part of
`⟦o⟧(θ+εδ)`), over an arbitrary commutative ring: no analysis.  `bilinDeriv` mirrors the hand-written
`_bilinear_derivative` code of each class; `pair o g δ = Σ_k g_k δ_k` over all floating parameters.
-/
namespace LinOp.C07
open LinOp Matrix

variable {α : Type} [CommRing α]

/-- **`_bilinear_derivative` (hand-written or inherited) = derivative of the dense matrix** (`bilinearDerivative_<class>` and
`bilinearDerivative_nested` in one statement), FULL: for EVERY operator tree of the model — Dense / Triangular, Diag,
ConstantDiag, Toeplitz (`sym_toeplitz_derivative_quadratic_form`), ConstantMul (incl. the constant's own gradient), Matmul,
Sum / AddedDiag / PsdSum / LowRankRootAddedDiag / KroneckerProductAddedDiag / SumKronecker, Mul (root branch `mulRoot` and the
dead non-root branch `mul`), Masked, Interpolated, BlockDiag, BlockInterleaved, SumBatch, and the classes that inherit the default
derivative (reverse sweep through their own `_matmul`): Root / LowRankRoot / Chol, Kronecker (binary constructor; P factors are
the right-nested tree, which is the loop of `_matmul`), Cat along rows / columns, transposes — nested to any depth, any sizes,
any number of vector pairs — and every perturbation `δ` of the parameters,
`Σ_k (op._bilinear_derivative(U, V))_k · δ_k = Σ_c u_cᵀ (D⟦op⟧_θ[δ]) v_c`, the ε-part of `Σ_c u_cᵀ ⟦op(θ+εδ)⟧ v_c`.
Structural induction over all 19 constructors (`all_correct`), each step feeding the intermediate vectors to the sub-operator. -/
theorem bilinearDerivative_all {n m : Nat} (o : Op n m) (θ δ : Param α o) {d : Nat} (U : Mat α n d) (V : Mat α m d) :
    pair o (bilinDeriv o θ U V) δ = bil (dDenote o θ δ) U V := by
  rw [bil_eq_bilS]
  exact all_correct o θ δ d U V

/-- The Toeplitz leaf on its own: `sym_toeplitz_derivative_quadratic_form(U, V)[k] = Σ_c Σ_{|a−b| = k} U[a,c] V[b,c]`
(two triangular Toeplitz products minus the doubly counted diagonal). -/
theorem bilinearDerivative_toeplitz {n d : Nat} (U V : Mat α n d) (k : Fin n) :
    toeplitzQF U V k = ∑ c, ∑ b, (∑ a, if absDiff a b = k then U a c else 0) * V b c :=
  toeplitzQF_eq U V k

/-- The ε⁰-part of the dual-number evaluation is the operator itself: `⟦o⟧(θ+εδ) = ⟦o⟧θ + ε·(…)`, all trees. -/
theorem denote_dual_re {n m : Nat} (o : Op n m) (θ δ : Param α o) (i : Fin n) (j : Fin m) :
    (denote o (mkDual o θ δ) i j).re = denote o θ i j :=
  reOK_all o θ δ i j

/-- **BatchRepeat / broadcast parameters are summed** (`broadcast_params_summed`): moving the repeat batches into the
columns delivers to the base operator's parameters the SUM over the repeats of the per-repeat bilinear forms. -/
theorem batchRepeat_params_summed {n m : Nat} (o : Op n m) (θ δ : Param α o) {r d : Nat}
    (U : Fin r → Mat α n d) (V : Fin r → Mat α m d) :
    pair o (batchRepeatDeriv o θ U V) δ = ∑ q, bil (dDenote o θ δ) (U q) (V q) := by
  unfold batchRepeatDeriv
  rw [all_correct o θ δ (r * d)]
  simp only [bil_eq_bilS, bilS_eq_sum, sum_pairIdx (k := r) (n := d), outer_pairIdx, inner_pairIdx]

/-- **Nesting** (`bilinearDerivative_nested`, the Matmul step): if both factors' derivative code is correct for
ALL vector pairs, then the product's is — its code hands the *intermediate* vectors `B V` and `Aᵀ U` to the factors.
The hypotheses are exactly the induction hypotheses; the factors may be arbitrary operator trees. -/
theorem bilinearDerivative_nested_matmul {n k m : Nat} (a : Op n k) (b : Op k m)
    (hra : ReOK α a) (hrb : ReOK α b) (ha : Correct α a) (hb : Correct α b) : Correct α (.matmul a b) :=
  correct_matmul a b ha hb

/-- Nesting, ConstantMul step: the sub-operator receives `c·U`; the constant receives `Σ u_cᵀ ⟦base⟧ v_c`. -/
theorem bilinearDerivative_nested_constMul {n m : Nat} (o : Op n m) (hr : ReOK α o) (h : Correct α o) :
    Correct α (.constMul o) :=
  correct_constMul o h

/-- Nesting, SumBatch step (`broadcast_params_summed`, block form): every batch member of the base receives the
same vectors, and the pairing is the SUM over the members. -/
theorem bilinearDerivative_nested_sumBatch {n m : Nat} (k : Nat) (o : Op n m) (h : Correct α o) :
    Correct α (.sumBatch k o) :=
  correct_sumBatch k o h

/-- Nesting, Root / LowRankRoot / Chol step: the default derivative (reverse sweep through `root._matmul(root._t_matmul(rhs))`)
hands `(U, Rᵀ V)` and `(V, Rᵀ U)` to the root operator and ADDS the two tuples; correct if the root operator's derivative is. -/
theorem bilinearDerivative_nested_root {n k : Nat} (o : Op n k) (hr : ReOK α o) (h : Correct α o) : Correct α (.root o) :=
  correct_root o h

/-- Nesting, Mul (root branch, the live branch of the hand-written code): each Root factor receives the `rank·d` columns
`U[:,c]·R_other[:,r]`, `V[:,c]·R_other[:,r]`; pairs to the derivative of `(R_a R_aᵀ) ∘ (R_b R_bᵀ)`. -/
theorem bilinearDerivative_nested_mulRoot {n k₁ k₂ : Nat} (a : Op n k₁) (b : Op n k₂)
    (hra : ReOK α a) (hrb : ReOK α b) (ha : Correct α a) (hb : Correct α b) : Correct α (.mulRoot a b) :=
  correct_mulRoot a b ha hb

/-- Nesting, Kronecker step: the reverse sweep through the view / `factor._matmul` / `transpose(-3,-2)` / reshape loop gives
the first factor `(Bᵀ-applied upstream, re-viewed rhs)` and the second `(re-viewed upstream, first factor's output)`, with
`m₂·d` resp. `n₁·d` columns; pairs to `dA ⊗ B + A ⊗ dB`.  Right-nesting gives any number of factors. -/
theorem bilinearDerivative_nested_kron {n₁ m₁ n₂ m₂ : Nat} (a : Op n₁ m₁) (b : Op n₂ m₂)
    (hra : ReOK α a) (hrb : ReOK α b) (ha : Correct α a) (hb : Correct α b) : Correct α (.kron a b) :=
  correct_kron a b ha hb

/-- Nesting, Cat step (rows: `torch.cat` of the parts' products — each part gets its rows of `U`; columns: sum of the parts'
products with the matching rows of the rhs — each part gets its rows of `V`). -/
theorem bilinearDerivative_nested_cat {n₁ n₂ n m m₁ m₂ : Nat} (a : Op n₁ m) (b : Op n₂ m) (a' : Op n m₁) (b' : Op n m₂)
    (ha : Correct α a) (hb : Correct α b) (ha' : Correct α a') (hb' : Correct α b') :
    Correct α (.catRows a b) ∧ Correct α (.catCols a' b') :=
  ⟨correct_catRows a b ha hb, correct_catCols a' b' ha' hb'⟩

/-- Nesting, transpose step: `uᵀ Aᵀ v = vᵀ A u`. -/
theorem bilinearDerivative_nested_transpose {n m : Nat} (o : Op n m) (h : Correct α o) : Correct α (.transpose o) :=
  correct_transpose o h

/-- Reverse-mode accumulation: the tuple `addP g h` (two uses of the same tensors) pairs to the sum of the pairings. -/
theorem gradient_accumulation {n m : Nat} (o : Op n m) (g h δ : Param α o) :
    pair o (addP o g h) δ = pair o g δ + pair o h δ :=
  pair_addP o g h δ

/-- **Tuple alignment, order**: position by position, floating tensors receive a gradient, index tensors
(Interpolated) zeros, masks (Masked) `None`. -/
theorem bilinearDerivative_aligned {n m : Nat} (o : Op n m) :
    List.Forall₂ (fun s g => slotMatches s g = true) (slots o) (gradSlots o) := by
  induction o with
  | dense | diag | constDiag | toeplitz => exact .cons rfl .nil
  | constMul o ih => exact List.rel_append ih (.cons rfl .nil)
  | masked rows cols o ih => exact List.rel_append ih (.cons rfl (.cons rfl .nil))
  | interp ql qr li ri o ih => exact List.rel_append ih (.cons rfl (.cons rfl (.cons rfl (.cons rfl .nil))))
  | blockDiag k o ih | blockInterleaved k o ih | sumBatch k o ih | transpose o ih | root o ih => exact ih
  | matmul a b iha ihb | sum a b iha ihb | mul a b iha ihb | mulRoot a b iha ihb | kron a b iha ihb | catRows a b iha ihb
  | catCols a b iha ihb => exact List.rel_append iha ihb

/-- **Tuple alignment, length**: the tuple returned by the hand-written `_bilinear_derivative` of every operator
tree (all classes of the model) has exactly one entry per tensor of `representation()`. -/
theorem bilinearDerivative_aligned_length {n m : Nat} (o : Op n m) :
    (gradSlots o).length = (slots o).length :=
  (bilinearDerivative_aligned o).length_eq.symm

/-- **matmul backward**: for `Y = A B` the first-order change is `dY = dA B + A dB`; against an upstream gradient `G`,
`⟨G, dY⟩ = tr(Gᵀ dA B) + ⟨Aᵀ G, dB⟩` — the parameters receive `_bilinear_derivative(G, B)` and the right-hand side
receives `A._t_matmul(G)`, as `Matmul.backward` computes. -/
theorem matmul_backward {n k c : Nat} (A dA : Matrix (Fin n) (Fin k) α) (B dB : Matrix (Fin k) (Fin c) α)
    (G : Matrix (Fin n) (Fin c) α) :
    Matrix.trace (Gᵀ * (dA * B + A * dB)) = bilS dA G B + Matrix.trace ((Aᵀ * G)ᵀ * dB) := by
  rw [bilS_def]
  simp only [Matrix.mul_add, Matrix.trace_add, Matrix.transpose_mul, Matrix.transpose_transpose, Matrix.mul_assoc]

/-- **solve backward**: if `A X = B` and, to first order, `(A+εdA)(X+εdX) = B+εdB` (i.e. `A dX + dA X = dB`), then
`dX = A⁻¹ (dB − dA X)`: the derivative of the solve is `−A⁻¹ dA A⁻¹ B + A⁻¹ dB`. -/
theorem solve_backward {n c : Nat} (A Ainv dA : Matrix (Fin n) (Fin n) α) (X dX B dB : Matrix (Fin n) (Fin c) α)
    (hinv : Ainv * A = 1) (_h0 : A * X = B) (h1 : A * dX + dA * X = dB) :
    dX = Ainv * (dB - dA * X) :=
  solve_differential A Ainv dA X dX dB hinv h1

/-- **solve backward, scalarised**: with `Ls = A⁻ᵀ G` (the code's `left_solves`), `⟨G, dX⟩ = ⟨Ls, dB⟩ − tr(Lsᵀ dA X)`:
the right-hand side receives `Ls` and the parameters `_bilinear_derivative` with factors pairing to `−Ls Xᵀ`. -/
theorem solve_backward_scalar {n c : Nat} (A Ainv dA : Matrix (Fin n) (Fin n) α) (X dX B dB G : Matrix (Fin n) (Fin c) α)
    (hinv : Ainv * A = 1) (h0 : A * X = B) (h1 : A * dX + dA * X = dB) :
    Matrix.trace (Gᵀ * dX) = Matrix.trace ((Ainvᵀ * G)ᵀ * dB) - bilS dA (Ainvᵀ * G) X :=
  solve_pullback A Ainv dA X dX dB G hinv h1

/-- **Broadcast parameters are summed, arbitrary pattern** (`broadcast_params_summed`): if batch member `b` reads entry
`π b` of a parameter (any broadcast pattern — scalar, missing leading dims, leading or NON-leading size-1 dims) and `g b` is
the member's gradient, then the summed-back gradient `bcastSum π g` pairs with a perturbation `δ` of the small parameter
exactly as the members' gradients pair with the perturbation each member sees. -/
theorem broadcast_params_summed {B K : Nat} (π : Fin B → Fin K) (g : Fin B → α) (δ : Fin K → α) :
    ∑ k, bcastSum π g k * δ k = ∑ b, g b * δ (π b) := by
  simp only [bcastSum, sumFin_eq_sum, Finset.sum_mul, ite_mul, zero_mul]
  rw [Finset.sum_comm]
  refine Finset.sum_congr rfl fun b _ => ?_
  rw [Finset.sum_ite_eq, if_pos (Finset.mem_univ _)]

/-- **ConstantMul with a broadcast constant**: for a batch of members `b` with base parameters `θ b` and constant entry
`c (π b)`, the constant's gradient summed back along the pattern `π` pairs with `δc` to the total ε-part contributed by the
constant: `Σ_b Σ_c u_cᵀ (⟦base_b⟧ · δc(π b)) v_c` — for every base operator tree and every pattern. -/
theorem constMul_broadcast_constant {n m B K : Nat} (o : Op n m) (π : Fin B → Fin K) (θ : Fin B → Param α o) (c δc : Fin K → α)
    {d : Nat} (U : Fin B → Mat α n d) (V : Fin B → Mat α m d) :
    ∑ k, bcastSum π (fun b => (bilinDeriv (.constMul o) (θ b, c (π b)) (U b) (V b)).2) k * δc k
      = ∑ b, bilS (fun i j => denote o (θ b) i j * δc (π b)) (U b) (V b) := by
  rw [broadcast_params_summed]
  exact Finset.sum_congr rfl fun b _ => constMul_const_grad o (θ b, c (π b)) (U b) (V b) (δc (π b))

/-- **inv_quad backward**: `q = Σ_c b_cᵀ A⁻¹ b_c = tr(Xᵀ B)` with `A X = B`, `A` symmetric: its first-order change is
`2·tr(Xᵀ dB) − Σ_c x_cᵀ dA x_c` — the rhs receives `2·solves` and the parameters `_bilinear_derivative(−solves, solves)`,
as `InvQuad.backward` computes (before the upstream factor). -/
theorem invQuad_backward {n c : Nat} (A dA : Matrix (Fin n) (Fin n) α) (X dX B dB : Matrix (Fin n) (Fin c) α)
    (hs : Aᵀ = A) (h0 : A * X = B) (h1 : A * dX + dA * X = dB) :
    Matrix.trace (dXᵀ * B) + Matrix.trace (Xᵀ * dB)
      = Matrix.trace (Xᵀ * dB) + Matrix.trace (Xᵀ * dB) - bilS dA X X := by
  have h := invQuad_weighted_first_order A dA X dX B dB (fun _ => 1) hs h0 h1
  rw [Matrix.diagonal_one, Matrix.one_mul, Matrix.one_mul, Matrix.mul_one, Matrix.trace_add] at h
  rw [h, sub_eq_add_neg]
  congr 1
  rw [bilS_def, bilS_def, Matrix.transpose_neg, Matrix.neg_mul, Matrix.neg_mul, Matrix.trace_neg]

/-- **logdet backward**: in a commutative ring with a square-zero element `e` (the dual numbers `K[ε]`, `e = ε`),
`det(A + e·dA) = det A · (1 + e · tr(A⁻¹ dA))`, i.e. `d log det A = tr(A⁻¹ dA)`. -/
theorem logdet_backward {n : Nat} {S : Type} [CommRing S] (e : S) (he : e * e = 0)
    (A Ainv dA : Matrix (Fin n) (Fin n) S) (hinv : A * Ainv = 1) :
    Matrix.det (A + e • dA) = Matrix.det A * (1 + e * Matrix.trace (Ainv * dA)) := by
  have hfac : A + e • dA = A * (1 + e • (Ainv * dA)) := by
    rw [Matrix.mul_add, Matrix.mul_one, Matrix.mul_smul, ← Matrix.mul_assoc, hinv, Matrix.one_mul]
  rw [hfac, Matrix.det_mul, Matrix.det_one_add_smul e (Ainv * dA), pow_two, he, mul_zero, add_zero,
    mul_comm (Matrix.trace (Ainv * dA)) e]

/-- The probe estimator `Σ_c z_cᵀ A⁻¹ dA z_c` of `InvQuadLogdet.backward` equals `tr(A⁻¹ dA)` exactly for a complete
orthonormal probe set (`Z Zᵀ = I`) — the form the harness checks on the CG path. -/
theorem logdet_probe_estimator {n : Nat} (Ainv dA Z : Matrix (Fin n) (Fin n) α) (hZ : Z * Zᵀ = 1) :
    Matrix.trace (Zᵀ * (Ainv * dA) * Z) = Matrix.trace (Ainv * dA) := by
  rw [Matrix.trace_mul_comm, ← Matrix.mul_assoc, hZ, Matrix.one_mul]

/-- **Concatenated factors** (`Solve.backward`, `InvQuadLogdet.backward`): feeding the concatenated left factors `[L | R]`
and right factors `−½·[R | L]` ONCE to `_bilinear_derivative` yields, for EVERY operator tree and every parameter
perturbation, the sum of the two symmetrised terms `−½ (Σ_c l_cᵀ D r_c + Σ_c r_cᵀ D l_c)`, `D = D⟦op⟧_θ[δ]`. -/
theorem solveBackward_concatenated {n : Nat} (o : Op n n) (θ δ : Param α o) (half : α) {d : Nat} (L R : Mat α n d) :
    pair o (symmetrisedDeriv o θ half L R) δ
      = (bilS (dDenote o θ δ) L R + bilS (dDenote o θ δ) R L) * (-half) := by
  unfold symmetrisedDeriv
  rw [all_correct o θ δ (d + d), bilS_scale_right, bilS_hcat]

/-- **Symmetrised solve gradient**: along a perturbation that keeps the matrix symmetric (`D⟦op⟧_θ[δ]` symmetric) and with
`half + half = 1`, the concatenated call equals the single term `−Σ_c l_cᵀ D r_c` — with `L = A⁻¹G`, `R = A⁻¹B` this is the
parameter part of `solve_backward_scalar`. -/
theorem solveBackward_symmetrised {n : Nat} (o : Op n n) (θ δ : Param α o) (half : α) (hh : half + half = 1)
    (hD : ∀ i j, dDenote o θ δ i j = dDenote o θ δ j i) {d : Nat} (L R : Mat α n d) :
    pair o (symmetrisedDeriv o θ half L R) δ = - bilS (dDenote o θ δ) L R := by
  rw [solveBackward_concatenated, bilS_symm _ hD L R]
  generalize bilS (dDenote o θ δ) L R = b
  calc (b + b) * -half = -((half + half) * b) := by ring
    _ = -b := by rw [hh, one_mul]

/-- **Rebuild from the saved tensors**: `representation_tree()(*representation())` gives back the operator's parameters
(flat-list form, every operator tree of the model). -/
theorem rebuild_flatten {n m : Nat} (o : Op n m) (θ : Param α o) (rest : List α) :
    rebuild o (flat o θ ++ rest) = (θ, rest) :=
  rebuild_flat o θ rest

/-- **`settings.memory_efficient` is irrelevant, Matmul**: with the flag on (`ctx._linear_op` absent, operator rebuilt from
the saved tensors) and off (operator object kept), `Matmul.backward` returns the same parameter and rhs gradients. -/
theorem memoryEfficient_irrelevant_matmul {n m c : Nat} (o : Op n m) (θ : Param α o) (rhs : Mat α m c) (G : Mat α n c) :
    matmulBackward o (matmulForwardCtx true o θ rhs) G = matmulBackward o (matmulForwardCtx false o θ rhs) G := by
  simp only [matmulBackward, matmulForwardCtx, rebuild_flat', if_true, Bool.false_eq_true, if_false]

/-- **`settings.memory_efficient` is irrelevant, Solve / InvQuad**: the parameter gradients computed from the saved solves
with the rebuilt operator equal those computed with the kept operator. -/
theorem memoryEfficient_irrelevant_solve {n c : Nat} (o : Op n n) (θ : Param α o) (half : α) (X Ls : Mat α n c) :
    solveBackwardArgs o (solveForwardCtx true o θ X) half Ls = solveBackwardArgs o (solveForwardCtx false o θ X) half Ls := by
  simp only [solveBackwardArgs, solveForwardCtx, rebuild_flat', if_true, Bool.false_eq_true, if_false]

/-- **solve backward with a left factor** (`Y = L A⁻¹ R`, the `has_left` branch of `Solve.backward`): the left factor receives
`G Xᵀ` (`X = A⁻¹R` the saved solves), the rhs `A⁻ᵀ Lᵀ G`, the parameters the bilinear form with `−(A⁻ᵀLᵀG) Xᵀ`. -/
theorem solve_backward_left {n c l : Nat} (A Ainv dA : Matrix (Fin n) (Fin n) α) (X dX R dR : Matrix (Fin n) (Fin c) α)
    (L dL : Matrix (Fin l) (Fin n) α) (G : Matrix (Fin l) (Fin c) α)
    (hinv : Ainv * A = 1) (h1 : A * dX + dA * X = dR) :
    Matrix.trace (Gᵀ * (dL * X + L * dX))
      = Matrix.trace ((G * Xᵀ)ᵀ * dL) + (Matrix.trace ((Ainvᵀ * (Lᵀ * G))ᵀ * dR) - bilS dA (Ainvᵀ * (Lᵀ * G)) X) := by
  rw [trace_mul_pullback, solve_pullback A Ainv dA X dX dR (Lᵀ * G) hinv h1]

/-- **First-order perturbation of the eigen-decomposition under the eigh contract** (`A U = U Λ`, `Uᵀ U = 1`, `A` symmetric,
distinct eigenvalues expressed by a kernel `F` with `F_ij (λ_j − λ_i) = 1` for `i ≠ j`, `F_ii = 0`; `2` cancellable): if
`(A+εdA)(U+εdU) = (U+εdU)(Λ+εdΛ)` and `(U+εdU)ᵀ(U+εdU) = 1` to first order, then `dλ_i = (Uᵀ dA U)_ii` and
`Uᵀ dU = F ∘ (Uᵀ dA U)`, i.e. `dU = U (F ∘ (Uᵀ dA U))`. -/
theorem diagonalization_first_order {n : Nat} (U A dA dU F : Matrix (Fin n) (Fin n) α) (lam dlam : Fin n → α)
    (hU : Uᵀ * U = 1) (hA : A * U = U * Matrix.diagonal lam) (hAs : Aᵀ = A)
    (h1 : dA * U + A * dU = dU * Matrix.diagonal lam + U * Matrix.diagonal dlam)
    (h2 : dUᵀ * U + Uᵀ * dU = 0)
    (hF : ∀ i j, i ≠ j → F i j * (lam j - lam i) = 1) (hF0 : ∀ i, F i i = 0) (h2c : ∀ x : α, x + x = 0 → x = 0) :
    (∀ i, dlam i = (Uᵀ * dA * U) i i) ∧ (∀ i j, (Uᵀ * dU) i j = F i j * (Uᵀ * dA * U) i j) := by
  have hp := eig_projected U A dA dU lam dlam hU hA hAs h1
  have he : ∀ i j, (Uᵀ * dA * U) i j + lam i * (Uᵀ * dU) i j
      = (Uᵀ * dU) i j * lam j + (if i = j then dlam i else 0) := by
    intro i j
    have := congrFun (congrFun hp i) j
    rwa [Matrix.add_apply, Matrix.add_apply, Matrix.diagonal_mul, Matrix.mul_diagonal, Matrix.diagonal_apply] at this
  have hdiag : ∀ i, (Uᵀ * dU) i i = 0 := by
    intro i
    apply h2c
    have := congrFun (congrFun h2 i) i
    rwa [Matrix.add_apply, ← Matrix.transpose_apply (dUᵀ * U) i i, Matrix.transpose_mul, Matrix.transpose_transpose] at this
  refine ⟨fun i => ?_, fun i j => ?_⟩
  · have := he i i
    rw [if_pos rfl, mul_comm (lam i)] at this
    exact (add_right_cancel (b := (Uᵀ * dU) i i * lam i) (by rw [add_comm (dlam i)]; exact this.symm))
  · by_cases hij : i = j
    · subst hij; rw [hdiag, hF0, zero_mul]
    · have h := he i j
      rw [if_neg hij, add_zero] at h
      have hS : (Uᵀ * dA * U) i j = (Uᵀ * dU) i j * (lam j - lam i) := by
        rw [mul_sub, ← h]; ring
      rw [hS, ← mul_assoc, mul_comm (F i j), mul_assoc, hF i j hij, mul_one]

/-- **`Diagonalization.backward`** (`diagonalization(method="lanczos")`): the code computes `kmat_ij = 1/(λ_i − λ_j)` and returns
`dL/dM = U (kmat.mT ∘ (Uᵀ G)) Uᵀ + U diag(g) Uᵀ`, `G = dL/dU`, `g = dL/dΛ`; with `F = kmat.mT` (`F_ij = 1/(λ_j − λ_i)`, the
transposition applied ONCE, to `kmat` only) this matrix pairs with every perturbation `dA` to the first-order change of the loss:
`⟨G, dU⟩ + Σ_i g_i dλ_i = ⟨dL/dM, dA⟩`.  (The gradient is delivered un-symmetrised; it is compared along symmetric `dA`.)
NOT covered: that the Lanczos output satisfies the eigh contract (C09), the `1e-10` regulariser in `kmat`, and the fact that the
code returns `dL/dM` as the gradient of the first representation tensor (finding D65: correct for dense operators only). -/
theorem diagonalization_backward {n : Nat} (U A dA dU F G : Matrix (Fin n) (Fin n) α) (lam dlam g : Fin n → α)
    (hU : Uᵀ * U = 1) (hA : A * U = U * Matrix.diagonal lam) (hAs : Aᵀ = A)
    (h1 : dA * U + A * dU = dU * Matrix.diagonal lam + U * Matrix.diagonal dlam)
    (h2 : dUᵀ * U + Uᵀ * dU = 0)
    (hF : ∀ i j, i ≠ j → F i j * (lam j - lam i) = 1) (hF0 : ∀ i, F i i = 0) (h2c : ∀ x : α, x + x = 0 → x = 0) :
    Matrix.trace (Gᵀ * dU) + ∑ i, g i * dlam i
      = Matrix.trace ((U * (Matrix.hadamard F (Uᵀ * G) + Matrix.diagonal g) * Uᵀ)ᵀ * dA) := by
  obtain ⟨hl, hC⟩ := diagonalization_first_order U A dA dU F lam dlam hU hA hAs h1 h2 hF hF0 h2c
  have hUU : U * Uᵀ = 1 := mul_eq_one_comm.1 hU
  -- both sides in the eigenbasis: `⟨G, dU⟩ = ⟨Uᵀ G, Uᵀ dU⟩` and `⟨U M Uᵀ, dA⟩ = ⟨M, Uᵀ dA U⟩`
  have hL : Gᵀ * dU = (Uᵀ * G)ᵀ * (Uᵀ * dU) := by
    rw [Matrix.transpose_mul, Matrix.transpose_transpose, Matrix.mul_assoc, ← Matrix.mul_assoc U, hUU, Matrix.one_mul]
  rw [hL, trace_transpose_mul_eq_sum, trace_conj_eq_sum]
  simp only [Matrix.add_apply, Matrix.hadamard_apply, Matrix.diagonal_apply, add_mul, Finset.sum_add_distrib, ite_mul, zero_mul,
    Finset.sum_ite_eq, Finset.mem_univ, if_true, hC, hl]
  congr 1
  exact Finset.sum_congr rfl fun i _ => Finset.sum_congr rfl fun j _ => by ring

/-- The kernel of `Diagonalization.backward` is antisymmetric (`F_ji = −F_ij`): using `kmat` instead of `kmat.mT` flips the
sign of the eigenvector term — invisible to losses whose `Uᵀ dL/dU` is symmetric (trace-like, eigenvalue-only). -/
theorem diagonalization_kernel_antisymm {n : Nat} (F : Matrix (Fin n) (Fin n) α) (lam : Fin n → α)
    (hF : ∀ i j, i ≠ j → F i j * (lam j - lam i) = 1) (i j : Fin n) (hij : i ≠ j) : F j i = - F i j := by
  have h1 := hF i j hij
  have h2 := hF j i (Ne.symm hij)
  calc F j i = F j i * (F i j * (lam j - lam i)) := by rw [h1, mul_one]
    _ = - (F i j * (F j i * (lam i - lam j))) := by ring
    _ = - F i j := by rw [h2, mul_one]

/-- **`RootDecomposition.backward`** (full-rank case, `W = R⁻ᵀ` the saved inverse root, `½ + ½ = 1`, symmetric `dA`):
(1) the root differential `dR = ½ dA W` is a first-order root of `A + ε dA` (`dR Rᵀ + R dRᵀ = dA`);
(2) `dW = −W dRᵀ W` is the matching differential of the inverse root (`dRᵀ W + Rᵀ dW = 0`);
(3) for upstream gradients `G_R`, `G_W`: `⟨G_R, dR⟩ + ⟨G_W, dW⟩ = Σ_c l_cᵀ dA r_c` with `l = G_R − W G_Wᵀ W`, `r = ½ W` —
the factors the code hands to `_bilinear_derivative` (`inverse @ inverse_grad_output.mT @ inverse`, `inverse.div(2)`). -/
theorem rootDecomposition_backward {n : Nat} (half : α) (hh : half + half = 1) (R W dA GR GW : Matrix (Fin n) (Fin n) α)
    (hW : W * Rᵀ = 1) (hW' : Rᵀ * W = 1) (hs : dAᵀ = dA) :
    (half • (dA * W)) * Rᵀ + R * (half • (dA * W))ᵀ = dA
    ∧ (half • (dA * W))ᵀ * W + Rᵀ * (-(W * (half • (dA * W))ᵀ * W)) = 0
    ∧ Matrix.trace (GRᵀ * (half • (dA * W))) + Matrix.trace (GWᵀ * (-(W * (half • (dA * W))ᵀ * W)))
        = bilS dA (GR - W * GWᵀ * W) (half • W) := by
  refine ⟨?_, ?_, ?_⟩
  · have hRW : R * Wᵀ = 1 := by
      have := transpose_mul_eq_one hW
      rwa [Matrix.transpose_transpose] at this
    rw [Matrix.transpose_smul, Matrix.transpose_mul, hs, Matrix.smul_mul, Matrix.mul_smul, Matrix.mul_assoc, hW, Matrix.mul_one,
      ← Matrix.mul_assoc, hRW, Matrix.one_mul, ← add_smul, hh, one_smul]
  · rw [Matrix.mul_neg, ← Matrix.mul_assoc, ← Matrix.mul_assoc, hW', Matrix.one_mul, add_neg_cancel]
  · rw [bilS_def]
    have e1 : Matrix.trace (GWᵀ * (W * ((dA * W)ᵀ * W))) = Matrix.trace ((W * (GWᵀ * W))ᵀ * (dA * W)) := by
      calc Matrix.trace (GWᵀ * (W * ((dA * W)ᵀ * W)))
          = Matrix.trace ((GWᵀ * W) * (Wᵀ * dA * W)) := by
            simp only [Matrix.transpose_mul, hs, Matrix.mul_assoc]
        _ = Matrix.trace ((Wᵀ * dA * W) * (GWᵀ * W)) := Matrix.trace_mul_comm _ _
        _ = Matrix.trace (((Wᵀ * dA * W) * (GWᵀ * W))ᵀ) := (Matrix.trace_transpose _).symm
        _ = Matrix.trace ((W * (GWᵀ * W))ᵀ * (dA * W)) := by
            simp only [Matrix.transpose_mul, Matrix.transpose_transpose, hs, Matrix.mul_assoc]
    simp only [Matrix.transpose_smul, Matrix.mul_smul, Matrix.smul_mul, Matrix.mul_neg, Matrix.trace_neg, Matrix.trace_smul,
      Matrix.transpose_sub, Matrix.sub_mul, Matrix.trace_sub, Matrix.mul_assoc, smul_eq_mul]
    rw [e1]
    ring

/-- **`SqrtInvMatmul.backward`** (no left factor): `Y = Σ_q w_q X_q` with the shifted solves `(v·A + s_q) X_q = B`
(`minres(value = v = −1, shifts)`; weights and shifts constant).  The rhs receives `Σ_q w_q M_q⁻ᵀ G` and the matrix parameters
`−v · Σ_q Σ_c (w_q M_q⁻ᵀ G)_cᵀ dA (X_q)_c` — factors `terms1 = grad_solves·weights`, `terms2 = rhs_solves`, summed over the
quadrature index (a leading batch dimension), sign `+` for `v = −1`. -/
theorem sqrtInvMatmul_backward {Q n c : Nat} (v : α) (w s : Fin Q → α) (A dA : Matrix (Fin n) (Fin n) α)
    (Minv : Fin Q → Matrix (Fin n) (Fin n) α) (X dX : Fin Q → Matrix (Fin n) (Fin c) α) (B dB G : Matrix (Fin n) (Fin c) α)
    (hinv : ∀ q, Minv q * (v • A + s q • 1) = 1) (h0 : ∀ q, (v • A + s q • 1) * X q = B)
    (h1 : ∀ q, (v • A + s q • 1) * dX q + (v • dA) * X q = dB) :
    Matrix.trace (Gᵀ * ∑ q, w q • dX q)
      = Matrix.trace ((∑ q, w q • ((Minv q)ᵀ * G))ᵀ * dB) - v * ∑ q, bilS dA (w q • ((Minv q)ᵀ * G)) (X q) := by
  have hq : ∀ q, Matrix.trace (Gᵀ * (w q • dX q))
      = Matrix.trace ((w q • ((Minv q)ᵀ * G))ᵀ * dB) - v * bilS dA (w q • ((Minv q)ᵀ * G)) (X q) := by
    intro q
    have := solve_pullback (v • A + s q • 1) (Minv q) (v • dA) (X q) (dX q) dB G (hinv q) (h1 q)
    simp only [bilS_def, Matrix.mul_smul, Matrix.smul_mul, Matrix.transpose_smul, Matrix.trace_smul, smul_eq_mul] at this ⊢
    rw [this]
    ring
  rw [Matrix.mul_sum, Matrix.trace_sum, Matrix.transpose_sum, Matrix.sum_mul, Matrix.trace_sum, Finset.mul_sum, ← Finset.sum_sub_distrib]
  exact Finset.sum_congr rfl fun q _ => hq q

/-- **`InvQuadLogdet.backward`, probe vectors drawn with a preconditioner**: if the probes have second moment `P`
(`coef · Z Zᵀ = P`, `coef = 1/num_probes`, the exact form of `z ~ N(0, P)`), the probe block of the factors —
left `coef · A⁻¹ Z` (`probe_vector_solves`), right `P⁻¹ Z` (`preconditioner(probe_vectors)`) — pairs to `tr(A⁻¹ dA)`,
the derivative of the log-determinant (`logdet_backward`).  `P = 1` is `logdet_probe_estimator`. -/
theorem logdet_probe_estimator_preconditioned {n t : Nat} (coef : α) (Ainv dA P Pinv : Matrix (Fin n) (Fin n) α)
    (Z : Matrix (Fin n) (Fin t) α) (hA : Ainvᵀ = Ainv) (hP : Pinv * P = 1) (hZ : coef • (Z * Zᵀ) = P) :
    bilS dA (coef • (Ainv * Z)) (Pinv * Z) = Matrix.trace (Ainv * dA) := by
  have key : Matrix.trace (Zᵀ * (Ainv * dA * Pinv * Z)) = Matrix.trace (Ainv * dA * Pinv * (Z * Zᵀ)) := by
    rw [Matrix.trace_mul_comm, Matrix.mul_assoc]
  have e : (coef • (Ainv * Z))ᵀ * dA * (Pinv * Z) = coef • (Zᵀ * (Ainv * dA * Pinv * Z)) := by
    simp only [Matrix.transpose_smul, Matrix.transpose_mul, hA, Matrix.smul_mul, Matrix.mul_assoc]
  rw [bilS_def, e, Matrix.trace_smul, key, ← Matrix.trace_smul, ← Matrix.mul_smul, hZ, Matrix.mul_assoc (Ainv * dA), hP,
    Matrix.mul_one]

/-- The preconditioner's own tensors receive `_bilinear_derivative(−coef·P⁻¹Z, P⁻¹Z)` = `−tr(P⁻¹ dP)`, cancelling the
derivative of the `logdet(P)` term of the preconditioned estimate. -/
theorem logdet_preconditioner_gradient {n t : Nat} (coef : α) (dP P Pinv : Matrix (Fin n) (Fin n) α) (Z : Matrix (Fin n) (Fin t) α)
    (hPs : Pinvᵀ = Pinv) (hP : Pinv * P = 1) (hZ : coef • (Z * Zᵀ) = P) :
    bilS dP (-(coef • (Pinv * Z))) (Pinv * Z) = - Matrix.trace (Pinv * dP) := by
  rw [bilS_def, Matrix.transpose_neg, Matrix.neg_mul, Matrix.neg_mul, Matrix.trace_neg, ← bilS_def,
    logdet_probe_estimator_preconditioned coef Pinv dP P Pinv Z hPs hP hZ]

/-- **`InvQuadLogdet.backward`, concatenated factors**: the ONE call `_bilinear_derivative(cat[L₁, L₂], cat[R₁, R₂])` (probe
block and inv_quad block, different numbers of columns) pairs, for EVERY operator tree and every parameter perturbation, to
the sum of the two bilinear forms `g_ld · tr-estimator − g_iq · Σ_c x_cᵀ D x_c`. -/
theorem invQuadLogdet_concatenated {n m : Nat} (o : Op n m) (θ δ : Param α o) {d₁ d₂ : Nat}
    (L₁ : Mat α n d₁) (L₂ : Mat α n d₂) (R₁ : Mat α m d₁) (R₂ : Mat α m d₂) :
    pair o (bilinDeriv o θ (hcat L₁ L₂) (hcat R₁ R₂)) δ = bilS (dDenote o θ δ) L₁ R₁ + bilS (dDenote o θ δ) L₂ R₂ := by
  rw [all_correct o θ δ (d₁ + d₂), bilS_hcat]

/-- **`PivotedCholesky.backward`** differentiates a re-computation of the factor from the selected rows with the permutation
held fixed: `F = [L; K₂₁ L⁻ᵀ]`, `L Lᵀ = K₁₁`.  In every commutative ring (hence for `K + ε dK`, to first order) `F Fᵀ` has the
blocks `K₁₁`, `K₂₁` and the Schur form `K₂₁ K₁₁⁻¹ K₂₁ᵀ`: the re-computed expression is the pivoted Cholesky factor of that
permutation.  (The derivative of `cholesky` / `solve_triangular` themselves is torch's — assumed.) -/
theorem pivotedCholesky_backward_recompute {m r : Nat} (L Linv K11 : Matrix (Fin m) (Fin m) α) (K21 : Matrix (Fin r) (Fin m) α)
    (hL : L * Lᵀ = K11) (hinv : Linv * L = 1) :
    L * Lᵀ = K11 ∧ (K21 * Linvᵀ) * Lᵀ = K21 ∧ (K21 * Linvᵀ) * (K21 * Linvᵀ)ᵀ = K21 * (Linvᵀ * Linv) * K21ᵀ
      ∧ (Linvᵀ * Linv) * K11 = 1 := by
  have hT : Linvᵀ * Lᵀ = 1 := transpose_mul_eq_one (mul_eq_one_comm.1 hinv)
  refine ⟨hL, ?_, ?_, ?_⟩
  · rw [Matrix.mul_assoc, hT, Matrix.mul_one]
  · simp only [Matrix.transpose_mul, Matrix.transpose_transpose, Matrix.mul_assoc]
  · rw [← hL, Matrix.mul_assoc, ← Matrix.mul_assoc Linv, hinv, Matrix.one_mul, hT]

/-! ### Entry points through `Matmul` with special right-hand sides, generic context, more backward formulas -/

/-- **`to_dense()`** (`self.matmul(eye)` → `Matmul.backward` → `_bilinear_derivative(G, eye)`): for EVERY operator tree the tuple
pairs with every parameter perturbation to `⟨G, D⟦op⟧_θ[δ]⟩` — the gradient of `⟨G, dense matrix⟩`. -/
theorem toDense_backward {n m : Nat} (o : Op n m) (θ δ : Param α o) (G : Mat α n m) :
    pair o (toDenseBackward o θ G) δ = ∑ i, ∑ j, G i j * dDenote o θ δ i j := by
  unfold toDenseBackward
  rw [pair_bilinDeriv_outer]
  refine Finset.sum_congr rfl fun i _ => Finset.sum_congr rfl fun j _ => ?_
  rw [outer_id, mul_comm]

/-- `to_dense()` of a wide operator (`num_rows < num_cols`: `self.mT.matmul(eye).mT`): the transposed operator's derivative with
`(Gᵀ, eye)` pairs to the same `⟨G, D⟦op⟧_θ[δ]⟩`. -/
theorem toDense_backward_wide {n m : Nat} (o : Op n m) (θ δ : Param α o) (G : Mat α n m) :
    pair (.transpose o) (bilinDeriv (.transpose o) θ (fun j i => G i j) (idMat n)) δ = ∑ i, ∑ j, G i j * dDenote o θ δ i j := by
  rw [Finset.sum_comm]
  exact (toDense_backward (.transpose o) θ δ fun j i => G i j).trans (by rw [dDenote_transpose])

/-- **diagonal** through the structured derivative: factors `(diag(g), eye)` pair to `Σ_i g_i · (D⟦op⟧_θ[δ])_ii`, every tree. -/
theorem diagonal_backward {n : Nat} (o : Op n n) (θ δ : Param α o) (g : Fin n → α) :
    pair o (diagonalBackward o θ g) δ = ∑ i, g i * dDenote o θ δ i i := by
  unfold diagonalBackward
  rw [pair_bilinDeriv_outer]
  simp only [outer_diag_id, mul_ite, mul_zero, Finset.sum_ite_eq, Finset.mem_univ, if_true]
  exact Finset.sum_congr rfl fun i _ => mul_comm _ _

/-- **single entry** `op[i, j] = e_iᵀ (op @ e_j)`: factors `(g·e_i, e_j)` pair to `g · (D⟦op⟧_θ[δ])_ij`, every tree. -/
theorem getitem_backward {n m : Nat} (o : Op n m) (θ δ : Param α o) (i : Fin n) (j : Fin m) (g : α) :
    pair o (getitemBackward o θ i j g) δ = g * dDenote o θ δ i j := by
  unfold getitemBackward
  rw [pair_bilinDeriv_outer]
  simp only [unitCol, Finset.univ_unique, Finset.sum_singleton, mul_ite, mul_one, mul_zero,
    Finset.sum_ite_eq', Finset.mem_univ, if_true, mul_comm g]

/-- **`op.sum(-1)`** (`op @ ones`) and **`op.sum(-2)`** (`op.mT @ ones`): factors `(g, ones)` / `(ones, g)` pair to the weighted
row / column sums of the derivative, every tree. -/
theorem sum_backward {n m : Nat} (o : Op n m) (θ δ : Param α o) (g : Fin n → α) (h : Fin m → α) :
    pair o (sumLastBackward o θ g) δ = ∑ i, g i * ∑ j, dDenote o θ δ i j
    ∧ pair o (sumFirstBackward o θ h) δ = ∑ j, h j * ∑ i, dDenote o θ δ i j := by
  unfold sumLastBackward sumFirstBackward
  rw [pair_bilinDeriv_outer, pair_bilinDeriv_outer]
  simp only [colOf, Finset.univ_unique, Finset.sum_singleton, mul_one, Finset.mul_sum, mul_comm, true_and]
  exact Finset.sum_comm

/-- **`settings.memory_efficient` is irrelevant for EVERY Function** whose backward works with
`ctx._linear_op if hasattr(ctx, "_linear_op") else ctx.representation_tree(*matrix_args)` (Matmul, Solve, InvQuad,
RootDecomposition, Diagonalization — table `C07Funcs.keepOrRebuild`) or always rebuilds (InvQuadLogdet, PivotedCholesky): the operator
the backward sees is the forward's operator, whichever the flag — so any function of it (every gradient) is the same. -/
theorem memoryEfficient_irrelevant_ctx {n m : Nat} (o : Op n m) (θ : Param α o) (me : Bool) :
    ctxOperator o (forwardCtx me o θ) = θ ∧ ctxRebuilt o (forwardCtx me o θ) = θ :=
  ⟨ctxOperator_forward me o θ, ctxRebuilt_forward me o θ⟩

/-- **`InvQuadLogdet.backward` does not depend on `skip_logdet_forward` or `memory_efficient`**: the parameter gradients computed
from the context left by the forward under any setting of the two flags are `_bilinear_derivative` of the forward's operator with
the concatenated factors (hence, by `invQuadLogdet_concatenated`, pair to the sum of the two bilinear forms). -/
theorem invQuadLogdet_settings_irrelevant {n m d₁ d₂ : Nat} (o : Op n m) (θ : Param α o) (skip me : Bool) (logdet : α)
    (L₁ : Mat α n d₁) (L₂ : Mat α n d₂) (R₁ : Mat α m d₁) (R₂ : Mat α m d₂) :
    invQuadLogdetBackwardArgs o (invQuadLogdetForward skip me o θ logdet).1 L₁ L₂ R₁ R₂
      = bilinDeriv o θ (hcat L₁ L₂) (hcat R₁ R₂) := by
  simp only [invQuadLogdetBackwardArgs, invQuadLogdetForward, ctxRebuilt_forward]

/-- **`InvQuad.backward` / the inv_quad block of `InvQuadLogdet.backward`, with the per-column upstream gradient** `g_c`
(`inv_quad_term` has one entry per column of the rhs): `Σ_c g_c · d(x_cᵀ b_c) = 2 Σ_c g_c x_cᵀ db_c + bil(dA; −X diag g, X)` — the rhs
receives `2 · X diag g` (`neg_inv_quad_solves_times_grad_out.mul(-2)`), the parameters `_bilinear_derivative(−X diag g, X)` — exactly
the code's `left_factors = inv_quad_solves.mul(grad).mul(-1)`, `right_factors = inv_quad_solves`.  `g = 1` is `invQuad_backward`. -/
theorem invQuad_backward_weighted {n c : Nat} (A dA : Matrix (Fin n) (Fin n) α) (X dX B dB : Matrix (Fin n) (Fin c) α)
    (g : Fin c → α) (hs : Aᵀ = A) (h0 : A * X = B) (h1 : A * dX + dA * X = dB) :
    Matrix.trace (Matrix.diagonal g * (dXᵀ * B + Xᵀ * dB))
      = Matrix.trace (Matrix.diagonal g * (Xᵀ * dB)) + Matrix.trace (Matrix.diagonal g * (Xᵀ * dB))
        + bilS dA (-(X * Matrix.diagonal g)) X :=
  invQuad_weighted_first_order A dA X dX B dB g hs h0 h1

/-- **`DSMM.backward`** (`bdsmm(sparse, dense)`; only the dense factor is differentiable): the dense factor receives `Sᵀ G`. -/
theorem dsmm_backward {n k c : Nat} (S : Matrix (Fin n) (Fin k) α) (dB : Matrix (Fin k) (Fin c) α) (G : Matrix (Fin n) (Fin c) α) :
    Matrix.trace (Gᵀ * (S * dB)) = Matrix.trace ((Sᵀ * G)ᵀ * dB) := by
  rw [Matrix.transpose_mul, Matrix.transpose_transpose, Matrix.mul_assoc]

/-- **`SqrtInvMatmul.backward`, `lhs` branch** (`Y = L · Σ_q w_q X_q`, `(v·A + s_q) X_q = B`): the left factor receives
`G (Σ_q w_q X_q)ᵀ` (`weighted_rhs_solves_mul_grad.mT.sum(0)`), the rhs `Σ_q w_q M_q⁻ᵀ Lᵀ G` (`(lhs_solves @ grad).mul(weights).sum(0)`),
the matrix `−v Σ_q bil(dA; w_q M_q⁻ᵀLᵀG, X_q)`; and (second conjunct) the factors the code actually concatenates,
`terms1 = lhs_solves = M_q⁻ᵀLᵀ`, `terms2 = (w_q X_q) Gᵀ`, pair to the same bilinear form; (third) the inv_quad block
`(S, −S·diag g)`, `S = A⁻¹Lᵀ`, pairs to `−Σ_i g_i s_iᵀ dA s_i` (cf. `invQuad_backward`). -/
theorem sqrtInvMatmul_backward_lhs {Q n c l : Nat} (v : α) (w s : Fin Q → α) (A dA : Matrix (Fin n) (Fin n) α)
    (Minv : Fin Q → Matrix (Fin n) (Fin n) α) (X dX : Fin Q → Matrix (Fin n) (Fin c) α) (B dB : Matrix (Fin n) (Fin c) α)
    (L dL : Matrix (Fin l) (Fin n) α) (G : Matrix (Fin l) (Fin c) α) (S : Matrix (Fin n) (Fin l) α) (g : Fin l → α)
    (hinv : ∀ q, Minv q * (v • A + s q • 1) = 1) (h0 : ∀ q, (v • A + s q • 1) * X q = B)
    (h1 : ∀ q, (v • A + s q • 1) * dX q + (v • dA) * X q = dB) :
    Matrix.trace (Gᵀ * (dL * (∑ q, w q • X q) + L * ∑ q, w q • dX q))
      = Matrix.trace ((G * (∑ q, w q • X q)ᵀ)ᵀ * dL)
        + (Matrix.trace ((∑ q, w q • ((Minv q)ᵀ * (Lᵀ * G)))ᵀ * dB)
            - v * ∑ q, bilS dA (w q • ((Minv q)ᵀ * (Lᵀ * G))) (X q))
    ∧ (∀ q, bilS dA (w q • ((Minv q)ᵀ * (Lᵀ * G))) (X q) = bilS dA ((Minv q)ᵀ * Lᵀ) ((w q • X q) * Gᵀ))
    ∧ bilS dA S (-(S * Matrix.diagonal g)) = - ∑ i, g i * (Sᵀ * dA * S) i i := by
  refine ⟨?_, fun q => ?_, ?_⟩
  · rw [trace_mul_pullback, sqrtInvMatmul_backward v w s A dA Minv X dX B dB (Lᵀ * G) hinv h0 h1]
  · rw [bilS_def, bilS_def]
    have e : ((Minv q)ᵀ * Lᵀ)ᵀ * dA * ((w q • X q) * Gᵀ) = w q • ((L * Minv q * dA * X q) * Gᵀ) := by
      simp only [Matrix.transpose_mul, Matrix.transpose_transpose, Matrix.smul_mul, Matrix.mul_smul, Matrix.mul_assoc]
    have e' : (w q • ((Minv q)ᵀ * (Lᵀ * G)))ᵀ * dA * X q = w q • (Gᵀ * (L * Minv q * dA * X q)) := by
      simp only [Matrix.transpose_smul, Matrix.transpose_mul, Matrix.transpose_transpose, Matrix.smul_mul, Matrix.mul_assoc]
    rw [e, e', Matrix.trace_smul, Matrix.trace_smul, Matrix.trace_mul_comm]
  · rw [bilS_def, Matrix.mul_neg, Matrix.trace_neg, ← Matrix.mul_assoc]
    simp only [Matrix.trace, Matrix.diag_apply, Matrix.mul_diagonal]
    congr 1
    exact Finset.sum_congr rfl fun i _ => mul_comm _ _

/-- **`PivotedCholesky.backward`, differential of the re-computed factor with the pivots held fixed** (`F = [L; F₂]`, `L Lᵀ = K₁₁`,
`F₂ Lᵀ = K₂₁`, `L` and `dL` lower triangular — stated through `X = L⁻¹ dL`).  The first-order equations
`dL Lᵀ + L dLᵀ = dK₁₁`, `dF₂ Lᵀ + F₂ dLᵀ = dK₂₁` DETERMINE the differential: `X = Φ(L⁻¹ dK₁₁ L⁻ᵀ)` (strictly lower part, half the
diagonal — `2·X_ii = S_ii` —, zero above; i.e. `dL = L Φ(L⁻¹ dK₁₁ L⁻ᵀ)`, the Cholesky derivative torch implements) and
`dF₂ = (dK₂₁ − F₂ dLᵀ) L⁻ᵀ` (the derivative of the `solve_triangular` row block).  Together with
`pivotedCholesky_backward_recompute` this makes the derivative of the pivoted factor a consequence of the two defining equations;
what stays assumed is that torch's `cholesky` / `solve_triangular` backward implement these formulas. -/
theorem pivotedCholesky_backward_differential {m r : Nat} (L Linv dL dK11 : Matrix (Fin m) (Fin m) α)
    (F2 dF2 dK21 : Matrix (Fin r) (Fin m) α) (hinv : Linv * L = 1)
    (hX : ∀ i j, i < j → (Linv * dL) i j = 0)
    (h1 : dL * Lᵀ + L * dLᵀ = dK11) (h2 : dF2 * Lᵀ + F2 * dLᵀ = dK21) :
    (∀ i j, j < i → (Linv * dL) i j = (Linv * dK11 * Linvᵀ) i j)
    ∧ (∀ i, (Linv * dL) i i + (Linv * dL) i i = (Linv * dK11 * Linvᵀ) i i)
    ∧ (∀ i j, i < j → (Linv * dL) i j = 0)
    ∧ dF2 = (dK21 - F2 * dLᵀ) * Linvᵀ := by
  obtain ⟨a, b, c⟩ := lower_of_symm_sum (Linv * dL) (Linv * dK11 * Linvᵀ) hX (cholesky_first_order L Linv dL dK11 hinv h1)
  exact ⟨a, b, c, pivoted_lower_block L Linv dL F2 dF2 dK21 hinv h2⟩

/-- Hypotheses of `pivotedCholesky_backward_differential` are satisfiable non-trivially: `L = [[1,0],[1,1]]`, `dL = [[1,0],[2,3]]`. -/
example : (!![1, 0; -1, 1] : Matrix (Fin 2) (Fin 2) ℚ) * !![1, 0; 1, 1] = 1
    ∧ (((!![1, 0; -1, 1] : Matrix (Fin 2) (Fin 2) ℚ) * (!![1, 0; 2, 3] : Matrix (Fin 2) (Fin 2) ℚ)) :
        Matrix (Fin 2) (Fin 2) ℚ) 0 1 = 0 := by
  rw [Matrix.mul_fin_two, Matrix.mul_fin_two, Matrix.one_fin_two]
  norm_num

/-! ### Translator facts (`Generated/C07Funcs.lean`, regenerated from /repo's source by Python `ast` on every run) -/

open LinOp.Generated.C07 in
/-- **Positional gradient tuples are aligned with the forward's parameters** (source fact, all 9 Functions): every tuple-returning
`return` of `backward` starts with at least one fixed slot per named parameter of `forward` (`ctx` excluded), at most two more
(the tensors popped off `*args`: rhs / left factor), exactly as many when there is no `*args`; the leading literal `None`s
(non-differentiable arguments: `representation_tree`, flags, sizes) are at least one and never more than the named parameters. -/
theorem backward_tuple_covers_forward_params :
    ∀ f ∈ funcs, f.bwdLeading ≠ [] ∧ f.bwdLeadingNone ≠ []
      ∧ (∀ k ∈ f.bwdLeading, f.fwdFixed ≤ k ∧ k ≤ f.fwdFixed + 2 ∧ (f.fwdVarargs = false → k = f.fwdFixed))
      ∧ (∀ z ∈ f.bwdLeadingNone, 1 ≤ z ∧ z ≤ f.fwdFixed) := by
  decide +kernel

open LinOp.Generated.C07 in
/-- The exact layout the backward-formula theorems assume: (name, named forward parameters, fixed leading slots per return, leading
`None`s) — Matmul `(None, rhs_grad, *args)`, Solve `(None, None, [left,] rhs, *args)`, InvQuad `(None, rhs, *args)`, InvQuadLogdet
`7 × None (+ rhs)`, RootDecomposition `9 × None`, Diagonalization `6 × None`, PivotedCholesky `3 × None`, SqrtInvMatmul
`(None, rhs, lhs, *args)`, DSMM `(None, dense)`. -/
theorem backward_tuple_layout :
    funcs.map (fun f => (f.name, f.fwdFixed, f.bwdLeading, f.bwdLeadingNone))
      = [("Matmul", 2, [2], [1]), ("Solve", 2, [3, 4], [2]), ("InvQuad", 1, [2], [1]), ("InvQuadLogdet", 7, [7, 8], [7]),
         ("RootDecomposition", 9, [9], [9]), ("Diagonalization", 6, [6], [6]), ("PivotedCholesky", 3, [3], [3]),
         ("SqrtInvMatmul", 3, [3], [1]), ("DSMM", 2, [2], [1])] :=
  rfl

open LinOp.Generated.C07 in
/-- **How each backward obtains its operator** (source fact): the forward stores `ctx._linear_op` under
`settings.memory_efficient.off()` exactly when the backward uses the keep-or-rebuild pattern modelled by `ctxOperator`; every
backward that calls `_bilinear_derivative` is in one of the three modelled modes (keep-or-rebuild, always rebuild = `ctxRebuilt`,
always keep `ctx.linear_op`), so `memoryEfficient_irrelevant_ctx` applies to all of them; `settings.skip_logdet_forward` is read
by `InvQuadLogdet.forward` only and by no backward (`invQuadLogdet_settings_irrelevant`). -/
theorem memoryEfficient_dispatch_table :
    ∀ f ∈ funcs, f.storesOp = f.keepOrRebuild
      ∧ (f.keepOrRebuild = true → f.rebuilds = false ∧ f.alwaysKeeps = false)
      ∧ (0 < f.bilinearCalls → (f.keepOrRebuild || f.rebuilds || f.alwaysKeeps) = true)
      ∧ f.skipBwd = false ∧ (f.skipFwd = true → f.name = "InvQuadLogdet") := by
  decide +kernel

open LinOp.Generated.C07 in
/-- **Every operator class's derivative code is the code the model mirrors** (source fact, all classes of
`linear_operator/operators`): the class providing `_bilinear_derivative` is either hand-written code with a model constructor
(`providerCtor`), one of the two providers outside the model, or the base-class default — and a class resolving to the default is
one of the listed classes modelled by the reverse sweep through its own `_matmul` (`defaultCtor`).  A new override, a removed one,
or a new operator class breaks this obligation. -/
theorem derivative_providers_modelled :
    ∀ cp ∈ providers,
      (cp.2 = "LinearOperator" ∧ cp.1 ∈ defaultCtor.map Prod.fst)
      ∨ (cp.2 ≠ "LinearOperator" ∧ (cp.2 ∈ providerCtor.map Prod.fst ∨ cp.2 ∈ providerUnmodelled)) := by
  decide +kernel

open LinOp.Generated.C07 in
/-- …and conversely every hand-written provider the model mirrors still exists in the source. -/
theorem derivative_providers_present :
    ∀ pc ∈ providerCtor, pc.1 ∈ providers.map Prod.snd := by
  decide +kernel

/-- The entry-point theorems quantify over every tree; a non-trivial instance (Kronecker under ConstantMul, 4 × 4). -/
example : Op 4 4 := .constMul (.kron (.toeplitz 2) (.root (.dense 2 1)))

/-- The hypotheses of `solveBackward_symmetrised` are satisfiable: `½ + ½ = 1` in ℚ, and a diagonal operator is symmetric
along every perturbation. -/
example : ((1 : ℚ) / 2) + 1 / 2 = 1 := by norm_num
example (θ δ : Param ℚ (.diag 3)) (i j : Fin 3) : dDenote (.diag 3) θ δ i j = dDenote (.diag 3) θ δ j i := by
  rw [dDenote_diag]
  by_cases h : i = j
  · subst h; rfl
  · have h' : ¬ j = i := fun e => h e.symm
    simp [h, h']

/-- Hypotheses of the backward-formula theorems are satisfiable (identity matrices; shift `2`, value `−1`). -/
example : (1 : Matrix (Fin 2) (Fin 2) ℚ) * (1 : Matrix (Fin 2) (Fin 2) ℚ)ᵀ = 1 := by simp
example : (1 : Matrix (Fin 2) (Fin 2) ℚ) * ((-1 : ℚ) • (1 : Matrix (Fin 2) (Fin 2) ℚ) + (2 : ℚ) • 1) = 1 := by
  rw [← add_smul]; norm_num
example : (1 : ℚ) • ((1 : Matrix (Fin 2) (Fin 2) ℚ) * (1 : Matrix (Fin 2) (Fin 2) ℚ)ᵀ) = 1 := by simp

/-- Hypotheses of `diagonalization_backward` are satisfiable: eigenvalues 1, 2 in ℚ with kernel `F = [[0, 1], [−1, 0]]`,
`U = 1`, `A = diag(1, 2)`; `x + x = 0 → x = 0` in ℚ. -/
example : ∀ i j : Fin 2, i ≠ j → (!![0, 1; -1, 0] : Matrix (Fin 2) (Fin 2) ℚ) i j * ((![1, 2] : Fin 2 → ℚ) j - ![1, 2] i) = 1 := by
  intro i j h
  match i, j, h with
  | 0, 0, h => exact absurd rfl h
  | 0, 1, _ => norm_num
  | 1, 0, _ => norm_num
  | 1, 1, h => exact absurd rfl h
example : ∀ x : ℚ, x + x = 0 → x = 0 := fun x h => by linarith
example : (Matrix.diagonal ![1, 2] : Matrix (Fin 2) (Fin 2) ℚ) * 1 = 1 * Matrix.diagonal ![1, 2] := by simp

/-- Kronecker product of three factors (right-nested), under a hand-written parent, with a Chol-type root and a Cat. -/
example : Op (2 * (3 * 2) + 4) 12 :=
  .catRows (.constMul (.kron (.dense 2 2) (.kron (.toeplitz 3) (.dense 2 2)))) (.transpose (.matmul (.dense 12 4) (.root (.dense 4 4))))

/-- A non-trivial instance of the main theorem's quantifier: a depth-4 nesting through every kind of step. -/
example : Op 3 3 := .constMul (.matmul (.sum (.toeplitz 3) (.dense 3 3))
    (.sumBatch 2 (.mul (.blockDiag 3 (.diag 1)) (.masked (fun i => i) (fun j => j) (.dense 3 3)))))

end LinOp.C07
