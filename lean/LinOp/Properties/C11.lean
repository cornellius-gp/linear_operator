import LinOp.C11.ProofsKrylov
import LinOp.C11.ProofsCiq
import LinOp.C11.ProofsRot
import Mathlib.Algebra.BigOperators.Fin
import Mathlib.Analysis.Real.Sqrt
import LinOp.Generated.C11Consts
/-!
C11 — MINRES solves all shifted systems; contour quadrature gives the matrix root.  Property theorems only.

The model (`LinOp/C11/Model.lean`) follows `minres`, `_jit_minres_updates`, the plumbing of `contour_integral_quad`
and `SqrtInvMatmul.forward` statement by statement; scalars are an arbitrary field, `sqrt` and `<` are parameters.

Global statements (section `minres_global`, `minres_exact`): the model's `minres` output is the iterated loop body
(`minres_output_is_track`); residual recurrence, `‖r_j‖ = |scale_prev_j| = β₀|s_1⋯s_j|`, monotonicity, QR identity in column
form, optimality over the Krylov space (`minres_optimal_over_krylov`; Lanczos orthonormality proved for a symmetric closure, with or
without a symmetric PSD preconditioner, while the clamp is inactive), the eps-perturbed breakdown statement (`minres_exact_at_dim_eps`).
CIQ: the matrix statement is reduced to the scalar quadrature rule (`ciq_reduction`, `sqrt_inv_matmul_twice_is_solve`).

Stated but NOT proved (checked numerically on the implementation only, see `harness/checks/c11.py`):
* quadrature accuracy `Σ_q w_q / (s_q − λ) ≈ λ^{-1/2}` (Hale–Higham–Trefethen; needs Jacobi elliptic functions);
* with a preconditioner, the identification of the span of the search vectors with the Krylov space of `M⁻¹A` (optimality
  over that span in the `M⁻¹`-norm IS proved: `minres_optimal_preconditioned`); floating point.
-/
namespace LinOp.C11
open Generated.C11

/-! ### generated facts -/

/-- The literals of the source are the documented ones (every 10th step, two extra iterations, `n + 1`,
`value = -1` in CIQ, 15 quadrature nodes, tolerance 1e-4, eps 1e-25, zero threshold 1e-10). -/
theorem generated_literals :
    checkEvery = 10 ∧ extraIters = 2 ∧ sizeSlack = 1 ∧ literalsFound = true ∧ ciqValue = -1 ∧
    numContourQuadrature = 15 ∧ maxLanczosIter = 20 ∧ minresTolerance = 1 / 10000 ∧
    eps = 1 / 10000000000000000000000000 ∧ zeroThresh = 1 / 10000000000 ∧ shiftOffset = 0 := by
  decide +kernel

/-- `minres.py`, `contour_integral_quad.py` and `_sqrt_inv_matmul.py` keep no module-level mutable state and no memoisation
(no module-level statement other than imports / definitions, no caching decorator, no `global`, no attribute store on a
module-level function, no mutable default argument): a call cannot depend on earlier calls in the process — the model's
`ciq` / `minres` are functions of their arguments only. -/
theorem no_module_state : moduleState = [] := rfl

/-- The kernel is called with its own parameter names in order (no swapped buffer at the call site). -/
theorem kernel_call_aligned : kernelCallArgs = kernelParams := rfl

/-- The statements of `_jit_minres_updates` are the ones `rotTerms` / `givensStep` mirror. -/
theorem kernel_statements_mirrored :
    kernel = ["torch.mul(sin_prev2, beta_prev, out=subsub_diag_term)",
      "torch.mul(cos_prev2, beta_prev, out=sub_diag_term)",
      "torch.add(alpha_curr, shifts, out=alpha_shifted_curr)",
      "torch.mul(alpha_shifted_curr, cos_prev1, out=diag_term).addcmul_(sin_prev1, sub_diag_term, value=-1)",
      "sub_diag_term.mul_(cos_prev1).addcmul_(sin_prev1, alpha_shifted_curr)",
      "torch.mul(diag_term, diag_term, out=radius_curr).addcmul_(beta_curr, beta_curr).sqrt_()",
      "cos_curr = torch.div(diag_term, radius_curr, out=cos_curr)",
      "sin_curr = torch.div(beta_curr, radius_curr, out=sin_curr)",
      "diag_term.mul_(cos_curr).addcmul_(sin_curr, beta_curr)",
      "torch.mul(scale_prev, sin_curr, out=scale_curr).mul_(-1)",
      "scale_prev.mul_(cos_curr)",
      "torch.addcmul(qvec_prev1, sub_diag_term, search_prev1, value=-1, out=search_curr)",
      "search_curr.addcmul_(subsub_diag_term, search_prev2, value=-1)",
      "search_curr.div_(diag_term)",
      "torch.mul(search_curr, scale_prev, out=search_update)",
      "solution.add_(search_update)"] := rfl

/-- The Lanczos part of the loop body and the convergence test are the ones `lanczosStep` / `iterate` mirror. -/
theorem loop_statements_mirrored :
    (loopBody.take 12 = ["prod = mm_(qvec_prev1)", "if value is not None: prod.mul_(value)",
      "torch.mul(prod, qvec_prev1, out=tmpvec)", "torch.sum(tmpvec, -2, keepdim=True, out=alpha_curr)",
      "zvec_curr = prod.addcmul_(alpha_curr, zvec_prev1, value=-1).addcmul_(beta_prev, zvec_prev2, value=-1)",
      "qvec_curr = preconditioner(zvec_curr)", "torch.mul(zvec_curr, qvec_curr, out=tmpvec)",
      "torch.sum(tmpvec, -2, keepdim=True, out=beta_curr)", "beta_curr.sqrt_()", "beta_curr.clamp_min_(eps)",
      "zvec_curr.div_(beta_curr)", "qvec_curr.div_(beta_curr)"]) ∧
    loopBody.length = 13 ∧ loopIter = "range(max_iter + 2)" ∧ checkTest = "(i + 1) % 10 == 0" ∧
    checkBody = ["torch.norm(search_update, dim=-2, out=search_update_norm)",
      "torch.norm(solution, dim=-2, out=solution_norm)",
      "conv = search_update_norm.div_(solution_norm).mean().item()",
      "if conv < settings.minres_tolerance.value(): break"] ∧
    afterLoop = ["solution.masked_fill_(rhs_is_zero, 0)",
      "if squeeze: solution = solution.squeeze(-1) rhs = rhs.squeeze(-1) rhs_norm = rhs_norm.squeeze(-1)",
      "if shifts.numel() == 1: solution = solution.squeeze(0)", "return solution.mul_(rhs_norm)"] :=
  ⟨rfl, rfl, rfl, rfl, rfl, rfl⟩

/-- The CIQ call of MINRES and the forward pass of `SqrtInvMatmul` are the ones `ciq` / `sqrtInvMatmulLhs` mirror. -/
theorem ciq_statements_mirrored :
    ciqMinresCall = "minres(lambda v: linear_op._matmul(v), rhs, value=-1, shifts=shifts, preconditioner=preconditioner)" ∧
    ciqBody.drop (ciqBody.length - 5) = ["with torch.no_grad(): solves = minres(lambda v: linear_op._matmul(v), rhs, value=-1, shifts=shifts, preconditioner=preconditioner)",
      "no_shift_solves = solves[0]", "solves = solves[1:]", "if not inverse: solves = linear_op._matmul(solves)",
      "return (solves, weights, no_shift_solves, shifts)"] ∧
    simForward.length = 5 ∧ simForward.getLast? = some "return (sqrt_inv_matmul_res, inv_quad_res)" :=
  ⟨rfl, rfl, rfl, rfl⟩

/-! ### buffer rotation -/

/-- Every assignment of the rotation block that recycles in-place buffers is a permutation of its names. -/
theorem rotation_is_permutation : rotPerm.all TupleAssign.isPerm = true ∧ rotPerm.length = 5 ∧
    rotShift = [{ lhs := ["zvec_prev2", "zvec_prev1"], rhs := ["zvec_prev1", "prod"] },
                { lhs := ["qvec_prev1"], rhs := ["qvec_curr"] }] := by decide +kernel

/-- **`buffer_rotation_no_alias`** — after any number `k` of loop iterations, no two of the names
`beta_*`, `cos_*`, `sin_*`, `search_*`, `scale_*` (the buffers written through `out=` by the kernel) denote the same
buffer.  (`zvec_*`/`qvec_*` are shifted, not permuted: `prod` and `qvec_curr` are freshly allocated in every iteration.)
Proved for the rotation block *extracted from the source*: every assignment in it permutes its names
(`rotation_is_permutation`), hence the buffers of the thirteen names (`TupleAssign.src_perm`, `TupleAssign.noAlias_apply`), so
they stay pairwise different. -/
theorem buffer_rotation_no_alias (k : Nat) : NoAlias (rotateN rotPerm k (env0 rotPermNames)) :=
  (rotInv_rotateN rotPermNames_nodup (rotPerm_permutes rotation_is_permutation.1) k).2

/-- The buffer written as `*_curr` in an iteration is the one that was `*_prev2` (three-way groups) resp.
`*_prev` (two-way groups) in the previous iteration — the oldest, dead one; and `prev1`/`prev2` shift down. -/
def RecyclesOldest (e : Env) : Prop :=
  let e' := applyAll rotPerm e
  e'.get "cos_curr" = e.get "cos_prev2" ∧ e'.get "sin_curr" = e.get "sin_prev2" ∧
  e'.get "search_curr" = e.get "search_prev2" ∧ e'.get "scale_curr" = e.get "scale_prev" ∧
  e'.get "beta_curr" = e.get "beta_prev" ∧ e'.get "cos_prev1" = e.get "cos_curr" ∧
  e'.get "search_prev1" = e.get "search_curr" ∧ e'.get "search_prev2" = e.get "search_prev1"

instance (e : Env) : Decidable (RecyclesOldest e) := by unfold RecyclesOldest; infer_instance

theorem rotation_recycles_oldest (k : Nat) : RecyclesOldest (rotateN rotPerm k (env0 rotPermNames)) := by
  have hp := rotPerm_permutes rotation_is_permutation.1
  have h := rotInv_rotateN rotPermNames_nodup hp k
  -- after the block a name denotes the old buffer of its source name, tabulated in `rotPerm_src`
  have hg : ∀ {x y}, x ∈ rotPermNames ∧ srcAll rotPerm x = y →
      (applyAll rotPerm (rotateN rotPerm k (env0 rotPermNames))).get x = (rotateN rotPerm k (env0 rotPermNames)).get y :=
    fun hxy => hxy.2 ▸ h.get_applyAll rotPermNames_nodup hp hxy.1
  obtain ⟨h1, h2, h3, h4, h5, h6, h7, h8⟩ := rotPerm_src
  exact ⟨hg h1, hg h2, hg h3, hg h4, hg h5, hg h6, hg h7, hg h8⟩

/-- **`zvec_*` / `qvec_*` never alias** (the names that the rotation block *shifts*; complements `buffer_rotation_no_alias`).
With `prod` and `qvec_curr` freshly allocated in every iteration (they are results of the closure calls
`mm_(qvec_prev1)` / `preconditioner(zvec_curr)`, recorded by `loop_statements_mirrored`; `zvec_curr` is `prod` updated in
place), after any number `k` of iterations of the GENERATED shift assignments the three live names `zvec_prev2`, `zvec_prev1`,
`qvec_prev1` denote pairwise different buffers, all of them older than the next allocation — so the in-place updates
`prod.addcmul_`, `zvec_curr.div_`, `qvec_curr.div_` of the next iteration never write into a live Lanczos vector.
(Assumes the closures return new tensors; a preconditioner returning its argument would alias `qvec_curr` with `zvec_curr`.) -/
theorem lanczos_shift_no_alias (k : Nat) :
    let st := allocN rotShift shiftFresh k (env0 shiftNames, shiftNames.length)
    st.1.get "zvec_prev2" ≠ st.1.get "zvec_prev1" ∧ st.1.get "zvec_prev1" ≠ st.1.get "qvec_prev1" ∧
    st.1.get "zvec_prev2" ≠ st.1.get "qvec_prev1" ∧
    st.1.get "zvec_prev2" < st.2 ∧ st.1.get "zvec_prev1" < st.2 ∧ st.1.get "qvec_prev1" < st.2 :=
  (shiftOK_allocN k).get

/-! ### shapes -/

/-- **`minres_shift_dim`** — with `shifts=None` the result has the shape of the (broadcast) right-hand side; a vector
right-hand side loses its column dimension. -/
theorem minres_shape_no_shifts (prodShape : List Nat) (vec : Bool) (h : prodShape ≠ []) :
    outShape none prodShape vec = if vec then prodShape.dropLast else prodShape := by
  have hrep : ∀ m, prodNat (List.replicate m 1) = 1 := fun m => by
    induction m with
    | zero => rfl
    | succ m ih => rwa [List.replicate_succ, prodNat, List.foldl_cons, Nat.mul_one]
  cases prodShape with
  | nil => exact absurd rfl h
  | cons a l =>
    -- the padded `shifts` is all ones: `solution` has the shape `1 :: a :: l` and the leading `1` is squeezed
    have h1 : prodNat (padShifts [] (a :: l).length) = 1 := hrep _
    simp only [outShape, Option.getD_none, h1, if_true]
    cases vec <;> rfl

/-- **`minres_shift_dim`** — with a shift tensor of shape `q :: rest` the result has the leading dimension `q` exactly
when the shift tensor has more than one element (`numel` of the padded tensor ≠ 1); the remaining dimensions are those of
the right-hand side (minus the column dimension for a vector). -/
theorem minres_shift_dim (q : Nat) (rest prodShape : List Nat) (vec : Bool) (h : prodShape ≠ []) :
    outShape (some (q :: rest)) prodShape vec =
      (if prodNat (padShifts (q :: rest) prodShape.length) = 1 then [] else [q]) ++
        (if vec then prodShape.dropLast else prodShape) := by
  cases prodShape with
  | nil => exact absurd rfl h
  | cons a l =>
    -- the padded shift shape starts with `q`, so `solution` has the shape `q :: a :: l` before the squeezes
    have hsh : (padShifts (q :: rest) (a :: l).length).take 1 = [q] := rfl
    simp only [outShape, Option.getD_some, hsh]
    cases vec <;> split <;> rfl

/-! ### Givens rotations and the search recurrence -/

section field
variable {α : Type} [Field α]

/-- **`givens_qr_invariant`** (one step, any shift, any history): provided the radius is a genuine square root of
`diag² + β²` and non-zero, the new rotation is orthogonal (`c² + s² = 1`), annihilates the sub-diagonal entry `β_curr`
(`−s·diag + c·β = 0`), and the rotated diagonal entry `diag_term` equals the radius. -/
theorem givens_qr_invariant (N : NumOps α) (shift alpha bp bc : α) {n : Nat} (g : Gv α n)
    (hr : (rotTerms N shift alpha bp bc g).radius * (rotTerms N shift alpha bp bc g).radius =
          (rotTerms N shift alpha bp bc g).diag0 * (rotTerms N shift alpha bp bc g).diag0 + bc * bc)
    (hne : (rotTerms N shift alpha bp bc g).radius ≠ 0) :
    let r := rotTerms N shift alpha bp bc g
    r.cosc * r.cosc + r.sinc * r.sinc = 1 ∧ -r.sinc * r.diag0 + r.cosc * bc = 0 ∧ r.diag = r.radius :=
  rotTerms_orthogonal N shift alpha bp bc g hr hne

/-- The three tracked terms are the column `(0, β_prev, α + s, β_curr)` of the shifted tridiagonal matrix after the
rotations from two steps ago and one step ago: `(subsub, sub₀) = G(c₂,s₂)(0, β_prev)`, `(sub, diag₀) = G(c₁,s₁)(sub₀, α+s)`
with `G(c,s)(x,y) = (c x + s y, −s x + c y)`.  The shift enters only through the diagonal entry `α + s`. -/
theorem givens_column (N : NumOps α) (shift alpha bp bc : α) {n : Nat} (g : Gv α n) :
    let r := rotTerms N shift alpha bp bc g
    r.subsub = g.cos2 * 0 + g.sin2 * bp ∧
    r.sub = g.cos1 * (-g.sin2 * 0 + g.cos2 * bp) + g.sin1 * (alpha + shift) ∧
    r.diag0 = -g.sin1 * (-g.sin2 * 0 + g.cos2 * bp) + g.cos1 * (alpha + shift) := by
  intro r
  refine ⟨?_, ?_, ?_⟩ <;> simp only [r, rotTerms] <;> ring

/-- **Search recurrence** (`D R = Q` column by column): the new search vector `d_j` satisfies
`diag·d_j + sub·d_{j−1} + subsub·d_{j−2} = q_j`, i.e. the search vectors are the columns of `Q R⁻¹`; the solution is
advanced by `d_j` times the rotated right-hand-side entry, and the names are rotated correctly
(`prev2 := prev1`, `prev1 := curr`). -/
theorem search_recurrence (N : NumOps α) (shift alpha bp bc : α) {n : Nat} (q1 : Vec α n) (g : Gv α n)
    (hd : (rotTerms N shift alpha bp bc g).diag ≠ 0) (i : Fin n) :
    let r := rotTerms N shift alpha bp bc g
    let g' := givensStep N shift q1 alpha bp bc g
    r.diag * g'.s1 i + r.sub * g.s1 i + r.subsub * g.s2 i = q1 i ∧
    g'.s2 = g.s1 ∧ g'.cos2 = g.cos1 ∧ g'.sin2 = g.sin1 ∧ g'.cos1 = r.cosc ∧ g'.sin1 = r.sinc ∧
    g'.sol i = g.sol i + g'.s1 i * (g.scalePrev * r.cosc) ∧ g'.scalePrev = -(g.scalePrev * r.sinc) := by
  intro r g'
  refine ⟨?_, rfl, rfl, rfl, rfl, rfl, ?_, mul_neg_one _⟩
  · rw [show g'.s1 = _ from givensStep_s1 .., Pi.smul_apply, smul_eq_mul, mul_inv_cancel_left₀ hd]
    show q1 i - r.sub * g.s1 i - r.subsub * g.s2 i + r.sub * g.s1 i + r.subsub * g.s2 i = q1 i
    ring
  · rw [show g'.sol = _ from givensStep_sol ..]
    exact congrArg _ (mul_comm _ _)

/-! ### Lanczos part: the shift enters only on the diagonal -/

/-- **`minres_lanczos_part`** — one Lanczos step of the *shifted pencil* `K + σ·P` (where `P` inverts the preconditioner
on the current vector: `P q = z`, and `⟨z, q⟩ = 1`) produces the same vectors and the same `β` as the step for `K`, and
`α + σ` instead of `α`: this is why one Lanczos recurrence serves all shifts (`alpha_shifted_curr = alpha_curr + shifts`).
Without preconditioner `P = id` and the pencil is `K + σI`; **with** a preconditioner the systems solved are
`(K + σP)x = b`, not `(K + σI)x = b` (finding F1). -/
theorem minres_lanczos_part (N : NumOps α) (P : Params α) {n : Nat} (s : Sys α n) (l : Lz α n) (σ : α)
    (pinv : Vec α n → Vec α n) (hv : P.value = none) (hq : pinv l.q1 = l.z1) (hnorm : dot l.z1 l.q1 = 1) :
    let sσ : Sys α n := { s with amul := fun v i => s.amul v i + σ * pinv v i }
    (lanczosStep N P sσ l).alpha = (lanczosStep N P s l).alpha + σ ∧
    (lanczosStep N P sσ l).zc = (lanczosStep N P s l).zc ∧
    (lanczosStep N P sσ l).qc = (lanczosStep N P s l).qc ∧
    (lanczosStep N P sσ l).betaCurr = (lanczosStep N P s l).betaCurr := by
  intro sσ
  have ha : (lanczosStep N P sσ l).alpha = (lanczosStep N P s l).alpha + σ := by
    simp only [lanczosStep, applyA, hv, mem_eq, sσ, hq]
    rw [dot_add_smul_left, hnorm, mul_one]
  -- hence `zvec_curr` before the normalisation is the same vector, and so are `beta_curr` and both normalised vectors
  have hu : unnormZ N P sσ l = unnormZ N P s l := by
    funext i
    show applyA P sσ l.q1 i - (lanczosStep N P sσ l).alpha * l.z1 i - _ = applyA P s l.q1 i - _ - _
    rw [ha]
    simp only [applyA, hv, sσ, hq]
    ring
  have hb : (lanczosStep N P sσ l).betaCurr = (lanczosStep N P s l).betaCurr := by
    rw [betaCurr_eq_unnorm, betaCurr_eq_unnorm, hu]
  exact ⟨ha, funext fun i => by rw [zc_eq_unnorm, zc_eq_unnorm, hu, hb],
    funext fun i => by rw [qc_eq_unnorm, qc_eq_unnorm, hu, hb], hb⟩

/-! ### zero right-hand side, scaling -/

/-- **`minres_zero_rhs`** — a right-hand-side column whose norm is below the threshold (in particular a zero column:
`sqrt 0 = 0 < 1e-10`) yields the zero solution for every shift, whatever the iteration produced (the masked fill comes
after the loop). -/
theorem minres_zero_rhs (N : NumOps α) (P : Params α) {n : Nat} (s : Sys α n) (c : ColSt α n)
    (hz : N.lt (norm2 N s.rhs) P.zeroThresh = true) :
    ∀ v ∈ finishCol (prep N P s) c, v = fun _ => 0 := by
  intro v hv
  simp only [finishCol, prep, hz, List.mem_map, mem_eq] at hv
  obtain ⟨g, _, rfl⟩ := hv
  funext i; simp

/-- The zero vector is below the threshold as soon as `sqrt 0 = 0` and `0 < threshold`. -/
theorem zero_rhs_detected (N : NumOps α) (P : Params α) {n : Nat} (s : Sys α n) (h0 : s.rhs = fun _ => 0)
    (hs : N.sqrt 0 = 0) (hlt : N.lt 0 P.zeroThresh = true) : N.lt (norm2 N s.rhs) P.zeroThresh = true := by
  rw [norm2, h0, dot_zero_left, hs, hlt]

/-- The loop never reads the right-hand side: the iteration only sees the closures and the shifts
(`colStep` of a system with another rhs is the same function). -/
theorem colStep_rhs_irrelevant (N : NumOps α) (P : Params α) {n : Nat} (s : Sys α n) (r' : Vec α n) (c : ColSt α n) :
    colStep N P { s with rhs := r' } c = colStep N P s c := rfl

/-- **`minres_linear_in_rhs`** (scaling through the normalisation) — for `c > 0` (as a field element with
`sqrt (c² t) = c sqrt t`) and columns above the zero threshold, the normalised right-hand side handed to the iteration is
the same for `b` and `c·b`, and the final un-normalisation factor is multiplied by `c`: hence `x(c·b) = c·x(b)`,
for every shift and every iteration count. -/
theorem minres_linear_in_rhs (N : NumOps α) (P : Params α) {n : Nat} (s : Sys α n) (c : α) (hc : c ≠ 0)
    (hsq : N.sqrt (dot (fun i => c * s.rhs i) (fun i => c * s.rhs i)) = c * N.sqrt (dot s.rhs s.rhs))
    (hnz : N.lt (norm2 N s.rhs) P.zeroThresh = false)
    (hnz' : N.lt (c * norm2 N s.rhs) P.zeroThresh = false) (hn : norm2 N s.rhs ≠ 0) :
    let s' : Sys α n := { s with rhs := fun i => c * s.rhs i }
    (prep N P s').b = (prep N P s).b ∧ (prep N P s').nrm = c * (prep N P s).nrm ∧
    ∀ st : ColSt α n, finishCol (prep N P s') st = (finishCol (prep N P s) st).map fun v => fun i => c * v i := by
  intro s'
  have hn' : norm2 N s'.rhs = c * norm2 N s.rhs := hsq
  rw [prep_of_nonzero N P s hnz, prep_of_nonzero N P s' (hn' ▸ hnz'), hn']
  refine ⟨funext fun i => mul_div_mul_left _ _ hc, rfl, fun st => ?_⟩
  simp only [finishCol, mem_eq, Bool.false_eq_true, if_false, List.map_map]
  exact List.map_congr_left fun g _ => funext fun i => by simp only [Function.comp]; ring

/-! ### contour-integral plumbing -/

/-- **`ciq_plumbing`** — given an exact shifted solver (`solver shifts b = shifts.map (R · b)` with `R s b` the
solution of `(−K + sI)x = b`), `contour_integral_quad` returns the solve for the first shift (`0 − shift_offset`) as
`no_shift_solves`, and for the remaining shifts `w_q² − shift_offset` the solves `R s_q b` (`inverse=True`) resp.
`K·R s_q b` (`inverse=False`), paired with the weights `cn·dn·constant` in the same order; hence
`Σ_q w_q·solves_q = Σ_q w_q (−K + s_q I)⁻¹ b` resp. `K·` that. -/
theorem ciq_plumbing (N : NumOps α) {n : Nat} (R : α → Vec α n → Vec α n) (kmul : Vec α n → Vec α n) (e : Ellip α)
    (off : α) (inverse : Bool) (b : Vec α n) :
    let o := ciq N (fun shifts b => shifts.map fun s => R s b) kmul e off inverse b
    o.noShift = R (0 - off) b ∧
    o.solves = (ellipWPow2 N e).map (fun w => if inverse then R (w - off) b else kmul (R (w - off) b)) ∧
    o.weights = ciqWeights N e ∧ o.shifts = (0 - off) :: (ellipWPow2 N e).map (· - off) := by
  intro o
  refine ⟨rfl, ?_, rfl, rfl⟩
  cases inverse <;> simp only [o, ciq, ciqShifts, List.map_cons, List.drop_one, List.tail_cons, List.map_map,
    Function.comp_def, if_true, Bool.false_eq_true, if_false]

/-- **`sqrtInvMatmul_lhs`** — in the left-factor variant the `inv_quad` output is `diag(L K⁻¹ Lᵀ)`: if the unshifted
solve returned by CIQ for a column `l` is `−K⁻¹ l` (it solves `(−K)x = l`), then entry `i` of `inv_quad_res` is
`⟨K⁻¹ lᵢ, lᵢ⟩` for the `i`-th row `lᵢ` of `lhs` — the rows are found at the right place of the concatenated
`[rhs, lhsᵀ]` and the sign is undone. -/
theorem sqrtInvMatmul_lhs {n : Nat} (ciqCol : Vec α n → CiqOut α n) (kinv : Vec α n → Vec α n)
    (hsolve : ∀ l, (ciqCol l).noShift = fun i => -(kinv l i)) (rhsCols lhsRows : List (Vec α n)) :
    (sqrtInvMatmulLhs ciqCol rhsCols lhsRows).2 = lhsRows.map fun l => dot (kinv l) l := by
  simp only [sqrtInvMatmulLhs, List.length_append, Nat.add_sub_cancel, List.map_append, List.drop_left',
    List.length_map]
  rw [List.zipWith_map_right]
  have hf : (fun (a b : Vec α n) => dot (ciqCol b).noShift a * (-(1 : α))) = fun a b => dot (kinv b) a := by
    funext a b
    rw [hsolve, dot_neg_left]; ring
  rw [hf, List.zipWith_self]

/-- The `sqrt_inv_matmul_res` output uses exactly the first `rhs.size(-1)` columns of the concatenation. -/
theorem sqrtInvMatmul_lhs_result {n : Nat} (ciqCol : Vec α n → CiqOut α n) (rhsCols lhsRows : List (Vec α n)) :
    (sqrtInvMatmulLhs ciqCol rhsCols lhsRows).1 =
      lhsRows.map fun l => (sqrtInvMatmul ciqCol rhsCols).map fun c => dot l c := by
  simp [sqrtInvMatmulLhs, sqrtInvMatmul, List.map_append, List.take_left']

end field

/-! ### MINRES: global statements about the whole iteration

`trk N P s σ (track0 N s b) j` is the state `(Lanczos variables, Givens/solution variables)` of the pair (column `s`, shift
`σ`) after `j` executions of the loop body, started from the normalised right-hand side `b` — by `minres_output_is_track`
this is what the model's `minres` returns (`j = iters`).  `A` is the effective operator `v ↦ value · matmul_closure(v)`,
`pinv` inverts the preconditioner (`LinearMap.id` without one): the systems are `(A + σ·pinv) x = b`. -/

section minres_global
variable {α : Type} [Field α] {n : Nat}

/-- **Output = iterated loop body.**  For column `m` (system `s`) and shift number `k` (value `σ`) the model's `minres`
returns `solution` of the track `(s, σ)` after `iters ≤ min(max_iter, n+1)+2` iterations — whatever the convergence test
decided, all columns and shifts stop at the same `iters` — masked for a zero column and multiplied by `rhs_norm`. -/
theorem minres_output_is_track (N : NumOps α) (P : Params α) (sys : List (Sys α n)) (m k : Nat) (s : Sys α n) (σ : α)
    (hs : sys[m]? = some s) (hσ : s.shifts[k]? = some σ) :
    (minres N P sys).iters ≤ nIter P n ∧
    ∃ col, (minres N P sys).x[m]? = some col ∧
      col[k]? = some (fun i => (if (prep N P s).isZero then 0
        else (trk N P s σ (track0 N s (prep N P s).b) (minres N P sys).iters).2.sol i) * (prep N P s).nrm) :=
  minres_output_track N P sys m k s σ hs hσ

/-- The `scales` output of the model (printed by the driver, compared by the harness with the true residual norm of the REAL
implementation's result) is `scale_prev · rhs_norm` of the track after `iters` iterations. -/
theorem minres_output_scale_is_track (N : NumOps α) (P : Params α) (sys : List (Sys α n)) (m k : Nat) (s : Sys α n)
    (σ : α) (hs : sys[m]? = some s) (hσ : s.shifts[k]? = some σ) :
    ∃ col, (minres N P sys).scales[m]? = some col ∧
      col[k]? = some ((trk N P s σ (track0 N s (prep N P s).b) (minres N P sys).iters).2.scalePrev * (prep N P s).nrm) :=
  minres_output_scale N P sys m k s σ hs hσ

/-- **Residual of the RETURNED solution for the ORIGINAL right-hand side.**  For a column above the zero threshold
(`rhs_norm ≠ 0`), the vector `x_out = solution · rhs_norm` returned by `minres` satisfies
`rhs − (A + σ·pinv) x_out = rhs_norm · (b̂ − (A + σ·pinv) x_j)` with `b̂ = rhs / rhs_norm` the normalised right-hand side the
iteration ran on: un-normalisation commutes with the residual.  With `minres_residual_norm` this gives
`‖rhs − (A+σI) x_out‖ = |scale_prev_j| · rhs_norm` — the `scales` output of the model that the harness compares with the
true residual norm of the real implementation's result. -/
theorem minres_returned_residual (N : NumOps α) (P : Params α) (s : Sys α n) (σ : α) (A pinv : Vec α n →ₗ[α] Vec α n)
    (hnz : (prep N P s).isZero = false) (hn : (prep N P s).nrm ≠ 0) (xj : Vec α n) (i : Fin n) :
    s.rhs i - (A (fun i => (if (prep N P s).isZero then 0 else xj i) * (prep N P s).nrm) i +
        σ * pinv (fun i => (if (prep N P s).isZero then 0 else xj i) * (prep N P s).nrm) i) =
      (prep N P s).nrm * ((prep N P s).b i - (A xj i + σ * pinv xj i)) := by
  have hx : (fun i => (if (prep N P s).isZero then 0 else xj i) * (prep N P s).nrm) = (prep N P s).nrm • xj := by
    funext k; simp only [hnz, Bool.false_eq_true, if_false, Pi.smul_apply, smul_eq_mul]; ring
  have hb : (prep N P s).b i = s.rhs i / (prep N P s).nrm := by simp only [prep, mem_eq]
  rw [hx, A.map_smul, pinv.map_smul, hb, mul_sub, mul_div_cancel₀ _ hn]
  show _ - ((prep N P s).nrm * A xj i + σ * ((prep N P s).nrm * pinv xj i)) = _
  ring

/-- **Residual recurrence (ghost-free, any preconditioner, clamped or not).**  As long as the steps are regular
(`beta_curr ≠ 0` after the clamp, `radius_curr` a genuine non-zero root — automatic in exact arithmetic, see
`minres_regular_of_exact`), the true residual `r_j = b − (A + σ·pinv) x_j` of the model's iterate obeys
`r_0 = b`, `r_{j+1} = s_{j+1}² r_j + (φ̄_{j+1} c_{j+1}) z_{j+2}` with `s, c` the Givens coefficients, `φ̄ = scale_prev` and
`z_{j+2}` the newest Lanczos vector.  No orthogonality is used: this is an algebraic identity of the recurrences. -/
theorem minres_residual_recurrence (N : NumOps α) (P : Params α) (s : Sys α n) (σ : α) (A pinv : Vec α n →ₗ[α] Vec α n)
    (hA : ∀ v, applyA P s v = A v) (hpre : ∀ v, pinv (s.pre v) = v) (b : Vec α n)
    (hb0 : (initLz N s b).betaPrev ≠ 0) (J : Nat) (hreg : Regular N P s σ (track0 N s b) J) (j : Nat) (hj : j + 1 ≤ J)
    (i : Fin n) :
    b i - (A (trk N P s σ (track0 N s b) 0).2.sol i + σ * pinv (trk N P s σ (track0 N s b) 0).2.sol i) = b i ∧
    b i - (A (trk N P s σ (track0 N s b) (j + 1)).2.sol i + σ * pinv (trk N P s σ (track0 N s b) (j + 1)).2.sol i) =
      (trk N P s σ (track0 N s b) (j + 1)).2.sin1 * (trk N P s σ (track0 N s b) (j + 1)).2.sin1 *
        (b i - (A (trk N P s σ (track0 N s b) j).2.sol i + σ * pinv (trk N P s σ (track0 N s b) j).2.sol i)) +
      (trk N P s σ (track0 N s b) (j + 1)).2.scalePrev * (trk N P s σ (track0 N s b) (j + 1)).2.cos1 *
        (trk N P s σ (track0 N s b) (j + 1)).1.z1 i := by
  constructor
  · have h0 : (trk N P s σ (track0 N s b) 0).2.sol = 0 := rfl
    rw [h0, A.map_zero, pinv.map_zero]; simp
  · have R : Run N P s σ A pinv b J := ⟨hA, hpre, hb0, hreg⟩
    rw [R.res_apply (j + 1) hj i, R.res_apply j (by omega) i, resDir_succ, scale_succ]
    simp only [Pi.add_apply, Pi.smul_apply, smul_eq_mul]
    ring

/-- **`minres_residual_norm`, scale part** (the code, no hypothesis): `scale_prev` after `j` iterations is
`(−1)^j · β₀ · s_1 s_2 ⋯ s_j` (`β₀ = beta_prev` before the loop). -/
theorem minres_scale_product (N : NumOps α) (P : Params α) (s : Sys α n) (σ : α) (b : Vec α n) (j : Nat) :
    (trk N P s σ (track0 N s b) j).2.scalePrev =
      (-1) ^ j * (initLz N s b).betaPrev * ∏ k ∈ Finset.range j, (trk N P s σ (track0 N s b) (k + 1)).2.sin1 :=
  scale_prod N P s σ (track0 N s b) j

/-- **`minres_residual_norm`** — without preconditioner (`pre = id`), if the Lanczos vectors `z_0 … z_J` produced by the
model are orthonormal (hypothesis `LanczosOrthonormal`: the exact-arithmetic Lanczos property, which needs a symmetric closure
and no clamping; discharged under those conditions by `lanczos_vectors_orthonormal`), then for every `j ≤ J` the squared norm of the true residual
`b − (A + σI) x_j` equals `scale_prev²`, i.e. `‖r_j‖ = β₀ |s_1 ⋯ s_j|` by `minres_scale_product`. -/
theorem minres_residual_norm (N : NumOps α) (P : Params α) (s : Sys α n) (σ : α) (A : Vec α n →ₗ[α] Vec α n)
    (hA : ∀ v, applyA P s v = A v) (hpre : ∀ v, s.pre v = v) (b : Vec α n)
    (hb0 : (initLz N s b).betaPrev ≠ 0) (J : Nat) (hreg : Regular N P s σ (track0 N s b) J)
    (horth : LanczosOrthonormal N P s σ (track0 N s b) J) (j : Nat) (hj : j ≤ J) :
    dot (fun i => b i - (A (trk N P s σ (track0 N s b) j).2.sol i + σ * (trk N P s σ (track0 N s b) j).2.sol i))
        (fun i => b i - (A (trk N P s σ (track0 N s b) j).2.sol i + σ * (trk N P s σ (track0 N s b) j).2.sol i)) =
      (trk N P s σ (track0 N s b) j).2.scalePrev * (trk N P s σ (track0 N s b) j).2.scalePrev :=
  (Run.lsqFrame (pinv := LinearMap.id) ⟨hA, hpre, hb0, hreg⟩ symForm_dot horth j hj).norm symForm_dot

/-- **`minres_residual_norm` with a preconditioner.**  Let the preconditioner closure be a symmetric linear map `Mi`
(`= M⁻¹`, with left inverse `pinv = M`), and let the Lanczos vectors be `M⁻¹`-orthonormal (`⟨z_a, M⁻¹ z_b⟩ = δ_ab`, i.e.
`⟨zvec_a, qvec_b⟩ = δ_ab`; hypothesis, discharged by `lanczos_vectors_orthonormal_preconditioned`).  Then the residual of the system that is actually solved — the pencil
`(A + σM) x = b`, see `minres_lanczos_part` and finding F1 — has squared `M⁻¹`-norm `scale_prev²` after every `j ≤ J`
regular iterations: `⟨r_j, M⁻¹ r_j⟩ = scale_prev_j²`. -/
theorem minres_residual_norm_preconditioned (N : NumOps α) (P : Params α) (s : Sys α n) (σ : α)
    (A pinv Mi : Vec α n →ₗ[α] Vec α n) (hA : ∀ v, applyA P s v = A v) (hpre : ∀ v, s.pre v = Mi v)
    (hinv : ∀ v, pinv (Mi v) = v) (hMsym : ∀ u v, dot u (Mi v) = dot (Mi u) v) (b : Vec α n)
    (hb0 : (initLz N s b).betaPrev ≠ 0) (J : Nat) (hreg : Regular N P s σ (track0 N s b) J)
    (horth : ∀ a c, a ≤ J → c ≤ J → dot (trk N P s σ (track0 N s b) a).1.z1
      (Mi (trk N P s σ (track0 N s b) c).1.z1) = if a = c then 1 else 0) (j : Nat) (hj : j ≤ J) :
    dot (fun i => b i - (A (trk N P s σ (track0 N s b) j).2.sol i + σ * pinv (trk N P s σ (track0 N s b) j).2.sol i))
        (Mi fun i => b i - (A (trk N P s σ (track0 N s b) j).2.sol i +
          σ * pinv (trk N P s σ (track0 N s b) j).2.sol i)) =
      (trk N P s σ (track0 N s b) j).2.scalePrev * (trk N P s σ (track0 N s b) j).2.scalePrev :=
  (Run.lsqFrame ⟨hA, fun v => by rw [hpre, hinv], hb0, hreg⟩ (symForm_map Mi hMsym) horth j hj).norm (symForm_map Mi hMsym)

/-- **MINRES as a QR least-squares solve (`x_j = Q_j R_j⁻¹ t_j`), vector form.**  Without preconditioner and with
orthonormal Lanczos vectors (hypothesis, see `minres_residual_norm`), after `j ≤ J` regular iterations there are vectors
`p_1 … p_j, m` (columns of `Z_{j+1} G_1ᵀ ⋯ G_jᵀ`) such that
* `p_1 … p_j, m` are orthonormal;
* `(A + σI) d_k = p_k` for the search vectors `d_k` (`search_curr` of iteration `k`) — and `D R = Q` column by column
  (`z_k = diag·d_{k+1} + sub·d_k + subsub·d_{k−1}` with the three terms of `_jit_minres_updates`), so that
  `(A + σI) Q_j = P_j R_j` is a QR factorisation with `R_j` upper triangular (three bands);
* `b = Σ_k τ_k p_k + φ̄_j m` with `τ_k = φ̄_{k−1} c_k` (i.e. `(t_j, φ̄_j) = G_j ⋯ G_1 β₀e₁`), and `x_j = Σ_k τ_k d_k = D_j t_j`.
Hence `x_j = Q_j R_j⁻¹ t_j` where `y_j = R_j⁻¹ t_j` solves `min ‖b − (A+σI) Q_j y‖ = min ‖β₀e₁ − T̄_j y‖`
(`minres_optimal` is that minimisation statement). -/
theorem minres_qr_identity (N : NumOps α) (P : Params α) (s : Sys α n) (σ : α) (A : Vec α n →ₗ[α] Vec α n)
    (hA : ∀ v, applyA P s v = A v) (hpre : ∀ v, s.pre v = v) (b : Vec α n)
    (hb0 : (initLz N s b).betaPrev ≠ 0) (J : Nat) (hreg : Regular N P s σ (track0 N s b) J)
    (horth : LanczosOrthonormal N P s σ (track0 N s b) J) (j : Nat) (hj : j ≤ J) :
    ∃ (p : Nat → Vec α n) (m : Vec α n),
      (∀ a c, 1 ≤ a → a ≤ c → c ≤ j → dot (p a) (p c) = if a = c then 1 else 0) ∧
      (∀ a, a ≤ j → dot (p a) m = 0) ∧ dot m m = 1 ∧
      (∀ k, k ≤ j → ∀ i, A (trk N P s σ (track0 N s b) k).2.s1 i + σ * (trk N P s σ (track0 N s b) k).2.s1 i = p k i) ∧
      (∀ i, b i - (A (trk N P s σ (track0 N s b) j).2.sol i + σ * (trk N P s σ (track0 N s b) j).2.sol i) =
        (trk N P s σ (track0 N s b) j).2.scalePrev * m i) ∧
      (trk N P s σ (track0 N s b) j).2.sol = ∑ k ∈ Finset.range j,
        ((trk N P s σ (track0 N s b) k).2.scalePrev * (trk N P s σ (track0 N s b) (k + 1)).2.cos1) •
          (trk N P s σ (track0 N s b) (k + 1)).2.s1 ∧
      (∀ k, k < j → ∀ i,
        let t := trk N P s σ (track0 N s b) k
        let o := lanczosStep N P s t.1
        let r := rotTerms N σ o.alpha t.1.betaPrev o.betaCurr t.2
        t.1.z1 i = r.diag * (trk N P s σ (track0 N s b) (k + 1)).2.s1 i + r.sub * t.2.s1 i + r.subsub * t.2.s2 i) := by
  have R : Run N P s σ A LinearMap.id b J := ⟨hA, hpre, hb0, hreg⟩
  have S := sweep_trk hreg
  have F := R.lsqFrame symForm_dot horth j hj
  refine ⟨imgDir N P s σ (track0 N s b), resDir N P s σ (track0 N s b) j,
    fun a c ha hac hc => S.p_orthonormal symForm_dot horth a c hac ha (by omega),
    fun a ha => S.p_orth_m symForm_dot horth a j ha hj, F.unit,
    fun k hk => congrFun (R.inv k (by omega)).As1, R.res_apply j hj, F.sol, ?_⟩
  intro k hk i t o r
  obtain ⟨-, hrad, hr0⟩ := hreg k (by omega)
  have hd : r.diag ≠ 0 := (rotTerms_orthogonal N σ _ _ _ t.2 hrad hr0).2.2 ▸ hr0
  have hsr := (search_recurrence N σ o.alpha t.1.betaPrev o.betaCurr t.1.q1 t.2 hd i).1
  have hq : t.1.q1 = t.1.z1 := q1_eq_z1 N P s σ hpre b k
  rw [← hq, trk_succ]
  exact hsr.symm

/-- **The search vectors span the Krylov space** (no preconditioner, regular steps, `j ≤ J`): the model's iterate `x_j` lies
in `𝒦_j = span{b, Ab, …, A^{j−1}b}` (`A` the effective operator — the shift does not change the space), and every element of
`𝒦_j` is a combination `Σ_{k<j} y_k d_{k+1}` of the search vectors. -/
theorem minres_krylov_space (N : NumOps α) (P : Params α) (s : Sys α n) (σ : α) (A : Vec α n →ₗ[α] Vec α n)
    (hA : ∀ v, applyA P s v = A v) (hpre : ∀ v, s.pre v = v) (b : Vec α n)
    (hb0 : (initLz N s b).betaPrev ≠ 0) (J : Nat) (hreg : Regular N P s σ (track0 N s b) J) (j : Nat) (hj : j ≤ J) :
    (trk N P s σ (track0 N s b) j).2.sol ∈ Submodule.span α {v | ∃ i, i < j ∧ v = (A ^ i) b} ∧
    ∀ x ∈ Submodule.span α {v | ∃ i, i < j ∧ v = (A ^ i) b},
      ∃ y : Nat → α, x = ∑ k ∈ Finset.range j, y k • (trk N P s σ (track0 N s b) (k + 1)).2.s1 :=
  have R : Run N P s σ A LinearMap.id b J := ⟨hA, hpre, hb0, hreg⟩
  ⟨sol_mem_krylov N P s σ R j hj, fun x hx => exists_coeff _ j x (krylov_eq_dspan N P s σ R j hj ▸ hx)⟩

end minres_global

/-! ### MINRES in exact arithmetic (ordered field, exact square root): optimality, monotonicity, breakdown -/

section minres_exact
variable {α : Type} [Field α] [LinearOrder α] [IsStrictOrderedRing α] {n : Nat}

/-- In exact arithmetic with `eps > 0` every iteration is regular, in every state: the clamp keeps `beta_curr ≥ eps > 0`,
hence `radius_curr = sqrt(diag² + beta_curr²) > 0`.  (So the `Regular` hypothesis of the theorems above is automatic; what the
clamp destroys is the *normalisation* of the next Lanczos vector, not the recurrences.) -/
theorem minres_regular_of_exact (N : NumOps α) (hN : ExactOps N) (P : Params α) (heps : 0 < P.eps) (s : Sys α n) (σ : α)
    (t0 : Lz α n × Gv α n) (J : Nat) : Regular N P s σ t0 J ∧
    ∀ j, P.eps ≤ (trk N P s σ t0 (j + 1)).1.betaPrev :=
  ⟨regular_of_exact N hN P heps s σ t0 J, fun j => by rw [trk_succ]; exact betaCurr_ge_eps N hN P s _⟩

/-- **MINRES optimality over the span of the search vectors** (exact arithmetic, no preconditioner, orthonormal Lanczos
vectors as hypothesis): for every coefficient vector `y` the residual of `x = Σ_{k<j} y_k d_{k+1}` is at least as long as the
residual of the model's iterate `x_j`, whose squared norm is `scale_prev²`.  (`span{d_1 … d_j}` is the Krylov space:
`minres_krylov_space`; the combined statement is `minres_optimal_over_krylov`.) -/
theorem minres_optimal (N : NumOps α) (hN : ExactOps N) (P : Params α) (heps : 0 < P.eps) (s : Sys α n) (σ : α)
    (A : Vec α n →ₗ[α] Vec α n) (hA : ∀ v, applyA P s v = A v) (hpre : ∀ v, s.pre v = v) (b : Vec α n)
    (hb0 : (initLz N s b).betaPrev ≠ 0) (J : Nat) (horth : LanczosOrthonormal N P s σ (track0 N s b) J) (j : Nat)
    (hj : j ≤ J) (y : Nat → α) :
    let L : Vec α n →ₗ[α] Vec α n := A + σ • LinearMap.id
    let xj := (trk N P s σ (track0 N s b) j).2.sol
    let x := ∑ k ∈ Finset.range j, y k • (trk N P s σ (track0 N s b) (k + 1)).2.s1
    (b - L xj) ⬝ᵥ (b - L xj) = (trk N P s σ (track0 N s b) j).2.scalePrev * (trk N P s σ (track0 N s b) j).2.scalePrev ∧
    (b - L xj) ⬝ᵥ (b - L xj) ≤ (b - L x) ⬝ᵥ (b - L x) := by
  intro L xj x
  rw [← dot_eq_dotProduct, ← dot_eq_dotProduct]
  exact (Run.lsqFrame ⟨hA, hpre, hb0, regular_of_exact N hN P heps s σ _ J⟩ symForm_dot horth j hj).optimal symForm_dot
    dot_self_nonneg y

/-- **The residual norm never increases** (exact arithmetic; no orthogonality needed for the `scale` recurrence):
`scale_prev_{j+1}² = s_{j+1}² · scale_prev_j² ≤ scale_prev_j²`.  Together with `minres_residual_norm` (`‖r_j‖² = scale_prev_j²`
under orthonormal Lanczos vectors): `‖r_{j+1}‖ ≤ ‖r_j‖`. -/
theorem minres_residual_monotone (N : NumOps α) (hN : ExactOps N) (P : Params α) (heps : 0 < P.eps) (s : Sys α n) (σ : α)
    (A pinv : Vec α n →ₗ[α] Vec α n) (hA : ∀ v, applyA P s v = A v) (hpre : ∀ v, pinv (s.pre v) = v) (b : Vec α n)
    (hb0 : (initLz N s b).betaPrev ≠ 0) (j : Nat) :
    (trk N P s σ (track0 N s b) (j + 1)).2.scalePrev * (trk N P s σ (track0 N s b) (j + 1)).2.scalePrev =
      (trk N P s σ (track0 N s b) (j + 1)).2.sin1 * (trk N P s σ (track0 N s b) (j + 1)).2.sin1 *
        ((trk N P s σ (track0 N s b) j).2.scalePrev * (trk N P s σ (track0 N s b) j).2.scalePrev) ∧
    (trk N P s σ (track0 N s b) (j + 1)).2.sin1 * (trk N P s σ (track0 N s b) (j + 1)).2.sin1 ≤ 1 ∧
    (trk N P s σ (track0 N s b) (j + 1)).2.scalePrev * (trk N P s σ (track0 N s b) (j + 1)).2.scalePrev ≤
      (trk N P s σ (track0 N s b) j).2.scalePrev * (trk N P s σ (track0 N s b) j).2.scalePrev :=
  scale_shrinks (rot1_trk N P s σ b (j + 1) (regular_of_exact N hN P heps s σ _ (j + 1)) (j + 1) le_rfl)
    (scale_succ N P s σ _ j)

/-- **Lanczos vectors of the model are orthonormal** (discharges the hypothesis of `minres_residual_norm`,
`minres_qr_identity`, `minres_optimal`): exact arithmetic, symmetric effective operator `A`, no preconditioner, non-zero `b`,
and the clamp `beta_curr.clamp_min_(eps)` not active during the first `J` iterations (`NoClamp`: `eps ≤ ‖zvec_curr‖`). -/
theorem lanczos_vectors_orthonormal (N : NumOps α) (hN : ExactOps N) (P : Params α) (heps : 0 < P.eps) (s : Sys α n)
    (σ : α) (A : Vec α n →ₗ[α] Vec α n) (hA : ∀ v, applyA P s v = A v) (hsym : ∀ u v, dot (A u) v = dot u (A v))
    (hpre : ∀ v, s.pre v = v) (b : Vec α n) (hb : 0 < dot b b) (J : Nat) (hnc : NoClamp N P s σ b J) :
    LanczosOrthonormal N P s σ (track0 N s b) J :=
  lanczos_orthonormal N P s σ A LinearMap.id hA hsym (fun _ _ => rfl) hpre b J (regular_of_exact N hN P heps s σ _ J)
    (lanczos_unit_of_noclamp N P s σ hN heps LinearMap.id hpre dot_self_nonneg b hb J hnc)

/-- **MINRES optimality and residual norm, no orthogonality hypothesis**: exact arithmetic, symmetric `A`, no preconditioner,
non-zero normalised right-hand side, clamp not active before iteration `J`.  For every `j ≤ J` and every coefficient vector
`y`: `‖b − (A+σI)x_j‖² = scale_prev_j² ≤ ‖b − (A+σI) Σ_k y_k d_{k+1}‖²`. -/
theorem minres_optimal_of_symmetric (N : NumOps α) (hN : ExactOps N) (P : Params α) (heps : 0 < P.eps) (s : Sys α n)
    (σ : α) (A : Vec α n →ₗ[α] Vec α n) (hA : ∀ v, applyA P s v = A v) (hsym : ∀ u v, dot (A u) v = dot u (A v))
    (hpre : ∀ v, s.pre v = v) (b : Vec α n) (hb : 0 < dot b b) (J : Nat) (hnc : NoClamp N P s σ b J) (j : Nat)
    (hj : j ≤ J) (y : Nat → α) :
    let L : Vec α n →ₗ[α] Vec α n := A + σ • LinearMap.id
    let xj := (trk N P s σ (track0 N s b) j).2.sol
    let x := ∑ k ∈ Finset.range j, y k • (trk N P s σ (track0 N s b) (k + 1)).2.s1
    (b - L xj) ⬝ᵥ (b - L xj) = (trk N P s σ (track0 N s b) j).2.scalePrev * (trk N P s σ (track0 N s b) j).2.scalePrev ∧
    (b - L xj) ⬝ᵥ (b - L xj) ≤ (b - L x) ⬝ᵥ (b - L x) :=
  minres_optimal N hN P heps s σ A hA hpre b (beta0_ne_zero N s hN LinearMap.id hpre b hb) J
    (lanczos_vectors_orthonormal N hN P heps s σ A hA hsym hpre b hb J hnc) j hj y

/-- **`minres_exact_at_dim`, the eps-perturbed version that is true of the code.**  If in iteration `j+1` the vector
`zvec_curr` vanishes before its normalisation (the Krylov space is exhausted), then in exact arithmetic
`beta_curr = eps` (clamped), the new Lanczos vector is zero, and the true residual is *not* annihilated but multiplied by
`sin_{j+1}² = eps² / (diag₀² + eps²)` (`diag₀` = the rotated diagonal entry of this step):
`r_{j+1} = eps²/(diag₀² + eps²) · r_j`.  With `eps = 0` (no clamp, `0/0` aside) this would be `r_{j+1} = 0`; with the
default `eps = 1e-25` it is a reduction by `≈ 1e-50/diag₀²`.  Any preconditioner; no orthogonality needed. -/
theorem minres_exact_at_dim_eps (N : NumOps α) (hN : ExactOps N) (P : Params α) (heps : 0 < P.eps) (s : Sys α n) (σ : α)
    (A pinv : Vec α n →ₗ[α] Vec α n) (hA : ∀ v, applyA P s v = A v) (hpre : ∀ v, pinv (s.pre v) = v)
    (hpre0 : s.pre (fun _ => 0) = fun _ => 0) (b : Vec α n) (hb0 : (initLz N s b).betaPrev ≠ 0) (j : Nat)
    (hz : unnormZ N P s (trk N P s σ (track0 N s b) j).1 = fun _ => 0) :
    (trk N P s σ (track0 N s b) (j + 1)).1.betaPrev = P.eps ∧
    (trk N P s σ (track0 N s b) (j + 1)).1.z1 = (fun _ => 0) ∧
    (trk N P s σ (track0 N s b) (j + 1)).2.sin1 * (trk N P s σ (track0 N s b) (j + 1)).2.sin1 =
      P.eps * P.eps / ((rotTerms N σ (lanczosStep N P s (trk N P s σ (track0 N s b) j).1).alpha
          (trk N P s σ (track0 N s b) j).1.betaPrev P.eps (trk N P s σ (track0 N s b) j).2).diag0 *
        (rotTerms N σ (lanczosStep N P s (trk N P s σ (track0 N s b) j).1).alpha
          (trk N P s σ (track0 N s b) j).1.betaPrev P.eps (trk N P s σ (track0 N s b) j).2).diag0 + P.eps * P.eps) ∧
    ∀ i, b i - (A (trk N P s σ (track0 N s b) (j + 1)).2.sol i + σ * pinv (trk N P s σ (track0 N s b) (j + 1)).2.sol i) =
      (trk N P s σ (track0 N s b) (j + 1)).2.sin1 * (trk N P s σ (track0 N s b) (j + 1)).2.sin1 *
        (b i - (A (trk N P s σ (track0 N s b) j).2.sol i + σ * pinv (trk N P s σ (track0 N s b) j).2.sol i)) := by
  obtain ⟨h1, h2, h3⟩ := breakdown_step N P s σ hN heps hpre0 (trk N P s σ (track0 N s b) j) hz
  have e : trk N P s σ (track0 N s b) (j + 1) = trackStep N P s σ (trk N P s σ (track0 N s b) j) := trk_succ _ _ _ _ _ _
  refine ⟨by rw [e]; exact h1, by rw [e]; exact h2, by rw [e]; exact h3, ?_⟩
  intro i
  have hrec := (minres_residual_recurrence N P s σ A pinv hA hpre b hb0 (j + 1)
    (regular_of_exact N hN P heps s σ _ (j + 1)) j (le_refl _) i).2
  rw [hrec, e, h2]; ring

/-- **MINRES residual minimisation over the Krylov space**: exact arithmetic, symmetric effective
operator `A`, no preconditioner, `b ≠ 0`, clamp not active before iteration `J`.  For `j ≤ J` the model's iterate `x_j`
belongs to `𝒦_j = span{b, Ab, …, A^{j−1}b}` and minimises `‖b − (A + σI)x‖` over `𝒦_j`; the minimum is `|scale_prev_j|`. -/
theorem minres_optimal_over_krylov (N : NumOps α) (hN : ExactOps N) (P : Params α) (heps : 0 < P.eps) (s : Sys α n)
    (σ : α) (A : Vec α n →ₗ[α] Vec α n) (hA : ∀ v, applyA P s v = A v) (hsym : ∀ u v, dot (A u) v = dot u (A v))
    (hpre : ∀ v, s.pre v = v) (b : Vec α n) (hb : 0 < dot b b) (J : Nat) (hnc : NoClamp N P s σ b J) (j : Nat)
    (hj : j ≤ J) :
    let L : Vec α n →ₗ[α] Vec α n := A + σ • LinearMap.id
    let xj := (trk N P s σ (track0 N s b) j).2.sol
    xj ∈ Submodule.span α {v | ∃ i, i < j ∧ v = (A ^ i) b} ∧
    (b - L xj) ⬝ᵥ (b - L xj) = (trk N P s σ (track0 N s b) j).2.scalePrev * (trk N P s σ (track0 N s b) j).2.scalePrev ∧
    ∀ x ∈ Submodule.span α {v | ∃ i, i < j ∧ v = (A ^ i) b}, (b - L xj) ⬝ᵥ (b - L xj) ≤ (b - L x) ⬝ᵥ (b - L x) := by
  intro L xj
  have hb0 := beta0_ne_zero N s hN LinearMap.id hpre b hb
  have hreg := regular_of_exact N hN P heps s σ (track0 N s b) J
  obtain ⟨hmem, hco⟩ := minres_krylov_space N P s σ A hA hpre b hb0 J hreg j hj
  refine ⟨hmem, (minres_optimal_of_symmetric N hN P heps s σ A hA hsym hpre b hb J hnc j hj fun _ => 0).1, ?_⟩
  intro x hx
  obtain ⟨y, rfl⟩ := hco x hx
  exact (minres_optimal_of_symmetric N hN P heps s σ A hA hsym hpre b hb J hnc j hj y).2

/-- **`M⁻¹`-orthonormality of the preconditioned Lanczos vectors** (discharges the hypothesis of
`minres_residual_norm_preconditioned`): exact arithmetic, symmetric `A`, symmetric positive semidefinite preconditioner map
`Mi = M⁻¹` (`preconditioner(v) = Mi v`), `⟨b, M⁻¹b⟩ > 0`, clamp inactive before iteration `J`: `⟨zvec_a, qvec_c⟩ = δ_ac`. -/
theorem lanczos_vectors_orthonormal_preconditioned (N : NumOps α) (hN : ExactOps N) (P : Params α) (heps : 0 < P.eps)
    (s : Sys α n) (σ : α) (A Mi : Vec α n →ₗ[α] Vec α n) (hA : ∀ v, applyA P s v = A v)
    (hsym : ∀ u v, dot (A u) v = dot u (A v)) (hMsym : ∀ u v, dot u (Mi v) = dot (Mi u) v)
    (hpsd : ∀ v, 0 ≤ dot v (Mi v)) (hpre : ∀ v, s.pre v = Mi v) (b : Vec α n) (hb : 0 < dot b (Mi b)) (J : Nat)
    (hnc : NoClamp N P s σ b J) :
    ∀ a c, a ≤ J → c ≤ J → dot (trk N P s σ (track0 N s b) a).1.z1 (Mi (trk N P s σ (track0 N s b) c).1.z1) =
      if a = c then 1 else 0 :=
  lanczos_orthonormal N P s σ A Mi hA hsym hMsym hpre b J (regular_of_exact N hN P heps s σ _ J)
    (lanczos_unit_of_noclamp N P s σ hN heps Mi hpre hpsd b hb J hnc)

/-- **Preconditioned MINRES minimises the `M⁻¹`-norm of the residual of the pencil `A + σM`** over the span of its search
vectors (exact arithmetic, symmetric `A`, symmetric PSD `Mi = M⁻¹` with left inverse `pinv = M`, clamp inactive before `J`;
no orthogonality hypothesis): for `j ≤ J` and every `y`,
`⟨r_j, M⁻¹r_j⟩ = scale_prev_j² ≤ ⟨r_y, M⁻¹r_y⟩` with `r_y = b − (A + σM) Σ_k y_k d_{k+1}`.  (This is the system the code
solves with a preconditioner and a shift — finding F1 — not `(A + σI)x = b`.) -/
theorem minres_optimal_preconditioned (N : NumOps α) (hN : ExactOps N) (P : Params α) (heps : 0 < P.eps)
    (s : Sys α n) (σ : α) (A pinv Mi : Vec α n →ₗ[α] Vec α n) (hA : ∀ v, applyA P s v = A v)
    (hsym : ∀ u v, dot (A u) v = dot u (A v)) (hMsym : ∀ u v, dot u (Mi v) = dot (Mi u) v)
    (hpsd : ∀ v, 0 ≤ dot v (Mi v)) (hpre : ∀ v, s.pre v = Mi v) (hinv : ∀ v, pinv (Mi v) = v) (b : Vec α n)
    (hb : 0 < dot b (Mi b)) (J : Nat) (hnc : NoClamp N P s σ b J) (j : Nat) (hj : j ≤ J) (y : Nat → α) :
    let L : Vec α n →ₗ[α] Vec α n := A + σ • pinv
    let xj := (trk N P s σ (track0 N s b) j).2.sol
    let x := ∑ k ∈ Finset.range j, y k • (trk N P s σ (track0 N s b) (k + 1)).2.s1
    (b - L xj) ⬝ᵥ Mi (b - L xj) =
      (trk N P s σ (track0 N s b) j).2.scalePrev * (trk N P s σ (track0 N s b) j).2.scalePrev ∧
    (b - L xj) ⬝ᵥ Mi (b - L xj) ≤ (b - L x) ⬝ᵥ Mi (b - L x) := by
  intro L xj x
  have R : Run N P s σ A pinv b J :=
    ⟨hA, fun v => by rw [hpre, hinv], beta0_ne_zero N s hN Mi hpre b hb, regular_of_exact N hN P heps s σ _ J⟩
  rw [← dot_eq_dotProduct, ← dot_eq_dotProduct]
  exact (R.lsqFrame (symForm_map Mi hMsym)
    (lanczos_vectors_orthonormal_preconditioned N hN P heps s σ A Mi hA hsym hMsym hpsd hpre b hb J hnc) j hj).optimal
    (symForm_map Mi hMsym) hpsd y

end minres_exact

/-! ### contour-integral quadrature: reduction of the matrix statement to the scalar rule -/

section ciq_reduction
variable {α : Type} [Field α] {n : Nat}

/-- **`contour_integral_quad`: matrix statement ⇐ scalar quadrature rule.**  Let `K` have the orthonormal eigenbasis `u` with
eigenvalues `lam` (`EigenBasis`), let the shifted solver be exact on the shifts produced by the model
(`(−K + s_q I)(R s_q b) = b` — MINRES is called with `value = −1` — and `s_q ≠ λ_i`).  If the *scalar* rule built from the
model's weights and shifts satisfies `Σ_q w_q / (s_q − λ_i) = ρ_i` for every eigenvalue, then the weighted sum returned by
`contour_integral_quad(inverse=True)` is `ρ(K) b = Σ_i ρ_i ⟨u_i, b⟩ u_i`; with `inverse=False` it is `K ρ(K) b`.
The analytic fact `ρ_i ≈ λ_i^{-1/2}` (Hale–Higham–Trefethen) is NOT proved; this theorem reduces the matrix statement to it. -/
theorem ciq_reduction (N : NumOps α) (K : Vec α n →ₗ[α] Vec α n) (u : Fin n → Vec α n) (lam : Fin n → α)
    (h : EigenBasis K u lam) (R : α → Vec α n → Vec α n) (e : Ellip α) (off : α) (b : Vec α n)
    (hsolve : ∀ sh ∈ (ellipWPow2 N e).map (· - off), -K (R sh b) + sh • R sh b = b)
    (hne : ∀ sh ∈ (ellipWPow2 N e).map (· - off), ∀ i, sh - lam i ≠ 0) (ρ : Fin n → α)
    (hrule : ∀ i, lsum (List.zipWith (fun w sh => w / (sh - lam i)) (ciqWeights N e)
      ((ellipWPow2 N e).map (· - off))) = ρ i) :
    (weightedSum (ciq N (fun shifts b => shifts.map fun s => R s b) K e off true b).weights
        (ciq N (fun shifts b => shifts.map fun s => R s b) K e off true b).solves = spectralApply u ρ b) ∧
    (weightedSum (ciq N (fun shifts b => shifts.map fun s => R s b) K e off false b).weights
        (ciq N (fun shifts b => shifts.map fun s => R s b) K e off false b).solves = K (spectralApply u ρ b)) := by
  have hρ : (fun i => lsum (List.zipWith (fun w sh => w / (sh - lam i)) (ciqWeights N e)
      ((ellipWPow2 N e).map (· - off)))) = ρ := funext hrule
  have hcore := weightedSum_spectral h R (ciqWeights N e) ((ellipWPow2 N e).map (· - off)) b hsolve hne
  rw [hρ, List.map_map] at hcore
  constructor
  · obtain ⟨_, hs, hw, _⟩ := ciq_plumbing N R K e off true b
    rw [hw, hs]
    simpa only [if_true, Function.comp_def] using hcore
  · obtain ⟨_, hs, hw, _⟩ := ciq_plumbing N R K e off false b
    rw [hw, hs]
    have : (ellipWPow2 N e).map (fun w => if false = true then R (w - off) b else K (R (w - off) b)) =
        ((ellipWPow2 N e).map (fun w => R (w - off) b)).map K := by
      rw [List.map_map]; rfl
    rw [this, weightedSum_map_linear]
    congr 1

/-- **`sqrt_inv_matmul` applied twice = solve** (model of `SqrtInvMatmul.forward` without `lhs`, exact shifted solves, scalar
rule exact with `ρ_i² λ_i = 1`, i.e. `ρ_i = λ_i^{-1/2}`): `K · sqrt_inv_matmul(sqrt_inv_matmul(R)) = R`, column by column. -/
theorem sqrt_inv_matmul_twice_is_solve (N : NumOps α) (K : Vec α n →ₗ[α] Vec α n) (u : Fin n → Vec α n)
    (lam : Fin n → α) (h : EigenBasis K u lam) (R : α → Vec α n → Vec α n) (e : Ellip α) (off : α)
    (hsolve : ∀ b, ∀ sh ∈ (ellipWPow2 N e).map (· - off), -K (R sh b) + sh • R sh b = b)
    (hne : ∀ sh ∈ (ellipWPow2 N e).map (· - off), ∀ i, sh - lam i ≠ 0) (ρ : Fin n → α)
    (hrule : ∀ i, lsum (List.zipWith (fun w sh => w / (sh - lam i)) (ciqWeights N e)
      ((ellipWPow2 N e).map (· - off))) = ρ i)
    (hρ : ∀ i, ρ i * ρ i * lam i = 1) (cols : List (Vec α n)) :
    let ciqCol := ciq N (fun shifts b => shifts.map fun s => R s b) K e off true
    (sqrtInvMatmul ciqCol (sqrtInvMatmul ciqCol cols)).map K = cols := by
  intro ciqCol
  have hone : ∀ b, weightedSum (ciqCol b).weights (ciqCol b).solves = spectralApply u ρ b :=
    fun b => (ciq_reduction N K u lam h R e off b (hsolve b) hne ρ hrule).1
  simp only [sqrtInvMatmul, List.map_map]
  conv_rhs => rw [← List.map_id cols]
  apply List.map_congr_left
  intro r _
  simp only [Function.comp, hone, id]
  exact spectral_twice_inverse h ρ hρ r

end ciq_reduction

/-! ### hypotheses are satisfiable -/

/-- A genuine rotation: `diag₀ = 3`, `β = 4`, radius `5` (rational square root). -/
example : (rotTerms (α := Rat) { sqrt := fun x => if x = 25 then 5 else 0, lt := fun a b => decide (a < b) } 0 3 0 4
    (initGv (n := 1) 1)).radius = 5 := by decide +kernel

/-- Exact arithmetic exists: the reals with `Real.sqrt`. -/
noncomputable example : ExactOps (α := ℝ) { sqrt := Real.sqrt, lt := fun a b => decide (a < b) } :=
  ⟨fun _ _ => rfl, fun _ h => Real.mul_self_sqrt h, fun x => Real.sqrt_nonneg x⟩

/-- `K = [[0,1],[1,0]]`, `b = e₁`, no shift, rational square roots: the first iteration is regular and the two Lanczos vectors
`z_0 = e₁`, `z_1 = e₂` are orthonormal (`Regular`, `LanczosOrthonormal` are satisfiable with `J = 1 = n − 1`). -/
def exOps : NumOps Rat := { sqrt := fun x => if x = 1 then 1 else 0, lt := fun a b => decide (a < b) }
def exP : Params Rat :=
  { eps := 1 / 10000000000000000000000000
    zeroThresh := 1 / 10000000000
    tol := 1 / 10000
    maxIter := 5
    checkEvery := 10
    extraIters := 2
    sizeSlack := 1
    value := none }
def exSys : Sys Rat 2 :=
  { amul := fun v i => if i = 0 then v 1 else v 0
    pre := id
    rhs := fun i => if i = 0 then 1 else 0
    shifts := [0] }

example : Regular exOps exP exSys 0 (track0 exOps exSys exSys.rhs) 1 := by
  intro j hj
  obtain rfl : j = 0 := by omega
  unfold StepOK
  decide +kernel

example : LanczosOrthonormal exOps exP exSys 0 (track0 exOps exSys exSys.rhs) 1 := by
  intro a b ha hb
  have : a = 0 ∨ a = 1 := by omega
  have : b = 0 ∨ b = 1 := by omega
  rcases ‹a = 0 ∨ a = 1› with rfl | rfl <;> rcases ‹b = 0 ∨ b = 1› with rfl | rfl <;> decide +kernel

/-- The hypotheses of `ciq_reduction` are satisfiable for every size and spectrum (diagonal operator, standard basis). -/
example {α : Type} [Field α] {n : Nat} (lam : Fin n → α) : EigenBasis (diagMap lam) (fun i => Pi.single i 1) lam :=
  eigenBasis_diag lam

end LinOp.C11
