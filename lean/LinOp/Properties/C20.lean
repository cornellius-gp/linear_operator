import LinOp.C20.ProofsToeplitz
import LinOp.C20.ProofsPermQr
import LinOp.C20.ProofsInterp
import LinOp.C20.ProofsSparse
import LinOp.C20.ProofsGetitemFold
import LinOp.C20.ProofsBdsmm
import LinOp.C20.ProofsRepeatFold
import LinOp.C20.ProofsModel2
import LinOp.C20.ProofsBroadcast
import LinOp.Generated.C20Facts
/-!
C20 — utility kernels equal their dense definitions.  The property theorems; the lemmas they follow from are in
`LinOp/C20/Proofs*.lean`.

Vectors / matrices are index functions on `Nat`; every theorem holds for all sizes `n ≥ 1` and for
every commutative ring (field, for QR / pseudo-inverse) of scalars.  `sumN n f = Σ_{i<n} f i`
(`sumN_eq_sum` relates it to `Finset.sum`).  The FFT is abstracted as the circular convolution
`circConv`, `torch.dsmm` as `spmm`, `torch.linalg.qr` / `solve_triangular` as parameters with their contracts
as hypotheses.
-/
namespace LinOp.C20.Property
open LinOp.C20

/-! ### Toeplitz -/

/-- `toeplitz(c, r)` (n ≥ 1, equal first elements) succeeds and its two loop nests write exactly
`T[i,j] = c[i-j]` (i ≥ j), `r[j-i]` (i < j), whatever `torch.empty` contained. -/
theorem toeplitz_dense_def {α : Type} [DecidableEq α] (n : Nat) (c r : Nat → α) (junk : M α)
    (hn : 1 ≤ n) (h0 : c 0 = r 0) :
    ∃ T, toeplitz n n c r junk = .ok T ∧ ∀ i j, i < n → j < n → T i j = toeplitzEntry c r i j := by
  have hrun : toeplitz n n c r junk
      = if n = 1 then .ok (fun _ _ => c 0) else .ok (rowLoop n r (colLoop n c junk n) (n - 1)) := by
    rw [toeplitz, if_neg (not_not.2 h0), if_neg (not_not.2 rfl)]
  by_cases h1 : n = 1
  · refine ⟨_, by rw [hrun, if_pos h1], fun i j hi hj => ?_⟩
    obtain rfl : i = 0 := by omega
    obtain rfl : j = 0 := by omega
    rfl
  · refine ⟨_, by rw [hrun, if_neg h1], fun i j hi hj => ?_⟩
    rw [rowLoop_apply, colLoop_apply, toeplitzEntry]
    by_cases hji : j ≤ i
    · rw [if_neg (by omega), if_pos (by omega), if_pos hji]
    · rw [if_pos (by omega), if_neg hji]

/-- `toeplitz` raises exactly when the first elements differ or the lengths differ. -/
theorem toeplitz_raises_iff {α : Type} [DecidableEq α] (nc nr : Nat) (c r : Nat → α) (junk : M α) :
    (∃ e, toeplitz nc nr c r junk = .error e) ↔ (c 0 ≠ r 0 ∨ nc ≠ nr) := by
  unfold toeplitz
  by_cases h1 : c 0 ≠ r 0
  · rw [if_pos h1]; exact ⟨fun _ => .inl h1, fun _ => ⟨_, rfl⟩⟩
  rw [if_neg h1]
  by_cases h2 : nc ≠ nr
  · rw [if_pos h2]; exact ⟨fun _ => .inr h2, fun _ => ⟨_, rfl⟩⟩
  rw [if_neg h2]
  refine ⟨fun ⟨e, h⟩ => ?_, fun h => (h.elim h1 h2).elim⟩
  split at h <;> exact nomatch h

/-- `sym_toeplitz(c)[i,j] = c[|i-j|]`. -/
theorem sym_toeplitz_def {α : Type} [DecidableEq α] (n : Nat) (c : Nat → α) (junk : M α) (hn : 1 ≤ n) :
    ∃ T, symToeplitz n c junk = .ok T ∧ ∀ i j, i < n → j < n → T i j = if j ≤ i then c (i - j) else c (j - i) :=
  toeplitz_dense_def n c c junk hn rfl

/-- `toeplitz_getitem(c, r, i, j)` is the dense entry. -/
theorem toeplitz_getitem_def {α : Type} (c r : Nat → α) (i j : Nat) :
    toeplitzGetitem c r i j = toeplitzEntry c r i j := by
  rw [toeplitzGetitem, toeplitzEntry]
  by_cases h : j ≤ i
  · rw [if_neg (by omega), if_pos h, show ((i : Int) - j).toNat = i - j by omega]
  · rw [if_pos (by omega), if_neg h, show ((i : Int) - j).natAbs = j - i by omega]

/-- `toeplitz_matmul`: the first `n` entries of the circular convolution (length `2n-1`) of the embedding
`[c, reversed r[1:]]` with the zero-padded right-hand side are `T x` — for every `n ≥ 1`. -/
theorem toeplitz_matmul_embedding {α : Type} [CommRing α] (n : Nat) (hn : 1 ≤ n) (c r x : Nat → α) (i : Nat) (hi : i < n) :
    toeplitzMatmulCore n c r x i = sumN n fun j => toeplitzEntry c r i j * x j :=
  _root_.LinOp.C20.toeplitz_matmul_embedding n hn c r x i hi

/-- `sym_toeplitz_derivative_quadratic_form`: entry `i` is `Σ_j u_jᵀ (∂T/∂c_i) v_j`, `∂T/∂c_i` the indicator of the
`i`-th sub- and super-diagonal (the identity for `i = 0`: the diagonal correction). -/
theorem toeplitz_dqf {α : Type} [CommRing α] (m s : Nat) (hm : 1 ≤ m) (u v : Nat → Nat → α) (i : Nat) (hi : i < m) :
    dqfCore m s u v i = dqfSpec m s u v i :=
  _root_.LinOp.C20.toeplitz_dqf m s hm u v i hi

def d27c : Tn Int := ⟨[3], fun i => [1, 2, 3].getD (i.getD 0 0) 0⟩
def d27r : Tn Int := ⟨[3], fun i => [1, 4, 5].getD (i.getD 0 0) 0⟩
def d27x : Tn Int := ⟨[3], fun i => [1, 1, 2].getD (i.getD 0 0) 0⟩
def isErr {β : Type} : Except String β → Bool
  | .error _ => true
  | .ok _ => false
def okVals (e : Except String (Tn Int)) (idxs : List (List Nat)) : Option (List Nat × List Int) :=
  match e with
  | .ok t => some (t.shape, idxs.map t.get)
  | .error _ => none

/-- Statement about the PREVIOUS code (before fix 94ba5d1, defect D27; model flag `fixed = false`): a 1-D right-hand side
made `toeplitz_matmul` raise, where the current code returns `T v = [15, 11, 7]`. -/
theorem previous_code_D27_vector_rhs_raised :
    isErr (toeplitzMatmul false d27c d27r d27x) = true ∧
    okVals (toeplitzMatmul true d27c d27r d27x) [[0], [1], [2]] = some ([3], [15, 11, 7]) := by
  decide

/-! ### permutations -/

/-- `apply_permutation`: `K[l.unsqueeze(-1), r.unsqueeze(-2)] = Π_l K Π_rᵀ` with `Π_l[i,a] = [l i = a]` — full or
partial permutations (any index vectors with entries in range). -/
theorem apply_perm_def {α : Type} [CommRing α] (m n : Nat) (K : M α) (l r : Nat → Nat) (i j : Nat)
    (hl : l i < m) (hr : r j < n) :
    applyPermCore K l r i j =
      sumN m fun a => sumN n fun b => (if l i = a then 1 else 0) * K a b * (if r j = b then 1 else 0) :=
  _root_.LinOp.C20.apply_perm_def m n K l r i j hl hr

/-- `inverse_permutation`: `inv[p[i]] = i` for every injective `p` of any length. -/
theorem inverse_perm_def (n : Nat) (p : Nat → Nat)
    (hinj : ∀ a b, a < n → b < n → p a = p b → a = b) (i : Nat) (hi : i < n) :
    inversePermCore n p (p i) = i :=
  scatterLoop_inj n p _ hinj n (Nat.le_refl n) i hi

/-- … and `p[inv[a]] = a` for every `a` in the image. -/
theorem inverse_perm_right (n : Nat) (p : Nat → Nat)
    (hinj : ∀ a b, a < n → b < n → p a = p b → a = b) (a : Nat) (hsurj : ∃ i, i < n ∧ p i = a) :
    p (inversePermCore n p a) = a := by
  obtain ⟨i, hi, rfl⟩ := hsurj
  rw [inverse_perm_def n p hinj i hi]

example : inversePermCore 5 (fun i => [1, 3, 2, 4, 0].getD i 0) 0 = 4 := by decide

/-! ### stable QR / pseudo-inverse -/

/-- `stable_qr`, under the QR contract `Q R = A`: `Q R' = A + Q J`, `J` the diagonal jitter. -/
theorem stable_qr_contract {α : Type} [Field α] [LinearOrder α] [IsStrictOrderedRing α] (eps : α) (k : Nat) (Q R A : M α)
    (hqr : ∀ i j, sumN k (fun a => Q i a * R a j) = A i j) (i j : Nat) :
    sumN k (fun a => Q i a * stableQrR eps k R a j) =
      A i j + (if j < k then Q i j * qrJitter eps k (fun t => R t t) j else 0) := by
  rw [← hqr i j]
  simp only [sumN_eq_sum, stableQrR]
  have : ∀ a ∈ Finset.range k,
      Q i a * (if a = j then R a j + qrJitter eps k (fun t => R t t) a else R a j) =
        Q i a * R a j + (if a = j then Q i j * qrJitter eps k (fun t => R t t) j else 0) := by
    intro a _
    by_cases h : a = j
    · subst h; simp [mul_add]
    · simp [h]
  rw [Finset.sum_congr rfl this, Finset.sum_add_distrib]
  congr 1
  by_cases hj : j < k
  · rw [if_pos hj, Finset.sum_ite_eq' (Finset.range k) j]
    simp [hj]
  · rw [if_neg hj]
    apply Finset.sum_eq_zero
    intro a ha
    have : a ≠ j := fun e => hj (e ▸ Finset.mem_range.mp ha)
    simp [this]

/-- … every diagonal entry of `R'` is at least `eps` in absolute value (so a triangular `R'` is invertible) … -/
theorem stable_qr_diag_bound {α : Type} [Field α] [LinearOrder α] [IsStrictOrderedRing α] (eps : α) (heps : 0 < eps)
    (k : Nat) (R : M α) (i : Nat) (hi : i < k) :
    eps ≤ |stableQrR eps k R i i| := by
  have _ := heps
  show eps ≤ |if i = i then R i i + qrJitter eps k (fun t => R t t) i else R i i|
  rw [if_pos rfl]
  exact _root_.LinOp.C20.qr_jitter_diag_bound eps k (fun t => R t t) i hi

/-- … and `R` is returned unchanged when no pivot is below `eps`. -/
theorem stable_qr_noop {α : Type} [Field α] [LinearOrder α] [IsStrictOrderedRing α] (eps : α) (k : Nat) (R : M α)
    (h : ∀ i, i < k → ¬ ((if R i i < 0 then -R i i else R i i) < eps)) :
    stableQrR eps k R = R := by
  have hany : (List.range k).any (fun i => decide ((if R i i < 0 then -R i i else R i i) < eps)) = false :=
    List.any_eq_false.2 fun i hi => by rw [decide_eq_true_eq]; exact h i (List.mem_range.1 hi)
  funext a b
  unfold stableQrR qrJitter
  dsimp only
  rw [hany, if_neg Bool.false_ne_true, add_zero, ite_self]

/-- the triangular solve of `stable_pinverse` as modelled (back substitution) solves `R X = B`. -/
theorem backSubst_solves {α : Type} [Field α] (k : Nat) (R : M α) (b : Nat → α)
    (htri : ∀ i j, j < i → R i j = 0) (hdiag : ∀ i, i < k → R i i ≠ 0) (i : Nat) (hi : i < k) :
    sumN k (fun j => R i j * backSubst k R b k j) = b i := by
  rw [sumN_eq_sum]
  exact backSubst_rows k R b htri hdiag k (Nat.le_refl k) i (by rw [Nat.sub_self]; exact Nat.zero_le i) hi

/-- `stable_pinverse`, tall / square branch under full column rank (`A = Q R`, `QᵀQ = I`, `R` invertible,
`R P = Qᵀ`): `P A = I` and the four Moore–Penrose conditions. -/
theorem pinverse_def {α : Type} [Field α] {m n : Type} [Fintype m] [Fintype n] [DecidableEq n]
    (A Q : Matrix m n α) (R : Matrix n n α) (P : Matrix n m α)
    (hA : A = Q * R) (hQ : Q.transpose * Q = 1) (hR : IsUnit R.det) (hP : R * P = Q.transpose) :
    P * A = 1 ∧ IsMP A P := by
  -- `P = R⁻¹ Qᵀ`, hence `P A = R⁻¹ (Qᵀ Q) R = 1` and `A P = Q Qᵀ`
  have hPeq : P = R⁻¹ * Q.transpose := by
    rw [← hP, ← Matrix.mul_assoc, Matrix.nonsing_inv_mul R hR, Matrix.one_mul]
  have hPA : P * A = 1 := by
    rw [hPeq, hA, Matrix.mul_assoc, ← Matrix.mul_assoc Q.transpose, hQ, Matrix.one_mul, Matrix.nonsing_inv_mul R hR]
  have hAP : A * P = Q * Q.transpose := by
    rw [hPeq, hA, Matrix.mul_assoc, ← Matrix.mul_assoc R, Matrix.mul_nonsing_inv R hR, Matrix.one_mul]
  refine ⟨hPA, ?_, ?_, ?_, ?_⟩
  · rw [Matrix.mul_assoc, hPA, Matrix.mul_one]
  · rw [hPA, Matrix.one_mul]
  · rw [hAP, Matrix.transpose_mul, Matrix.transpose_transpose]
  · rw [hPA, Matrix.transpose_one]

/-- fat branch: `stable_pinverse(A) = stable_pinverse(Aᵀ)ᵀ` is a Moore–Penrose inverse of `A`. -/
theorem pinverse_fat {α : Type} [Field α] {m n : Type} [Fintype m] [Fintype n] [DecidableEq n]
    (A : Matrix m n α) (P : Matrix m n α) (h : IsMP A.transpose P) : IsMP A P.transpose := by
  obtain ⟨h1, h2, h3, h4⟩ := h
  refine ⟨?_, ?_, ?_, ?_⟩
  · have := congrArg Matrix.transpose h1
    rwa [Matrix.transpose_mul, Matrix.transpose_mul, Matrix.transpose_transpose, ← Matrix.mul_assoc] at this
  · have := congrArg Matrix.transpose h2
    rwa [Matrix.transpose_mul, Matrix.transpose_mul, Matrix.transpose_transpose, ← Matrix.mul_assoc] at this
  · rw [Matrix.transpose_mul, Matrix.transpose_transpose]
    rw [Matrix.transpose_mul, Matrix.transpose_transpose] at h4
    exact h4.symm
  · rw [Matrix.transpose_mul, Matrix.transpose_transpose]
    rw [Matrix.transpose_mul, Matrix.transpose_transpose] at h3
    exact h3.symm


/-! ### interpolation -/

/-- `left_interp` (gather, multiply, sum over the coefficients) is `(W x)_r` for the dense interpolation matrix
`W[r,c] = Σ_k [idx[r,k] = c] val[r,k]` — duplicate indices add. -/
theorem left_interp_def {α : Type} [CommRing α] (n K : Nat) (idx : Nat → Nat → Nat) (val : Nat → Nat → α) (x : Nat → α) (r : Nat)
    (h : ∀ k, k < K → idx r k < n) :
    leftInterpCore K idx val x r = sumN n fun c => interpW K idx val r c * x c := by
  simp only [leftInterpCore, interpW, sumN_eq_sum, Finset.sum_mul]
  rw [Finset.sum_comm]
  apply Finset.sum_congr rfl
  intro k hk
  rw [Finset.mem_range] at hk
  simp only [ite_mul, zero_mul]
  rw [Finset.sum_ite_eq, if_pos (Finset.mem_range.2 (h k hk)), mul_comm]

/-- `left_t_interp` (scatter-add through the summing matrix and dsmm) is `(Wᵀ x)_o`; duplicates add. -/
theorem left_t_interp_def {α : Type} [CommRing α] (D K : Nat) (idx : Nat → Nat → Nat) (val : Nat → Nat → α) (x : Nat → α) (o : Nat) :
    leftTInterpCore D K idx val x o = sumN D fun d => interpW K idx val d o * x d :=
  _root_.LinOp.C20.left_t_interp_def D K idx val x o

/-! ### sparse tensors (entry lists; equal index tuples add) -/

/-- the entry-list product `spmm` (contract of `torch.dsmm`) is densify-then-dense-matmul. -/
theorem spmm_def {α : Type} [CommRing α] (ents : Ents α) (d : Nat → Nat → α) (i c ncols : Nat)
    (h : ∀ e ∈ ents, e.1.length = 2 ∧ e.1.getD 1 0 < ncols) :
    spmm ents d i c = sumN ncols fun j => densify ents [i, j] * d j c :=
  _root_.LinOp.C20.spmm_def ents d i c ncols h

theorem sparse_eye_def {α : Type} [CommRing α] (n i j : Nat) (hi : i < n) (hj : j < n) :
    densify (sparseEye (α := α) n).ents [i, j] = if i = j then 1 else 0 := by
  have _ := hj
  rw [sparseEye, densify_range_map, sumN_eq_single n i _ fun b _ hb => if_neg fun h => hb (List.cons.inj h).1, if_pos hi]
  simp only [List.cons.injEq, and_true, true_and]

/-- `make_sparse_from_indices_and_values`: batch index construction, zero dropping and the all-zero special case
leave exactly one contribution `valf p` per flattened position `p`, at index (batch digits of p, idxf p, row of p). -/
theorem make_sparse_def {α : Type} [CommRing α] [DecidableEq α] (bs : List Nat) (T K : Nat) (idxf : Nat → Nat) (valf : Nat → α)
    (numRows : Nat) (bidx : List Nat) (i t : Nat) (hb : bidx.length = bs.length) :
    densify (makeSparse bs T K idxf valf numRows).ents (bidx ++ [i, t]) =
      sumN (prod bs * T * K) fun p =>
        if (unflat (bs ++ [T, K]) p).take bs.length = bidx ∧ idxf p = i ∧ (p / K) % T = t then valf p else 0 :=
  _root_.LinOp.C20.make_sparse_def bs T K idxf valf numRows bidx i t hb

theorem make_sparse_shape {α : Type} [CommRing α] [DecidableEq α] (bs : List Nat) (T K : Nat) (idxf : Nat → Nat) (valf : Nat → α)
    (numRows : Nat) : (makeSparse bs T K idxf valf numRows).shape = bs ++ [numRows, T] :=
  rfl

/-- unbatched: `densify(make_sparse(idx, val))[i, t] = W[t, i]`. -/
theorem make_sparse_unbatched {α : Type} [CommRing α] [DecidableEq α] (T K : Nat) (hK : 0 < K) (idx : Nat → Nat → Nat)
    (val : Nat → Nat → α) (numRows i t : Nat) (ht : t < T) :
    densify (makeSparse [] T K (fun p => idx (p / K) (p % K)) (fun p => val (p / K) (p % K)) numRows).ents [i, t]
      = interpW K idx val t i := by
  have _ := hK
  have h := make_sparse_def [] T K (fun p => idx (p / K) (p % K)) (fun p => val (p / K) (p % K))
    numRows [] i t rfl
  simp only [List.nil_append, prod, Nat.one_mul, List.length_nil, List.take_zero, true_and] at h
  unfold interpW
  -- position `p = d * K + k` belongs to row `d`: only the row `t` contributes
  rw [h, sumN_mul, sumN_eq_single T t _ fun d hd hdt => ?_, if_pos ht]
  · refine sumN_congr K _ _ fun k hk => ?_
    obtain ⟨h1, h2⟩ := div_mod_flat t K k hk
    simp only [h1, h2, Nat.mod_eq_of_lt ht, and_true]
  · refine (sumN_congr K _ _ fun k hk => ?_).trans (sumN_zero K)
    rw [(div_mod_flat d K k hk).1, Nat.mod_eq_of_lt hd, if_neg fun hc => hdt hc.2]

/-- row-major digits determine the flat position / round trip. -/
theorem unflat_inj (shape : List Nat) (p q : Nat) (hp : p < prod shape) (hq : q < prod shape)
    (h : unflat shape p = unflat shape q) : p = q := by
  rw [← _root_.LinOp.C20.flat_unflat shape p hp, ← _root_.LinOp.C20.flat_unflat shape q hq, h]

theorem flat_unflat (shape : List Nat) (p : Nat) (hp : p < prod shape) : flat shape (unflat shape p) = p :=
  _root_.LinOp.C20.flat_unflat shape p hp

/-- `to_sparse(dense)` densifies back to `dense` at every position of the box (any rank, zeros dropped, all-zero case). -/
theorem to_sparse_roundtrip {α : Type} [CommRing α] [DecidableEq α] (d : Tn α) (p : Nat) (hp : p < prod d.shape) :
    densify (toSparse d).ents (unflat d.shape p) = d.get (unflat d.shape p) := by
  -- among all positions of the box only `p` carries the index `unflat d.shape p`
  have hall : densify ((allIdx d.shape).map fun i => (i, d.get i)) (unflat d.shape p) = d.get (unflat d.shape p) := by
    rw [allIdx, List.map_map, densify_range_map, sumN_eq_single _ p _ fun q hq hqp => ?_, if_pos hp]
    · exact if_pos rfl
    · exact if_neg fun hc => hqp (unflat_inj d.shape q p hq hp hc)
  rw [toSparse, apply_ite Sp.ents, densify_orZero _ _ _ (fun h => by rw [List.isEmpty_iff.1 h]; rfl),
    densify_map_filter_ne_zero, hall]

/-- `sparse_repeat`, one repeated dimension (copy `k` is shifted by `k * size`): dense `repeat`. -/
theorem sparse_repeat_def {α : Type} [AddCommMonoid α] (i rep : Nat) (s : Sp α) (idx : List Nat)
    (hi : i < s.shape.length) (hlen : idx.length = s.shape.length)
    (hents : ∀ e ∈ s.ents, e.1.length = s.shape.length ∧ e.1.getD i 0 < s.shape.getD i 0)
    (hidx : idx.getD i 0 < rep * s.shape.getD i 0) :
    densify (repeatDim true i rep s).ents idx = densify s.ents (idx.set i (idx.getD i 0 % s.shape.getD i 0)) :=
  _root_.LinOp.C20.sparse_repeat_def i rep s idx hi hlen hents hidx

/-- Statement about the PREVIOUS code (before fix 571691c, defect D28; `fixed = false`): the offset was the repeat number
`k` instead of `k * size`, wrong on a dimension of size 2 … -/
theorem previous_code_D28_offset_was_repeat_number :
    let s : Sp Int := ⟨[2, 2], [([0, 0], 1), ([1, 0], 2), ([1, 1], 3)]⟩
    densify (sparseRepeat false s [2, 1]).ents [1, 0] = 3 ∧ densify (sparseRepeat true s [2, 1]).ents [1, 0] = 2
      ∧ densify (sparseRepeat true s [2, 1]).ents [2, 0] = 1 ∧ densify (sparseRepeat false s [2, 1]).ents [2, 0] = 2 := by
  decide

/-- … and agreed with the current code whenever the repeated dimension has size 1 (how `bdsmm` uses it). -/
theorem previous_code_D28_agreed_on_size_one_dims {α : Type} (i rep : Nat) (s : Sp α) (h : s.shape.getD i 0 = 1) :
    repeatDim false i rep s = repeatDim true i rep s := by
  simp only [repeatDim, h, Nat.mul_one, Bool.false_eq_true, if_false, if_true]

/-- `sparse_getitem`, integer at position `i`: the result at `ridx` is the operand at `ridx` with `z` inserted at `i`. -/
theorem sparse_getitem_int_def {α : Type} [AddCommMonoid α] (i : Nat) (z : Nat) (s : Sp α) (ridx : List Nat)
    (hi : i < s.shape.length) (hlen : ridx.length + 1 = s.shape.length)
    (hents : ∀ e ∈ s.ents, e.1.length = s.shape.length) :
    ∃ s', getitemStep i (.int (z : Int)) s = .ok s' ∧ s'.shape = s.shape.eraseIdx i ∧
      densify s'.ents ridx = densify s.ents (ridx.insertIdx i z) :=
  _root_.LinOp.C20.sparse_getitem_int_def i z s ridx hi hlen hents

/-- `sparse_getitem`, slice (step 1, Python bound clamping) at position `i`. -/
theorem sparse_getitem_slice_def {α : Type} [AddCommMonoid α] (i : Nat) (start stop : Option Int) (s : Sp α) (ridx : List Nat)
    (hi : i < s.shape.length) (hlen : ridx.length = s.shape.length)
    (hents : ∀ e ∈ s.ents, e.1.length = s.shape.length)
    (hr : sliceBound (s.shape.getD i 0) start 0 + ridx.getD i 0 < sliceBound (s.shape.getD i 0) stop (s.shape.getD i 0)) :
    ∃ s', getitemStep i (.slice start stop none) s = .ok s' ∧
      s'.shape = s.shape.set i (sliceBound (s.shape.getD i 0) stop (s.shape.getD i 0) - sliceBound (s.shape.getD i 0) start 0) ∧
      densify s'.ents ridx = densify s.ents (ridx.set i (ridx.getD i 0 + sliceBound (s.shape.getD i 0) start 0)) :=
  _root_.LinOp.C20.sparse_getitem_slice_def i start stop s ridx hi hlen hents hr

def spVal (e : Except String (Sum Int (Sp Int))) : Option Int :=
  match e with
  | .ok (.inl v) => some v
  | _ => none

/-- `sparse_getitem` with a NEGATIVE integer `z ≥ -size` at position `i`: the index is normalised to `z + size` and the
result is the operand's slice counted from the end. -/
theorem sparse_getitem_negint_def {α : Type} [AddCommMonoid α] (i : Nat) (z : Int) (s : Sp α) (ridx : List Nat)
    (hi : i < s.shape.length) (hlen : ridx.length + 1 = s.shape.length)
    (hents : ∀ e ∈ s.ents, e.1.length = s.shape.length)
    (hz : z < 0) (hz' : 0 ≤ z + (s.shape.getD i 0 : Nat)) :
    ∃ s', getitemStep i (normIx true (s.shape.getD i 0) (.int z)) s = .ok s' ∧ s'.shape = s.shape.eraseIdx i ∧
      densify s'.ents ridx = densify s.ents (ridx.insertIdx i (z + (s.shape.getD i 0 : Nat)).toNat) := by
  have h : normIx true (s.shape.getD i 0) (.int z) = .int (((z + (s.shape.getD i 0 : Nat)).toNat : Nat) : Int) := by
    simp only [normIx, hz, Bool.true_and, decide_true, if_true]
    rw [Int.toNat_of_nonneg hz']
  rw [h]
  exact _root_.LinOp.C20.sparse_getitem_int_def i _ s ridx hi hlen hents

/-- Statement about the PREVIOUS code (before fix 826dae6, defect D31; `fixed = false`): a negative integer matched no
stored index (`0` instead of the last entry `2`). -/
theorem previous_code_D31_negative_int_selected_nothing :
    spVal (sparseGetitem false ⟨[3], [([1], 1), ([2], 2)]⟩ [.int (-1)]) = some 0 ∧
    spVal (sparseGetitem true ⟨[3], [([1], 1), ([2], 2)]⟩ [.int (-1)]) = some 2 := by
  decide

/-- block-diagonal flattening of `bdsmm` (row += b·rows, col += b·cols, b the flat batch index): row `b·rows + i` of the
2-D product sees exactly the entries of batch `b`, row `i`, against the rows `b·cols + j` of the flattened dense operand. -/
theorem blockdiag_spmm {α : Type} [CommRing α] (bshape : List Nat) (numRows numCols : Nat) (ents : Ents α) (d2 : Nat → Nat → α)
    (fb i c : Nat) (hi : i < numRows)
    (hents : ∀ e ∈ ents, e.1.getD bshape.length 0 < numRows ∧ e.1.getD (bshape.length + 1) 0 < numCols) :
    spmm (blockDiagEnts bshape numRows numCols ents) d2 (fb * numRows + i) c =
      spmm ((ents.filter fun e => flat bshape (e.1.take bshape.length) = fb ∧ e.1.getD bshape.length 0 = i)
              |>.map fun e => ([e.1.getD bshape.length 0, e.1.getD (bshape.length + 1) 0], e.2))
           (fun j c => d2 (fb * numCols + j) c) i c :=
  _root_.LinOp.C20.blockdiag_spmm bshape numRows numCols ents d2 fb i c hi hents

/-- `bdsmm`, unbatched branch: `S D` with `S = densify(sparse)`. -/
theorem bdsmm_2d_def {α : Type} [CommRing α] (fixed : Bool) (s : Sp α) (d : Tn α) (m n p : Nat)
    (hs : s.shape = [m, n]) (hd : d.shape = [n, p])
    (hents : ∀ e ∈ s.ents, e.1.length = 2 ∧ e.1.getD 1 0 < n) :
    ∃ t, bdsmm fixed s d = .ok t ∧ t.shape = [m, p] ∧
      ∀ i c, t.get [i, c] = sumN n fun j => densify s.ents [i, j] * d.get [j, c] := by
  have h2 : ¬ (([m, n] : List Nat).length > 2) := Nat.lt_irrefl 2
  have h3 : ¬ (([n, p] : List Nat).length > 2) := Nat.lt_irrefl 2
  have hrows : ¬ (([m, n] : List Nat).getD 1 0 ≠ ([n, p] : List Nat).getD 0 0) := fun h => h rfl
  -- here and in the whole-function theorems below the witness `?t` is whatever the unfolded function returns:
  -- closing `?run` by `rfl` fixes it
  refine ⟨?t, ?run, ?shape, ?val⟩
  case run =>
    simp only [bdsmm, hs, hd, if_neg h2, if_neg h3, if_neg hrows]
    rfl
  case shape => rfl
  case val => exact fun i c => spmm_def s.ents (fun j c => d.get [j, c]) i c n hents

/-- `DSMM.backward`, unbatched: the gradient w.r.t. the dense operand is `Sᵀ · grad_output`
(`bdsmm(sparse.mT, grad)` with the transposed entry list). -/
theorem dsmm_backward_2d_def {α : Type} [CommRing α] (fixed : Bool) (s : Sp α) (g : Tn α) (m n p : Nat)
    (hs : s.shape = [m, n]) (hg : g.shape = [m, p])
    (hents : ∀ e ∈ s.ents, e.1.length = 2 ∧ e.1.getD 0 0 < m) :
    ∃ t, dsmmBackward fixed s g = .ok t ∧ t.shape = [n, p] ∧
      ∀ j c, t.get [j, c] = sumN m fun i => densify s.ents [i, j] * g.get [i, c] := by
  have hT : ∀ e ∈ transposeEnts 0 s.ents, e.1.length = 2 ∧ e.1.getD 1 0 < m := by
    intro e he
    obtain ⟨e0, he0, rfl⟩ := List.mem_map.1 he
    exact ⟨rfl, (hents e0 he0).2⟩
  obtain ⟨t, ht, hsh, hget⟩ := bdsmm_2d_def fixed ⟨[n, m], transposeEnts 0 s.ents⟩ g n m p rfl hg hT
  refine ⟨t, by rw [dsmmBackward, hs]; exact ht, hsh, fun j c => ?_⟩
  rw [hget]
  exact sumN_congr _ _ _ fun i _ => by rw [densify_transpose s.ents i j fun e he => (hents e he).1]


/-- `stable_qr` for EVERY shape of `R` (`k × n2`, tall, square or fat): it succeeds and returns `R` with the jitter added on
the diagonal only (`stableQrR`; unchanged when no pivot is near zero) — so `stable_qr_contract` / `_diag_bound` apply. -/
theorem stable_qr_any_shape_def {α : Type} [Field α] [LinearOrder α] [IsStrictOrderedRing α] (eps : α) (k n2 : Nat) (R : M α) :
    stableQr true eps k n2 R = .ok (stableQrR eps k R) := by
  unfold stableQr
  dsimp only
  by_cases h : ((List.range k).any fun i => decide ((if R i i < 0 then -R i i else R i i) < eps)) = true
  · rw [h]
    rfl
  · rw [Bool.not_eq_true] at h
    rw [h, stable_qr_noop eps k R fun i hi => of_decide_eq_false (any_range_false h i hi)]
    rfl

/-- Statement about the PREVIOUS code (before fix 64f3bec, defect D32; `fixed = false`): on a fat `R` (1 × 3, zero pivot,
`eps = 1`) the jitter was added to the whole row; on a 2 × 3 `R` with a zero pivot it raised. -/
theorem previous_code_D32_fat_jitter_wrong :
    (match stableQr (α := Int) false 1 1 3 (fun _ b => [0, 5, 7].getD b 0) with
      | .ok R => [R 0 0, R 0 1, R 0 2] | .error _ => []) = [1, 6, 8] ∧
    (match stableQr (α := Int) true 1 1 3 (fun _ b => [0, 5, 7].getD b 0) with
      | .ok R => [R 0 0, R 0 1, R 0 2] | .error _ => []) = [1, 5, 7] ∧
    isErr (stableQr (α := Int) false 1 2 3 (fun a b => if a = b then 0 else 4)) = true := by
  decide

/-- … and agreed with the current code on tall / square `R` (`n2 = k`). -/
theorem previous_code_D32_agreed_on_square_R {α : Type} [Field α] [LinearOrder α] (eps : α) (k : Nat) (R : M α) :
    stableQr false eps k k R = stableQr true eps k k R := by
  simp only [stableQr, decide_true, Bool.or_true]

/-! ### adjointness, multi-step indexing, batched products -/

/-- `left_interp` and `left_t_interp` are adjoint: `⟨W x, y⟩ = ⟨x, Wᵀ y⟩` for every number of rows `R`, columns `n` and
interpolation points per row `K` (repeated indices allowed; only `idx[r,k] < n` is assumed). -/
theorem interp_adjoint {α : Type} [CommRing α] (R K n : Nat) (idx : Nat → Nat → Nat) (val : Nat → Nat → α) (x y : Nat → α)
    (h : ∀ r, r < R → ∀ k, k < K → idx r k < n) :
    sumN R (fun r => leftInterpCore K idx val x r * y r) =
      sumN n (fun c => x c * leftTInterpCore R K idx val y c) := by
  have h1 : ∀ r, r < R → leftInterpCore K idx val x r * y r = (sumN n fun c => interpW K idx val r c * x c) * y r := by
    intro r hr
    rw [left_interp_def n K idx val x r (h r hr)]
  rw [sumN_congr R _ _ h1]
  have h2 : ∀ c, c < n → x c * leftTInterpCore R K idx val y c = x c * sumN R fun d => interpW K idx val d c * y d := by
    intro c _
    rw [left_t_interp_def]
  rw [sumN_congr n _ _ h2]
  simp only [sumN_eq_sum, Finset.sum_mul, Finset.mul_sum]
  rw [Finset.sum_comm]
  apply Finset.sum_congr rfl
  intro c _
  apply Finset.sum_congr rfl
  intro r _
  ring

-- satisfiable with repeated indices: two rows, both points of row 0 hit column 1
example : ∀ r, r < 2 → ∀ k, k < 2 → (fun r k => if r = 0 then 1 else k) r k < 2 := by
  intro r _ k hk
  show (if r = 0 then 1 else k) < 2
  split
  · exact Nat.one_lt_two
  · exact hk

/-- `sparse_getitem` applied item by item (any list of (position, item) steps, in processing order) equals ONE multi-index
selection: the final tensor at `r` is the operand at `liftLoop items shape r` (ints inserted, slice starts added), its shape is
`shapeLoop items shape`, and every intermediate entry list stays well-formed.  `LoopOk` asks that each position is in range, ints
are non-negative, slices have step 1 and `r` lies inside every slice. -/
theorem getitem_loop_def {α : Type} [AddCommMonoid α] (items : List (Nat × Ix)) (s : Sp α) (r : List Nat)
    (hents : ∀ e ∈ s.ents, e.1.length = s.shape.length) (hok : LoopOk items s.shape r) :
    ∃ s', getitemLoop items s = .ok s' ∧ s'.shape = shapeLoop items s.shape ∧
      (∀ e ∈ s'.ents, e.1.length = s'.shape.length) ∧
      densify s'.ents r = densify s.ents (liftLoop items s.shape r) :=
  _root_.LinOp.C20.getitem_loop_def items s r hents hok

example : LoopOk [(1, Ix.slice (some 1) none none), (0, Ix.int 2)] [3, 4] [2] := by
  exact ⟨⟨rfl, by decide, by decide, rfl⟩, by decide, rfl, rfl, by decide⟩

/-- the public function on a 2-D tensor, `S[a0:b0, a1:b1]` (processed last position first): entry `(j0, j1)` is `S[a0+j0, a1+j1]`. -/
theorem sparse_getitem_slice_slice_def {α : Type} [AddCommMonoid α] (s : Sp α) (m n : Nat) (hs : s.shape = [m, n])
    (hents : ∀ e ∈ s.ents, e.1.length = 2) (a0 b0 a1 b1 : Option Int) (j0 j1 : Nat)
    (h0 : sliceBound m a0 0 + j0 < sliceBound m b0 m) (h1 : sliceBound n a1 0 + j1 < sliceBound n b1 n) :
    ∃ t, sparseGetitem true s [.slice a0 b0 none, .slice a1 b1 none] = .ok (.inr t) ∧
      t.shape = [sliceBound m b0 m - sliceBound m a0 0, sliceBound n b1 n - sliceBound n a1 0] ∧
      densify t.ents [j0, j1] = densify s.ents [sliceBound m a0 0 + j0, sliceBound n a1 0 + j1] := by
  obtain ⟨t, ht, hsh, _, hd⟩ := sparseGetitem_two_def s m n hs hents (.slice a0 b0 none) (.slice a1 b1 none) rfl rfl
    [j0, j1] ⟨⟨rfl, Nat.zero_lt_two, rfl, rfl, h0⟩, Nat.one_lt_two, rfl, rfl, h1⟩
  refine ⟨t, by rw [ht, hsh]; rfl, hsh, hd.trans ?_⟩
  show densify s.ents [j0 + sliceBound m a0 0, j1 + sliceBound n a1 0] = _
  rw [Nat.add_comm j0, Nat.add_comm j1]

/-- `S[z, a1:b1]`. -/
theorem sparse_getitem_int_slice_def {α : Type} [AddCommMonoid α] (s : Sp α) (m n : Nat) (hs : s.shape = [m, n])
    (hents : ∀ e ∈ s.ents, e.1.length = 2) (z : Nat) (a1 b1 : Option Int) (j1 : Nat)
    (h1 : sliceBound n a1 0 + j1 < sliceBound n b1 n) :
    ∃ t, sparseGetitem true s [.int z, .slice a1 b1 none] = .ok (.inr t) ∧
      t.shape = [sliceBound n b1 n - sliceBound n a1 0] ∧
      densify t.ents [j1] = densify s.ents [z, sliceBound n a1 0 + j1] := by
  obtain ⟨t, ht, hsh, _, hd⟩ := sparseGetitem_two_def s m n hs hents (.int z) (.slice a1 b1 none) (normIx_nat m z) rfl
    [j1] ⟨⟨rfl, Nat.zero_lt_two, Int.natCast_nonneg z, rfl⟩, Nat.one_lt_two, rfl, rfl, h1⟩
  refine ⟨t, by rw [ht, hsh]; rfl, hsh, hd.trans ?_⟩
  show densify s.ents [((z : Int)).toNat, j1 + sliceBound n a1 0] = _
  rw [Int.toNat_natCast, Nat.add_comm j1]

/-- `S[a0:b0, z]`. -/
theorem sparse_getitem_slice_int_def {α : Type} [AddCommMonoid α] (s : Sp α) (m n : Nat) (hs : s.shape = [m, n])
    (hents : ∀ e ∈ s.ents, e.1.length = 2) (a0 b0 : Option Int) (z : Nat) (j0 : Nat)
    (h0 : sliceBound m a0 0 + j0 < sliceBound m b0 m) :
    ∃ t, sparseGetitem true s [.slice a0 b0 none, .int z] = .ok (.inr t) ∧
      t.shape = [sliceBound m b0 m - sliceBound m a0 0] ∧
      densify t.ents [j0] = densify s.ents [sliceBound m a0 0 + j0, z] := by
  obtain ⟨t, ht, hsh, _, hd⟩ := sparseGetitem_two_def s m n hs hents (.slice a0 b0 none) (.int z) rfl (normIx_nat n z)
    [j0] ⟨⟨rfl, Nat.zero_lt_one, rfl, rfl, h0⟩, Nat.one_lt_two, Int.natCast_nonneg z, rfl⟩
  refine ⟨t, by rw [ht, hsh]; rfl, hsh, hd.trans ?_⟩
  show densify s.ents [j0 + sliceBound m a0 0, ((z : Int)).toNat] = _
  rw [Int.toNat_natCast, Nat.add_comm j0]

/-- `S[z0, z1]`: the returned scalar `sum(values)` is the dense entry (0 when nothing is stored there). -/
theorem sparse_getitem_int_int_def {α : Type} [AddCommMonoid α] (s : Sp α) (m n : Nat) (hs : s.shape = [m, n])
    (hents : ∀ e ∈ s.ents, e.1.length = 2) (z0 z1 : Nat) :
    sparseGetitem true s [.int z0, .int z1] = .ok (.inl (densify s.ents [z0, z1])) := by
  obtain ⟨t, ht, hsh, hl, hd⟩ := sparseGetitem_two_def s m n hs hents (.int z0) (.int z1) (normIx_nat m z0) (normIx_nat n z1)
    [] ⟨⟨rfl, Nat.zero_lt_one, Int.natCast_nonneg z0, rfl⟩, Nat.one_lt_two, Int.natCast_nonneg z1, rfl⟩
  have hnil : t.shape = [] := hsh
  rw [ht, hnil, sumVals_eq_densify_nil t.ents fun e he => (hl e he).trans (congrArg List.length hnil), hd]
  show Except.ok (Sum.inl (densify s.ents [((z0 : Int)).toNat, ((z1 : Int)).toNat])) = _
  rw [Int.toNat_natCast, Int.toNat_natCast]

/-- `bdsmm`, 2-D sparse × batched dense (the `(rows, batch·cols)` view), EVERY batch shape: `out[b] = S · D[b]`. -/
theorem bdsmm_2d_batched_def {α : Type} [CommRing α] (fixed : Bool) (s : Sp α) (d : Tn α) (bshape : List Nat) (m n p : Nat)
    (hb : bshape ≠ []) (hs : s.shape = [m, n]) (hd : d.shape = bshape ++ [n, p])
    (hents : ∀ e ∈ s.ents, e.1.length = 2 ∧ e.1.getD 1 0 < n)
    (b : List Nat) (hbox : InBox b bshape) (i c : Nat) (hc : c < p) :
    ∃ t, bdsmm fixed s d = .ok t ∧ t.shape = bshape ++ [m, p] ∧
      t.get (b ++ [i, c]) = sumN n fun j => densify s.ents [i, j] * d.get (b ++ [j, c]) := by
  have h2 : ¬ ([m, n].length > 2) := Nat.lt_irrefl 2
  have h3 : (bshape ++ [n, p]).length > 2 := app2_length_gt _ _ _ hb
  have hrows : ¬ ([m, n].getD 1 0 ≠ n) := fun h => h rfl
  -- the witness `?t` is whatever the unfolded function returns: closing `?run` by `rfl` fixes it
  refine ⟨?t, ?run, ?shape, ?val⟩
  case run =>
    simp only [bdsmm, hs, hd, if_neg h2, if_pos h3, app2_length_sub, app2_take, app2_get0, app2_get1, if_neg hrows]
    rfl
  case shape => rfl
  case val =>
    dsimp only
    rw [← inBox_length hbox, app2_get0, app2_get1, app2_take, spmm_def _ _ _ _ n hents]
    apply sumN_congr
    intro j _
    obtain ⟨h1, h2⟩ := div_mod_flat (flat bshape b) p c hc
    rw [h1, h2, unflat_flat hbox]

/-- `bdsmm`, batched sparse × batched dense of the same batch shape (block-diagonal flattening through the flat batch index,
no repetition needed), EVERY batch shape: `out[b] = S[b] · D[b]` — the whole function, not only the flattening lemma. -/
theorem bdsmm_batched_def {α : Type} [CommRing α] (s : Sp α) (d : Tn α) (bshape : List Nat) (m n p : Nat)
    (hb : bshape ≠ []) (hs : s.shape = bshape ++ [m, n]) (hd : d.shape = bshape ++ [n, p])
    (hents : ∀ e ∈ s.ents, e.1.length = bshape.length + 2 ∧ InBox (e.1.take bshape.length) bshape ∧
               e.1.getD bshape.length 0 < m ∧ e.1.getD (bshape.length + 1) 0 < n)
    (b : List Nat) (hbox : InBox b bshape) (i c : Nat) (hi : i < m) :
    ∃ t, bdsmm true s d = .ok t ∧ t.shape = bshape ++ [m, p] ∧
      t.get (b ++ [i, c]) = sumN n fun j => densify s.ents (b ++ [i, j]) * d.get (b ++ [j, c]) := by
  have h := _root_.LinOp.C20.bdsmm_bcast_dense_def s d bshape bshape m n p hb hs hd
    (matmulBroadcastShape_same bshape m n p) hents b hbox i c hi
  rwa [restrictIdx_inBox hbox] at h

/-- `bdsmm`, batched sparse × UNBATCHED dense (dense operand broadcast over the batch), EVERY batch shape: `out[b] = S[b] · D`. -/
theorem bdsmm_batched_dense2d_def {α : Type} [CommRing α] (s : Sp α) (d : Tn α) (bshape : List Nat) (m n p : Nat)
    (hb : bshape ≠ []) (hs : s.shape = bshape ++ [m, n]) (hd : d.shape = [n, p])
    (hents : ∀ e ∈ s.ents, e.1.length = bshape.length + 2 ∧ InBox (e.1.take bshape.length) bshape ∧
               e.1.getD bshape.length 0 < m ∧ e.1.getD (bshape.length + 1) 0 < n)
    (b : List Nat) (hbox : InBox b bshape) (i c : Nat) (hi : i < m) :
    ∃ t, bdsmm true s d = .ok t ∧ t.shape = bshape ++ [m, p] ∧
      t.get (b ++ [i, c]) = sumN n fun j => densify s.ents (b ++ [i, j]) * d.get [j, c] := by
  have h := _root_.LinOp.C20.bdsmm_bcast_dense_def s d bshape [] m n p hb hs hd
    (matmulBroadcastShape_dense2d bshape m n p) hents b hbox i c hi
  rwa [restrictIdx_nil] at h

example : InBox [1, 2] [2, 3] := by
  refine List.Forall₂.cons (by omega) (List.Forall₂.cons (by omega) List.Forall₂.nil)



/-! ### `sparse_repeat` as a fold; `bdsmm` and `DSMM.backward` with broadcasting -/

/-- `sparse_repeat`: the loop `for i, repeat_size in enumerate(repeat_sizes)` (current code) over ANY list of repeat sizes, started
at any dimension `i`: entry `idx` of the result is the original entry with positions `i … i+len-1` reduced modulo the original
sizes (induction over the list of repeat sizes; the step is `sparse_repeat_def`). -/
theorem repeat_loop_def {α : Type} [AddCommMonoid α] (reps : List Nat) (i : Nat) (s : Sp α) (idx : List Nat)
    (hi : i + reps.length ≤ s.shape.length) (hlen : idx.length = s.shape.length) (hbox : EntsInBox s)
    (hidx : ∀ k, k < reps.length → idx.getD (i + k) 0 < reps.getD k 0 * s.shape.getD (i + k) 0) :
    densify (repeatLoop true i reps s).ents idx = densify s.ents (modAt i reps.length s.shape idx) :=
  _root_.LinOp.C20.repeat_loop_def reps i s idx hi hlen hbox hidx

/-- `sparse_repeat(sparse, *repeat_sizes)` with one repeat size per dimension — ANY rank, ANY repeat sizes, several repeated
dimensions of any size: the dense `repeat`, `out[idx] = sparse[idx mod shape]`. -/
theorem sparse_repeat_fold_def {α : Type} [AddCommMonoid α] (s : Sp α) (reps idx : List Nat)
    (hr : reps.length = s.shape.length) (hlen : idx.length = s.shape.length) (hbox : EntsInBox s)
    (hidx : ∀ k, k < reps.length → idx.getD k 0 < reps.getD k 0 * s.shape.getD k 0) :
    densify (sparseRepeat true s reps).ents idx = densify s.ents (modAt 0 s.shape.length s.shape idx) := by
  have h0 : ¬ (reps.length > s.shape.length) := hr ▸ Nat.lt_irrefl _
  rw [sparseRepeat, if_neg h0,
    repeat_loop_def reps 0 s idx (Nat.le_of_eq (by rw [Nat.zero_add, hr])) hlen hbox (by simpa only [Nat.zero_add] using hidx), hr]

example : EntsInBox (⟨[2, 1, 2], [([1, 0, 1], 5), ([0, 0, 0], 7)]⟩ : Sp Int) ∧
    densify (sparseRepeat true (⟨[2, 1, 2], [([1, 0, 1], 5), ([0, 0, 0], 7)]⟩ : Sp Int) [2, 3, 1]).ents [3, 2, 1] = 5 ∧
    modAt 0 3 [2, 1, 2] [3, 2, 1] = [1, 0, 1] := by
  exact ⟨by unfold EntsInBox; decide, rfl, rfl⟩

/-- the flattened product of `bdsmm`'s first branch for ANY flattened dense operand: row `flat(b)·m + i` of
`blockdiag(S) · dense2` is `Σ_j S[b,i,j] · dense2[flat(b)·n + j]`. -/
theorem blockdiag_batch_core {α : Type} [CommRing α] (ents : Ents α) (bshape : List Nat) (m n : Nat) (dense2 : Nat → Nat → α)
    (hents : BatchedEntsOk ents bshape m n) (b : List Nat) (hbox : InBox b bshape) (i c : Nat) (hi : i < m) :
    spmm (blockDiagEnts bshape m n ents) dense2 (flat bshape b * m + i) c
      = sumN n fun j => densify ents (b ++ [i, j]) * dense2 (flat bshape b * n + j) c :=
  _root_.LinOp.C20.blockdiag_batch_core ents bshape m n dense2 hents b hbox i c hi

/-- `bdsmm`, first branch, ANY sparse batch shape × ANY dense batch shape accepted by `_matmul_broadcast_shape` (different ranks,
size-1 dimensions on either side): the result at batch index `b` of the broadcast batch shape is `S'[b] · D[restrict b]`, where
`S' = sparse_repeat(sparse, *repeat_sizes)` with exactly the repeat sizes the code computes (`bdsmmReps`; `S'` itself is
characterised by `sparse_repeat_fold_def` / `repeat_loop_def`) and the dense operand is read with `expand` semantics. -/
theorem bdsmm_bcast_def {α : Type} [CommRing α] (s : Sp α) (d : Tn α) (bshape db : List Nat) (m n p : Nat)
    (hsl : s.shape.length > 2) (hd : d.shape = db ++ [n, p])
    (hmb : matmulBroadcastShape s.shape d.shape = .ok (bshape ++ [m, p]))
    (hs' : (sparseRepeat true s (bdsmmReps s.shape (bshape ++ [m, p]))).shape = bshape ++ [m, n])
    (hents : BatchedEntsOk (sparseRepeat true s (bdsmmReps s.shape (bshape ++ [m, p]))).ents bshape m n)
    (b : List Nat) (hbox : InBox b bshape) (i c : Nat) (hi : i < m) (hn : 0 < n) :
    ∃ t, bdsmm true s d = .ok t ∧ t.shape = bshape ++ [m, p] ∧
      t.get (b ++ [i, c]) = sumN n fun j =>
        densify (sparseRepeat true s (bdsmmReps s.shape (bshape ++ [m, p]))).ents (b ++ [i, j])
          * d.get (restrictIdx db b ++ [j, c]) := by
  have _ := hn
  exact _root_.LinOp.C20.bdsmm_bcast_def s d bshape db m n p hsl hd hmb hs' hents b hbox i c hi

/-- satisfiable: sparse batch `(1,)` against dense batch `(3,)` — the size-1 dimension is repeated 3 times -/
example : matmulBroadcastShape [1, 2, 2] [3, 2, 1] = .ok ([3] ++ [2, 1]) ∧ bdsmmReps [1, 2, 2] ([3] ++ [2, 1]) = [3, 1, 1] ∧
    (sparseRepeat true (⟨[1, 2, 2], [([0, 1, 0], 4)]⟩ : Sp Int) [3, 1, 1]).shape = [3] ++ [2, 2] := ⟨rfl, rfl, rfl⟩

/-- `sparse_repeat` (current code; any repeat sizes, with or without new leading dimensions) keeps every stored index tuple inside
the box of the result's shape — the invariant that makes the repeated tensor a legal operand of the block-diagonal flattening. -/
theorem sparse_repeat_inBox {α : Type} (s : Sp α) (reps : List Nat) (hr : s.shape.length ≤ reps.length) (h : EntsInBox s) :
    EntsInBox (sparseRepeat true s reps) :=
  _root_.LinOp.C20.sparse_repeat_inBox s reps hr h

/-- `bdsmm`, first branch, ANY sparse batch shape × ANY dense batch shape, with well-formedness required of the ORIGINAL sparse
operand only (entries inside the box of its own shape; the invariant is carried through `sparse_repeat` by `sparse_repeat_inBox`):
`out[b] = S'[b] · D[restrict b]`. -/
theorem bdsmm_bcast_wf_def {α : Type} [CommRing α] (s : Sp α) (d : Tn α) (bshape db : List Nat) (m n p : Nat)
    (hsl : s.shape.length > 2) (hd : d.shape = db ++ [n, p])
    (hmb : matmulBroadcastShape s.shape d.shape = .ok (bshape ++ [m, p]))
    (hrank : s.shape.length ≤ bshape.length + 2)
    (hs' : (sparseRepeat true s (bdsmmReps s.shape (bshape ++ [m, p]))).shape = bshape ++ [m, n])
    (hbox : EntsInBox s)
    (b : List Nat) (hb : InBox b bshape) (i c : Nat) (hi : i < m) (hn : 0 < n) :
    ∃ t, bdsmm true s d = .ok t ∧ t.shape = bshape ++ [m, p] ∧
      t.get (b ++ [i, c]) = sumN n fun j =>
        densify (sparseRepeat true s (bdsmmReps s.shape (bshape ++ [m, p]))).ents (b ++ [i, j])
          * d.get (restrictIdx db b ++ [j, c]) := by
  have _ := hn
  have hout : s.shape.length ≤ (bshape ++ [m, p]).length := (app2_length bshape m p).symm ▸ hrank
  have hlen : s.shape.length ≤ (bdsmmReps s.shape (bshape ++ [m, p])).length :=
    (bdsmmReps_length _ _ (Nat.le_of_lt hsl) hout).symm ▸ hout
  exact _root_.LinOp.C20.bdsmm_bcast_def s d bshape db m n p hsl hd hmb hs'
    (batchedEntsOk_of_inBox _ bshape m n hs' (_root_.LinOp.C20.sparse_repeat_inBox s _ hlen hbox)) b hb i c hi

/-- satisfiable: sparse batch `(2,)` against dense batch `(3, 1)` — one new leading dimension, repeated 3 times -/
example : matmulBroadcastShape [2, 2, 2] [3, 1, 2, 1] = .ok ([3, 2] ++ [2, 1]) ∧ bdsmmReps [2, 2, 2] ([3, 2] ++ [2, 1]) = [3, 1, 1, 1] ∧
    (sparseRepeat true (⟨[2, 2, 2], [([1, 1, 0], 4)]⟩ : Sp Int) [3, 1, 1, 1]).shape = [3, 2] ++ [2, 2] ∧
    densify (sparseRepeat true (⟨[2, 2, 2], [([1, 1, 0], 4)]⟩ : Sp Int) [3, 1, 1, 1]).ents ([2, 1] ++ [1, 0]) = 4 :=
  ⟨rfl, rfl, rfl, by decide⟩

/-- **`bdsmm` with broadcasting, end to end.**  For a batched sparse operand of shape `(sb…, m, n)` and a dense operand of shape
`(db…, n, p)`: if the code's own `_matmul_broadcast_shape` accepts the shapes with broadcast batch shape `bshape` (non-empty batch,
`m, n > 0`) and the stored indices of the sparse operand are inside its shape, then `bdsmm` returns a tensor of shape `(bshape…, m, p)` with
`out[b, i, c] = Σ_j S[(b right-aligned) mod sb, i, j] · D[restrict b, j, c]` — missing leading sparse batch dimensions and sparse batch
dimensions of size 1 are broadcast, i.e. `torch.matmul(sparse.to_dense(), dense)`.  No hypothesis on how the two batch shapes relate
is needed beyond the success of the shape function (`broadcastShapes_spec` derives the broadcast relation from it). -/
theorem bdsmm_broadcast_def {α : Type} [CommRing α] (s : Sp α) (d : Tn α) (sb bshape db : List Nat) (m n p : Nat)
    (hsb : sb ≠ []) (hs : s.shape = sb ++ [m, n]) (hd : d.shape = db ++ [n, p])
    (hmb : matmulBroadcastShape s.shape d.shape = .ok (bshape ++ [m, p]))
    (hpos : ∀ o ∈ bshape, 0 < o) (hbox : EntsInBox s)
    (b : List Nat) (hb : InBox b bshape) (i c : Nat) (hi : i < m) (hn : 0 < n) :
    ∃ t, bdsmm true s d = .ok t ∧ t.shape = bshape ++ [m, p] ∧
      t.get (b ++ [i, c]) = sumN n fun j =>
        densify s.ents (List.zipWith (· % ·) ((b ++ [i, j]).drop (bshape.length - sb.length)) s.shape)
          * d.get (restrictIdx db b ++ [j, c]) :=
  _root_.LinOp.C20.bdsmm_broadcast_def s d sb bshape db m n p hsb hs hd hmb hpos hbox b hb i c hi hn

/-- satisfiable and non-trivial: sparse batch `(1, 2)` × dense batch `(3, 1)` (both sides are broadcast) -/
example : matmulBroadcastShape ([1, 2] ++ [2, 2]) ([3, 1] ++ [2, 1]) = .ok ([3, 2] ++ [2, 1]) ∧ (∀ o ∈ [3, 2], 0 < o) ∧
    List.zipWith (· % ·) (([2, 1] ++ [1, 0]).drop ([3, 2].length - [1, 2].length)) ([1, 2] ++ [2, 2]) = [0, 1, 1, 0] ∧
    restrictIdx [3, 1] [2, 1] = [2, 0] := ⟨rfl, by decide, rfl, rfl⟩

/-- `bdsmm`, batched sparse × dense with GENUINELY DIFFERENT batch shapes (sparse batch of lower rank than the output batch,
size-1 sparse batch dimensions repeated, dense batch broadcast independently) — the whole function composed end to end:
`_matmul_broadcast_shape`, the repeat sizes `output_size // sparse_size`, `sparse_repeat` (new leading dimensions + its loop,
`repeat_loop_def`), the block-diagonal flattening (`blockdiag_batch_core`), the flattened expanded dense operand, `torch.dsmm`'s
contract and the final `view`: `out[b,i,c] = Σ_j S[(b right-aligned) mod sparse batch shape, i, j] · D[restrict b, j, c]` for every
non-empty batch shape.  `BcTo` says that every (right-aligned, padded) sparse size equals the output size or is 1. -/
theorem bdsmm_general_def {α : Type} [CommRing α] (s : Sp α) (d : Tn α) (sb bshape db : List Nat) (m n p : Nat)
    (hsb : sb ≠ []) (hs : s.shape = sb ++ [m, n]) (hd : d.shape = db ++ [n, p])
    (hmb : matmulBroadcastShape s.shape d.shape = .ok (bshape ++ [m, p]))
    (hle : sb.length ≤ bshape.length)
    (hbc : BcTo (List.replicate (bshape.length - sb.length) 1 ++ (sb ++ [m, n])) (bshape ++ [m, n]))
    (hbox : EntsInBox s)
    (b : List Nat) (hb : InBox b bshape) (i c : Nat) (hi : i < m) (hn : 0 < n) :
    ∃ t, bdsmm true s d = .ok t ∧ t.shape = bshape ++ [m, p] ∧
      t.get (b ++ [i, c]) = sumN n fun j =>
        densify s.ents (List.zipWith (· % ·) ((b ++ [i, j]).drop (bshape.length - sb.length)) s.shape)
          * d.get (restrictIdx db b ++ [j, c]) := by
  have _ := hle
  have _ := hn
  exact _root_.LinOp.C20.bdsmm_general_def s d sb bshape db m n p hsb hs hd hmb hbc hbox b hb i c hi

/-- satisfiable: sparse batch `(1,)` (padded to `(1, 1)`) against the output batch `(3, 2)` produced by a dense batch `(3, 2)` -/
example : BcTo (List.replicate ([3, 2].length - [1].length) 1 ++ ([1] ++ [2, 2])) ([3, 2] ++ [2, 2]) ∧
    matmulBroadcastShape ([1] ++ [2, 2]) ([3, 2] ++ [2, 5]) = .ok ([3, 2] ++ [2, 5]) ∧
    List.zipWith (· % ·) (([2, 1] ++ [1, 0]).drop ([3, 2].length - [1].length)) ([1] ++ [2, 2]) = [0, 1, 0] := by
  exact ⟨.cons ⟨.inr rfl, Nat.succ_pos _⟩ (.cons ⟨.inr rfl, Nat.succ_pos _⟩
    (.cons ⟨.inl rfl, Nat.succ_pos _⟩ (.cons ⟨.inl rfl, Nat.succ_pos _⟩ .nil))), rfl, rfl⟩

/-- `bdsmm`, sparse operand with the full output batch shape × dense operand of ANY batch shape that broadcasts to it (fewer
dimensions, size-1 dimensions, none): `out[b] = S[b] · D[restrict b]` for every batch shape.  Generalises `bdsmm_batched_def`
and `bdsmm_batched_dense2d_def`. -/
theorem bdsmm_bcast_dense_def {α : Type} [CommRing α] (s : Sp α) (d : Tn α) (bshape db : List Nat) (m n p : Nat)
    (hb : bshape ≠ []) (hs : s.shape = bshape ++ [m, n]) (hd : d.shape = db ++ [n, p])
    (hmb : matmulBroadcastShape (bshape ++ [m, n]) (db ++ [n, p]) = .ok (bshape ++ [m, p]))
    (hents : BatchedEntsOk s.ents bshape m n)
    (b : List Nat) (hbox : InBox b bshape) (i c : Nat) (hi : i < m) (hn : 0 < n) :
    ∃ t, bdsmm true s d = .ok t ∧ t.shape = bshape ++ [m, p] ∧
      t.get (b ++ [i, c]) = sumN n fun j => densify s.ents (b ++ [i, j]) * d.get (restrictIdx db b ++ [j, c]) := by
  have _ := hn
  exact _root_.LinOp.C20.bdsmm_bcast_dense_def s d bshape db m n p hb hs hd hmb hents b hbox i c hi

example : matmulBroadcastShape ([2, 3] ++ [2, 2]) ([3] ++ [2, 1]) = .ok ([2, 3] ++ [2, 1]) ∧
    matmulBroadcastShape ([2, 3] ++ [2, 2]) ([2, 1] ++ [2, 1]) = .ok ([2, 3] ++ [2, 1]) ∧ restrictIdx [2, 1] [1, 2] = [1, 0] :=
  ⟨rfl, rfl, rfl⟩

/-- **`DSMM.backward` with broadcasting.**  For a batched sparse operand of shape `(sb…, m, n)` and a cotangent of shape `(gb…, m, p)`
whose batch shapes broadcast (the code's `_matmul_broadcast_shape` on the TRANSPOSED sparse shape succeeds, non-empty batch): the returned
gradient `bdsmm(sparse.mT, grad_output)` has shape `(bshape…, n, p)` and
`grad[b, j, c] = Σ_i S[(b right-aligned) mod sb, i, j] · grad_output[restrict b, i, c]` — `Sᵀ · grad_output` per broadcast batch member
(autograd's sum-reduction to the dense operand's shape happens outside the library). -/
theorem dsmm_backward_broadcast_def {α : Type} [CommRing α] (s : Sp α) (g : Tn α) (sb bshape gb : List Nat) (m n p : Nat)
    (hsb : sb ≠ []) (hs : s.shape = sb ++ [m, n]) (hg : g.shape = gb ++ [m, p])
    (hmb : matmulBroadcastShape (sb ++ [n, m]) g.shape = .ok (bshape ++ [n, p]))
    (hpos : ∀ o ∈ bshape, 0 < o) (hbox : EntsInBox s)
    (b : List Nat) (hb : InBox b bshape) (j c : Nat) (hj : j < n) (hm : 0 < m) :
    ∃ t, dsmmBackward true s g = .ok t ∧ t.shape = bshape ++ [n, p] ∧
      t.get (b ++ [j, c]) = sumN m fun i =>
        densify s.ents (List.zipWith (· % ·) (b.drop (bshape.length - sb.length)) sb ++ [i, j])
          * g.get (restrictIdx gb b ++ [i, c]) :=
  _root_.LinOp.C20.dsmm_backward_broadcast_def s g sb bshape gb m n p hsb hs hg hmb hpos hbox b hb j c hj hm

example : matmulBroadcastShape ([2] ++ [3, 2]) ([3, 1] ++ [2, 4]) = .ok ([3, 2] ++ [3, 4]) ∧
    List.zipWith (· % ·) (([2, 1] : List Nat).drop ([3, 2].length - [2].length)) [2] ++ [1, 2] = [1, 1, 2] := ⟨rfl, rfl⟩

/-- `DSMM.backward` for a batched sparse operand and a cotangent of the same batch shape, EVERY batch shape: the gradient
w.r.t. the dense operand is `S[b]ᵀ · grad[b]`. -/
theorem dsmm_backward_batched_def {α : Type} [CommRing α] (s : Sp α) (g : Tn α) (bshape : List Nat) (m n p : Nat)
    (hb : bshape ≠ []) (hs : s.shape = bshape ++ [m, n]) (hg : g.shape = bshape ++ [m, p])
    (hents : BatchedEntsOk s.ents bshape m n)
    (b : List Nat) (hbox : InBox b bshape) (j c : Nat) (hj : j < n) :
    ∃ t, dsmmBackward true s g = .ok t ∧ t.shape = bshape ++ [n, p] ∧
      t.get (b ++ [j, c]) = sumN m fun i => densify s.ents (b ++ [i, j]) * g.get (b ++ [i, c]) := by
  have hT : BatchedEntsOk (transposeEnts bshape.length s.ents) bshape n m :=
    batchedEntsOk_iff.2 (inBox_map _ (fun _ => inBox_transpose) (batchedEntsOk_iff.1 hents))
  obtain ⟨t, ht, hsh, hget⟩ := _root_.LinOp.C20.bdsmm_bcast_dense_def ⟨bshape ++ [n, m], transposeEnts bshape.length s.ents⟩ g bshape bshape
    n m p hb rfl hg (matmulBroadcastShape_same bshape n m p) hT b hbox j c hj
  refine ⟨t, ?_, hsh, ?_⟩
  · rw [dsmmBackward, hs, app2_length_sub, app2_take, app2_get0, app2_get1]
    exact ht
  · rw [hget]
    apply sumN_congr
    intro i _
    rw [restrictIdx_inBox hbox,
      densify_transpose_batched bshape.length s.ents b i j (inBox_length hbox) (fun e he => (hents e he).1)]

/-- the first branch of `bdsmm` factors through its intermediate state (`sparse_2d`, `dense_2d`): the objects compared by the
`bdsmm_flat` correspondence cells are the ones the result is computed from. -/
theorem bdsmm_eq_flat {α : Type} [Add α] [Zero α] [Mul α] (s : Sp α) (d : Tn α) (hsl : s.shape.length > 2) :
    bdsmm true s d = (bdsmmFlat s d).map bdsmmUnflat := by
  unfold bdsmm bdsmmFlat
  dsimp only
  rw [if_pos hsl]
  cases matmulBroadcastShape s.shape d.shape with
  | error e => rfl
  | ok out =>
    -- the two sides differ only in how the number of batch dimensions is written
    have hnb : (out.take (out.length - 2)).length = out.length - 2 :=
      List.length_take.trans (Nat.min_eq_left (Nat.sub_le _ _))
    simp only [Except.map, bdsmmUnflat, hnb, List.getD_cons_zero, List.getD_cons_succ]

/-! ### the other kernels as whole functions: integer indices, batch shapes, 1-D right-hand sides -/

/-- `toeplitz_getitem` on arbitrary ints depends on `i - j` only (negative / beyond-`n` indices). -/
theorem toeplitz_getitem_shift {α : Type} (n : Nat) (c r : Nat → α) (i j o : Int) :
    toeplitzGetitemZ n c r (i + o) (j + o) = toeplitzGetitemZ n c r i j := by
  rw [toeplitzGetitemZ, toeplitzGetitemZ, Int.add_sub_add_right]

/-- `toeplitz_getitem` on arbitrary ints: the Toeplitz entry by difference when `|i - j| < n`, `IndexError` otherwise. -/
theorem toeplitz_getitem_int_def {α : Type} (n : Nat) (c r : Nat → α) (i j : Int) :
    toeplitzGetitemZ n c r i j =
      if (i - j).natAbs < n then .ok (if j ≤ i then c (i - j).toNat else r (j - i).toNat) else .error "IndexError" :=
  _root_.LinOp.C20.toeplitz_getitem_int_def n c r i j

/-- inside the matrix the integer version is `toeplitz_getitem_def`'s function. -/
theorem toeplitz_getitem_nat {α : Type} (n : Nat) (c r : Nat → α) (i j : Nat) (hi : i < n) (hj : j < n) :
    toeplitzGetitemZ n c r i j = .ok (toeplitzGetitem c r i j) := by
  unfold toeplitzGetitemZ toeplitzGetitem
  by_cases h : (i : Int) - (j : Int) < 0
  · have h2 : ((i : Int) - (j : Int)).natAbs < n := by omega
    simp only [h, if_true, h2]
  · have h2 : ((i : Int) - (j : Int)).toNat < n := by omega
    simp only [h, if_false, h2, if_true]

/-- `sym_toeplitz_derivative_quadratic_form(left, right)` for inputs of shape `(*batch, m, s)` with ANY number of leading batch
dimensions: the result has shape `(*batch, m)` and entry `(b, i)` is `Σ_j u_jᵀ (∂T/∂c_i) v_j` of batch member `b`. -/
theorem dqf_batched_def {α : Type} [CommRing α] (left right : Tn α) (bs : List Nat) (m s : Nat) (hm : 1 ≤ m)
    (hl : left.shape = bs ++ [m, s]) (b : List Nat) (hb : b.length = bs.length) (i : Nat) (hi : i < m) :
    (dqf left right).shape = bs ++ [m] ∧
    (dqf left right).get (b ++ [i]) =
      dqfSpec m s (fun j a => left.get (b ++ [a, j])) (fun j a => right.get (b ++ [a, j])) i := by
  have h1 := app2_length_ne_one bs m s
  refine ⟨?_, ?_⟩
  · simp only [dqf, hl, if_neg h1, app2_length_sub, app2_take, app2_get0]
  · simp only [dqf, hl, if_neg h1, app2_length_sub, app2_get0, app2_get1]
    rw [← hb, take_app1, getD_app1]
    exact toeplitz_dqf m s hm _ _ i hi

/-- the 1-D form of `sym_toeplitz_derivative_quadratic_form` (one pair of vectors of length `m`). -/
theorem dqf_vector_def {α : Type} [CommRing α] (left right : Tn α) (m : Nat) (hm : 1 ≤ m) (hl : left.shape = [m]) (i : Nat) (hi : i < m) :
    (dqf left right).shape = [m] ∧
    (dqf left right).get [i] = dqfSpec m 1 (fun _ a => left.get [a]) (fun _ a => right.get [a]) i := by
  refine ⟨?_, ?_⟩
  · simp only [dqf, hl, List.length_cons, List.length_nil, if_true, List.getD_cons_zero]
  · simp only [dqf, hl, List.length_cons, List.length_nil, if_true, List.getD_cons_zero]
    exact toeplitz_dqf m 1 hm _ _ i hi

/-- `left_interp` — the WHOLE function for a matrix right-hand side with INDEPENDENTLY broadcast batch shapes of the index tensor,
the value tensor and the right-hand side (any ranks, size-1 dimensions): at batch index `b` of the broadcast batch shape the result
is `W[restrict b] · rhs[restrict b]` (duplicates within a row of indices add). -/
theorem left_interp_batched_def {α : Type} [CommRing α] (idx : Tn Nat) (val rhs : Tn α) (ib vb rb bshape : List Nat) (R K nd cols : Nat)
    (hi : idx.shape = ib ++ [R, K]) (hv : val.shape = vb ++ [R, K]) (hr : rhs.shape = rb ++ [nd, cols])
    (hmb : matmulBroadcastShape (ib ++ [R, nd]) (rb ++ [nd, cols]) = .ok (bshape ++ [R, cols]))
    (b : List Nat) (hb : b.length = bshape.length) (r c : Nat)
    (hidx : ∀ k, k < K → idx.get (restrictIdx ib b ++ [r, k]) < nd) :
    ∃ t, leftInterp idx val rhs = .ok t ∧ t.shape = bshape ++ [R, cols] ∧
      t.get (b ++ [r, c]) = sumN nd fun a =>
        interpW K (fun r k => idx.get (restrictIdx ib b ++ [r, k])) (fun r k => val.get (restrictIdx vb b ++ [r, k])) r a
          * rhs.get (restrictIdx rb b ++ [a, c]) := by
  refine ⟨?t, ?run, ?shape, ?val⟩
  case run =>
    simp only [leftInterp, hi, hv, hr, if_neg (app2_length_ne_one rb nd cols), app2_length_sub, app2_dropLast, app1_app1,
      app2_get0, app2_get1, app2_take, hmb]
    rfl
  case shape => rfl
  case val =>
    dsimp only
    rw [← hb, app2_take, app2_get0, app2_get1]
    exact left_interp_def nd K _ _ _ r hidx

/-- `left_t_interp` — the WHOLE function for a matrix right-hand side with independently broadcast batch shapes: at batch index `b`
the result is `W[restrict b]ᵀ · rhs[restrict b]`. -/
theorem left_t_interp_batched_def {α : Type} [CommRing α] (idx : Tn Nat) (val rhs : Tn α) (ib vb rb bshape : List Nat)
    (D K outDim cols : Nat)
    (hi : idx.shape = ib ++ [D, K]) (hv : val.shape = vb ++ [D, K]) (hr : rhs.shape = rb ++ [D, cols])
    (hmb : matmulBroadcastShape (ib ++ [outDim, D]) (rb ++ [D, cols]) = .ok (bshape ++ [outDim, cols]))
    (b : List Nat) (hb : b.length = bshape.length) (o c : Nat) :
    ∃ t, leftTInterp idx val rhs outDim = .ok t ∧ t.shape = bshape ++ [outDim, cols] ∧
      t.get (b ++ [o, c]) = sumN D fun d =>
        interpW K (fun d k => idx.get (restrictIdx ib b ++ [d, k])) (fun d k => val.get (restrictIdx vb b ++ [d, k])) d o
          * rhs.get (restrictIdx rb b ++ [d, c]) := by
  refine ⟨?t, ?run, ?shape, ?val⟩
  case run =>
    simp only [leftTInterp, hi, hv, hr, if_neg (app2_length_ne_one rb D cols), app2_length_sub, app2_length_sub_one,
      app2_get0, app2_get1, app2_take, hmb]
    rfl
  case shape => rfl
  case val =>
    dsimp only
    rw [← hb, app2_take, app2_get0, app2_get1]
    exact left_t_interp_def D K _ _ _ o

/-- satisfiable: interpolation batch `(2, 1)` against right-hand-side batch `(3,)` -/
example : matmulBroadcastShape ([2, 1] ++ [2, 3]) ([3] ++ [3, 2]) = .ok ([2, 3] ++ [2, 2]) ∧
    matmulBroadcastShape ([2, 1] ++ [5, 2]) ([3] ++ [2, 2]) = .ok ([2, 3] ++ [5, 2]) ∧ restrictIdx [2, 1] [1, 2] = [1, 0] ∧
    restrictIdx [3] [1, 2] = [2] := ⟨rfl, rfl, rfl, rfl⟩

/-- `toeplitz_matmul(c, r, M)` / `sym_toeplitz_matmul(c, M)` — the WHOLE function with batch broadcasting (column / row of batch
shape `cb`, right-hand side of batch shape `xb`; any ranks, size-1 dimensions): shape check, `_matmul_broadcast_shape`, `expand`, the
first-element check over every member of the broadcast batch, circulant embedding, FFT contract, slice.  At batch index `b` the result
is `T[restrict b] · M[restrict b]`, for every `n ≥ 1` and every batch shape. -/
theorem toeplitz_matmul_batched_def {α : Type} [CommRing α] [DecidableEq α] (c r x : Tn α) (cb xb bshape : List Nat) (n p : Nat)
    (hn : 1 ≤ n) (hc : c.shape = cb ++ [n]) (hr : r.shape = cb ++ [n]) (hx : x.shape = xb ++ [n, p])
    (hmb : matmulBroadcastShape (cb ++ [n, n]) (xb ++ [n, p]) = .ok (bshape ++ [n, p]))
    (h0 : ∀ b' ∈ allIdx bshape, c.get (restrictIdx cb b' ++ [0]) = r.get (restrictIdx cb b' ++ [0])) :
    ∃ t, toeplitzMatmul true c r x = .ok t ∧ t.shape = bshape ++ [n, p] ∧
      ∀ (b : List Nat), b.length = bshape.length → ∀ i k, i < n →
        t.get (b ++ [i, k]) = sumN n fun j =>
          toeplitzEntry (fun a => c.get (restrictIdx cb b ++ [a])) (fun a => r.get (restrictIdx cb b ++ [a])) i j
            * x.get (restrictIdx xb b ++ [j, k]) := by
  have h1 := app2_length_ne_one xb n p
  have hany : ((allIdx bshape).any fun b => decide (c.get (restrictIdx cb b ++ [0]) ≠ r.get (restrictIdx cb b ++ [0]))) = false :=
    List.any_eq_false.2 fun b hb => by rw [decide_eq_true_eq]; exact not_not.2 (h0 b hb)
  -- the witness `?t` is whatever the unfolded function returns: closing `?run` by `rfl` fixes it
  refine ⟨?t, ?run, ?shape, ?val⟩
  case run =>
    simp only [toeplitzMatmul, hc, hr, hx, ne_eq, not_true_eq_false, if_false, length_app1_sub, getD_app1, app1_app1,
      decide_eq_false h1, Bool.false_and, Bool.false_eq_true, if_neg h1, hmb, app2_length_sub, app2_take, dropLast_app1, hany]
    rfl
  case shape => rfl
  case val =>
    intro b hb i k hi
    dsimp only
    rw [← hb, app2_take, app2_get0, app2_get1]
    exact toeplitz_matmul_embedding n hn _ _ _ i hi

example : matmulBroadcastShape ([2, 1] ++ [3, 3]) ([1, 3] ++ [3, 2]) = .ok ([2, 3] ++ [3, 2]) := rfl

/-- `apply_permutation(K, left, right)` — the WHOLE function with batched (partial) permutations whose batch shapes broadcast against
the matrix' batch shape (any ranks, size-1 dimensions, more batch dimensions than `K`): entry `(b, i, j)` of the result is
`K[restrict b][left[restrict b][i], right[restrict b][j]]`, i.e. `Π_l K Π_rᵀ` per batch member (with `apply_perm_def`). -/
theorem apply_perm_batched_def {α : Type} (K : Tn α) (l r : Tn Nat) (kb lb rb b1 bshape : List Nat) (m n nl nr : Nat)
    (hK : K.shape = kb ++ [m, n]) (hl : l.shape = lb ++ [nl]) (hr : r.shape = rb ++ [nr])
    (h1 : broadcastShapes kb lb = some b1) (h2 : broadcastShapes b1 rb = some bshape)
    (b : List Nat) (hb : b.length = bshape.length) (i j : Nat) :
    ∃ t, applyPerm K (some l) (some r) = .ok t ∧ t.shape = bshape ++ [nl, nr] ∧
      t.get (b ++ [i, j]) =
        K.get (restrictIdx kb b ++ [l.get (restrictIdx lb b ++ [i]), r.get (restrictIdx rb b ++ [j])]) := by
  refine ⟨?t, ?run, ?shape, ?val⟩
  case run =>
    unfold applyPerm
    simp only [hK, hl, hr, app2_length_sub, app2_take, dropLast_app1, h1, h2, length_app1_sub, getD_app1]
    rfl
  case shape => rfl
  case val =>
    dsimp only
    rw [← hb, app2_take, app2_get0, app2_get1]

example : broadcastShapes [3] [2, 1] = some [2, 3] ∧ broadcastShapes [2, 3] [3] = some [2, 3] := ⟨rfl, rfl⟩

/-- `inverse_permutation` on a batch of permutation vectors of shape `(*batch, n)`, ANY batch shape: `inv[b, p[b, i]] = i` for
every injective batch member. -/
theorem inverse_perm_batched_def (p : Tn Nat) (bs : List Nat) (n : Nat) (hp : p.shape = bs ++ [n]) (b : List Nat)
    (hinj : ∀ x y, x < n → y < n → p.get (b ++ [x]) = p.get (b ++ [y]) → x = y) (i : Nat) (hi : i < n) :
    (inversePerm p).shape = bs ++ [n] ∧ (inversePerm p).get (b ++ [p.get (b ++ [i])]) = i := by
  refine ⟨hp, ?_⟩
  simp only [inversePerm, hp, length_app1_sub, getD_app1, dropLast_app1]
  exact inverse_perm_def n (fun a => p.get (b ++ [a])) hinj i hi

/-- `toeplitz_matmul(c, r, v)` / `sym_toeplitz_matmul(c, v)` with a 1-D right-hand side and column / row of ANY batch shape `cb`: the
vector is unsqueezed, broadcast against every batch member and squeezed again — shape `(cb…, n)` and `out[b] = T[b] · v`, every `n ≥ 1`. -/
theorem toeplitz_matmul_vector_batched_def {α : Type} [CommRing α] [DecidableEq α] (c r x : Tn α) (cb : List Nat) (n : Nat) (hn : 1 ≤ n)
    (hc : c.shape = cb ++ [n]) (hr : r.shape = cb ++ [n]) (hx : x.shape = [n])
    (h0 : ∀ b' ∈ allIdx cb, c.get (restrictIdx cb b' ++ [0]) = r.get (restrictIdx cb b' ++ [0])) :
    ∃ t, toeplitzMatmul true c r x = .ok t ∧ t.shape = cb ++ [n] ∧
      ∀ (b : List Nat), b.length = cb.length → ∀ i, i < n →
        t.get (b ++ [i]) = sumN n fun j =>
          toeplitzEntry (fun a => c.get (restrictIdx cb b ++ [a])) (fun a => r.get (restrictIdx cb b ++ [a])) i j * x.get [j] := by
  have hany : ((allIdx cb).any fun b => decide (c.get (restrictIdx cb b ++ [0]) ≠ r.get (restrictIdx cb b ++ [0]))) = false :=
    List.any_eq_false.2 fun b hb => by rw [decide_eq_true_eq]; exact not_not.2 (h0 b hb)
  refine ⟨?t, ?run, ?shape, ?val⟩
  case run =>
    simp only [toeplitzMatmul, hc, hr, hx, ne_eq, not_true_eq_false, if_false, length_app1_sub, getD_app1, app1_app1,
      List.length_cons, List.length_nil, Nat.zero_add, decide_true, Bool.not_true, Bool.and_false, Bool.false_eq_true,
      if_true, List.cons_append, List.nil_append, matmulBroadcastShape_dense2d cb n n 1, app2_length_sub, app2_take,
      dropLast_app1, hany, app2_dropLast]
    rfl
  case shape => rfl
  case val =>
    intro b hb i hi
    dsimp only
    rw [app1_app1, ← hb, app2_take, app2_get0]
    show toeplitzMatmulCore n _ _ (fun a => x.get [a]) i = _
    exact toeplitz_matmul_embedding n hn _ _ _ i hi

/-- `toeplitz_matmul(c, r, M)`, unbatched, matrix right-hand side: the whole function (shape logic, first-element check,
embedding, circular convolution, slice) returns `T M`. -/
theorem toeplitz_matmul_matrix_def {α : Type} [CommRing α] [DecidableEq α] (n p : Nat) (hn : 1 ≤ n) (c r x : Tn α)
    (hc : c.shape = [n]) (hr : r.shape = [n]) (hx : x.shape = [n, p]) (h0 : c.get [0] = r.get [0]) :
    ∃ t, toeplitzMatmul true c r x = .ok t ∧ t.shape = [n, p] ∧ ∀ i k, i < n →
      t.get [i, k] = sumN n fun j => toeplitzEntry (fun a => c.get [a]) (fun a => r.get [a]) i j * x.get [j, k] := by
  obtain ⟨t, ht, hsh, hget⟩ := toeplitz_matmul_batched_def c r x [] [] [] n p hn hc hr hx
    (matmulBroadcastShape_dense2d [] n n p) (fun _ _ => h0)
  exact ⟨t, ht, hsh, hget [] rfl⟩

/-- `toeplitz_matmul(c, r, v)` with a 1-D right-hand side (documented; the code unsqueezes before the shape computation and
squeezes the result): returns the vector `T v`. -/
theorem toeplitz_matmul_vector_def {α : Type} [CommRing α] [DecidableEq α] (n : Nat) (hn : 1 ≤ n) (c r x : Tn α)
    (hc : c.shape = [n]) (hr : r.shape = [n]) (hx : x.shape = [n]) (h0 : c.get [0] = r.get [0]) :
    ∃ t, toeplitzMatmul true c r x = .ok t ∧ t.shape = [n] ∧ ∀ i, i < n →
      t.get [i] = sumN n fun j => toeplitzEntry (fun a => c.get [a]) (fun a => r.get [a]) i j * x.get [j] := by
  obtain ⟨t, ht, hsh, hget⟩ := toeplitz_matmul_vector_batched_def c r x [] n hn hc hr hx (fun _ _ => h0)
  exact ⟨t, ht, hsh, hget [] rfl⟩

/-- `left_interp` with a 1-D right-hand side (the `index_select` branch) and interpolation tensors of ANY batch shape: shape
`(vb…, R)`, entry `o = (b…, r)` is `Σ_a W[b][r, a] · rhs[a]`. -/
theorem left_interp_vector_def {α : Type} [CommRing α] (idx : Tn Nat) (val rhs : Tn α) (vb : List Nat) (R K n : Nat)
    (hi : idx.shape = vb ++ [R, K]) (hv : val.shape = vb ++ [R, K]) (hr : rhs.shape = [n]) (o : List Nat)
    (hidx : ∀ k, k < K → idx.get (o ++ [k]) < n) :
    ∃ t, leftInterp idx val rhs = .ok t ∧ t.shape = vb ++ [R] ∧
      t.get o = sumN n fun a =>
        interpW K (fun _ k => idx.get (o ++ [k])) (fun _ k => val.get (o ++ [k])) 0 a * rhs.get [a] := by
  refine ⟨?t, ?run, ?shape, ?val⟩
  case run =>
    simp only [leftInterp, hi, hv, hr, app2_length_sub, app2_get1, app2_dropLast, List.length_cons, List.length_nil,
      if_true]
    rfl
  case shape => rfl
  case val =>
    dsimp only
    exact left_interp_def n K _ _ _ 0 hidx

/-- `left_t_interp` with a 1-D right-hand side and interpolation tensors of batch shapes `ib` / `vb`: shape `(ib…, output_dim)` and
`out[b] = W[b]ᵀ · rhs`. -/
theorem left_t_interp_vector_def {α : Type} [CommRing α] (idx : Tn Nat) (val rhs : Tn α) (ib vb : List Nat) (D K outDim : Nat)
    (hi : idx.shape = ib ++ [D, K]) (hv : val.shape = vb ++ [D, K]) (hr : rhs.shape = [D])
    (b : List Nat) (hb : b.length = ib.length) (q : Nat) :
    ∃ t, leftTInterp idx val rhs outDim = .ok t ∧ t.shape = ib ++ [outDim] ∧
      t.get (b ++ [q]) = sumN D fun d =>
        interpW K (fun d k => idx.get (restrictIdx ib b ++ [d, k])) (fun d k => val.get (restrictIdx vb b ++ [d, k])) d q
          * rhs.get [d] := by
  refine ⟨?t, ?run, ?shape, ?val⟩
  case run =>
    simp only [leftTInterp, hi, hv, hr, List.length_cons, List.length_nil, Nat.zero_add, if_true, List.cons_append,
      List.nil_append, app2_length_sub, app2_length_sub_one, app2_get0, app2_get1, app2_take,
      matmulBroadcastShape_dense2d ib outDim D 1, app2_dropLast]
    rfl
  case shape => rfl
  case val =>
    dsimp only
    rw [app1_app1, ← hb, app2_take, app2_get0]
    show leftTInterpCore D K _ _ (fun d => rhs.get [d]) q = _
    exact left_t_interp_def D K _ _ _ q

/-! ### translator obligations: the source text read by `harness/extract/c20_kernels.py` is what the model mirrors -/

open LinOp.Generated in
/-- every function of the covered modules is either mirrored or explicitly listed as not mirrored, and every mirrored function exists. -/
theorem gen_inventory :
    (C20.publicFunctions.all fun f => listedFunctions.contains f) = true ∧
    (listedFunctions.all fun f => C20.publicFunctions.contains f) = true := by
  -- the extracted list is the listed one with `_pad_with_singletons` at its place in the source
  have hp : C20.publicFunctions
      = modelledFunctions.take 20 ++ (notModelledFunctions ++ modelledFunctions.drop 20) := rfl
  have hl : listedFunctions
      = modelledFunctions.take 20 ++ (modelledFunctions.drop 20 ++ notModelledFunctions) := by
    rw [← List.append_assoc, List.take_append_drop]; rfl
  rw [hp, hl]
  exact all_contains_of_perm (List.perm_append_comm.append_left _)

open LinOp.Generated in
/-- `bdsmm`: branch order, repeat sizes `output_size // sparse_size` over the right-aligned shapes, `batch_shape / num_rows / num_cols`
taken from the REPEATED sparse tensor, row-major batch multiplication factors, row offset `alpha=num_rows` on `indices[0]` and column
offset `alpha=num_cols` on `indices[1]`, `sparse_2d` of size `(B·rows, B·cols)`, dense operand expanded then reshaped to
`(B·cols, -1)`, result viewed as `(*batch, rows, -1)`; second branch: `(rows, B·cols)` view through two transposes. -/
theorem gen_bdsmm :
    C20.bdsmmBranchTests = ["sparse.ndimension() > 2", "dense.dim() > 2"] ∧
    C20.bdsmmRepeatExpr = "output_size // sparse_size | (output_size, sparse_size) in zip(expanded_sparse_shape, unsqueezed_sparse_shape)" ∧
    C20.bdsmmExpandDense = "dense.expand(*output_shape[:-2], dense.size(-2), dense.size(-1))" ∧
    C20.bdsmmUnpack = "(*batch_shape, num_rows, num_cols) = sparse.shape" ∧
    C20.bdsmmFactor = "[torch.Size(batch_shape[i + 1:]).numel() for i in range(len(batch_shape))]" ∧
    C20.bdsmmAssignment = "sparse._indices()[:-2].t() @ batch_multiplication_factor" ∧
    C20.bdsmmOffsets.map (fun x => (x.1, x.2.1)) = expectedBdsmmOffsets ∧
    C20.bdsmmOffsets.map (fun x => x.2.2) = ["batch_assignment", "batch_assignment"] ∧
    C20.bdsmmSparse2dSize = "torch.Size((batch_size * num_rows, batch_size * num_cols))" ∧
    C20.bdsmmDense2d = "dense.reshape(batch_size * num_cols, -1)" ∧
    C20.bdsmmView = "torch.dsmm(sparse_2d, dense_2d) ; res.view(*batch_shape, num_rows, -1)" ∧
    C20.bdsmm2dDense = "dense.transpose(0, 1).reshape(-1, batch_size * num_cols)" ∧
    C20.bdsmm2dResult = "torch.dsmm(sparse, dense.transpose(0, 1).reshape(-1, batch_size * num_cols)) ; res.view(-1, batch_size, num_cols) ; res.transpose(0, 1).reshape(*batch_shape, -1, num_cols)" :=
  ⟨rfl, rfl, rfl, rfl, rfl, rfl, rfl, rfl, rfl, rfl, rfl, rfl, rfl⟩

open LinOp.Generated in
/-- `sparse_repeat`: new leading dims iff more repeat sizes than dims, loop over `enumerate(repeat_sizes)`, guard `repeat_size > 1`,
offset `arange(repeat_size) * sparse.size(i)` (the D28 fix), new size `repeat_size * sparse.size(i)` at position `i`. -/
theorem gen_sparse_repeat :
    C20.repeatNewDimsTest = "len(repeat_sizes) > len(sparse.shape)" ∧
    C20.repeatLoopIter = "(i, repeat_size) in enumerate(repeat_sizes)" ∧ C20.repeatGuard = "repeat_size > 1" ∧
    C20.repeatFactor = "torch.arange(0, repeat_size, dtype=new_indices.dtype, device=new_indices.device).unsqueeze_(1) * sparse.size(i)" ∧
    C20.repeatNewSize = "torch.Size((*sparse.shape[:i], repeat_size * sparse.size(i), *sparse.shape[i + 1:]))" :=
  ⟨rfl, rfl, rfl, rfl, rfl⟩

open LinOp.Generated in
/-- `sparse_getitem`: rank / length guards, items processed LAST to FIRST, negative ints normalised by the current size (the D31 fix),
int mask `eq`, scalar `sum(values)`, `slice.indices(size[i])`, step test, slice mask `lt(stop) & ge(start)`, `sub_(start)` on the copy. -/
theorem gen_sparse_getitem :
    C20.getitemRankTest = "not sparse.ndimension() <= 2" ∧ C20.getitemLenTest = "len(idxs) > sparse.ndimension()" ∧
    C20.getitemLoopIter = "(i, idx) in list(enumerate(idxs))[::-1]" ∧
    C20.getitemNegTest = "idx < 0" ∧ C20.getitemNegFix = "idx = idx + size[i]" ∧ C20.getitemIntMask = "indices[i].eq(idx)" ∧
    C20.getitemScalarReturn = "sum(values)" ∧ C20.getitemSliceIndices = "idx.indices(size[i])" ∧ C20.getitemStepTest = "step != 1" ∧
    C20.getitemSliceMask = "indices[i].lt(stop) & indices[i].ge(start)" ∧ C20.getitemStartSub = "new_indices[i].sub_(start)" :=
  ⟨rfl, rfl, rfl, rfl, rfl, rfl, rfl, rfl, rfl, rfl, rfl⟩

open LinOp.Generated in
/-- `toeplitz_getitem` (`index = i - j`, row for negative index) , `DSMM.forward/backward` (`bdsmm(ctx.sparse.mT, grad_output)`),
`stable_qr`'s literals (`1e-6` threshold and jitter magnitude, `1.0` sign for zero pivots). -/
theorem gen_small_kernels :
    C20.tgIndex = "i - j" ∧ C20.tgTest = "index < 0" ∧ C20.tgNegReturn = "toeplitz_row[abs(index)]" ∧
    C20.tgPosReturn = "toeplitz_column[index]" ∧
    C20.dsmmForwardSaves = "sparse" ∧ C20.dsmmForwardReturn = "bdsmm(ctx.sparse, dense)" ∧
    C20.dsmmBackwardReturn = "(None, bdsmm(ctx.sparse.mT, grad_output))" ∧
    C20.qrFloatLiterals = [(1 : Rat) / 1000000, 1, (1 : Rat) / 1000000] :=
  ⟨rfl, rfl, rfl, rfl, rfl, rfl, rfl, by decide +kernel⟩


end LinOp.C20.Property
