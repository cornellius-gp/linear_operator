import LinOp.C06.Proofs
import LinOp.C06.ProofsModel
import LinOp.C06.ProofsPost
import LinOp.C10.ProofsPSD
import LinOp.C10.ProofsLoop
import LinOp.C10.ProofsSPD
import LinOp.C10.ProofsErr
import LinOp.C09.ProofsCompose
import LinOp.Generated.C06Consts
import Mathlib.Data.Sign.Basic
import Mathlib.Algebra.Order.Field.Basic
/-!
C06 — every factorization returned really factorizes the operator.  Property theorems only.

Conventions.  Matrices are Mathlib matrices over a commutative ring (field where a division occurs).
The numerical primitives are parameters with their textbook contracts as hypotheses
(`L * Lᵀ = A` for `cholesky_ex`, `Qᵀ * Q = 1 ∧ Q * diagonal w * Qᵀ = A` for `eigh`, scalar square roots
as `s i * s i = w i`).  "`R Rᵀ = A⁻¹`" is stated as `R * Rᵀ * A = 1` (for square matrices over a
commutative ring this also gives `A * (R * Rᵀ) = 1`, `Matrix.mul_eq_one_comm`).
Each theorem names the code path it is about.  `LowerTri/UpperTri` are exact zero patterns.
-/
namespace LinOp.C06
open Matrix Kronecker

variable {α : Type} [CommRing α]
variable {n k : Type} [Fintype n] [Fintype k] [DecidableEq n] [DecidableEq k]

/-! ### Cholesky -/

/-- `LinearOperator.cholesky(upper=True)` returns the transpose of the lower factor: if `L` is lower
triangular with `L Lᵀ = A` then `R = Lᵀ` is upper triangular with `Rᵀ R = A`. -/
theorem chol_factorizes {m : Nat} (L A : Matrix (Fin m) (Fin m) α) (hL : L * Lᵀ = A) (hT : LowerTri L) :
    (LowerTri L ∧ L * Lᵀ = A) ∧
      (UpperTri (upperM L) ∧ (upperM L)ᵀ * upperM L = A) := by
  refine ⟨⟨hT, hL⟩, lowerTri_transpose hT, ?_⟩
  show (Lᵀ)ᵀ * Lᵀ = A
  rw [transpose_transpose]; exact hL

/-- `KroneckerProductLinearOperator._cholesky`: the Kronecker product of the factors' Cholesky factors
factorizes the Kronecker product (any index types). -/
theorem kronChol_factorizes {m : Type} [Fintype m] (L₁ A₁ : Matrix n n α) (L₂ A₂ : Matrix m m α)
    (h₁ : L₁ * L₁ᵀ = A₁) (h₂ : L₂ * L₂ᵀ = A₂) : (L₁ ⊗ₖ L₂) * (L₁ ⊗ₖ L₂)ᵀ = A₁ ⊗ₖ A₂ := by
  rw [← h₁, ← h₂, ← kroneckerMap_transpose, ← mul_kronecker_mul]

/-- … and in the library's flat row-major index order (`KroneckerProductTriangularLinearOperator`) the
factor is lower triangular and factorizes the flat Kronecker product — all sizes. -/
theorem kronChol {m p : Nat} (L₁ A₁ : Matrix (Fin m) (Fin m) α) (L₂ A₂ : Matrix (Fin p) (Fin p) α)
    (h₁ : L₁ * L₁ᵀ = A₁) (h₂ : L₂ * L₂ᵀ = A₂) (t₁ : LowerTri L₁) (t₂ : LowerTri L₂) :
    LowerTri (kronM L₁ L₂) ∧ kronM L₁ L₂ * (kronM L₁ L₂)ᵀ = kronM A₁ A₂ := by
  refine ⟨kron_lowerTri t₁ t₂, ?_⟩
  unfold kronM
  rw [kron_eq_kronecker, kron_eq_kronecker, ← kronChol_factorizes L₁ A₁ L₂ A₂ h₁ h₂]
  simp [Matrix.reindex_apply, Matrix.submatrix_mul_equiv]

/-- `BlockInterleavedLinearOperator._cholesky` (index `(row, block)`, block fastest) and
`BlockDiagLinearOperator._cholesky`: block-diagonal of the blocks' factors factorizes the block-diagonal. -/
theorem block_chol {o : Type} [Fintype o] [DecidableEq o] (L A : o → Matrix n n α)
    (h : ∀ b, L b * (L b)ᵀ = A b) : blockDiagonal L * (blockDiagonal L)ᵀ = blockDiagonal A := by
  rw [blockDiagonal_transpose, ← blockDiagonal_mul]
  congr 1; funext b; exact h b

/-- Triangularity of the block factor in the interleaved order (lexicographic on `(row, block)`). -/
theorem blockInterleaved_chol_lowerTri {o ι : Type} [DecidableEq o] [LinearOrder ι] [LT o]
    (L : o → Matrix ι ι α) (h : ∀ b, LowerTri (L b)) (i j : ι) (b b' : o)
    (hlt : i < j ∨ (i = j ∧ b < b')) (hirr : ∀ x : o, ¬ x < x) : blockDiagonal L (i, b) (j, b') = 0 := by
  refine blockDiagonal_lowerTri h fun hb => hlt.elim id fun h2 => ?_
  subst hb
  exact absurd h2.2 (hirr b)

/-- Triangularity in the block-major order of `BlockDiagLinearOperator` (lexicographic on `(block, row)`). -/
theorem blockDiag_chol_lowerTri {o ι : Type} [DecidableEq o] [LT ι] [LT o]
    (L : o → Matrix ι ι α) (h : ∀ b, LowerTri (L b)) (i j : ι) (b b' : o)
    (hlt : b < b' ∨ (b = b' ∧ i < j)) (hirr : ∀ x : o, ¬ x < x) : blockDiagonal L (i, b) (j, b') = 0 := by
  refine blockDiagonal_lowerTri h fun hb => hlt.elim (fun h1 => ?_) (·.2)
  subst hb
  exact absurd h1 (hirr b)

/-- `BatchRepeatLinearOperator._cholesky`: batch member `b` of the repeated factor is the factor of base
member `b % r`, hence factorizes batch member `b` of the repeated operator. -/
theorem batchRepeat_chol {r : Nat} (hr : 0 < r) (L A : Fin r → Matrix n n α) (h : ∀ b, L b * (L b)ᵀ = A b)
    (b : Nat) : L ⟨b % r, Nat.mod_lt _ hr⟩ * (L ⟨b % r, Nat.mod_lt _ hr⟩)ᵀ = A ⟨b % r, Nat.mod_lt _ hr⟩ := h _

/-- `CholLinearOperator(R, upper=True)` (meaning `RᵀR`): `cholesky(upper=True)` returns `R` itself and
`cholesky(upper=False)` its transpose, which is lower triangular with `L Lᵀ = RᵀR`. -/
theorem cholUpper_cholesky {m : Nat} (R A : Matrix (Fin m) (Fin m) α) (hR : Rᵀ * R = A) (hT : UpperTri R) :
    (UpperTri R ∧ Rᵀ * R = A) ∧ (LowerTri Rᵀ ∧ Rᵀ * (Rᵀ)ᵀ = A) := by
  refine ⟨⟨hT, hR⟩, fun i j hij => hT j i hij, ?_⟩
  rw [transpose_transpose]; exact hR

/-- `CholLinearOperator(R, upper=True).root_decomposition()` returns `RootLinearOperator(Rᵀ)`: `B = Rᵀ`
satisfies `B Bᵀ = RᵀR`; `root_inv_decomposition()` returns `RootLinearOperator(R⁻¹)`: `R⁻¹ R⁻ᵀ (RᵀR) = I`. -/
theorem cholUpper_roots (R Ri A : Matrix n n α) (hR : Rᵀ * R = A) (hi : R * Ri = 1) :
    Rᵀ * (Rᵀ)ᵀ = A ∧ Ri * Riᵀ * A = 1 := by
  refine ⟨by rw [transpose_transpose]; exact hR, ?_⟩
  have h := paired_gram (X := Ri) (Y := Rᵀ) (by rw [← transpose_mul, hi, transpose_one])
    (by rw [transpose_transpose]; exact mul_eq_one_comm.1 hi)
  rwa [transpose_transpose, hR] at h

/-! ### Roots per method -/

/-- `scaleCols` of the model is right multiplication by a diagonal matrix. -/
theorem scaleCols_eq {a b : Nat} (Q : Matrix (Fin a) (Fin b) α) (v : Fin b → α) :
    (scaleCols Q v : Matrix (Fin a) (Fin b) α) = Q * diagonal v := by
  ext i j; simp [scaleCols, Matrix.mul_diagonal]

/-- `root_decomposition(method="symeig"|"diagonalization")`: `R = Q·diag(√w)`. -/
theorem root_method_symeig (Q : Matrix n k α) (A : Matrix n n α) (w s : k → α)
    (hA : Q * diagonal w * Qᵀ = A) (hs : ∀ i, s i * s i = w i) :
    (Q * diagonal s) * (Q * diagonal s)ᵀ = A := by
  rw [scaled_gram, funext hs, hA]

/-- `root_decomposition(method="svd")`: `R = U·diag(√S)` with `U = Q·sign(w)`, `S = |w|`; a root of `A`
exactly when `sign(w)²·|w| = w`, i.e. for `w ≥ 0`. -/
theorem root_method_svd (Q : Matrix n k α) (A : Matrix n n α) (w sg ab s : k → α)
    (hA : Q * diagonal w * Qᵀ = A) (hs : ∀ i, s i * s i = ab i) (hw : ∀ i, sg i * sg i * ab i = w i) :
    ((Q * diagonal sg) * diagonal s) * ((Q * diagonal sg) * diagonal s)ᵀ = A := by
  rw [Matrix.mul_assoc Q, diagonal_mul_diagonal]
  exact root_method_symeig Q A w _ hA fun i => by rw [← hw i, ← hs i]; ring

/-- `root_inv_decomposition(method="symeig"|"svd"|"diagonalization")`: `R = Q·diag(1/√w)` (the clamp
`1e-7` is inactive for `w ≥ 1e-7`): `R Rᵀ A = I`. -/
theorem rootInv_method_symeig (Q : Matrix n k α) (A : Matrix n n α) (w t : k → α)
    (hQ : Qᵀ * Q = 1) (hQ' : Q * Qᵀ = 1) (hA : Q * diagonal w * Qᵀ = A) (ht : ∀ i, t i * t i * w i = 1) :
    (Q * diagonal t) * (Q * diagonal t)ᵀ * A = 1 := by
  rw [scaled_gram, ← hA, conj_mul_conj Q hQ, funext ht, diagonal_one, Matrix.mul_one, hQ']

/-- `root_decomposition(method="cholesky")` returns `CholLinearOperator(L)` whose root is `L`. -/
theorem root_from_chol (L A : Matrix n n α) (hL : L * Lᵀ = A) : L * Lᵀ = A := hL

/-- `root_inv_decomposition(method="cholesky")`: `R = (L⁻¹)ᵀ` from a triangular solve against `I`. -/
theorem rootInv_from_chol (L Li A : Matrix n n α) (hL : L * Lᵀ = A) (hi : L * Li = 1) :
    Liᵀ * (Liᵀ)ᵀ * A = 1 := by
  rw [← hL]
  exact paired_gram (by rw [transpose_transpose]; exact mul_eq_one_comm.1 hi)
    (by rw [← transpose_mul, hi, transpose_one])

/-- `cat_rows` (Cholesky branch): with `Z = [[E, 0], [F, G]]` lower triangular, `Z Zᵀ = C`, the cached inverse
root must be `(Z⁻¹)ᵀ`: `(Z⁻¹)ᵀ ((Z⁻¹)ᵀ)ᵀ C = I`. -/
theorem catRows_rootInv (Z Zi C : Matrix n n α) (hZ : Z * Zᵀ = C) (hi : Z * Zi = 1) :
    Ziᵀ * (Ziᵀ)ᵀ * C = 1 := rootInv_from_chol Z Zi C hZ hi

/-- … whereas `Z⁻¹` itself (the transpose forgotten) is in general **not** an inverse root:
`Z = [[1,0],[1,1]]`, `Z⁻¹ Z⁻ᵀ · Z Zᵀ ≠ I`. -/
theorem catRows_rootInv_untransposed_counterexample :
    ∃ (Z Zi : Matrix (Fin 2) (Fin 2) ℚ), Z * Zi = 1 ∧ Zi * Ziᵀ * (Z * Zᵀ) ≠ 1 :=
  ⟨!![1, 0; 1, 1], !![1, 0; -1, 1], by decide +kernel⟩

/-- `root_inv_decomposition(method="pinverse")`: `P = pinv(R)ᵀ` with `pinv(R) = Rᵀ(R Rᵀ)⁻¹` for a root of
full row rank: `P Pᵀ A = I`. -/
theorem pinverse_rootInv (R : Matrix n k α) (A Ai : Matrix n n α) (hR : R * Rᵀ = A) (hAi : Ai * A = 1) :
    (Rᵀ * Ai)ᵀ * ((Rᵀ * Ai)ᵀ)ᵀ * A = 1 := by
  -- `P Pᵀ A = Aiᵀ (R Rᵀ) Ai A = Aiᵀ A`, and `Aiᵀ A = (A Ai)ᵀ = 1` because `A = R Rᵀ` is symmetric
  have hsym : Aᵀ = A := by rw [← hR, transpose_mul, transpose_transpose]
  have hAit : Aiᵀ * A = 1 := by
    rw [← transpose_one, ← mul_eq_one_comm.1 hAi, transpose_mul, hsym]
  rw [transpose_mul Rᵀ Ai, transpose_transpose, gram_mul, transpose_transpose, hR, Matrix.mul_assoc, hAi,
    Matrix.mul_one, hAit]

/-- `ConstantMulLinearOperator.root_decomposition` (`c ≥ 0`): `√c·R`. -/
theorem constMul_root (R : Matrix n k α) (A : Matrix n n α) (c r : α) (hR : R * Rᵀ = A) (hr : r * r = c) :
    (r • R) * (r • R)ᵀ = c • A := by
  rw [smul_gram, hr, hR]

/-- `ConstantMulLinearOperator.root_inv_decomposition` (`c > 0`, /repo c4c33aa): the base operator's inverse root
`R₀` (`R₀ R₀ᵀ = A⁻¹`, stated as `R₀ R₀ᵀ A = 1`) scaled by `ri = c^{-1/2}` (contract of `self._constant ** -0.5`:
`ri·ri·c = 1`) is an inverse root of `c·A`: `(ri R₀)(ri R₀)ᵀ (cA) = 1`, i.e. `R Rᵀ = (cA)⁻¹`.  All sizes, any
(also rectangular: truncated Lanczos) root shape, any commutative ring. -/
theorem constMul_rootInv (R₀ : Matrix n k α) (A : Matrix n n α) (c ri : α) (hR : R₀ * R₀ᵀ * A = 1)
    (hri : ri * ri * c = 1) : (ri • R₀) * (ri • R₀)ᵀ * (c • A) = 1 := by
  rw [smul_gram, Matrix.smul_mul, Matrix.mul_smul, smul_smul, hri, one_smul, hR]

/-- … and the other side (`(cA)·R Rᵀ = 1`), so `R Rᵀ` is the two-sided inverse of `c·A`. -/
theorem constMul_rootInv_left (R₀ : Matrix n k α) (A : Matrix n n α) (c ri : α) (hR : R₀ * R₀ᵀ * A = 1)
    (hri : ri * ri * c = 1) : (c • A) * ((ri • R₀) * (ri • R₀)ᵀ) = 1 :=
  mul_eq_one_comm.1 (constMul_rootInv R₀ A c ri hR hri)

/-- The point of the override (the former defect: `add_low_rank` / `cat_rows` combine the cached root `L` and
inverse root `R` of the same operator and need `Lᵀ R = I`): if the base pair is paired, `L₀ᵀ R₀ = 1`, then the
ConstantMul pair `L = √c·L₀` (`constMul_root`), `R = c^{-1/2}·R₀` is paired, for every `r, ri` with `r·ri = 1`
(`√c · c^{-1/2} = 1`).  Rectangular roots allowed (`L₀, R₀ : n × k`). -/
theorem constMul_roots_paired (L₀ R₀ : Matrix n k α) (r ri : α) (hP : L₀ᵀ * R₀ = 1) (h : r * ri = 1) :
    (r • L₀)ᵀ * (ri • R₀) = 1 := by
  rw [transpose_smul, Matrix.smul_mul, Matrix.mul_smul, smul_smul, h, one_smul, hP]

/-- … and in the other order `Rᵀ L = 1`. -/
theorem constMul_roots_paired_swap (L₀ R₀ : Matrix n k α) (r ri : α) (hP : R₀ᵀ * L₀ = 1) (h : r * ri = 1) :
    (ri • R₀)ᵀ * (r • L₀) = 1 :=
  constMul_roots_paired R₀ L₀ ri r hP (by rw [mul_comm]; exact h)

/-- The two scalar contracts fit together: `r·r = c` (`** 0.5`) and `r·ri = 1` give the hypothesis of
`constMul_rootInv`, `ri·ri·c = 1`. -/
theorem constMul_scalars (c r ri : α) (hr : r * r = c) (h : r * ri = 1) : ri * ri * c = 1 := by
  rw [← hr]; calc ri * ri * (r * r) = (r * ri) * (r * ri) := by ring
    _ = 1 := by rw [h, mul_one]

/-- The executable `constMulRoot` of the model (what the correspondence cells compare with the library's
`ConstantMulLinearOperator(base_root, s)`) is the scalar multiple the theorems above are about. -/
theorem constMulRoot_eq_smul {p q : Nat} (s : α) (R : Matrix (Fin p) (Fin q) α) : constMulRoot s R = s • R := by
  ext i j; rfl

/-- Selection model of the override (`constMulDelegate`): with an all-positive constant the outcome is the base
operator's outcome for the same method re-wrapped as a `RootLinearOperator` (same primitives, errors propagate);
otherwise it is the base-class outcome on the operator itself. -/
theorem constMulDelegate_spec (base own : Outcome) :
    (∀ p cl, base = .ok p cl → constMulDelegate true base own = .ok p "Root") ∧
      (∀ e, base = .error e → constMulDelegate true base own = .error e) ∧
      constMulDelegate false base own = own := by
  refine ⟨?_, ?_, rfl⟩
  · rintro p cl rfl; rfl
  · rintro e rfl; rfl

/-- The state before /repo c4c33aa, kept as a named statement: the base-class inverse root of `c·A` computed by its
own factorization (`R = (c·A)^{-1/2}` from e.g. Cholesky of `cA`) is a valid inverse root, but it is NOT in general
paired with the override's root `√c·L₀`: over ℚ, `A = [[4,2],[2,10]]`, `c = 4`, `L₀ = chol(A)` and the symmetric
inverse root `R = (1/2)·A^{-1/2}`-style choice `R = (1/2)·L₀^{-ᵀ}·Q` with a rotation/reflection `Q ≠ I` give
`Lᵀ R = Q ≠ I` although both factorize. -/
theorem previous_constMul_unpaired_counterexample :
    ∃ (L R A : Matrix (Fin 2) (Fin 2) ℚ), L * Lᵀ = A ∧ R * Rᵀ * A = 1 ∧ Lᵀ * R ≠ 1 :=
  ⟨!![2, 0; 0, 1], !![0, 1/2; 1, 0], !![4, 0; 0, 1], by decide +kernel⟩

/-! ### Eigendecompositions and SVD -/

/-- Base `_svd` from `_symeig`: `U = Q·sign(w)`, `S = |w|`, `V = Q` reconstructs `A`, `S ≥ 0` and `V` is
orthonormal; `U` is orthonormal when no eigenvalue is zero (`sign² = 1`).  Abstract sign/abs. -/
theorem svd_from_symeig (Q : Matrix n n α) (A : Matrix n n α) (w sg ab : n → α)
    (hQ : Qᵀ * Q = 1) (hA : Q * diagonal w * Qᵀ = A) (hw : ∀ i, sg i * ab i = w i) :
    (Q * diagonal sg) * diagonal ab * Qᵀ = A ∧ Qᵀ * Q = 1 ∧
      ((∀ i, sg i * sg i = 1) → (Q * diagonal sg)ᵀ * (Q * diagonal sg) = 1) := by
  refine ⟨?_, hQ, ?_⟩
  · rw [Matrix.mul_assoc Q, diagonal_mul_diagonal, funext hw, hA]
  · intro hs
    rw [transpose_mul, diagonal_transpose, Matrix.mul_assoc, ← Matrix.mul_assoc Qᵀ, hQ, Matrix.one_mul]
    exact diagonal_mul_diagonal_eq_one hs

/-- The same over an ordered field with the real `sign` and `|·|` (what `torch.sign/abs` compute). -/
theorem svd_from_symeig_ordered {F : Type} [Field F] [LinearOrder F] [IsStrictOrderedRing F]
    (Q A : Matrix n n F) (w : n → F) (hQ : Qᵀ * Q = 1) (hA : Q * diagonal w * Qᵀ = A) :
    (Q * diagonal fun i => (SignType.sign (w i) : F)) * diagonal (fun i => |w i|) * Qᵀ = A ∧
      (∀ i, 0 ≤ |w i|) ∧
      ((∀ i, w i ≠ 0) → (Q * diagonal fun i => (SignType.sign (w i) : F))ᵀ *
        (Q * diagonal fun i => (SignType.sign (w i) : F)) = 1) := by
  have h := svd_from_symeig Q A w (fun i => (SignType.sign (w i) : F)) (fun i => |w i|) hQ hA
    (fun i => sign_mul_abs (w i))
  refine ⟨h.1, fun i => abs_nonneg _, fun hne => h.2.2 fun i => ?_⟩
  rcases lt_or_gt_of_ne (hne i) with hx | hx
  · rw [sign_neg hx, SignType.coe_neg_one, neg_mul_neg, one_mul]
  · rw [sign_pos hx, SignType.coe_one, one_mul]

/-- With `torch.sign` (base `_svd` before /repo 7dafb2f) an eigenvalue that is exactly zero (a singular PSD operator; the
base `_symeig` clamps tiny negative eigenvalues to exactly `0.0`) makes the corresponding column of `U` zero, so `U` is
**not** orthonormal: here `A = diag(1, 0)`, `Q = I`. -/
theorem svd_sign_zero_counterexample :
    ∃ (Q : Matrix (Fin 2) (Fin 2) ℚ) (w : Fin 2 → ℚ), Qᵀ * Q = 1 ∧
      (Q * diagonal fun i => (SignType.sign (w i) : ℚ))ᵀ * (Q * diagonal fun i => (SignType.sign (w i) : ℚ)) ≠ 1 :=
  ⟨1, ![1, 0], by decide +kernel⟩

/-- `KroneckerProductLinearOperator._symeig/_svd`: eigendecomposition of `A ⊗ B` from the factors'. -/
theorem kron_symeig {m : Type} [Fintype m] [DecidableEq m] (Q₁ A₁ : Matrix n n α) (Q₂ A₂ : Matrix m m α)
    (w₁ : n → α) (w₂ : m → α) (h₁ : Q₁ᵀ * Q₁ = 1) (h₂ : Q₂ᵀ * Q₂ = 1)
    (a₁ : Q₁ * diagonal w₁ * Q₁ᵀ = A₁) (a₂ : Q₂ * diagonal w₂ * Q₂ᵀ = A₂) :
    (Q₁ ⊗ₖ Q₂)ᵀ * (Q₁ ⊗ₖ Q₂) = 1 ∧
      (Q₁ ⊗ₖ Q₂) * diagonal (fun p : n × m => w₁ p.1 * w₂ p.2) * (Q₁ ⊗ₖ Q₂)ᵀ = A₁ ⊗ₖ A₂ := by
  constructor
  · rw [← kroneckerMap_transpose, ← mul_kronecker_mul, h₁, h₂, one_kronecker_one]
  · rw [← diagonal_kronecker_diagonal, ← kroneckerMap_transpose, ← mul_kronecker_mul, ← mul_kronecker_mul, a₁, a₂]

/-- `AddedDiagLinearOperator._symeig/_svd`, `KroneckerProductAddedDiagLinearOperator._symeig` with a
constant diagonal: same eigenvectors, eigenvalues shifted by `c`. -/
theorem addedDiagConst_symeig (Q A : Matrix n n α) (w : n → α) (c : α) (hQ' : Q * Qᵀ = 1)
    (hA : Q * diagonal w * Qᵀ = A) : Q * diagonal (fun i => w i + c) * Qᵀ = A + c • (1 : Matrix n n α) := by
  rw [← diagonal_add, ← smul_one_eq_diagonal, Matrix.mul_add, Matrix.add_mul, hA, Matrix.mul_smul, Matrix.smul_mul,
    Matrix.mul_one, hQ']

/-- `BlockDiag/BlockInterleaved._symeig`: block-diagonal of the eigenvector blocks is orthogonal and
diagonalizes the block-diagonal operator, eigenvalues concatenated in the same index order. -/
theorem block_symeig {o : Type} [Fintype o] [DecidableEq o] (Q A : o → Matrix n n α) (w : o → n → α)
    (hQ : ∀ b, (Q b)ᵀ * Q b = 1) (hA : ∀ b, Q b * diagonal (w b) * (Q b)ᵀ = A b) :
    (blockDiagonal Q)ᵀ * blockDiagonal Q = 1 ∧
      blockDiagonal Q * diagonal (fun p : n × o => w p.2 p.1) * (blockDiagonal Q)ᵀ = blockDiagonal A := by
  constructor
  · rw [blockDiagonal_transpose, ← blockDiagonal_mul, funext hQ]; exact blockDiagonal_one
  · rw [← blockDiagonal_diagonal, blockDiagonal_transpose, ← blockDiagonal_mul, ← blockDiagonal_mul, funext hA]

/-! ### KroneckerProductAddedDiagLinearOperator roots (D13) -/

/-- `_root_decomposition`, constant diagonal: `R = Q (Λ + cI)^{1/2}`. -/
theorem kpadlo_root_const (Q K : Matrix n n α) (w s : n → α) (c : α) (hQ' : Q * Qᵀ = 1)
    (hK : Q * diagonal w * Qᵀ = K) (hs : ∀ i, s i * s i = w i + c) :
    (Q * diagonal s) * (Q * diagonal s)ᵀ = K + c • (1 : Matrix n n α) := by
  rw [← addedDiagConst_symeig Q K w c hQ' hK]
  exact root_method_symeig Q _ _ s rfl hs

/-- `_root_inv_decomposition`, constant diagonal: `R = Q (Λ + cI)^{-1/2}` is an inverse root. -/
theorem kpadlo_rootInv_const (Q K : Matrix n n α) (w t : n → α) (c : α) (hQ : Qᵀ * Q = 1) (hQ' : Q * Qᵀ = 1)
    (hK : Q * diagonal w * Qᵀ = K) (ht : ∀ i, t i * t i * (w i + c) = 1) :
    (Q * diagonal t) * (Q * diagonal t)ᵀ * (K + c • (1 : Matrix n n α)) = 1 :=
  rootInv_method_symeig Q _ _ t hQ hQ' (addedDiagConst_symeig Q K w c hQ' hK) ht

/-- `_root_decomposition`, Kronecker diagonal with constant factors (`D = d·I`, `d = Π aᵢ`, `r = √d`):
`R = (r·Q)(Λ/d + I)^{1/2}` is a root of `K + D`.  `di` is `1/d`. -/
theorem kpadlo_root_kronConst (Q K : Matrix n n α) (w s : n → α) (d di r : α) (hQ' : Q * Qᵀ = 1)
    (hK : Q * diagonal w * Qᵀ = K) (hr : r * r = d) (hd : d * di = 1) (hs : ∀ i, s i * s i = w i * di + 1) :
    ((r • Q) * diagonal s) * ((r • Q) * diagonal s)ᵀ = K + d • (1 : Matrix n n α) := by
  have e : (d • fun i => s i * s i) = fun i => w i + d := funext fun i => by
    rw [Pi.smul_apply, smul_eq_mul, hs i, mul_add, mul_one, mul_left_comm, hd, mul_one]
  rw [← addedDiagConst_symeig Q K w d hQ' hK, smul_scaled_gram, hr, ← Matrix.smul_mul, ← Matrix.mul_smul, ← diagonal_smul, e]

/-- **D13, first branch, as it was written before /repo 3288416**: the inverse root is built with the *same* scaling
`r = √d` of the eigenvectors, `R = (r·Q)(Λ/d + I)^{-1/2}`; then `R Rᵀ (K + D) = d²·I`, an inverse root only if `d² = 1`. -/
theorem kpadlo_rootInv_kronConst_asWritten (Q K : Matrix n n α) (w t : n → α) (d di r : α)
    (hQ : Qᵀ * Q = 1) (hQ' : Q * Qᵀ = 1) (hK : Q * diagonal w * Qᵀ = K) (hr : r * r = d) (hd : d * di = 1)
    (ht : ∀ i, t i * t i * (w i * di + 1) = 1) :
    ((r • Q) * diagonal t) * ((r • Q) * diagonal t)ᵀ * (K + d • (1 : Matrix n n α)) = (d * d) • (1 : Matrix n n α) := by
  subst hr
  exact scaled_gram_mul_conj Q _ _ t r (r * r) hQ hQ' (addedDiagConst_symeig Q K w _ hQ' hK)
    fun i => kpadlo_scalar hd (ht i)

/-- Counterexample for that branch (`K = [12]`, `D = [4]`): the hypotheses of
the formula hold and `R Rᵀ (K + D) = 16 ≠ 1`. -/
theorem kpadlo_rootInv_kronConst_counterexample :
    ∃ (Q K : Matrix (Fin 1) (Fin 1) ℚ) (w t : Fin 1 → ℚ) (d r : ℚ),
      Qᵀ * Q = 1 ∧ Q * diagonal w * Qᵀ = K ∧ r * r = d ∧ (∀ i, t i * t i * (w i / d + 1) = 1) ∧
      ((r • Q) * diagonal t) * ((r • Q) * diagonal t)ᵀ * (K + d • (1 : Matrix (Fin 1) (Fin 1) ℚ)) ≠ 1 :=
  ⟨1, diagonal ![12], ![12], ![1 / 2], 4, 2, by decide +kernel⟩

/-- … and as corrected by /repo 3288416 (`evec_ * dlt_.diag_values.rsqrt()`, `ri = 1/√d`):
`R = (ri·Q)(Λ/d + I)^{-1/2}` satisfies `R Rᵀ (K + D) = I`. -/
theorem kpadlo_rootInv_kronConst_fixed (Q K : Matrix n n α) (w t : n → α) (d di ri : α)
    (hQ : Qᵀ * Q = 1) (hQ' : Q * Qᵀ = 1) (hK : Q * diagonal w * Qᵀ = K) (hr : ri * ri = di) (hd : d * di = 1)
    (ht : ∀ i, t i * t i * (w i * di + 1) = 1) :
    ((ri • Q) * diagonal t) * ((ri • Q) * diagonal t)ᵀ * (K + d • (1 : Matrix n n α)) = 1 := by
  have h := scaled_gram_mul_conj Q _ _ t ri d hQ hQ' (addedDiagConst_symeig Q K w d hQ' hK)
    fun i => kpadlo_scalar hd (ht i)
  rwa [hr, mul_comm, hd, one_smul] at h

/-- `_root_decomposition`, symmetrised branch: with `Dh² = D`, `Dhi = Dh⁻¹` (diagonal matrices) and the
eigendecomposition `Q̃ Λ̃ Q̃ᵀ = Dhi K Dhi`, `R = Dh Q̃ (Λ̃ + I)^{1/2}` is a root of `K + D`. -/
theorem kpadlo_root_symm (Q K : Matrix n n α) (w s dh dhi : n → α) (hQ' : Q * Qᵀ = 1)
    (hS : Q * diagonal w * Qᵀ = diagonal dhi * K * diagonal dhi) (hdi : ∀ i, dh i * dhi i = 1)
    (hs : ∀ i, s i * s i = w i + 1) :
    (diagonal dh * (Q * diagonal s)) * (diagonal dh * (Q * diagonal s))ᵀ
      = K + diagonal (fun i => dh i * dh i) := by
  have h1 : diagonal dh * diagonal dhi = (1 : Matrix n n α) := diagonal_mul_diagonal_eq_one hdi
  rw [gram_mul, kpadlo_root_const Q _ w s 1 hQ' hS hs, one_smul, diagonal_transpose,
    conj_cancel_add K 1 h1 (mul_eq_one_comm.1 h1), Matrix.mul_one, diagonal_mul_diagonal]

/-- **D13, second branch, corrected** (`dlt_inv_root` used as it is, not inverted again):
`R = Dhi Q̃ (Λ̃ + I)^{-1/2}` satisfies `R Rᵀ (K + D) = I`. -/
theorem kpadlo_rootInv_symm_fixed (Q K : Matrix n n α) (w t dh dhi : n → α) (hQ : Qᵀ * Q = 1) (hQ' : Q * Qᵀ = 1)
    (hS : Q * diagonal w * Qᵀ = diagonal dhi * K * diagonal dhi) (hdi : ∀ i, dh i * dhi i = 1)
    (ht : ∀ i, t i * t i * (w i + 1) = 1) :
    (diagonal dhi * (Q * diagonal t)) * (diagonal dhi * (Q * diagonal t))ᵀ
      * (K + diagonal (fun i => dh i * dh i)) = 1 := by
  have h1 : diagonal dh * diagonal dhi = (1 : Matrix n n α) := diagonal_mul_diagonal_eq_one hdi
  have h2 : diagonal dhi * diagonal dh = (1 : Matrix n n α) := mul_eq_one_comm.1 h1
  have hM := kpadlo_rootInv_const Q _ w t 1 hQ hQ' hS ht
  rw [one_smul] at hM
  have h := rootInv_congr hM h2
  rwa [diagonal_transpose, diagonal_transpose, conj_cancel_add K 1 h1 h2, Matrix.mul_one, diagonal_mul_diagonal] at h

/-- **D13, second branch, as it was written before /repo 3288416** (`dlt_sqrt.inverse()` = `D^{1/2}` used where `D^{-1/2}` is needed):
counterexample `K = [12]`, `D = [4]`: `R = 2·1·(1/2) = 1`, `R Rᵀ (K + D) = 16 ≠ 1`. -/
theorem kpadlo_rootInv_symm_counterexample :
    ∃ (Q K : Matrix (Fin 1) (Fin 1) ℚ) (w t dh dhi : Fin 1 → ℚ),
      Qᵀ * Q = 1 ∧ Q * diagonal w * Qᵀ = diagonal dhi * K * diagonal dhi ∧ (∀ i, dh i * dhi i = 1) ∧
      (∀ i, t i * t i * (w i + 1) = 1) ∧
      (diagonal dh * (Q * diagonal t)) * (diagonal dh * (Q * diagonal t))ᵀ * (K + diagonal (fun i => dh i * dh i)) ≠ 1 :=
  ⟨1, diagonal ![12], ![3], ![1 / 2], ![2], ![1 / 2], by decide +kernel⟩

/-- The spectra the driver predicts for the constant-factor branch: corrected = `1/(λ+d)`, as written =
`d²/(λ+d)` (over a field, `d ≠ 0`, `λ + d ≠ 0`). -/
theorem kpadloConstInvSpectrum_spec {F : Type} [Field F] (d : F) (lam : List F) (hd : d ≠ 0)
    (hl : ∀ l ∈ lam, l + d ≠ 0) :
    kpadloConstInvSpectrumFixed d lam = lam.map (fun l => 1 / (l + d)) ∧
      kpadloConstInvSpectrumAsWritten d lam = lam.map (fun l => d * d / (l + d)) := by
  constructor <;> refine List.map_congr_left fun l _ => ?_
  · rw [div_add_one hd, div_div_div_cancel_right₀ hd]
  · rw [div_add_one hd, div_div_eq_mul_div]

/-! ### SumKronecker, Lanczos -/

/-- `SumKroneckerLinearOperator._root_decomposition`: with `S` a root of `C`, `Rc` the inverse root used in
`_sum_formulation` (`M = Rcᵀ A Rc + I`), `T` a root of `M`: `S·T` is a root of `A + C` **provided the two
roots of `C` are consistent**, `S Rcᵀ = I` (true for the Cholesky pair `L, L⁻ᵀ` and the symeig pair
`QΛ^{1/2}, QΛ^{-1/2}`; not for two independent Lanczos runs). -/
theorem sumKron_root (A C S Rc T : Matrix n n α) (hS : S * Sᵀ = C) (hSR : S * Rcᵀ = 1)
    (hT : T * Tᵀ = Rcᵀ * A * Rc + 1) : (S * T) * (S * T)ᵀ = A + C := by
  have hSR' : Rc * Sᵀ = 1 := by
    have := congrArg transpose hSR
    rwa [transpose_mul, transpose_transpose, transpose_one] at this
  rw [gram_mul, hT, conj_cancel_add A 1 hSR hSR', Matrix.mul_one, hS]

/-- `SumKroneckerLinearOperator._root_inv_decomposition`: `Rc·Ti` with `Rc Rcᵀ C = I` and `Ti Tiᵀ M = I`. -/
theorem sumKron_rootInv (A C Rc Rci Ti : Matrix n n α) (hC : Rci * Rciᵀ = C) (hi : Rc * Rciᵀ = 1)
    (hT : Ti * Tiᵀ * (Rcᵀ * A * Rc + 1) = 1) : (Rc * Ti) * (Rc * Ti)ᵀ * (A + C) = 1 := by
  -- `Rci = Rc⁻ᵀ`, so `A + C = Rci (Rcᵀ A Rc + 1) Rciᵀ`: the inverse root of the inner matrix is carried along
  have hi4 : Rci * Rcᵀ = 1 := by
    have := congrArg transpose hi
    rwa [transpose_mul, transpose_transpose, transpose_one] at this
  have h := rootInv_congr hT (mul_eq_one_comm.1 hi4)
  rwa [transpose_transpose, conj_cancel_add A 1 hi4 hi, Matrix.mul_one, hC] at h

/-- `RootDecomposition.forward` (Lanczos): with `Q` (n×k, orthonormal columns) and the eigendecomposition
`V Θ Vᵀ = T + j·I` of the jittered tridiagonal matrix, `R = (Q V) Θ^{1/2}` satisfies `R Rᵀ = Q (T + jI) Qᵀ`:
the (jittered) orthogonal compression of `A` onto the Krylov space when `T = Qᵀ A Q`. -/
theorem lanczos_root_is_compression (Q : Matrix n k α) (V T : Matrix k k α) (th s : k → α) (j : α)
    (hV : V * diagonal th * Vᵀ = T + j • (1 : Matrix k k α)) (hs : ∀ i, s i * s i = th i) :
    ((Q * V) * diagonal s) * ((Q * V) * diagonal s)ᵀ = Q * (T + j • (1 : Matrix k k α)) * Qᵀ := by
  rw [Matrix.mul_assoc Q V, gram_mul, scaled_gram, funext hs, hV]

/-- Once the Krylov space is everything (`Q` square orthogonal, `T = Qᵀ A Q`) the Lanczos root is a root
of `A` up to the documented jitter: `R Rᵀ = A + j·I`. -/
theorem lanczos_root_full (Q A V : Matrix n n α) (th s : n → α) (j : α) (hQ' : Q * Qᵀ = 1)
    (hV : V * diagonal th * Vᵀ = Qᵀ * A * Q + j • (1 : Matrix n n α)) (hs : ∀ i, s i * s i = th i) :
    ((Q * V) * diagonal s) * ((Q * V) * diagonal s)ᵀ = A + j • (1 : Matrix n n α) := by
  rw [lanczos_root_is_compression Q V _ th s j hV hs, conj_cancel_add A _ hQ' hQ', Matrix.mul_smul, Matrix.mul_one,
    Matrix.smul_mul, hQ']

/-- … and the Lanczos inverse root `(Q V) Θ^{-1/2}` inverts `A + j·I` in that case. -/
theorem lanczos_rootInv_full (Q A V : Matrix n n α) (th t : n → α) (j : α) (hQ : Qᵀ * Q = 1) (hQ' : Q * Qᵀ = 1)
    (hV1 : Vᵀ * V = 1) (hV1' : V * Vᵀ = 1)
    (hV : V * diagonal th * Vᵀ = Qᵀ * A * Q + j • (1 : Matrix n n α)) (ht : ∀ i, t i * t i * th i = 1) :
    ((Q * V) * diagonal t) * ((Q * V) * diagonal t)ᵀ * (A + j • (1 : Matrix n n α)) = 1 := by
  -- `V Θ^{-1/2}` is an inverse root of `Qᵀ A Q + j·1`; carry it along the congruence by the orthogonal `Q`
  have h := rootInv_congr (rootInv_method_symeig V _ th t hV1 hV1' hV ht) hQ
  rwa [transpose_transpose, ← Matrix.mul_assoc Q V, conj_cancel_add A _ hQ' hQ', Matrix.mul_smul, Matrix.mul_one,
    Matrix.smul_mul, hQ'] at h

/-! ### Overrides of `_symeig` / `_svd` (Diag, Identity, Kronecker `_svd`, BatchRepeat), sign conventions -/

/-- `DiagLinearOperator._symeig` / `IdentityLinearOperator._symeig`: eigenvalues = the diagonal, eigenvectors = `I`. -/
theorem diag_symeig (d : n → α) :
    (1 : Matrix n n α)ᵀ * 1 = 1 ∧ (1 : Matrix n n α) * diagonal d * (1 : Matrix n n α)ᵀ = diagonal d := by
  simp

/-- `DiagLinearOperator._svd` (as corrected by fix_4): `U = I`, `S = |d|`, `V = diag(sign d)` with `sign 0 := +1`:
abstractly, for any `sg, ab` with `sg·ab = d` and `sg² = 1`: `U diag(S) Vᵀ = diag d`, `UᵀU = 1`, `VᵀV = 1`. -/
theorem diag_svd (d sg ab : n → α) (h : ∀ i, sg i * ab i = d i) (h1 : ∀ i, sg i * sg i = 1) :
    (1 : Matrix n n α) * diagonal ab * (diagonal sg)ᵀ = diagonal d ∧ (1 : Matrix n n α)ᵀ * 1 = 1 ∧
      (diagonal sg)ᵀ * diagonal sg = 1 := by
  refine ⟨?_, by simp, ?_⟩
  · rw [Matrix.one_mul, diagonal_transpose, diagonal_mul_diagonal]
    congr 1; funext i; rw [mul_comm]; exact h i
  · rw [diagonal_transpose]; exact diagonal_mul_diagonal_eq_one h1

/-- … with the concrete convention of the code over an ordered field: `signs = where(d < 0, −1, 1)`, `S = |d|`;
also `S ≥ 0`.  Zero and negative diagonal entries included. -/
theorem diag_svd_ordered {F : Type} [Field F] [LinearOrder F] [IsStrictOrderedRing F] (d : n → F) :
    (1 : Matrix n n F) * diagonal (fun i => |d i|) * (diagonal fun i => if d i < 0 then (-1 : F) else 1)ᵀ = diagonal d ∧
      (diagonal fun i => if d i < 0 then (-1 : F) else 1)ᵀ * (diagonal fun i => if d i < 0 then (-1 : F) else 1) = 1 ∧
      ∀ i, 0 ≤ |d i| := by
  have h := diag_svd d _ _ (fun i => signPos_mul_abs (d i)) fun i => signPos_mul_self (d i)
  exact ⟨h.1, h.2.2, fun i => abs_nonneg _⟩

/-- The elementwise product `evecs * signs.unsqueeze(-1)` of the identity-structured eigenvector operator that
`DiagLinearOperator._svd` used before fix_4 keeps only one sign: for `d = (0, 1)` under `sign 0 = 0` the result `V = 0`
is not orthogonal (the `C06/exact/svd-diag/zero-first` cell). -/
theorem diag_svd_zero_sign_counterexample :
    ∃ (sg : Fin 2 → ℚ), (∀ i, sg i = SignType.sign (![0, 1] i : ℚ)) ∧ (diagonal sg)ᵀ * diagonal sg ≠ (1 : Matrix (Fin 2) (Fin 2) ℚ) :=
  ⟨![0, 1], by decide +kernel⟩

/-- `KroneckerProductLinearOperator._svd`: from the factors' SVDs, `U = U₁ ⊗ U₂`, `S = S₁ ⊗ S₂` (the diagonal of the
Kronecker product of the diagonal matrices), `V = V₁ ⊗ V₂`: reconstructs `A₁ ⊗ A₂`, `U`, `V` orthonormal. -/
theorem kron_svd {m : Type} [Fintype m] [DecidableEq m] (U₁ V₁ A₁ : Matrix n n α) (U₂ V₂ A₂ : Matrix m m α)
    (s₁ : n → α) (s₂ : m → α) (hU₁ : U₁ᵀ * U₁ = 1) (hU₂ : U₂ᵀ * U₂ = 1) (hV₁ : V₁ᵀ * V₁ = 1) (hV₂ : V₂ᵀ * V₂ = 1)
    (a₁ : U₁ * diagonal s₁ * V₁ᵀ = A₁) (a₂ : U₂ * diagonal s₂ * V₂ᵀ = A₂) :
    (U₁ ⊗ₖ U₂) * diagonal (fun p : n × m => s₁ p.1 * s₂ p.2) * (V₁ ⊗ₖ V₂)ᵀ = A₁ ⊗ₖ A₂ ∧
      (U₁ ⊗ₖ U₂)ᵀ * (U₁ ⊗ₖ U₂) = 1 ∧ (V₁ ⊗ₖ V₂)ᵀ * (V₁ ⊗ₖ V₂) = 1 := by
  refine ⟨?_, ?_, ?_⟩
  · rw [← diagonal_kronecker_diagonal, ← kroneckerMap_transpose, ← mul_kronecker_mul, ← mul_kronecker_mul, a₁, a₂]
  · rw [← kroneckerMap_transpose, ← mul_kronecker_mul, hU₁, hU₂, one_kronecker_one]
  · rw [← kroneckerMap_transpose, ← mul_kronecker_mul, hV₁, hV₂, one_kronecker_one]

/-- … and the Kronecker singular values are non-negative when the factors' are (ordered field). -/
theorem kron_svd_nonneg {F : Type} [Field F] [LinearOrder F] [IsStrictOrderedRing F] {m : Type} (s₁ : n → F) (s₂ : m → F)
    (h₁ : ∀ i, 0 ≤ s₁ i) (h₂ : ∀ j, 0 ≤ s₂ j) (p : n × m) : 0 ≤ s₁ p.1 * s₂ p.2 :=
  mul_nonneg (h₁ _) (h₂ _)

/-- `BatchRepeatLinearOperator._symeig/_svd`: batch member `b` of the repeated result is the decomposition of base member
`b % r`, hence diagonalizes batch member `b` of the repeated operator. -/
theorem batchRepeat_symeig {r : Nat} (hr : 0 < r) (Q A : Fin r → Matrix n n α) (w : Fin r → n → α)
    (hQ : ∀ b, (Q b)ᵀ * Q b = 1) (hA : ∀ b, Q b * diagonal (w b) * (Q b)ᵀ = A b) (b : Nat) :
    (Q ⟨b % r, Nat.mod_lt _ hr⟩)ᵀ * Q ⟨b % r, Nat.mod_lt _ hr⟩ = 1 ∧
      Q ⟨b % r, Nat.mod_lt _ hr⟩ * diagonal (w ⟨b % r, Nat.mod_lt _ hr⟩) * (Q ⟨b % r, Nat.mod_lt _ hr⟩)ᵀ
        = A ⟨b % r, Nat.mod_lt _ hr⟩ := ⟨hQ _, hA _⟩

/-- Base `_svd` as corrected (fix_4: sign of a zero eigenvalue taken as `+1`): with `sg = where(w < 0, −1, 1)` the factor
`U = Q·diag(sg)` is orthonormal for **every** spectrum (zero and negative eigenvalues included), `S = |w| ≥ 0`,
`U diag(S) Vᵀ = A`. -/
theorem svd_from_symeig_signpos {F : Type} [Field F] [LinearOrder F] [IsStrictOrderedRing F]
    (Q A : Matrix n n F) (w : n → F) (hQ : Qᵀ * Q = 1) (hA : Q * diagonal w * Qᵀ = A) :
    (Q * diagonal fun i => if w i < 0 then (-1 : F) else 1) * diagonal (fun i => |w i|) * Qᵀ = A ∧
      (∀ i, 0 ≤ |w i|) ∧ Qᵀ * Q = 1 ∧
      (Q * diagonal fun i => if w i < 0 then (-1 : F) else 1)ᵀ * (Q * diagonal fun i => if w i < 0 then (-1 : F) else 1) = 1 := by
  have h := svd_from_symeig Q A w _ _ hQ hA fun i => signPos_mul_abs (w i)
  exact ⟨h.1, fun i => abs_nonneg _, hQ, h.2.2 fun i => signPos_mul_self (w i)⟩

/-! ### `_postprocess_lanczos_root_inv_decomp` (initial_vectors / test_vectors of `root_inv_decomposition`) -/

/-- The inverse root returned for `P ≥ 1` probes is candidate number `i* < P`, its modelled residual
`Σ_b Σ_c ‖A_b R R ᵀ t_{b,c} − t_{b,c}‖` is minimal among the `P` candidates, and every earlier candidate is strictly worse
(first minimiser, as `residuals.min(0)`).  Any `sqrt`, any sizes, any batch. -/
theorem postprocess_selects_min {F : Type} [LinearOrder F] [Add F] [Zero F] [Mul F] [Sub F] (sqrt : F → F) {a b c : Nat}
    (As : List (Mat F a a)) (Ts : List (Mat F a c)) (cands : Nat → List (Mat F a b)) (P : Nat) (hP : 0 < P) :
    let i := postprocessIndex sqrt As Ts cands P
    i < P ∧ postprocess sqrt As Ts cands P = cands i ∧
      (∀ p, p < P → residBatch sqrt As (cands i) Ts ≤ residBatch sqrt As (cands p) Ts) ∧
      (∀ p, p < i → residBatch sqrt As (cands i) Ts < residBatch sqrt As (cands p) Ts) := by
  obtain ⟨h1, h2, h3⟩ := argminNat_spec (fun p => residBatch sqrt As (cands p) Ts) (P - 1)
  exact ⟨lt_of_le_of_lt h1 (Nat.sub_one_lt (Nat.ne_of_gt hP)), rfl, fun p hp => h2 p (Nat.le_sub_one_of_lt hp), h3⟩

/-- Consequently whatever holds of **every** candidate (each is an inverse root of `A` once its Krylov space is complete,
`lanczos_rootInv_full` / `rootInv_lanczos_end_to_end`) holds of the returned one. -/
theorem postprocess_preserves {F : Type} [LinearOrder F] [Add F] [Zero F] [Mul F] [Sub F] (sqrt : F → F) {a b c : Nat}
    (As : List (Mat F a a)) (Ts : List (Mat F a c)) (cands : Nat → List (Mat F a b)) (P : Nat) (hP : 0 < P)
    (Good : List (Mat F a b) → Prop) (h : ∀ p, p < P → Good (cands p)) : Good (postprocess sqrt As Ts cands P) :=
  h _ (postprocess_selects_min sqrt As Ts cands P hP).1

/-! ### End-to-end statements per method (C09 / C10 imported, not assumed) -/

section endToEnd
open LinOp.C09
variable {K : Type} [Field K] [LinearOrder K] [IsStrictOrderedRing K] {N : Nat}

/-- **`root_decomposition(method="lanczos")`, end to end** (base class, `N ≠ 1`): the dispatch runs Lanczos with the budget
`min(max_root_decomposition_size, N)` and one `eigh` of that size (`rootBase`); the model of `lanczos_tridiag` (C09, imported)
on the closure of the symmetric `A` succeeds with `count ≤` that budget, and — no breakdown on the returned part — for any
eigendecomposition `(θ, V)` of the jittered `T` with `θ ≥ 0` the root `R = (Q V) θ^{1/2}` that `RootDecomposition.forward`
assembles satisfies `R Rᵀ = (QQᵀ) A (QQᵀ) + j·QQᵀ` (the orthogonal compression of `A` onto the Krylov space, plus the
documented jitter), and `R Rᵀ = A + j·1` once `count = N`.  No hypothesis on `Q`, `T`. -/
theorem root_lanczos_end_to_end {ops : NumOps K} {p : Params K} (hs : C09.SqrtLaw ops) {A : Matrix (Fin N) (Fin N) K}
    (hA : Aᵀ = A) (c : Cfg) (v : Vec K N) (hv : fn v ⬝ᵥ fn v ≠ 0) (hg : p.guardsSingle = true) (hN : N ≠ 1)
    (h1 : 1 ≤ min c.maxRoot N) (jit : K) :
    rootBase N c (some .lanczos) = .ok [.lanczos N (min c.maxRoot N), .symeig (min c.maxRoot N)] "Root" ∧
    ∃ o, lanczosTridiag ops p (amulOf A) (min c.maxRoot N) v = .ok o ∧ 1 ≤ o.count ∧ o.count ≤ min c.maxRoot N ∧
      (BetaOK (o.count - 1) o.st →
        (Matrix.of o.Q)ᵀ * Matrix.of o.Q = 1 ∧ (Matrix.of o.Q)ᵀ * A * Matrix.of o.Q = Matrix.of o.T ∧
        ∀ (V : Matrix (Fin o.count) (Fin o.count) K) (θ : Fin o.count → K),
          V * Matrix.diagonal θ * Vᵀ = Matrix.of (jitteredT ltb jit o.T) → (∀ j, 0 ≤ θ j) →
          lanczosRoot ops (Matrix.of o.Q) V θ * (lanczosRoot ops (Matrix.of o.Q) V θ)ᵀ
            = (Matrix.of o.Q * (Matrix.of o.Q)ᵀ) * A * (Matrix.of o.Q * (Matrix.of o.Q)ᵀ)
              + jitterOf ltb jit o.T • (Matrix.of o.Q * (Matrix.of o.Q)ᵀ) ∧
          (o.count = N →
            lanczosRoot ops (Matrix.of o.Q) V θ * (lanczosRoot ops (Matrix.of o.Q) V θ)ᵀ
              = A + jitterOf ltb jit o.T • (1 : Matrix (Fin N) (Fin N) K))) := by
  refine ⟨by rw [rootBase, if_neg hN]; rfl, ?_⟩
  have e : min (min c.maxRoot N) N = min c.maxRoot N := by rw [Nat.min_assoc, Nat.min_self]
  obtain ⟨o, ho, h1', h3, hc⟩ := lanczos_ok (p := p) hs (selfAdj_amulOf hA) hg (min c.maxRoot N) v hv (e.symm ▸ h1)
  refine ⟨o, ho, h1', e ▸ h3, fun hb => ?_⟩
  obtain ⟨hQ, hP, -⟩ := matrix_identities_of_done hA o h1' hc.tstruct (hc.last h1' hb)
  refine ⟨hQ, hP, fun V θ hE hθ => ?_⟩
  have hroot := root_of_compression ops hs.mul_self (Matrix.of o.Q) A (Matrix.of o.T) V θ (jitterOf ltb jit o.T) hP hE hθ
  refine ⟨hroot, fun hn => ?_⟩
  rw [hroot, QQt_of_card _ hn hQ, Matrix.one_mul, Matrix.mul_one]

/-- **`root_inv_decomposition(method="lanczos")`, end to end**: same run; with an orthogonal eigendecomposition of the
jittered `T` and positive Ritz values the inverse root `R⁻ = (Q V) θ^{-1/2}` satisfies `R⁻ R⁻ᵀ = Q (T + j·1)⁻¹ Qᵀ`, and
`= (A + j·1)⁻¹` once `count = N`. -/
theorem rootInv_lanczos_end_to_end {ops : NumOps K} {p : Params K} (hs : C09.SqrtLaw ops) {A : Matrix (Fin N) (Fin N) K}
    (hA : Aᵀ = A) (c : Cfg) (v : Vec K N) (hv : fn v ⬝ᵥ fn v ≠ 0) (hg : p.guardsSingle = true) (hN : N ≠ 1)
    (h1 : 1 ≤ min c.maxRoot N) (jit : K) :
    rootInvBase N c (some .lanczos) = .ok [.lanczos N (min c.maxRoot N), .symeig (min c.maxRoot N)] "Root" ∧
    ∃ o, lanczosTridiag ops p (amulOf A) (min c.maxRoot N) v = .ok o ∧ 1 ≤ o.count ∧ o.count ≤ min c.maxRoot N ∧
      (BetaOK (o.count - 1) o.st →
        ∀ (V : Matrix (Fin o.count) (Fin o.count) K) (θ : Fin o.count → K),
          V * Matrix.diagonal θ * Vᵀ = Matrix.of (jitteredT ltb jit o.T) → Vᵀ * V = 1 → (∀ j, 0 < θ j) →
          lanczosRootInv ops (Matrix.of o.Q) V θ * (lanczosRootInv ops (Matrix.of o.Q) V θ)ᵀ
            = Matrix.of o.Q * (Matrix.of (jitteredT ltb jit o.T))⁻¹ * (Matrix.of o.Q)ᵀ ∧
          (o.count = N →
            lanczosRootInv ops (Matrix.of o.Q) V θ * (lanczosRootInv ops (Matrix.of o.Q) V θ)ᵀ
              = (A + jitterOf ltb jit o.T • (1 : Matrix (Fin N) (Fin N) K))⁻¹)) := by
  refine ⟨by rw [rootInvBase, if_neg hN]; rfl, ?_⟩
  have e : min (min c.maxRoot N) N = min c.maxRoot N := by rw [Nat.min_assoc, Nat.min_self]
  obtain ⟨o, ho, h1', h3, hc⟩ := lanczos_ok (p := p) hs (selfAdj_amulOf hA) hg (min c.maxRoot N) v hv (e.symm ▸ h1)
  refine ⟨o, ho, h1', e ▸ h3, fun hb V θ hE hV hθ => ?_⟩
  obtain ⟨hQ, hP, -⟩ := matrix_identities_of_done hA o h1' hc.tstruct (hc.last h1' hb)
  exact ⟨C09.lanczos_root_inv ops hs.mul_self (Matrix.of o.Q) V _ θ hθ hV hE,
    fun hn => root_inv_full_of_card ops hs.mul_self (Matrix.of o.Q) A (Matrix.of o.T) V θ (jitterOf ltb jit o.T)
      hn hQ hP hV hE hθ⟩

/-- **`root_decomposition(method="pivoted_cholesky")`, end to end** (the operator is densified first, so the diagonal the
pivots are chosen from is the exact one): for symmetric positive-definite `A` the dispatch logs one pivoted Cholesky with
rank bound `min(max_root_decomposition_size, N)`; the model of `PivotedCholesky.forward` (C10, imported) takes `r` pivots,
`1 ≤ r ≤` that bound; `A − R Rᵀ` is PSD (`R Rᵀ ≤ A`) and vanishes on the `r` pivot rows; it stopped before the bound only
with relative residual trace `≤ tol`; and `R Rᵀ = A` entry by entry when `r = N`. -/
theorem root_pivoted_cholesky_end_to_end {P : C10.Prim K} {A : Mat K N N} (hP : C10.SqrtLaw P) (hA : C10.Symm A)
    (hpd : C10.PD A) (c : Cfg) (tol : K) (hrank : 0 < c.maxRoot) (hN : N ≠ 1) (hn : 0 < N) :
    rootBase N c (some .pivotedCholesky) = .ok [.pivChol N (min c.maxRoot N)] "Root" ∧
    (let r := (C10.run P [A] c.maxRoot tol).1
     let s := C10.iter P A r
     1 ≤ r ∧ r ≤ min c.maxRoot N ∧ (C10.run P [A] c.maxRoot tol).2 = [s] ∧
      C10.PSD (C10.resid A s.rows) ∧
      (∀ j : Fin N, j.val < r → ∀ k, C10.resid A s.rows (s.perm.get j) k = 0) ∧
      (r < min c.maxRoot N → C10.errAt P [A] r ≤ tol) ∧
      (r = N → ∀ i k, A i k = C10.lltEntry s.rows i k)) := by
  refine ⟨by rw [rootBase, if_neg hN]; rfl, ?_⟩
  intro r s
  have h := C10.run_spec P [A] c.maxRoot tol hrank hn
  have hr : r ≤ N := le_trans h.le_max (Nat.min_le_right _ _)
  -- positive definite input: every pivot is positive, so the invariants of `iter` hold up to `r`
  have hpos := C10.pivotsPos_of_pd hP hA hpd r hr
  have hpsd : C10.PSD A := fun x => by
    by_cases hx : x = 0
    · subst hx; simp
    · exact (hpd x hx).le
  have hinv := C10.iter_inv hP hA r hr hpos
  refine ⟨h.pos rfl, h.le_max, by simpa using h.states, C10.iter_psd hP hA hpsd r hr hpos, hinv.zero,
    fun hlt => not_lt.1 (h.stopped hlt (h.pos rfl)), fun he i k => ?_⟩
  -- `r = N`: every row is a pivot row, where the residual `A − L Lᵀ` vanishes
  obtain ⟨j, rfl⟩ := hinv.bij.2 i
  exact sub_eq_zero.1 (hinv.zero j (lt_of_lt_of_eq j.2 he.symm) k)

/-- `root_decomposition(method="cholesky" | "symeig" | "svd" | "diagonalization")`, end to end for the exact methods:
whichever of them is selected, given the primitive's contract the returned `R` satisfies `R Rᵀ = A` (collects
`root_from_chol`, `root_method_symeig`, `root_method_svd`). -/
theorem root_exact_methods_end_to_end (A : Matrix n n α) :
    (∀ L : Matrix n n α, L * Lᵀ = A → L * Lᵀ = A) ∧
    (∀ (Q : Matrix n k α) (w s : k → α), Q * diagonal w * Qᵀ = A → (∀ i, s i * s i = w i) →
        (Q * diagonal s) * (Q * diagonal s)ᵀ = A) ∧
    (∀ (Q : Matrix n k α) (w sg ab s : k → α), Q * diagonal w * Qᵀ = A → (∀ i, s i * s i = ab i) →
        (∀ i, sg i * sg i * ab i = w i) → ((Q * diagonal sg) * diagonal s) * ((Q * diagonal sg) * diagonal s)ᵀ = A) :=
  ⟨fun _ => id, fun Q w s => root_method_symeig Q A w s, fun Q w sg ab s => root_method_svd Q A w sg ab s⟩

end endToEnd

/-! ### Method selection -/

/-- `_choose_root_method` without cache hits: Cholesky iff the size is within `max_cholesky_size` or fast
root decompositions are off; otherwise Lanczos. -/
theorem chooseRootMethod_spec (n : Nat) (c : Cfg) (h : c.cSymeig = false ∧ c.cDiag = false ∧ c.cLanczos = false) :
    (chooseRootMethod n c = .cholesky ↔ (n ≤ c.maxChol ∨ c.fastRoot = false)) ∧
      (chooseRootMethod n c = .lanczos ↔ ¬ (n ≤ c.maxChol ∨ c.fastRoot = false)) := by
  obtain ⟨h1, h2, h3⟩ := h
  unfold chooseRootMethod
  simp only [h1, h2, h3]
  by_cases hn : n ≤ c.maxChol <;> cases hf : c.fastRoot <;> simp [hn]

/-- Cache probes take precedence in the order symeig, diagonalization, lanczos. -/
theorem chooseRootMethod_cache (n : Nat) (c : Cfg) :
    (c.cSymeig = true → chooseRootMethod n c = .symeig) ∧
      (c.cSymeig = false → c.cDiag = true → chooseRootMethod n c = .diagonalization) ∧
      (c.cSymeig = false → c.cDiag = false → c.cLanczos = true → chooseRootMethod n c = .lanczos) := by
  refine ⟨fun h => ?_, fun h1 h2 => ?_, fun h1 h2 h3 => ?_⟩ <;> simp [chooseRootMethod, *]

/-- The selection never leaves the set of methods the dispatch chain of `root_decomposition` handles, and
with `method=None` the base class never raises: every settings/cache combination yields `ok`. -/
theorem rootBase_none_total (n : Nat) (c : Cfg) (ok : Bool) : ∃ p cl, rootBase n c none ok = .ok p cl := by
  unfold rootBase
  by_cases h1 : n = 1
  · rw [if_pos h1]; exact ⟨_, _, rfl⟩
  · rw [if_neg h1]
    rcases chooseRootMethod_mem n c with h | h | h | h <;> simp only [Option.getD_none, h]
    · exact ⟨_, _, rfl⟩
    · rw [diagPrims_none]; exact ⟨_, _, rfl⟩
    · exact ⟨_, _, rfl⟩
    · cases ok <;> exact ⟨_, _, rfl⟩

/-- Only direct dense primitives run at or below `max_cholesky_size` (no cache hits): `method=None` takes the
Cholesky path and reports the class `CholLinearOperator`. -/
theorem rootBase_small_is_cholesky (n : Nat) (c : Cfg) (hn : n ≠ 1) (hle : n ≤ c.maxChol)
    (h : c.cSymeig = false ∧ c.cDiag = false ∧ c.cLanczos = false) :
    rootBase n c none true = .ok [.chol n] "Chol" := by
  obtain ⟨h1, h2, h3⟩ := h
  simp [rootBase, hn, chooseRootMethod, h1, h2, h3, hle]

/-- The Lanczos path runs exactly `min(max_root_decomposition_size, n)` iterations and one eigendecomposition
of that size — the rank bound reaches `n` iff `max_root_decomposition_size ≥ n`. -/
theorem lanczosPrims_rank (n : Nat) (c : Cfg) :
    lanczosPrims n c = [.lanczos n (min c.maxRoot n), .symeig (min c.maxRoot n)] ∧
      (min c.maxRoot n = n ↔ n ≤ c.maxRoot) :=
  ⟨rfl, min_eq_right_iff⟩

/-- `KroneckerProductLinearOperator.root_inv_decomposition` above `max_cholesky_size`: the factors' inverse roots
with the **same** `method` (forwarded since f68e44a), concatenated in factor order. -/
theorem rootInvKron_forwards_method (ns : List Nat) (c : Cfg) (m : Option Method) (h : c.maxChol < prod ns) :
    rootInvKron ns c m = seqOutcomes (ns.map fun k => rootInvBase k c m) "Root" := by
  simp [rootInvKron, Nat.not_le.2 h]

/-! ### Call histories (memoisation) -/

/-- **Every result in every history meets the contract of the method requested**: if each method's computation
is valid under any settings (`hc`, the per-method theorems above) and the cache is keyed by the method
(`κ` = (entry, method)), then whatever was called before — and under whatever settings — each call of a history
returns a value that is `Good` for the key it was called with. -/
theorem memo_valid {κ σ ν : Type} [DecidableEq κ] (compute : κ → σ → ν) (Good : κ → ν → Prop)
    (hc : ∀ k s, Good k (compute k s)) :
    ∀ (calls : List (κ × σ)) (st : List (κ × ν)), (∀ x ∈ st, Good x.1 x.2) →
      List.Forall₂ (fun c v => Good c.1 v) calls (memoRun compute st calls) := by
  intro calls
  induction calls with
  | nil => exact fun _ _ => .nil
  | cons c rest ih =>
    obtain ⟨k, s⟩ := c
    intro st hst
    have h := memoCall_inv compute Good st k s hst (hc k s)
    exact .cons h.1 (ih _ h.2)

/-- **History independence**: under fixed settings, the value returned for a key does not depend on which calls
were made before (fresh object, cache keyed by (entry, method)). -/
theorem memo_history_independent {κ σ ν : Type} [DecidableEq κ] (compute : κ → σ → ν) (s : σ) :
    ∀ (keys : List κ) (st : List (κ × ν)), (∀ x ∈ st, x.2 = compute x.1 s) →
      memoRun compute st (keys.map fun k => (k, s)) = keys.map fun k => compute k s := by
  intro keys
  induction keys with
  | nil => exact fun _ _ => rfl
  | cons k rest ih =>
    intro st hst
    have h := memoCall_inv compute (fun k v => v = compute k s) st k s hst rfl
    exact congrArg₂ List.cons h.1 (ih _ h.2)

/-- What goes wrong when a method-dependent entry ignores its arguments (`ignore_args=True`): with the method
moved out of the key, the second call returns the first call's result. -/
theorem memo_ignoreArgs_counterexample :
    memoRun (fun (_ : Unit) (m : Bool) => m) [] [((), true), ((), false)] ≠ [true, false] := by decide

/-! ### Facts regenerated from /repo's source on every run (translator `harness/extract/c06_factor.py`) -/

/-- `_choose_root_method` in today's source has the shape the model `chooseRootMethod` mirrors: the three
cache probes in this order, `size ≤ max_cholesky_size or fast root decompositions off → cholesky`, else lanczos. -/
theorem generated_choose_matches_model :
    Generated.C06.probes = [("symeig", "symeig"), ("diagonalization", "diagonalization"), ("lanczos", "lanczos")] ∧
      Generated.C06.sizeCmp = "self.size(-1) LtE settings.max_cholesky_size.value()" ∧
      Generated.C06.flag = "settings.fast_computations.covar_root_decomposition.off()" ∧
      Generated.C06.smallMethod = "cholesky" ∧ Generated.C06.largeMethod = "lanczos" := ⟨rfl, rfl, rfl, rfl, rfl⟩

/-- The method strings the three dispatch chains compare against are exactly those the model dispatches on. -/
theorem generated_dispatch_methods :
    Generated.C06.rootMethods = ["cholesky", "pivoted_cholesky", "symeig", "diagonalization", "svd", "lanczos"] ∧
      Generated.C06.rootInvMethods = ["cholesky", "lanczos", "symeig", "diagonalization", "svd", "pinverse"] ∧
      Generated.C06.diagMethods = ["lanczos", "symeig"] := ⟨rfl, rfl, rfl⟩

/-- Clamp constants: roots clamp eigenvalues at 0 (inactive for PSD input), inverse roots at `1e-7` (inactive
under the hypothesis `λ ≥ 1e-7` of `rootInv_method_symeig`), `_symeig` chops negatives at 0. -/
theorem generated_clamps :
    Generated.C06.rootClamps = [0, 0] ∧
      Generated.C06.rootInvClamps = [(1 : Rat) / 10000000, (1 : Rat) / 10000000, (1 : Rat) / 10000000] ∧
      Generated.C06.symeigClamps = [0] := ⟨rfl, rfl, rfl⟩

/-- Defaults and thresholds the check's tolerances and the selection model rely on. -/
theorem generated_defaults :
    Generated.C06.maxCholeskySize = 800 ∧ Generated.C06.maxRootDecompositionSize = 100 ∧
      Generated.C06.tridiagonalJitter = (1 : Rat) / 1000000 ∧ Generated.C06.choleskyMaxTries = 3 ∧
      Generated.C06.preconditionerTolerance = (1 : Rat) / 1000 ∧
      Generated.C06.choleskyJitterFloat = (1 : Rat) / 1000000 ∧ Generated.C06.choleskyJitterDouble = (1 : Rat) / 100000000 ∧
      Generated.C06.lanczosTol = (1 : Rat) / 100000 ∧ Generated.C06.lanczosBreak = (1 : Rat) / 1000000 ∧
      Generated.C06.lanczosRounds = 10 ∧ Generated.C06.lanczosSmallEig = 32 ∧
      Generated.C06.symeigDtype = "torch.double" := ⟨rfl, rfl, rfl, rfl, rfl, rfl, rfl, rfl, rfl, rfl, rfl, rfl⟩

/-- Structure: the upper Cholesky factor is the transposed lower factor (`chol_factorizes`), and the Kronecker
`root_inv_decomposition` forwards `method` on both branches (`rootInvKron_forwards_method`). -/
theorem generated_structure :
    Generated.C06.cholUpperViaTranspose = true ∧ Generated.C06.kronRootInvForwardsMethod = true := ⟨rfl, rfl⟩

/-- `root_decomposition(method="pivoted_cholesky")` densifies the operator before `pivoted_cholesky` in today's source, so
the diagonal the pivots are chosen from is the exact one (`_approx_diagonal` of a dense operator) — the premise under which
`root_pivoted_cholesky_end_to_end` (C10's model starts from `diag A`) describes this entry point also for operators whose
own `_approx_diagonal` is only approximate (Interpolated, ConstantMul of it). -/
theorem generated_pivchol_root_densifies :
    Generated.C06.pivCholRootReceiver = "to_linear_operator(self.to_dense())" := rfl

/-- `_postprocess_lanczos_root_inv_decomp` in today's source has the shape `postprocessIndex` mirrors: 2-norm over the
vector dimension, first minimum over the probe dimension, and the candidate with that index is returned. -/
theorem generated_postprocess_matches_model :
    Generated.C06.postprocessResidual = "(mat_times_solves - test_vectors).norm(2, dim=-2)" ∧
      Generated.C06.postprocessSelect = "residuals.min(0)" ∧
      Generated.C06.postprocessReturn = "inv_roots[best_solve_index].squeeze(0)" := ⟨rfl, rfl, rfl⟩

/-- The classes that override a factorization hook are exactly the ones the theorems above and the catalogue
cover; a new or removed override changes this table and breaks the obligation. -/
theorem generated_overrides_covered :
    Generated.C06.overrides =
      [("AddedDiagLinearOperator", ["_symeig", "_svd"]),
       ("BatchRepeatLinearOperator", ["_cholesky", "_root_decomposition", "_root_inv_decomposition", "_symeig", "_svd"]),
       ("BlockDiagLinearOperator", ["_cholesky", "_root_decomposition", "_root_inv_decomposition", "_symeig", "_svd"]),
       ("BlockInterleavedLinearOperator", ["_cholesky", "_root_decomposition", "_root_inv_decomposition"]),
       ("CholLinearOperator", ["_cholesky", "_root_decomposition", "root_decomposition", "root_inv_decomposition"]),
       ("ConstantMulLinearOperator", ["root_decomposition", "root_inv_decomposition"]),
       ("DiagLinearOperator", ["_cholesky", "_root_decomposition", "_root_inv_decomposition", "_symeig", "_svd"]),
       ("IdentityLinearOperator", ["_cholesky", "_root_decomposition", "_root_inv_decomposition", "_symeig", "_svd"]),
       ("KroneckerProductAddedDiagLinearOperator", ["_root_decomposition", "_root_inv_decomposition", "_symeig"]),
       ("KroneckerProductDiagLinearOperator", ["_cholesky", "_symeig"]),
       ("KroneckerProductLinearOperator", ["_cholesky", "root_decomposition", "root_inv_decomposition", "_symeig", "_svd", "diagonalization"]),
       ("KroneckerProductTriangularLinearOperator", ["_cholesky", "_symeig"]),
       ("RootLinearOperator", ["_root_decomposition", "root_decomposition", "_root_decomposition_size"]),
       ("SumKroneckerLinearOperator", ["_root_decomposition", "_root_inv_decomposition"]),
       ("TriangularLinearOperator", ["_cholesky", "_root_decomposition", "_root_inv_decomposition"]),
       ("ZeroLinearOperator", ["_root_decomposition", "_root_inv_decomposition", "_root_decomposition_size"])] := rfl

/-- Keying discipline of the factorization caches in today's source: no `@cached(…, ignore_args=True)` on an entry
whose function takes `method` (so that `memo_valid` / `memo_history_independent` apply: the key contains the
method), nothing produces a `"symeig"` (or `"lanczos"`) cache entry (the `pop_from_cache(self, "symeig")` branch of
`eigh/eigvalsh` and two probes of `_choose_root_method` stay dormant), and every entry taking `method` is keyed. -/
theorem generated_cache_keyed_by_method :
    (Generated.C06.cachedEntries.all fun e => !(e.2.2.2.1 && e.2.2.2.2)) = true ∧
      (Generated.C06.cachedEntries.all fun e => e.2.2.1 != "symeig" && e.2.2.1 != "lanczos") = true ∧
      (Generated.C06.cacheWriters.all fun w => w.2 != "symeig" && w.2 != "lanczos" && w.2 != "diagonalization") = true := by
  decide +kernel

/-- The only code that writes a factorization cache entry from *another* method is the set the history model
(`hstep`: Lanczos inverse root ↦ `(root, none)`) and the derived-operator cells (`add_low_rank`, `cat_rows`) cover. -/
theorem generated_cache_writers :
    Generated.C06.cacheWriters =
      [("LinearOperator._root_inv_decomposition", "root_decomposition"), ("LinearOperator._root_inv_decomposition", "root_decomposition"),
       ("LinearOperator.add_low_rank", "root_decomposition"), ("LinearOperator.add_low_rank", "root_inv_decomposition"),
       ("LinearOperator.cat_rows", "root_decomposition"), ("LinearOperator.cat_rows", "root_inv_decomposition")] := rfl

/-- The method-dependent cached entry points, all keyed by their arguments. -/
theorem generated_cached_method_entries :
    (Generated.C06.cachedEntries.filter fun e => e.2.2.2.2).map (fun e => (e.1, e.2.1, e.2.2.2.1)) =
      [("ConstantMulLinearOperator", "root_decomposition", false),
       ("ConstantMulLinearOperator", "root_inv_decomposition", false),
       ("KroneckerProductLinearOperator", "root_decomposition", false),
       ("KroneckerProductLinearOperator", "root_inv_decomposition", false),
       ("LinearOperator", "diagonalization", false), ("LinearOperator", "root_decomposition", false),
       ("LinearOperator", "root_inv_decomposition", false)] := rfl

/-! ### Satisfiability of the hypotheses (non-vacuity) -/

/-- `constMul_rootInv` / `constMul_roots_paired`: `A = [[4,2],[2,10]]`, `L₀ = chol A = [[2,0],[1,3]]`,
`R₀ = L₀^{-ᵀ} = [[1/2,-1/6],[0,1/3]]`, `c = 4`, `r = 2`, `ri = 1/2`. -/
example : ∃ (L₀ R₀ A : Matrix (Fin 2) (Fin 2) ℚ) (c r ri : ℚ),
    L₀ * L₀ᵀ = A ∧ R₀ * R₀ᵀ * A = 1 ∧ L₀ᵀ * R₀ = 1 ∧ r * r = c ∧ r * ri = 1 ∧ ri * ri * c = 1 ∧ c ≠ 1 ∧ R₀ 0 1 ≠ 0 :=
  ⟨!![2, 0; 1, 3], !![1/2, -1/6; 0, 1/3], !![4, 2; 2, 10], 4, 2, 1/2, by decide +kernel⟩

example : ∃ (L A : Matrix (Fin 2) (Fin 2) ℚ), L * Lᵀ = A ∧ LowerTri L ∧ L 1 0 ≠ 0 := by
  refine ⟨!![2, 0; 1, 3], !![4, 2; 2, 10], by decide +kernel, fun i j hij => ?_, by decide +kernel⟩
  fin_cases i <;> fin_cases j <;> first | rfl | exact absurd hij (by decide)

example : ∃ (Q K : Matrix (Fin 1) (Fin 1) ℚ) (w t : Fin 1 → ℚ) (d di ri : ℚ),
    Qᵀ * Q = 1 ∧ Q * Qᵀ = 1 ∧ Q * diagonal w * Qᵀ = K ∧ ri * ri = di ∧ d * di = 1 ∧
      ∀ i, t i * t i * (w i * di + 1) = 1 :=
  ⟨1, diagonal ![12], ![12], ![1 / 2], 4, 1 / 4, 1 / 2, by decide +kernel⟩

/-- hypotheses of the end-to-end Lanczos theorems are satisfiable (C09's real instance: `ℝ`, `Real.sqrt`, `A = [[2,1],[1,3]]`). -/
example : C09.SqrtLaw C09.realOps ∧ C09.exAᵀ = C09.exA ∧ C09.fn C09.exV ⬝ᵥ C09.fn C09.exV ≠ 0 ∧ C09.exP.guardsSingle = true ∧
    (2 : Nat) ≠ 1 ∧ 1 ≤ min (Cfg.mk 800 100 true false false false).maxRoot 2 :=
  ⟨C09.real_instance.1, C09.exA_symm, C09.real_instance.2.2.1, C09.real_instance.2.2.2.1, by decide, by decide⟩

/-- a selection with two candidates whose residuals differ: the second is returned (over `ℚ`, `sqrt := id`). -/
example : postprocessIndex (fun x : ℚ => x) [fun (_ _ : Fin 1) => (2 : ℚ)] [fun (_ _ : Fin 1) => (1 : ℚ)]
    (fun p => if p = 0 then [fun (_ _ : Fin 1) => (1 : ℚ)] else [fun (_ _ : Fin 1) => (1 / 2 : ℚ)]) 2 = 1 := by
  decide +kernel

end LinOp.C06
