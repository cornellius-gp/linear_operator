/-
C09 — Lanczos returns an orthonormal basis and the projected tridiagonal.

Theorems about the executable model `LinOp.C09.lanczosTridiag` (one column of
`linear_operator.utils.lanczos.lanczos_tridiag`, statement by statement) and about the model of the
post-processing (`lanczos_tridiag_to_diag`, `RootDecomposition.forward`), over any ordered field with a lawful
square root, for every size `n`, every budget `max_iter`, every start vector and every self-adjoint closure.
"No breakdown" is the hypothesis `BetaOK`: the off-diagonal entries of the RETURNED `T` are non-zero
(nothing is assumed about the entry that made the loop stop, which is trimmed away).

Multi-column calls: `LinOp.C09.lanczosMulti` (C09/Multi.lean) runs all columns of one call in ONE loop as the code does
(shared counter, the two `torch.sum` tests over all columns); `lanczos_multi_column_prefix` lifts the single-column
theorems to every column of the coupled run, on the prefix before that column's own breakdown; `lanczos_multi_one_column`
shows that one column of the coupled model is the single-column model.  End-to-end statements about `lanczosTridiag` on the
closure of a symmetric matrix (`amulOf A`), with no free `Q`, `T`: `lanczos_tridiag_matrix_identities`,
`lanczos_tridiag_root`, `lanczos_tridiag_root_inv`.
-/
import LinOp.C09.ProofsRun
import LinOp.C09.ProofsPost
import LinOp.C09.ProofsScale
import LinOp.C09.ProofsMulti
import LinOp.C09.ProofsMultiOne
import LinOp.C09.ProofsCompose
import LinOp.C09.ProofsStart
import LinOp.Generated.C09Consts

set_option linter.unusedSectionVars false
set_option linter.unusedVariables false

namespace LinOp.C09.Props
open Matrix LinOp.C09

variable {K : Type} [Field K] [LinearOrder K] [IsStrictOrderedRing K] {n : Nat}
variable {ops : NumOps K} {p : Params K} {amul : Vec K n → Vec K n}

/-- `t_mat` is symmetric and tridiagonal after any number of iterations, whatever the closure, the start
vector and the arithmetic (no hypothesis on `sqrt`): only the entries `[k,k]`, `[k,k+1]`, `[k+1,k]` are
written, the last two with the same value. -/
theorem lanczos_T_symmetric_tridiagonal (numIter : Nat) :
    ∀ (rem k : Nat) (s : St K n), TStruct s → TStruct (loop ops p amul numIter rem k s).2 := by
  intro rem
  induction rem with
  | zero => intro k s h; simpa [loop] using h
  | succ rem ih =>
    intro k s h
    simp only [loop]
    split
    · exact body_tstruct h
    · exact ih _ _ (body_tstruct h)

/-- The Gram–Schmidt correction of iteration `k` (`r ← r − Q(Qᵀr)`, then normalisation): if `q_0 … q_k` are
orthonormal, the new vector is orthogonal to all of them and (when its norm `β_k` is non-zero) has unit norm —
for ANY closure, symmetric or not.  The up-to-10 extra passes then leave it unchanged. -/
theorem gram_schmidt_orthogonal (hs : SqrtLaw ops) (k : Nat) (s : St K n) (ho : Orth (Qf s) k) :
    (∀ j, j ≤ k → Qf s j ⬝ᵥ fn (bodyW ops amul k s) = 0) ∧
    (bodyN ops amul k s ≠ 0 → fn (bodyW ops amul k s) ⬝ᵥ fn (bodyW ops amul k s) = 1) ∧
    (bodyN ops amul k s ≠ 0 → (bodyEx ops p amul k s).1 = bodyW ops amul k s) :=
  ⟨fun j hj => bodyW_orth_gs ho j hj, fun hb => bodyW_unit hs hb, fun hb => bodyEx_eq hs ho hb⟩

/-- Breakdown / failed re-orthogonalisation exit: when iteration `k` says "break", the function returns
`num_iter = k + 1`, i.e. the columns `q_0 … q_k` and the leading `(k+1)×(k+1)` block of `t_mat`; the vector
`q_{k+1}` and the entry `β_k` computed in that iteration are trimmed away. -/
theorem lanczos_breakdown_trim (numIter rem k : Nat) (s : St K n)
    (hbrk : (body ops p amul numIter k s).2 = true) :
    loop ops p amul numIter (rem + 1) k s = (k + 1, (body ops p amul numIter k s).1) := by
  simp [loop, hbrk]

/-- Main invariant, for every budget and size (`1 ≤ min max_iter n`), every non-zero start vector and every
self-adjoint closure (code as it is now, `guardsSingle = true`): the call succeeds, returns
`1 ≤ count ≤ min max_iter n` columns, and — if no returned off-diagonal entry is zero — the returned
`q_0 … q_{count-1}` are orthonormal. -/
theorem lanczos_orthonormal (hs : SqrtLaw ops) (hA : SelfAdj amul) (maxIter : Nat) (v : Vec K n)
    (hv : fn v ⬝ᵥ fn v ≠ 0) (hg : p.guardsSingle = true) (h1 : 1 ≤ min maxIter n) :
    ∃ o, lanczosTridiag ops p amul maxIter v = .ok o ∧ 1 ≤ o.count ∧ o.count ≤ min maxIter n ∧
      (BetaOK (o.count - 1) o.st →
        ∀ i j, i < o.count → j < o.count → Qf o.st i ⬝ᵥ Qf o.st j = if i = j then 1 else 0) := by
  obtain ⟨o, ho, h1, h3, hc⟩ := lanczos_ok hs hA hg maxIter v hv h1
  exact ⟨o, ho, h1, h3, fun hb i j hi hj => (hc.last h1 hb).orth i j (by omega) (by omega)⟩

/-- Matrix form of orthonormality: `QᵀQ = I` for the returned `n × count` matrix. -/
theorem lanczos_QtQ (hs : SqrtLaw ops) (hA : SelfAdj amul) (maxIter : Nat) (v : Vec K n)
    (hv : fn v ⬝ᵥ fn v ≠ 0) (hg : p.guardsSingle = true) (h1 : 1 ≤ min maxIter n) :
    ∃ o, lanczosTridiag ops p amul maxIter v = .ok o ∧
      (BetaOK (o.count - 1) o.st → (Matrix.of o.Q)ᵀ * Matrix.of o.Q = 1) := by
  obtain ⟨o, ho, h1, h3, horth⟩ := lanczos_orthonormal hs hA maxIter v hv hg h1
  exact ⟨o, ho, fun hb => QtQ_of_orth o (horth hb)⟩

/-- Three-term recurrence: for every returned column except the last,
`A q_j = β_{j-1} q_{j-1} + α_j q_j + β_j q_{j+1}` with the entries of the returned `T` — i.e.
`A Q − Q T` vanishes outside its last column. -/
theorem lanczos_recurrence (hs : SqrtLaw ops) (hA : SelfAdj amul) (maxIter : Nat) (v : Vec K n)
    (hv : fn v ⬝ᵥ fn v ≠ 0) (hg : p.guardsSingle = true) (h1 : 1 ≤ min maxIter n) :
    ∃ o, lanczosTridiag ops p amul maxIter v = .ok o ∧
      (BetaOK (o.count - 1) o.st → ∀ j, j + 1 < o.count →
        AQf amul o.st j = (if j = 0 then 0 else Tf o.st j (j - 1) • Qf o.st (j - 1)) + Tf o.st j j • Qf o.st j
          + Tf o.st j (j + 1) • Qf o.st (j + 1)) := by
  obtain ⟨o, ho, h1, h3, hc⟩ := lanczos_ok hs hA hg maxIter v hv h1
  exact ⟨o, ho, fun hb j hj => (hc.last h1 hb).recur j (by omega)⟩

/-- `QᵀAQ = T`: every entry of the returned tridiagonal matrix is the corresponding entry of the projection
of the operator onto the returned basis. -/
theorem lanczos_projection (hs : SqrtLaw ops) (hA : SelfAdj amul) (maxIter : Nat) (v : Vec K n)
    (hv : fn v ⬝ᵥ fn v ≠ 0) (hg : p.guardsSingle = true) (h1 : 1 ≤ min maxIter n) :
    ∃ o, lanczosTridiag ops p amul maxIter v = .ok o ∧
      (BetaOK (o.count - 1) o.st →
        ∀ i j, i < o.count → j < o.count → Qf o.st i ⬝ᵥ AQf amul o.st j = Tf o.st i j) := by
  obtain ⟨o, ho, h1, h3, hc⟩ := lanczos_ok hs hA hg maxIter v hv h1
  exact ⟨o, ho, fun hb i j hi hj => done_projection hA hc.tstruct (hc.last h1 hb) i j (by omega) (by omega)⟩

/-- The returned `T` is symmetric tridiagonal (as a matrix), unconditionally on the data. -/
theorem lanczos_T_matrix (hs : SqrtLaw ops) (hA : SelfAdj amul) (maxIter : Nat) (v : Vec K n)
    (hv : fn v ⬝ᵥ fn v ≠ 0) (hg : p.guardsSingle = true) (h1 : 1 ≤ min maxIter n) :
    ∃ o, lanczosTridiag ops p amul maxIter v = .ok o ∧ (∀ i j, o.T i j = o.T j i) ∧
      (∀ i j : Fin o.count, i.1 + 1 < j.1 ∨ j.1 + 1 < i.1 → o.T i j = 0) := by
  obtain ⟨o, ho, _, _, hc⟩ := lanczos_ok hs hA hg maxIter v hv h1
  exact ⟨o, ho, fun i j => hc.tstruct.sym i.1 j.1, fun i j h => hc.tstruct.tri i.1 j.1 h⟩

/-! ### first step: budget of one iteration, 1×1 operators, start vectors that are eigenvectors -/

/-- Code as it is now: with a budget of one iteration (`max_iter = 1` or a 1×1 operator) the call returns the
single column `q_0 = v/‖v‖` (unit norm) and `T = [q_0·A q_0]`, for every closure and non-zero start vector. -/
theorem lanczos_single_iter_fixed (hs : SqrtLaw ops) (hg : p.guardsSingle = true) (maxIter : Nat) (v : Vec K n)
    (hv : fn v ⬝ᵥ fn v ≠ 0) (h1 : min maxIter n = 1) :
    ∃ o, lanczosTridiag ops p amul maxIter v = .ok o ∧ o.count = 1 ∧
      Qf o.st 0 ⬝ᵥ Qf o.st 0 = 1 ∧ Tf o.st 0 0 = Qf o.st 0 ⬝ᵥ AQf amul o.st 0 :=
  lanczos_single hs hg v hv h1.ge (by rw [h1]; rfl)

/-- Code as it is now: if `β_0 = ‖A q_0 − α_0 q_0‖` is not above the breakdown threshold (the start vector is an
eigenvector up to the threshold; includes `A = c·I` and the zero operator) the call returns the single column `q_0`
(unit norm) and `T = [q_0·A q_0]` instead of dividing by `β_0`. -/
theorem lanczos_eigenvector_start (hs : SqrtLaw ops) (hg : p.guardsSingle = true) (maxIter : Nat) (v : Vec K n)
    (hv : fn v ⬝ᵥ fn v ≠ 0) (h1 : 1 ≤ min maxIter n)
    (hb : ops.gt (ops.abs (init0 ops amul (min maxIter n) v).2.2) p.breakTol = false) :
    ∃ o, lanczosTridiag ops p amul maxIter v = .ok o ∧ o.count = 1 ∧
      Qf o.st 0 ⬝ᵥ Qf o.st 0 = 1 ∧ Tf o.st 0 0 = Qf o.st 0 ⬝ᵥ AQf amul o.st 0 :=
  lanczos_single hs hg v hv h1 (by rw [hb, Bool.and_false])

/-- PREVIOUS code (before commit c712633, `guardsSingle = false`; kept as the record of defect D14): a budget of one
iteration — `max_iter = 1` or `n = 1` — ended in IndexError (`t_mat[0, 1]` on a 1×1 buffer) for every closure and
every start vector. -/
theorem lanczos_index_error_before_fix_counterexample (hg : p.guardsSingle = false) (maxIter : Nat) (v : Vec K n)
    (h1 : min maxIter n = 1) : lanczosTridiag ops p amul maxIter v = .error .indexError := by
  simp [lanczosTridiag, h1, hg]

/-! ### post-processing (`lanczos_tridiag_to_diag`, roots, inverse roots, full dimension) -/

/-- Masking of negative Ritz values: kept eigenpairs are unchanged, a negative eigenvalue becomes 1 and its
eigenvector column is zeroed; the masked pair reconstructs the positive part `V diag(θ⁺) Vᵀ`. -/
theorem tridiag_to_diag_mask {m : Nat} (θ : Fin m → K) (V : Matrix (Fin m) (Fin m) K) :
    (∀ j, 0 ≤ θ j → mEvals θ j = θ j ∧ ∀ i, mEvecs θ V i j = V i j) ∧
    (∀ j, ¬ 0 ≤ θ j → mEvals θ j = 1 ∧ ∀ i, mEvecs θ V i j = 0) ∧
    (∀ j, 0 ≤ mEvals θ j) ∧
    mEvecs θ V * Matrix.diagonal (mEvals θ) * (mEvecs θ V)ᵀ = V * Matrix.diagonal (pos θ) * Vᵀ :=
  ⟨fun j h => ⟨mEvals_of_nonneg θ j h, fun i => mEvecs_of_nonneg θ V i j h⟩,
   fun j h => ⟨mEvals_of_neg θ j h, fun i => mEvecs_of_neg θ V i j h⟩,
   mEvals_nonneg θ, mask_reconstruct θ V⟩

/-- `R = Q V' diag(√θ')` satisfies `R Rᵀ = Q (V diag(θ⁺) Vᵀ) Qᵀ`; with no negative Ritz value this is
`Q (T + jitter) Qᵀ`. -/
theorem lanczos_root {m : Nat} (hsq : ∀ x : K, 0 ≤ x → ops.sqrt x * ops.sqrt x = x)
    (Q : Matrix (Fin n) (Fin m) K) (V T' : Matrix (Fin m) (Fin m) K) (θ : Fin m → K) :
    lanczosRoot ops Q V θ * (lanczosRoot ops Q V θ)ᵀ = Q * (V * Matrix.diagonal (pos θ) * Vᵀ) * Qᵀ ∧
    ((∀ j, 0 ≤ θ j) → V * Matrix.diagonal θ * Vᵀ = T' →
      lanczosRoot ops Q V θ * (lanczosRoot ops Q V θ)ᵀ = Q * T' * Qᵀ) :=
  ⟨LinOp.C09.lanczos_root ops hsq Q V θ, fun h1 h2 => LinOp.C09.lanczos_root_nonneg ops hsq Q V T' θ h1 h2⟩

/-- Inverse root: `R⁻ = Q V diag(1/√θ)` satisfies `R⁻ R⁻ᵀ = Q (T + jitter)⁻¹ Qᵀ` when all Ritz values are positive. -/
theorem lanczos_root_inv {m : Nat} (hsq : ∀ x : K, 0 ≤ x → ops.sqrt x * ops.sqrt x = x)
    (Q : Matrix (Fin n) (Fin m) K) (V T' : Matrix (Fin m) (Fin m) K) (θ : Fin m → K)
    (hpos : ∀ j, 0 < θ j) (hV : Vᵀ * V = 1) (hT : V * Matrix.diagonal θ * Vᵀ = T') :
    lanczosRootInv ops Q V θ * (lanczosRootInv ops Q V θ)ᵀ = Q * T'⁻¹ * Qᵀ :=
  LinOp.C09.lanczos_root_inv ops hsq Q V T' θ hpos hV hT

/-- Full dimension: a square `Q` with `QᵀQ = I` and `QᵀAQ = T` gives `Q T Qᵀ = A`; in general `Q T Qᵀ` is the
orthogonal compression `(QQᵀ) A (QQᵀ)`. -/
theorem lanczos_full (Q A T : Matrix (Fin n) (Fin n) K) (hQ : Qᵀ * Q = 1) (hP : Qᵀ * A * Q = T) :
    Q * T * Qᵀ = A :=
  full_of_card Q A T rfl hQ hP

theorem lanczos_compression {m : Nat} (Q : Matrix (Fin n) (Fin m) K) (A : Matrix (Fin n) (Fin n) K)
    (T : Matrix (Fin m) (Fin m) K) (hP : Qᵀ * A * Q = T) : Q * T * Qᵀ = (Q * Qᵀ) * A * (Q * Qᵀ) :=
  LinOp.C09.lanczos_compression Q A T hP

/-- Full dimension, root: `R Rᵀ = A + jitter·I`. -/
theorem lanczos_full_root (hsq : ∀ x : K, 0 ≤ x → ops.sqrt x * ops.sqrt x = x)
    (Q A T V : Matrix (Fin n) (Fin n) K) (θ : Fin n → K) (c : K) (hQ : Qᵀ * Q = 1) (hP : Qᵀ * A * Q = T)
    (hV : V * Matrix.diagonal θ * Vᵀ = Matrix.of (addJitter T c)) (hθ : ∀ j, 0 ≤ θ j) :
    lanczosRoot ops Q V θ * (lanczosRoot ops Q V θ)ᵀ = A + c • 1 := by
  rw [root_of_compression ops hsq Q A T V θ c hP hV hθ, mul_eq_one_comm.mp hQ, Matrix.one_mul, Matrix.mul_one]

/-! ### the tridiagonal jitter is relative (no absolute floor): homogeneity -/

/-- `jitter = tridiagonal_jitter · min(diag T)` is homogeneous of degree 1: `c·T + jitter(c·T) = c·(T + jitter(T))`
for every `c > 0`, every size and every `T`. -/
theorem tridiagonal_jitter_homogeneous {m : Nat} (c : K) (hc : 0 < c) (jit : K) (T : Mat K m m) :
    jitterOf ltb jit (fun a b => c * T a b) = c * jitterOf ltb jit T ∧
    jitteredT ltb jit (fun a b => c * T a b) = fun a b => c * jitteredT ltb jit T a b :=
  ⟨jitter_homogeneous c hc jit T, jitteredT_homogeneous c hc jit T⟩

/-- `lanczos_root(c·A) = √c · lanczos_root(A)` in exact arithmetic (`c > 0`): Lanczos on `c·A` with the same start
vector gives the same `Q` and `c·T`; if `(θ, V)` is the eigendecomposition of the jittered `T` then `(c·θ, V)` is one
of the jittered `c·T`, and the assembled root (masked Ritz values included) is `√c` times the root of `A`. -/
theorem lanczos_root_homogeneous {m : Nat} (hs : SqrtLaw ops) (c : K) (hc : 0 < c) (jit : K)
    (Q : Matrix (Fin n) (Fin m) K) (T : Mat K m m) (V : Matrix (Fin m) (Fin m) K) (θ : Fin m → K)
    (hE : V * Matrix.diagonal θ * Vᵀ = Matrix.of (jitteredT ltb jit T)) :
    V * Matrix.diagonal (fun j => c * θ j) * Vᵀ = Matrix.of (jitteredT ltb jit (fun a b => c * T a b)) ∧
    lanczosRoot ops Q V (fun j => c * θ j) = ops.sqrt c • lanczosRoot ops Q V θ := by
  refine ⟨?_, lanczos_root_scaled hs c hc Q V θ⟩
  rw [eig_scaled c V _ θ hE]
  have h := jitteredT_homogeneous c hc jit T
  ext a b
  simp only [Matrix.smul_apply, Matrix.of_apply, smul_eq_mul, h]

/-- `Diagonalization.forward` before /repo 0faac5d added the jitter to every entry of `T` (`addJitterAll`), which is not the
documented diagonal jitter (`addJitter`): they differ as soon as `m ≥ 2` and the jitter is non-zero. -/
theorem diagonalization_jitter_all_entries_counterexample :
    ∃ (T : Mat Int 2 2) (j : Int), addJitterAll T j ≠ addJitter T j :=
  ⟨fun _ _ => 0, 1, fun h => by
    have h01 := congrFun (congrFun h 0) 1
    simp [addJitterAll, addJitter] at h01⟩

/-- …and they agree on the diagonal (the part of the documented behaviour that held of that code as well). -/
theorem diagonalization_jitter_diagonal_partial {m : Nat} (T : Mat K m m) (j : K) (a : Fin m) :
    addJitterAll T j a a = addJitter T j a a := by
  simp [addJitterAll, addJitter]

/-! ### end-to-end: `lanczosTridiag` on the closure of a symmetric matrix, matrix identities (no free `Q`, `T`) -/

/-- END-TO-END statement about `lanczosTridiag` itself: for every symmetric `A`, every size, budget `≥ 1` and non-zero
start vector the call succeeds with `1 ≤ count ≤ min max_iter n`, and — unless a returned off-diagonal entry is zero —
the returned `Q`, `T` satisfy `QᵀQ = 1`, `QᵀAQ = T`, `A Q − Q T = r e_kᵀ`, `Q T Qᵀ =` the orthogonal compression of
`A` onto the span of `Q`, and `Q T Qᵀ = A` when the budget reaches the dimension (`count = n`). -/
theorem lanczos_tridiag_matrix_identities (hs : SqrtLaw ops) {A : Matrix (Fin n) (Fin n) K} (hA : Aᵀ = A)
    (maxIter : Nat) (v : Vec K n) (hv : fn v ⬝ᵥ fn v ≠ 0) (hg : p.guardsSingle = true) (h1 : 1 ≤ min maxIter n) :
    ∃ o, lanczosTridiag ops p (amulOf A) maxIter v = .ok o ∧ 1 ≤ o.count ∧ o.count ≤ min maxIter n ∧
      (BetaOK (o.count - 1) o.st →
        (Matrix.of o.Q)ᵀ * Matrix.of o.Q = 1 ∧
        (Matrix.of o.Q)ᵀ * A * Matrix.of o.Q = Matrix.of o.T ∧
        A * Matrix.of o.Q - Matrix.of o.Q * Matrix.of o.T = residualMat A o ∧
        Matrix.of o.Q * Matrix.of o.T * (Matrix.of o.Q)ᵀ
          = (Matrix.of o.Q * (Matrix.of o.Q)ᵀ) * A * (Matrix.of o.Q * (Matrix.of o.Q)ᵀ) ∧
        (Matrix.of o.Q * (Matrix.of o.Q)ᵀ) * (Matrix.of o.Q * (Matrix.of o.Q)ᵀ)
          = Matrix.of o.Q * (Matrix.of o.Q)ᵀ ∧
        (o.count = n → Matrix.of o.Q * Matrix.of o.T * (Matrix.of o.Q)ᵀ = A)) := by
  obtain ⟨o, ho, h1', h3, hc⟩ := lanczos_ok (p := p) hs (selfAdj_amulOf hA) hg maxIter v hv h1
  exact ⟨o, ho, h1', h3, fun hb => matrix_identities_of_done hA o h1' hc.tstruct (hc.last h1' hb)⟩

/-- END-TO-END root: `lanczosTridiag`, the relative jitter `j = tridiagonal_jitter · min(diag T)` (`jitterOf`, i.e.
`minDiag`), any eigendecomposition `(θ, V)` of the jittered `T` with non-negative Ritz values (the `eigh` parameter) and
the assembly of `RootDecomposition.forward`: `R Rᵀ = (QQᵀ) A (QQᵀ) + j·QQᵀ`, and `R Rᵀ = A + j·1` when `count = n`. -/
theorem lanczos_tridiag_root (hs : SqrtLaw ops) {A : Matrix (Fin n) (Fin n) K} (hA : Aᵀ = A)
    (maxIter : Nat) (v : Vec K n) (hv : fn v ⬝ᵥ fn v ≠ 0) (hg : p.guardsSingle = true) (h1 : 1 ≤ min maxIter n)
    (jit : K) :
    ∃ o, lanczosTridiag ops p (amulOf A) maxIter v = .ok o ∧
      (BetaOK (o.count - 1) o.st →
        ∀ (V : Matrix (Fin o.count) (Fin o.count) K) (θ : Fin o.count → K),
          V * Matrix.diagonal θ * Vᵀ = Matrix.of (jitteredT ltb jit o.T) → (∀ j, 0 ≤ θ j) →
          lanczosRoot ops (Matrix.of o.Q) V θ * (lanczosRoot ops (Matrix.of o.Q) V θ)ᵀ
            = (Matrix.of o.Q * (Matrix.of o.Q)ᵀ) * A * (Matrix.of o.Q * (Matrix.of o.Q)ᵀ)
              + jitterOf ltb jit o.T • (Matrix.of o.Q * (Matrix.of o.Q)ᵀ) ∧
          (o.count = n →
            lanczosRoot ops (Matrix.of o.Q) V θ * (lanczosRoot ops (Matrix.of o.Q) V θ)ᵀ
              = A + jitterOf ltb jit o.T • (1 : Matrix (Fin n) (Fin n) K))) := by
  obtain ⟨o, ho, h1', h3, hc⟩ := lanczos_ok (p := p) hs (selfAdj_amulOf hA) hg maxIter v hv h1
  refine ⟨o, ho, fun hb V θ hE hθ => ?_⟩
  obtain ⟨hQ, hP, -⟩ := matrix_identities_of_done hA o h1' hc.tstruct (hc.last h1' hb)
  have hroot := root_of_compression ops hs.mul_self (Matrix.of o.Q) A (Matrix.of o.T) V θ (jitterOf ltb jit o.T) hP hE hθ
  refine ⟨hroot, fun hn => ?_⟩
  rw [hroot, QQt_of_card _ hn hQ, Matrix.one_mul, Matrix.mul_one]

/-- END-TO-END inverse root: same composition for `inverse = q_mat / root_evals`, with an orthogonal eigendecomposition
of the jittered `T` and positive Ritz values: `R⁻ R⁻ᵀ = Q (T + j·1)⁻¹ Qᵀ`, and `= (A + j·1)⁻¹` when `count = n`. -/
theorem lanczos_tridiag_root_inv (hs : SqrtLaw ops) {A : Matrix (Fin n) (Fin n) K} (hA : Aᵀ = A)
    (maxIter : Nat) (v : Vec K n) (hv : fn v ⬝ᵥ fn v ≠ 0) (hg : p.guardsSingle = true) (h1 : 1 ≤ min maxIter n)
    (jit : K) :
    ∃ o, lanczosTridiag ops p (amulOf A) maxIter v = .ok o ∧
      (BetaOK (o.count - 1) o.st →
        ∀ (V : Matrix (Fin o.count) (Fin o.count) K) (θ : Fin o.count → K),
          V * Matrix.diagonal θ * Vᵀ = Matrix.of (jitteredT ltb jit o.T) → Vᵀ * V = 1 → (∀ j, 0 < θ j) →
          lanczosRootInv ops (Matrix.of o.Q) V θ * (lanczosRootInv ops (Matrix.of o.Q) V θ)ᵀ
            = Matrix.of o.Q * (Matrix.of (jitteredT ltb jit o.T))⁻¹ * (Matrix.of o.Q)ᵀ ∧
          (o.count = n →
            lanczosRootInv ops (Matrix.of o.Q) V θ * (lanczosRootInv ops (Matrix.of o.Q) V θ)ᵀ
              = (A + jitterOf ltb jit o.T • (1 : Matrix (Fin n) (Fin n) K))⁻¹)) := by
  obtain ⟨o, ho, h1', h3, hc⟩ := lanczos_ok (p := p) hs (selfAdj_amulOf hA) hg maxIter v hv h1
  refine ⟨o, ho, fun hb V θ hE hV hθ => ?_⟩
  obtain ⟨hQ, hP, -⟩ := matrix_identities_of_done hA o h1' hc.tstruct (hc.last h1' hb)
  exact ⟨LinOp.C09.lanczos_root_inv ops hs.mul_self (Matrix.of o.Q) V _ θ hθ hV hE,
    fun hn => root_inv_full_of_card ops hs.mul_self (Matrix.of o.Q) A (Matrix.of o.T) V θ (jitterOf ltb jit o.T)
      hn hQ hP hV hE hθ⟩

/-! ### the start vector enters only through `v/‖v‖` (no eps, no clamp): invariance under positive rescaling -/

/-- The index bounds `↑c < C` of `xs[c]`, `c : Fin C`, in the statements below are closed by `omega` directly; the default search
first rewrites and simplifies the whole context, every time an occurrence is elaborated, and then calls the same `omega`. -/
local macro_rules | `(tactic| get_elem_tactic_extensible) => `(tactic| omega)

/-- `lanczos_tridiag(A, init_vecs = c·v) = lanczos_tridiag(A, init_vecs = v)` for every `c > 0`, every size, budget,
closure (no symmetry needed) and start vector (`√(c²x) = c√x` from the lawful square root): the SAME result — count, `Q`,
`T`, extra passes.  True because the code normalises by the plain 2-norm (`generated_start_normalisation`); an eps added to
or a clamp of the norm breaks it for small `‖v‖`. -/
theorem lanczos_start_scale_invariant (hs : SqrtLaw ops) (maxIter : Nat) (v : Vec K n) (c : K) (hc : 0 < c) :
    lanczosTridiag ops p amul maxIter (vscale v c) = lanczosTridiag ops p amul maxIter v := by
  simp only [lanczosTridiag, init0_scale hs amul _ v hc, init_scale hs amul _ v hc]

/-- The same for a multi-column call, every column with its own factor (one tiny column next to healthy ones): the coupled
run — shared count included — is unchanged, so a tiny start vector cannot end the loop early for the other columns. -/
theorem lanczos_multi_start_scale_invariant {C : Nat} {amuls : Fin C → Vec K n → Vec K n} (hs : SqrtLaw ops)
    (maxIter : Nat) (vs : Vector (Vec K n) C) (cs : Fin C → K) (hc : ∀ c, 0 < cs c) :
    lanczosMulti ops p amuls maxIter (Vector.ofFn fun c => vscale vs[c] (cs c)) = lanczosMulti ops p amuls maxIter vs := by
  simp only [lanczosMulti, Fin.getElem_fin, Vector.getElem_ofFn, init0_scale hs _ _ _ (hc _),
    init_scale hs _ _ _ (hc _)]

/-- …and the returned first vector is the unit vector `v/‖v‖` itself. -/
theorem lanczos_first_vector (hs : SqrtLaw ops) (hA : SelfAdj amul) (maxIter : Nat) (v : Vec K n)
    (hv : fn v ⬝ᵥ fn v ≠ 0) (hg : p.guardsSingle = true) (h1 : 1 ≤ min maxIter n) :
    ∃ o, lanczosTridiag ops p amul maxIter v = .ok o ∧ Qf o.st 0 = (ops.sqrt (fn v ⬝ᵥ fn v))⁻¹ • fn v := by
  cases hc : (decide (1 < min maxIter n) && ops.gt (ops.abs (init0 ops amul (min maxIter n) v).2.2) p.breakTol)
  · exact ⟨_, lanczosTridiag_single hg h1 hc, init0_Q0 ..⟩
  · rw [Bool.and_eq_true, decide_eq_true_eq] at hc
    exact ⟨_, lanczosTridiag_loop hc.1 fun _ => hc.2, (loop_Q0 amul _ _ 1 _ le_rfl).trans (init_Q0 ..)⟩

/-- PREVIOUS re-orthogonalisation test (before commit 7af42c2, `torch.sum(inner_products > tol)`, `anyGtSigned`): an inner
product of `−1` against `tol = 1e-5`-like `0` is NOT reported, so no further pass was run and `could_reorthogonalize` was set
although the new vector was far from orthogonal; the magnitude test of the code as it is now (`anyGt`) reports it. -/
theorem signedReorthTest_misses_negative_counterexample :
    ∃ (ops : NumOps Int) (ip : Vector Int 1) (tol : Int),
      anyGtSigned ops ip tol = false ∧ anyGt ops ip tol = true :=
  ⟨{ sqrt := id, gt := fun a b => decide (b < a), abs := fun x => if x < 0 then -x else x }, #v[-1], 0, by decide, by decide⟩

/-- The magnitude test subsumes the signed one wherever `abs` does not decrease a value and `>` is monotone in its first
argument: whatever the previous code sent to another pass, the present code sends too. -/
theorem signedReorthTest_implies_magnitude {m : Nat} (hmono : ∀ x t : K, ops.gt x t = true → ops.gt (ops.abs x) t = true)
    (ip : Vector K m) (tol : K) (h : anyGtSigned ops ip tol = true) : anyGt ops ip tol = true := by
  simp only [anyGtSigned, anyGt, List.any_eq_true] at h ⊢
  obtain ⟨j, hj, hgt⟩ := h
  exact ⟨j, hj, hmono _ _ hgt⟩

/-! ### the coupled multi-column loop (`lanczosMulti`: all columns of one call in ONE loop) -/

/-- LIFT of the single-column theorems through the coupled loop.  `C` columns (batch members × init vectors), each with
its own self-adjoint closure and non-zero start vector, run with ONE iteration counter; extra re-orthogonalisation
passes are run on all columns as soon as ANY column asks, and the loop is left only when ALL columns are at or below
the threshold — so a column can be carried on after its own breakdown.  The call succeeds, returns one
`1 ≤ count ≤ min max_iter n`, every column's `T` is symmetric tridiagonal, and for EVERY column `c` and EVERY prefix
length `m ≤ count` such that the column's own off-diagonal entries `T_c[j, j+1]`, `j < m − 1`, are non-zero (the prefix
before that column's own breakdown): `q_0 … q_{m−1}` are orthonormal, satisfy the three-term recurrence, and
`q_i · A_c q_j = T_c[i, j]` on the prefix — whatever the other columns did. -/
theorem lanczos_multi_column_prefix {C : Nat} {amuls : Fin C → Vec K n → Vec K n} (hs : SqrtLaw ops)
    (hA : ∀ c, SelfAdj (amuls c)) (maxIter : Nat) (vs : Vector (Vec K n) C)
    (hv : ∀ c : Fin C, fn vs[c] ⬝ᵥ fn vs[c] ≠ 0) (h1 : 1 ≤ min maxIter n) :
    ∃ o, lanczosMulti ops p amuls maxIter vs = .ok o ∧ 1 ≤ o.count ∧ o.count ≤ min maxIter n ∧
      ∀ c : Fin C, TStruct o.cols[c] ∧
        ∀ m, 1 ≤ m → m ≤ o.count → BetaOK (m - 1) o.cols[c] →
          (∀ i j, i < m → j < m → Qf o.cols[c] i ⬝ᵥ Qf o.cols[c] j = if i = j then 1 else 0) ∧
          (∀ j, j + 1 < m → AQf (amuls c) o.cols[c] j =
            (if j = 0 then 0 else Tf o.cols[c] j (j - 1) • Qf o.cols[c] (j - 1)) + Tf o.cols[c] j j • Qf o.cols[c] j
              + Tf o.cols[c] j (j + 1) • Qf o.cols[c] (j + 1)) ∧
          (∀ i j, i < m → j < m → Qf o.cols[c] i ⬝ᵥ AQf (amuls c) o.cols[c] j = Tf o.cols[c] i j) := by
  obtain ⟨o, ho, h1', h3, hcols⟩ := lanczosMulti_ok (p := p) hs hA maxIter vs (fun c hc => hv ⟨c, hc⟩) h1
  refine ⟨o, ho, h1', h3, fun c => ⟨(hcols c.1 c.2).tstruct, fun m hm1 hm2 hb => ?_⟩⟩
  have hd := (hcols c.1 c.2).prefix_done (m - 1) (by omega) hb
  exact ⟨fun i j hi hj => hd.orth i j (by omega) (by omega), fun j hj => hd.recur j (by omega),
    fun i j hi hj => done_projection (hA c) (hcols c.1 c.2).tstruct hd i j (by omega) (by omega)⟩

/-- Coupled run on matrices: column `c` runs on the symmetric matrix `A c` (its batch member).  Every column that has
not broken down before the shared `count` satisfies the matrix identities of the property; in particular a column that
reaches `count = n` reconstructs its matrix, `Q_c T_c Q_cᵀ = A_c`. -/
theorem lanczos_multi_matrix_identities {C : Nat} (A : Fin C → Matrix (Fin n) (Fin n) K) (hs : SqrtLaw ops)
    (hA : ∀ c, (A c)ᵀ = A c) (maxIter : Nat) (vs : Vector (Vec K n) C)
    (hv : ∀ c : Fin C, fn vs[c] ⬝ᵥ fn vs[c] ≠ 0) (h1 : 1 ≤ min maxIter n) :
    ∃ o, lanczosMulti ops p (fun c => amulOf (A c)) maxIter vs = .ok o ∧
      ∀ c : Fin C, BetaOK (o.count - 1) o.cols[c] →
        (Matrix.of (o.col c).Q)ᵀ * Matrix.of (o.col c).Q = 1 ∧
        (Matrix.of (o.col c).Q)ᵀ * A c * Matrix.of (o.col c).Q = Matrix.of (o.col c).T ∧
        A c * Matrix.of (o.col c).Q - Matrix.of (o.col c).Q * Matrix.of (o.col c).T = residualMat (A c) (o.col c) ∧
        (o.count = n → Matrix.of (o.col c).Q * Matrix.of (o.col c).T * (Matrix.of (o.col c).Q)ᵀ = A c) := by
  obtain ⟨o, ho, h1', h3, hcols⟩ :=
    lanczosMulti_ok (p := p) (amuls := fun c => amulOf (A c)) hs (fun c => selfAdj_amulOf (hA c)) maxIter vs
      (fun c hc => hv ⟨c, hc⟩) h1
  refine ⟨o, ho, fun c hb => ?_⟩
  obtain ⟨e1, e2, e3, _, _, e6⟩ := matrix_identities_of_done (hA c) (o.col c) h1' (hcols c.1 c.2).tstruct
    ((hcols c.1 c.2).last h1' hb)
  exact ⟨e1, e2, e3, e6⟩

/-- What the code does with a column that BREAKS DOWN in iteration `k` (`β_k = 0` exactly) while the run goes on
(`k + 1 < num_iter`): its residual is the zero vector, the vector handed to the extra passes is `r / 0` — entry by entry
the quotient `0 / 0` (NaN in IEEE arithmetic, which the `Float` run of this model and the implementation both produce; `0` in a
field) — and the two off-diagonal entries written are `0`; its first `k + 1` vectors stay as they are (`lanczos_multi_column_prefix`). -/
theorem multi_column_breakdown {C : Nat} {amuls : Fin C → Vec K n → Vec K n} (hs : SqrtLaw ops)
    (numIter k : Nat) (ss : Vector (St K n) C) (c : Fin C) (h : k + 1 < numIter)
    (hb : bodyN ops (amuls c) k ss[c] = 0) :
    fn (bodyR2 (amuls c) k ss[c]) = 0 ∧
    (colPre ops (amuls c) k ss[c]).2.2 = vdiv (bodyR2 (amuls c) k ss[c]) 0 ∧
    Tf (bodyM ops p amuls numIter k ss).1[c] k (k + 1) = 0 ∧ Tf (bodyM ops p amuls numIter k ss).1[c] (k + 1) k = 0 :=
  (bodyM_step hs c.2).breakdown hs h hb

/-- The coupled break test: after iteration `k` the loop goes on iff SOME column has `|β_k| > 1e-6` and the shared
extra-pass loop ended with `could_reorthogonalize = True`; a column at or below the threshold does not stop the others.
Without a re-orthogonalisation block (`k + 1 = num_iter`) there is no break. -/
theorem multi_break_iff {C : Nat} {amuls : Fin C → Vec K n → Vec K n} (numIter k : Nat) (ss : Vector (St K n) C) :
    (k + 1 < numIter →
      ((bodyM ops p amuls numIter k ss).2 = false ↔
        (∃ c : Fin C, ops.gt (ops.abs (bodyN ops (amuls c) k ss[c])) p.breakTol = true) ∧
        (extraPassesM ops p.tol (k + 1) (Vector.ofFn fun c => ss[c].q) p.extra
          (Vector.ofFn fun c => bodyW ops (amuls c) k ss[c])).2.1 = true)) ∧
    (¬ k + 1 < numIter → (bodyM ops p amuls numIter k ss).2 = false) := by
  unfold bodyM
  refine ⟨fun h => ?_, fun h => by rw [if_neg h]⟩
  simp only [h, if_true, Fin.getElem_fin, Vector.getElem_ofFn, colPre_eq, anyCol, Bool.or_eq_false_iff,
    Bool.not_eq_eq_eq_not, Bool.not_false, List.any_eq_true, List.mem_finRange, true_and]

/-- Extra passes triggered by ANOTHER column are harmless: whatever number of passes the shared test decides, a
column whose vector is already a unit vector orthogonal to its `q_0 … q_k` gets it back unchanged. -/
theorem multi_extra_passes_fixed {C : Nat} (hs : SqrtLaw ops) (tol : K) (k : Nat) (qs : Vector (Fam (Vec K n)) C)
    (c : Fin C) (fuel : Nat) (rs : Vector (Vec K n) C)
    (h0 : ∀ j, j ≤ k → fn (qs[c].get j) ⬝ᵥ fn rs[c] = 0) (h1 : fn rs[c] ⬝ᵥ fn rs[c] = 1) :
    (extraPassesM ops tol (k + 1) qs fuel rs).1[c] = rs[c] :=
  extraPassesM_fixed hs tol k qs c.2 fuel rs h0 h1

/-- The coupled model restricted to ONE column is the single-column model: same `count`, same buffers, same number of
extra passes (a program equivalence, for every scalar type — also the `Float` of the driver); so the single-column
theorems above are the `C = 1` case of the coupled ones and both correspondences tie the same definitions. -/
theorem lanczos_multi_one_column (hg : p.guardsSingle = true) (maxIter : Nat) (v : Vec K n) :
    (lanczosMulti ops p (fun _ : Fin 1 => amul) maxIter #v[v]).map (fun o => o.col 0)
      = lanczosTridiag ops p amul maxIter v :=
  lanczosMulti_one ops p hg amul maxIter v

/-- `mins = min(diag t_mat)` of the jitter statements (`minDiag`): a lower bound of the diagonal, attained on it
(so the jitter is `tridiagonal_jitter ×` an actual diagonal entry, the smallest one); the default only for `0 × 0`. -/
theorem min_diag_spec {m : Nat} (T : Mat K m m) (d : K) :
    (∀ i : Fin m, minDiag ltb T d ≤ T i i) ∧ (0 < m → ∃ i : Fin m, minDiag ltb T d = T i i) ∧
      (m = 0 → minDiag ltb T d = d) := by
  rw [minDiag_foldl]
  rcases hl : List.finRange m with _ | ⟨i0, l⟩
  · have hm : m = 0 := by
      have := congrArg List.length hl
      simpa using this
    subst hm
    exact ⟨fun i => i.elim0, fun h => absurd h (lt_irrefl 0), fun _ => by simp⟩
  · obtain ⟨h1, h2, h3⟩ := foldl_min_spec T (i0 :: l) (T i0 i0)
    refine ⟨fun i => h2 i (by rw [← hl]; exact List.mem_finRange i), fun _ => ?_, fun hm => ?_⟩
    · rcases h3 with h3 | ⟨i, _, h3⟩
      · exact ⟨i0, h3⟩
      · exact ⟨i, h3⟩
    · subst hm; exact i0.elim0

/-! ### constants and tests of the source, regenerated on every run -/

/-- The jitter statements of `RootDecomposition.forward` and `Diagonalization.forward` are the documented relative
jitter `tridiagonal_jitter · min(diag t_mat)` — no clamp, no floor, no absolute term — added before
`lanczos_tridiag_to_diag`.  (For `Diagonalization` the first alternative, `torch.diag_embed(jitter_val * mins).expand_as(t_mat)`,
is the statement before /repo 0faac5d — `addJitterAll`, the jitter on every entry; the second is the statement of
notes/C09_fix_2.diff, `addJitter`, which is the one in the source.) -/
theorem generated_jitter :
    Generated.C09.rootJitter =
      ["mins = to_linear_operator(t_mat)._diagonal().min(dim=-1, keepdim=True)[0].unsqueeze(-1)",
       "jitter_mat = settings.tridiagonal_jitter.value() * mins * torch.eye(t_mat.size(-1), device=t_mat.device, dtype=t_mat.dtype).expand_as(t_mat)",
       "eigenvalues, eigenvectors = lanczos.lanczos_tridiag_to_diag(t_mat + jitter_mat)"] ∧
    (Generated.C09.diagJitter =
      ["mins = torch.diagonal(t_mat, dim1=-1, dim2=-2).min(dim=-1, keepdim=True)[0]",
       "jitter_val = settings.tridiagonal_jitter.value()",
       "jitter_mat = torch.diag_embed(jitter_val * mins).expand_as(t_mat)",
       "eigenvalues, eigenvectors = lanczos.lanczos_tridiag_to_diag(t_mat + jitter_mat)"] ∨
     Generated.C09.diagJitter =
      ["mins = torch.diagonal(t_mat, dim1=-1, dim2=-2).min(dim=-1, keepdim=True)[0]",
       "jitter_val = settings.tridiagonal_jitter.value()",
       "jitter_mat = torch.diag_embed((jitter_val * mins).expand(*mins.shape[:-1], t_mat.size(-1)))",
       "eigenvalues, eigenvectors = lanczos.lanczos_tridiag_to_diag(t_mat + jitter_mat)"]) :=
  ⟨rfl, .inr rfl⟩


/-- The literals and comparison shapes the model hard-wires are the ones in the working tree:
`tol = 1e-5`, `range(10)`, `beta_curr.abs() > 1e-6`, `inner_products.abs() > tol` (magnitude test, since 7af42c2), the
`k + 1 < num_iter` guard, `num_iter = min(max_iter, n)`, `range(1, num_iter)`, trimming to `k + 1`,
`evals.ge(0)` / fill value 1, tridiagonal jitter `1e-6`, and the guard of the first step
(`num_iter > 1 and torch.sum(beta_0.abs() > 1e-6) > 0`, same literal as the break test). -/
theorem generated_constants :
    Generated.C09.tol = 1 / 100000 ∧ Generated.C09.extra = 10 ∧ Generated.C09.extraFound = true ∧
    Generated.C09.breakTol = 1 / 1000000 ∧ Generated.C09.breakLhs = "beta_curr.abs()" ∧
    Generated.C09.breakOp = "Gt" ∧
    Generated.C09.breakTest = "torch.sum(beta_curr.abs() > 1e-06) == 0 or not could_reorthogonalize" ∧
    Generated.C09.innerTest = "not torch.sum(inner_products.abs() > tol)" ∧
    Generated.C09.innerLhs = "inner_products.abs()" ∧ Generated.C09.innerOp = "Gt" ∧
    Generated.C09.numIter = "min(max_iter, matrix_shape[-1])" ∧ Generated.C09.loopIter = "range(1, num_iter)" ∧
    Generated.C09.reorthGuard = "k + 1 < num_iter" ∧ Generated.C09.trim = "num_iter = k + 1" ∧
    Generated.C09.mask = "evals.ge(0)" ∧ Generated.C09.maskFill = 1 ∧
    Generated.C09.tridiagonalJitter = 1 / 1000000 ∧ Generated.C09.guardsSingle = true ∧
    Generated.C09.firstGuard = "num_iter > 1 and torch.sum(beta_0.abs() > 1e-06) > 0" :=
  ⟨rfl, rfl, rfl, rfl, rfl, rfl, rfl, rfl, rfl, rfl, rfl, rfl, rfl, rfl, rfl, rfl, rfl, rfl, rfl⟩

/-- The statements before the loop are the ones the model mirrors; in particular the start vector is normalised by its
plain 2-norm — `init_vecs / torch.norm(init_vecs, 2, dim=-2)`, no eps, no clamp, no rescaling — which is what
`lanczos_start_scale_invariant` rests on; and nothing between `if init_vecs is None:` and that statement touches supplied
start vectors (`setup`).  (Second alternative = the code as it is since commit 894ea76 = notes/C09_fix_3.diff: two-step normalisation, first by
the largest entry — a positive factor — then by the 2-norm; the same `v/‖v‖` by `lanczos_start_scale_invariant`, without the
under/overflow of `‖v‖²`.  The first alternative is the previous single statement.) -/
theorem generated_start_normalisation :
    Generated.C09.setup =
      ["if init_vecs is None: init_vecs = torch.randn(matrix_shape[-1], num_init_vecs, dtype=dtype, device=device) init_vecs = init_vecs.expand(*batch_shape, matrix_shape[-1], num_init_vecs) else: if settings.debug.on(): if dtype != init_vecs.dtype: raise RuntimeError('Supplied dtype {} and init_vecs.dtype {} do not agree!'.format(dtype, init_vecs.dtype)) if device != init_vecs.device: raise RuntimeError('Supplied device {} and init_vecs.device {} do not agree!'.format(device, init_vecs.device)) if batch_shape != init_vecs.shape[:-2]: raise RuntimeError('batch_shape {} and init_vecs.shape {} do not agree!'.format(batch_shape, init_vecs.shape)) if matrix_shape[-1] != init_vecs.size(-2): raise RuntimeError('matrix_shape {} and init_vecs.shape {} do not agree!'.format(matrix_shape, init_vecs.shape)) num_init_vecs = init_vecs.size(-1)", "num_iter = min(max_iter, matrix_shape[-1])", "dim_dimension = -2", "if settings.verbose_linalg.on(): settings.verbose_linalg.logger.debug(f'Running Lanczos on a {matrix_shape} matrix with a {init_vecs.shape} RHS for {num_iter} iterations.')", "q_mat = torch.zeros(num_iter, *batch_shape, matrix_shape[-1], num_init_vecs, dtype=dtype, device=device)", "t_mat = torch.zeros(num_iter, num_iter, *batch_shape, num_init_vecs, dtype=dtype, device=device)"] ∧
    (Generated.C09.preLoop =
      ["q_0_vec = init_vecs / torch.norm(init_vecs, 2, dim=dim_dimension).unsqueeze(dim_dimension)",
       "q_mat[0].copy_(q_0_vec)", "r_vec = matmul_closure(q_0_vec)", "alpha_0 = q_0_vec.mul(r_vec).sum(dim_dimension)",
       "r_vec.sub_(alpha_0.unsqueeze(dim_dimension).mul(q_0_vec))", "beta_0 = torch.norm(r_vec, 2, dim=dim_dimension)",
       "t_mat[0, 0].copy_(alpha_0)",
       "if num_iter > 1 and torch.sum(beta_0.abs() > 1e-06) > 0: t_mat[0, 1].copy_(beta_0) t_mat[1, 0].copy_(beta_0) q_mat[1].copy_(r_vec.div_(beta_0.unsqueeze(dim_dimension))) else: num_iter = 1",
       "k = 0"] ∨
     Generated.C09.preLoop =
      ["q_0_vec = init_vecs / init_vecs.abs().amax(dim=dim_dimension, keepdim=True)",
       "q_0_vec = q_0_vec / torch.norm(q_0_vec, 2, dim=dim_dimension).unsqueeze(dim_dimension)",
       "q_mat[0].copy_(q_0_vec)", "r_vec = matmul_closure(q_0_vec)", "alpha_0 = q_0_vec.mul(r_vec).sum(dim_dimension)",
       "r_vec.sub_(alpha_0.unsqueeze(dim_dimension).mul(q_0_vec))", "beta_0 = torch.norm(r_vec, 2, dim=dim_dimension)",
       "t_mat[0, 0].copy_(alpha_0)",
       "if num_iter > 1 and torch.sum(beta_0.abs() > 1e-06) > 0: t_mat[0, 1].copy_(beta_0) t_mat[1, 0].copy_(beta_0) q_mat[1].copy_(r_vec.div_(beta_0.unsqueeze(dim_dimension))) else: num_iter = 1",
       "k = 0"]) :=
  ⟨rfl, .inr rfl⟩

/-- The statements of the loop body, of the re-orthogonalisation block and of the extra-pass loop are the ones
the model mirrors (any edit of these statements must be re-modelled). -/
theorem generated_loop_skeleton :
    Generated.C09.loopBody =
      ["q_prev_vec = q_mat[k - 1]", "q_curr_vec = q_mat[k]", "beta_prev = t_mat[k, k - 1].unsqueeze(dim_dimension)",
       "r_vec = matmul_closure(q_curr_vec) - q_prev_vec.mul(beta_prev)",
       "alpha_curr = q_curr_vec.mul(r_vec).sum(dim_dimension, keepdim=True)",
       "t_mat[k, k].copy_(alpha_curr.squeeze(dim_dimension))"] ∧
    Generated.C09.reorthBody =
      ["r_vec.sub_(alpha_curr.mul(q_curr_vec))",
       "correction = r_vec.unsqueeze(0).mul(q_mat[:k + 1]).sum(dim_dimension, keepdim=True)",
       "correction = q_mat[:k + 1].mul(correction).sum(0)", "r_vec.sub_(correction)",
       "r_vec_norm = torch.norm(r_vec, 2, dim=dim_dimension, keepdim=True)", "r_vec.div_(r_vec_norm)",
       "beta_curr = r_vec_norm.squeeze_(dim_dimension)", "t_mat[k, k + 1].copy_(beta_curr)",
       "t_mat[k + 1, k].copy_(beta_curr)",
       "inner_products = q_mat[:k + 1].mul(r_vec.unsqueeze(0)).sum(dim_dimension)",
       "could_reorthogonalize = False", "q_mat[k + 1].copy_(r_vec)"] ∧
    Generated.C09.extraBody =
      ["if not torch.sum(inner_products.abs() > tol): could_reorthogonalize = True break",
       "correction = r_vec.unsqueeze(0).mul(q_mat[:k + 1]).sum(dim_dimension, keepdim=True)",
       "correction = q_mat[:k + 1].mul(correction).sum(0)", "r_vec.sub_(correction)",
       "r_vec_norm = torch.norm(r_vec, 2, dim=dim_dimension, keepdim=True)", "r_vec.div_(r_vec_norm)",
       "inner_products = q_mat[:k + 1].mul(r_vec.unsqueeze(0)).sum(dim_dimension)"] :=
  ⟨rfl, rfl, rfl⟩

/-! ### the hypotheses are satisfiable -/

/-- A real instance: over `ℝ` with `Real.sqrt`, `A = [[2,1],[1,3]]` (symmetric), start vector `e_0`, budget 2.  All
hypotheses of the theorems above hold together — lawful square root, self-adjoint closure, non-zero start vector, guarded
first step, budget — and the run of the model returns `count = 2` with `BetaOK` (no breakdown: `β_0 = 1`). -/
theorem hypotheses_satisfiable_real :
    SqrtLaw realOps ∧ SelfAdj (amulOf exA) ∧ fn exV ⬝ᵥ fn exV ≠ 0 ∧ exP.guardsSingle = true ∧ 1 ≤ min 2 2 ∧
    ∃ o, lanczosTridiag realOps exP (amulOf exA) 2 exV = .ok o ∧ o.count = 2 ∧ BetaOK (o.count - 1) o.st :=
  real_instance

/-- …hence the conclusion of the end-to-end theorem is not vacuous: on that instance `Q T Qᵀ = A`. -/
example : ∃ o, lanczosTridiag realOps exP (amulOf exA) 2 exV = .ok o ∧
    Matrix.of o.Q * Matrix.of o.T * (Matrix.of o.Q)ᵀ = exA := by
  obtain ⟨hs, _, hv, hg, h1, o, ho, hc, hb⟩ := real_instance
  obtain ⟨o', ho', _, _, hid⟩ := lanczos_tridiag_matrix_identities (p := exP) hs exA_symm 2 exV hv hg h1
  have : o' = o := by
    rw [ho] at ho'
    exact (Except.ok.inj ho').symm
  subst this
  exact ⟨o', ho, (hid hb).2.2.2.2.2 hc⟩

/-- the multi-column hypotheses are satisfiable as well (two columns on that matrix, over `ℝ`) -/
example : ∃ (vs : Vector (Vec ℝ 2) 2), (∀ c : Fin 2, SelfAdj ((fun _ : Fin 2 => amulOf exA) c)) ∧
    (∀ c : Fin 2, fn vs[c] ⬝ᵥ fn vs[c] ≠ 0) :=
  ⟨#v[exV, exV], fun _ => selfAdj_amulOf exA_symm, fun c => by
    fin_cases c <;> exact exV_ne⟩

end LinOp.C09.Props
