import LinOp.C10.ProofsPSD
import LinOp.C10.ProofsLoop
import LinOp.C10.ProofsPrecond
import LinOp.C10.ProofsLogdet
import LinOp.C10.ProofsSPD
import LinOp.C10.ProofsErr
import LinOp.C10.ProofsPerm
import LinOp.C10.ProofsTie
import LinOp.C10.History
import LinOp.C10.ProofsMask
import Mathlib.Analysis.Real.Sqrt
import LinOp.Generated.C10Consts
/-!
C10 — pivoted Cholesky under-approximates greedily; its preconditioner is exact.  Property theorems only.
-/
namespace LinOp.C10

/-- The control conditions and formulas extracted from the working tree are the ones the model mirrors. -/
theorem generated_source_matches_model :
    LinOp.Generated.C10.whileTest = "m == 0 or (m < max_iter and torch.max(errors) > error_tol)" ∧
    LinOp.Generated.C10.maxIterClamp = "min(max_iter, matrix_shape[-1])" ∧
    LinOp.Generated.C10.bodyIfs = ["m + 1 < matrix_shape[-1]", "m > 0"] ∧
    LinOp.Generated.C10.origError = "torch.max(matrix_diag, dim=-1)[0]" ∧
    LinOp.Generated.C10.errors = ["torch.norm(matrix_diag, 1, dim=-1) / orig_error",
                  "torch.norm(matrix_diag.gather(-1, pi_i), 1, dim=-1) / orig_error"] ∧
    LinOp.Generated.C10.tolDefault = "error_tol = settings.preconditioner_tolerance.value()" ∧
    LinOp.Generated.C10.returns = ["(L[..., :m, :].mT.contiguous(), permutation)"] ∧
    LinOp.Generated.C10.diagClone = true ∧
    LinOp.Generated.C10.enableTest = "settings.max_preconditioner_size.value() == 0 or self.size(-1) < settings.min_preconditioning_size.value()" ∧
    LinOp.Generated.C10.pivCholCall = "self._linear_op.pivoted_cholesky(rank=max_iter)" ∧
    LinOp.Generated.C10.maxIterSource = "settings.max_preconditioner_size.value()" ∧
    LinOp.Generated.C10.closureReturns = ["tensor / self._noise - qqt", "1 / self._noise * (tensor - qqt)"] :=
  ⟨rfl, rfl, rfl, rfl, rfl, rfl, rfl, rfl, rfl, rfl, rfl, rfl⟩

/-- **The constant-diagonal branch is selected by EXACT equality** (`torch.equal(noise, noise[..., :1, :] * ones_like(noise))`,
the predicate `constantDiag` models), and the bodies of `_init_cache`, `_init_cache_for_constant_diag` and
`_init_cache_for_non_constant_diag` (QR input, `_q_cache` slicing/scaling, both log-determinant formulas, `_precond_lt`) extracted from
the working tree are statement for statement the ones the model mirrors.  A changed predicate (e.g. `allclose`) or formula breaks this
obligation. -/
theorem generated_init_cache_matches_model :
    LinOp.Generated.C10.initCache = ["*batch_shape, n, k = self._piv_chol_self.shape", "self._noise = self._diag_tensor._diagonal().unsqueeze(-1)", "noise_first_element = self._noise[..., :1, :]", "self._constant_diag = torch.equal(self._noise, noise_first_element * torch.ones_like(self._noise))", "eye = torch.eye(k, dtype=self._piv_chol_self.dtype, device=self._piv_chol_self.device)", "eye = eye.expand(*batch_shape, k, k)", "if self._constant_diag:     self._init_cache_for_constant_diag(eye, batch_shape, n, k) else:     self._init_cache_for_non_constant_diag(eye, batch_shape, n)", "self._precond_lt = PsdSumLinearOperator(RootLinearOperator(self._piv_chol_self), self._diag_tensor)"] ∧
    LinOp.Generated.C10.initCacheConst = ["self._noise = self._noise.narrow(-2, 0, 1)", "self._q_cache, self._r_cache = torch.linalg.qr(torch.cat((self._piv_chol_self, self._noise.sqrt() * eye), dim=-2))", "self._q_cache = self._q_cache[..., :n, :]", "logdet = self._r_cache.diagonal(dim1=-1, dim2=-2).abs().log().sum(-1).mul(2)", "logdet = logdet + (n - k) * self._noise.squeeze(-2).squeeze(-1).log()", "self._precond_logdet_cache = logdet.view(*batch_shape) if len(batch_shape) else logdet.squeeze()"] ∧
    LinOp.Generated.C10.initCacheNonconst = ["self._q_cache, self._r_cache = torch.linalg.qr(torch.cat((self._piv_chol_self / self._noise.sqrt(), eye), dim=-2))", "self._q_cache = self._q_cache[..., :n, :] / self._noise.sqrt()", "logdet = self._r_cache.diagonal(dim1=-1, dim2=-2).abs().log().sum(-1).mul(2)", "logdet -= (1.0 / self._noise).log().sum([-1, -2])", "self._precond_logdet_cache = logdet.view(*batch_shape) if len(batch_shape) else logdet.squeeze()"] :=
  ⟨rfl, rfl, rfl⟩

/-! ### Pivoted Cholesky (`PivotedCholesky.forward`), per batch member, any size `n`, any step count -/

section pc
variable {α : Type} [Field α] [LinearOrder α] [IsStrictOrderedRing α] {n : Nat}

/-- **The pivots are always a permutation**: after any number of iterations, on any input (PSD or not,
whatever `sqrt` does), `permutation` is a bijection of `0..n-1`. -/
theorem pc_perm_valid (P : Prim α) (A : Mat α n n) (m : Nat) : Function.Bijective (iter P A m).perm.get := by
  induction m with
  | zero => exact (init_inv A).bij
  | succ m ih =>
    simp only [iter]
    split
    · rw [step_perm]; exact swapPerm_bij _ _ ih
    · exact ih

/-- **Each pivot is the largest remaining residual diagonal entry**: in iteration `m` the index moved to position `m`
carries a diagonal entry of `A − L_m L_mᵀ` that is `≥` the entry of every index not yet pivoted. -/
theorem pc_pivot_is_argmax {P : Prim α} {A : Mat α n n} (hP : SqrtLaw P) (hA : Symm A) (m : Nat) (hm : m < n)
    (hpos : PivotsPos P A m) :
    let s := iter P A m
    let p := (iter P A (m + 1)).perm.get ⟨m, hm⟩
    (∃ j : Fin n, m ≤ j.val ∧ p = s.perm.get j) ∧
    ∀ j : Fin n, m ≤ j.val → resid A s.rows (s.perm.get j) (s.perm.get j) ≤ resid A s.rows p p := by
  intro s p
  have hinv : Inv A s m := iter_inv hP hA m hm.le hpos
  have hp : p = s.perm.get (pivotPos s ⟨m, hm⟩) := by
    simp only [p, iter, hm, dite_true]; rw [step_perm, swapPerm_m]
  refine ⟨⟨pivotPos s ⟨m, hm⟩, pivotPos_ge s ⟨m, hm⟩, hp⟩, ?_⟩
  intro j hj
  rw [hp, ← hinv.diag j hj, ← hinv.diag _ (pivotPos_ge s ⟨m, hm⟩)]
  exact (argmaxFrom_spec (fun j => s.diag.get (s.perm.get j)) ⟨m, hm⟩).2 j hj

/-- **Ties go to the first position** (as `torch.max` does): every unpivoted position before the chosen one carries a
strictly smaller tracked diagonal value.  Unconditional. -/
theorem pc_pivot_first_on_ties (P : Prim α) (A : Mat α n n) (m : Nat) (hm : m < n) (j : Fin n) (h1 : m ≤ j.val)
    (h2 : j.val < (pivotPos (iter P A m) ⟨m, hm⟩).val) :
    let s := iter P A m
    s.diag.get (s.perm.get j) < s.diag.get (s.perm.get (pivotPos s ⟨m, hm⟩)) :=
  argmaxFrom_first (fun j => (iter P A m).diag.get ((iter P A m).perm.get j)) ⟨m, hm⟩ j h1 h2

/-- **The tracked diagonal is the residual diagonal** on every index not yet pivoted. -/
theorem pc_diag_tracks_residual {P : Prim α} {A : Mat α n n} (hP : SqrtLaw P) (hA : Symm A) (m : Nat) (hm : m ≤ n)
    (hpos : PivotsPos P A m) (j : Fin n) (hj : m ≤ j.val) :
    let s := iter P A m
    s.diag.get (s.perm.get j) = resid A s.rows (s.perm.get j) (s.perm.get j) :=
  (iter_inv hP hA m hm hpos).diag j hj

/-- **`A − L Lᵀ` vanishes on the rows and columns of the pivots chosen so far.** -/
theorem pc_pivot_rows_zero {P : Prim α} {A : Mat α n n} (hP : SqrtLaw P) (hA : Symm A) (m : Nat) (hm : m ≤ n)
    (hpos : PivotsPos P A m) (j : Fin n) (hj : j.val < m) (k : Fin n) :
    let s := iter P A m
    resid A s.rows (s.perm.get j) k = 0 ∧ resid A s.rows k (s.perm.get j) = 0 := by
  intro s
  have h := (iter_inv hP hA m hm hpos).zero j hj k
  exact ⟨h, by rw [resid_symm hA]; exact h⟩

/-- **`A − L Lᵀ` stays positive semi-definite** (each step takes a Schur complement). -/
theorem pc_residual_psd {P : Prim α} {A : Mat α n n} (hP : SqrtLaw P) (hA : Symm A) (hpsd : PSD A) (m : Nat)
    (hm : m ≤ n) (hpos : PivotsPos P A m) : PSD (resid A (iter P A m).rows) :=
  iter_psd hP hA hpsd m hm hpos

/-- **The residual diagonal (hence the residual trace) never increases**, entry by entry, on any input. -/
theorem pc_trace_monotone (P : Prim α) (A : Mat α n n) (m : Nat) (i : Fin n) :
    resid A (iter P A (m + 1)).rows i i ≤ resid A (iter P A m).rows i i := by
  simp only [iter]
  split
  · obtain ⟨l, hrows, _⟩ := step_rows P A (iter P A m) ⟨m, by assumption⟩
    rw [hrows, resid_append]
    exact sub_le_self _ (mul_self_nonneg _)
  · exact le_refl _

theorem pc_trace_monotone_sum (P : Prim α) (A : Mat α n n) (m : Nat) :
    ∑ i, resid A (iter P A (m + 1)).rows i i ≤ ∑ i, resid A (iter P A m).rows i i :=
  Finset.sum_le_sum fun i _ => pc_trace_monotone P A m i

/-- **Exact at `r = n`**: after `n` iterations `A = L Lᵀ` entry by entry. -/
theorem pc_exact_at_n {P : Prim α} {A : Mat α n n} (hP : SqrtLaw P) (hA : Symm A) (hpos : PivotsPos P A n)
    (i k : Fin n) : A i k = lltEntry (iter P A n).rows i k := by
  have hinv := iter_inv hP hA n (le_refl _) hpos
  obtain ⟨j, rfl⟩ := hinv.bij.2 i
  exact sub_eq_zero.1 (hinv.zero j j.isLt k)

/-- **The identity `PivotedCholesky.backward` relies on** (partial statement about the backward pass).  `backward` does not differentiate
the loop; it recomputes the factor from `Krows = apply_permutation(K, full_permutation, short_permutation)` (`Krows[i, j] = K[π i, π j]`,
`j < m`) as `res_pivoted = [chol(Krows[:m]); Krows[m:] chol(Krows[:m])⁻ᵀ]`, `res = res_pivoted[π⁻¹]`, and back-propagates through that.
This is the forward factor because the forward factor `F` satisfies `Krows = F[π, :] · F[π[:m], :]ᵀ` entry by entry (proved here, any `n`,
`m`), i.e. `F[π[:m]]` is a square root of `Krows[:m]` and `F[π[m:]] = Krows[m:] F[π[:m]]⁻ᵀ`.
NOT proved: that `F[π[:m]]` is lower triangular with positive diagonal (hence equal to `chol`, by uniqueness), and the derivative itself —
the gradient is tied to dense autograd / finite differences by correspondence (`C10/backward/*` cells). -/
theorem pc_backward_krows_factorizes_partial {P : Prim α} {A : Mat α n n} (hP : SqrtLaw P) (hA : Symm A) (m : Nat) (hm : m ≤ n)
    (hpos : PivotsPos P A m) (i j : Fin n) (hj : j.val < m) :
    let s := iter P A m
    applyPermutation A s.perm.get s.perm.get i j = lltEntry s.rows (s.perm.get i) (s.perm.get j) :=
  sub_eq_zero.1 (pc_pivot_rows_zero hP hA m hm hpos j hj _).2

/-- **At most `min(k, n)` columns, at least one; every member ran the same `r` iterations.** -/
theorem pc_rank_le (P : Prim α) (As : List (Mat α n n)) (rank : Nat) (tol : α) (hrank : 0 < rank) (hn : 0 < n) :
    let res := run P As rank tol
    1 ≤ res.1 ∧ res.1 ≤ rank ∧ res.1 ≤ n ∧ res.2 = As.map (fun A => iter P A res.1) ∧
    ∀ s ∈ res.2, (factor s).length = res.1 := by
  intro res
  have h := run_spec P As rank tol hrank hn
  refine ⟨h.pos rfl, le_trans h.le_max (Nat.min_le_left _ _), le_trans h.le_max (Nat.min_le_right _ _), h.states, ?_⟩
  intro s hs
  rw [h.states] at hs
  obtain ⟨A, _, rfl⟩ := List.mem_map.1 hs
  rw [factor, List.length_map]
  exact iter_rows_length P A _ (le_trans h.le_max (Nat.min_le_right _ _))

/-- **Early stop only once the error is within the tolerance**: every iteration after the first ran because the largest
error in the batch exceeded `error_tol`, and if the loop exits before `min(k, n)` iterations the largest error is `≤ error_tol`. -/
theorem pc_stop_rule (P : Prim α) (As : List (Mat α n n)) (rank : Nat) (tol : α) (hrank : 0 < rank) (hn : 0 < n) :
    let r := (run P As rank tol).1
    (∀ t, 1 ≤ t → t < r → tol < errAt P As t) ∧ (r < min rank n → errAt P As r ≤ tol) := by
  intro r
  have h := run_spec P As rank tol hrank hn
  exact ⟨fun t h1 h2 => h.continued t (Nat.zero_le _) h1 h2, fun hlt => not_lt.1 (h.stopped hlt (h.pos rfl))⟩

/-- **The error the stop rule tests is the residual trace relative to the largest diagonal entry**: after iteration `m`
(`m + 1 < n`) `errors` is the 1-norm of `diag(A − L Lᵀ)` over the unpivoted indices (the pivoted ones carry 0, see
`pc_pivot_rows_zero`) divided by `orig_error`, and `orig_error` is the largest diagonal entry of `A`. -/
theorem pc_err_is_residual_trace {P : Prim α} {A : Mat α n n} (hP : SqrtLaw P) (hA : Symm A) (m : Nat) (hm : m + 1 < n)
    (hpos : PivotsPos P A (m + 1)) :
    let s := iter P A (m + 1)
    s.err = ((tailPos n (m + 1)).map fun j => |resid A s.rows (s.perm.get j) (s.perm.get j)|).sum / origError A ∧
    (∀ i, A i i ≤ origError A) ∧ ∃ i, origError A = A i i :=
  ⟨iter_err hP hA m hm hpos, origError_spec A (by omega)⟩

/-- **On a positive-definite input every pivot is positive**, so the hypotheses `PivotsPos` of the theorems above hold
automatically: for symmetric positive-definite `A` (any `n`), after any `m ≤ n` iterations the pivots form a permutation, the
tracked diagonal is the residual diagonal, the residual is PSD and vanishes on the pivot rows and columns, and is zero at `m = n`. -/
theorem pc_pd_pivots_pos {P : Prim α} {A : Mat α n n} (hP : SqrtLaw P) (hA : Symm A) (hpd : PD A) (m : Nat) (hm : m ≤ n) :
    PivotsPos P A m ∧ PSD (resid A (iter P A m).rows) ∧
    (∀ j : Fin n, j.val < m → ∀ k, resid A (iter P A m).rows ((iter P A m).perm.get j) k = 0) ∧
    (m = n → ∀ i k, A i k = lltEntry (iter P A n).rows i k) := by
  have hpos := pivotsPos_of_pd hP hA hpd m hm
  have hinv := iter_inv hP hA m hm hpos
  refine ⟨hpos, hinv.psd (psd_of_pd hpd), hinv.zero, ?_⟩
  rintro rfl
  exact pc_exact_at_n hP hA hpos

end pc

/-- The hypotheses are satisfiable: the real square root meets `SqrtLaw`, and `[[4,2],[2,5]]` is symmetric positive definite. -/
noncomputable example : ∃ (P : Prim ℝ) (A : Mat ℝ 2 2), SqrtLaw P ∧ Symm A ∧ PD A := by
  refine ⟨⟨Real.sqrt, fun _ => 0⟩, fun i j => if i = j then (if i.val = 0 then 4 else 5) else 2, ?_, ?_, ?_⟩
  · intro x hx; exact ⟨Real.mul_self_sqrt hx, Real.sqrt_nonneg x⟩
  · intro i j; by_cases h : i = j
    · subst h; rfl
    · simp only [h, Ne.symm h, if_false]
  · intro x hx
    -- `xᵀAx = (2x₀ + x₁)² + 4x₁²`
    have hb : bil (fun i j : Fin 2 => if i = j then (if i.val = 0 then (4 : ℝ) else 5) else 2) x x =
        (2 * x 0 + x 1) ^ 2 + 4 * x 1 ^ 2 := by
      simp only [bil, Fin.sum_univ_two, Fin.isValue, if_true, Fin.val_zero, Fin.val_one, one_ne_zero, if_false,
        show (0 : Fin 2) ≠ 1 by decide, show (1 : Fin 2) ≠ 0 by decide]
      ring
    rw [hb]
    by_cases h1 : x 1 = 0
    · have h0 : x 0 ≠ 0 := fun h0 => hx (funext fun i => by fin_cases i <;> assumption)
      have h2 : 2 * x 0 + x 1 ≠ 0 := by rw [h1, add_zero]; exact mul_ne_zero two_ne_zero h0
      exact add_pos_of_pos_of_nonneg (sq_pos_of_ne_zero h2) (mul_nonneg four_pos.le (sq_nonneg _))
    · exact add_pos_of_nonneg_of_pos (sq_nonneg _) (mul_pos four_pos (sq_pos_of_ne_zero h1))

/-! ### The preconditioner of `AddedDiagLinearOperator` (one batch member, any `n`, `k`, number of columns) -/

section precond
variable {α : Type} [Field α] {n k c : Nat}

/-- **`_precond_lt` denotes `L Lᵀ + D`.** -/
theorem precond_lt_denote (L : Mat α n k) (d : Fin n → α) :
    precondLt L d = (Matrix.of L * (Matrix.of L).transpose + Matrix.diagonal d : Matrix (Fin n) (Fin n) α) :=
  precondLt_eq L d

/-- **Constant diagonal: the closure applies exactly `(L Lᵀ + σ² I)⁻¹`.**  Under the contract of `torch.linalg.qr` on the
matrix the code hands it (`Q R = cat(L, √s·I)`, `QᵀQ = I`) and `√s·√s = s ≠ 0`: `(L Lᵀ + s I) · closure(X) = X` for every `X`,
where `closure(X) = (1/s)(X − Q₁(Q₁ᵀX))`, `Q₁ = Q[:n]` is `_q_cache`. -/
theorem precond_const_inverse (P : Prim α) (L : Mat α n k) (s : α) (Q : Mat α (n + k) k) (R : Mat α k k) (x : Mat α n c)
    (hs : P.sqrt s * P.sqrt s = s) (hs0 : s ≠ 0)
    (hqr : Mat.mul Q R = qrInputConst P L s)
    (horth : Mat.mul (Mat.transpose Q) Q = fun i j => if i = j then 1 else 0) :
    Mat.mul (precondLt L fun _ => s) (closureConst (qCacheConst Q) s x) = x :=
  const_inverse P L s Q R x hs hs0 hqr horth

/-- **Constant diagonal: the closure is a symmetric matrix** (applied to the identity). -/
theorem precond_const_symm (q : Mat α n k) (s : α) (i j : Fin n) :
    closureConst q s (fun a b => if a = b then 1 else 0) i j = closureConst q s (fun a b => if a = b then 1 else 0) j i := by
  simp only [closureConst, qqt_one_symm q i j]
  by_cases h : i = j
  · subst h; rfl
  · rw [if_neg h, if_neg (Ne.symm h)]

/-- **Non-constant diagonal: the closure applies exactly `(L Lᵀ + D)⁻¹`** (QR contract on `cat(L / √d, I)`, `√dᵢ² = dᵢ ≠ 0`). -/
theorem precond_nonconst_inverse (P : Prim α) (L : Mat α n k) (d : Fin n → α) (Q : Mat α (n + k) k) (R : Mat α k k)
    (x : Mat α n c) (hs : ∀ i, P.sqrt (d i) * P.sqrt (d i) = d i) (hs0 : ∀ i, d i ≠ 0)
    (hqr : Mat.mul Q R = qrInputNonconst P L d)
    (horth : Mat.mul (Mat.transpose Q) Q = fun i j => if i = j then 1 else 0) :
    Mat.mul (precondLt L d) (closureNonconst (qCacheNonconst P Q d) d x) = x :=
  nonconst_inverse P L d Q R x hs hs0 hqr horth

/-- **Non-constant diagonal: the closure is a symmetric matrix** (applied to the identity): `δᵢⱼ/dᵢ − Σₗ qᵢₗ qⱼₗ`. -/
theorem precond_nonconst_symm (q : Mat α n k) (d : Fin n → α) (i j : Fin n) :
    closureNonconst q d (fun a b => if a = b then 1 else 0) i j = closureNonconst q d (fun a b => if a = b then 1 else 0) j i := by
  simp only [closureNonconst, qqt_one_symm q i j]
  by_cases h : i = j
  · subst h; rfl
  · rw [if_neg h, if_neg (Ne.symm h), zero_div, zero_div]

/-- **Matrix determinant lemma behind the log-determinant** (any field): `det(L Lᵀ + s I_n) · s^k = s^n · det(R)²`
from the block form of the QR contract. -/
theorem precond_det_const (L Q1 : Matrix (Fin n) (Fin k) α) (Q2 R : Matrix (Fin k) (Fin k) α) (s cc : α)
    (hc : cc * cc = s) (hs0 : s ≠ 0) (h1 : Q1 * R = L) (h2 : Q2 * R = cc • (1 : Matrix (Fin k) (Fin k) α))
    (h3 : Q1.transpose * Q1 + Q2.transpose * Q2 = 1) :
    Matrix.det (L * L.transpose + s • (1 : Matrix (Fin n) (Fin n) α)) * s ^ k = s ^ n * Matrix.det R ^ 2 :=
  StackedQR.det_eq ⟨h1, h2, h3⟩ hc hs0

end precond

section precond_order
variable {α : Type} [Field α] [LinearOrder α] [IsStrictOrderedRing α] {n k : Nat}

/-- **Constant diagonal: the closure is positive definite**: `xᵀ closure(x) > 0` for every `x ≠ 0` (with `precond_const_symm`:
symmetric positive definite). -/
theorem precond_spd (P : Prim α) (L : Mat α n k) (s : α) (Q : Mat α (n + k) k) (R : Mat α k k)
    (hs : P.sqrt s * P.sqrt s = s) (hs0 : 0 < s) (hqr : Mat.mul Q R = qrInputConst P L s)
    (horth : Mat.mul (Mat.transpose Q) Q = fun i j => if i = j then 1 else 0) (x : Fin n → α) (hx : x ≠ 0) :
    0 < ∑ i, x i * closureConst (qCacheConst Q) s (fun a (_ : Fin 1) => x a) i 0 :=
  posdef_of_inverse L (fun _ => s) (fun _ => hs0) x hx _ (const_inverse P L s Q R _ hs hs0.ne' hqr horth)

/-- **Non-constant diagonal: the closure is positive definite**: `xᵀ closure(x) > 0` for every `x ≠ 0` (QR contract on
`cat(L / √d, I)`, `√dᵢ² = dᵢ > 0`); with `precond_nonconst_symm`: symmetric positive definite, as for the constant diagonal. -/
theorem precond_nonconst_spd (P : Prim α) (L : Mat α n k) (d : Fin n → α) (Q : Mat α (n + k) k) (R : Mat α k k)
    (hs : ∀ i, P.sqrt (d i) * P.sqrt (d i) = d i) (hd : ∀ i, 0 < d i) (hqr : Mat.mul Q R = qrInputNonconst P L d)
    (horth : Mat.mul (Mat.transpose Q) Q = fun i j => if i = j then 1 else 0) (x : Fin n → α) (hx : x ≠ 0) :
    0 < ∑ i, x i * closureNonconst (qCacheNonconst P Q d) d (fun a (_ : Fin 1) => x a) i 0 :=
  posdef_of_inverse L d hd x hx _ (nonconst_inverse P L d Q R _ hs (fun i => (hd i).ne') hqr horth)

end precond_order

/-- **Constant diagonal: `_precond_logdet_cache` is `log det(L Lᵀ + s I)`** — `2 Σ log|Rᵢᵢ| + (n − k) log s` (ℝ, QR contract,
`R` upper triangular, `s > 0`). -/
theorem precond_logdet_const {n k : Nat} (L : Mat ℝ n k) (s : ℝ) (Q : Mat ℝ (n + k) k) (R : Mat ℝ k k)
    (hs : 0 < s) (hqr : Mat.mul Q R = qrInputConst ⟨Real.sqrt, Real.log⟩ L s)
    (horth : Mat.mul (Mat.transpose Q) Q = fun i j => if i = j then 1 else 0)
    (hR : ∀ i j : Fin k, j < i → R i j = 0) :
    logdetConst ⟨Real.sqrt, Real.log⟩ R s ((n : ℝ) - k) =
      Real.log (Matrix.det (precondLt L (fun _ => s) : Matrix (Fin n) (Fin n) ℝ)) :=
  logdet_const L s Q R hs hqr horth hR

/-- **Non-constant diagonal: `_precond_logdet_cache` is `log det(L Lᵀ + D)`** — `2 Σ log|Rᵢᵢ| − Σ log(1/dᵢ)`. -/
theorem precond_logdet_nonconst {n k : Nat} (L : Mat ℝ n k) (d : Fin n → ℝ) (Q : Mat ℝ (n + k) k) (R : Mat ℝ k k)
    (hd : ∀ i, 0 < d i) (hqr : Mat.mul Q R = qrInputNonconst ⟨Real.sqrt, Real.log⟩ L d)
    (horth : Mat.mul (Mat.transpose Q) Q = fun i j => if i = j then 1 else 0)
    (hR : ∀ i j : Fin k, j < i → R i j = 0) :
    logdetNonconst ⟨Real.sqrt, Real.log⟩ R d =
      Real.log (Matrix.det (precondLt L d : Matrix (Fin n) (Fin n) ℝ)) :=
  logdet_nonconst L d Q R hd hqr horth hR

/-! ### `utils/permutation.py` -/

/-- **`inverse_permutation` inverts every permutation** (any `n`), and `apply_permutation` is plain row/column selection. -/
theorem inverse_permutation_spec {n : Nat} (h : 0 < n) (p : Fin n → Fin n) (hp : Function.Bijective p) :
    (∀ i, inversePermutation h p (p i) = i) ∧ (∀ k, p (inversePermutation h p k) = k) :=
  inversePermutation_spec h p hp

/-- The QR contract of `precond_const_inverse` is satisfiable: `L = [3]`, `s = 16`: `[3; 4] = [3/5; 4/5]·[5]`. -/
example : ∃ (P : Prim Rat) (Q : Mat Rat (1 + 1) 1) (R : Mat Rat 1 1),
    P.sqrt 16 * P.sqrt 16 = 16 ∧ Mat.mul Q R = qrInputConst P (fun _ _ => 3) 16 ∧
    Mat.mul (Mat.transpose Q) Q = fun i j => if i = j then 1 else 0 :=
  ⟨⟨fun _ => 4, fun _ => 0⟩, fun i _ => if i.val = 0 then 3 / 5 else 4 / 5, fun _ _ => 5, by decide +kernel⟩

/-- The QR contract of `precond_nonconst_inverse` / `precond_nonconst_spd` is satisfiable: `L = [3]`, `d = [16]`:
`[3/4; 1] = [3/5; 4/5]·[5/4]`. -/
example : ∃ (P : Prim Rat) (Q : Mat Rat (1 + 1) 1) (R : Mat Rat 1 1),
    (∀ i : Fin 1, P.sqrt ((fun _ => (16 : Rat)) i) * P.sqrt ((fun _ => (16 : Rat)) i) = 16) ∧
    Mat.mul Q R = qrInputNonconst P (fun _ _ => 3) (fun _ => 16) ∧
    Mat.mul (Mat.transpose Q) Q = fun i j => if i = j then 1 else 0 :=
  ⟨⟨fun _ => 4, fun _ => 0⟩, fun i _ => if i.val = 0 then 3 / 5 else 4 / 5, fun _ _ => 5 / 4, by decide +kernel⟩

/-! ### The finding: a converged member of a batch keeps pivoting on a zero residual -/

/-- `sqrt` irrelevant here (the only pivots are 1 and 0). -/
def idPrim : Prim Rat := ⟨fun x => x, fun _ => 0⟩
/-- rank-one PSD matrix `diag(1, 0)` -/
def rankOne : Mat Rat 2 2 := fun i j => if i.val = 0 ∧ j.val = 0 then 1 else 0

/-- **Counterexample to "every pivot is positive" for singular PSD input**: for `A = diag(1, 0)` the second iteration (which runs
whenever another member of the batch keeps `max(errors) > tol`) pivots on an exactly ZERO residual entry: the code then computes
`sqrt(0) = 0` and divides by it (NaN in floating point; the field model returns 0, which is what notes/C10_fix_1.diff makes the
code do).  `PivotsPos` fails at step 1, so the invariant theorems do not apply there. -/
theorem pc_zero_pivot_counterexample :
    pivotVal (iter idPrim rankOne 1) ⟨1, by decide⟩ = 0 ∧ ¬ PivotsPos idPrim rankOne 2 := by
  have h : pivotVal (iter idPrim rankOne 1) ⟨1, by decide⟩ = 0 := by decide +kernel
  refine ⟨h, fun hp => ?_⟩
  have := hp 1 (by decide) (by decide)
  rw [h] at this
  exact lt_irrefl _ this

/-! ### The CURRENT loop body (fix d829792: clamp + mask) and the coupled batch loop -/

/-- The masking statements of the current loop body (fix d829792), as extracted from the working tree, are the ones `stepM` mirrors:
the pivot is clamped at 0 before the square root, and the new column is `where(pivot > 0, L_m_new / pivot, 0)`. -/
theorem generated_mask_matches_model :
    LinOp.Generated.C10.maskStmts = ["L_m.scatter_(-1, pi_m.unsqueeze(-1), max_diag_values.clamp_min(0.0).sqrt().unsqueeze_(-1))",
      "L_m.scatter_(-1, pi_i, L_m_new)", "L_m.gather(-1, pi_m.unsqueeze(-1))", "row.gather(-1, pi_i)",
      "torch.where(pivot > 0, L_m_new / pivot, torch.zeros_like(L_m_new))"] :=
  rfl

section pcM
variable {α : Type} [Field α] [LinearOrder α] [IsStrictOrderedRing α] {n : Nat}

/-- **On positive pivots the current (masked) code computes exactly what the unmasked model computes**, so every invariant theorem
above (`pc_pivot_is_argmax`, `pc_diag_tracks_residual`, `pc_pivot_rows_zero`, `pc_residual_psd`, `pc_exact_at_n`, …) is a theorem
about `iterM`, the literal mirror of the current loop body that the driver runs. -/
theorem pcM_agrees_on_positive_pivots {P : Prim α} (hP : SqrtLaw P) (A : Mat α n n) (m : Nat) (hpos : PivotsPos P A m) :
    iterM P A m = iter P A m :=
  iterM_eq_iter hP A m hpos

/-- In particular on every symmetric positive-definite input, for any number of iterations. -/
theorem pcM_pd_agrees {P : Prim α} {A : Mat α n n} (hP : SqrtLaw P) (hA : Symm A) (hpd : PD A) (m : Nat) (hm : m ≤ n) :
    iterM P A m = iter P A m :=
  iterM_eq_iter hP A m (pc_pd_pivots_pos hP hA hpd m hm).1

/-- **The pivots of the current code are always a permutation** (any input, masked or not). -/
theorem pcM_perm_valid (P : Prim α) (A : Mat α n n) (m : Nat) : Function.Bijective (iterM P A m).perm.get := by
  induction m with
  | zero => exact (init_inv A).bij
  | succ m ih =>
    simp only [iterM]
    split
    · rw [stepM_perm]; exact swapPerm_bij _ _ ih
    · exact ih

/-- **Stop rule of the coupled loop** (shared counter, `torch.max(errors) > error_tol` over ALL members): every iteration after the
first ran because the largest error in the batch exceeded the tolerance; an exit before `min(k, n)` only when it does not; all members
ran the same `r` iterations, `1 ≤ r ≤ min(k, n)`. -/
theorem pcM_stop_rule (P : Prim α) (As : List (Mat α n n)) (rank : Nat) (tol : α) (hrank : 0 < rank) (hn : 0 < n) :
    let r := (runM P As rank tol).1
    (∀ t, 1 ≤ t → t < r → tol < errAtM P As t) ∧ (r < min rank n → errAtM P As r ≤ tol) := by
  intro r
  have h := runM_spec P As rank tol hrank hn
  exact ⟨fun t h1 h2 => h.continued t (Nat.zero_le _) h1 h2, fun hlt => not_lt.1 (h.stopped hlt (h.pos rfl))⟩

theorem pcM_rank_le (P : Prim α) (As : List (Mat α n n)) (rank : Nat) (tol : α) (hrank : 0 < rank) (hn : 0 < n) :
    let res := runM P As rank tol
    1 ≤ res.1 ∧ res.1 ≤ rank ∧ res.1 ≤ n ∧ res.2 = As.map (fun A => iterM P A res.1) := by
  intro res
  have h := runM_spec P As rank tol hrank hn
  exact ⟨h.pos rfl, le_trans h.le_max (Nat.min_le_left _ _), le_trans h.le_max (Nat.min_le_right _ _), h.states⟩

/-- **Inside a batch every member is its own single-member run, continued.**  Let `r` be the number of iterations of the coupled loop
on the batch `As` and `r_A` the number the member `A` runs ALONE (same rank, same tolerance).  Then `r_A ≤ r`; the member's state in the
batch is `iterM A r` and alone it is `iterM A r_A` (its evolution never depends on the other members); the first `r_A` columns of its
batch factor are exactly its single-run factor, followed by `r − r_A` further columns; and its first `r_A` pivots are the same. -/
theorem pcM_batch_member_is_own_run_continued (P : Prim α) (As : List (Mat α n n)) (rank : Nat) (tol : α) (hrank : 0 < rank)
    (hn : 0 < n) (A : Mat α n n) (hA : A ∈ As) :
    let r := (runM P As rank tol).1
    let rA := (runM P [A] rank tol).1
    rA ≤ r ∧ (runM P As rank tol).2 = As.map (fun B => iterM P B r) ∧ (runM P [A] rank tol).2 = [iterM P A rA] ∧
    (∃ extra : List (Vector α n), (iterM P A r).rows = (iterM P A rA).rows ++ extra ∧ extra.length = r - rA) ∧
    ∀ j : Fin n, j.val < rA → (iterM P A r).perm.get j = (iterM P A rA).perm.get j := by
  intro r rA
  have hle : rA ≤ r := single_le_batch P As rank tol hrank hn A hA
  have hB := runM_spec P As rank tol hrank hn
  have hS := runM_spec P [A] rank tol hrank hn
  have hrn : r ≤ n := le_trans hB.le_max (Nat.min_le_right _ _)
  obtain ⟨d, hd⟩ : ∃ d, r = rA + d := ⟨r - rA, by omega⟩
  refine ⟨hle, hB.states, hS.states, ?_, ?_⟩
  · obtain ⟨extra, hex, hlen⟩ := iterM_rows_append P A rA d (hd ▸ hrn)
    exact ⟨extra, by rw [hd]; exact hex, by omega⟩
  · intro j hj
    rw [hd]; exact iterM_perm_prefix P A rA j hj d

/-- **What the extra columns of a converged member contain: zeros.**  If after `m0` iterations the tracked residual diagonal of a
member has vanished on all unpivoted positions (its error is 0: the member is factorized exactly, e.g. a rank-`m0` member of a batch whose
other members keep the loop running), then after `d` more iterations of the current code its factor is the old one followed by `d` ZERO
columns, its pivots are unchanged, and `A − L Lᵀ` is unchanged (needs only `sqrt 0 = 0`).  Before fix d829792 these columns were NaN. -/
theorem pcM_converged_member_zero_columns {P : Prim α} (h0 : P.sqrt 0 = 0) (A : Mat α n n) (m0 : Nat)
    (hz : TailZero (iterM P A m0) m0) (d : Nat) (hd : m0 + d ≤ n) :
    (∃ extra : List (Vector α n), (iterM P A (m0 + d)).rows = (iterM P A m0).rows ++ extra ∧ extra.length = d ∧
      ∀ l ∈ extra, ∀ k, l.get k = 0) ∧
    (iterM P A (m0 + d)).perm.get = (iterM P A m0).perm.get ∧
    ∀ i k, resid A (iterM P A (m0 + d)).rows i k = resid A (iterM P A m0).rows i k := by
  obtain ⟨⟨extra, hrows, hlen, hzero⟩, hperm, _⟩ := iterM_pad h0 A m0 hz d hd
  refine ⟨⟨extra, hrows, hlen, hzero⟩, hperm, ?_⟩
  intro i k
  simp only [resid, hrows, lltEntry_append_zero _ _ hzero]

end pcM

/-- The hypothesis of `pcM_converged_member_zero_columns` is satisfiable: `diag(1, 0)` has converged after one iteration. -/
example : idPrim.sqrt 0 = 0 ∧ TailZero (iterM idPrim rankOne 1) 1 := by
  refine ⟨rfl, ?_⟩
  unfold TailZero
  decide +kernel

/-! ### Histories: every call obeys the tolerance in force AT THAT CALL -/

/-- `LinearOperator.pivoted_cholesky` carries NO decorator (nothing is memoised on the operator object: a `@cached` key would be
`(rank, error_tol)` and would not contain the settings), no operator class overrides it, its body hands `rank, error_tol` straight to
`PivotedCholesky.apply`, `forward` is a plain `staticmethod`, and in `AddedDiagLinearOperator._preconditioner` the factor is computed
under the guard `self._q_cache is None` (state of that AddedDiag object only, never of the shared kernel operator) — as extracted from
the working tree on every run. -/
theorem generated_pc_method_matches_model :
    LinOp.Generated.C10.pcDecorators = [] ∧
    LinOp.Generated.C10.pcDefinedIn = ["LinearOperator"] ∧
    LinOp.Generated.C10.pcMethodBody = ["func = PivotedCholesky.apply",
      "res, pivots = func(self.representation_tree(), rank, error_tol, *self.representation())",
      "if return_pivots:     return (res, pivots) else:     return res"] ∧
    LinOp.Generated.C10.forwardDecorators = ["staticmethod"] ∧
    LinOp.Generated.C10.qCacheGuard = ["self._q_cache is None"] :=
  ⟨rfl, rfl, rfl, rfl, rfl⟩

section hist
variable {α : Type} [Field α] [LinearOrder α] [IsStrictOrderedRing α] {n : Nat}

/-- **Every call of a history obeys the stop rule of the tolerance in force at that call.**  For the method wrapper as extracted
from the working tree (decorator list `pcDecorators`), any sequence of calls `op.pivoted_cholesky(rank_i, error_tol_i)` on ONE operator
object made under changing `settings.preconditioner_tolerance` values, starting from ANY state of the object's cache: the `i`-th result is
`runM A rank_i tol_i` (the coupled loop of the current code) with `tol_i = error_tol_i` or, for `None`, the settings value at call `i`; hence it continued only while the error
exceeded `tol_i` and stopped before `min(rank_i, n)` only once the error was `≤ tol_i`. -/
theorem pc_history_tolerance_in_force (P : Prim α) (As : List (Mat α n n)) (cache : Memo α n) (cs : List (Call α)) (hn : 0 < n) :
    history (memoised LinOp.Generated.C10.pcDecorators) P As cache cs = cs.map (fun c => runM P As c.rank c.tol) ∧
    ∀ c ∈ cs, 0 < c.rank →
      let r := (runM P As c.rank c.tol).1
      (∀ t, 1 ≤ t → t < r → c.tol < errAtM P As t) ∧ (r < min c.rank n → errAtM P As r ≤ c.tol) := by
  have hm : memoised LinOp.Generated.C10.pcDecorators = false := rfl
  rw [hm]
  exact ⟨history_unmemoised P As cache cs, fun c _ hr => pcM_stop_rule P As c.rank c.tol hr hn⟩

end hist

/-- 2×2 identity -/
def eye2 : Mat Rat 2 2 := fun i j => if i = j then 1 else 0

/-- **Why the method must not be memoised on the operator** (`@cached` keys are `(rank, error_tol)`): on `I₂`, the history
"rank 2 under tolerance 1, then rank 2 under tolerance 1/2" (both with `error_tol=None`) would return rank 1 twice, although the
tolerance in force at the second call demands rank 2 (error after one step is 1 > 1/2). -/
theorem pc_history_memoised_counterexample :
    (history true idPrim [eye2] [] [⟨2, none, 1⟩, ⟨2, none, 1 / 2⟩]).map (·.1) = [1, 1] ∧
    (history false idPrim [eye2] [] [⟨2, none, 1⟩, ⟨2, none, 1 / 2⟩]).map (·.1) = [1, 2] ∧
    memoised ["cached(name='pivoted_cholesky')"] = true := by
  decide +kernel

/-! ### Settings -/

/-- With the defaults extracted from `settings.py` the preconditioner is used exactly for `n ≥ 2000`, with rank 15 and tolerance 1/1000. -/
theorem precond_enabled_default (n : Nat) :
    precondEnabled LinOp.Generated.C10.max_preconditioner_size LinOp.Generated.C10.min_preconditioning_size n = decide (2000 ≤ n) ∧
    LinOp.Generated.C10.max_preconditioner_size = 15 ∧
    (LinOp.Generated.C10.preconditioner_tolerance_num, LinOp.Generated.C10.preconditioner_tolerance_den) = (1, 1000) := by
  refine ⟨?_, by decide, by decide⟩
  simp only [precondEnabled, LinOp.Generated.C10.max_preconditioner_size, LinOp.Generated.C10.min_preconditioning_size]
  by_cases h : 2000 ≤ n
  · have h2 : ¬ n < 2000 := by omega
    simp [h, h2]
  · have h2 : n < 2000 := by omega
    simp [h, h2]

/-- `max_preconditioner_size = 0` or a matrix smaller than `min_preconditioning_size` switch the preconditioner off, and nothing else does. -/
theorem precond_enabled_iff (maxSize minSize n : Nat) :
    precondEnabled maxSize minSize n = true ↔ maxSize ≠ 0 ∧ minSize ≤ n := by
  simp [precondEnabled]

end LinOp.C10
