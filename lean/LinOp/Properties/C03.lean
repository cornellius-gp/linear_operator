import LinOp.C03.ProofsConvert
import LinOp.C03.ProofsOps
import LinOp.C03.ProofsRange
import LinOp.C03.ProofsFront
import LinOp.Generated.C03Getitem
import LinOp.C03.ProofsGetitem
import LinOp.Generated.C03SlicePath
/-!
C03 — indexing matches torch indexing of the dense matrix.  Property theorems only.

`specShape` / `specPos` / `hasTST` are the torch rule (ints are selects applied first; the broadcast tensor dims
sit at the first tensor position if all tensor positions are adjacent, else at the front);
`computeGetitemSize`, `movedToStart`, `intToSlice`, `kronIdx`, `toepIdx`, `blockDiagIdx`, `blockInterIdx`,
`batchRepeatIdx`, `catLocate`, `splitSliceBounds` mirror the library (see `LinOp/C03/Model.lean`).
-/
namespace LinOp.C03

/-- **`_compute_getitem_size` computes the torch shape**: for every rank, every dims and every (ellipsis-expanded)
index tuple of ints / slices / tensor indices of any shapes, the single-pass state machine of
`utils/getitem.py::_compute_getitem_size` (expected shape of the debug-mode assertion) returns exactly the
declarative torch shape `specShape`. -/
theorem computeGetitemSize_eq_spec (zi : List (Nat × Item)) : computeGetitemSize zi = specShape zi := by
  have hf : (run ⟨[], none, [], false⟩ zi).final = sliceLens zi := run_final zi St.init
  obtain ⟨ht, hs⟩ := run_none zi [] []
  have hk := hasT_iff_tensorShapes zi
  show (match (run ⟨[], none, [], false⟩ zi).tidx with
    | none => (run ⟨[], none, [], false⟩ zi).final
    | some k => (run ⟨[], none, [], false⟩ zi).final.take k ++ (run ⟨[], none, [], false⟩ zi).tshape
        ++ (run ⟨[], none, [], false⟩ zi).final.drop k) = specShape zi
  rw [ht, hs, hf, (movedGo_spec _).1, specShape]
  cases hsh : tensorShapes zi with
  | nil => rw [hsh] at hk; rw [hk]; rfl
  | cons s r => rw [hsh] at hk; rw [hk]; simp only [List.length_nil, Nat.zero_add, specPos]; rfl

/-- **`_is_tensor_index_moved_to_start`** answers `True` exactly when the first index is a tensor or the tensor
positions are not adjacent (tensor … slice … tensor, ints ignored) — for index tuples of any length. -/
theorem movedToStart_iff_nonadjacent (k : K) (l : List K) :
    movedToStart (k :: l) = (decide (k = K.T) || hasTST (k :: l)) := movedToStart_cases k l

/-- in the non-moved case the tensor dims sit after exactly the slices that precede the first tensor, and when
`movedToStart` holds the torch position is 0 — so `__getitem__`'s un-flattening rule uses the torch position
whenever the tensor block is first or last among the result dims. -/
theorem movedToStart_specPos (k : K) (l : List K) (h : movedToStart (k :: l) = true) : specPos (k :: l) = 0 := by
  rw [specPos_eq, if_pos h]

/-- **Python `slice.indices` model**: the index list has the length given by the closed formula. -/
theorem sliceIndices_length (n : Nat) (a b c : Option Int) : (sliceIndices n a b c).length = sliceLen n a b c := by
  rw [sliceIndices, List.length_map, List.length_range]

/-- clamping: a bound never leaves `[0, n]`, whatever (negative, over-long) value is given. -/
theorem clampBound_le (n : Nat) (b : Int) : clampBound n b ≤ n := sliceStop_le n (some b)

/-- **every index produced by a slice with positive step is in range** (all sizes, all bounds). -/
theorem sliceIndices_inRange (n : Nat) (a b c : Option Int) (hc : 0 < sliceStep c) :
    ∀ x ∈ sliceIndices n a b c, x < n := by
  intro x hx
  obtain ⟨k, hk, rfl⟩ := List.mem_map.mp hx
  exact slice_src_lt n a b c hc k (List.mem_range.mp hk)

/-- the full slice `:` enumerates the whole dimension -/
theorem sliceLen_full (n : Nat) : sliceLen n none none none = n := by
  show (if 0 < n then (n - 0 - 1) / 1 + 1 else 0) = n
  by_cases h : 0 < n
  · rw [if_pos h, Nat.div_one]; exact Nat.sub_add_cancel h
  · rw [if_neg h]; exact (Nat.eq_zero_of_not_pos h).symm

/-- for a non-negative in-range int, `slice(i, i+1)` selects exactly row `i` (helper statement) -/
theorem intSlice_nonneg (n i : Nat) (h : i < n) :
    sliceIndices n (some (i : Int)) (some ((i : Int) + 1)) none = [i] := by
  have h1 : sliceStart n (some (i : Int)) = i := (clampBound_natCast n i).trans (Nat.min_eq_left (Nat.le_of_lt h))
  have h2 : sliceStop n (some ((i : Int) + 1)) = i + 1 := (clampBound_natCast n (i + 1)).trans (Nat.min_eq_left h)
  have h3 : sliceLen n (some (i : Int)) (some ((i : Int) + 1)) none = 1 := by
    rw [sliceLen]; simp only [h1, h2]; rw [if_pos (Nat.lt_succ_self i), Nat.add_sub_cancel_left]; rfl
  rw [sliceIndices, h3, h1]; rfl

/-- **`__getitem__`, int in a matrix position (code as of 11686d1: `if i < 0: i += size; slice(i, i + 1)`)**:
for EVERY valid int of every size — negative ones included — the rewriting is a slice that selects exactly the
row/column torch's `select` reads (`wrap n i`), so the later `squeeze` returns the torch result. -/
theorem intToSlice_selects (n : Nat) (i : Int) (h : -(n : Int) ≤ i ∧ i < n) :
    intToSlice n i = Item.slice (some (wrap n i : Int)) (some ((wrap n i : Int) + 1)) none ∧
    sliceIndices n (some (wrap n i : Int)) (some ((wrap n i : Int) + 1)) none = [wrap n i] ∧ wrap n i < n := by
  have hw : ((wrap n i : Nat) : Int) = if i < 0 then i + n else i := by
    unfold wrap; split <;> exact Int.toNat_of_nonneg (by omega)
  have hlt : wrap n i < n := wrap_lt n i (decide_eq_true h)
  refine ⟨?_, intSlice_nonneg n (wrap n i) hlt, hlt⟩
  unfold intToSlice; simp only [hw]

/-- statement about the PREVIOUS code (before 11686d1, defect D06): `-1` is valid for every `n ≥ 1`, but the old
rewriting gave `slice(-1, 0)`, empty for every `n`.  A re-introduction makes `generated_arith_table` fail. -/
theorem intToSliceOld_negInt_counterexample (n : Nat) :
    intToSliceOld (-1) = Item.slice (some (-1)) (some 0) none ∧ sliceLen n (some (-1)) (some 0) none = 0 := by
  have h0 : sliceStop n (some 0) = 0 := (clampBound_natCast n 0).trans (Nat.zero_min n)
  refine ⟨rfl, ?_⟩
  rw [sliceLen]; simp only [h0]; exact if_neg (Nat.not_lt_zero _)

/-- **Toeplitz `_get_indices`**: for in-range `i, j` the looked-up column entry is `|i - j|` (the symmetric
Toeplitz definition), for every size. -/
theorem toeplitz_entry (n i j : Nat) (hi : i < n) (hj : j < n) :
    toepIdx n i j = ((i : Int) - j).natAbs ∧ toepIdx n i j < n := by
  rw [toepIdx_eq n i j hi hj]
  exact ⟨rfl, by omega⟩

/-- **D25/D26 counterexample**: an out-of-range index is not rejected but wraps modulo `n`
(`T[3, 0]` on a 3×3 Toeplitz operator silently reads `column[0]`). -/
theorem toeplitz_outOfRange_counterexample : toepIdx 3 3 0 = 0 ∧ inRange 3 3 = false := by decide

/-- the Toeplitz `_diagonal` (`column[..., 0]` expanded) is the `_get_indices` entry `(k, k)` -/
theorem diagonal_toeplitz (n k : Nat) (hk : k < n) : toepIdx n k k = 0 := by
  have := (toeplitz_entry n k k hk hk).1; simpa using this

/-- **BlockDiag `_get_indices`** (block number by `div`, position in the block by `fmod`, off-diagonal blocks
masked to zero: `blockDiagIdx m n i j = (i / m, i % m, j % n, i / m == j / n)`) reads the block-diagonal matrix —
for any number of blocks and any block size. -/
theorem blockDiag_entry (m n : Nat) (hm : 0 < m) (hn : 0 < n) (Bs : List (Nat → Nat → Int)) :
    ∀ i j, i < m * Bs.length → j < n * Bs.length →
      (if (blockDiagIdx m n i j).2.2.2 then
         (Bs.getD (blockDiagIdx m n i j).1 (fun _ _ => 0)) (blockDiagIdx m n i j).2.1 (blockDiagIdx m n i j).2.2.1
       else 0) = blockDiagSpec m n Bs i j := by
  intro i j _ _
  simp only [blockDiagSpec_eq m n hm hn, blockDiagIdx, beq_iff_eq]

/-- **BlockInterleaved `_get_indices`**: entry `(i*k + b, j*k + b')` of the interleaved layout is `B_b[i, j]` when
`b = b'` and masked otherwise — the `fmod`/`div` pair recovers `(b, i)` for every number of blocks `k`. -/
theorem blockInterleaved_entry (k i j b b' : Nat) (hb : b < k) (hb' : b' < k) :
    blockInterIdx k (i * k + b) (j * k + b') = (b, i, j, b == b') := by
  simp only [blockInterIdx, Nat.mul_add_mod_of_lt hb, Nat.mul_add_mod_of_lt hb', mul_add_div_of_lt hb,
    mul_add_div_of_lt hb']

/-- **BatchRepeat `_get_indices`**: `torch.repeat` of a batch of size `s` (`r` copies laid one after the other)
holds at position `b` the base entry `b fmod s`. -/
theorem batchRepeat_entry (α : Type) (base : List α) (r b : Nat) (hb : b < r * base.length) :
    ((List.replicate r base).flatten)[b]? = base[batchRepeatIdx base.length b]? := by
  induction r generalizing b with
  | zero => simp at hb
  | succ r ih =>
    simp only [List.replicate_succ, List.flatten_cons, batchRepeatIdx]
    by_cases h : b < base.length
    · rw [List.getElem?_append_left h, Nat.mod_eq_of_lt h]
    · have h' : base.length ≤ b := by omega
      rw [List.getElem?_append_right h']
      have hb2 : b - base.length < r * base.length := by
        rw [Nat.succ_mul] at hb; omega
      rw [ih (b - base.length) hb2]
      simp only [batchRepeatIdx]
      rw [Nat.mod_eq_sub_mod h']

/-- **Cat: `idx_to_tensor_idx` + cumulative offsets**: global position `i` of a concatenation is entry
`local` of piece `piece` — for any number and sizes of pieces. -/
theorem cat_offsets (α : Type) (pieces : List (List α)) (i : Nat) (hi : i < sumNat (pieces.map List.length)) :
    pieces.flatten[i]? = (pieces.getD (catLocate (pieces.map List.length) i).1 [])[(catLocate (pieces.map List.length) i).2]? := by
  induction pieces generalizing i with
  | nil => exact absurd hi (Nat.not_lt_zero _)
  | cons p r ih =>
    rw [List.map_cons, List.flatten_cons]
    by_cases h : i < p.length
    · rw [catLocate_cons_lt _ h, List.getElem?_append_left h]; rfl
    · have h' := Nat.le_of_not_lt h
      rw [List.map_cons, sumNat_cons] at hi
      rw [catLocate_cons_ge _ h', List.getElem?_append_right h', ih _ (by omega)]; rfl

/-- cumulative offsets: the global index is the sizes of the pieces before `piece` plus the local index -/
theorem catLocate_cum (sizes : List Nat) : ∀ i, i < sumNat sizes →
    sumNat (sizes.take (catLocate sizes i).1) + (catLocate sizes i).2 = i :=
  sumNat_take_catLocate sizes

/-- **`CatLinearOperator._split_slice` (code as of d38a2f1, bounds via `slice.indices`)** — full statement: for every
list of piece sizes and EVERY slice `a:b` (None / negative / over-long bounds, explicit stop == size) that selects
at least one element, the first piece and the start inside it are those of global row `start`, the last piece is
the one holding global row `stop - 1`, and the stop inside it is that row's local index + 1 — where
`start, stop` are Python's clamped bounds.  With `cat_offsets` this is exactly torch's `x[a:b]` on the concatenation. -/
theorem splitSlice_inRange (sizes : List Nat) (a b : Option Int)
    (h : sliceStart (sumNat sizes) a < sliceStop (sumNat sizes) b) :
    splitSliceBounds sizes a b =
      ((catLocate sizes (sliceStart (sumNat sizes) a)).1, (catLocate sizes (sliceStart (sumNat sizes) a)).2,
       (catLocate sizes (sliceStop (sumNat sizes) b - 1)).1, (catLocate sizes (sliceStop (sumNat sizes) b - 1)).2 + 1) :=
  splitFrom_of_lt sizes _ _ h (sliceStop_le _ b)

/-- statements about the PREVIOUS code (`% cat_size`, defect D07) next to the current code on the same inputs:
`op[1:5]` (stop == size) on pieces of 2 and 3 rows, and `op[-7:2]` (over-long negative start). -/
theorem splitSliceOld_counterexamples :
    splitSliceBoundsOld [2, 3] (some 1) (some 5) = (0, 1, 1, 0) ∧
    splitSliceBounds [2, 3] (some 1) (some 5) = (0, 1, 1, 3) ∧
    splitSliceBoundsOld [2, 3] (some (-7)) (some 2) = (1, 1, 0, 2) ∧
    splitSliceBounds [2, 3] (some (-7)) (some 2) = (0, 0, 0, 2) ∧
    sliceIndices 5 (some 1) (some 5) none = [1, 2, 3, 4] ∧ sliceIndices 5 (some (-7)) (some 2) none = [0, 1] := by decide

/-- **Kronecker `_get_indices`** — for ANY number of factors of any (also non-square) sizes: multiplying, in the
library's order (`res = sub_res * res`), each factor's entry at the indices produced by the chain
`factor //= n_k ; idx_k = (i div factor) fmod n_k` yields entry `(i, j)` of `A₁ ⊗ A₂ ⊗ … ⊗ A_P`
(recursive definition `kronSpec`), for every in-range `i, j`.  Induction on the factor list. -/
theorem kron_getIndices (fs : List Factor) (i j : Nat)
    (hi : i < prodNat (rowsOf fs)) (hj : j < prodNat (colsOf fs)) :
    kronModel fs i j = kronSpec fs i j := kronModel_eq_spec fs i j hi hj

/-- the hypotheses of `kron_getIndices` are satisfiable by a non-trivial instance (2×3 ⊗ 2×2, entry (3, 5)) -/
example : kronModel [(fun a b => (a : Int) + 2 * b + 1, 2, 3), (fun a b => (a : Int) * 3 + b + 1, 2, 2)] 3 5
    = ((1 : Int) + 2 * 2 + 1) * (1 * 3 + 1 + 1) := by decide

/-- **`_convert_indices_to_tensors` is sound (entry level)**: for every rank, every mix of ints, slices (any bounds
/ step) and tensor indices of any shapes, and every result coordinate `r` (one dim per slice, so
`#slices ≤ r.length`), indexing with the converted all-tensor tuple — slice number `q` occupying result dim
`num_singletons_before`, the tensor indices occupying the `k` dims at `num_singletons_before_tensor`, the start
position chosen by `_is_tensor_index_moved_to_start` — reads exactly the source entry torch's mixed
int/slice/tensor indexing reads.  Induction over the index list through the phases of the counters. -/
theorem convertIndices_sound (zi : List (Nat × Item)) (r : List Nat) (hr : (sliceLens zi).length ≤ r.length) :
    convSrc (bcAll (tensorShapes zi)).length zi r = specSrc (bcAll (tensorShapes zi)).length zi r :=
  convSrc_eq_specSrc zi r hr

/-- … hence the whole result (all coordinates, row-major) agrees with the spec's element map. -/
theorem convertIndices_elems (dims : List Nat) (zi : List (Nat × Item)) : convElems dims zi = specElems dims zi := by
  refine (box_map_conv zi (flatIndex dims) (flatIndex dims) fun _ _ => rfl).trans ?_
  simp only [specElems, specSrc, List.isEmpty_iff]

/-- non-trivial instance: `x[t, 1:3, t']` on a 4×5×6 tensor with broadcasting index tensors (non-adjacent → front) -/
example : convElems [4, 5, 6] [(4, .tensor [2] [0, 3]), (5, .slice (some 1) (some 3) none), (6, .tensor [2] [5, 1])]
    = [11, 17, 97, 103] := by decide

/-- **`getitem_refines`, `_get_indices` path (generic)**: for an unbatched operator whose `_get_indices` arithmetic
`cls` agrees with the dense matrix on all in-range entries, `op[idx]` computed by `__getitem__` (flatten →
`_convert_indices_to_tensors` → `_get_indices`) equals torch indexing of the dense matrix — for every index
tuple whose source indices are in range (`hin`; guaranteed for valid indices: slices by `sliceIndices_inRange`,
ints / tensor entries by the range check at the top of `__getitem__`). -/
theorem getIndices_refines (cls dense : Nat → Nat → Int) (R C : Nat)
    (h : ∀ i j, i < R → j < C → cls i j = dense i j) (zi : List (Nat × Item))
    (hin : ∀ r ∈ box (specShape zi),
      (specSrc (bcAll (tensorShapes zi)).length zi r).getD 0 0 < R ∧
      (specSrc (bcAll (tensorShapes zi)).length zi r).getD 1 0 < C) :
    getitemViaGetIndices cls zi = denseGetitem dense zi :=
  box_map_conv zi (fun s => cls (s.getD 0 0) (s.getD 1 0)) (fun s => dense (s.getD 0 0) (s.getD 1 0))
    fun r hr => h _ _ (hin r hr).1 (hin r hr).2

/-- Dense: `_get_indices` reads the stored tensor. -/
theorem dense_getitem_refines (T : Nat → Nat → Int) (R C : Nat) (zi : List (Nat × Item))
    (hin : ∀ r ∈ box (specShape zi),
      (specSrc (bcAll (tensorShapes zi)).length zi r).getD 0 0 < R ∧
      (specSrc (bcAll (tensorShapes zi)).length zi r).getD 1 0 < C) :
    getitemViaGetIndices T zi = denseGetitem T zi :=
  getIndices_refines T T R C (fun _ _ _ _ => rfl) zi hin

/-- Diag: `diag[row] * (row == col)` against the diagonal matrix. -/
theorem diag_getitem_refines (d : Nat → Int) (n : Nat) (zi : List (Nat × Item))
    (hin : ∀ r ∈ box (specShape zi),
      (specSrc (bcAll (tensorShapes zi)).length zi r).getD 0 0 < n ∧
      (specSrc (bcAll (tensorShapes zi)).length zi r).getD 1 0 < n) :
    getitemViaGetIndices (diagGet d) zi = denseGetitem (fun i j => if i = j then d i else 0) zi :=
  getIndices_refines _ _ n n (fun i j _ _ => by unfold diagGet; by_cases hij : i = j <;> simp [hij]) zi hin

/-- Kronecker (any number of factors): div/fmod chain against `A₁ ⊗ … ⊗ A_P`. -/
theorem kron_getitem_refines (fs : List Factor) (zi : List (Nat × Item))
    (hin : ∀ r ∈ box (specShape zi),
      (specSrc (bcAll (tensorShapes zi)).length zi r).getD 0 0 < prodNat (rowsOf fs) ∧
      (specSrc (bcAll (tensorShapes zi)).length zi r).getD 1 0 < prodNat (colsOf fs)) :
    getitemViaGetIndices (kronModel fs) zi = denseGetitem (kronSpec fs) zi :=
  getIndices_refines _ _ _ _ (fun i j hi hj => kron_getIndices fs i j hi hj) zi hin

/-- BlockDiag (any number of `m × n` blocks): div/fmod + mask against the block-diagonal matrix. -/
theorem blockDiag_getitem_refines (m n : Nat) (hm : 0 < m) (hn : 0 < n) (Bs : List (Nat → Nat → Int))
    (zi : List (Nat × Item))
    (hin : ∀ r ∈ box (specShape zi),
      (specSrc (bcAll (tensorShapes zi)).length zi r).getD 0 0 < m * Bs.length ∧
      (specSrc (bcAll (tensorShapes zi)).length zi r).getD 1 0 < n * Bs.length) :
    getitemViaGetIndices (blockDiagGet m n Bs) zi = denseGetitem (blockDiagSpec m n Bs) zi :=
  getIndices_refines _ _ _ _ (fun i j hi hj => blockDiag_entry m n hm hn Bs i j hi hj) zi hin

/-- Cat along the rows (any number of pieces): piece / local-row lookup against the stacked matrix. -/
theorem catRows_getitem_refines (pieces : List ((Nat → Nat → Int) × Nat)) (C : Nat) (zi : List (Nat × Item))
    (hin : ∀ r ∈ box (specShape zi),
      (specSrc (bcAll (tensorShapes zi)).length zi r).getD 0 0 < sumNat (pieces.map (·.2)) ∧
      (specSrc (bcAll (tensorShapes zi)).length zi r).getD 1 0 < C) :
    getitemViaGetIndices (catRowsGet pieces) zi = denseGetitem (catRowsSpec pieces) zi :=
  getIndices_refines _ _ _ C (fun i j hi _ => catRows_entry pieces i j hi) zi hin

/-- the hypotheses are satisfiable and the statement non-trivial: `K[[5,0,3],[1,2,0]]` on a 2×3 ⊗ 3×1 Kronecker operator -/
example :
    getitemViaGetIndices (kronModel [(fun a b => (a : Int) + 2 * b + 1, 2, 3), (fun a _ => (a : Int) - 1, 3, 1)])
      [(6, .tensor [3] [5, 0, 3]), (3, .tensor [3] [1, 2, 0])] = [4, -5, -2] ∧
    denseGetitem (kronSpec [(fun a b => (a : Int) + 2 * b + 1, 2, 3), (fun a _ => (a : Int) - 1, 3, 1)])
      [(6, .tensor [3] [5, 0, 3]), (3, .tensor [3] [1, 2, 0])] = [4, -5, -2] := by decide

/-! ## The operator type (`LinOp/C03/Ops.lean`): per-class `_get_indices` / `_diagonal` refinement, nestings, batch dims

`Opv` = (size, dense value `den`, `_get_indices` arithmetic `gi`, `_diagonal` arithmetic `dg`); one constructor
per operator class, applied to each other for nestings; `Built` = everything obtained from the constructors with
their size side conditions.  `b` is the batch multi-index (any number of batch dims). -/

/-- **`_get_indices` of every class and every nesting reads the dense value** — for every operator built from the class
constructors (Dense, Diag/ConstantDiag/Identity, Zero, Toeplitz, Kronecker (any number of possibly non-square
factors), BlockDiag, BlockInterleaved, SumBatch, BatchRepeat, Cat along rows / columns / a batch dim,
Interpolated, Triangular, Root/LowRankRoot/Chol, Matmul, Sum, ConstantMul, Mul, Masked, TransposePermutation,
base-class fallback), to any nesting depth, every batch index and every in-range `(i, j)`:
the class's index arithmetic returns entry `(b, i, j)` of the dense value.  Induction over `Built`. -/
theorem opv_getIndices_refines (op : Opv) (h : Built op) (b : List Nat) (i j : Nat) (hi : i < op.R) (hj : j < op.C) :
    op.gi b i j = op.den b i j := (built_refines op h).1 b i j hi hj

/-- **`_diagonal` of every class and every nesting is the dense main diagonal** (square operators; batched). -/
theorem opv_diagonal_refines (op : Opv) (h : Built op) (hsq : op.R = op.C) (b : List Nat) (k : Nat) (hk : k < op.R) :
    op.dg b k = op.den b k k := (built_refines op h).2 hsq b k hk

/-- the operator type is inhabited by non-trivial nestings: BlockDiag over a Kronecker product of a dense and a Toeplitz factor, summed with a Diag -/
example (f : List Nat → Nat → Nat → Int) (c d : List Nat → Nat → Int) :
    Built (Opv.sum 12 12 [Opv.blockDiag 2 (Opv.kron [Opv.dense 2 2 f, Opv.toeplitz 3 c]), Opv.diag 12 d]) := by
  refine Built.sum _ _ _ (fun p hp => ?_) (fun p hp => ?_)
  · simp only [List.mem_cons, List.not_mem_nil, or_false] at hp
    rcases hp with rfl | rfl
    · refine Built.blockDiag _ _ (Built.kron _ (fun o ho => ?_))
      simp only [List.mem_cons, List.not_mem_nil, or_false] at ho
      rcases ho with rfl | rfl
      · exact Built.dense ..
      · exact Built.toeplitz ..
    · exact Built.diag ..
  · simp only [List.mem_cons, List.not_mem_nil, or_false] at hp
    rcases hp with rfl | rfl <;> exact ⟨rfl, rfl⟩

/-- **`getitem_refines`** — `__getitem__`'s tensor-index path (flatten → `_convert_indices_to_tensors` →
`_get_indices(row, col, *batch)`) over the whole operator type: for every built operator (any class / nesting), any
number `m` of batch dims and EVERY valid index tuple (ints incl. negative, slices with any bounds / positive step,
integer tensors of any shapes with in-range entries, in every position; `hv` = the range check at the top of
`__getitem__` + positive dims), the values returned are exactly torch's indexing of the dense batched value.
No in-range hypothesis is left: it is discharged by `specSrc_inRange`. -/
theorem getitem_refines (op : Opv) (h : Built op) (zi : List (Nat × Item)) (m : Nat) (hlen : zi.length = m + 2)
    (hR : (zi.getD m (0, Item.ellipsis)).1 = op.R) (hC : (zi.getD (m + 1) (0, Item.ellipsis)).1 = op.C)
    (hv : ∀ x ∈ zi, itemValid x = true ∧ 0 < x.1) :
    getitemOp op zi = denseGetitemOp op zi :=
  getitem_refines_of_gi op (built_refines op h).1 zi m hlen hR hC hv

/-- the hypotheses of `getitem_refines` in the familiar form: batch items `pre`, then the row and column items -/
theorem getitem_refines_rowcol (op : Opv) (h : Built op) (pre : List (Nat × Item)) (ir ic : Item)
    (hv : ∀ x ∈ pre ++ [(op.R, ir), (op.C, ic)], itemValid x = true ∧ 0 < x.1) :
    getitemOp op (pre ++ [(op.R, ir), (op.C, ic)]) = denseGetitemOp op (pre ++ [(op.R, ir), (op.C, ic)]) :=
  getitem_refines op h _ pre.length List.length_append (congrArg Prod.fst (List.getD_append_pair_fst pre _ _ _))
    (congrArg Prod.fst (List.getD_append_pair_snd pre _ _ _)) hv

/-- **`__getitem__` front end, composed** (tensor-index dispatch): ellipsis expansion + padding ∘ range check ∘
`_normalize_negative_index` ∘ `row_col_are_absorbed` dispatch ∘ `_convert_indices_to_tensors` ∘ `_get_indices` of any
built operator, together with the debug-mode expected shape `_compute_getitem_size` of the NORMALISED index:
whenever the modelled front end answers, its shape is torch's result shape of the ORIGINAL index (advanced-index
dims at torch's position) and its values are torch's indexing of the dense batched value with the ORIGINAL
index (negative ints / negative tensor entries included). -/
theorem frontEnd_eq_torch (op : Opv) (h : Built op) (bdims : List Nat) (idx : List Item) (sh : List Nat) (vals : List Int)
    (hres : frontEnd op bdims idx = some (sh, vals)) :
    ∃ e, expandEllipsis (bdims ++ [op.R, op.C]).length idx = some e ∧
      sh = specShape (List.zip (bdims ++ [op.R, op.C]) e) ∧
      vals = denseGetitemOp op (List.zip (bdims ++ [op.R, op.C]) e) := by
  cases he : expandEllipsis (bdims ++ [op.R, op.C]).length idx with
  | none => simp only [frontEnd, he] at hres; cases hres
  | some e =>
    rw [frontEnd_of_expand op bdims idx e he] at hres
    split at hres
    · rename_i hc
      obtain ⟨hz, g1, g2⟩ := zip_rowcol op bdims idx e he
      obtain ⟨rfl, rfl⟩ := Prod.mk.inj (Option.some.inj hres)
      exact ⟨e, rfl, by rw [computeGetitemSize_eq_spec, specShape_normalise],
        normalised_values op (built_refines op h).1 _ bdims.length hz g1 g2 hc.1⟩
    · cases hres

/-- the front end answers on non-trivial inputs: `K[..., [-1, 0, 3], [1, -1, 0]]` on a batch-(2) Kronecker operator (2×3 ⊗ 3×1)
— the premise of `frontEnd_eq_torch` is satisfiable, negative tensor entries included -/
example : frontEnd (Opv.kron [Opv.dense 2 3 (fun b i j => (i : Int) + 2 * j + 1 + b.headD 0), Opv.dense 3 1 (fun _ i _ => (i : Int) - 1)])
    [2] [.ellipsis, .tensor [3] [-1, 0, 3], .tensor [3] [1, -1, 0]]
    = some ([2, 3], [4, -5, -2, 5, -6, -3]) := by decide

/-- **every source index read for a valid index tuple is in range** (ints / tensor entries wrapped once, slices
by `slice.indices`, for every result coordinate) — the fact the refinement theorems used to assume (`hin`). -/
theorem srcIndex_inRange (zi : List (Nat × Item)) (hv : ∀ x ∈ zi, itemValid x = true ∧ 0 < x.1)
    (r : List Nat) (hr : r ∈ box (specShape zi)) :
    List.Forall₂ (fun s (x : Nat × Item) => s < x.1) (specSrc (bcAll (tensorShapes zi)).length zi r) zi :=
  specSrc_inRange zi hv r hr

/-- Kronecker `_diagonal` (`_kron_diag`, all factors square): entry `k` of the reshaped outer product of the factors'
diagonals is the `(k, k)` entry of `A₁ ⊗ … ⊗ A_P` — mixed-radix decomposition of `k`, any number of factors. -/
theorem kron_diagonal (b : List Nat) (fs : List Opv) (hsq : ∀ o ∈ fs, o.R = o.C)
    (h : ∀ o ∈ fs, ∀ q, q < o.R → o.dg b q = o.den b q q) (k : Nat) (hk : k < prodNat (fs.map (·.R))) :
    Opv.kronDiag (fs.map fun o => (o.dg b, o.R)) k = kronSpec (Opv.facDen fs b) k k :=
  kronDiag_eq b fs hsq h k hk

/-- BlockDiag `_diagonal` (`base._diagonal().view(*batch, k·n)`) is the diagonal of the block-diagonal matrix;
BlockDiag `_get_indices` with the base's own (refining) `_get_indices` reads the block-diagonal matrix — batched, nested. -/
theorem blockDiag_refines (k : Nat) (base : Opv) (h : Refines base) : Refines (Opv.blockDiag k base) :=
  refines_blockDiag k base h

/-- the dense value of the interleaved layout really is "entry `(r·k + blk, c·k + blk')` = `δ_{blk blk'} B_blk[r, c]`" -/
theorem blockInter_den_layout (k : Nat) (base : Opv) (b : List Nat) (r c blk blk' : Nat) (h1 : blk < k) (h2 : blk' < k) :
    (Opv.blockInter k base).den b (r * k + blk) (c * k + blk') = if blk = blk' then base.den (b ++ [blk]) r c else 0 := by
  simp only [Opv.blockInter, Nat.mul_add_mod_of_lt h1, Nat.mul_add_mod_of_lt h2, mul_add_div_of_lt h1,
    mul_add_div_of_lt h2]

/-- the dense value of `TransposePermutationLinearOperator(m)` is the commutation matrix: row `a·m + b` has its one in column `b·m + a` -/
theorem transPerm_den_layout (m a b a' b' : Nat) (_ha : a < m) (hb : b < m) (ha' : a' < m) (hb' : b' < m) (bt : List Nat) :
    (Opv.transPerm m).den bt (a * m + b) (b' * m + a') = if a = a' ∧ b = b' then 1 else 0 := by
  have _ := hb'
  simp only [Opv.transPerm, Nat.mul_add_mod_of_lt hb, Nat.mul_add_mod_of_lt ha', mul_add_div_of_lt hb,
    mul_add_div_of_lt ha']

/-- base-class `_get_indices` / `_diagonal` (one-hot interpolation `e_iᵀ (A e_j)` around any operator) returns `A[i, j]` -/
theorem fallback_refines (R C : Nat) (den : List Nat → Nat → Nat → Int) : Refines (Opv.fallback R C den) :=
  refines_fallback R C den

/-- Cat (rows / columns / a batch dim, any number of pieces): `idx_to_tensor_idx` + cumulative offsets against the
recursive concatenation — the lookup equals the spec for EVERY index (out-of-range ones read 0 on both sides) -/
theorem cat_lookup_eq_spec (ps : List (Nat × (Nat → Int))) (x : Nat) : Opv.catGet ps x = Opv.catSpecG ps x :=
  catGet_eq_spec ps x

/-- Matmul `_diagonal`, Diag-operand branch (`left._diagonal() * right._diagonal()`), and the Dense·Dense / fallback
branches: all three equal the diagonal of the product (the Diag branch needs one operand to be a diagonal matrix). -/
theorem matmul_refines (mode : Nat) (A B : Opv) (hA : Refines A) (hB : Refines B) (hAB : A.C = B.R)
    (hd : mode = 1 → A.R = A.C ∧ B.R = B.C ∧
      ((∀ b i k, i ≠ k → A.den b i k = 0) ∨ (∀ b k j, k ≠ j → B.den b k j = 0))) :
    Refines (Opv.matmul mode A B) := refines_matmul mode A B hA hB hAB hd

/-- the Diag-branch hypothesis of `matmul_refines` is satisfiable: a Diag operand is a diagonal matrix -/
example (n : Nat) (d : List Nat → Nat → Int) : ∀ b i k, i ≠ k → (Opv.diag n d).den b i k = 0 := by
  intro b i k h; simp [Opv.diag, h]

/-- **Translator obligation**: the index arithmetic extracted (Python `ast`) from /repo's working tree — which
operations, with which rounding mode, in which order, each class's `_get_indices` / `_split_slice` and the
`__getitem__` int rewriting use — is exactly the arithmetic mirrored by `kronIdx` (floor-div then fmod per
factor), `toepIdx` (sub, fmod, abs), `blockDiagIdx` (div, div, fmod, fmod, eq), `blockInterIdx` (fmod, fmod,
div, div, eq), `batchRepeatIdx` (fmod), `splitSliceBounds` (`slice.indices`) and `intToSlice` (`if i < 0: i += size`, `slice(i, i + 1)`). -/
theorem generated_arith_table : LinOp.Generated.C03.table = [
    ("KroneckerProductLinearOperator._get_indices", ["//=", "//=", "fmod", "div:floor", "fmod", "div:floor"]),
    ("ToeplitzLinearOperator._get_indices", ["abs", "fmod", "-"]),
    ("BlockDiagLinearOperator._get_indices", ["div:floor", "div:floor", "fmod", "fmod", "eq"]),
    ("BlockInterleavedLinearOperator._get_indices", ["fmod", "fmod", "div:floor", "div:floor", "eq"]),
    ("BatchRepeatLinearOperator._get_indices", ["-", "-", "fmod"]),
    ("CatLinearOperator._split_slice", ["indices", "-", "-", "-", "-", "-"]),
    ("MaskedLinearOperator._get_indices", ["arange", "arange"]),
    ("LinearOperator.__getitem__.int_to_slice",
      ["if col_index < 0: col_index += self.size(-1)", "if row_index < 0: row_index += self.size(-2)",
       "slice(col_index, col_index + 1, None)", "slice(row_index, row_index + 1, None)"])] := rfl

/-! ## The `_getitem` (slice) path -/

/-- **BlockDiag block-aligned shortcut, decision part**: whenever `_getitem_block_aligned` does not return `None`
(any block size `m × n`, any bounds), the four bounds are exactly the block multiples `m·b0, m·b1, n·b0, n·b1` of the
block slice `b0:b1` it hands to the base operator. -/
theorem blockDiag_aligned_bounds (m n rs re cs ce b0 b1 : Nat)
    (h : blockDiagAligned m n rs re cs ce = some (b0, b1)) :
    rs = m * b0 ∧ re = m * b1 ∧ cs = n * b0 ∧ ce = n * b1 := by
  unfold blockDiagAligned at h
  split at h
  · cases h
  · split at h
    · cases h
    · rename_i h1 h2
      simp only [Bool.or_eq_true, bne_iff_ne, ne_eq, not_or, Decidable.not_not, Prod.mk.injEq, Option.some.injEq]
        at h1 h2 h
      obtain ⟨⟨⟨a1, a2⟩, a3⟩, a4⟩ := h1
      obtain ⟨rfl, rfl⟩ := h
      exact ⟨mul_of_mod_zero rs m a1, mul_of_mod_zero re m a2, h2.1 ▸ mul_of_mod_zero cs n a3,
        h2.2 ▸ mul_of_mod_zero ce n a4⟩

/-- **BlockDiag block-aligned shortcut = torch slicing of the dense matrix** (any number `k` of blocks, any block size,
any batch index, any base operator): if the shortcut answers with block slice `b0:b1` and the recursive
`base._getitem(noop, noop, *batch, b0:b1)` denotes blocks `b0 … b1-1` of the base, then
`BlockDiag(new_base)` holds at `(i, j)` the entry `(row_start + i, col_start + j)` of the original block-diagonal matrix,
for every `i < row_end - row_start`, `j < col_end - col_start`. -/
theorem blockDiag_aligned_getitem (m n k rs re cs ce b0 b1 : Nat) (hm : 0 < m) (hn : 0 < n) (base sub : Opv)
    (hbR : base.R = m) (hbC : base.C = n) (hsR : sub.R = m) (hsC : sub.C = n)
    (hal : blockDiagAligned m n rs re cs ce = some (b0, b1)) (hre : re ≤ m * k) (hlt : rs ≤ re)
    (hsub : ∀ b blk i j, blk < b1 - b0 → i < m → j < n → sub.den (b ++ [blk]) i j = base.den (b ++ [b0 + blk]) i j) :
    ∀ b i j, i < re - rs → j < ce - cs →
      (Opv.blockDiag (b1 - b0) sub).den b i j = (Opv.blockDiag k base).den b (rs + i) (cs + j) := by
  obtain ⟨e1, e2, e3, e4⟩ := blockDiag_aligned_bounds m n rs re cs ce b0 b1 hal
  subst e1 e2 e3 e4
  intro b i j hi _
  exact blockDiag_window m n k b0 b1 hm hn base sub hbR hbC hsR hsC (Nat.le_of_mul_le_mul_left hre hm) hsub b i j
    (Nat.mul_sub m b1 b0 ▸ hi)

example : blockDiagAligned 2 3 2 6 3 9 = some (1, 3) := by decide
example : blockDiagAligned 2 3 2 6 3 6 = none := by decide
example : blockDiagAligned 2 3 1 6 3 9 = none := by decide

/-- **BlockInterleaved block-aligned shortcut, decision part** -/
theorem blockInter_aligned_bounds (k rs re cs ce r0 r1 c0 c1 : Nat)
    (h : blockInterAligned k rs re cs ce = some ((r0, r1), (c0, c1))) :
    rs = k * r0 ∧ re = k * r1 ∧ cs = k * c0 ∧ ce = k * c1 ∧ re - rs = ce - cs := by
  unfold blockInterAligned at h
  split at h
  · cases h
  · split at h
    · cases h
    · rename_i h1 h2
      simp only [Bool.or_eq_true, bne_iff_ne, ne_eq, not_or, Decidable.not_not, Prod.mk.injEq, Option.some.injEq]
        at h1 h2 h
      obtain ⟨⟨⟨a1, a2⟩, a3⟩, a4⟩ := h1
      obtain ⟨⟨rfl, rfl⟩, rfl, rfl⟩ := h
      exact ⟨mul_of_mod_zero rs k a1, mul_of_mod_zero re k a3, mul_of_mod_zero cs k a2, mul_of_mod_zero ce k a4, h2⟩

/-- **BlockInterleaved block-aligned shortcut = torch slicing of the dense matrix** (any `k`, any batch index, any base):
if the shortcut answers with base slices `r0:r1`, `c0:c1` and the recursive `base._getitem(r0:r1, c0:c1, *batch, noop)`
denotes that window of every block, then `BlockInterleaved(new_base)` holds at `(i, j)` the entry
`(row_start + i, col_start + j)` of the original interleaved matrix. -/
theorem blockInter_aligned_getitem (k rs re cs ce r0 r1 c0 c1 : Nat) (hk : 0 < k) (base sub : Opv)
    (hal : blockInterAligned k rs re cs ce = some ((r0, r1), (c0, c1)))
    (hsub : ∀ bb i j, i < r1 - r0 → j < c1 - c0 → sub.den bb i j = base.den bb (r0 + i) (c0 + j)) :
    ∀ b i j, i < re - rs → j < ce - cs →
      (Opv.blockInter k sub).den b i j = (Opv.blockInter k base).den b (rs + i) (cs + j) := by
  obtain ⟨e1, e2, e3, e4, _⟩ := blockInter_aligned_bounds k rs re cs ce r0 r1 c0 c1 hal
  subst e1 e2 e3 e4
  intro b i j hi hj
  exact blockInter_window k r0 r1 c0 c1 hk base sub hsub b i j (Nat.mul_sub k r1 r0 ▸ hi) (Nat.mul_sub k c1 c0 ▸ hj)

example : blockInterAligned 3 3 9 0 6 = some ((1, 3), (0, 2)) := by decide
example : blockInterAligned 3 3 9 0 3 = none := by decide

/-- **`_getitem` result-operator constructions refine torch indexing** (Sum / ConstantMul / Matmul / Root overrides, any
nesting of them, any selection lists `rows` / `cols` — slices via `sliceIndices`, 1-D tensors, ints as singleton lists —
any batch map): every operator the modelled `_getitem` overrides can build out of correct leaf results has the shape of
the selection and at every entry `(b, i, j)` the value `dense[bmap b, rows[i], cols[j]]` of the original operator. -/
theorem getitem_slicePath_refines (bmap : List Nat → List Nat) (rows cols : List Nat) (op r : Opv)
    (h : GetitemResult bmap rows cols op r) :
    r.R = rows.length ∧ r.C = cols.length ∧
    ∀ b i j, i < rows.length → j < cols.length → r.den b i j = op.den (bmap b) (rows.getD i 0) (cols.getD j 0) :=
  getitemResult_sound bmap rows cols op r h

/-- the relation is inhabited by a non-trivial nesting: `ConstantMul(Matmul(A, B))` sliced with rows `[2, 0]`, cols `[1]` -/
example (c : List Nat → Int) (A B : Opv) (h : A.C = B.R) :
    GetitemResult id [2, 0] [1] (Opv.constMul c (Opv.matmul 0 A B))
      (Opv.constMulGetitem c id (Opv.matmulGetitem 2 (Opv.sel [2, 0] (List.range A.C) id A) (Opv.sel (List.range B.R) [1] id B))) :=
  .constMul _ _ _ _ _ (.matmul _ _ _ _ _ _ _ _ h (.leaf _ _ _ _ rfl rfl (fun _ _ _ _ _ => rfl)) (.leaf _ _ _ _ rfl rfl (fun _ _ _ _ _ => rfl)))

/-- **`InterpolatedLinearOperator._diagonal`, dense-root fast path** (any interpolation lists of any lengths, any rank of
the root, any batch index, any nested root operator): `(left_interp(…, root) * left_interp(…, root)).sum(-1)` at
position `k` equals entry `(k, k)` of the dense value `W_l (R Rᵀ) W_rᵀ` of the interpolated operator. -/
theorem interpRoot_diagonal_refines (R C : Nat) (li ri : List Nat → Nat → List (Nat × Int)) (rt : Opv)
    (b : List Nat) (k : Nat) :
    (Opv.interpRoot R C li ri rt).dg b k = (Opv.interp R C li ri (Opv.root true rt)).den b k k := by
  simp only [Opv.interpRoot, Opv.interp, Opv.root, interpRootDiag]
  exact interpRootDiag_eq (li b k) (ri b k) (rt.den b) rt.C

/-- `_get_indices` of the fast-path variant is the one of every Interpolated operator, so the refinement of
`opv_getIndices_refines` carries over; with the theorem above: the variant refines its dense value. -/
theorem interpRoot_refines (R C : Nat) (li ri : List Nat → Nat → List (Nat × Int)) (rt : Opv)
    (h : Refines (Opv.interp R C li ri (Opv.root true rt))) : Refines (Opv.interpRoot R C li ri rt) :=
  ⟨fun b i j hi hj => h.1 b i j hi hj, fun _ b k _ => interpRoot_diagonal_refines R C li ri rt b k⟩

example : (Opv.interpRoot 2 2 (fun _ i => [(i, 2), (i + 1, 1)]) (fun _ j => [(j, 1), (j + 1, 3)])
    (Opv.dense 3 2 (fun _ i j => (i : Int) + 2 * j + 1))).dg [] 1 = 324 := by decide

/-- **the front end is total on its domain**: for EVERY operator, batch shape and index tuple that (1) has at most one
ellipsis and not too many items, (2) passes the `[-size, size)` range check with positive step slices on non-empty dims,
and (3) is dispatched to the tensor-index path by `row_col_are_absorbed`, the modelled `__getitem__` answers (no internal
error), with `_compute_getitem_size` of the normalised index as shape. -/
theorem frontEnd_total (op : Opv) (bdims : List Nat) (idx e : List Item)
    (he : expandEllipsis (bdims ++ [op.R, op.C]).length idx = some e)
    (hv : ∀ x ∈ List.zip (bdims ++ [op.R, op.C]) e, itemValid x = true ∧ 0 < x.1)
    (habs : absorbedOf (normalise (List.zip (bdims ++ [op.R, op.C]) e)) = true) :
    frontEnd op bdims idx = some (computeGetitemSize (normalise (List.zip (bdims ++ [op.R, op.C]) e)),
                                  getitemOp op (normalise (List.zip (bdims ++ [op.R, op.C]) e))) := by
  rw [frontEnd_of_expand op bdims idx e he, if_pos ⟨hv, habs⟩]

/-- **total correctness of the tensor-index path**: on its whole domain (previous theorem) the front end returns exactly
torch's shape and torch's values for the ORIGINAL index tuple (composition of `frontEnd_total` and `frontEnd_eq_torch`). -/
theorem frontEnd_total_correct (op : Opv) (h : Built op) (bdims : List Nat) (idx e : List Item)
    (he : expandEllipsis (bdims ++ [op.R, op.C]).length idx = some e)
    (hv : ∀ x ∈ List.zip (bdims ++ [op.R, op.C]) e, itemValid x = true ∧ 0 < x.1)
    (habs : absorbedOf (normalise (List.zip (bdims ++ [op.R, op.C]) e)) = true) :
    frontEnd op bdims idx = some (specShape (List.zip (bdims ++ [op.R, op.C]) e),
                                  denseGetitemOp op (List.zip (bdims ++ [op.R, op.C]) e)) := by
  obtain ⟨hz, g1, g2⟩ := zip_rowcol op bdims idx e he
  rw [frontEnd_total op bdims idx e he hv habs, computeGetitemSize_eq_spec, specShape_normalise,
    normalised_values op (built_refines op h).1 _ bdims.length hz g1 g2 hv]

/-- **slice path against the torch spec**: when rows and columns are indexed by slices (any bounds: `None`, negative,
over-long, stepped; ints arrive here as `slice(i, i+1)` by `intToSlice_selects`), every operator the modelled `_getitem`
constructions build has torch's result size `sliceLen × sliceLen` (= `specShape`) and holds at `(i, j)` the dense entry at
exactly the source coordinates `srcIndex` that the torch spec reads for result coordinate `(i, j)`. -/
theorem getitem_slicePath_torch (bmap : List Nat → List Nat) (nR nC : Nat) (ra rb rc ca cb cc : Option Int) (op r : Opv)
    (h : GetitemResult bmap (sliceIndices nR ra rb rc) (sliceIndices nC ca cb cc) op r) :
    [r.R, r.C] = specShape [(nR, .slice ra rb rc), (nC, .slice ca cb cc)] ∧
    ∀ b i j, i < sliceLen nR ra rb rc → j < sliceLen nC ca cb cc →
      r.den b i j = op.den (bmap b)
        ((srcIndex [(nR, .slice ra rb rc), (nC, .slice ca cb cc)] [i, j] []).getD 0 0)
        ((srcIndex [(nR, .slice ra rb rc), (nC, .slice ca cb cc)] [i, j] []).getD 1 0) := by
  obtain ⟨hR, hC, hd⟩ := getitemResult_sound bmap _ _ op r h
  have lR := sliceIndices_length nR ra rb rc
  have lC := sliceIndices_length nC ca cb cc
  refine ⟨by rw [hR, hC, lR, lC]; rfl, fun b i j hi hj => ?_⟩
  rw [hd b i j (lR.symm ▸ hi) (lC.symm ▸ hj)]
  exact congrArg₂ (op.den (bmap b)) (getD_range_map _ i _ 0 hi) (getD_range_map _ j _ 0 hj)

/-! ## The index-count guard (/repo 716435a) and the Matmul `_diagonal` row·column theorem -/

/-- **the index-count guard is torch's too-many-indices rule**: for every rank `d` and every index tuple with at most one
ellipsis, `len(index) > ndimension` after the library's ellipsis fill and padding holds iff the tuple has more than `d`
non-ellipsis items — exactly when `torch.Tensor.__getitem__` raises "too many indices". -/
theorem tooManyIndices_iff_torch (d : Nat) (idx : List Item) (h1 : (idx.filter isEll).length ≤ 1) :
    tooManyIndices d idx = true ↔ d < (idx.filter (fun i => !isEll i)).length := by
  unfold tooManyIndices
  by_cases h : (idx.filter isEll).length = 1
  · rw [if_pos h, decide_eq_true_eq, length_filter_split idx, h, Nat.add_sub_cancel_left]
  · rw [if_neg h, decide_eq_true_eq, length_filter_split idx, Nat.lt_one_iff.mp (Nat.lt_of_le_of_ne h1 h), Nat.zero_add]

/-- **model raises too-many-indices ⇔ torch raises it** (front end with the guard, any operator / batch shape) -/
theorem frontEndG_tooMany_iff (op : Opv) (bdims : List Nat) (idx : List Item) (h1 : (idx.filter isEll).length ≤ 1) :
    frontEndG op bdims idx = .tooMany ↔ bdims.length + 2 < (idx.filter (fun i => !isEll i)).length := by
  rw [← tooManyIndices_iff_torch _ idx h1]
  unfold frontEndG
  by_cases h : tooManyIndices (bdims.length + 2) idx = true
  · simp [h]
  · simp only [h, Bool.false_eq_true, if_false, iff_false]
    split <;> simp

/-- the ellipsis expansion fails exactly on the guarded tuples (so `frontEnd` alone already rejected them; the guard names the error) -/
theorem expandEllipsis_none_iff_tooMany (d : Nat) (idx : List Item) (h1 : (idx.filter isEll).length ≤ 1) :
    expandEllipsis d idx = none ↔ tooManyIndices d idx = true := by
  constructor
  · exact expandEllipsis_none_tooMany d idx h1
  · intro h
    cases he : expandEllipsis d idx with
    | none => rfl
    | some e => rw [expandEllipsis_some_not_tooMany d idx e he] at h; cases h

/-- `frontEnd_eq_torch` restated for the guarded front end: an answer implies the guard did not fire, and is torch's. -/
theorem frontEndG_eq_torch (op : Opv) (h : Built op) (bdims : List Nat) (idx : List Item) (sh : List Nat) (vals : List Int)
    (hres : frontEndG op bdims idx = .ok sh vals) :
    tooManyIndices (bdims.length + 2) idx = false ∧
    ∃ e, expandEllipsis (bdims ++ [op.R, op.C]).length idx = some e ∧
      sh = specShape (List.zip (bdims ++ [op.R, op.C]) e) ∧
      vals = denseGetitemOp op (List.zip (bdims ++ [op.R, op.C]) e) :=
  have h' := (frontEndG_ok_iff op bdims idx sh vals).mp hres
  ⟨h'.1, frontEnd_eq_torch op h bdims idx _ _ h'.2⟩

/-- `frontEnd_total_correct` restated for the guarded front end: on the whole domain of the tensor-index path the guard does
not fire and the answer is torch's shape and values of the original index. -/
theorem frontEndG_total_correct (op : Opv) (h : Built op) (bdims : List Nat) (idx e : List Item)
    (he : expandEllipsis (bdims ++ [op.R, op.C]).length idx = some e)
    (hv : ∀ x ∈ List.zip (bdims ++ [op.R, op.C]) e, itemValid x = true ∧ 0 < x.1)
    (habs : absorbedOf (normalise (List.zip (bdims ++ [op.R, op.C]) e)) = true) :
    frontEndG op bdims idx = .ok (specShape (List.zip (bdims ++ [op.R, op.C]) e))
                                 (denseGetitemOp op (List.zip (bdims ++ [op.R, op.C]) e)) :=
  (frontEndG_ok_iff ..).mpr ⟨(show (bdims ++ [op.R, op.C]).length = bdims.length + 2 from List.length_append) ▸
      expandEllipsis_some_not_tooMany _ idx e he, frontEnd_total_correct op h bdims idx e he hv habs⟩

/-- the guard fires on `Dense(3×3)[0, 1, 2]` and on `[..., 0, 1, 2]`; the previous code dropped the surplus `2` and answered a scalar -/
example : frontEndG (Opv.dense 3 3 (fun _ i j => (i : Int) + j)) [] [.int 0, .int 1, .int 2] = .tooMany := by decide
example : frontEndG (Opv.dense 3 3 (fun _ i j => (i : Int) + j)) [] [.ellipsis, .int 0, .int 1, .int 2] = .tooMany := by decide
theorem previous_getitem_dropped_surplus_counterexample :
    previousDroppedSurplus 2 [.int 0, .int 1, .int 2] = [.int 0, .int 1] ∧ tooManyIndices 2 [.int 0, .int 1, .int 2] = true := by decide

/-- **Matmul `_diagonal` = row of the left factor · column of the right factor, for ANY pair of factor operators** (no
orientation / structure shortcut: triangular factors of equal or opposite orientation, Root, Toeplitz, Kronecker, …, nested,
batched): outside the Diag-operand branch, entry `q` of `_diagonal` is `Σ_k left[q, k] · right[k, q]` of the dense factors. -/
theorem matmul_diagonal_rowcol (mode : Nat) (A B : Opv) (hA : Built A) (hB : Built B) (hAB : A.C = B.R) (hsq : A.R = B.C)
    (hmode : mode ≠ 1) (b : List Nat) (q : Nat) (hq : q < A.R) :
    (Opv.matmul mode A B).dg b q = sumTo A.C fun k => A.den b q k * B.den b k q :=
  (refines_matmul mode A B (built_refines A hA) (built_refines B hB) hAB (fun h => absurd h hmode)).2 hsq b q hq

/-- instance: lower-triangular @ upper-triangular (e.g. the lazily built `L @ L.mT`) and upper @ lower, any wrapped operators -/
theorem matmul_tri_diagonal (L U : Opv) (hL : Built L) (hU : Built U) (hLU : L.C = U.R) (hsq : L.R = U.C)
    (b : List Nat) (q : Nat) (hq : q < L.R) :
    (Opv.matmul 2 (Opv.tri L) (Opv.tri U)).dg b q = sumTo L.C fun k => L.den b q k * U.den b k q :=
  matmul_diagonal_rowcol 2 (Opv.tri L) (Opv.tri U) (.tri L hL) (.tri U hU) hLU hsq (by decide) b q hq

/-- **translator obligation (slice path)**: the statements of the block-aligned shortcuts, of the guard chain in
`BlockLinearOperator._getitem` and of the `_getitem` overrides of Sum / ConstantMul / Matmul / Root, regenerated from
/repo on every run, are the ones the model above mirrors. -/
theorem generated_slicepath_table : LinOp.Generated.C03SlicePath.table = [
  ("BlockDiagLinearOperator._getitem_block_aligned", ["block_rows, block_cols = self.base_linear_op.shape[-2:]", "if row_start % block_rows or row_end % block_rows or col_start % block_cols or col_end % block_cols", "return None", "block_index = slice(row_start // block_rows, row_end // block_rows, None)", "if block_index != slice(col_start // block_cols, col_end // block_cols, None)", "return None", "noop = slice(None, None, None)", "new_base_linear_op = self.base_linear_op._getitem(noop, noop, *batch_indices, block_index)", "return self.__class__(new_base_linear_op, block_dim=-3)"]),
  ("BlockInterleavedLinearOperator._getitem_block_aligned", ["num_blocks = self.num_blocks", "if row_start % num_blocks or col_start % num_blocks or row_end % num_blocks or col_end % num_blocks", "return None", "if row_end - row_start != col_end - col_start", "return None", "row_index = slice(row_start // num_blocks, row_end // num_blocks, None)", "col_index = slice(col_start // num_blocks, col_end // num_blocks, None)", "new_base_linear_op = self.base_linear_op._getitem(row_index, col_index, *batch_indices, slice(None, None, None))", "return self.__class__(new_base_linear_op, block_dim=-3)"]),
  ("BlockLinearOperator._getitem", ["if _is_noop_index(row_index) and _is_noop_index(col_index)", "return self.__class__(self.base_linear_op._getitem(row_index, col_index, *batch_indices, _noop_index))", "if not isinstance(row_index, slice) or not isinstance(col_index, slice)", "return super()._getitem(row_index, col_index, *batch_indices)", "if row_index.step is not None or col_index.step is not None", "return super()._getitem(row_index, col_index, *batch_indices)", "num_rows, num_cols = self.matrix_shape", "row_start, row_end, _ = row_index.indices(num_rows)", "col_start, col_end, _ = col_index.indices(num_cols)", "res = self._getitem_block_aligned(row_start, row_end, col_start, col_end, batch_indices)", "if res is None", "return super()._getitem(row_index, col_index, *batch_indices)", "return res"]),
  ("SumLinearOperator._getitem", ["results = [linear_op._getitem(row_index, col_index, *batch_indices) for linear_op in self.linear_ops]", "return SumLinearOperator(*results)"]),
  ("ConstantMulLinearOperator._getitem", ["base_linear_op = self.base_linear_op._getitem(row_index, col_index, *batch_indices)", "constant = self._constant.expand(self.batch_shape)[batch_indices]", "return type(self)(base_linear_op=base_linear_op, constant=constant)"]),
  ("MatmulLinearOperator._getitem", ["if torch.is_tensor(row_index) and torch.is_tensor(col_index)", "num_indices = row_index.numel()", "if num_indices > self.matrix_shape.numel()", "return to_linear_operator(self.to_dense())._getitem(row_index, col_index, *batch_indices)", "left_tensor = self.left_linear_op._getitem(row_index, _noop_index, *batch_indices)", "right_tensor = self.right_linear_op._getitem(_noop_index, col_index, *batch_indices)", "res = MatmulLinearOperator(left_tensor, right_tensor)", "return res"]),
  ("RootLinearOperator._getitem", ["if torch.is_tensor(row_index) and torch.is_tensor(col_index)", "num_indices = row_index.numel()", "if num_indices > self.matrix_shape.numel()", "return to_linear_operator(self.to_dense())._getitem(row_index, col_index, *batch_indices)", "left_tensor = self.root._getitem(row_index, _noop_index, *batch_indices)", "if _equal_indices(row_index, col_index)", "res = self.__class__(left_tensor)", "right_tensor = self.root._getitem(col_index, _noop_index, *batch_indices)", "res = MatmulLinearOperator(left_tensor, right_tensor.mT)", "return res"]),
  ("LinearOperator.__getitem__.index_count", ["ndimension = self.ndimension()", "num_to_fill_in = ndimension - (len(index) - 1)", "index = index[:ellipsis_loc] + tuple((_noop_index for _ in range(num_to_fill_in))) + index[ellipsis_loc + 1:]", "index = index + tuple((_noop_index for _ in range(ndimension - len(index))))", "if len(index) > ndimension"])] := rfl

end LinOp.C03
