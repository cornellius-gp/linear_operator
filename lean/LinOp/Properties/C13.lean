import LinOp.C13.Proofs
import LinOp.C13.ProofsSem
import LinOp.C13.Examples
import LinOp.Generated.C13Table
import LinOp.Generated.C13PTable
import LinOp.Generated.C13Sites
/-!
C13 — no operation mutates caller-owned tensors or an existing operator's matrix.  Property theorems only.

`Generated.C13.table` is the alias IR of **every** function of /repo/linear_operator as translated on
this run by `harness/extract/c13_alias.py`; `Generated.C13P.table` is the same tree with every function
that known_findings.txt lists as an open root defect replaced by its fixed form (a function that only
writes to new tensors); with no such entry open the two tables are the same.  `Safe Φ fn allowed` (Model.lean): for every aliasing of the arguments and every
nondeterministic choice, each storage written during the call was allocated during the call or
belongs to a formal in `allowed` (explicit `out=` buffers).
-/
namespace LinOp.C13

/-- **Soundness of the analysis** (all programs, all tables, calls executed by running the callee's
body, unbounded recursion depth, loops of any length): if every function of the table conforms to
its candidate summary and the summary of `f` mutates only allowed formals, then no execution of `f`
writes a pre-existing storage outside the allowed formals. -/
theorem analyse_sound (Sg : List Summary) (Φ : List Fn) (hT : tableOK Sg Sg Φ = true)
    (f : Nat) (fn : Fn) (allowed : List Nat) (hf : Φ[f]? = some fn)
    (hm : mutsWithin Sg f allowed = true) : Safe Φ fn allowed := by
  have hTab := tableOK_sound hT
  obtain ⟨σ, hσ, hfn⟩ := hTab f fn hf
  simp only [mutsWithin, hσ] at hm
  exact safe_of_fnOK hTab hfn hm

/-- A function (and everything it calls) without any `write` is safe: special case used for the
mutation-free part of the package. -/
theorem no_write_safe (Sg : List Summary) (Φ : List Fn) (hT : tableOK Sg Sg Φ = true)
    (f : Nat) (fn : Fn) (hf : Φ[f]? = some fn) (hm : mutsWithin Sg f [] = true) : Safe Φ fn [] :=
  analyse_sound Sg Φ hT f fn [] hf hm

/-- The analysis is not vacuous: it rejects the program that writes its parameter, that program is
really unsafe, and a program writing a fresh buffer or a clone is accepted and safe. -/
theorem analysis_discriminates :
    ¬ Safe Examples.table Examples.writeParam [] ∧ fnOK Examples.sigma Examples.writeParam ⟨[], []⟩ = false ∧
    Safe Examples.table Examples.writeClone [] ∧ ¬ Safe Examples.table Examples.writeView [] ∧
    ¬ Safe Examples.table Examples.callsKernel [] :=
  ⟨Examples.writeParam_unsafe, by decide, analyse_sound _ _ Examples.table_ok 1 _ [] rfl (by decide),
    Examples.writeView_unsafe, Examples.callsKernel_unsafe⟩

/-- D15 as a machine-checked counterexample: the empty-selection branch `sparse_getitem` had before its repair
(`indices = sparse._indices(); indices.resize_(…).zero_()`) writes the caller's sparse tensor. -/
theorem sparse_getitem_counterexample : ¬ Safe Examples.table Examples.sparseGetitemEmptyBranch [] :=
  Examples.sparseGetitemEmptyBranch_unsafe

/-- The repaired form of that branch (allocate new tensors) is safe. -/
theorem sparse_getitem_fixed_safe : Safe Examples.table Examples.sparseGetitemFixedBranch [] :=
  analyse_sound _ _ Examples.table_ok 6 _ [] rfl (by decide)

/-- Every function of the regenerated IR conforms to its regenerated summary (kernel-evaluated, `decide +kernel`
per chunk of 60 functions in `Generated/C13IR*.lean`, on the mask form of the analysis (`ProofsBits.lean`) with
callee summaries found by (chunk, offset) (`ProofsLookup.lean`)). -/
theorem generated_table_ok :
    tableOK Generated.C13.sigma Generated.C13.sigma Generated.C13.table = true := Generated.C13.table_ok

/-- Same for the tree with the known root defects repaired. -/
theorem generatedP_table_ok :
    tableOK Generated.C13P.sigma Generated.C13P.sigma Generated.C13P.table = true := Generated.C13P.table_ok

/-- The summary of every obligation mutates allowed formals only (kernel-evaluated with the (chunk, offset) lookup). -/
theorem generated_obligations_ok :
    Generated.C13.obligations.all (fun p => mutsWithin Generated.C13.sigma p.1 p.2) = true := Generated.C13.obligations_ok

/-- Same for the tree with the known root defects repaired. -/
theorem generatedP_obligations_ok :
    Generated.C13P.obligations.all (fun p => mutsWithin Generated.C13P.sigma p.1 p.2) = true := Generated.C13P.obligations_ok

/-- **C13 on today's source** (*partial*: the functions that can reach an open known root defect are
excluded from `obligations`; they are in `Generated.C13.flagged`, which is empty when there is none): every
listed public function / method of the package is `Safe`. -/
theorem repo_functions_safe_partial :
    ∀ p ∈ Generated.C13.obligations, ∀ fn, Generated.C13.table[p.1]? = some fn →
      Safe Generated.C13.table fn p.2 := fun p hp fn hf =>
  analyse_sound _ _ generated_table_ok p.1 fn p.2 hf (List.all_eq_true.1 generated_obligations_ok p hp)

/-- **C13 modulo the known root defects**: with the functions that known_findings.txt lists as open root defects
(D15 / D15b, `sparse_getitem` / `make_sparse_from_indices_and_values`, until they were repaired in /repo) in their
repaired form, *every* public function and method of the package is `Safe` (`Generated.C13P.flagged` is empty on
the unchanged tree — checked by the harness). -/
theorem repo_functions_safe_modulo_known :
    ∀ p ∈ Generated.C13P.obligations, ∀ fn, Generated.C13P.table[p.1]? = some fn →
      Safe Generated.C13P.table fn p.2 := fun p hp fn hf =>
  analyse_sound _ _ generatedP_table_ok p.1 fn p.2 hf (List.all_eq_true.1 generatedP_obligations_ok p hp)

/-! ### storage semantics -/

/-- **A view of a view aliases the base** (all tables, states, variable numberings): after
`y = x.view(…); z = y.view(…)` every storage `z` reaches is a storage `x` reached before. -/
theorem view_of_view_aliases (Φ : List Fn) (x y z : Var) (st st' : State)
    (h : Exec Φ (.seq (.assign y (.view x)) (.assign z (.view y))) st st') :
    ∀ s ∈ st'.env z, s ∈ st.env x :=
  match exec_seq_inv h with
  | ⟨_, h1, h2⟩ => fun s hs => view_aliases_base h1 s (view_aliases_base h2 s hs)

/-- … and therefore an in-place write through a view of a view of *any* formal is not `Safe`
(any arity `k`, any formal `x < k`, any temporaries `y z`, any table). -/
theorem view_of_view_write_unsafe (Φ : List Fn) (k : Nat) (x y z : Var) (hx : x < k) :
    ¬ Safe Φ ⟨k, .seq (.seq (.assign y (.view x)) (.assign z (.view y))) (.write z)⟩ [] :=
  not_safe_of_exec
    (.seq _ _ _ _ _
      (.seq _ _ _ _ _ (.assign_src Φ _ y (y := x) (List.mem_singleton_self x)) (.assign_src Φ _ z (y := y) (List.mem_singleton_self y)))
      (.write _ z))
    (by simp [upd, entry, hx])

/-- **`clone()` breaks the alias**: the storages of a `fresh` value did not exist before the
assignment (so they belong to no caller tensor), and `y = <clone>; y.op_()` is `Safe` for every
arity, variable numbering and table — directly from the semantics, not through the analysis. -/
theorem clone_breaks_alias (Φ : List Fn) (k : Nat) (y : Var) :
    (∀ st st', Exec Φ (.assign y .fresh) st st' → ∀ s ∈ st'.env y, st.n ≤ s) ∧
    Safe Φ ⟨k, .seq (.assign y .fresh) (.write y)⟩ [] :=
  ⟨fun _ _ h => fresh_is_new h, clone_then_write_safe Φ k y⟩

/-- **The analysis is monotone** (all statements incl. loops, branches and calls, all summaries):
more taint on entry (every variable's root set, the written set, the returned set — `LeA`) gives
more taint on exit.  Consequently dropping a root on entry can only hide writes, never invent them. -/
theorem analysis_monotone (Sg : List Summary) (s : Stmt) (a b : AState) (h : LeA a b) :
    LeA (analyse Sg s a) (analyse Sg s b) :=
  analyse_mono Sg s a b h

example : LeA (entryA 1) ⟨[[0, 1], [1]], [1], [], true⟩ ∧ ¬ LeA ⟨[[0, 1], [1]], [1], [], true⟩ (entryA 1) := by
  refine ⟨⟨fun x p hp => ?_, nofun, nofun⟩, fun h => nomatch h.2.1 1 (List.mem_singleton_self 1)⟩
  rw [look_entryA] at hp
  split at hp
  · obtain rfl : x = 0 := by omega
    exact List.mem_append_left [1] hp
  · cases hp

/-- **End to end: verdict clean ⇒ snapshots equal.**  If the table conforms to its summaries and the
summary of `f` mutates only `allowed` formals, then for *every* execution of `f` (any aliasing of the
arguments, any nondeterministic choice, any recursion depth / loop count) and every pair of heaps
`h`, `h'` that differ at most on the storages the execution wrote (`HeapFrame`): every storage that
existed on entry and is not reachable from an allowed formal holds the same value afterwards — in
particular every storage reachable from a caller tensor (`P x`) when `allowed = []`. -/
theorem no_caller_root_written_implies_snapshot_equal {α : Type} (Sg : List Summary) (Φ : List Fn)
    (hT : tableOK Sg Sg Φ = true) (f : Nat) (fn : Fn) (allowed : List Nat) (hf : Φ[f]? = some fn)
    (hm : mutsWithin Sg f allowed = true) (P : Var → List Nat) (n0 : Nat) (st' : State)
    (hP : ∀ x s, s ∈ P x → s < n0) (hE : Exec Φ fn.body ⟨entry fn.nparams P, n0, [], []⟩ st')
    (h h' : Nat → α) (hfr : HeapFrame h h' st'.w) :
    ∀ s, s < n0 → (∀ p ∈ allowed, s ∉ entry fn.nparams P p) → h' s = h s :=
  snapshot_equal_of_safe (analyse_sound Sg Φ hT f fn allowed hf hm) P n0 st' hP hE h h' hfr

/-- the hypotheses are satisfiable with a run that really writes (a clone) and a heap that really changes -/
example : ∃ (st' : State) (h h' : Nat → Nat),
    Exec Examples.table Examples.writeClone.body ⟨entry 1 Examples.P0, 1, [], []⟩ st' ∧
    st'.w = [1] ∧ HeapFrame h h' st'.w ∧ h' 1 ≠ h 1 ∧ h' 0 = h 0 := by
  refine ⟨_, fun _ => 0, fun s => if s = 1 then 7 else 0,
    .seq _ _ _ _ _ (.assign _ 1 .fresh [1] 2 ⟨Nat.le_succ 1, fun s hs => .inr ⟨rfl, ?_⟩⟩) (.write _ 1),
    rfl, fun s hs => if_neg (mt List.mem_singleton.2 hs), by decide, rfl⟩
  obtain rfl := List.mem_singleton.1 hs
  decide

/-- **C13 on today's source, heap form**: for every obligation of the regenerated table and every
execution, all caller storages outside the `out=` formals are bitwise unchanged. -/
theorem repo_functions_snapshot_equal {α : Type} :
    ∀ p ∈ Generated.C13.obligations, ∀ fn, Generated.C13.table[p.1]? = some fn →
      ∀ (P : Var → List Nat) (n0 : Nat) (st' : State), (∀ x s, s ∈ P x → s < n0) →
      Exec Generated.C13.table fn.body ⟨entry fn.nparams P, n0, [], []⟩ st' →
      ∀ (h h' : Nat → α), HeapFrame h h' st'.w →
      ∀ s, s < n0 → (∀ q ∈ p.2, s ∉ entry fn.nparams P q) → h' s = h s := fun p hp fn hf =>
  snapshot_equal_of_safe (repo_functions_safe_partial p hp fn hf)

/-- **No write statement is dropped between the source and the table** (per run, `decide +kernel`): for every
function in which the independent `ast` census (`harness/extract/c13_sites.py`: `x.op_(…)`, `out=`, index
assignment / `del x[i]`, augmented assignment) found in-place sites that the translator turned into writes, the
emitted (slimmed) IR of that function — the one `repo_functions_safe_partial` is about — contains at least as
many `write` / mutating-`call` operations (`countW`); the census total is pinned next to it. -/
theorem generated_sites_ok :
    siteRowsOK Generated.C13.siteRows = true ∧
    (Generated.C13.siteRows.map (fun r => r.2.1)).sum = Generated.C13.siteTotal :=
  ⟨Generated.C13.site_rows_ok, Generated.C13.site_total_ok⟩

/-- `siteRowsOK` really rejects a row with more sites than IR writes -/
example : siteRowsOK [(0, 2, countW [] (.seq (.write 0) (.assign 1 .fresh)))] = false ∧
    siteRowsOK [(0, 2, countW [] (.seq (.write 0) (.ifStar (.write 1) .skip)))] = true := by decide

end LinOp.C13
