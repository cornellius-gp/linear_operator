import LinOp.C12.Proofs
import LinOp.C12.ProofsWrap
import LinOp.C12.ProofsTable
import Mathlib.Data.Matrix.Block
import Mathlib.Data.Matrix.Mul
import Mathlib.Data.Matrix.Diagonal
import LinOp.Core.Spectral
import LinOp.Generated.C12Table
import LinOp.Generated.C12Settings
/-!
C12 — cached results are transparent: answers do not depend on query history.  Property theorems only.

`P : Profile`, `σ : Settings`, the size `n` and the matrix id `m` are arbitrary everywhere; histories are
arbitrary finite lists of (settings, query) pairs, so settings may change between any two queries.
-/
namespace LinOp.C12

/-! ### the memoize layer -/

/-- **Keys are injective in what they memoise.**  A non-`ignore_args` key determines name, positional and
keyword arguments (so `root_decomposition(method=…)` variants, positional vs keyword calls, and different
cache names never share an entry); a lower and an upper `_cholesky` call share a key only for classes whose
`_cholesky` ignores its arguments. -/
theorem key_injective (P : Profile) :
    (∀ c₁ c₂, rootKey c₁ = rootKey c₂ → c₁ = c₂) ∧
    (∀ c₁ c₂, rootInvKey c₁ = rootInvKey c₂ → c₁ = c₂) ∧
    (∀ c₁ c₂, diagzKey c₁ = diagzKey c₂ → c₁ = c₂) ∧
    (∀ c₁ c₂, rootKey c₁ ≠ rootInvKey c₂ ∧ rootKey c₁ ≠ diagzKey c₂ ∧ rootInvKey c₁ ≠ diagzKey c₂) ∧
    (∀ c u, cholKey P u ≠ rootKey c ∧ cholKey P u ≠ rootInvKey c ∧ cholKey P u ≠ diagzKey c ∧ cholKey P u ≠ svdKey
        ∧ cholKey P u ≠ denseKey) ∧
    (P.cholBare = false → ∀ u₁ u₂, cholKey P u₁ = cholKey P u₂ → u₁ = u₂) := by
  -- a full key determines the call: name, positional and keyword arguments
  have call {n : String} {c₁ c₂ : Call} (h : Key.full n c₁.args c₁.kwargs = Key.full n c₂.args c₂.kwargs) : c₁ = c₂ := by
    cases c₁; cases c₂; cases h; rfl
  refine ⟨fun _ _ => call, fun _ _ => call, fun _ _ => call, ?_, ?_, ?_⟩
  · intro c₁ c₂; simp [rootKey, rootInvKey, diagzKey]
  · intro c u; unfold cholKey; split <;> simp [rootKey, rootInvKey, diagzKey, svdKey, denseKey]
  · intro hb u₁ u₂ h; simpa [cholKey, hb] using h

/-- The finite-map laws the cache obeys (lookup after insert / pop). -/
theorem cache_map_laws (c : Cache) (k k' : Key) (v : Val) :
    (c.put k v).get k = some v ∧ (k' ≠ k → (c.put k v).get k' = c.get k') ∧
    (c.pop k).get k = none ∧ (k' ≠ k → (c.pop k).get k' = c.get k') :=
  ⟨Cache.get_put_same c k v, Cache.get_put_other c k k' v, Cache.get_pop_same c k, Cache.get_pop_other c k k'⟩

/-! ### cache invariant and transparency -/

/-- **cache_inv + answer validity, one step**: from any state whose cache satisfies the invariant, under any
settings and for any query, the invariant holds afterwards and the answer is an acceptable answer to the query
(right kind, right orientation, a factorization of THIS object's matrix, numbers computed from correct factors,
`eigh` in its full form). -/
theorem cache_inv (P : Profile) (σ : Settings) (n m : Nat) (q : Query) (s : St) (hs : Inv m s.cache) :
    Inv m (runQuery P σ n m q s).1.cache ∧ answerOk m q (runQuery P σ n m q s).2 :=
  runQuery_ok P σ n m q s hs

/-- State after a history of (settings, query) pairs on one object. -/
def runHist (P : Profile) (n m : Nat) (h : List (Settings × Query)) (s : St) : St :=
  h.foldl (fun s e => (runQuery P e.1 n m e.2 s).1) s

theorem runHist_inv (P : Profile) (n m : Nat) (h : List (Settings × Query)) (s : St) (hs : Inv m s.cache) :
    Inv m (runHist P n m h s).cache := by
  induction h generalizing s with
  | nil => exact hs
  | cons e t ih => exact ih _ (cache_inv P e.1 n m e.2 s hs).1

/-- **history_transparent** (refinement to the cache-free specification): after ANY finite history on a
freshly constructed object — any queries, any calling conventions, settings changing arbitrarily between
them — the answer to any query satisfies the same specification `answerOk` as the answer a fresh object gives. -/
theorem history_transparent (P : Profile) (n m : Nat) (h : List (Settings × Query)) (σ : Settings) (q : Query) :
    answerOk m q (runQuery P σ n m q (runHist P n m h ⟨[], 0, []⟩)).2 ∧
    answerOk m q (runQuery P σ n m q ⟨[], 0, []⟩).2 :=
  ⟨(cache_inv P σ n m q _ (runHist_inv P n m h _ (Inv.nil m))).2, (cache_inv P σ n m q _ (Inv.nil m)).2⟩

/-- **history_transparent, exact form**: for uniquely determined answers (dense matrix, Cholesky factor of the
requested orientation, svd, eigh, numbers) the answer after any history EQUALS the fresh object's answer — in
particular an upper factor is never returned for a lower request, and `eigh` never degrades to `(evals, None)`. -/
theorem history_transparent_exact (P : Profile) (n m : Nat) (h : List (Settings × Query)) (σ : Settings) (q : Query)
    (hq : q.unique = true) :
    (runQuery P σ n m q (runHist P n m h ⟨[], 0, []⟩)).2 = (runQuery P σ n m q ⟨[], 0, []⟩).2 :=
  -- from any valid state the answer to such a query is the one value `Post m q` names
  Post.eq_of_unique hq (runQuery_post P σ n m q _ (runHist_inv P n m h ⟨[], 0, []⟩ (Inv.nil m))).2
    (runQuery_post P σ n m q ⟨[], 0, []⟩ (Inv.nil m)).2

/-- **pop_then_recompute**: removing an entry and asking again recomputes a valid answer and re-inserts it. -/
theorem pop_then_recompute (m : Nat) (k : Key) (f : St → St × Val) (hf : Good m k f) (s : St) (hs : Inv m s.cache) :
    let s' : St := { s with cache := s.cache.pop k }
    Inv m (cachedCall k f s').1.cache ∧ validFor m k (cachedCall k f s').2 ∧
      (cachedCall k f s').2 = (f s').2 ∧ (cachedCall k f s').1.cache.get k = some (f s').2 := by
  intro s'
  have hs' : Inv m s'.cache := Inv.pop hs k
  have h := good_cached hf s' hs'
  have hmiss : s'.cache.get k = none := Cache.get_pop_same s.cache k
  have e : (cachedCall k f s').2 = (f s').2 := by simp [cachedCall, hmiss]
  refine ⟨h.1, h.2, e, ?_⟩
  rw [← e]; exact cached_get s'

/-! ### per-class cache overrides: a wrapper object and the caches of the sub-operators it holds

`WKind.batchRepeat` (BatchRepeatLinearOperator), `WKind.block` (BlockDiag), `WKind.blockInterleaved`, `WKind.constMul`
(ConstantMulLinearOperator, constant > 0), `WKind.kron` (n-ary KroneckerProduct), `WKind.addedDiag` / `WKind.addedDiagConst`
(AddedDiag with a general / constant diagonal part) over ANY number of sub-operators of ANY modelled single-object class
(`SubObj.P`).  Histories interleave queries on the wrapper with queries on the held sub-operators (`WQuery.sub`), under
settings that change arbitrarily. -/

/-- **cache_inv for the wrapper classes, one step**: every entry of the wrapper's cache AND of every sub-operator's cache stays
a valid answer for its key and object, and the answer is acceptable — for a wrapper query by the wrapper's cache-free
specification (the wrapper value is tagged valid only if every sub-answer it was assembled from was acceptable for the
sub-operator, with the orientation / method the hook asked for), for a query on a held sub-operator by that operator's. -/
theorem wrap_cache_inv (k : WKind) (σ : Settings) (n m : Nat) (q : WQuery) (w : WSt) (hw : WInv m w) :
    WInv m (wStep k σ n m q w).1 ∧ wAnswerOk m w q (wStep k σ n m q w).2 :=
  wRun_ok (hooksOk_kind k σ n m) σ n q w hw

/-- The same for ANY class whose hooks meet the `HooksOk` contract (each hook keeps all caches valid and returns a valid
factor of the wrapper's matrix): the base-class cache discipline is transparent over every such override set. -/
theorem wrap_cache_inv_generic (H : Hooks) (m : Nat) (hH : HooksOk H m) (σ : Settings) (n : Nat) (q : WQuery) (w : WSt)
    (hw : WInv m w) : WInv m (wRun H σ n m q w).1 ∧ wAnswerOk m w q (wRun H σ n m q w).2 :=
  wRun_ok hH σ n q w hw

/-- State after a history of (settings, wrapper-or-sub query) pairs. -/
def wRunHist (k : WKind) (n m : Nat) (h : List (Settings × WQuery)) (w : WSt) : WSt :=
  h.foldl (fun w e => (wStep k e.1 n m e.2 w).1) w

theorem wrap_runHist_inv (k : WKind) (n m : Nat) (h : List (Settings × WQuery)) (w : WSt) (hw : WInv m w) :
    WInv m (wRunHist k n m h w) := by
  induction h generalizing w with
  | nil => exact hw
  | cons e t ih => exact ih _ (wrap_cache_inv k e.1 n m e.2 w hw).1

/-- A freshly constructed wrapper over freshly constructed sub-operators. -/
def wFresh (subs : List SubObj) : WSt := ⟨⟨[], 0, []⟩, subs.map fun o => { o with st := ⟨[], 0, []⟩ }⟩

theorem wFresh_inv (m : Nat) (subs : List SubObj) : WInv m (wFresh subs) := by
  refine ⟨Inv.nil m, ?_⟩
  intro o ho
  simp only [wFresh, List.mem_map] at ho
  obtain ⟨o', _, rfl⟩ := ho
  exact Inv.nil _

/-- **history_transparent for the wrapper classes**: after ANY finite history of queries on the wrapper and on its
sub-operators (which share cache entries with it), the answer to any further query satisfies the same specification as on a
fresh wrapper over fresh sub-operators. -/
theorem wrap_history_transparent (k : WKind) (n m : Nat) (subs : List SubObj) (h : List (Settings × WQuery)) (σ : Settings)
    (q : WQuery) :
    wAnswerOk m (wRunHist k n m h (wFresh subs)) q (wStep k σ n m q (wRunHist k n m h (wFresh subs))).2 ∧
    wAnswerOk m (wFresh subs) q (wStep k σ n m q (wFresh subs)).2 :=
  ⟨(wrap_cache_inv k σ n m q _ (wrap_runHist_inv k n m h _ (wFresh_inv m subs))).2,
   (wrap_cache_inv k σ n m q _ (wFresh_inv m subs)).2⟩

/-- **exact form**: uniquely determined wrapper answers (dense matrix, Cholesky factor of the requested orientation — also
through the `_cholesky(upper)` hook —, svd, eigh, numbers) after any history EQUAL the fresh wrapper's. -/
theorem wrap_history_transparent_exact (k : WKind) (n m : Nat) (subs : List SubObj) (h : List (Settings × WQuery))
    (σ : Settings) (q : Query) (hq : q.unique = true) :
    (wStep k σ n m (.self q) (wRunHist k n m h (wFresh subs))).2 = (wStep k σ n m (.self q) (wFresh subs)).2 :=
  Post.eq_of_unique hq (wRunSelf_post (hooksOk_kind k σ n m) σ n q _ (wrap_runHist_inv k n m h _ (wFresh_inv m subs))).2
    (wRunSelf_post (hooksOk_kind k σ n m) σ n q _ (wFresh_inv m subs)).2

/-- Where the Lanczos side write lands (code as it is, /repo 055dd58): `BatchRepeat(Dense).root_inv_decomposition()` in the Lanczos regime
writes `root_decomposition||` into the BASE operator's cache, not into the wrapper's; since c4c33aa the same holds for ConstantMul (constant > 0):
its memoised override asks the base operator for `root_inv_decomposition(initial_vectors=None, test_vectors=None, method=None)` by keyword,
so the wrapper holds only its own `root_inv_decomposition||` entry and the base holds the side-written root and the keyword-keyed inverse root. -/
theorem wrap_side_write_location :
    let sub : SubObj := ⟨Profile.base, 4, 2, ⟨[], 0, []⟩⟩
    let σ : Settings := ⟨1, true, true, true⟩
    let r := (wStep .batchRepeat σ 4 1 (.self (.rootInv .noargs)) (wFresh [sub])).1
    let c := (wStep .constMul σ 4 1 (.self (.rootInv .noargs)) (wFresh [sub])).1
    r.self.cache.map (·.1) = [rootInvKey .noargs] ∧ r.subs.map (fun o => o.st.cache.map (·.1)) = [[rootKey .noargs]] ∧
    c.self.cache.map (·.1) = [rootInvKey .noargs] ∧
    c.subs.map (fun o => o.st.cache.map (·.1)) = [[rootKey .noargs, rootInvKey (kwRootInv .noargs)]] := by
  decide +kernel

/-- The OLD ConstantMul (before c4c33aa; `Hooks.constMulBefore_c4c33aa`, not what the driver runs): `root_inv_decomposition` was the base-class
method ON THE WRAPPER — the Lanczos side write landed in the wrapper's cache and the base operator was not asked at all, so the wrapper's root
(scaled root of the base, override) and inverse root (own decomposition of the scaled matrix) came from different factorizations. -/
theorem previous_constMul_side_write_location :
    let sub : SubObj := ⟨Profile.base, 4, 2, ⟨[], 0, []⟩⟩
    let σ : Settings := ⟨1, true, true, true⟩
    let c := (wRun (Hooks.constMulBefore_c4c33aa σ 1) σ 4 1 (.self (.rootInv .noargs)) (wFresh [sub])).1
    c.self.cache.map (·.1) = [rootKey .noargs, rootInvKey .noargs] ∧ c.subs.map (fun o => o.st.cache.map (·.1)) = [[]] := by
  decide +kernel

/-- After c4c33aa (code as it is, `decide`; tied by the key-set correspondence on `ConstantMul(Dense)`): root and inverse root of a ConstantMul operator
are BOTH assembled from the base operator's factors and carry their provenance — with a deterministic method they are an exact mutually inverse pair
(`paired`), which is the hypothesis `L P = 1` of `transplant_valid_lowrank` for `add_low_rank` / `cat_rows` on the scaled operator (what D34 and the C18
finding violated before the fix).  In the Lanczos regime the base operator still runs Lanczos twice (D30 stays open): not paired. -/
theorem constMul_roots_from_base :
    let sub : SubObj := ⟨Profile.base, 4, 2, ⟨[], 0, []⟩⟩
    let df : Settings := ⟨800, true, true, true⟩
    let sm : Settings := ⟨1, true, true, true⟩
    let sym : Call := ⟨[], [("method", .str "symeig")]⟩
    let a := wStep .constMul df 4 1 (.self (.root sym)) (wFresh [sub])
    let b := wStep .constMul df 4 1 (.self (.rootInv sym)) a.1
    let a' := wStep .constMul sm 4 1 (.self (.root .kwNone)) (wFresh [sub])
    let b' := wStep .constMul sm 4 1 (.self (.rootInv .kwNone)) a'.1
    paired a.2 b.2 = true ∧ valMat a.2 = 1 ∧ valMat b.2 = 1 ∧
    b.1.subs.map (fun o => o.st.cache.map (·.1)) = [[rootKey sym, rootInvKey (kwRootInv sym)]] ∧
    paired a'.2 b'.2 = false := by
  decide +kernel

/-! ### KroneckerProductLinearOperator (n-ary) in the wrapper state machine; settings at query time

`WKind.kron` is part of `WKind`, so `wrap_cache_inv`, `wrap_runHist_inv`, `wrap_history_transparent` and
`wrap_history_transparent_exact` above quantify over it as well (any number of factors of any modelled single-object class, any
sizes, any interleaving of wrapper / factor queries — including `WQuery.logdet`, which for Kronecker is NOT
`inv_quad_logdet(rhs, logdet=True)` —, settings changing arbitrarily between steps). -/

/-- **The Kronecker overrides meet the hook contract** (all sizes, any factor list, all settings): factor-wise `_cholesky(upper)` /
`_svd` / `_symeig`, base-class Lanczos hooks on the wrapper (side write into the wrapper's cache), the memoised
`root_decomposition` / `root_inv_decomposition` overrides — which either re-enter the memoised base method under a second key
(at or below `max_cholesky_size`) or assemble the answer from `lt.root_decomposition(method=method)` of every factor —,
`diagonalization` forced to `symeig`, `_logdet` through `diagonalization()`.  Each keeps the wrapper's and every factor's cache
valid and returns a valid factor of the wrapper's matrix (the structured root is tagged valid only if EVERY factor's answer was
acceptable for that factor). -/
theorem kron_hooks_ok (σ : Settings) (n m : Nat) : HooksOk (Hooks.kron σ n m) m := hooksOk_kron σ n m

/-- **One step on a Kronecker product** (corollary of the generic theorem, stated for the class): caches of the product and of all
factors stay valid, the answer is acceptable — also for `logdet()`. -/
theorem kron_cache_inv (σ : Settings) (n m : Nat) (q : WQuery) (w : WSt) (hw : WInv m w) :
    WInv m (wStep .kron σ n m q w).1 ∧ wAnswerOk m w q (wStep .kron σ n m q w).2 :=
  wrap_cache_inv .kron σ n m q w hw

/-- memoize `g` wrapper on the wrapper's cache: after the call the entry under `k` IS the returned value (hit or miss). -/
theorem wCached_get (k : Key) (f : WSt → WSt × Val) (w : WSt) :
    (wCached k f w).1.self.cache.get k = some (wCached k f w).2 :=
  wCached_stores k f w

/-- memoize: a second call under the same key is a hit that returns the stored entry and changes nothing — whatever the body `g` of the
second call would have computed. -/
theorem wCached_twice (k : Key) (f g : WSt → WSt × Val) (w : WSt) : wCached k g (wCached k f w).1 = wCached k f w :=
  wCached_hit (wCached_get k f w)

/-- **A memoised factorization is keyed by its arguments only — never by the settings in force** (C10_8-type question): for ANY two
hook sets / settings / sizes (the class overrides are functions of the settings: Kronecker branches on `max_cholesky_size`, the base
class chooses the method from it), a second `root_decomposition` / `root_inv_decomposition` / `diagonalization` call with the same
arguments on the same object returns exactly the entry the first call left, without touching any cache.  Together with
`wrap_cache_inv_generic` (that entry is a valid answer whatever the settings were when it was computed) this is why serving it under
different settings is sound. -/
theorem cached_served_across_settings (H₁ H₂ : Hooks) (σ₁ σ₂ : Settings) (n m : Nat) (c : Call) (w : WSt) :
    wRootDecomp H₂ σ₂ n m c (wRootDecomp H₁ σ₁ n m c w).1 = wRootDecomp H₁ σ₁ n m c w ∧
    wRootInvDecomp H₂ σ₂ n m c (wRootInvDecomp H₁ σ₁ n m c w).1 = wRootInvDecomp H₁ σ₁ n m c w ∧
    (H₁.diagzRebind c = H₂.diagzRebind c →
      wDiagonalization H₂ σ₂ n m c (wDiagonalization H₁ σ₁ n m c w).1 = wDiagonalization H₁ σ₁ n m c w) := by
  refine ⟨?_, ?_, ?_⟩
  · unfold wRootDecomp; exact wCached_twice _ _ _ _
  · unfold wRootInvDecomp; exact wCached_twice _ _ _ _
  · intro hc
    unfold wDiagonalization
    rw [← hc]
    exact wCached_twice _ _ _ _

/-- **Two keys per call, one entry** (`KroneckerProductLinearOperator.root_decomposition` at or below `max_cholesky_size`, any factor
list, any size, any calling convention `c`): the override is memoised under the key of the call as made AND re-enters the memoised
base method with `method=<bound method>` by keyword; after a miss BOTH keys hold the answer that was returned, so a later call in
either convention is served the same entry (no second, possibly different factorization of the same operator is computed). -/
theorem kron_two_keys_one_entry (σ : Settings) (n m : Nat) (c : Call) (w : WSt) (hn : n ≤ σ.mcs) :
    let r := wRootDecomp (Hooks.kron σ n m) σ n m c w
    r.1.self.cache.get (rootKey c) = some r.2 ∧
    (w.self.cache.get (rootKey c) = none → r.1.self.cache.get (rootKey (kwMethod c)) = some r.2) := by
  refine ⟨wCached_get _ _ _, fun hmiss => ?_⟩
  -- at or below `max_cholesky_size` the override's body is the memoised base call under the keyword key
  simp only [wRootDecomp, Hooks.kron, if_pos hn]
  exact wCached_nested _ _ _ w hmiss

/-- **The AddedDiagLinearOperator overrides meet the hook contract** (`_linear_op + _diag_tensor`; general and constant diagonal part,
all settings, any sub-operator profiles): memoised `to_dense` whose computation densifies BOTH parts (a Diag part memoises its own
`to_dense`), base-class `_cholesky` / Lanczos hooks on the sum, `_symeig` / `_svd` through `self.to_dense()` for a general diagonal and
delegated to the FIRST part (`self._linear_op._symeig`, `self._linear_op.svd()`) for a constant diagonal.  Hence every `wrap_*` theorem above
covers `WKind.addedDiag` / `WKind.addedDiagConst` (they are members of `WKind`).  The ad-hoc preconditioner attributes are not part of
`_memoize_cache` and are not modelled. -/
theorem addedDiag_hooks_ok (σ : Settings) (m : Nat) (constDiag : Bool) : HooksOk (Hooks.addedDiag σ m constDiag) m :=
  hooksOk_addedDiag σ m constDiag

/-- Code as it is (tied by the exact key-set correspondence on `AddedDiag(Dense, Diag)` / `AddedDiag(Dense, ConstantDiag)`): `svd()` on a fresh
operator densifies the sum and its Diag part for a general diagonal, and asks only the first part for its SVD for a constant diagonal. -/
theorem addedDiag_key_sets :
    let subs : List SubObj := [⟨Profile.base, 5, 2, ⟨[], 0, []⟩⟩, ⟨Profile.diag, 5, 3, ⟨[], 0, []⟩⟩]
    let df : Settings := ⟨800, true, true, true⟩
    let g := (wStep .addedDiag df 5 1 (.self .svd) (wFresh subs)).1
    let c := (wStep .addedDiagConst df 5 1 (.self .svd) (wFresh subs)).1
    g.self.cache.map (·.1) = [denseKey, svdKey] ∧ g.subs.map (fun o => o.st.cache.map (·.1)) = [[], [denseKey]] ∧
    c.self.cache.map (·.1) = [svdKey] ∧ c.subs.map (fun o => o.st.cache.map (·.1)) = [[svdKey], []] := by
  decide +kernel

/-- Code as it is (tied by the exact key-set correspondence on `KroneckerProductLinearOperator(Dense, Dense)`): `root_decomposition()`
on a fresh 2-factor product leaves TWO `root_decomposition` keys on the product at or below `max_cholesky_size` (the override's and the
re-entered base method's) plus the factor-wise Cholesky entries; above it one key on the product and `root_decomposition||method=None`
on every factor; `logdet()` leaves `diagonalization||method='symeig'` only. -/
theorem kron_key_sets :
    let subs : List SubObj := [⟨Profile.base, 2, 2, ⟨[], 0, []⟩⟩, ⟨Profile.base, 3, 3, ⟨[], 0, []⟩⟩]
    let df : Settings := ⟨800, true, true, true⟩
    let sm : Settings := ⟨1, true, true, true⟩
    let a := (wStep .kron df 6 1 (.self (.root .noargs)) (wFresh subs)).1
    let b := (wStep .kron sm 6 1 (.self (.root .noargs)) (wFresh subs)).1
    let l := (wStep .kron df 6 1 .logdet (wFresh subs)).1
    a.self.cache.map (·.1) = [.full "cholesky" [] [("upper", .bool false)], rootKey .kwNone, rootKey .noargs] ∧
    a.subs.map (fun o => o.st.cache.map (·.1)) = [[.full "cholesky" [] [("upper", .bool false)]], [.full "cholesky" [] [("upper", .bool false)]]] ∧
    b.self.cache.map (·.1) = [rootKey .noargs] ∧
    b.subs.map (fun o => o.st.cache.map (·.1)) = [[rootKey .kwNone], [rootKey .kwNone]] ∧
    l.self.cache.map (·.1) = [diagzKey ⟨[], [("method", .str "symeig")]⟩] := by
  decide +kernel

/-- **Every memoised method whose computation reads a global setting** (regenerated from /repo on every run by
`harness/extract/c12_settings.py`: `settings.<chain>` read directly in the body of a `@cached` function, or in a non-memoised
`self.<helper>()` it calls) is one of the reviewed, MODELLED ones: the Kronecker root overrides (`max_cholesky_size` -> `Hooks.kron`,
branch `n ≤ σ.mcs`), and the base-class `diagonalization` / `root_decomposition` / `root_inv_decomposition` (`_choose_root_method`:
`chooseRootMethod`; `max_root_decomposition_size`, the eigh dtype and the `verbose_linalg` logger change the numerical content /
logging only, never the kind or validity of the entry).  A new setting-dependent memoised computation must be modelled first. -/
theorem gen_setting_reads_reviewed :
    LinOp.Generated.C12.settingReads =
      [⟨"KroneckerProductLinearOperator", "root_decomposition", "root_decomposition", ["max_cholesky_size"], []⟩,
       ⟨"KroneckerProductLinearOperator", "root_inv_decomposition", "root_inv_decomposition", ["max_cholesky_size"], []⟩,
       ⟨"LinearOperator", "_svd", "svd", [], ["_symeig:_linalg_dtype_symeig", "_symeig:verbose_linalg.logger.debug"]⟩,
       ⟨"LinearOperator", "diagonalization", "diagonalization", ["max_cholesky_size"],
        ["_root_decomposition_size:max_root_decomposition_size", "_symeig:_linalg_dtype_symeig", "_symeig:verbose_linalg.logger.debug"]⟩,
       ⟨"LinearOperator", "root_decomposition", "root_decomposition", [],
        ["_choose_root_method:fast_computations.covar_root_decomposition", "_choose_root_method:max_cholesky_size",
         "_root_decomposition_size:max_root_decomposition_size", "_symeig:_linalg_dtype_symeig", "_symeig:verbose_linalg.logger.debug"]⟩,
       ⟨"LinearOperator", "root_inv_decomposition", "root_inv_decomposition", [],
        ["_choose_root_method:fast_computations.covar_root_decomposition", "_choose_root_method:max_cholesky_size",
         "_symeig:_linalg_dtype_symeig", "_symeig:verbose_linalg.logger.debug"]⟩] :=
  rfl

/-- Satisfiability: a history on a 3-factor Kronecker product that mixes the structured branch, a settings flip and a factor handle. -/
example :
    let subs : List SubObj := [⟨Profile.base, 2, 2, ⟨[], 0, []⟩⟩, ⟨Profile.base, 2, 3, ⟨[], 0, []⟩⟩, ⟨Profile.sum, 3, 4, ⟨[], 0, []⟩⟩]
    let h : List (Settings × WQuery) := [(⟨1, true, true, true⟩, .self (.rootInv .noargs)), (⟨800, true, true, true⟩, .sub 3 (.root .noargs)),
      (⟨800, true, true, true⟩, .logdet)]
    answerOk 1 (.root .noargs)
      (wStep .kron ⟨800, true, true, true⟩ 12 1 (.self (.root .noargs)) (wRunHist .kron 12 1 h (wFresh subs))).2 := by
  decide +kernel

/-! ### derived operators -/

/-- **derived_fresh**: derivations other than the two transplants start from an empty cache, which satisfies
the invariant for the new matrix whatever the parent's cache contained. -/
theorem derived_fresh (m' : Nat) : deriveFresh = [] ∧ Inv m' deriveFresh := ⟨rfl, Inv.nil m'⟩

/-- **Transplant by `cat_rows`** is valid for the new matrix whenever the parent's root and inverse root are an
exact mutually-inverse pair; the parent's own cache stays valid in every case. -/
theorem transplant_catRows (P : Profile) (σ : Settings) (n m m' : Nat) (s : St) (hs : Inv m s.cache) :
    Inv m (catRows P σ n m m' s).1.cache ∧
    (paired (rootDecomp P σ n m .noargs s).2 (rootInvDecomp P σ n m .noargs (rootDecomp P σ n m .noargs s).1).2 = true →
      Inv m' (catRows P σ n m m' s).2) := by
  have h1 := rootDecomp_ok P σ n m .noargs s hs
  have h2 := rootInvDecomp_ok P σ n m .noargs _ h1.1
  refine ⟨h2.1, fun hp => ?_⟩
  simp only [catRows, paired_valMat h1.2 hp, if_true]
  exact inv_pair ⟨rfl, rfl⟩ ⟨rfl, rfl, id⟩

/-- **Transplant by `add_low_rank`** (code after fix 98f87b2): valid for the new matrix whenever the parent's root and
inverse root are an exact mutually-inverse pair — whatever class the parent's root has; the parent's cache stays valid
in every case.  (Still conditional on pairing, which the code does not ensure: D30.) -/
theorem transplant_addLowRank (P : Profile) (σ : Settings) (n m m' : Nat) (s : St) (hs : Inv m s.cache) :
    Inv m (addLowRank P σ n m m' s).1.cache ∧
    (paired (rootDecomp P σ n m .kwNone s).2 (rootInvDecomp P σ n m .kwNone (rootDecomp P σ n m .kwNone s).1).2 = true →
      Inv m' (addLowRank P σ n m m' s).2) := by
  have h1 := rootDecomp_ok P σ n m .kwNone s hs
  have h2 := rootInvDecomp_ok P σ n m .kwNone _ h1.1
  refine ⟨h2.1, fun hp => ?_⟩
  simp only [addLowRank, paired_valMat h1.2 hp, if_true]
  exact inv_pair ⟨rfl, rfl, id⟩ ⟨rfl, rfl⟩

/-- D30, `_partial` form over the model: the transplant of `add_low_rank` / `cat_rows` is valid whenever root and inverse root
have the same exact provenance; with `max_cholesky_size` above `n` on a fresh base-class object that is the case (Cholesky /
Cholesky) — the full claim "valid for every history and settings" is FALSE (`transplant_lanczos_counterexample`,
`transplant_catRows_lanczos_counterexample`, `transplant_lowrank_unpaired_counterexample`). -/
theorem transplant_fresh_cholesky_regime_partial (σ : Settings) (n m m' : Nat) (hσ : n ≤ σ.mcs) :
    Inv m' (addLowRank Profile.base σ n m m' ⟨[], 0, []⟩).2 ∧ Inv m' (catRows Profile.base σ n m m' ⟨[], 0, []⟩).2 :=
  ⟨(transplant_addLowRank Profile.base σ n m m' ⟨[], 0, []⟩ (Inv.nil m)).2 (fresh_cholesky_paired σ n m hσ .kwNone rfl rfl),
   (transplant_catRows Profile.base σ n m m' ⟨[], 0, []⟩ (Inv.nil m)).2 (fresh_cholesky_paired σ n m hσ .noargs rfl rfl)⟩

/-- Under default settings (Cholesky roots) the pair is mutually inverse, so `add_low_rank` on a fresh object yields a
valid cache, and `logdet` / `inv_quad_logdet` on the new object is acceptable (the history of D31, correct since fix 98f87b2). -/
theorem addLowRank_default_then_logdet_ok :
    Inv 2 (addLowRank Profile.base ⟨800, true, true, true⟩ 6 1 2 ⟨[], 0, []⟩).2 ∧
    answerOk 2 .iql (runQuery Profile.base ⟨800, true, true, true⟩ 6 2 .iql
        ⟨(addLowRank Profile.base ⟨800, true, true, true⟩ 6 1 2 ⟨[], 0, []⟩).2, 0, []⟩).2 :=
  have h := (transplant_fresh_cholesky_regime_partial ⟨800, true, true, true⟩ 6 1 2 (by decide)).1
  ⟨h, (cache_inv Profile.base ⟨800, true, true, true⟩ 6 2 .iql ⟨_, 0, []⟩ h).2⟩

/-- D30 (as the code is): a fresh 6×6 object with `max_cholesky_size = 1` (Lanczos regime); `add_low_rank`
obtains root and inverse root from two different Lanczos runs, and the entry it writes into the new object's
cache is not a factorization of the new matrix. -/
theorem transplant_lanczos_counterexample :
    ∃ k v, (addLowRank Profile.base ⟨1, true, true, true⟩ 6 1 2 ⟨[], 0, []⟩).2.get k = some v ∧ ¬ validFor 2 k v :=
  ⟨rootKey .noargs, Val.root .transplant false false 0, by decide +kernel, by decide +kernel⟩

/-- The same for `cat_rows`. -/
theorem transplant_catRows_lanczos_counterexample :
    ∃ k v, (catRows Profile.base ⟨1, true, true, true⟩ 6 1 2 ⟨[], 0, []⟩).2.get k = some v ∧ ¬ validFor 2 k v :=
  ⟨rootKey .noargs, Val.root .transplant false false 0, by decide +kernel, by decide +kernel⟩

/-- D31 (OLD formula, fixed in 98f87b2 — a statement about `addLowRankOldWrapping`, not about the current code): with
default settings (Cholesky roots, exact and mutually inverse) the old code stored the dense updated root flagged as
triangular, which is not a valid `root_decomposition` entry … -/
theorem oldWrapping_triangular_counterexample :
    ∃ k v, (addLowRankOldWrapping Profile.base ⟨800, true, true, true⟩ 6 1 2 ⟨[], 0, []⟩).2.get k = some v ∧ ¬ validFor 2 k v :=
  ⟨rootKey .noargs, Val.root .transplant true false 2, by decide +kernel, by decide +kernel⟩

/-- … and `logdet` / `inv_quad_logdet` on the new object then used it as a Cholesky factor: a re-introduction of the
wrapping makes this query unacceptable again (contrast `addLowRank_default_then_logdet_ok`). -/
theorem oldWrapping_breaks_logdet :
    ¬ answerOk 2 .iql (runQuery Profile.base ⟨800, true, true, true⟩ 6 2 .iql
        ⟨(addLowRankOldWrapping Profile.base ⟨800, true, true, true⟩ 6 1 2 ⟨[], 0, []⟩).2, 0, []⟩).2 := by
  decide +kernel

/-! ### the algebra of the transplants (Mathlib matrices over any commutative ring) -/

open Matrix in
/-- Without the pairing hypothesis the update yields `L Lᵀ + (L P) B Bᵀ (L P)ᵀ` — whatever `L P` is. -/
theorem transplant_lowrank_general {R : Type} [CommRing R] {n r : Type} [Fintype n] [DecidableEq n] [Fintype r]
    (L Pm U : Matrix n n R) (B : Matrix n r R) (sig d : n → R) (hU : U * Uᵀ = 1)
    (hS : U * diagonal (fun i => sig i * sig i) * Uᵀ = (Pm * B) * (Pm * B)ᵀ)
    (hd : ∀ i, d i * d i = sig i * sig i + 1) :
    (L * U * diagonal d) * (L * U * diagonal d)ᵀ = L * Lᵀ + (L * Pm) * B * Bᵀ * (L * Pm)ᵀ := by
  -- `p = P B`, `U diag(σ²) Uᵀ = p pᵀ` is the (padded) SVD of `p`, and `d² = σ² + 1`
  calc (L * U * diagonal d) * (L * U * diagonal d)ᵀ
      = L * (U * diagonal (fun i => sig i * sig i + 1) * Uᵀ) * Lᵀ := by
        rw [Matrix.mul_assoc L U, gram_mul L, scaled_gram, funext hd]
    _ = L * ((Pm * B) * (Pm * B)ᵀ + 1) * Lᵀ := by
        rw [conj_add_const U (fun i => sig i * sig i) 1, hS, hU, one_smul]
    _ = _ := by
        rw [Matrix.mul_add, Matrix.add_mul, Matrix.mul_one, add_comm, ← gram_mul L, ← Matrix.mul_assoc L,
          gram_mul (L * Pm) B, ← Matrix.mul_assoc (L * Pm)]

open Matrix in
/-- … which differs from `A + B Bᵀ` already for 2×2 integer matrices with exact but unpaired roots:
`A = I`, `L = I`, `P` a quarter turn, `B = e₁`: the update produces `I + e₂e₂ᵀ`, not `I + e₁e₁ᵀ`. -/
theorem transplant_lowrank_unpaired_counterexample :
    ∃ (L Pm : Matrix (Fin 2) (Fin 2) ℤ) (B : Matrix (Fin 2) (Fin 1) ℤ),
      L * Lᵀ = 1 ∧ Pmᵀ * Pm = 1 ∧ L * Lᵀ + (L * Pm) * B * Bᵀ * (L * Pm)ᵀ ≠ 1 + B * Bᵀ :=
  ⟨1, Matrix.of ![![0, 1], ![-1, 0]], Matrix.of ![![1], ![0]], by decide +kernel, by decide +kernel, by decide +kernel⟩

open Matrix in
/-- `(L U S̃)(L U S̃)ᵀ = A + B Bᵀ` under the explicit hypothesis that the cached pair is exact (`L Lᵀ = A`) and
mutually inverse (`L P = 1`). -/
theorem transplant_valid_lowrank {R : Type} [CommRing R] {n r : Type} [Fintype n] [DecidableEq n] [Fintype r]
    (A L Pm U : Matrix n n R) (B : Matrix n r R) (sig d : n → R)
    (hA : L * Lᵀ = A) (hLP : L * Pm = 1) (hU : U * Uᵀ = 1)
    (hS : U * diagonal (fun i => sig i * sig i) * Uᵀ = (Pm * B) * (Pm * B)ᵀ)
    (hd : ∀ i, d i * d i = sig i * sig i + 1) :
    (L * U * diagonal d) * (L * U * diagonal d)ᵀ = A + B * Bᵀ := by
  rw [transplant_lowrank_general L Pm U B sig d hU hS hd, hA, hLP, Matrix.one_mul, transpose_one, Matrix.mul_one]

open Matrix in
/-- The transplanted inverse root is the transposed inverse of the transplanted root. -/
theorem transplant_valid_lowrank_inv {R : Type} [CommRing R] {n : Type} [Fintype n] [DecidableEq n]
    (L Pm U : Matrix n n R) (d e : n → R) (hPL : Pm * L = 1) (hU : Uᵀ * U = 1) (hde : ∀ i, e i * d i = 1) :
    (Pmᵀ * U * diagonal e)ᵀ * (L * U * diagonal d) = 1 := by
  have h2 : diagonal e * diagonal d = (1 : Matrix n n R) := by
    rw [diagonal_mul_diagonal, funext hde, diagonal_one]
  calc (Pmᵀ * U * diagonal e)ᵀ * (L * U * diagonal d)
      = diagonal e * (Uᵀ * ((Pm * L) * (U * diagonal d))) := by
        simp only [transpose_mul, transpose_transpose, diagonal_transpose, Matrix.mul_assoc]
    _ = 1 := by
        rw [hPL, Matrix.one_mul, ← Matrix.mul_assoc Uᵀ, hU, Matrix.one_mul, h2]

open Matrix in
/-- Block-root identity of `cat_rows`: `[E 0; F G][E 0; F G]ᵀ = [[A, Bᵀ], [B, D]]`. -/
theorem transplant_valid_catrows {R : Type} [CommRing R] {n o : Type} [Fintype n] [DecidableEq n] [Fintype o] [DecidableEq o]
    (A E Rinv : Matrix n n R) (B : Matrix o n R) (D G : Matrix o o R)
    (hE : E * Eᵀ = A) (hER : E * Rinvᵀ = 1) (hG : G * Gᵀ = D - (B * Rinv) * (B * Rinv)ᵀ) :
    fromBlocks E 0 (B * Rinv) G * (fromBlocks E 0 (B * Rinv) G)ᵀ = fromBlocks A Bᵀ B D := by
  -- with `F = B R` (`R` the inverse root, `E Rᵀ = 1`): `E Fᵀ = Bᵀ`, `F Eᵀ = B`, and `G Gᵀ = D − F Fᵀ` is the Schur complement
  have h1 : E * (B * Rinv)ᵀ = Bᵀ := by
    rw [transpose_mul, ← Matrix.mul_assoc, hER, Matrix.one_mul]
  have h2 : (B * Rinv) * Eᵀ = B := by
    rw [← transpose_transpose (B * Rinv * Eᵀ), transpose_mul, transpose_transpose, h1, transpose_transpose]
  rw [fromBlocks_transpose, fromBlocks_multiply]
  simp only [transpose_zero, Matrix.mul_zero, Matrix.zero_mul, add_zero, hE, h1, h2, hG, add_sub_cancel]

/-! ### the other derivations: when would carrying a factorization over be valid? -/

open Matrix in
/-- **mul by a constant** `c = s²`: the root scaled by `s` is a root of `c·A` (what `ConstantMul.root_decomposition` — model
`Hooks.constMul`, `rootOv` —, `Chol._mul_constant`, `Triangular._mul_constant` build); nothing else is carried over. -/
theorem derive_scale_valid {R : Type} [CommRing R] {n k : Type} [Fintype n] [Fintype k] [DecidableEq n]
    (A : Matrix n n R) (L : Matrix n k R) (s c : R) (hA : L * Lᵀ = A) (hs : s * s = c) : (s • L) * (s • L)ᵀ = c • A := by
  rw [smul_gram, hs, hA]

open Matrix in
/-- **transpose**: a root of `A` is a root of `Aᵀ`. -/
theorem derive_transpose_valid {R : Type} [CommRing R] {n k : Type} [Fintype n] [Fintype k] [DecidableEq n]
    (A : Matrix n n R) (L : Matrix n k R) (hA : L * Lᵀ = A) : L * Lᵀ = Aᵀ := by
  rw [← hA, transpose_mul, transpose_transpose]

open Matrix in
/-- **`__getitem__`** of a principal submatrix: the ROW-selected root `L[I, :]` is a root of `A[I, I]`. -/
theorem derive_getitem_valid {R : Type} [CommRing R] {n k r : Type} [Fintype n] [Fintype k] [Fintype r] [DecidableEq n]
    (L : Matrix n k R) (f : r → n) : (L.submatrix f id) * (L.submatrix f id)ᵀ = (L * Lᵀ).submatrix f f :=
  rfl  -- entry `(i, j)` of either side is `∑ k, L (f i) k * L (f j) k`

open Matrix in
/-- **`add_jitter` / `add_diagonal`**: the parent's root is a root of `A + diag(d)` if AND ONLY IF `d = 0`: the derived operator
must start from an empty cache (`derived_fresh`; `expand` / `unsqueeze` act entrywise on batches of such identities). -/
theorem derive_add_diagonal_valid_iff {R : Type} [CommRing R] {n k : Type} [Fintype n] [Fintype k] [DecidableEq n]
    (A : Matrix n n R) (L : Matrix n k R) (d : n → R) (hA : L * Lᵀ = A) : L * Lᵀ = A + diagonal d ↔ d = 0 := by
  rw [hA, left_eq_add, ← diagonal_zero, diagonal_eq_diagonal_iff]
  exact funext_iff.symm

/-! ### obligations over the table regenerated from /repo on every run -/
open LinOp.Generated.C12

/-- `ignore_args=True` is used only on `_cholesky` of the diagonal classes (whose factor is its own transpose). -/
theorem gen_ignoreArgs_reviewed :
    (decos.filter (·.ignoreArgs)).map (fun d => (d.cls, d.fn, d.name)) =
      [("DiagLinearOperator", "_cholesky", "cholesky"), ("IdentityLinearOperator", "_cholesky", "cholesky")] :=
  rfl

/-- A cache name belongs to exactly one function name (no two different computations share a name). -/
theorem gen_name_determines_function :
    decos.all (fun d₁ => decos.all fun d₂ => d₁.name != d₂.name || d₁.fn == d₂.fn) = true :=
  decos_listed.name_determines_function

/-- Every `_cholesky` memoises on `upper` (or ignores its arguments: `gen_ignoreArgs_reviewed`), and the only caller of
`_cholesky` is `cholesky()`, which always asks for the lower factor and transposes outside the cache. -/
theorem gen_cholesky_key_discipline :
    (decos.filter (·.name == "cholesky")).all (fun d => d.fn == "_cholesky" && d.params == ["upper"]) = true ∧
    cholCalls.map (fun c => (c.fn, c.recv, c.args)) = [("cholesky", "self", "upper=False")] := by
  decide +kernel

/-- Method-taking factorizations keep `method` in the key. -/
theorem gen_method_in_key :
    (decos.filter (fun d => d.name == "root_decomposition" || d.name == "root_inv_decomposition" || d.name == "diagonalization")).all
      (fun d => !d.ignoreArgs && d.params.contains "method") = true := by
  decide +kernel

/-- The direct writers of the cache are exactly the reviewed ones (side write of `_root_inv_decomposition`, the two
transplants), all under argument-free keys. -/
theorem gen_writers_reviewed :
    (sites.filter (·.api == "add_to_cache")).map (fun s => (s.fn, s.name, s.target, s.nextra, s.kwargs)) =
      [("_root_inv_decomposition", "root_decomposition", "self", 0, []),
       ("_root_inv_decomposition", "root_decomposition", "self", 0, []),
       ("add_low_rank", "root_decomposition", "new_linear_op", 0, []),
       ("add_low_rank", "root_inv_decomposition", "new_linear_op", 0, []),
       ("cat_rows", "root_inv_decomposition", "new_linear_op", 0, []),
       ("cat_rows", "root_decomposition", "new_linear_op", 0, [])] := by
  -- `rfl` would do, but the elaborator is slow at `==` on strings; `simp`'s string simprocs evaluate it natively
  simp only [sites, List.filter_cons, List.filter_nil, String.reduceBEq, Bool.false_eq_true, ↓reduceIte, List.map_cons,
    List.map_nil]

/-- Every name that is probed / popped is either written by a function decorated with that name, or is one of
the two dead probes (`symeig`, `lanczos`) that NOTHING writes — so `eigh` can never return its `(evals, None)` form
and `_choose_root_method` never answers from those probes. -/
theorem gen_reads_are_written_or_dead :
    (sites.filter (fun s => s.api != "add_to_cache")).all
      (fun s => decos.any (fun d => d.name == s.name) || s.name == "symeig" || s.name == "lanczos") = true ∧
    decos.all (fun d => d.name != "symeig" && d.name != "lanczos") = true ∧
    sites.all (fun s => s.api != "add_to_cache" || (s.name != "symeig" && s.name != "lanczos")) = true := by
  decide +kernel

/-- The reviewed list of read sites (function, API, name). A new probe of the cache must be modelled first. -/
theorem gen_readers_reviewed :
    (sites.filter (fun s => s.api != "add_to_cache")).map (fun s => (s.fn, s.api, s.name)) =
      [("_choose_root_method", "_is_in_cache_ignore_all_args", "symeig"),
       ("_choose_root_method", "_is_in_cache_ignore_all_args", "diagonalization"),
       ("_choose_root_method", "_is_in_cache_ignore_all_args", "lanczos"),
       ("add_low_rank", "_is_in_cache_ignore_args", "root_decomposition"),
       ("add_low_rank", "_is_in_cache_ignore_args", "root_inv_decomposition"),
       ("cat_rows", "_is_in_cache_ignore_args", "root_decomposition"),
       ("cat_rows", "_is_in_cache_ignore_args", "root_inv_decomposition"),
       ("eigh", "pop_from_cache", "symeig"),
       ("eigvalsh", "pop_from_cache", "symeig"),
       ("inv_quad_logdet", "_is_in_cache_ignore_all_args", "root_decomposition")] := by
  simp only [sites, List.filter_cons, List.filter_nil, String.reduceBNe, Bool.false_eq_true, ↓reduceIte, List.map_cons,
    List.map_nil]

/-- The cache names in use are exactly the ones the implementation-side audit knows how to validate. -/
theorem gen_cache_names_known :
    decos.all (fun d => ["cholesky", "root_decomposition", "root_inv_decomposition", "diagonalization", "svd", "size",
      "kernel_diag", "covar_mat", "chol_cap_mat", "fn:to_dense", "fn:_diagonal", "fn:inverse"].contains d.name) = true :=
  decos_listed.names_known

/-- **Every cache WRITE site keys on every argument its value depends on.**

Dependence analysis (done by the translator on the current source, stated here):
* a decorated function `f(self, p₁ … pₖ)` is called by the memoize wrapper `g(self, *args, **kwargs)` with exactly the
  `args` / `kwargs` that form the key (`gen_memoize_key_shape`), so with `ignore_args = False` every parameter is in the key,
  positionally by value and by keyword by NAME AND VALUE; with `ignore_args = True` nothing is — then no parameter may occur in
  the body at all (`uses` = parameters occurring anywhere in the body; a parameter that does not occur cannot influence the value);
* a direct `add_to_cache(target, name, value, *key_args, **key_kwargs)`: `deps` = parameters of the enclosing function in the
  backward slice of `value` (names in the expression, closed under every local assignment / loop / with target of the function and
  under the tests of the `if` / `while` / `for` statements enclosing the call — a flow-insensitive over-approximation), `keyed` =
  parameters occurring in the key arguments.  If the target is an object CONSTRUCTED in that function (`targetFresh`: `add_low_rank`,
  `cat_rows`) the parameters are part of what the new object denotes and need not be keyed; a write into `self` must have
  `deps ⊆ keyed`, with ONE reviewed exception: the Lanczos side write of `_root_inv_decomposition` stores, under the argument-free key,
  a root computed from `initial_vectors` — its VALUE depends on the start vectors, its VALIDITY (being a root of this matrix) does not
  (modelled as `Prov.lanczos run`; the harness query `rootinv_iv` exercises it). -/
theorem gen_write_keys_cover_dependences :
    decos.all (fun d => !d.ignoreArgs || d.uses.isEmpty) = true ∧
    decos.all (fun d => d.uses.all d.params.contains) = true ∧
    (sites.filter (fun s => s.api == "add_to_cache" && !s.targetFresh)).all
      (fun s => s.target == "self" &&
        (s.deps.all s.keyed.contains || (s.fn, s.name, s.deps) == ("_root_inv_decomposition", "root_decomposition", ["initial_vectors"]))) = true ∧
    (sites.filter (fun s => s.api == "add_to_cache" && s.targetFresh)).all
      (fun s => s.target != "self" && (s.fn == "add_low_rank" || s.fn == "cat_rows")) = true ∧
    (sites.filter (fun s => s.api != "add_to_cache")).all (fun s => s.deps.isEmpty && s.keyed.isEmpty) = true := by
  decide +kernel

/-- **The key really is `(name, args, pickle(kwargs))`** (args by value, kwargs by name and value) at every store / load / membership /
pop of `utils/memoize.py`, `kwargs_pkl` is always `pickle.dumps(kwargs)` of the full dict, and the wrappers pass the method exactly the
arguments they key on.  (The Lean `Key.full name args kwargs` / `Key.bare name` mirrors this table.) -/
theorem gen_memoize_key_shape :
    memoKeys.map (fun k => (k.fn, k.role, k.expr)) =
      [("add_to_cache", "call:_add_to_cache", "obj,name,val,*args,kwargs_pkl=pickle.dumps(kwargs)"),
       ("add_to_cache", "kwargs_pkl", "pickle.dumps(kwargs)"),
       ("get_from_cache", "call:_get_from_cache", "obj,name,*args,kwargs_pkl=pickle.dumps(kwargs)"),
       ("get_from_cache", "kwargs_pkl", "pickle.dumps(kwargs)"),
       ("pop_from_cache", "pop", "(name, args, pickle.dumps(kwargs))"),
       ("pop_from_cache_ignore_args", "pop", "name"),
       ("_cached.g", "signature", "self,*args,**kwargs"),
       ("_cached.g", "kwargs_pkl", "pickle.dumps(kwargs)"),
       ("_cached.g", "call:_is_in_cache", "self,cache_name,*args,kwargs_pkl=kwargs_pkl"),
       ("_cached.g", "call:_add_to_cache", "self,cache_name,method(self, *args, **kwargs),*args,kwargs_pkl=kwargs_pkl"),
       ("_cached.g", "call:_get_from_cache", "self,cache_name,*args,kwargs_pkl=kwargs_pkl"),
       ("_cached_ignore_args.g", "signature", "self,*args,**kwargs"),
       ("_cached_ignore_args.g", "call:_is_in_cache_ignore_args", "self,cache_name"),
       ("_cached_ignore_args.g", "call:_add_to_cache_ignore_args", "self,cache_name,method(self, *args, **kwargs)"),
       ("_cached_ignore_args.g", "call:_get_from_cache_ignore_args", "self,cache_name"),
       ("_add_to_cache", "store", "(name, args, kwargs_pkl)"),
       ("_get_from_cache", "load", "(name, args, kwargs_pkl)"),
       ("_is_in_cache", "in", "(name, args, kwargs_pkl)"),
       ("_add_to_cache_ignore_args", "store", "name"),
       ("_get_from_cache_ignore_args", "load", "name"),
       ("_is_in_cache_ignore_args", "in", "name"),
       ("_is_in_cache_ignore_all_args", "in-derived", "name in [x[0] for x in obj._memoize_cache.keys()]")] :=
  rfl

/-! ### non-vacuity -/

/-- The hypotheses of the transplant theorems are satisfiable: default settings give a paired (Cholesky) couple;
`cat_rows` then produces a valid cache. -/
example : Inv 2 (catRows Profile.base ⟨800, true, true, true⟩ 6 1 2 ⟨[], 0, []⟩).2 :=
  (transplant_fresh_cholesky_regime_partial ⟨800, true, true, true⟩ 6 1 2 (by decide)).2

/-- A history in which the side write matters: inverse root by Lanczos, then the default root is served from the
cache entry written by that same run (paired), and `cat_rows` is valid. -/
example : paired
    (rootDecomp Profile.base ⟨1, true, true, true⟩ 6 1 .noargs (rootInvDecomp Profile.base ⟨1, true, true, true⟩ 6 1 .noargs ⟨[], 0, []⟩).1).2
    (rootInvDecomp Profile.base ⟨1, true, true, true⟩ 6 1 .noargs ⟨[], 0, []⟩).2 = true := by decide +kernel

end LinOp.C12
