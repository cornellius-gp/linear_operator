import LinOp.C15.ProofsSem
import LinOp.C15.ProofsBind
import LinOp.C15.Gen
import LinOp.C15.BindNames
import LinOp.C15.BindVar
import LinOp.C15.ProofsRect
import LinOp.C15.Pinned
import LinOp.C15.ProofsTables
/-!
C15 — torch.* dispatch on operators matches the methods, in either argument order.
Property theorems only.

`T : Tables` (registered-function tables, class table, signatures) is arbitrary in the routing theorems,
so they hold for every table the extractor can generate; the `table_*` obligations and the `*_generated`
theorems are about `genTables`, regenerated from /repo's source on every run and re-checked by the kernel.
Operands of the two-operand functions denote square matrices over an arbitrary commutative ring.
-/
namespace LinOp.C15
open LinOp.Generated.C15

/-! ### Routing (any tables) -/

/-- **Operator first**: `torch.f(op, x₁, …, **kw)` with plain tensors/numbers as the other arguments calls
`getattr(type(op), _HANDLED_FUNCTIONS[f])(op, x₁, …, **kw)` — the definition found by method resolution on the
*subclass*, arguments in the original order, keyword arguments unchanged. -/
theorem first_arg_dispatch {κ : Type} (T : Tables) (c f m d : String) (rest : List Arg) (kw : κ)
    (hrest : ∀ a ∈ rest, a.plain = true)
    (hf : T.first.lookup f = some m) (hr : resolve T.classes c m = some d) :
    dispatch T f (.op c :: rest) kw = .call d m (.op c :: rest) false kw :=
  dispatch_op_first rest kw hrest hf hr

/-- **Operator second**: `torch.f(x, op, y…, **kw)` calls the *second-argument* handler with the first two
arguments swapped: `getattr(type(op), _HANDLED_SECOND_ARG_FUNCTIONS[f])(op, x, y…, **kw)`. -/
theorem second_arg_dispatch {κ : Type} (T : Tables) (c f m d : String) (a0 : Arg) (rest : List Arg) (kw : κ)
    (h0 : a0.plain = true) (hrest : ∀ a ∈ rest, a.plain = true)
    (hf : T.second.lookup f = some m) (hr : resolve T.classes c m = some d) :
    dispatch T f (a0 :: .op c :: rest) kw = .call d m (.op c :: a0 :: rest) true kw :=
  dispatch_op_second a0 rest kw h0 hrest hf hr

/-- **Two operators, left one decides** unless the right operand's class is a strict subclass. -/
theorem op_op_dispatch_left {κ : Type} (T : Tables) (a b f m d : String) (kw : κ)
    (h : a = b ∨ isSubclass T.classes b a = false)
    (hf : T.first.lookup f = some m) (hr : resolve T.classes a m = some d) :
    dispatch T f [.op a, .op b] kw = .call d m [.op a, .op b] false kw :=
  dispatch_op_op_left kw h hf hr

/-- **Two operators, right one of a strict subclass**: torch tries the subclass first, `args[0]` is not an
instance of it, so the reflected handler runs with swapped operands. -/
theorem op_op_dispatch_subclass {κ : Type} (T : Tables) (a b f m d : String) (kw : κ)
    (hne : a ≠ b) (hsub : isSubclass T.classes b a = true) (hnot : isSubclass T.classes a b = false)
    (hf : T.second.lookup f = some m) (hr : resolve T.classes b m = some d) :
    dispatch T f [.op a, .op b] kw = .call d m [.op b, .op a] true kw :=
  dispatch_op_op_sub kw hne hsub hnot hf hr

/-- **Unregistered functions raise `NotImplementedError`** whatever the arguments are (any number, any
position of the operator(s), Tensor subclasses or foreign objects present or not) — never a silent
densification and never another handler. -/
theorem unregistered_raises {κ : Type} (T : Tables) (f : String) (args : List Arg) (kw : κ) (c : String)
    (hc : Arg.op c ∈ args) (h1 : T.first.lookup f = none) (h2 : T.second.lookup f = none) :
    dispatch T f args kw = .notImplementedError :=
  dispatch_unregistered T f args kw c hc h1 h2

/-- …also when the operator sits **inside a list / tuple argument** (`torch.cat([op, T])`, `torch.stack((T, op), 0)`) or is
passed by keyword: torch finds it (`kwops`), `__torch_function__` sees top-level arguments `args` none of which need be an
operator, and still raises `NotImplementedError` for every function in neither table. -/
theorem unregistered_raises_nested {κ : Type} (T : Tables) (f : String) (args kwops : List Arg) (kw : κ) (c : String)
    (hc : Arg.op c ∈ args ++ kwops) (hne : args ≠ []) (h1 : T.first.lookup f = none) (h2 : T.second.lookup f = none) :
    dispatchK T f args kwops kw = .notImplementedError :=
  dispatchK_unregistered T f args kwops kw c hc hne h1 h2

/-- The `types` guard: an argument of a class that is neither a Tensor nor a LinearOperator (but takes part in
the torch-function protocol) makes every call raise `NotImplementedError`, registered or not. -/
theorem foreign_type_raises {κ : Type} (T : Tables) (f : String) (args : List Arg) (kw : κ) (c : String)
    (hc : Arg.op c ∈ args) (hf : Arg.foreign ∈ args) :
    dispatch T f args kw = .notImplementedError :=
  dispatch_foreign T f args kw c hc hf

/-- **Keyword arguments are preserved** by dispatch, on either path and for any arguments. -/
theorem kwargs_preserved {κ : Type} (T : Tables) (f : String) (args : List Arg) (kw : κ)
    (d m : String) (args' : List Arg) (sw : Bool) (kw' : κ)
    (h : dispatch T f args kw = .call d m args' sw kw') : kw' = kw := by
  simp only [dispatch] at h
  split at h
  · exact handlers_kw h
  · cases h

/-- `getattr` semantics of `resolve`: the defining class lies on the MRO of the subclass and defines the name. -/
theorem resolve_sound (t : ClassTable) (c m d : String) (h : resolve t c m = some d) :
    ∃ l, mro t c = some l ∧ d ∈ l ∧ (definesOf t d).contains m = true :=
  resolve_spec t c m d h

/-! ### Meaning of the base-class handlers (any commutative ring, any size) -/

section Meaning
variable {α : Type} [CommRing α] {n : Nat}

/-- Reflected handlers: called as `m(op, T)` they compute `f(T, op)` — `T + A`, `T − A` (sign!), `T ⊙ A`,
`T · A` (order!) — for every handler/function pair accepted by `reflectedOK`. -/
theorem reflected_handler_meaning (acc : Bool) (b : BinFn) (m : Meth) (h : reflectedOK b m = true) (X A : Mat α n n) :
    methSem acc m A X none = spec b X A none := methSem_reflected acc h X A

/-- Direct handlers: `m(op, X)` computes `f(op, X)`; `add`/`sub` also with `alpha`. -/
theorem direct_handler_meaning (acc : Bool) (b : BinFn) (m : Meth) (h : directOK b m = true) (A X : Mat α n n) :
    methSem acc m A X none = spec b A X none := methSem_direct acc h A X

theorem direct_handler_meaning_alpha (b : BinFn) (m : Meth) (h : directAlphaOK true b m = true) (A X : Mat α n n) (a : α) :
    methSem true m A X (some a) = spec b A X (some a) := methSem_direct_alpha true h A X a

/-- What `rmatmul` does, `(Aᵀ Xᵀ)ᵀ`, is `X A` (for every size). -/
theorem rmatmul_is_left_multiplication (A X : Mat α n n) :
    methSem false .rmatmul A X none = .ok (Mat.mul X A) := by
  simp only [methSem, rmatmul_eq]

/-- The wrong handlers are rejected by `reflectedOK` for a reason: `sub`/`matmul` called with swapped
operands compute `A − T` / `A · T`, which differ from `T − A` / `T · A`. -/
theorem wrong_reflected_handler_counterexample :
    (∃ (X A : Mat Int 1 1), methSem (α := Int) false .sub A X none ≠ spec .sub X A none) ∧
    (∃ (X A : Mat Int 2 2), methSem (α := Int) false .matmul A X none ≠ spec .matmul X A none) :=
  -- `1 − 0` against `0 − 1`; the two off-diagonal units, whose products differ in the corner
  ⟨⟨fun _ _ => 1, fun _ _ => 0, ok_ne_of_entry 0 0 (by decide)⟩,
    ⟨fun i j => if i = 0 ∧ j = 1 then 1 else 0, fun i j => if i = 1 ∧ j = 0 then 1 else 0,
      ok_ne_of_entry 0 0 (by decide)⟩⟩

/-- **D20 (fixed in /repo by 1322025).** `add` registered as its own second-argument handler (what
`_implements_symmetric(torch.add)` did) receives `alpha` after the operand swap: `torch.add(T, op, alpha=a)` would
evaluate `op + a·T`, not `T + a·op` — the reason `reflectedAlphaExact` does not accept the pair (add, `add`). -/
theorem add_alpha_second_arg_counterexample :
    ∃ (X A : Mat Int 1 1) (a : Int), methSem (α := Int) true .add A X (some a) ≠ spec .add X A (some a) :=
  ⟨fun _ _ => 1, fun _ _ => 0, 2, ok_ne_of_entry 0 0 (by decide)⟩

/-- What the code computes in the D20 cell, for every size and ring: `A + a·T`. -/
theorem add_alpha_second_arg_actual (X A : Mat α n n) (a : α) :
    methSem true .add A X (some a) = .ok fun i j => A i j + a * X i j := by
  simp only [methSem, Bool.not_true, Bool.false_eq_true, if_false]
  rfl

/-- D20, the part that holds (`_partial`): with `alpha`, every reflected handler that passes
`reflectedAlphaOK` (today: `__radd__`, `__rsub__`, which reject the keyword) returns the right value or raises
`TypeError` — never a wrong value.  `add` does not pass (previous theorem). -/
theorem second_arg_alpha_partial (acc : Bool) (b : BinFn) (m : Meth) (h : reflectedAlphaOK acc b m = true)
    (X A : Mat α n n) (a : α) (hb : b = .add ∨ b = .sub) :
    methSem acc m A X (some a) = spec b X A (some a) ∨ methSem acc m A X (some a) = .error .typeError := by
  have _ := hb  -- not needed: a handler that takes `alpha` passes `reflectedAlphaOK` only for add / sub
  exact methSem_reflected_alpha acc h X A a

end Meaning

/-! ### Obligations on the tables generated from today's source

Read off the two evaluations of `LinOp/C15/ProofsTables.lean`: `generated_classes_checked` (class table) and
`generated_entries_checked` (the registrations on `"LinearOperator"`; `entryCheck_generated` carries them to every operator class). -/

/-- The class hierarchy is C3-consistent: every class has a linearisation (compared with `__mro__` at run time). -/
theorem table_mro_total : ∀ c ∈ classes, (mro classes c.1).isSome = true :=
  generated_classes_checked.mro_total

/-- **Every registered method name resolves on every operator class** (no `AttributeError` from
`getattr(cls, name)`), for both tables. -/
theorem table_handled_resolves :
    ∀ c ∈ operatorClasses, ∀ e ∈ handledFirst ++ handledSecond, (resolve classes c e.2).isSome = true :=
  fun c hc e he => by
    obtain ⟨d, hd, -⟩ := resolve_generated hc (List.mem_map_of_mem he)
    rw [hd]; rfl

/-- Keys of the tables are distinct (the tables are functions). -/
theorem table_keys_nodup : (handledFirst.map Prod.fst).Nodup ∧ (handledSecond.map Prod.fst).Nodup :=
  generated_entries_checked.keys_nodup

/-- **Every second-argument registration of a two-operand function is a correctly reflected handler**
on every operator class (`torch.isclose` is the one entry without order semantics in this model; its
asymmetry in `rtol` is checked on the implementation). -/
theorem table_second_sound :
    ∀ c ∈ operatorClasses, ∀ e ∈ handledSecond, e.1 = "torch.isclose" ∨ secondEntryOK genTables c e = true := by
  intro c hc e he
  rw [secondEntryOK_eq, entryCheck_generated hc (List.mem_append_right _ he), ← secondEntryOK_eq]
  exact (generated_entries_checked.second_base e he).1.imp_right (·.1)

/-- First-argument registrations of add/sub/mul/matmul are the direct handlers, `add`/`sub` taking `alpha`. -/
theorem table_first_sound :
    ∀ c ∈ operatorClasses, ∀ e ∈ handledFirst, (BinFn.ofName e.1).isSome = true → firstEntryOK genTables c e = true := by
  intro c hc e he
  rw [firstEntryOK_eq, entryCheck_generated hc (List.mem_append_left _ he), ← firstEntryOK_eq]
  exact generated_entries_checked.first_base e he

/-- With `alpha`, **every** second-argument registration of add/sub (`torch.add`, `Tensor.add`, `torch.sub`,
`Tensor.sub`) is a reflected handler that accepts the keyword and applies it to the operator operand. -/
theorem table_second_alpha_sound :
    ∀ c ∈ operatorClasses, ∀ e ∈ handledSecond,
      (BinFn.ofName e.1 = some .add ∨ BinFn.ofName e.1 = some .sub) → secondEntryAlphaExact genTables c e = true := by
  intro c hc e he
  rw [secondEntryAlphaExact_eq, entryCheck_generated hc (List.mem_append_right _ he), ← secondEntryAlphaExact_eq]
  exact (generated_entries_checked.second_base e he).2

/-- …and no second-argument registration can return a wrong value with `alpha` (right value or `TypeError`). -/
theorem table_second_alpha_partial :
    ∀ c ∈ operatorClasses, ∀ e ∈ handledSecond, e.1 = "torch.isclose" ∨ secondEntryAlphaOK genTables c e = true := by
  intro c hc e he
  rw [secondEntryAlphaOK_eq, entryCheck_generated hc (List.mem_append_right _ he), ← secondEntryAlphaOK_eq]
  exact (generated_entries_checked.second_base e he).1.imp_right (·.2)

/-- No subclass overrides `add`, `sub`, `rmatmul`, the reflected dunder methods or `__torch_function__`: for these the bodies
mirrored by `methSem` are the ones that run on every class.  Overrides exist only for `matmul`, `mul` (which is also the
second-argument handler of `torch.mul`), `div` and the one-operand functions; their agreement with dense torch is checked on
the implementation. -/
theorem table_reflected_not_overridden :
    ∀ c ∈ classes, c.1 ≠ "LinearOperator" →
      ∀ m ∈ ["add", "sub", "rmatmul", "__rmatmul__", "__radd__", "__rsub__", "__mul__", "__rmul__", "__torch_function__"],
        c.2.2.contains m = false :=
  generated_classes_checked.reflected_not_overridden

/-- Subclassing among operator classes is antisymmetric (used to decide which operand's class handles a
two-operator call). -/
theorem table_subclass_antisymm :
    ∀ a ∈ operatorClasses, ∀ b ∈ operatorClasses, a ≠ b → isSubclass classes b a = true → isSubclass classes a b = false :=
  fun a _ b hb hne hsub => generated_classes_checked.antisymm b hb a (isSubclass_iff_mem.1 hsub) hne

/-! ### The property on the generated tables -/

section Generated
variable {α : Type} [CommRing α] {n : Nat}

/-- **Tensor ∘ Op, right order and sign**: for every operator class `c`, every second-argument entry
(`torch.add/sub/mul/matmul`, `Tensor.add/sub/mul/matmul`) and a tensor or number `x` in first position,
`torch.f(x, op)` evaluates to `f(⟦x⟧, ⟦op⟧)`: `T + A`, `T − A`, `T ⊙ A`, `T · A`. -/
theorem second_arg_meaning_generated (c : String) (hc : c ∈ operatorClasses) (e : String × String)
    (he : e ∈ handledSecond) (hne : e.1 ≠ "torch.isclose") (a0 : Arg) (h0 : a0.plain = true) (X A : Mat α n n) :
    ∃ b, BinFn.ofName e.1 = some b ∧ evalBinary genTables e.1 a0 (.op c) X A none = spec b X A none :=
  evalBinary_second ((table_second_sound c hc e he).resolve_left hne) a0 h0 X A

/-- **Op ∘ Tensor**: `torch.f(op, x)` evaluates to `f(⟦op⟧, ⟦x⟧)` for add/sub/mul/matmul, and
`torch.add/sub(op, x, alpha=a)` to `A ± a·X`, on every operator class. -/
theorem first_arg_meaning_generated (c : String) (hc : c ∈ operatorClasses) (e : String × String)
    (he : e ∈ handledFirst) (hb : (BinFn.ofName e.1).isSome = true) (a1 : Arg) (h1 : a1.plain = true) (A X : Mat α n n) :
    ∃ b, BinFn.ofName e.1 = some b ∧ evalBinary genTables e.1 (.op c) a1 A X none = spec b A X none ∧
      ((b = .add ∨ b = .sub) → ∀ a : α, evalBinary genTables e.1 (.op c) a1 A X (some a) = spec b A X (some a)) :=
  evalBinary_first (table_first_sound c hc e he hb) a1 h1 A X

/-- **Op ∘ Op** with the right operand's class a strict subclass of the left one's (e.g. `Diag − ConstantDiag`):
the subclass handles the call through the reflected handler and the result is still `f(⟦a⟧, ⟦b⟧)`. -/
theorem op_op_subclass_meaning_generated (a b : String) (ha : a ∈ operatorClasses) (hb : b ∈ operatorClasses)
    (hne : a ≠ b) (hsub : isSubclass classes b a = true) (e : String × String) (he : e ∈ handledSecond)
    (hni : e.1 ≠ "torch.isclose") (X Y : Mat α n n) :
    ∃ f, BinFn.ofName e.1 = some f ∧ evalBinary genTables e.1 (.op a) (.op b) X Y none = spec f X Y none :=
  evalBinary_op_op_sub ((table_second_sound b hb e he).resolve_left hni) hne hsub
    (table_subclass_antisymm a ha b hb hne hsub) X Y

/-- **Op ∘ Op** otherwise (same class, unrelated classes, or left operand of the subclass). -/
theorem op_op_left_meaning_generated (a b : String) (ha : a ∈ operatorClasses)
    (hab : a = b ∨ isSubclass classes b a = false) (e : String × String) (he : e ∈ handledFirst)
    (hf : (BinFn.ofName e.1).isSome = true) (X Y : Mat α n n) :
    ∃ f, BinFn.ofName e.1 = some f ∧ evalBinary genTables e.1 (.op a) (.op b) X Y none = spec f X Y none :=
  evalBinary_op_op_left (table_first_sound a ha e he hf) hab X Y

/-- **`alpha` with the operator second (full, D20 closed)**: `torch.add(x, op, alpha=a)`, `x.add(op, alpha=a)`,
`torch.sub(x, op, alpha=a)`, `x.sub(op, alpha=a)` evaluate to `X ± a·A` on every operator class. -/
theorem second_arg_alpha_generated (c : String) (hc : c ∈ operatorClasses) (e : String × String)
    (he : e ∈ handledSecond) (hb : BinFn.ofName e.1 = some .add ∨ BinFn.ofName e.1 = some .sub)
    (a0 : Arg) (h0 : a0.plain = true) (X A : Mat α n n) (a : α) :
    ∃ b, BinFn.ofName e.1 = some b ∧ evalBinary genTables e.1 a0 (.op c) X A (some a) = spec b X A (some a) :=
  evalBinary_second_alpha_exact (table_second_alpha_sound c hc e he hb) a0 h0 X A a

/-- Weaker statement kept for every entry (also mul/matmul, which reject `alpha`): right value or `TypeError`. -/
theorem second_arg_alpha_generated_partial (c : String) (hc : c ∈ operatorClasses) (e : String × String)
    (he : e ∈ handledSecond) (hni : e.1 ≠ "torch.isclose") (a0 : Arg) (h0 : a0.plain = true)
    (X A : Mat α n n) (a : α) (b : BinFn) (hb : BinFn.ofName e.1 = some b) (hb' : b = .add ∨ b = .sub) :
    evalBinary genTables e.1 a0 (.op c) X A (some a) = spec b X A (some a) ∨
      evalBinary genTables e.1 a0 (.op c) X A (some a) = .error .typeError := by
  have _ := hb'  -- not needed, as in `second_arg_alpha_partial`
  exact evalBinary_second_alpha ((table_second_alpha_partial c hc e he).resolve_left hni) a0 h0 X A a b hb

/-- **Operator passed by keyword, when `__torch_function__` looks at the positional tuple only** (`dispatchK`; a finding, the
behaviour without notes/C15_fix_3.diff — which behaviour today's source has is the generated flag `kwNormalised`, see
`operator_by_keyword_generated`).  `torch.f(x, other=op)` for a registered two-operand function ends in `IndexError`
(`args[1]` of a 1-tuple) on every operator class — it raises, but neither computes `f(x, op)` nor says `NotImplementedError`. -/
theorem operator_by_keyword_index_error (c : String) (hc : c ∈ operatorClasses) (e : String × String)
    (he : e ∈ handledSecond) (a0 : Arg) (h0 : a0.plain = true) :
    dispatchK genTables e.1 [a0] [.op c] () = .indexError := by
  obtain ⟨d, hd⟩ := Option.isSome_iff_exists.1 (table_handled_resolves c hc e (List.mem_append_right _ he))
  exact dispatchK_operator_by_keyword genTables c e.1 e.2 d a0 () h0 (table_second_lookup e he) hd
where
  table_second_lookup : ∀ e ∈ handledSecond, genTables.second.lookup e.1 = some e.2 :=
    fun _ he => lookup_of_mem_of_nodup table_keys_nodup.2 he

/-- The same call once `__torch_function__` completes the positional tuple from `input=` / `other=` (proposed fix
notes/C15_fix_3.diff, model `dispatchKN true`): the reflected handler runs with swapped operands, exactly as for
`torch.f(x, op)` — so `second_arg_meaning_generated` applies to it. -/
theorem operator_by_keyword_normalised {κ : Type} (T : Tables) (c f m d : String) (a0 : Arg) (kw : κ)
    (h0 : a0.plain = true) (hf : T.second.lookup f = some m) (hr : resolve T.classes c m = some d) :
    dispatchKN true T f [a0] [.op c] kw = .call d m [.op c, a0] true kw ∧
      dispatchKN true T f [a0] [.op c] kw = dispatch T f [a0, .op c] kw := by
  refine ⟨dispatchKN_operator_by_keyword T c f m d a0 kw h0 hf hr, ?_⟩
  rw [dispatchKN_operator_by_keyword T c f m d a0 kw h0 hf hr, dispatch_op_second a0 [] kw h0 (by simp) hf hr]

/-- Whichever of the two behaviours today's source has (`kwNormalised`, extracted from `__torch_function__`), the model used by
the driver follows it: `IndexError` before the fix, the ordinary second-argument call after it. -/
theorem operator_by_keyword_generated (c : String) (hc : c ∈ operatorClasses) (e : String × String)
    (he : e ∈ handledSecond) (a0 : Arg) (h0 : a0.plain = true) :
    dispatchKN kwNormalised genTables e.1 [a0] [.op c] () =
      (if kwNormalised then dispatch genTables e.1 [a0, .op c] () else .indexError) := by
  obtain ⟨d, hd⟩ := Option.isSome_iff_exists.1 (table_handled_resolves c hc e (List.mem_append_right _ he))
  have hl := operator_by_keyword_index_error.table_second_lookup e he
  cases hk : kwNormalised with
  | false =>
    simp only [dispatchKN_false, Bool.false_eq_true, if_false]
    exact dispatchK_operator_by_keyword genTables c e.1 e.2 d a0 () h0 hl hd
  | true =>
    simp only [if_true]
    exact (operator_by_keyword_normalised genTables c e.1 e.2 d a0 () h0 hl hd).2

/-- `torch.f(op, other=x)` (the other operand by keyword) is the ordinary first-argument call with `other` in kwargs. -/
theorem other_by_keyword_dispatch {κ : Type} (T : Tables) (c f m d : String) (kwops : List Arg) (kw : κ)
    (hk : ∀ a ∈ kwops, a.plain = true) (hf : T.first.lookup f = some m) (hr : resolve T.classes c m = some d) :
    dispatchK T f [.op c] kwops kw = .call d m [.op c] false kw :=
  dispatchK_other_by_keyword T c f m d kwops kw hk hf hr

/-- Every registered function dispatches to a method on every operator class: never `AttributeError`. -/
theorem registered_never_attribute_error (c : String) (hc : c ∈ operatorClasses) (e : String × String)
    (he : e ∈ handledFirst) (rest : List Arg) (hrest : ∀ a ∈ rest, a.plain = true) :
    ∃ d, dispatch genTables e.1 (.op c :: rest) () = .call d e.2 (.op c :: rest) false () := by
  obtain ⟨d, hd⟩ := Option.isSome_iff_exists.1 (table_handled_resolves c hc e (List.mem_append_left _ he))
  exact ⟨d, dispatch_op_first rest () hrest (table_first_lookup e he) hd⟩
where
  table_first_lookup : ∀ e ∈ handledFirst, genTables.first.lookup e.1 = some e.2 :=
    fun _ he => lookup_of_mem_of_nodup table_keys_nodup.1 he

end Generated


/-! ### Argument forwarding: every argument of `torch.f(op, *a, **k)` reaches the parameter it means -/

section Forwarding

/-- **Forwarding agrees with torch's binding** (any signatures).  `__torch_function__` passes `*args, **kwargs` on unchanged,
so the method's own signature `sigM` decides where they land; torch on the dense tensor binds the same call against `sigT`.
If `sigM`'s names are a prefix of `sigT`'s and the defaults of the parameters the call leaves out agree (`sigCompatGiven given`,
every name in `given` supplied positionally or by keyword), then whenever both accept the call, every parameter of the method
holds exactly the value torch gives the parameter of that name — positional or keyword, in any mixture. -/
theorem forward_binding_agrees (sigM sigT : Sig) (pos : List String) (kw envM envT : Env) (given : List String)
    (hc : sigCompatGiven given sigM sigT = true)
    (hg : ∀ g ∈ given, g ∈ Sig.names (sigM.take pos.length) ∨ (kw.lookup g).isSome = true)
    (hM : bind sigM pos kw = .ok envM) (hT : bind sigT pos kw = .ok envT) :
    ∀ q ∈ sigM.names, envM.lookup q = envT.lookup q :=
  bind_agree hc hg hM hT

/-- **Nothing is dropped silently**: a call the method accepts uses every positional value and every keyword (so an argument
the method does not know makes it raise `TypeError`), and the torch parameters the method lacks stay at torch's default. -/
theorem forward_drops_nothing (sigM sigT : Sig) (pos : List String) (kw envM envT : Env)
    (hpre : sigM.names.isPrefixOf sigT.names = true)
    (hM : bind sigM pos kw = .ok envM) (hT : bind sigT pos kw = .ok envT) :
    pos.length ≤ sigM.length ∧ (∀ e ∈ kw, e.1 ∈ sigM.names) ∧ envM.map Prod.fst = sigM.names ∧
      ∀ q, q ∉ sigM.names → envT.lookup q = (sigT.find? fun p => p.name == q).map fun p => p.dflt.getD "" := by
  obtain ⟨h1, h2, h3⟩ := bind_uses_everything hM
  exact ⟨h1, h2, h3, bind_rest_default hpre hM hT⟩

/-- **The second-argument path** `func(args[1], args[0], *args[2:], **kwargs)`: binding the swapped call differs from binding
the original one in the first two parameters only — every further positional argument (`rtol`, `atol`, `equal_nan` of
`torch.isclose(x, op, rtol, atol, equal_nan)`) and every keyword reaches the same parameter with the same value. -/
theorem second_path_forwards_extra_arguments (sig : Sig) (a b : String) (rest : List String) (kw env : Env)
    (h : bind sig (a :: b :: rest) kw = .ok env) :
    ∃ n1 n2 tl, env = (n1, a) :: (n2, b) :: tl ∧ bind sig (b :: a :: rest) kw = .ok ((n1, b) :: (n2, a) :: tl) :=
  bind_swap h

/-- Every override of a registered method has the parameter list of the base-class definition, on every operator class:
method resolution by *name* on the subclass never changes how the arguments are bound. -/
theorem table_handler_signature_uniform :
    ∀ c ∈ operatorClasses, ∀ e ∈ handledFirst ++ handledSecond,
      (handlerSig c e.2).isSome = true ∧ handlerSig c e.2 = methodSig "LinearOperator" e.2 :=
  fun c hc e he => by
    rw [handlerSig_generated hc (List.mem_map_of_mem he)]
    exact ⟨(generated_classes_checked.base_defines e he).2, rfl⟩

/-- **Every other registered function, both tables**: the handler's parameters after the operands are torch's, in torch's order,
with torch's defaults (or required). -/
theorem table_forwarding_compatible :
    ∀ e ∈ handledFirst ++ handledSecond, e.1 ∈ forwardingExceptions ∨ entryForwardOK e = true :=
  generated_entries_checked.forwarding

/-- **One-operand and two-operand calls on the generated tables**: for every operator class, every registered function outside
`forwardingExceptions` and every call form (`pos` = positional arguments after the operands, `kw` = keywords) that both the
handler found on the class and torch accept, the handler's parameters hold torch's values and the parameters the handler lacks
are at torch's defaults. -/
theorem forward_generated (c : String) (hc : c ∈ operatorClasses) (e : String × String)
    (he : e ∈ handledFirst ++ handledSecond) (hne : e.1 ∉ forwardingExceptions)
    (n : Nat) (sT sM : Sig) (hT : torchSig e.1 = some (n, sT)) (hM : handlerSig c e.2 = some sM)
    (pos : List String) (kw envM envT : Env)
    (hbM : bind (sM.drop n) pos kw = .ok envM) (hbT : bind sT pos kw = .ok envT) :
    (∀ q ∈ Sig.names (sM.drop n), envM.lookup q = envT.lookup q) ∧
      ∀ q, q ∉ Sig.names (sM.drop n) → envT.lookup q = (sT.find? fun p => p.name == q).map fun p => p.dflt.getD "" := by
  have hu := (table_handler_signature_uniform c hc e he).2
  rw [hM] at hu
  have hok := (table_forwarding_compatible e he).resolve_left hne
  simp only [entryForwardOK, hT, ← hu, Bool.and_eq_true] at hok
  have hcompat := hok.2
  refine ⟨bind_agree (sigCompatGiven_of_sigCompat hcompat []) (by simp) hbM hbT, bind_rest_default ?_ hbM hbT⟩
  simp only [sigCompat, Bool.and_eq_true] at hcompat
  exact hcompat.1

/-- The generated tables: torch's signature is `diagSigTorch`, and the registered handler of `torch.diagonal` has either today's
`diagSigMethod` (finding open) or torch's own defaults (after notes/C15_fix_6.diff). -/
theorem table_diagonal_signatures :
    torchSig "torch.diagonal" = some (1, diagSigTorch) ∧
      ∀ e ∈ handledFirst, e.1 = "torch.diagonal" →
        (methodSig "LinearOperator" e.2).map (·.drop 1) = some diagSigMethod ∨
        (methodSig "LinearOperator" e.2).map (·.drop 1) = some diagSigTorch :=
  generated_entries_checked.diagonal_signatures

/-- **Finding (open), precise counterexample: `torch.diagonal(op)` with default dims.**  The method's defaults are
`dim1=-2, dim2=-1`, torch's are `dim1=0, dim2=1`: for the call without dims — and for every call that supplies only one of them —
the two bindings give different values to `dim1` / `dim2` (the same dims for a matrix, different ones as soon as there is a
batch dimension).  `sigCompat` is refuted, so `forward_generated` does not apply to `torch.diagonal`. -/
theorem diagonal_default_dims_counterexample :
    sigCompat diagSigMethod diagSigTorch = false ∧
    (∃ envM envT, bind diagSigMethod [] [] = .ok envM ∧ bind diagSigTorch [] [] = .ok envT ∧
      envM.lookup "dim1" = some "-2" ∧ envT.lookup "dim1" = some "0" ∧
      envM.lookup "dim2" = some "-1" ∧ envT.lookup "dim2" = some "1" ∧ envM.lookup "offset" = envT.lookup "offset") ∧
    (∃ envM envT, bind diagSigMethod ["0"] [("dim2", "-1")] = .ok envM ∧ bind diagSigTorch ["0"] [("dim2", "-1")] = .ok envT ∧
      envM.lookup "dim1" = some "-2" ∧ envT.lookup "dim1" = some "0" ∧ envM.lookup "dim2" = envT.lookup "dim2") := by
  refine ⟨by decide +kernel, ⟨[("offset", "0"), ("dim1", "-2"), ("dim2", "-1")], [("offset", "0"), ("dim1", "0"), ("dim2", "1")], ?_⟩,
    ⟨[("offset", "0"), ("dim1", "-2"), ("dim2", "-1")], [("offset", "0"), ("dim1", "0"), ("dim2", "-1")], ?_⟩⟩
  · decide +kernel
  · decide +kernel

/-- …and the part that holds (`_partial`; the full statement is `forward_generated` for `torch.diagonal`, refuted above):
**whenever `dim1` and `dim2` are both supplied** — positionally, by keyword, or one each — every parameter of the handler holds
torch's value, on every operator class. -/
theorem diagonal_forwarding_partial (c : String) (hc : c ∈ operatorClasses) (e : String × String) (he : e ∈ handledFirst)
    (hd : e.1 = "torch.diagonal") (sM : Sig) (hM : handlerSig c e.2 = some sM)
    (pos : List String) (kw envM envT : Env)
    (hg : ∀ g ∈ ["dim1", "dim2"], g ∈ Sig.names ((sM.drop 1).take pos.length) ∨ (kw.lookup g).isSome = true)
    (hbM : bind (sM.drop 1) pos kw = .ok envM) (hbT : bind diagSigTorch pos kw = .ok envT) :
    ∀ q ∈ Sig.names (sM.drop 1), envM.lookup q = envT.lookup q := by
  have hu := (table_handler_signature_uniform c hc e (List.mem_append_left _ he)).2
  rw [hM] at hu
  have hcg : sigCompatGiven ["dim1", "dim2"] (sM.drop 1) diagSigTorch = true := by
    rcases table_diagonal_signatures.2 e he hd with h | h <;>
      (rw [← hu] at h; rw [show sM.drop 1 = _ by simpa using h]; decide +kernel)
  exact bind_agree hcg hg hbM hbT

/-- `alpha=None` (the default of `add`, `sub`, `__radd__`, `__rsub__`) means torch's default `alpha=1`. -/
theorem alpha_default_none_means_one {α : Type} [CommRing α] {n : Nat} (b : BinFn) (hb : b = .add ∨ b = .sub) (X Y : Mat α n n) :
    spec b X Y none = spec b X Y (some 1) := by
  rcases hb with rfl | rfl <;> simp [spec]

end Forwarding


/-! ### Subclass priority: which handler runs, and that it does not matter -/

/-- torch tries the **most specific** class first: with operators of classes `a` (left) and `b` (right), `b` a strict subclass of
`a`, the overloaded-argument list is `[b, a]`; a Tensor-subclass operand keeps its place in front of the operator but its
handler (`Tensor.__torch_function__`, returns `NotImplemented` for a LinearOperator among `types`) is skipped. -/
theorem subclass_handler_first (t : ClassTable) (a b : String) (hne : a ≠ b) (hsub : isSubclass t b a = true)
    (hnot : isSubclass t a b = false) :
    overloaded t [.op a, .op b] = [.opc b, .opc a] ∧ overloaded t [.op b, .op a] = [.opc b, .opc a] := by
  refine ⟨by simp [overloaded_op_op, hne, hsub], ?_⟩
  rw [overloaded_op_op]
  have hne' : b ≠ a := fun h => hne h.symm
  simp [hne', hnot]

/-- **The result does not depend on whose `__torch_function__` runs.**  For operators of classes `a ⊋ b` (in this order) and a
function registered in both tables, the handler of `a` (first-argument path, `a.m₁(x, y)`) and the handler of `b` (the one torch
actually calls; second-argument path, `b.m₂(y, x)`) both evaluate to `f(⟦x⟧, ⟦y⟧)` — on the generated tables, every pair of
operator classes, any commutative ring, any size. -/
theorem handler_order_irrelevant_generated {α : Type} [CommRing α] {n : Nat}
    (a b : String) (ha : a ∈ operatorClasses) (hb : b ∈ operatorClasses) (hne : a ≠ b) (hsub : isSubclass classes b a = true)
    (e1 : String × String) (he1 : e1 ∈ handledFirst) (e2 : String × String) (he2 : e2 ∈ handledSecond) (he : e1.1 = e2.1)
    (hni : e1.1 ≠ "torch.isclose") (f : BinFn) (hf : BinFn.ofName e1.1 = some f) (types : List OType) (hty : typesOK types = true)
    (X Y : Mat α n n) :
    ∃ d1 d2 m1 m2,
      torchFunction genTables a e1.1 types [.op a, .op b] (none : Option α) = .call d1 e1.2 [.op a, .op b] false none ∧
      torchFunction genTables b e1.1 types [.op a, .op b] (none : Option α) = .call d2 e2.2 [.op b, .op a] true none ∧
      Meth.ofName e1.2 = some m1 ∧ Meth.ofName e2.2 = some m2 ∧
      methSem (acceptsAlpha genTables d1 e1.2) m1 X Y none = spec f X Y none ∧
      methSem (acceptsAlpha genTables d2 e2.2) m2 Y X none = spec f X Y none := by
  obtain ⟨hl1, d1, f1, m1, hr1, hf1, hm1, hP1⟩ := entryCheck_iff.1 <|
    (firstEntryOK_eq genTables a e1).symm.trans (table_first_sound a ha e1 he1 (by simp [hf]))
  obtain ⟨hl2, d2, f2, m2, hr2, hf2, hm2, hP2⟩ := entryCheck_iff.1 <| (secondEntryOK_eq genTables b e2).symm.trans <|
    (table_second_sound b hb e2 he2).resolve_left fun h => hni (he.trans h)
  rw [← he] at hl2 hf2
  obtain rfl : f = f1 := Option.some.inj (hf.symm.trans hf1)
  obtain rfl : f = f2 := Option.some.inj (hf.symm.trans hf2)
  refine ⟨d1, d2, m1, m2, ?_, ?_, hm1, hm2, methSem_direct _ (directOK_of_firstOK hP1) X Y, methSem_reflected _ hP2 X Y⟩
  · exact torchFunction_first types [.op b] none (.op a)
      (isInstance_self_of_resolve hr1) hty hl1 hr1
  · exact torchFunction_second types [] none (.op a) (.op b)
      (by simpa [isInstance, genTables] using table_subclass_antisymm a ha b hb hne hsub) hty hl2 hr2

/-- A Tensor-subclass instance as the other operand: its handler is skipped and the operator's reflected handler runs with
swapped operands, as for a plain tensor (`Parameter` *is* a plain tensor for torch's overload collection). -/
theorem tensor_subclass_operand_dispatch {κ : Type} (T : Tables) (c f m d : String) (kw : κ)
    (hf : T.second.lookup f = some m) (hr : resolve T.classes c m = some d) :
    dispatch T f [.tsub, .op c] kw = .call d m [.op c, .tsub] true kw :=
  dispatch_tsub_op kw hf hr

/-! ### Non-vacuity -/

example : resolve classes "IdentityLinearOperator" "matmul" = some "IdentityLinearOperator" := by decide +kernel
example : resolve classes "IdentityLinearOperator" "rmatmul" = some "LinearOperator" := by decide +kernel
example : mro classes "KroneckerProductDiagLinearOperator" =
    some ["KroneckerProductDiagLinearOperator", "DiagLinearOperator", "TriangularLinearOperator",
      "KroneckerProductTriangularLinearOperator", "KroneckerProductLinearOperator", "LinearOperator",
      "_TriangularLinearOperatorBase", "object"] := by decide +kernel
example : dispatch genTables "torch.sub" [.op "DiagLinearOperator", .op "ConstantDiagLinearOperator"] () =
    .call "LinearOperator" "__rsub__" [.op "ConstantDiagLinearOperator", .op "DiagLinearOperator"] true () := by
  decide +kernel
example : dispatch genTables "torch.trace" [.op "DenseLinearOperator"] () = .notImplementedError := by decide +kernel
-- forwarding: `torch.isclose(x, op, 0.01, equal_nan=True)` reaches `_risclose(op, x, 0.01, equal_nan=True)`; both bindings succeed
example : (handlerSig "DiagLinearOperator" "_risclose").map (fun s => bind (s.drop 2) ["0.01"] [("equal_nan", "True")]) =
    some (.ok [("rtol", "0.01"), ("atol", "1e-08"), ("equal_nan", "True")]) := by decide +kernel
example : (torchSig "torch.isclose").map (fun s => bind s.2 ["0.01"] [("equal_nan", "True")]) =
    some (.ok [("rtol", "0.01"), ("atol", "1e-08"), ("equal_nan", "True")]) := by decide +kernel
example : "torch.isclose" ∉ forwardingExceptions := by decide +kernel
-- handler_order_irrelevant_generated: Diag − ConstantDiag through `Diag.sub` or through `ConstantDiag.__rsub__`
example : "DiagLinearOperator" ∈ operatorClasses ∧ "ConstantDiagLinearOperator" ∈ operatorClasses ∧
    isSubclass classes "ConstantDiagLinearOperator" "DiagLinearOperator" = true ∧
    ("torch.sub", "sub") ∈ handledFirst ∧ ("torch.sub", "__rsub__") ∈ handledSecond ∧ BinFn.ofName "torch.sub" = some .sub ∧
    typesOK [.opc "ConstantDiagLinearOperator", .opc "DiagLinearOperator"] = true := by decide +kernel

/-! ### Parameter names that differ between torch and the method (transpose, linalg.solve, permute) -/

section RenamedParameters

/-- **Keyword forms never bind on both sides** (any signatures with `onlyPositional`): if torch's binding and the method's
binding both accept `f(op, *pos, **kw)`, then there are no keywords at all, and on both sides the positional values land by
position and the remaining parameters take their defaults. -/
theorem renamed_keyword_forms_never_bind (sigM sigT : Sig) (h : onlyPositional sigM sigT = true)
    (pos : List String) (kw envM envT : Env) (hM : bind sigM pos kw = .ok envM) (hT : bind sigT pos kw = .ok envT) :
    kw = [] ∧ pos.length ≤ sigM.length ∧
      envM.map (·.2) = pos ++ (sigM.drop pos.length).map (fun p => p.dflt.getD "") ∧
      envT.map (·.2) = pos ++ (sigT.drop pos.length).map (fun p => p.dflt.getD "") := by
  have hk := onlyPositional_kw_nil h hM hT
  subst hk
  exact ⟨rfl, (bind_positional_values hM).1, (bind_positional_values hM).2, (bind_positional_values hT).2⟩

/-- A keyword that is not a parameter of the method (`dim0=` for `transpose(self, dim1, dim2)`, `left=` for `solve`, `dims=` for
`permute`) makes the handler raise `TypeError` — whatever else is passed. -/
theorem unknown_keyword_raises (sig : Sig) (pos : List String) (kw : Env) (e : String × String) (he : e ∈ kw)
    (hn : e.1 ∉ sig.names) : ∃ err, bind sig pos kw = .error err :=
  bind_unknown_keyword_fails sig pos kw e he hn

/-- A keyword naming a parameter that a positional value already filled (`torch.transpose(op, 0, dim1=1)`: the method's `dim1`
is its *first* dim parameter) makes the handler raise `TypeError` ("multiple values"). -/
theorem keyword_for_positionally_filled_raises (sig : Sig) (pos : List String) (kw : Env) (e : String × String) (he : e ∈ kw)
    (hn : e.1 ∈ Sig.names (sig.take pos.length)) : ∃ err, bind sig pos kw = .error err :=
  bind_duplicate_fails sig pos kw e he hn

/-- Generated signatures, every operator class: for `torch.transpose` and `torch.linalg.solve` the handler's signature and torch's
have no common keyword form. -/
theorem table_renamed_only_positional : ∀ c ∈ operatorClasses, ∀ r ∈ renamedEntries, renamedOK c r = true := by
  intro c hc r hr
  have h := generated_entries_checked.renamed_base r hr
  -- the method is registered, so its signature on `c` is the base-class one
  have hm := registered_of_renamedOK h
  rwa [renamedOK, handlerSig_generated hc hm, ← handlerSig_generated linearOperator_mem hm]

/-- **transpose / linalg.solve on the generated signatures**: every call form that both torch and the handler found on class `c`
accept is purely positional, the values reach the parameters by position and the rest stay at the defaults; every keyword form
makes one of the two raise `TypeError` (never a silently different binding). -/
theorem renamed_forward_generated (c : String) (hc : c ∈ operatorClasses) (r : String × String × Nat) (hr : r ∈ renamedEntries)
    (sM sT : Sig) (n : Nat) (hM : handlerSig c r.2.1 = some sM) (hT : torchSig r.1 = some (n, sT))
    (pos : List String) (kw envM envT : Env)
    (hbM : bind (sM.drop n) pos kw = .ok envM) (hbT : bind sT pos kw = .ok envT) :
    kw = [] ∧ envM.map (·.2) = pos ++ ((sM.drop n).drop pos.length).map (fun p => p.dflt.getD "") ∧
      envT.map (·.2) = pos ++ (sT.drop pos.length).map (fun p => p.dflt.getD "") := by
  have h := table_renamed_only_positional c hc r hr
  simp only [renamedOK, hM, hT, Bool.and_eq_true] at h
  obtain ⟨h1, _, h3, h4⟩ := renamed_keyword_forms_never_bind _ _ h.2.2 pos kw envM envT hbM hbT
  exact ⟨h1, h3, h4⟩

/-- Generated: `transpose`'s two dims and torch's `dim0, dim1` are all required, in this order. -/
theorem table_transpose_required :
    ∀ c ∈ operatorClasses, (handlerSig c "transpose").map (fun s => (s.drop 1).map (·.dflt)) = some [none, none] ∧
      (torchSig "torch.transpose").map (fun s => (s.1, s.2.map (·.dflt))) = some (1, [none, none]) := by
  intro c hc
  rw [handlerSig_generated hc (registered_of_renamedOK
    (generated_entries_checked.renamed_base ("torch.transpose", "transpose", 1) List.mem_cons_self))]
  exact generated_entries_checked.transpose_required

/-- **`torch.transpose(op, …)`**: a call accepted by both sides is `torch.transpose(op, a, b)` with two positional dims, and the
handler's `(dim1, dim2)` are torch's `(dim0, dim1)`: `(a, b)`. -/
theorem transpose_forwarding_generated (c : String) (hc : c ∈ operatorClasses) (sM sT : Sig) (n : Nat)
    (hM : handlerSig c "transpose" = some sM) (hT : torchSig "torch.transpose" = some (n, sT))
    (pos : List String) (kw envM envT : Env)
    (hbM : bind (sM.drop n) pos kw = .ok envM) (hbT : bind sT pos kw = .ok envT) :
    kw = [] ∧ pos.length = 2 ∧ envM.map (·.2) = pos ∧ envT.map (·.2) = pos := by
  obtain ⟨rfl, -, -⟩ := renamed_forward_generated c hc ("torch.transpose", "transpose", 1) (by decide) sM sT n hM hT pos kw
    envM envT hbM hbT
  have ht := table_transpose_required c hc
  rw [hM, hT] at ht
  simp only [Option.map_some, Option.some.injEq, Prod.mk.injEq] at ht
  obtain ⟨htM, rfl, htT⟩ := ht
  have hnone {s : Sig} (hs : s.map (·.dflt) = [none, none]) : s.length = 2 ∧ ∀ p ∈ s, p.dflt = none :=
    ⟨by rw [← List.length_map (f := (·.dflt)), hs]; rfl,
      fun p hp => by simpa [hs] using List.mem_map_of_mem (f := (·.dflt)) hp⟩
  obtain ⟨hlM, hvM⟩ := bind_all_required (hnone htM).2 hbM
  obtain ⟨-, hvT⟩ := bind_all_required (hnone htT).2 hbT
  exact ⟨rfl, hlM.trans (hnone htM).1, hvM, hvT⟩

/-- `permute(self, *dims)`: the signature on every operator class. -/
theorem table_permute_signature :
    ∀ c ∈ operatorClasses, handlerSig c "permute" = some [⟨"self", .pos, none⟩, ⟨"dims", .varPos, none⟩] ∧
      ("torch.permute", "permute") ∈ handledFirst := by
  intro c hc
  have h := generated_entries_checked.permute_signature
  rw [handlerSig_generated hc (registered_of_mem_first h.2)]
  exact h

/-- **`torch.permute(op, …)` on every operator class**: the handler is `permute(self, *dims)`; any number of positional values after
the operator is accepted and packed into `dims` (torch passes its single `dims` tuple, which the method unpacks), and **every**
keyword form — `dims=…` in particular, which dense torch accepts — makes the handler raise `TypeError`. -/
theorem permute_binding_generated (c : String) (hc : c ∈ operatorClasses) (self : String) (vs : List String) (kw : Env) :
    ∃ sig, handlerSig c "permute" = some sig ∧
      bindPy sig (self :: vs) [] = .ok [("self", self), ("*", "(" ++ ",".intercalate vs ++ ")")] ∧
      (kw ≠ [] → ∃ err, bindPy sig (self :: vs) kw = .error err) :=
  ⟨permSig, (table_permute_signature c hc).1, permute_positional self vs, permute_keyword_fails self vs kw⟩

end RenamedParameters

/-! ### Rectangular operands, `div`, `isclose` with order semantics, `sum(dim)` -/

/-- **The hand-mirrored bodies are today's bodies** (generated by `harness/extract/c15_bodies.py`): `isclose`, `_risclose`,
`_isclose`, `div` and `sum` of class `LinearOperator` read exactly as in `LinOp/C15/Pinned.lean` (`sum` with or without the
statement of notes/C15_fix_7.diff, consistently with the generated flag `sumBelowRaises`); and structurally: `_isclose` passes
`(self, other)` and `_risclose` passes `(other, self)` to `torch.isclose`. -/
theorem table_bodies_pinned :
    (∀ e ∈ pinnedBodies, e.1 ≠ "sum" → bodies.lookup e.1 = some e.2) ∧
    ((sumBelowRaises = false ∧ bodies.lookup "sum" = pinnedBodies.lookup "sum") ∨
      (sumBelowRaises = true ∧ bodies.lookup "sum" = some pinnedSumFixed)) ∧
    closeOrders.lookup "_isclose" = some ["self", "other"] ∧ closeOrders.lookup "_risclose" = some ["other", "self"] := by
  -- entry by entry and by `rfl`: equal string literals are recognised at once, `decide` would compare them byte by byte
  refine ⟨?_, .inr ⟨rfl, rfl⟩, rfl, rfl⟩
  simp only [pinnedBodies, List.forall_mem_cons]
  exact ⟨fun _ => rfl, fun _ => rfl, fun _ => rfl, fun _ => rfl, fun h => absurd rfl h, nofun⟩

section Rectangular
variable {α : Type} [CommRing α] {n k p : Nat}

/-- Generated tables, every operator class: the second-argument handlers of `torch.matmul` / `Tensor.matmul` are `rmatmul` /
`__rmatmul__`, the first-argument handler is `matmul`, and all resolve. -/
theorem table_matmul_rect_sound :
    ∀ c ∈ operatorClasses,
      (∀ e ∈ handledSecond, BinFn.ofName e.1 = some .matmul → secondMMOK genTables c e = true) ∧
      (∀ e ∈ handledFirst, BinFn.ofName e.1 = some .matmul → firstMMOK genTables c e = true) := by
  refine fun c hc => ⟨fun e he hb => ?_, fun e he hb => ?_⟩
  · refine secondMMOK_of_secondEntryOK ((table_second_sound c hc e he).resolve_left fun h => ?_) hb
    rw [h] at hb
    exact absurd hb (by decide +kernel)
  · exact firstMMOK_of_firstEntryOK (table_first_sound c hc e he (by rw [hb]; rfl)) hb

/-- **Tensor · Op, rectangular**: `torch.matmul(x, op)`, `x.matmul(op)`, `x @ op` with `x : n × k`, `op : k × p` evaluate to the
`n × p` product `X · A` in this order, on every operator class, for all sizes. -/
theorem second_arg_matmul_rect_generated (c : String) (hc : c ∈ operatorClasses) (e : String × String) (he : e ∈ handledSecond)
    (hb : BinFn.ofName e.1 = some .matmul) (a0 : Arg) (h0 : a0.plain = true) (X : Mat α n k) (A : Mat α k p) :
    evalMM genTables e.1 a0 (.op c) X A = .ok (Mat.mul X A) :=
  evalMM_second ((table_matmul_rect_sound c hc).1 e he hb) a0 h0 X A

/-- **Op · Tensor, rectangular.** -/
theorem first_arg_matmul_rect_generated (c : String) (hc : c ∈ operatorClasses) (e : String × String) (he : e ∈ handledFirst)
    (hb : BinFn.ofName e.1 = some .matmul) (a1 : Arg) (h1 : a1.plain = true) (A : Mat α n k) (X : Mat α k p) :
    evalMM genTables e.1 (.op c) a1 A X = .ok (Mat.mul A X) :=
  evalMM_first ((table_matmul_rect_sound c hc).2 e he hb) a1 h1 A X

/-- `rmatmul` on rectangular operands is left multiplication: `(AᵀXᵀ)ᵀ = X A` for `A : k × p`, `X : n × k`. -/
theorem rmatmul_rect_is_left_multiplication (A : Mat α k p) (X : Mat α n k) : rmatmulR A X = Mat.mul X A :=
  rmatmulR_eq A X

/-- **Tensor ∘ Op, elementwise, rectangular** (`add`, `sub`, `mul`, `Tensor.add/sub/mul`): right order and sign on `n × k`
operands, every operator class. -/
theorem second_arg_elementwise_rect_generated (c : String) (hc : c ∈ operatorClasses) (e : String × String)
    (he : e ∈ handledSecond) (hne : e.1 ≠ "torch.isclose") (a0 : Arg) (h0 : a0.plain = true) (X A : Mat α n k) :
    ∃ b, BinFn.ofName e.1 = some b ∧ (b ≠ .matmul → evalEW genTables e.1 a0 (.op c) X A none = specEW b X A none) :=
  evalEW_second ((table_second_sound c hc e he).resolve_left hne) a0 h0 X A

/-- …with `alpha`: `torch.add/sub(x, op, alpha=a)`, `x.add/sub(op, alpha=a)` are `X ± a·A` on `n × k` operands. -/
theorem second_arg_alpha_rect_generated (c : String) (hc : c ∈ operatorClasses) (e : String × String)
    (he : e ∈ handledSecond) (hb : BinFn.ofName e.1 = some .add ∨ BinFn.ofName e.1 = some .sub)
    (a0 : Arg) (h0 : a0.plain = true) (X A : Mat α n k) (a : α) :
    ∃ b, BinFn.ofName e.1 = some b ∧ evalEW genTables e.1 a0 (.op c) X A (some a) = specEW b X A (some a) :=
  evalEW_second_alpha (table_second_alpha_sound c hc e he hb) a0 h0 X A a

/-- **Op ∘ Tensor, elementwise, rectangular.** -/
theorem first_arg_elementwise_rect_generated (c : String) (hc : c ∈ operatorClasses) (e : String × String)
    (he : e ∈ handledFirst) (hb : (BinFn.ofName e.1).isSome = true) (a1 : Arg) (h1 : a1.plain = true) (A X : Mat α n k) :
    ∃ b, BinFn.ofName e.1 = some b ∧ (b ≠ .matmul → evalEW genTables e.1 (.op c) a1 A X none = specEW b A X none) :=
  evalEW_first (table_first_sound c hc e he hb) a1 h1 A X

/-- **`sum` over a matrix dim** (bodies `(self @ ones).squeeze(-1)`, `(self.mT @ ones).squeeze(-1)`, `(self @ ones).sum()`): row
sums, column sums and the total, for every `n × k` matrix. -/
theorem sum_matrix_dims_meaning (A : Mat α n k) :
    (∀ i, sumCols A i = ∑ j, A i j) ∧ (∀ j, sumRows A j = ∑ i, A i j) ∧ sumAll A = ∑ i, ∑ j, A i j :=
  ⟨sumCols_eq A, sumRows_eq A, sumAll_eq A⟩

end Rectangular

/-- **`div`** (`self.mul(1.0 / other)`) is elementwise division, by a scalar and by a tensor, over any field, `n × k`. -/
theorem div_meaning {α : Type} [Field α] {n k : Nat} (A B : Mat α n k) (c : α) :
    divSem A c = (fun i j => A i j / c) ∧ divSemT A B = (fun i j => A i j / B i j) :=
  ⟨divSem_eq A c, divSemT_eq A B⟩

/-- **`sum(dim)` normalises `dim` as torch does**: for an operator with `nd ≥ 2` dimensions and every `dim ≥ -nd` the branch taken
(`cols` / `rows` / `_sum_batch(dim mod nd)` / `ValueError`) yields the shape `torch.sum(dense, dim)` has (`dim ≥ nd`: both raise). -/
theorem sum_dim_normalisation (sh : List Nat) (h2 : 2 ≤ sh.length) (d : Int) (hlo : -(sh.length : Int) ≤ d) :
    sumShape sh (some d) = torchSumShape sh (some d) :=
  sumShape_eq_torch sh h2 d hlo

/-- **`dim < -ndim`** (a finding, fixed in /repo by 055dd58).  `torch.sum(dense, dim)` raises `IndexError`; `LinearOperator.sum`
adds `ndim` once, the result is still negative, is neither matrix dim and is `< ndim`: the branch `.below` (for a 3-dimensional
operator and `dim = -4`: `.below (-1)`).  Before the fix `_sum_batch` ran there with the negative dim; whether today's body
raises there instead is the generated flag `sumBelowRaises` (tied to the body by `table_bodies_pinned`). -/
theorem sum_dim_below_range_counterexample :
    sumBranch 3 (some (-4)) = .below (-1) ∧ torchSumShape [2, 3, 3] (some (-4)) = none := by
  decide

/-- …for every `nd` and every `dim < -nd` (the full statement "sum(dim) has torch's shape or raises, for **all** dims" is refuted
by the counterexample above; `sum_dim_normalisation` is the part that holds). -/
theorem sum_dim_below_range (nd : Nat) (h2 : 2 ≤ nd) (d : Int) (h : d < -(nd : Int)) :
    sumBranch nd (some d) = .below ((nd : Int) + d) := by
  have hn : normDim nd d = (nd : Int) + d := if_pos (by omega)
  simp only [sumBranch, hn]
  -- neither matrix dim, below `nd`, negative
  rw [if_neg (by omega), if_neg (by omega), if_pos (by omega), if_pos (by omega)]

section IsClose
variable {α : Type} [Add α] [Sub α] [Mul α] [Neg α] [Zero α] [LT α] [DecidableLT α] [LE α] [DecidableLE α] {n k : Nat}

/-- Generated tables: `torch.isclose` is handled by `isclose` (operator first) and by `_risclose` (operator second). -/
theorem table_isclose_registration :
    genTables.first.lookup "torch.isclose" = some "isclose" ∧ genTables.second.lookup "torch.isclose" = some "_risclose" ∧
      ∀ c ∈ operatorClasses, (resolve classes c "isclose").isSome = true ∧ (resolve classes c "_risclose").isSome = true :=
  have h := generated_entries_checked.isclose_registered
  -- the entries are named: left to unification (`?e.2 =?= "isclose"`), the elaborator would evaluate `resolve`
  ⟨registered_never_attribute_error.table_first_lookup ("torch.isclose", "isclose") h.1,
    operator_by_keyword_index_error.table_second_lookup ("torch.isclose", "_risclose") h.2,
    fun c hc => ⟨table_handled_resolves c hc ("torch.isclose", "isclose") (List.mem_append_left _ h.1),
      table_handled_resolves c hc ("torch.isclose", "_risclose") (List.mem_append_right _ h.2)⟩⟩

/-- **`torch.isclose(x, op, rtol, atol)`, operator second**: entrywise `|X − A| ≤ atol + rtol·|A|` — the tolerance is relative to
the operator (torch's second operand), on every operator class, `n × k` operands, any `rtol`, `atol`. -/
theorem isclose_second_arg_generated (c : String) (hc : c ∈ operatorClasses) (a0 : Arg) (h0 : a0.plain = true)
    (X A : Mat α n k) (rtol atol : α) :
    evalClose genTables a0 (.op c) X A rtol atol = .ok fun i j => closeSpec rtol atol (X i j) (A i j) := by
  obtain ⟨_, hl, hres⟩ := table_isclose_registration
  obtain ⟨d, hd⟩ := Option.isSome_iff_exists.1 (hres c hc).2
  exact evalClose_second genTables c d hl hd a0 h0 X A rtol atol

/-- **`torch.isclose(op, x, rtol, atol)`, operator first**: `|A − X| ≤ atol + rtol·|X|`. -/
theorem isclose_first_arg_generated (c : String) (hc : c ∈ operatorClasses) (a1 : Arg) (h1 : a1.plain = true)
    (A X : Mat α n k) (rtol atol : α) :
    evalClose genTables (.op c) a1 A X rtol atol = .ok fun i j => closeSpec rtol atol (A i j) (X i j) := by
  obtain ⟨hl, _, hres⟩ := table_isclose_registration
  obtain ⟨d, hd⟩ := Option.isSome_iff_exists.1 (hres c hc).1
  exact evalClose_first genTables c d hl hd a1 h1 A X rtol atol

end IsClose

/-- Why `isclose` itself must not be the second-argument handler (the registration before notes/C15_fix_1.diff): it would compare
in the order `(op, x)`, and `isclose` is not symmetric — `isclose(1, 3, rtol=1, atol=0)` holds, `isclose(3, 1, rtol=1, atol=0)`
does not (integers). -/
theorem isclose_symmetric_registration_counterexample :
    closeSpec (1 : Int) 0 1 3 = true ∧ closeSpec (1 : Int) 0 3 1 = false := by
  decide

/-- Over any ordered field: `closeSpec` is torch's `|x − y| ≤ atol + rtol·|y|`; it **is** symmetric when `rtol = 0`; it is monotone
in both tolerances. -/
theorem isclose_order_semantics {α : Type} [Field α] [LinearOrder α] [IsStrictOrderedRing α] (rtol rtol' atol atol' x y : α) :
    (closeSpec rtol atol x y = true ↔ |x - y| ≤ atol + rtol * |y|) ∧
      closeSpec 0 atol x y = closeSpec 0 atol y x ∧
      (rtol ≤ rtol' → atol ≤ atol' → closeSpec rtol atol x y = true → closeSpec rtol' atol' x y = true) :=
  ⟨closeSpec_iff rtol atol x y, closeSpec_symm_rtol_zero atol x y, closeSpec_mono rtol rtol' atol atol' x y⟩

/-! ### Falsy `alpha`: 0, 0.0, tensor(0.) are values, not "no alpha" -/

/-- Generated from the source: `add`, `sub`, `__radd__`, `__rsub__` ignore `alpha` exactly when `alpha is None` (a truthiness test
`if not alpha` would also drop `alpha = 0`). -/
theorem table_alpha_test_is_none :
    alphaTests.map Prod.fst = ["add", "sub", "__radd__", "__rsub__"] ∧ ∀ e ∈ alphaTests, e.2 = "alpha is None" := by
  decide +kernel

section AlphaZero
variable {α : Type} [CommRing α] {n k : Nat}

/-- **`alpha = 0`, operator first** (`torch.add(op, x, alpha=0)`, `torch.sub(op, x, alpha=0)`, `op.add/sub(x, alpha=0)`): the result is
the first operand `A`, on every operator class, `n × k` operands (the handler theorems hold for **every** `alpha`; this is the
instance `alpha = 0`, which a truthiness test on `alpha` would get wrong). -/
theorem alpha_zero_first_arg_generated (c : String) (hc : c ∈ operatorClasses) (e : String × String) (he : e ∈ handledFirst)
    (b : BinFn) (hb : BinFn.ofName e.1 = some b) (hbb : b = .add ∨ b = .sub) (a1 : Arg) (h1 : a1.plain = true) (A X : Mat α n k) :
    evalEW genTables e.1 (.op c) a1 A X (some 0) = .ok A := by
  rw [evalEW_first_alpha (table_first_sound c hc e he (by simp [hb])) a1 h1 A X 0 b hb hbb]
  exact specEW_alpha_zero b hbb A X

/-- **`alpha = 0`, operator second** (`torch.add(x, op, alpha=0)`, `x.sub(op, alpha=0)`, …): the result is the first operand `X`. -/
theorem alpha_zero_second_arg_generated (c : String) (hc : c ∈ operatorClasses) (e : String × String) (he : e ∈ handledSecond)
    (hb : BinFn.ofName e.1 = some .add ∨ BinFn.ofName e.1 = some .sub) (a0 : Arg) (h0 : a0.plain = true) (X A : Mat α n k) :
    evalEW genTables e.1 a0 (.op c) X A (some 0) = .ok X := by
  obtain ⟨b, hbn, h⟩ := second_arg_alpha_rect_generated c hc e he hb a0 h0 X A 0
  rw [h]
  exact specEW_alpha_zero b (by rcases hb with h' | h' <;> rw [hbn] at h' <;> simp at h' <;> simp [h']) X A

/-- **Op ∘ Op with `alpha`** (left operand's class handles the call: same class, unrelated classes): `A ± a·B` for every `a`, in
particular `A` for `a = 0` (square operands, the existing `evalBinary` layer). -/
theorem alpha_op_op_left_generated (a b : String) (ha : a ∈ operatorClasses) (hab : a = b ∨ isSubclass classes b a = false)
    (e : String × String) (he : e ∈ handledFirst) (f : BinFn) (hf : BinFn.ofName e.1 = some f) (hff : f = .add ∨ f = .sub)
    (X Y : Mat α n n) (al : α) :
    evalBinary genTables e.1 (.op a) (.op b) X Y (some al) = spec f X Y (some al) := by
  obtain ⟨hl, d, f', m, hr, hf', hm, hP⟩ := entryCheck_iff.1 <|
    (firstEntryOK_eq genTables a e).symm.trans (table_first_sound a ha e he (by simp [hf]))
  obtain rfl : f = f' := Option.some.inj (hf.symm.trans hf')
  exact (evalBinary_of_call (dispatch_op_op_left (some al) hab hl hr) hm X Y).trans
    (methSem_direct_alpha _ (directAlphaOK_of_firstOK hP hff) X Y al)

end AlphaZero

/-- Why the test must be `alpha is None`: a handler that treats a falsy `alpha` as "no alpha" computes `A − X` for
`torch.sub(op, x, alpha=0)` where torch gives `A` (1×1 integers). -/
theorem falsy_alpha_counterexample :
    ∃ (A X : Mat Int 1 1), methSem (α := Int) true .sub A X (if (0 : Int) = 0 then none else some 0) ≠ spec .sub A X (some 0) := by
  exact ⟨fun _ _ => 1, fun _ _ => 1, ok_ne_of_entry 0 0 (by decide)⟩

/-! ### Non-vacuity: forwarding with renamed parameters, rectangular operands -/

-- transpose: the positional form binds on both sides; `dim0=` is unknown to the method; `torch.transpose(op, 0, dim1=1)` hits "multiple values"
example : (handlerSig "DenseLinearOperator" "transpose").map (fun s => bind (s.drop 1) ["0", "1"] []) =
    some (.ok [("dim1", "0"), ("dim2", "1")]) := by decide +kernel
example : (torchSig "torch.transpose").map (fun s => bind s.2 ["0", "1"] []) = some (.ok [("dim0", "0"), ("dim1", "1")]) := by
  decide +kernel
example : (handlerSig "DenseLinearOperator" "transpose").map (fun s => bind (s.drop 1) [] [("dim0", "0"), ("dim1", "1")]) =
    some (.error .unexpectedKeyword) := by decide +kernel
example : (handlerSig "DenseLinearOperator" "transpose").map (fun s => bind (s.drop 1) ["0"] [("dim1", "1")]) =
    some (.error .multipleValues) := by decide +kernel
example : (torchSig "torch.transpose").map (fun s => bind s.2 ["0"] [("dim1", "1")]) = some (.ok [("dim0", "0"), ("dim1", "1")]) := by
  decide +kernel
-- linalg.solve: only the call without extras binds on both sides
example : (handlerSig "DenseLinearOperator" "solve").map (fun s => bind (s.drop 2) [] []) = some (.ok [("left_tensor", "None")]) := by
  decide +kernel
example : (torchSig "torch.linalg.solve").map (fun s => bind s.2 [] [("left", "False")]) = some (.ok [("left", "False")]) := by
  decide +kernel
example : (handlerSig "DenseLinearOperator" "solve").map (fun s => bind (s.drop 2) [] [("left", "False")]) =
    some (.error .unexpectedKeyword) := by decide +kernel
-- permute: positional values are packed, `dims=` raises
example : (handlerSig "DenseLinearOperator" "permute").map (fun s => bindPy s ["op", "(1,0,2,3)"] []) =
    some (.ok [("self", "op"), ("*", "((1,0,2,3))")]) := by decide +kernel
example : (handlerSig "DenseLinearOperator" "permute").map (fun s => bindPy s ["op"] [("dims", "(1,0,2,3)")]) =
    some (.error .unexpectedKeyword) := by decide +kernel
-- rectangular: 2×3 times 3×1 through the reflected handler
example : secondMMOK genTables "DenseLinearOperator" ("torch.matmul", "rmatmul") = true := by decide +kernel
example : sumShape [2, 5, 3, 4] (some (-3)) = some [2, 3, 4] ∧ sumShape [2, 5, 3, 4] (some 3) = some [2, 5, 3] := by decide

end LinOp.C15
