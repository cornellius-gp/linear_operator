import LinOp.C17.ProofsIR
import LinOp.Generated.C17Table
import LinOp.Generated.C17Bodies
/-!
C17 — settings contexts are properly scoped and never leak.  Property theorems only.

`K : Nat → Kind` assigns each setting class its base-class behaviour; it is arbitrary here, so the
theorems hold for every table the extractor can generate.
-/
namespace LinOp.C17

/-- **Exit restores the value in force immediately before entry** — for every state, every context
object `o`, and every history `h` in between that does not enter/construct `o` itself
(any nesting depth, any interleaving of other objects of the same or other settings, normal or
exceptional exit). -/
theorem exit_restores_entry_value (K : Nat → Kind) (s : State) (o : ObjId) (h : List Event) (exc : Bool)
    (hno : ∀ e ∈ h, e.obj? ≠ some o) :
    settingVal (K o.1) ((run K s (Event.enter o :: h ++ [Event.exit o exc])).globals o.1)
      = settingVal (K o.1) (s.globals o.1) ∨ s.objs o = none := by
  cases hob : s.objs o with
  | none => exact .inr rfl
  | some ob => exact .inl (block_restores K s o h exc (by rw [hob]; rfl) (not_binds_of_obj?_ne hno))

/-- Exceptional exit behaves exactly like normal exit. -/
theorem exception_exit_same (K : Nat → Kind) (s : State) (o : ObjId) :
    step K s (Event.exit o true) = step K s (Event.exit o false) := rfl

/-- **No cross-talk between settings**: an event on one setting class changes no other class. -/
theorem no_cross_talk (K : Nat → Kind) (s : State) (e : Event) (c : Nat) (h : e.cls ≠ c) :
    (step K s e).globals c = s.globals c := step_globals_other K s e c h

/-- **No cross-talk between dtype slots**: entering a per-dtype context whose instance value for a
slot is `None` leaves that slot unchanged. -/
theorem dtype_slot_isolated (g inst : Slots) :
    (inst.a = none → (setOnEnter .dtype g inst).a = g.a) ∧
    (inst.b = none → (setOnEnter .dtype g inst).b = g.b) ∧
    (inst.c = none → (setOnEnter .dtype g inst).c = g.c) := by
  refine ⟨?_, ?_, ?_⟩ <;> intro h <;> simp [setOnEnter, h]

/-- Entry puts the instance value in force (for the slots it names). -/
theorem enter_takes_effect (k : Kind) (g inst : Slots) :
    (match k with
      | .dtype => (∀ v, inst.a = some v → (setOnEnter k g inst).a = some v) ∧
                  (∀ v, inst.b = some v → (setOnEnter k g inst).b = some v) ∧
                  (∀ v, inst.c = some v → (setOnEnter k g inst).c = some v)
      | _ => (setOnEnter k g inst).a = inst.a) := by
  cases k <;> simp [setOnEnter] <;> (refine ⟨?_, ?_, ?_⟩ <;> intro v h <;> simp [h])

/-- Histories whose projection on class `c` is well nested (`with` blocks; an object is not
re-entered while active).  Events of other classes are unconstrained. -/
inductive WN (K : Nat → Kind) (c : Nat) : List Event → Prop
  | nil : WN K c []
  | other (e : Event) (h : List Event) : e.cls ≠ c → WN K c h → WN K c (e :: h)
  | ctor (k : Nat) (inst : Slots) (h : List Event) : WN K c h → WN K c (Event.construct (c, k) inst :: h)
  | poke (r : Bool) (v : Val) (h : List Event) : K c = .flag r → WN K c h → WN K c (Event.poke c v :: h)
  | block (k : Nat) (exc : Bool) (h1 h2 : List Event) :
      WN K c h1 → (∀ e ∈ h1, e.obj? ≠ some (c, k)) → WN K c h2 →
      WN K c (Event.enter (c, k) :: h1 ++ Event.exit (c, k) exc :: h2)

/-- **Nothing leaks out of `with` blocks**: after any history that is well nested for class `c`
the setting `c` has its initial value — whatever other settings did in between. -/
theorem lifo_restores_all (K : Nat → Kind) (c : Nat) (h : List Event) (hw : WN K c h) (s : State) :
    settingVal (K c) ((run K s h).globals c) = settingVal (K c) (s.globals c) := by
  induction hw generalizing s with
  | nil => rfl
  | other e h hne _ ih => rw [run_cons, ih, step_globals_other K s e c hne]
  | ctor k inst h _ ih => rw [run_cons, ih]; rfl
  | poke r v h hk _ ih =>
    rw [run_cons, ih]
    simp only [step, upd_same]
    rw [hk]; exact settingVal_poke r _ v
  | block k exc h1 h2 _ hno _ ih1 ih2 =>
    rw [List.cons_append, run_cons, run_append, run_cons, ih2]
    cases hob : s.objs (c, k) with
    | none =>
      rw [step_enter_none K s (c, k) hob]
      have e2 := run_objs_other K h1 s (c, k) hno
      rw [step_exit_none K _ (c, k) exc (e2.trans hob), ih1]
    | some ob =>
      exact exit_restores_saved K _ (c, k) exc _
        ((run_objs_other K h1 _ (c, k) hno).trans (step_enter_some K s (c, k) ob hob))

/-- Non-vacuity: a concrete nested history (`with A: with B(same class): pass`, an exceptional exit,
a pre-constructed object) satisfies `WN`. -/
example : WN (fun _ => Kind.value) 0
    [Event.construct (0, 1) ⟨some 5, none, none⟩, Event.construct (0, 2) ⟨some 7, none, none⟩,
     Event.enter (0, 2), Event.enter (0, 1), Event.exit (0, 1) true, Event.exit (0, 2) false] := by
  refine WN.ctor 1 _ _ (WN.ctor 2 _ _ ?_)
  exact WN.block 2 false [Event.enter (0, 1), Event.exit (0, 1) true] []
    (WN.block 1 true [] [] WN.nil (by simp) WN.nil) (by simp [Event.obj?]) WN.nil

/-! ### Class-level setters, re-used / re-entered objects, non-LIFO, composites, slots -/

/-- Class-level `cls._set_state(v)` / `cls._set_value(v)` / `cls._set_value(f, d, h)` is exactly the write
performed by `__enter__` with instance value `v` (so `enter_takes_effect` applies to it), and it touches no
context object. -/
theorem class_setter_takes_effect (K : Nat → Kind) (s : State) (c : Nat) (v : Slots) :
    (step K s (Event.set c v)).globals c = setOnEnter (K c) (s.globals c) v ∧
    (step K s (Event.set c v)).objs = s.objs := by
  simp [step]

/-- `__enter__` of an existing object installs its instance value and snapshots the value in force. -/
theorem enter_takes_effect_step (K : Nat → Kind) (s : State) (o : ObjId) (ob : Obj) (h : s.objs o = some ob) :
    (step K s (Event.enter o)).globals o.1 = setOnEnter (K o.1) (s.globals o.1) ob.inst ∧
    (step K s (Event.enter o)).objs o = some { ob with saved := s.globals o.1 } := by
  simp [step, h]

/-- **Re-used objects**: after ANY earlier history `h0a ++ construct o :: h0b` (in which `o` may have been entered
and exited any number of times, in any order, with class-level setters in between), one more
`enter o … exit o` block (body `h` arbitrary but not naming `o`) restores exactly the value in force just before
that entry.  No escape clause. -/
theorem exit_restores_entry_value_reused (K : Nat → Kind) (s : State) (o : ObjId) (inst : Slots)
    (h0a h0b h : List Event) (exc : Bool) (hno : ∀ e ∈ h, e.obj? ≠ some o) :
    settingVal (K o.1)
        ((run K (run K s (h0a ++ Event.construct o inst :: h0b)) (Event.enter o :: h ++ [Event.exit o exc])).globals o.1)
      = settingVal (K o.1) ((run K s (h0a ++ Event.construct o inst :: h0b)).globals o.1) :=
  block_restores K _ o h exc
    (by rw [run_append, run_cons]; exact run_objs_isSome K _ _ o (step_construct_isSome K _ o inst)) (not_binds_of_obj?_ne hno)

example : ∃ (h0b : List Event), Event.enter (0, 1) ∈ h0b ∧ Event.exit (0, 1) false ∈ h0b ∧ Event.set 0 ⟨some 3, none, none⟩ ∈ h0b :=
  ⟨[Event.enter (0, 1), Event.set 0 ⟨some 3, none, none⟩, Event.exit (0, 1) false], by simp⟩

/-- **Nested re-entry of the SAME object** (`with c: with c: …`): the context objects are not re-entrant; what the
code guarantees is that BOTH exits write back the value in force just before the INNER entry (the outer
snapshot is overwritten).  `h1` is arbitrary; `h2`, `h3` do not name `o`. -/
theorem reentry_nested_guarantee (K : Nat → Kind) (s : State) (o : ObjId) (h1 h2 h3 : List Event) (e1 e2 : Bool)
    (hob : (s.objs o).isSome)
    (hno2 : ∀ e ∈ h2, e.obj? ≠ some o) (hno3 : ∀ e ∈ h3, e.obj? ≠ some o) :
    settingVal (K o.1) ((run K (run K s (Event.enter o :: h1))
        (Event.enter o :: h2 ++ Event.exit o e1 :: h3 ++ [Event.exit o e2])).globals o.1)
      = settingVal (K o.1) ((run K s (Event.enter o :: h1)).globals o.1) :=
  block_restores_across K _ o o h2 h3 e1 e2 (run_objs_isSome K _ s o hob) hno2 hno3

/-- …so a nested re-entry leaks the instance value: `with c(5): with c(5): pass` started at 1 ends at 5. -/
theorem reentry_nested_leaks_counterexample :
    ((run (fun _ => Kind.value) ⟨fun _ => ⟨some 1, none, none⟩, fun _ => none⟩
      [Event.construct (0, 1) ⟨some 5, none, none⟩, Event.enter (0, 1), Event.enter (0, 1),
       Event.exit (0, 1) false, Event.exit (0, 1) false]).globals 0).a = some 5 := by decide

/-- **Non-LIFO interleaving** (generators / threads / manual `__enter__`/`__exit__`; the state is process-global,
there are no thread-locals): each `__exit__` writes back what ITS OWN `__enter__` observed, whatever happened in
between.  For the crossing pattern `enter o1 … enter o2 … exit o1 … exit o2` the final value is therefore the one
in force just before `enter o2` — i.e. `o1`'s value if both are contexts of the same setting. -/
theorem interleaved_non_lifo (K : Nat → Kind) (s : State) (o1 o2 : ObjId) (h1 h2 h3 : List Event) (e1 e2 : Bool)
    (hob : (s.objs o2).isSome) (hne : o1 ≠ o2)
    (hno2 : ∀ e ∈ h2, e.obj? ≠ some o2) (hno3 : ∀ e ∈ h3, e.obj? ≠ some o2) :
    settingVal (K o2.1) ((run K (run K s (Event.enter o1 :: h1))
        (Event.enter o2 :: h2 ++ Event.exit o1 e1 :: h3 ++ [Event.exit o2 e2])).globals o2.1)
      = settingVal (K o2.1) ((run K s (Event.enter o1 :: h1)).globals o2.1) :=
  block_restores_across K _ o2 o1 h2 h3 e1 e2 (run_objs_isSome K _ s o2 hob) hno2 hno3

/-- …and that is a leak for two contexts of one setting: started at 1, `enter A(5); enter B(7); exit A; exit B` ends at 5. -/
theorem non_lifo_leaks_counterexample :
    ((run (fun _ => Kind.value) ⟨fun _ => ⟨some 1, none, none⟩, fun _ => none⟩
      [Event.construct (0, 1) ⟨some 5, none, none⟩, Event.construct (0, 2) ⟨some 7, none, none⟩,
       Event.enter (0, 1), Event.enter (0, 2), Event.exit (0, 1) false, Event.exit (0, 2) false]).globals 0).a = some 5 := by
  decide

/-- Histories as produced by `with` statements over single contexts and composites: ONE stack across all
settings; construction and probe pokes anywhere; no class-level setter. -/
inductive WNAll (K : Nat → Kind) : List Event → Prop
  | nil : WNAll K []
  | ctor (o : ObjId) (inst : Slots) (h : List Event) : WNAll K h → WNAll K (Event.construct o inst :: h)
  | poke (c : Nat) (r : Bool) (v : Val) (h : List Event) : K c = .flag r → WNAll K h → WNAll K (Event.poke c v :: h)
  | block (o : ObjId) (exc : Bool) (h1 h2 : List Event) :
      WNAll K h1 → (∀ e ∈ h1, e.obj? ≠ some o) → WNAll K h2 →
      WNAll K (Event.enter o :: h1 ++ Event.exit o exc :: h2)
  /-- a `with` block over a composite: members of pairwise different setting classes, entered in member order and
      exited in the SAME order (not LIFO), as `fast_computations` / `linalg_dtypes` do -/
  | comp (ps : List ObjId) (exc : Bool) (h1 h2 : List Event) :
      (ps.map Prod.fst).Nodup → WNAll K h1 → (∀ e ∈ h1, ∀ p ∈ ps, e.obj? ≠ some p) → WNAll K h2 →
      WNAll K (enterAll ps ++ h1 ++ exitAll ps exc ++ h2)

private theorem WN_of_other {K : Nat → Kind} {c : Nat} (l : List Event) (h : ∀ e ∈ l, e.cls ≠ c) : WN K c l := by
  induction l with
  | nil => exact WN.nil
  | cons e l ih =>
    exact WN.other e l (h e List.mem_cons_self) (ih (fun e' he' => h e' (List.mem_cons_of_mem _ he')))

private theorem WN_append {K : Nat → Kind} {c : Nat} {h1 h2 : List Event} (w1 : WN K c h1) (w2 : WN K c h2) :
    WN K c (h1 ++ h2) := by
  induction w1 with
  | nil => exact w2
  | other e h hne _ ih => exact WN.other e _ hne ih
  | ctor k inst h _ ih => exact WN.ctor k inst _ ih
  | poke r v h hk _ ih => exact WN.poke r v _ hk ih
  | block k exc h1 h2' w1 hno _ _ ih2 =>
    have : (Event.enter (c, k) :: h1 ++ Event.exit (c, k) exc :: h2') ++ h2
        = Event.enter (c, k) :: h1 ++ Event.exit (c, k) exc :: (h2' ++ h2) := by simp
    rw [this]; exact WN.block k exc h1 _ w1 hno ih2

/-- A single-stack history is well nested for every class. -/
theorem WNAll_WN {K : Nat → Kind} {h : List Event} (w : WNAll K h) (c : Nat) : WN K c h := by
  induction w with
  | nil => exact WN.nil
  | ctor o inst h _ ih =>
    by_cases hc : o.1 = c
    · obtain ⟨c', k⟩ := o; simp only at hc; subst hc; exact WN.ctor k inst h ih
    · exact WN.other _ _ hc ih
  | poke c' r v h hk _ ih =>
    by_cases hc : c' = c
    · subst hc; exact WN.poke r v h hk ih
    · exact WN.other _ _ hc ih
  | block o exc h1 h2 _ hno _ ih1 ih2 =>
    by_cases hc : o.1 = c
    · obtain ⟨c', k⟩ := o; simp only at hc; subst hc; exact WN.block k exc h1 h2 ih1 hno ih2
    · have : Event.enter o :: h1 ++ Event.exit o exc :: h2
          = [Event.enter o] ++ (h1 ++ ([Event.exit o exc] ++ h2)) := by simp
      rw [this]
      exact WN_append (WN.other _ _ hc WN.nil)
        (WN_append ih1 (WN.other _ _ hc ih2))
  | comp ps exc h1 h2 hnd _ hno _ ih1 ih2 =>
    by_cases hc : ∃ p ∈ ps, p.1 = c
    · obtain ⟨p, hp, hpc⟩ := hc
      obtain ⟨l1, l2, rfl, hd1, hd2⟩ := composite_split hnd hp
      have hmid := composite_mid_obj hd1 hd2 (fun e he => hno e he p hp) exc
      have hshape : enterAll (l1 ++ p :: l2) ++ h1 ++ exitAll (l1 ++ p :: l2) exc ++ h2
          = enterAll l1 ++ (Event.enter p :: (enterAll l2 ++ h1 ++ exitAll l1 exc) ++ Event.exit p exc :: (exitAll l2 exc ++ h2)) := by
        simp [enterAll, exitAll]
      rw [hshape]
      obtain ⟨c', k⟩ := p
      simp only at hpc; subst hpc
      refine WN_append (WN_of_other _ (enterAll_cls l1 c' hd1)) ?_
      refine WN.block k exc _ _ ?_ hmid (WN_append (WN_of_other _ (exitAll_cls l2 exc c' hd2)) ih2)
      exact WN_append (WN_append (WN_of_other _ (enterAll_cls l2 c' hd2)) ih1) (WN_of_other _ (exitAll_cls l1 exc c' hd1))
    · have hall : ∀ q ∈ ps, q.1 ≠ c := fun q hq heq => hc ⟨q, hq, heq⟩
      exact WN_append (WN_append (WN_append (WN_of_other _ (enterAll_cls ps c hall)) ih1)
        (WN_of_other _ (exitAll_cls ps exc c hall))) ih2

/-- **Any well-nested history is the identity on every setting**: after any single-stack `with` history (any
depth, any mix of settings, pre-constructed and re-used objects, exceptional exits) EVERY setting class has its
initial value. -/
theorem wellNested_history_is_identity (K : Nat → Kind) (h : List Event) (hw : WNAll K h) (s : State) (c : Nat) :
    settingVal (K c) ((run K s h).globals c) = settingVal (K c) (s.globals c) :=
  lifo_restores_all K c h (WNAll_WN hw c) s

example : WNAll (fun _ => Kind.value)
    [Event.construct (0, 1) ⟨some 5, none, none⟩, Event.construct (1, 1) ⟨none, none, none⟩,
     Event.enter (0, 1), Event.enter (1, 1), Event.exit (1, 1) true, Event.exit (0, 1) false,
     Event.enter (0, 1), Event.exit (0, 1) false] := by
  refine WNAll.ctor _ _ _ (WNAll.ctor _ _ _ ?_)
  exact WNAll.block (0, 1) false [Event.enter (1, 1), Event.exit (1, 1) true] _
    (WNAll.block (1, 1) true [] [] WNAll.nil (by simp) WNAll.nil) (by simp [Event.obj?])
    (WNAll.block (0, 1) false [] [] WNAll.nil (by simp) WNAll.nil)

example : WNAll (fun _ => Kind.flag false)
    (enterAll [(0, 1), (1, 1), (2, 1)] ++ [Event.enter (1, 2), Event.exit (1, 2) true] ++ exitAll [(0, 1), (1, 1), (2, 1)] false ++ []) :=
  WNAll.comp [(0, 1), (1, 1), (2, 1)] false _ [] (by decide)
    (WNAll.block (1, 2) true [] [] WNAll.nil (by simp) WNAll.nil) (by simp [Event.obj?]) WNAll.nil

/-- **The default is observed outside**: after a history that is well nested for flag class `c`, `on()` and
`is_default()` report what they reported before — in particular a flag that was never set still reports its
`_default` and `is_default() = True`. -/
theorem default_observed_outside (K : Nat → Kind) (c : Nat) (h : List Event) (hw : WN K c h) (s : State) (dflt : Bool) :
    flagOn dflt ((run K s h).globals c) = flagOn dflt (s.globals c) ∧
    isDefault ((run K s h).globals c) = isDefault (s.globals c) ∧
    ((s.globals c).a = none → flagOn dflt ((run K s h).globals c) = dflt) := by
  have ha := settingVal_a _ _ _ (lifo_restores_all K c h hw s)
  refine ⟨?_, ?_, ?_⟩
  · simp [flagOn, ha]
  · simp [isDefault, ha]
  · intro h0; simp [flagOn, ha, h0]

/-- Event `e` names no value for slot `i` of per-dtype class `c` (constructor argument / class-level setter
argument for that dtype is `None`). -/
def Event.leavesSlot (c : Nat) (i : Slot) : Event → Prop
  | .construct o inst => o.1 = c → inst.get i = none
  | .set c' v => c' = c → v.get i = none
  | .poke c' _ => c' ≠ c
  | _ => True

/-- Invariant: slot `i` of class `c` holds `v0`, and so does every snapshot; no object names the slot. -/
structure SlotInv (c : Nat) (i : Slot) (v0 : Val) (s : State) : Prop where
  g : (s.globals c).get i = v0
  objs : ∀ k ob, s.objs (c, k) = some ob → ob.inst.get i = none ∧ ob.saved.get i = v0

private theorem slotInv_step (K : Nat → Kind) (c : Nat) (i : Slot) (v0 : Val) (hk : K c = .dtype)
    (s : State) (e : Event) (he : e.leavesSlot c i) (inv : SlotInv c i v0 s) : SlotInv c i v0 (step K s e) := by
  obtain ⟨hg, hobjs⟩ := inv
  -- the two halves of the invariant after a write to the attributes of class `x` / to the record of object `x`
  have G : ∀ x v, (x = c → v.get i = v0) → (upd s.globals x v c).get i = v0 := by
    intro x v h; unfold upd; split
    · rename_i hx; exact h hx.symm
    · exact hg
  have O : ∀ x (r : Obj), (x.1 = c → r.inst.get i = none ∧ r.saved.get i = v0) →
      ∀ k ob, upd s.objs x (some r) (c, k) = some ob → ob.inst.get i = none ∧ ob.saved.get i = v0 := by
    intro x r h k ob; unfold upd; split
    · rename_i hx; intro hr; cases hr; exact h (hx ▸ rfl)
    · exact hobjs k ob
  cases e with
  | construct o inst => exact ⟨hg, O o _ fun hc => ⟨he hc, hc ▸ hg⟩⟩
  | enter o =>
    simp only [step]
    split
    · exact ⟨hg, hobjs⟩
    · rename_i ob0 hob0
      obtain ⟨c', k0⟩ := o
      refine ⟨G c' _ fun hc => ?_, O _ _ fun hc => ?_⟩ <;> subst hc
      · rw [hk, setOnEnter_dtype_get _ _ _ (hobjs k0 ob0 hob0).1]; exact hg
      · exact ⟨(hobjs k0 ob0 hob0).1, hg⟩
  | exit o exc =>
    simp only [step]
    split
    · exact ⟨hg, hobjs⟩
    · rename_i ob0 hob0
      obtain ⟨c', k0⟩ := o
      refine ⟨G c' _ fun hc => ?_, hobjs⟩
      subst hc; rw [hk]; exact (hobjs k0 ob0 hob0).2
  | poke c' v => exact ⟨G c' _ fun hc => absurd hc he, hobjs⟩
  | set c' v =>
    refine ⟨G c' _ fun hc => ?_, hobjs⟩
    subst hc; rw [hk, setOnEnter_dtype_get _ _ _ (he rfl)]; exact hg

/-- **dtype slot isolation over arbitrary histories** (all three slots `i`): as long as no constructor call and no
class-level `_set_value` names a value for dtype slot `i` of per-dtype setting `c`, that slot NEVER changes —
for every history whatsoever (non-LIFO exits, nested re-entry, exceptional exits, events of other settings),
not only well-nested ones. -/
theorem dtype_slot_never_touched (K : Nat → Kind) (c : Nat) (i : Slot) (v0 : Val) (hk : K c = .dtype)
    (h : List Event) (hl : ∀ e ∈ h, e.leavesSlot c i) (s : State) (inv : SlotInv c i v0 s) :
    SlotInv c i v0 (run K s h) := by
  induction h generalizing s with
  | nil => exact inv
  | cons e h ih =>
    rw [run_cons]
    exact ih (fun e' he' => hl e' (List.mem_cons_of_mem _ he')) _
      (slotInv_step K c i v0 hk s e (hl e List.mem_cons_self) inv)

/-- Non-vacuity: every state without context objects satisfies the invariant (for its current slot value), and a
history writing the float and half slots leaves the double slot alone. -/
example (g : Nat → Slots) (c : Nat) (i : Slot) : SlotInv c i ((g c).get i) ⟨g, fun _ => none⟩ :=
  ⟨rfl, fun _ _ h => by simp at h⟩

example : ∀ e ∈ [Event.construct (5, 1) ⟨some 3, none, some 4⟩, Event.enter (5, 1), Event.set 5 ⟨some 9, none, none⟩,
    Event.enter (5, 1), Event.exit (5, 1) true], e.leavesSlot 5 Slot.b := by
  simp [Event.leavesSlot, Slots.get]

/-- `deterministic_probes`: every write of the flag's state (`__enter__`, `__exit__`, class-level `_set_state`)
clears the probe-vector cache. -/
theorem probe_cache_reset (K : Nat → Kind) (s : State) (c : Nat) (hk : K c = .flag true) :
    (∀ k ob, s.objs (c, k) = some ob → ((step K s (Event.enter (c, k))).globals c).b = none) ∧
    (∀ k ob exc, s.objs (c, k) = some ob → ((step K s (Event.exit (c, k) exc)).globals c).b = none) ∧
    (∀ v, ((step K s (Event.set c v)).globals c).b = none) := by
  refine ⟨?_, ?_, ?_⟩
  · intro k ob h; simp [step, h, hk, setOnEnter]
  · intro k ob exc h; simp [step, h, hk, restore]
  · intro v; simp [step, hk, setOnEnter]

/-- **Composite block** (`with fast_computations(…):` / `with linalg_dtypes(…):`): members of pairwise different
setting classes, entered in list order and exited in the SAME list order (as the code does), any body `h` that
does not name the members: every member's setting is restored. -/
theorem composite_block_restores (K : Nat → Kind) (s : State) (ps : List ObjId) (h : List Event) (exc : Bool)
    (hnd : (ps.map Prod.fst).Nodup) (hob : ∀ p ∈ ps, (s.objs p).isSome)
    (hno : ∀ e ∈ h, ∀ p ∈ ps, e.obj? ≠ some p) :
    ∀ p ∈ ps, settingVal (K p.1) ((run K s (enterAll ps ++ h ++ exitAll ps exc)).globals p.1)
      = settingVal (K p.1) (s.globals p.1) := by
  intro p hp
  obtain ⟨l1, l2, rfl, hd1, hd2⟩ := composite_split hnd hp
  have hmid := composite_mid_obj hd1 hd2 (fun e he => hno e he p hp) exc
  have hshape : enterAll (l1 ++ p :: l2) ++ h ++ exitAll (l1 ++ p :: l2) exc
      = enterAll l1 ++ ((Event.enter p :: (enterAll l2 ++ h ++ exitAll l1 exc) ++ [Event.exit p exc]) ++ exitAll l2 exc) := by
    simp [enterAll, exitAll]
  rw [hshape, run_append, run_append,
    run_globals_other K (exitAll l2 exc) _ p.1 (exitAll_cls l2 exc p.1 hd2)]
  rw [block_restores K (run K s (enterAll l1)) p _ exc (run_objs_isSome K _ s p (hob p hp)) (not_binds_of_obj?_ne hmid),
    run_globals_other K (enterAll l1) s p.1 (enterAll_cls l1 p.1 hd1)]

/-- **Composite `__enter__` failing at member `j`** — what the code does: the first `j` members stay entered (they hold
their instance values), the others are untouched, and `with` never calls `__exit__`.  FULL CLAIM WANTED BY THE
PROPERTY (`composite_partial_enter_restores`): after a failed composite `__enter__` every member's setting has
the value it had before.  That is FALSE for the code as it is (`composite_partial_enter_counterexample`); what
holds is: once the already-entered prefix is exited (which is what notes/C17_fix_1.diff makes `__enter__` do
before re-raising), every member is restored. -/
theorem composite_partial_enter_restores_partial (K : Nat → Kind) (s : State) (ps : List ObjId) (j : Nat) (exc : Bool)
    (hnd : (ps.map Prod.fst).Nodup) (hob : ∀ p ∈ ps, (s.objs p).isSome) :
    (∀ p ∈ ps.drop j, (run K s (enterFail ps j)).globals p.1 = s.globals p.1) ∧
    (∀ p ∈ ps, settingVal (K p.1) ((run K s (enterFail ps j ++ exitAll (ps.take j) exc)).globals p.1)
      = settingVal (K p.1) (s.globals p.1)) := by
  have hsplit : ps = ps.take j ++ ps.drop j := (List.take_append_drop j ps).symm
  have hnd' : ((ps.take j).map Prod.fst ++ (ps.drop j).map Prod.fst).Nodup := by
    rw [← List.map_append, ← hsplit]; exact hnd
  -- the members that were entered are of other classes than those that were not
  have hcls : ∀ p ∈ ps.drop j, ∀ q ∈ ps.take j, q.1 ≠ p.1 := fun p hp q hq =>
    (List.nodup_append.mp hnd').2.2 q.1 (List.mem_map_of_mem hq) p.1 (List.mem_map_of_mem hp)
  refine ⟨fun p hp => run_globals_other K _ s p.1 (enterAll_cls _ p.1 (hcls p hp)), fun p hp => ?_⟩
  rw [hsplit] at hp
  rcases List.mem_append.mp hp with hp | hp
  · simpa [enterFail] using composite_block_restores K s (ps.take j) [] exc (List.nodup_append.mp hnd').1
      (fun q hq => hob q (List.mem_of_mem_take hq)) (by simp) p hp
  · rw [run_globals_other K (enterFail ps j ++ _) s p.1 fun e he => (List.mem_append.mp he).elim
      (enterAll_cls _ p.1 (hcls p hp) e) (exitAll_cls _ exc p.1 (hcls p hp) e)]

/-- The code as it is: `fast_computations.__enter__` whose second member raises leaves the first member set
(default/unset `none` → `some 0`, i.e. `False`): a leak out of a `with` statement whose body never ran. -/
theorem composite_partial_enter_counterexample :
    ((run (fun _ => Kind.flag false) ⟨fun _ => ⟨none, none, none⟩, fun _ => none⟩
      ([Event.construct (0, 1) ⟨some 0, none, none⟩, Event.construct (1, 1) ⟨some 0, none, none⟩,
        Event.construct (2, 1) ⟨some 0, none, none⟩] ++ enterFail [(0, 1), (1, 1), (2, 1)] 1)).globals 0).a = some 0 := by
  decide

/-! ### Obligations on the table generated from today's `settings.py` -/

open LinOp.Generated.C17 in
/-- No setting class overrides the context protocol of its base class; the only override anywhere
is `deterministic_probes._set_state` (modelled as `Kind.flag true`). -/
theorem table_no_protocol_overrides :
    ∀ c ∈ classes, c.defines = [] ∨ (c.name = "deterministic_probes" ∧ c.defines = ["_set_state"]) := by
  decide +kernel

open LinOp.Generated.C17 in
/-- Composite contexts enter and exit exactly their parts, each once, and their parts are contexts
of pairwise different setting classes (so by `no_cross_talk` the order among parts is irrelevant
and `lifo_restores_all` applies to each part class separately). -/
theorem table_composites_sound :
    ∀ c ∈ composites, (c.parts.map Prod.snd).Nodup ∧ (c.parts.map Prod.fst).Nodup ∧
      c.enterOrder.Perm (c.parts.map Prod.fst) ∧ c.exitOrder.Perm (c.parts.map Prod.fst) ∧
      (∀ p ∈ c.parts, ∃ k ∈ classes, k.name = p.2) := by
  decide +kernel

/-! ### Method bodies of today's `settings.py`, translated from the `ast`, pinned and refined -/

/-- The statement lists of `__init__` / `__enter__` / `__exit__` / `_set_state` / `_set_value` of the three base
classes and of `deterministic_probes` (the only setting class defining a protocol method), as translated from
today's source, ARE the canonical bodies (parameters and defaults included); no other setting class defines a
protocol method (any such method would be an extra row).  A body edit breaks this obligation. -/
theorem bodies_pinned : LinOp.Generated.C17.methods = IR.canon := rfl

/-- `value` / `value(dtype)` / `is_default` / `on` / `off` are the canonical readers. -/
theorem readers_pinned : LinOp.Generated.C17.readers = IR.canonReaders := rfl

/-- The composites' `__init__` / `__enter__` / `__exit__` are the canonical ones: members entered and exited in
source order, `__exit__` returns `False`, and `__enter__` is either unguarded (the code as it is; a failing member
leaves the earlier ones entered: `composite_partial_enter_counterexample`) or exactly the guarded form of
notes/C17_fix_1.diff (earlier members exited in member order, exception re-raised:
`composite_partial_enter_restores_partial`).  The harness reads the same text to choose the model of a failed enter. -/
theorem composite_bodies_pinned :
    LinOp.Generated.C17.compositeMethods = IR.canonComposite ∨
    LinOp.Generated.C17.compositeMethods = IR.canonCompositeFixed :=
  .inl rfl  -- today's source is unguarded; with notes/C17_fix_1.diff applied it is `.inr rfl`

/-- Refinement, for ALL values: the class-level setter a class of kind `k` resolves to computes `setOnEnter`. -/
theorem ir_setter_refines (k : Kind) (g v : Slots) :
    IR.setterOf IR.canon k [v.a, v.b, v.c] g = setOnEnter k g v :=
  setterOf_canon k _ g

/-- Refinement, for ALL values: executing the canonical `__enter__` body is the model's `enter` step — it installs
`setOnEnter k g inst`, keeps the instance value, and the snapshot it takes restores exactly like the model's. -/
theorem ir_enter_refines (k : Kind) (g inst saved args : Slots) :
    (IR.runMethod IR.canon k "__enter__" ⟨g, inst, saved, args⟩).g = setOnEnter k g inst ∧
    (IR.runMethod IR.canon k "__enter__" ⟨g, inst, saved, args⟩).inst = inst ∧
    (∀ g', restore k g' (IR.runMethod IR.canon k "__enter__" ⟨g, inst, saved, args⟩).saved = restore k g' g) :=
  runMethod_enter k _

/-- Refinement, for ALL values: the canonical `__exit__` body is the model's `restore`, ignores the exception
info, and returns `False`. -/
theorem ir_exit_refines (k : Kind) (env : IR.Env) :
    (IR.runMethod IR.canon k "__exit__" env).g = restore k env.g env.saved ∧
    IR.returnsFalse (IR.bodyOf IR.canon (IR.baseName k) "__exit__") = true := by
  obtain ⟨h1, h2⟩ := runMethod_exit k env
  exact ⟨by rw [h1], h2⟩

/-- Refinement, for ALL values: the canonical `__init__` body writes no class attribute, records the constructor
arguments as the instance value, and its (unused) snapshot is the construction-time value. -/
theorem ir_init_refines (k : Kind) (g inst saved args : Slots) :
    (IR.runMethod IR.canon k "__init__" ⟨g, inst, saved, args⟩).g = g ∧
    (∀ g', setOnEnter k g' (IR.runMethod IR.canon k "__init__" ⟨g, inst, saved, args⟩).inst = setOnEnter k g' args) ∧
    (∀ g', restore k g' (IR.runMethod IR.canon k "__init__" ⟨g, inst, saved, args⟩).saved = restore k g' g) :=
  runMethod_init k _

/-! ### The hand-written `step` IS the semantics of the pinned bodies, on all histories -/

/-- **Refinement over histories**: run any history through the bodies translated from today's `settings.py`
(`Generated.C17.methods`, executed by the IR semantics) and through the hand-written model `step`: starting from
related states (e.g. the same state without context objects) the class attributes agree after every history, for every
class table `K`.  So every theorem above about `run` is a theorem about the translated code. -/
theorem model_refines_translated_bodies (K : Nat → Kind) (h : List Event) (s1 s2 : State) (hs : IR.Sim K s1 s2) :
    IR.Sim K (run K s1 h) (IR.runIR LinOp.Generated.C17.methods K s2 h) := by
  rw [bodies_pinned]
  induction h generalizing s1 s2 with
  | nil => exact hs
  | cons e h ih => exact ih _ _ (sim_step K s1 s2 e hs)

/-- Non-vacuity: a state without context objects is related to itself, and related states have equal attributes. -/
example (K : Nat → Kind) (g : Nat → Slots) : IR.Sim K ⟨g, fun _ => none⟩ ⟨g, fun _ => none⟩ :=
  ⟨fun _ => rfl, fun _ => trivial⟩

/-- The canonical bodies contain no statement outside the IR. -/
theorem ir_no_unknown_statement : ∀ m ∈ IR.canon, IR.noOther m.body = true := by decide +kernel

end LinOp.C17
