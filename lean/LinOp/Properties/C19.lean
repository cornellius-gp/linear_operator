import LinOp.C19.Proofs
import LinOp.C19.ProofsPair
import LinOp.Generated.C19Guards
import LinOp.C19.Known
import LinOp.C19.KnownDelegations
import LinOp.C19.KnownDispatch
import LinOp.C19.ProofsExt
import LinOp.C19.KnownExt
import LinOp.Generated.C19Ext
/-!
C19 — incompatible shapes and out-of-range indices raise, never mis-compute.  Property theorems.

`Spec.*` is torch's verdict on the densified operator, `Impl.*` the guard the library runs
(see LinOp/C19/Model.lean).  Shapes of operators are written `A ++ [m, n]` (any batch rank).
-/
namespace LinOp.C19
open Spec Impl

/-- **The base guard accepts exactly what `torch.matmul` accepts, with the same result shape** — for
every operator shape `A ++ [m, n]` (any number of batch dimensions, any sizes) and every
second-operand shape `b` (0-d, 1-d, matrix, batched; broadcastable or not). -/
theorem matmulBroadcastShape_iff_torch (A : List Nat) (m n : Nat) (b s : List Nat) :
    matmulBroadcastShape (A ++ [m, n]) b = .ok s ↔ torchMatmulShape? (A ++ [m, n]) b = some s := by
  rw [matmulBroadcastShape_eq_torch]
  cases torchMatmulShape? (A ++ [m, n]) b <;> simp

/-- …and it raises exactly when torch raises. -/
theorem matmulBroadcastShape_error_iff_torch_none (A : List Nat) (m n : Nat) (b : List Nat) :
    (∃ e, matmulBroadcastShape (A ++ [m, n]) b = .error e) ↔ torchMatmulShape? (A ++ [m, n]) b = none := by
  rw [matmulBroadcastShape_eq_torch]
  cases torchMatmulShape? (A ++ [m, n]) b <;> simp

/-- `inv_quad`'s guard = square ∧ torch-valid product, same shape. -/
theorem invQuadGuard_iff (A : List Nat) (m n : Nat) (b s : List Nat) :
    invQuadGuard (A ++ [m, n]) b = .ok s ↔ solveShape? (A ++ [m, n]) b = some s := by
  by_cases h : m = n
  · subst h
    simp only [invQuadGuard, solveShape?, split2_append]
    simpa using matmulBroadcastShape_iff_torch A m m b s
  · simp [invQuadGuard, solveShape?, split2_append, h]

/-- **Square-only operations raise on rectangular operators** (`solve`, `inv_quad`,
`inv_quad_logdet`, `add_diagonal`), whatever the second operand. -/
theorem square_only (A : List Nat) (m n : Nat) (b : List Nat) (h : m ≠ n) :
    solveGuard (A ++ [m, n]) b = .error .notSquare ∧
    invQuadGuard (A ++ [m, n]) b = .error .notSquare ∧
    iqlGuard (A ++ [m, n]) b = .error .notSquare ∧
    addDiagonalGuard (A ++ [m, n]) b = .error .notSquare := by
  simp [solveGuard, invQuadGuard, iqlGuard, addDiagonalGuard, split2_append, h]

/-! ### The matmul overrides: guard + shortcut.
`diagMatmul` / `identityMatmul` are the shortcuts the overrides compute *after* the guard; the counterexamples
show what the shortcut alone would accept (the defects D23 / D24 fixed by the guard), the `…Guarded_iff_torch`
theorems are the property for the code as it is. -/

/-- D23: Diag / ConstantDiag `matmul` multiplies elementwise: a 3×3 diagonal operator times a 1×2
tensor is accepted (result 3×2) although torch rejects it; likewise a length-1 vector. -/
theorem diagMatmul_counterexample :
    diagMatmul [] 3 [1, 2] = .ok [3, 2] ∧ torchMatmulShape? [3, 3] [1, 2] = none ∧
    diagMatmul [] 3 [1] = .ok [3] ∧ torchMatmulShape? [3, 3] [1] = none ∧
    diagMatmul [2] 3 [] = .ok [2, 3, 1] ∧ torchMatmulShape? [2, 3, 3] [] = none := by decide +kernel

/-- *Partial* form of the property for Diag/ConstantDiag: when the operand's row count already
equals the matrix size, the override accepts exactly what torch accepts (batches included). -/
theorem diagMatmul_partial (A B : List Nat) (n p : Nat) (s : List Nat) :
    diagMatmul A n (B ++ [n, p]) = .ok s ↔ torchMatmulShape? (A ++ [n, n]) (B ++ [n, p]) = some s := by
  have e4 : (B ++ [n, p]).length ≠ 1 := by simp
  rw [torch_mm_mat]
  simp only [diagMatmul, e4, if_false, broadcast_append_col, if_true]
  cases broadcastShapes? A B <;> simp

/-- The elementwise shortcut is never too strict: everything torch accepts it accepts with torch's shape. -/
theorem diagMatmul_complete (A : List Nat) (n : Nat) (b s : List Nat)
    (h : torchMatmulShape? (A ++ [n, n]) b = some s) : diagMatmul A n b = .ok s := by
  rcases shape_cases b with rfl | ⟨p, rfl⟩ | ⟨B, k, p, rfl⟩
  · rw [torch_mm_scalar] at h; cases h
  · obtain ⟨rfl, rfl⟩ := of_torch_mm_vec h
    simp [diagMatmul, broadcast_append_vec]
  · cases inner_eq_of_torch_mm_mat h
    exact (diagMatmul_partial A B n p s).2 h

/-- D24: Identity `matmul` / `solve` return the argument: 3×3 identity "times" a 4×2 tensor is 4×2. -/
theorem identityMatmul_counterexample :
    identityMatmul [] 3 [4, 2] = .ok [4, 2] ∧ torchMatmulShape? [3, 3] [4, 2] = none ∧
    identityMatmul [2] 3 [5] = .ok [2, 5] ∧ torchMatmulShape? [2, 3, 3] [5] = none := by decide +kernel

/-- *Partial*: for operands whose row count is the matrix size, Identity agrees with torch. -/
theorem identityMatmul_partial (A B : List Nat) (n p : Nat) (s : List Nat) :
    identityMatmul A n (B ++ [n, p]) = .ok s ↔ torchMatmulShape? (A ++ [n, n]) (B ++ [n, p]) = some s := by
  have e4 : ¬ (B ++ [n, p]).length = 1 := by simp
  rw [torch_mm_mat]
  simp only [identityMatmul, e4, if_false, take_append_two, drop_append_two, if_true]
  by_cases hAB : A = B
  · subst hAB; simp [broadcast_self]
  · rw [broadcast_comm B A]
    simp only [ne_eq, hAB, not_false_eq_true, if_true]
    cases broadcastShapes? A B <;> simp

/-- regression counterexample for the pre-fix Zero `matmul` (it forgot its own batch shape); today's Zero `matmul`
returns the base guard's shape (`matmulVerdict .zero`), covered by `matmulBroadcastShape_iff_torch`. -/
theorem zeroMatmul_counterexample :
    zeroMatmul [2, 3, 3] [3, 2] = .ok [3, 2] ∧ torchMatmulShape? [2, 3, 3] [3, 2] = some [2, 3, 2] ∧
    zeroMatmul [2, 3, 3] [3, 3, 2] = .ok [3, 3, 2] ∧ torchMatmulShape? [2, 3, 3] [3, 3, 2] = none := by decide +kernel

/-- *Partial*: for an unbatched Zero operator the override agrees with torch. -/
theorem zeroMatmul_partial (m n : Nat) (b s : List Nat) :
    zeroMatmul [m, n] b = .ok s ↔ torchMatmulShape? [m, n] b = some s := by
  rcases shape_cases b with rfl | ⟨p, rfl⟩ | ⟨B, k, p, rfl⟩
  · simp [zeroMatmul, torch_mm_scalar, split2]
  · rw [← List.nil_append [m, n], torch_mm_vec]
    by_cases h : n = p <;> simp [zeroMatmul, split2, h]
  · rw [← List.nil_append [m, n], torch_mm_mat, broadcast_nil_left]
    by_cases h : n = k <;> simp [zeroMatmul, split2, h]

/-- **Diag / ConstantDiag / KroneckerProductDiag `matmul(Tensor)` accepts exactly what torch accepts, with torch's
shape** (guard, then elementwise shortcut) — all batch ranks, all operand ranks. -/
theorem diagMatmulGuarded_iff_torch (A : List Nat) (n : Nat) (b s : List Nat) :
    diagMatmulGuarded A n b = .ok s ↔ torchMatmulShape? (A ++ [n, n]) b = some s :=
  guarded_iff_torch A n n b (fun _ => diagMatmul A n b) (diagMatmul_complete A n b) s

/-- the Identity shortcut returns torch's shape on everything torch accepts. -/
theorem identityMatmul_complete (A : List Nat) (n : Nat) (b s : List Nat)
    (h : torchMatmulShape? (A ++ [n, n]) b = some s) : identityMatmul A n b = .ok s := by
  rcases shape_cases b with rfl | ⟨p, rfl⟩ | ⟨B, k, p, rfl⟩
  · rw [torch_mm_scalar] at h; cases h
  · obtain ⟨rfl, rfl⟩ := of_torch_mm_vec h
    by_cases hA : A = []
    · subst hA; simp [identityMatmul]
    · simp [identityMatmul, hA, broadcast_nil_left]
  · cases inner_eq_of_torch_mm_mat h
    exact (identityMatmul_partial A B n p s).2 h

/-- **Identity `matmul` / `solve` accept exactly what torch accepts, with torch's shape.** -/
theorem identityMatmulGuarded_iff_torch (A : List Nat) (n : Nat) (b s : List Nat) :
    identityMatmulGuarded A n b = .ok s ↔ torchMatmulShape? (A ++ [n, n]) b = some s :=
  guarded_iff_torch A n n b (fun _ => identityMatmul A n b) (identityMatmul_complete A n b) s

/-- int and tensor indices are accepted by `__getitem__` exactly when every entry is a valid torch index. -/
theorem tensorIndexGuard_iff (size : Nat) (l : List Int) :
    tensorIndexGuard size l = .ok () ↔ ∀ i ∈ l, indexValid size i = true := by
  rw [tensorIndexGuard, ← List.all_eq_true]
  cases l.all fun i => indexValid size i <;> simp

/-! ### Elementwise operations, expand, cat -/

/-- The base `expand` guard raises whenever fewer than two sizes are given or the last two are
neither the matrix shape nor `(-1, -1)`. -/
theorem expandMatrixGuard_sizes (A : List Nat) (m n : Nat) (S : List Int) (r c : Int) (batch : List Int)
    (h : expandMatrixGuard (A ++ [m, n]) (S ++ [r, c]) = .ok batch) :
    batch = S ∧ ((r = m ∧ c = n) ∨ (r = -1 ∧ c = -1)) := by
  rw [expandMatrixGuard_append] at h
  split at h
  · exact ⟨(Except.ok.inj h).symm, ‹_›⟩
  · cases h

/-- Cat's `_check_args` (which only runs under `settings.debug`) accepts exactly what `torch.cat`
accepts, for ≥ 2 operands and a cat dimension inside the rank. -/
theorem catCheckArgs_iff (s0 s1 : List Nat) (rest : List (List Nat)) (dim : Nat) (hd : dim < s0.length) :
    catCheckArgs (s0 :: s1 :: rest) dim = .ok () ↔ (catShape? (s0 :: s1 :: rest) dim).isSome := by
  simp only [catCheckArgs, catShape?, ge_iff_le, Nat.not_le.2 hd, if_false]
  cases (s1 :: rest).all fun s => s.length = s0.length && s.eraseIdx dim = s0.eraseIdx dim <;> simp

/-! ### Index ranges -/

/-- The debug-mode range check `range(size)[i]` accepts exactly torch's valid integers
`-size ≤ i < size` — for every size and every integer. -/
theorem rangeCheck_iff_indexValid (size : Nat) (i : Int) :
    (∃ k, rangeCheck size i = .ok k) ↔ indexValid size i = true := by
  rw [rangeCheck_eq]
  cases indexValid size i <;> simp

/-- …and normalises a valid index to the torch position. -/
theorem rangeCheck_value (size : Nat) (i : Int) (k : Nat) (h : rangeCheck size i = .ok k) :
    (k : Int) = if 0 ≤ i then i else size + i := by
  obtain ⟨hv, rfl⟩ := of_rangeCheck_ok h
  omega

/-- Why the unconditional `intIndexGuard` is load-bearing: the later rewrite of an int to `slice(i, i+1)`
selects **zero** rows for every out-of-range `i` — no exception, an empty result. -/
theorem intAsSlice_out_of_range_selects_nothing (size : Nat) (i : Int) (h : indexValid size i = false) :
    intAsSliceLen size i = 0 := by
  have hv : ¬ (-(size : Int) ≤ i ∧ i < size) := by rw [← indexValid_iff, h]; decide
  rw [intAsSliceLen_eq, if_neg (by omega)]

/-- The rewrite is right exactly for `0 ≤ i < size` and `-size ≤ i < -1` (it loses `i = -1`, D06). -/
theorem intAsSlice_selects_one_iff (size : Nat) (i : Int) :
    intAsSliceLen size i = 1 ↔ (0 ≤ i ∧ i < size) ∨ (-(size : Int) ≤ i ∧ i < -1) := by
  rw [intAsSliceLen_eq]; split <;> simp [*]

/-- D25: Toeplitz `_get_indices` maps *every* pair of integers into the column — it can never
raise, whatever the indices. -/
theorem toeplitzIndex_never_out_of_range (n : Nat) (hn : 0 < n) (i j : Int) : toeplitzIndex n i j < n := by
  have hn' : (0 : Int) < n := by omega
  have h1 := Int.tmod_lt_of_pos (i - j) hn'
  have h2 := Int.lt_tmod_of_pos (i - j) hn'
  simp only [toeplitzIndex]
  omega

/-- *Partial*: for in-range indices the Toeplitz lookup is the dense entry's `|i − j|`. -/
theorem toeplitzIndex_in_range (n : Nat) (i j : Nat) (hi : i < n) (hj : j < n) :
    toeplitzIndex n i j = ((i : Int) - j).natAbs := by
  simp only [toeplitzIndex]
  have hlt : ((i : Int) - j).natAbs < n := by omega
  rw [Int.natAbs_tmod]
  simp only [Int.natAbs_natCast]
  exact Nat.mod_eq_of_lt hlt

theorem toeplitzIndex_counterexample :
    toeplitzIndex 3 3 0 = 0 ∧ indexValid 3 3 = false := by decide +kernel

/-- Kronecker / Block / BatchRepeat use `fmod(size)` on tensor indices: in range it is the
identity (partial), out of range it wraps silently (counterexample). -/
theorem fmodIndex_in_range (size : Nat) (i : Nat) (h : i < size) : fmodIndex size i = i := by
  simp only [fmodIndex]
  exact Int.tmod_eq_of_lt (by omega) (by omega)

theorem fmodIndex_wraps_counterexample : fmodIndex 2 2 = 0 ∧ indexValid 2 2 = false ∧
    fmodIndex 2 (-3) = -1 := by decide +kernel

/-! ### Elementwise guards, add_diagonal, inv_quad_logdet, Dense expand: exact characterisations -/

/-- **base `add_diagonal` accepts a diagonal exactly when torch accepts `dense + diag_embed(d)` AND the sum keeps the
operator's own shape** — every batch rank, every diag shape (0-d, `(…, n)`, `(…, 1)`).  (torch additionally lets `d` add new
batch dimensions, which the guard refuses: `addDiagonalGuard_stricter_example`.) -/
theorem addDiagonalGuard_iff (A : List Nat) (n : Nat) (d : List Nat) :
    addDiagonalGuard (A ++ [n, n]) d = .ok (A ++ [n, n]) ↔
      addDiagonalShape? (A ++ [n, n]) d = some (A ++ [n, n]) := by
  rw [addDiagonalGuard_ok_iff]; exact ⟨fun h => h.2, fun h => ⟨rfl, h⟩⟩

/-- torch accepts a diag with an extra batch dimension (result 2×3×3); the library's guard is stricter. -/
theorem addDiagonalGuard_stricter_example :
    addDiagonalGuard [3, 3] [2, 3] = .error .shape ∧ addDiagonalShape? [3, 3] [2, 3] = some [2, 3, 3] := by decide +kernel

/-- base `mul` (tensor / operator operand) accepts exactly torch-broadcastable shapes, with the broadcast shape. -/
theorem mulGuard_iff (a b s : List Nat) : mulGuard a b = .ok s ↔ broadcastShapes? a b = some s :=
  mulGuard_ok_iff a b s

/-- base `__add__(Tensor)` under `settings.debug`: exactly the ≥ 2-d tensors whose shape broadcasts with the operator's. -/
theorem addTensorGuard_iff (a b s : List Nat) :
    addTensorGuard a b = .ok s ↔ 2 ≤ b.length ∧ broadcastShapes? a b = some s := by
  rw [addTensorGuard, ← Nat.not_lt]
  split
  · simp [*]
  · simp [*, mulGuard_ok_iff]

/-- whatever `add_diagonal` accepts, the result has the operator's shape. -/
theorem addDiagonalGuard_shape (a d s : List Nat) (h : addDiagonalGuard a d = .ok s) : s = a := by
  revert h
  fun_cases addDiagonalGuard a d <;> intro h <;> cases h <;> rfl

/-- `inv_quad_logdet`'s guard (CG path), matrix right-hand sides: accepted iff same batch shape and matching rows
(strictly stronger than torch: no batch broadcasting). -/
theorem iqlGuard_iff (A B : List Nat) (n k p : Nat) :
    iqlGuard (A ++ [n, n]) (B ++ [k, p]) = .ok () ↔ A.length = B.length ∧ A = B ∧ n = k := by
  have h1 : ¬ ((A ++ [n, n]).length = 2 ∧ (B ++ [k, p]).length = 1) := by simp
  have hl : (A ++ [n, n]).length = (B ++ [k, p]).length ↔ A.length = B.length := by simp
  simp only [iqlGuard, split2_append, ne_eq, not_true_eq_false, if_false, h1, hl]
  by_cases hA : A = B
  · subst hA; by_cases hn : n = k <;> simp [hn]
  · simp [hA]

/-- …and for a vector against an unbatched operator: accepted iff the length matches. -/
theorem iqlGuard_vec (n p : Nat) : iqlGuard [n, n] [p] = .ok () ↔ n = p := by
  have hs : split2 [n, n] = some ([], n, n) := split2_append [] n n
  simp only [iqlGuard, hs]
  by_cases h : n = p <;> simp [h]

/-- `inv_quad_logdet`'s stricter guard only lets torch-valid operands through. -/
theorem iqlGuard_sound (A : List Nat) (n : Nat) (B : List Nat) (k p : Nat)
    (h : iqlGuard (A ++ [n, n]) (B ++ [k, p]) = .ok ()) :
    solveShape? (A ++ [n, n]) (B ++ [k, p]) = some (A ++ [n, p]) := by
  obtain ⟨-, rfl, rfl⟩ := (iqlGuard_iff A B n k p).1 h
  simp [solveShape?, split2_append, torch_mm_mat, broadcast_self]

/-- **Dense `expand` (base guard + `tensor.expand`) accepts exactly what torch's `expand` accepts on the dense tensor, with
the same result shape**, for both admissible spellings of the matrix sizes. -/
theorem denseExpand_iff_torch (A : List Nat) (m n : Nat) (S : List Int) (r c : Int)
    (h : (r = m ∧ c = n) ∨ (r = -1 ∧ c = -1)) (s : List Nat) :
    denseExpand (A ++ [m, n]) (S ++ [r, c]) = .ok s ↔ torchExpand? (A ++ [m, n]) (S ++ [r, c]) = some s := by
  simp only [denseExpand, expandGuard, split2_append, expandMatrixGuard_append, if_pos h]
  rw [torchExpand_matrix A m n S r c h]
  have hS := torchExpand_matrix A m n S m n (.inl ⟨rfl, rfl⟩)
  cases hb : expandBatchOkRev A.reverse S.reverse with
  | false =>
    cases ht : torchExpandRev A.reverse S.reverse with
    | none => simp
    | some t => rw [← Bool.not_eq_true, expandBatchOkRev_iff_torch, ht] at hb; exact absurd rfl hb
  | true => simp only [if_true, hS]; cases torchExpandRev A.reverse S.reverse <;> simp

/-- **The executable `broadcastShapes?` (used by every guard model) is exactly torch's broadcasting rule**, stated as a
relation: result rank = the larger rank; right-aligned, each pair of sizes is equal or contains a 1; the result takes
the non-1 size — for all ranks and sizes. -/
theorem broadcastShapes_iff_rel (a b s : List Nat) :
    broadcastShapes? a b = some s ↔ BroadcastRel a.reverse b.reverse s.reverse := by
  rw [← bcastRev_rel, broadcastShapes?]
  cases bcastRev a.reverse b.reverse <;> simp [List.reverse_eq_iff]

example : BroadcastRel [3, 1, 2] [3, 4] [3, 4, 2] := by
  rw [← bcastRev_rel]; decide

example : addDiagonalGuard [2, 3, 3] [3] = .ok [2, 3, 3] ∧ addDiagonalGuard [2, 3, 3] [2, 1] = .ok [2, 3, 3] := by decide +kernel
example : denseExpand [1, 3, 3] [4, 2, -1, -1] = .ok [4, 2, 3, 3] := by decide +kernel
example : iqlGuard [2, 3, 3] [2, 3, 5] = .ok () := by decide +kernel

/-! ### `solve` and `expand` -/

/-- base `solve` accepts exactly the right-hand sides for which `A⁻¹R` exists (square ∧ torch-valid
product), with the result's shape — all batch ranks, all operand ranks. -/
theorem solveGuard_iff (A : List Nat) (m n : Nat) (b s : List Nat) :
    solveGuard (A ++ [m, n]) b = .ok s ↔ solveShape? (A ++ [m, n]) b = some s :=
  invQuadGuard_iff A m n b s

/-- `solve` with a `left_tensor`: accepted exactly when `A⁻¹R` exists and `L (A⁻¹R)` is a valid product, with that
shape — the right-hand side is judged against the operator, not against the left tensor. -/
theorem solveLeft_iff (A : List Nat) (m n : Nat) (b l s : List Nat) :
    solveLeft (A ++ [m, n]) b l = .ok s ↔ solveLeftShape? (A ++ [m, n]) b l = some s := by
  simp only [solveLeft, solveLeftShape?]
  cases hg : solveGuard (A ++ [m, n]) b with
  | error e =>
    have hn : solveShape? (A ++ [m, n]) b = none := by
      cases hs : solveShape? (A ++ [m, n]) b with
      | none => rfl
      | some t => rw [← solveGuard_iff] at hs; rw [hs] at hg; cases hg
    simp [hn]
  | ok t =>
    have ht := (solveGuard_iff A m n b t).mp hg
    simp only [ht, Option.bind_some]
    cases torchMatmulShape? l t <;> simp

/-- why the order matters: a left tensor that fits a wrong right-hand side (4 rows for a 5×5 operator) makes
`left_tensor @ right_tensor` a valid product although `A⁻¹R` does not exist. -/
theorem solveLeftUnguarded_counterexample :
    solveLeftUnguarded [5, 5] [4, 2] [2, 4] = .ok [2, 2] ∧ solveLeftShape? [5, 5] [4, 2] [2, 4] = none ∧
    solveLeft [5, 5] [4, 2] [2, 4] = .error .shape := by decide +kernel

/-- base `expand`: for the two admissible spellings of the matrix sizes, the guard accepts exactly the
size lists torch's `expand` accepts for the dense tensor (any batch rank, `-1` included). -/
theorem expandGuard_iff_torch (A : List Nat) (m n : Nat) (S : List Int) (r c : Int)
    (h : (r = m ∧ c = n) ∨ (r = -1 ∧ c = -1)) :
    expandGuard (A ++ [m, n]) (S ++ [r, c]) = .ok S ↔
      (torchExpand? (A ++ [m, n]) (S ++ [r, c])).isSome = true := by
  simp only [expandGuard, split2_append, expandMatrixGuard_append, if_pos h, torchExpand_matrix A m n S r c h,
    Option.isSome_map, ← expandBatchOkRev_iff_torch]
  cases expandBatchOkRev A.reverse S.reverse <;> simp

/-- the entry check of `__getitem__` returns a position inside the dimension -/
theorem rangeCheck_lt (size : Nat) (i : Int) (k : Nat) (h : rangeCheck size i = .ok k) : k < size := by
  obtain ⟨hv, rfl⟩ := of_rangeCheck_ok h
  omega

/-- **With the entry check in place the modular `_get_indices` (Kronecker / Block / BatchRepeat `fmod`) cannot wrap**:
on every index the guard lets through (normalised to `k`), `fmod(size)` is the identity. -/
theorem guarded_fmodIndex_is_identity (size : Nat) (i : Int) (k : Nat) (h : rangeCheck size i = .ok k) :
    fmodIndex size k = k :=
  fmodIndex_in_range size k (rangeCheck_lt size i k h)

/-- …and Toeplitz' `(row − col).fmod(n).abs()` is the dense entry's `|r − c|` for every guarded index pair. -/
theorem guarded_toeplitzIndex (n : Nat) (i j : Int) (r c : Nat)
    (hi : rangeCheck n i = .ok r) (hj : rangeCheck n j = .ok c) :
    toeplitzIndex n r c = ((r : Int) - c).natAbs :=
  toeplitzIndex_in_range n r c (rangeCheck_lt n i r hi) (rangeCheck_lt n j c hj)

example : rangeCheck 4 (-1) = .ok 3 := by decide +kernel

/-! ### Operator ⋆ operator shortcuts on the internal tensors (BlockDiag @ BlockDiag, Diag @ Diag, ConstantDiag ± ConstantDiag) -/

/-- **`BlockDiag @ BlockDiag` (guard first, then the block-wise shortcut for EQUAL base shapes) accepts exactly what torch accepts
for the two dense block-diagonal matrices, with torch's shape** — for all batch shapes `B`, `B'`, block counts `nb`, `nb'` and
block sizes `k`, `j`. -/
theorem blockDiagPairMatmul_iff_torch (B B' : List Nat) (nb k nb' j : Nat) (s : List Nat) :
    blockDiagPairMatmul (B ++ [nb, k, k]) (B' ++ [nb', j, j]) = .ok s ↔
      torchMatmulShape? (B ++ [nb * k, nb * k]) (B' ++ [nb' * j, nb' * j]) = some s := by
  simp only [blockDiagPairMatmul, blockDiagShape_append]
  refine guarded_iff_torch _ _ _ _ _ (fun t ht => ?_) s
  split
  · next he =>
    obtain ⟨rfl, ht'⟩ := List.append_inj' he rfl
    cases ht'
    rw [torch_mm_self] at ht
    rw [blockDiagOfBaseProduct_self, ← Option.some.inj ht]
  · rfl

/-- Statement about the PREVIOUS code (before 53611b1, shortcut tried before any guard): with the equal-base-shape condition
it, too, accepted exactly what torch accepts. -/
theorem blockDiagPairMatmulUnguarded_iff_torch (B B' : List Nat) (nb k nb' j : Nat) (s : List Nat) :
    blockDiagPairMatmulUnguarded (B ++ [nb, k, k]) (B' ++ [nb', j, j]) = .ok s ↔
      torchMatmulShape? (B ++ [nb * k, nb * k]) (B' ++ [nb' * j, nb' * j]) = some s := by
  simp only [blockDiagPairMatmulUnguarded, blockDiagShape_append]
  split
  · next he =>
    obtain ⟨rfl, ht'⟩ := List.append_inj' he rfl
    cases ht'
    rw [blockDiagOfBaseProduct_self, torch_mm_self]
    simp
  · exact matmulBroadcastShape_iff_torch B (nb * k) (nb * k) _ s

/-- Statement about the PREVIOUS (unguarded) structure — why its condition had to compare the WHOLE base shape, and why the
guard now comes first: with "same block size" only, a 1-block 3×3 operator times a
2-block 6×6 operator is accepted (the size-1 block dimension broadcasts inside `base @ base`) and yields a 6×6 result,
although torch refuses (3×3)@(6×6); likewise against a batched base, in both orders. -/
theorem blockDiagPairMatmulLoose_counterexample :
    blockDiagPairMatmulLoose [1, 3, 3] [2, 3, 3] = .ok [6, 6] ∧ torchMatmulShape? [3, 3] [6, 6] = none ∧
    blockDiagPairMatmulLoose [2, 3, 3] [1, 3, 3] = .ok [6, 6] ∧ torchMatmulShape? [6, 6] [3, 3] = none ∧
    blockDiagPairMatmulLoose [1, 3, 3] [2, 2, 3, 3] = .ok [2, 6, 6] ∧ torchMatmulShape? [3, 3] [2, 6, 6] = none ∧
    blockDiagPairMatmul [1, 3, 3] [2, 3, 3] = .error .shape ∧ blockDiagPairMatmul [1, 3, 3] [2, 2, 3, 3] = .error .shape := by
  decide +kernel

/-- **`Diag @ Diag` (guard, then the elementwise product of the two diagonals) accepts exactly what torch accepts for the
dense diagonal matrices, with torch's shape** — all batch shapes, all diagonal lengths. -/
theorem diagPairMatmul_iff_torch (A : List Nat) (n : Nat) (B : List Nat) (m : Nat) (s : List Nat) :
    diagPairMatmul A n B m = .ok s ↔ torchMatmulShape? (A ++ [n, n]) (B ++ [m, m]) = some s :=
  guarded_iff_torch A n n _ (fun _ => diagPairMatmulUnguarded A n B m) (diagPairMatmulUnguarded_complete A n B m) s

/-- the product of the diagonals alone (shortcut in front of the guard) broadcasts a length-1 diagonal: a 1×1 diagonal
operator times a 3×3 one would be 3×3. -/
theorem diagPairMatmulUnguarded_counterexample :
    diagPairMatmulUnguarded [] 1 [] 3 = .ok [3, 3] ∧ torchMatmulShape? [1, 1] [3, 3] = none ∧
    diagPairMatmul [] 1 [] 3 = .error .shape := by decide +kernel

/-- `ConstantDiag + ConstantDiag` for equal matrix sizes accepts exactly the broadcastable batch shapes. -/
theorem constantDiagPairAdd_iff (A B : List Nat) (n : Nat) (s : List Nat) :
    constantDiagPairAdd A n B n = .ok s ↔ broadcastShapes? (A ++ [n, n]) (B ++ [n, n]) = some s := by
  simp only [constantDiagPairAdd, ne_eq, not_true_eq_false, if_false, broadcast_append_same, broadcast_append_same2]
  cases broadcastShapes? A B <;> simp

/-- different matrix sizes always raise (the `diag_shape` comparison), whatever the batch shapes of the constants -/
theorem constantDiagPairAdd_size_mismatch (A B : List Nat) (n m : Nat) (h : n ≠ m) :
    constantDiagPairAdd A n B m = .error .shape := by
  simp [constantDiagPairAdd, h]

/-- **`ConstantDiag + ConstantDiag` (also Identity, and `-`): whatever the shortcut accepts torch accepts for the dense
matrices, with the same shape** — all batch shapes of the constants, all matrix sizes. -/
theorem constantDiagPairAdd_sound (A : List Nat) (n : Nat) (B : List Nat) (m : Nat) (s : List Nat)
    (h : constantDiagPairAdd A n B m = .ok s) : broadcastShapes? (A ++ [n, n]) (B ++ [m, m]) = some s := by
  by_cases hnm : n = m
  · subst hnm; exact (constantDiagPairAdd_iff A B n s).1 h
  · rw [constantDiagPairAdd_size_mismatch A B n m hnm] at h; cases h

/-- Why the size comparison is load-bearing: the two `(*batch, 1)` constants always broadcast, so without it `c₁·I₃ + c₂·I₄`
is a 3×3 operator (and `c₁·I₄ + c₂·I₁` a 4×4 one with the wrong off-diagonal), although torch refuses (3×3)+(4×4). -/
theorem constantDiagPairAddUnchecked_counterexample :
    constantDiagPairAddUnchecked [] 3 [] 4 = .ok [3, 3] ∧ broadcastShapes? [3, 3] [4, 4] = none ∧
    constantDiagPairAddUnchecked [2] 4 [] 3 = .ok [2, 4, 4] ∧ broadcastShapes? [2, 4, 4] [3, 3] = none ∧
    constantDiagPairAdd [] 3 [] 4 = .error .shape := by decide +kernel

example : blockDiagPairMatmul [2, 3, 3] [2, 3, 3] = .ok [6, 6] ∧ diagPairMatmul [2] 3 [] 3 = .ok [2, 3, 3] ∧
    constantDiagPairAdd [2] 3 [1] 3 = .ok [2, 3, 3] := by decide +kernel

/-! ### Square-requirement guards -/

/-- **A method with the `is_square` guard accepts an operator exactly when it is square; a method without it accepts every
shape** — any batch rank. -/
theorem squareGuard_iff (g : Bool) (A : List Nat) (m n : Nat) :
    squareGuard g (A ++ [m, n]) = .ok () ↔ (g = true → m = n) := by
  simp only [squareGuard, split2_append]
  cases g <;> by_cases h : m = n <;> simp [h]

/-- a guarded method raises `notSquare` on every rectangular operator -/
theorem squareGuard_rect (A : List Nat) (m n : Nat) (h : m ≠ n) :
    squareGuard true (A ++ [m, n]) = .error .notSquare := by
  simp [squareGuard, split2_append, h]

/-- class level: if the first class of the MRO that defines `method` carries the guard in the table, the method raises on
every rectangular operator; the verdict depends on that class's row only. -/
theorem squareGuardOf_rect (table : List ((String × String) × Bool)) (mro : List String) (method : String)
    (A : List Nat) (m n : Nat) (h : m ≠ n)
    (hd : mro.findSome? (fun c => table.lookup (c, method)) = some true) :
    squareGuardOf table mro method (A ++ [m, n]) = .error .notSquare := by
  simp [squareGuardOf, hd, squareGuard_rect A m n h]

example : squareGuardOf [(("LinearOperator", "solve"), true)] ["DenseLinearOperator", "LinearOperator"] "solve" [2, 3, 4]
    = .error .notSquare := by decide +kernel

/-! ### Obligations over the table regenerated from the source on every run -/

/-- How the shape / index guard of a public entry point is accounted for. -/
inductive GuardRef
  | lemma (thm : Lean.Name)                 -- its own guard is modelled; `thm` is the proved characterisation
  | via (method : String) (thm : Lean.Name) -- forwards its operand to public `method`, whose guard lemma is `thm`
  | alwaysRaises                            -- raises for every operand (ZeroLinearOperator is not invertible)
  | scalarOnly                              -- takes a python scalar only; no shape to check
  | sweepOnly                               -- no proved guard: covered by the implementation sweep against torch only
  | uncovered                               -- neither proved nor swept (base sqrt_inv_matmul: contour-integral quadrature)

def GuardRef.proved : GuardRef → Bool
  | .lemma _ | .via _ _ | .alwaysRaises | .scalarOnly => true
  | _ => false

/-- entry point ↦ guard lemma.  The names are checked by the elaborator (``` ``name ``` must resolve to a declaration). -/
def guardTable : List ((String × String) × GuardRef) := [
  (("AddedDiagLinearOperator", "__add__"), .sweepOnly),
  (("ConstantDiagLinearOperator", "__add__"), .sweepOnly),
  (("DenseLinearOperator", "__add__"), .sweepOnly),
  (("DiagLinearOperator", "__add__"), .sweepOnly),
  (("KroneckerProductAddedDiagLinearOperator", "__add__"), .sweepOnly),
  (("KroneckerProductLinearOperator", "__add__"), .sweepOnly),
  (("LinearOperator", "__add__"), .lemma ``addTensorGuard_iff),
  (("LowRankRootAddedDiagLinearOperator", "__add__"), .sweepOnly),
  (("LowRankRootLinearOperator", "__add__"), .sweepOnly),
  (("SumLinearOperator", "__add__"), .sweepOnly),
  (("TriangularLinearOperator", "__add__"), .sweepOnly),
  (("ZeroLinearOperator", "__add__"), .lemma ``mulGuard_iff),
  (("LinearOperator", "__getitem__"), .lemma ``rangeCheck_iff_indexValid),
  (("LinearOperator", "__matmul__"), .via "matmul" ``matmulBroadcastShape_iff_torch),
  (("LinearOperator", "__mul__"), .via "mul" ``mulGuard_iff),
  (("LinearOperator", "__radd__"), .via "__add__" ``addTensorGuard_iff),
  (("LinearOperator", "__rmatmul__"), .via "rmatmul" ``Ext.rmatmulGuard_iff_torch),
  (("LinearOperator", "__rmul__"), .via "mul" ``mulGuard_iff),
  (("LinearOperator", "__rsub__"), .via "__add__" ``addTensorGuard_iff),
  (("LinearOperator", "__sub__"), .via "__add__" ``addTensorGuard_iff),
  (("LinearOperator", "add"), .via "__add__" ``addTensorGuard_iff),
  (("AddedDiagLinearOperator", "add_diagonal"), .via "add_diagonal" ``Ext.diagAddDiagonal_iff_torch),
  (("DiagLinearOperator", "add_diagonal"), .lemma ``Ext.diagAddDiagonal_iff_torch),
  (("KroneckerProductLinearOperator", "add_diagonal"), .lemma ``Ext.kronAddDiagonal_iff_torch),
  (("LinearOperator", "add_diagonal"), .lemma ``addDiagonalGuard_iff),
  (("LowRankRootLinearOperator", "add_diagonal"), .lemma ``Ext.lowRankRootAddDiagonal_sound),
  (("TriangularLinearOperator", "add_diagonal"), .via "add_diagonal" ``addDiagonalGuard_iff),
  (("ZeroLinearOperator", "add_diagonal"), .lemma ``Ext.zeroAddDiagonal_eq_base),
  (("BatchRepeatLinearOperator", "add_jitter"), .scalarOnly),
  (("LinearOperator", "add_jitter"), .scalarOnly),
  (("ToeplitzLinearOperator", "add_jitter"), .scalarOnly),
  (("LinearOperator", "expand"), .lemma ``expandGuard_iff_torch),
  (("CholLinearOperator", "inv_quad"), .via "solve" ``solveGuard_iff),
  (("LinearOperator", "inv_quad"), .lemma ``invQuadGuard_iff),
  (("ZeroLinearOperator", "inv_quad"), .alwaysRaises),
  (("BatchRepeatLinearOperator", "inv_quad_logdet"), .via "inv_quad_logdet" ``matmulBroadcastShape_iff_torch),
  (("BlockDiagLinearOperator", "inv_quad_logdet"), .sweepOnly),
  (("BlockInterleavedLinearOperator", "inv_quad_logdet"), .sweepOnly),
  (("CatLinearOperator", "inv_quad_logdet"), .via "inv_quad_logdet" ``matmulBroadcastShape_iff_torch),
  (("CholLinearOperator", "inv_quad_logdet"), .via "inv_quad" ``solveGuard_iff),
  (("DiagLinearOperator", "inv_quad_logdet"), .lemma ``matmulBroadcastShape_iff_torch),
  (("IdentityLinearOperator", "inv_quad_logdet"), .lemma ``matmulBroadcastShape_iff_torch),
  (("KroneckerProductAddedDiagLinearOperator", "inv_quad_logdet"), .via "inv_quad_logdet" ``iqlGuard_iff),
  (("KroneckerProductLinearOperator", "inv_quad_logdet"), .via "inv_quad_logdet" ``iqlGuard_iff),
  (("LinearOperator", "inv_quad_logdet"), .lemma ``iqlGuard_iff),
  (("LowRankRootAddedDiagLinearOperator", "inv_quad_logdet"), .sweepOnly),
  (("SumKroneckerLinearOperator", "inv_quad_logdet"), .sweepOnly),
  (("TriangularLinearOperator", "inv_quad_logdet"), .sweepOnly),
  (("ZeroLinearOperator", "inv_quad_logdet"), .alwaysRaises),
  (("BlockDiagLinearOperator", "matmul"), .via "matmul" ``matmulBroadcastShape_iff_torch),
  (("ConstantDiagLinearOperator", "matmul"), .via "matmul" ``diagMatmulGuarded_iff_torch),
  (("DiagLinearOperator", "matmul"), .lemma ``diagMatmulGuarded_iff_torch),
  (("IdentityLinearOperator", "matmul"), .lemma ``identityMatmulGuarded_iff_torch),
  (("InterpolatedLinearOperator", "matmul"), .lemma ``matmulBroadcastShape_iff_torch),
  (("LinearOperator", "matmul"), .lemma ``matmulBroadcastShape_iff_torch),
  (("ZeroLinearOperator", "matmul"), .lemma ``matmulBroadcastShape_iff_torch),
  (("LinearOperator", "mul"), .lemma ``mulGuard_iff),
  (("ZeroLinearOperator", "mul"), .lemma ``mulGuard_iff),
  (("LinearOperator", "rmatmul"), .lemma ``Ext.rmatmulGuard_iff_torch),
  (("CholLinearOperator", "solve"), .lemma ``solveGuard_iff),
  (("DiagLinearOperator", "solve"), .via "matmul" ``diagMatmulGuarded_iff_torch),
  (("IdentityLinearOperator", "solve"), .lemma ``solveLeft_iff),
  (("KroneckerProductTriangularLinearOperator", "solve"), .lemma ``solveLeft_iff),
  (("LinearOperator", "solve"), .lemma ``solveLeft_iff),
  (("LowRankRootAddedDiagLinearOperator", "solve"), .lemma ``solveGuard_iff),
  (("TriangularLinearOperator", "solve"), .sweepOnly),
  (("ZeroLinearOperator", "solve"), .alwaysRaises),
  (("DiagLinearOperator", "sqrt_inv_matmul"), .via "matmul" ``diagMatmulGuarded_iff_torch),
  (("IdentityLinearOperator", "sqrt_inv_matmul"), .lemma ``identityMatmulGuarded_iff_torch),
  (("LinearOperator", "sqrt_inv_matmul"), .uncovered),
  (("LinearOperator", "sub"), .via "__add__" ``addTensorGuard_iff)]

/-- the entry points without a proved guard statement (every other one is `.proved`) -/
def unprovedEntryPoints : List (String × String) := [
  ("AddedDiagLinearOperator", "__add__"),
  ("ConstantDiagLinearOperator", "__add__"),
  ("DenseLinearOperator", "__add__"),
  ("DiagLinearOperator", "__add__"),
  ("KroneckerProductAddedDiagLinearOperator", "__add__"),
  ("KroneckerProductLinearOperator", "__add__"),
  ("LowRankRootAddedDiagLinearOperator", "__add__"),
  ("LowRankRootLinearOperator", "__add__"),
  ("SumLinearOperator", "__add__"),
  ("TriangularLinearOperator", "__add__"),
  ("BlockDiagLinearOperator", "inv_quad_logdet"),
  ("BlockInterleavedLinearOperator", "inv_quad_logdet"),
  ("LowRankRootAddedDiagLinearOperator", "inv_quad_logdet"),
  ("SumKroneckerLinearOperator", "inv_quad_logdet"),
  ("TriangularLinearOperator", "inv_quad_logdet"),
  ("TriangularLinearOperator", "solve"),
  ("LinearOperator", "sqrt_inv_matmul")]

open LinOp.Generated.C19 in
/-- **Every public entry point of the generated table is mapped to exactly one guard account**: the hand-kept `guardTable`
has no duplicate keys, covers every generated entry point (class that defines the method × method) and has no stale row.
A new override of `matmul`, `solve`, `__add__`, … in any class adds an entry point that has no row and breaks this. -/
theorem guards_complete :
    (guardTable.map (·.1)).Nodup ∧
    entryPoints.all (fun e => (guardTable.lookup e).isSome) = true ∧
    guardTable.all (fun r => entryPoints.contains r.1) = true := by
  -- the rows stand in the order of the generated list, so only the absence of duplicates is left to evaluation
  have keys : guardTable.map (·.1) = entryPoints := rfl
  simp only [List.all_eq_true, ← keys]
  exact ⟨by decide +kernel, fun e he => lookup_isSome_of_mem_keys guardTable he,
    fun r hr => List.contains_iff_mem.2 (List.mem_map_of_mem hr)⟩

/-- Exactly the listed entry points lack a proved guard lemma (they are compared with torch by the sweep only, the base
`sqrt_inv_matmul` not even that); all others point to a theorem of this file, to a forwarding target with one, or
trivially need none. -/
theorem unproved_entry_points_are_the_known_ones :
    (guardTable.filter (fun r => !r.2.proved)).map (·.1) = unprovedEntryPoints := rfl

example : (guardTable.lookup ("DiagLinearOperator", "matmul")).isSome = true := by decide +kernel

open LinOp.Generated.C19 in
/-- Every class's public `matmul` is defined by a class whose guard behaviour is modelled
(`matmulKindOf`): a new `matmul` override anywhere in the library breaks this obligation. -/
theorem every_matmul_definer_is_modelled :
    matmulDefiners.all (fun d => (matmulKindOf d.2).isSome) = true := by decide +kernel

open LinOp.Generated.C19 in
/-- The overrides of guarded public methods are exactly the known ones (same classes, same methods),
each with the known "reaches the base guard" status (`guarded = true` iff the method body calls
`_matmul_broadcast_shape` or `super().<method>`): removing a guard or adding an override changes the
table and breaks this obligation. -/
theorem overrides_are_the_known_ones : overrides = knownOverrides := rfl

open LinOp.Generated.C19 in
/-- The delegation chains of the solve-type methods (which hooks each public method and each hook calls, and whether on every
path) are the known ones: a hook re-routed past the method that carries the right-hand-side guard, a guarded helper call made
conditional, or a new hook override changes the table and breaks this obligation. -/
theorem delegations_are_the_known_ones : delegations = knownDelegations := rfl

open LinOp.Generated.C19 in
/-- The operator-operator dispatch of `matmul` / `__add__` / `__sub__` / `mul` / `_mul_matrix` / `add_low_rank` (which class
tests, with which exact shape conditions, in which order relative to the shape guard) is the known one — the conditions the
shortcut models (`blockDiagPairMatmul`, `diagPairMatmul`, `constantDiagPairAdd`) mirror. -/
theorem dispatch_conditions_are_the_known_ones : dispatches = knownDispatches := rfl

open LinOp.Generated.C19 in
/-- Which square-only public methods carry the `is_square` guard themselves, per defining class, is the known table
(the `squareGuardOf` model reads the generated table). -/
theorem square_guards_are_the_known_ones : squareGuards = knownSquareGuards := rfl

open LinOp.Generated.C19 in
/-- **Every class's `solve`, `inv_quad`, `inv_quad_logdet`, `add_diagonal`, `diagonal`, `diagonalization`, `root_decomposition`,
`root_inv_decomposition` resolved through the base class raises `notSquare` on every rectangular operator**: for each class
whose MRO reaches the base-class definition of the method, the model's verdict on a `2 × 3` operator is `notSquare`
(with `squareGuardOf_rect` / `squareGuard_iff` this extends to all rectangular shapes: the verdict depends on `m ≠ n` only). -/
theorem base_square_methods_guarded :
    mros.all (fun cm =>
      ["solve", "inv_quad", "inv_quad_logdet", "add_diagonal", "diagonal", "diagonalization", "root_decomposition",
       "root_inv_decomposition"].all (fun meth =>
        match cm.2.find? (fun c => (squareGuards.lookup (c, meth)).isSome) with
        | some "LinearOperator" => Impl.squareGuardOf squareGuards cm.2 meth [2, 3] == .error .notSquare
        | _ => true)) = true := by
  -- the first class of the MRO with a row decides, so only the base class's eight rows matter
  have base : ∀ meth ∈ ["solve", "inv_quad", "inv_quad_logdet", "add_diagonal", "diagonal", "diagonalization",
      "root_decomposition", "root_inv_decomposition"],
      squareGuards.lookup ("LinearOperator", meth) = some true := by decide +kernel
  simp only [List.all_eq_true]
  intro cm _ meth hm
  split
  · next h => rw [squareGuardOf, findSome?_of_find?_isSome _ _ _ h, base meth hm]; rfl
  · rfl

open LinOp.Generated.C19 in
/-- The base-class methods still contain their guards. -/
theorem base_guards_present : baseGuards.all (fun g => g.2) = true := by decide +kernel

/-! ## Per-class `add_diagonal`, `rmatmul`, the Cat constructor, `cat_rows`, the index count of `__getitem__`, `add_low_rank`
(models in `LinOp/C19/ExtModel.lean`, proofs in `LinOp/C19/ProofsExt.lean`) -/

/-- **Diag / ConstantDiag / Identity / KroneckerProductDiag `add_diagonal` (and AddedDiag / KroneckerProductAddedDiag /
LowRankRootAddedDiag, which forward to their diagonal part) accept exactly the diagonals torch accepts for
`dense + diag_embed(d)`, with torch's result shape** — every batch rank, every diagonal shape (0-d, `(…, n)`, `(…, 1)`, extra
batch dimensions), every `n ≠ 1`.  (`n = 1`: `diagAddDiagonal_size1_example`.) -/
theorem diagAddDiagonal_iff_torch (A : List Nat) (n : Nat) (hn : n ≠ 1) (d s : List Nat) :
    diagAddDiagonal A n d = .ok s ↔ addDiagonalShape? (A ++ [n, n]) d = some s :=
  Ext.diagAddDiagonal_iff_torch A n hn d s

example : diagAddDiagonal [2] 3 [4, 1, 3] = .ok [4, 2, 3, 3] := by decide +kernel
example : diagAddDiagonal [2] 3 [5, 3] = .error .shape := by decide +kernel

/-- For a 1×1 diagonal operator `broadcast_shapes` lets the diagonal grow the MATRIX: `Diag(1).add_diagonal(d : 5)` is 5×5.
torch's `dense + diag_embed(d)` broadcasts the 1×1 matrix in the same way, so this is torch-valid and not judged (same policy as
the `ew1` operator pairs); `addDiagonalShape?` (which demands `k = n ∨ k = 1`) is stricter here. -/
theorem diagAddDiagonal_size1_example :
    diagAddDiagonal [] 1 [5] = .ok [5, 5] ∧ addDiagonalShape? [1, 1] [5] = none := by decide +kernel

/-- **KroneckerProduct (and KroneckerProductTriangular) `add_diagonal` ⇔ torch**, same shape, all batch ranks, `n ≠ 1`:
the unchecked constant branches are caught by the batch broadcast of the KroneckerProductAddedDiag constructor. -/
theorem kronAddDiagonal_iff_torch (A : List Nat) (n : Nat) (hn : n ≠ 1) (d s : List Nat) :
    kronAddDiagonal (A ++ [n, n]) d = .ok s ↔ addDiagonalShape? (A ++ [n, n]) d = some s :=
  Ext.kronAddDiagonal_iff_torch A n hn d s

example : kronAddDiagonal [2, 4, 4] [3, 1, 1] = .ok [3, 2, 4, 4] := by decide +kernel
example : kronAddDiagonal [2, 4, 4] [3, 4] = .error .shape := by decide +kernel

/-- **LowRankRoot `add_diagonal` is sound**: whatever it accepts torch accepts, with the same shape (all batch ranks / sizes).
It is not complete: the non-constant branch refuses a diagonal that adds batch dimensions (`lowRankRootAddDiagonal_examples`). -/
theorem lowRankRootAddDiagonal_sound (A : List Nat) (n : Nat) (d s : List Nat)
    (h : lowRankRootAddDiagonal (A ++ [n, n]) d = .ok s) : addDiagonalShape? (A ++ [n, n]) d = some s :=
  Ext.lowRankRootAddDiagonal_sound A n d s h

/-- the constant branches of LowRankRoot / Kronecker accept a diagonal that ADDS batch dimensions (as torch does);
the non-constant branch of LowRankRoot does not (base `expand`). -/
theorem lowRankRootAddDiagonal_examples :
    lowRankRootAddDiagonal [2, 3, 3] [3, 2, 1] = .ok [3, 2, 3, 3] ∧
    lowRankRootAddDiagonal [2, 3, 3] [3, 2, 3] = .error .shape ∧
    addDiagonalShape? [2, 3, 3] [3, 2, 3] = some [3, 2, 3, 3] := by decide +kernel

/-- **Zero `add_diagonal` = the base-class guard** (hence `addDiagonalGuard_iff`) for operators with at most one batch
dimension, every size and every diagonal shape. -/
theorem zeroAddDiagonal_eq_base (A : List Nat) (hA : A.length ≤ 1) (n : Nat) (d : List Nat) :
    zeroAddDiagonal (A ++ [n, n]) d = addDiagonalGuard (A ++ [n, n]) d :=
  Ext.zeroAddDiagonal_eq_base A hA n d

example : zeroAddDiagonal [2, 3, 3] [2, 1] = .ok [2, 3, 3] := by decide +kernel

/-- With two or more batch dimensions Zero `add_diagonal` expands the diagonal to `(size(0),)` and then fails its own size
comparison — it rejects even a 0-d diagonal (stricter than torch; raising is not a C19 violation). -/
theorem zeroAddDiagonal_rank4_example :
    zeroAddDiagonal [3, 1, 3, 3] [] = .error .shape ∧ zeroAddDiagonal [3, 1, 3, 3] [3] = .error .shape ∧
    addDiagonalShape? [3, 1, 3, 3] [] = some [3, 1, 3, 3] := by decide +kernel

/-- every class's `add_diagonal` resolves (C3 MRO, generated table) to a definer the model knows -/
theorem every_add_diagonal_definer_is_modelled :
    LinOp.Generated.C19Ext.addDiagonalDefiners.all (fun p => (addDiagKindOf p.2).isSome) = true := by decide +kernel

/-- **base `rmatmul` accepts exactly what `torch.matmul(other, dense)` accepts, with torch's shape** — any batch rank of the
operator, any operand rank (0-d, 1-d, matrix, batched). -/
theorem rmatmulGuard_iff_torch (A : List Nat) (m n : Nat) (b s : List Nat) :
    rmatmulGuard (A ++ [m, n]) b = .ok s ↔ rmatmulShape? (A ++ [m, n]) b = some s :=
  Ext.rmatmulGuard_iff_torch A m n b s

example : rmatmulGuard [2, 3, 4] [5, 1, 6, 3] = .ok [5, 2, 6, 4] := by decide +kernel
example : rmatmulGuard [2, 3, 4] [1, 4] = .error .shape := by decide +kernel

/-- **With `settings.debug` on, the CatLinearOperator constructor accepts exactly what `torch.cat` accepts and its `_shape`
is torch's shape** (≥ 2 operands of any rank, cat dimension inside the rank). -/
theorem catCtor_debug_iff (s0 s1 : List Nat) (rest : List (List Nat)) (dim : Nat) (hd : dim < s0.length) (s : List Nat) :
    catCtor true (s0 :: s1 :: rest) dim = .ok s ↔ catShape? (s0 :: s1 :: rest) dim = some s :=
  Ext.catCtor_debug_iff s0 s1 rest dim hd s

example : catCtor true [[2, 3, 3], [2, 1, 3], [2, 4, 3]] 1 = .ok [2, 8, 3] := by decide +kernel

/-- With `settings.debug` off the constructor performs no check: the shape is computed from the first operand only
(the mismatch surfaces — or not — when the operator is used). -/
theorem catCtor_nodebug_counterexample :
    catCtor false [[3, 3], [2, 4]] 0 = .ok [5, 3] ∧ catShape? [[3, 3], [2, 4]] 0 = none := by decide +kernel

/-- **`cat_rows` (debug on; the code after 6da5c17: `is_square` guard, then the three concatenations; ANY operator, also
rectangular; cross / new matrices of the operator's rank, every batch rank and size) accepts exactly the `cross_mat`, `new_mat`
for which the dense block matrix `[[A, Bᵀ], [B, D]]` exists, with its shape.**
Full statement (not proved): the same for every rank combination, i.e. including the branch that first expands `self` to the
broadcast batch shape when `cross_mat` has more dimensions, and the rank-mismatch rejections (swept by the harness, cells
`cat_rows/extra-batch-*`, `batch-missing`, `cross-1d`, `new-1d`). -/
theorem catRows_iff_torch_partial (A C W : List Nat) (m n o n' o1 o2 : Nat) (hC : C.length = A.length)
    (hW : W.length = A.length) (s : List Nat) :
    catRows (A ++ [m, n]) (C ++ [o, n']) (W ++ [o1, o2]) = .ok s ↔
      catRowsShape? (A ++ [m, n]) (C ++ [o, n']) (W ++ [o1, o2]) = some s :=
  Ext.catRows_same_rank_iff A C W m n o n' o1 o2 hC hW s

example : catRows [2, 3, 3] [2, 2, 3] [2, 2, 2] = .ok [2, 5, 5] := by decide +kernel

/-- **Regression statement about the PREVIOUS code (before 6da5c17, defect F13)**: without the `is_square` guard a 4×3
operator with `cross_mat` 2×3 and a compensating `new_mat` 3×2 passed all three CatLinearOperator checks (`[A; B]` is 6×3,
`[Bᵀ; D]` is 6×2) and yielded a 6×5 operator that is not the block matrix (torch refuses `[[A, Bᵀ], [B, D]]`); the guarded
`cat_rows` answers `notSquare`. -/
theorem catRows_rect_counterexample :
    catRowsUnguarded [4, 3] [2, 3] [3, 2] = .ok [6, 5] ∧ catRowsShape? [4, 3] [2, 3] [3, 2] = none ∧
    catRows [4, 3] [2, 3] [3, 2] = .error .notSquare := by decide +kernel

/-- **`__getitem__` raises "too many indices" exactly when torch does** (716435a): for an operator of any rank and any
None-free index tuple of ints, slices, integer tensors and at most one ellipsis, the length test after the ellipsis expansion
and the padding fires iff the tuple has more non-ellipsis entries than the operator has dimensions. -/
theorem tooManyIndices_iff_torch (ndim : Nat) (idx : List Idx) (h : idx.count .ellipsis ≤ 1) :
    indexCountGuard ndim idx = .error .index ↔ tooManyIndices ndim idx = true :=
  Ext.tooManyIndices_iff_torch ndim idx h

example : indexCountGuard 2 [.int, .int, .int] = .error .index := by decide +kernel
example : indexCountGuard 3 [.int, .ellipsis, .int, .slice] = .ok () := by decide +kernel
example : indexCountGuard 3 [.ellipsis, .int, .tensor, .int, .slice] = .error .index := by decide +kernel

/-- before 716435a no length test existed (`zip(index, shape)` dropped the surplus: `Dense(3×3)[0, 1, 2]` was a scalar) -/
theorem indexCountUnguarded_counterexample :
    indexCountUnguarded 2 [.int, .int, .int] = .ok () ∧ tooManyIndices 2 [.int, .int, .int] = true := by decide +kernel

/-- `cat_rows` (debug on): examples of the three constructor checks against the dense block matrix. -/
theorem catRows_examples :
    catRows [3, 3] [2, 3] [2, 2] = .ok [5, 5] ∧ catRowsShape? [3, 3] [2, 3] [2, 2] = some [5, 5] ∧
    catRows [3, 3] [2, 4] [2, 2] = .error .shape ∧ catRowsShape? [3, 3] [2, 4] [2, 2] = none ∧
    catRows [3, 3] [2, 2, 3] [2, 2, 2] = .ok [2, 5, 5] ∧ catRowsShape? [3, 3] [2, 2, 3] [2, 2, 2] = some [2, 5, 5] ∧
    catRows [3, 3] [2, 3] [3, 3] = .error .shape ∧ catRows [3, 3] [3] [1, 1] = .error .value := by decide +kernel

/-- **base `add_low_rank(B)` accepts exactly what torch accepts for `dense + B @ B.mT`, with torch's shape** (all batch ranks,
all ranks of `B`; this includes torch's own broadcasting of a 1×1 product against the matrix dimensions). -/
theorem addLowRank_iff_torch (a b s : List Nat) :
    addLowRank a b = .ok s ↔ addLowRankShape? a b = some s := Ext.addLowRank_iff_torch a b s

example : addLowRank [2, 3, 3] [4, 1, 3, 2] = .ok [4, 2, 3, 3] := by decide +kernel
example : addLowRank [3, 3] [4, 1] = .error .shape := by decide +kernel

/-- the bodies `ExtModel.lean` mirrors are the ones recorded at design time (generated from /repo on every run) -/
theorem ext_bodies_are_the_known_ones :
    LinOp.Generated.C19Ext.addDiagonalBodies = KnownExt.knownAddDiagonalBodies ∧
    LinOp.Generated.C19Ext.rmatmulBodies = KnownExt.knownRmatmulBodies ∧
    LinOp.Generated.C19Ext.catBodies = KnownExt.knownCatBodies ∧
    LinOp.Generated.C19Ext.addDiagonalDefiners = KnownExt.knownAddDiagonalDefiners := ⟨rfl, rfl, rfl, rfl⟩

end LinOp.C19
