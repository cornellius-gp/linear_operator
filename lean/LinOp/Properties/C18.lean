import LinOp.C18.Model
import LinOp.C18.ProofsCIQ
import LinOp.C18.ModelRoots
import LinOp.C18.ProofsPrecond
import LinOp.C18.ProofsBlock
import LinOp.Generated.C18Facts
import LinOp.C18.Expected
import LinOp.Core.Bridge
import Mathlib.Algebra.BigOperators.Ring.Finset
import Mathlib.Data.Matrix.Mul
import Mathlib.Data.Matrix.Basic
import Mathlib.Tactic.FinCases
import Mathlib.Tactic.Ring
import Mathlib.Logic.Equiv.Fin.Basic
import Mathlib.Algebra.BigOperators.Fin
/-!
C18 — Gaussian sampling uses a true square root of the covariance.  Property theorems only.

For each sampler of `LinOp.C18.Model` we exhibit the fixed linear map `L` from the standard normal
noise to a draw (`…_linear`) and prove `L Lᵀ = ⟦op⟧` from the corresponding fact about the
sub-sampler's root (`…_cov`).  All sizes, block counts and sample counts are arbitrary.
A draw `x = L z` with `z ~ N(0, I)` has covariance `L Lᵀ`; that probabilistic step is not modelled.
-/
namespace LinOp.C18
open Matrix LinOp

variable {α : Type} [CommRing α]

/-- Base-class sampler: the draws are `(R Z)ᵀ` — the fixed linear map `R` applied to the noise,
laid out samples-first. -/
theorem generic_linear {n m k : Nat} (R : Mat α n m) (Z : Mat α m k) :
    generic R Z = ((Matrix.of R * Matrix.of Z : Matrix _ _ α)ᵀ : Matrix _ _ α) := by
  funext s i
  rw [generic, tab_eq]
  exact sumFin_eq_sum m _

/-- Base class: if the root decomposition is a true root, the sampler's map has covariance `A`. -/
theorem generic_cov {n m : Nat} (R : Matrix (Fin n) (Fin m) α) (A : Matrix (Fin n) (Fin n) α)
    (hR : R * Rᵀ = A) : R * Rᵀ = A := hR

/-- Diagonal sampler: linear map `diag(√d)` applied row-wise. -/
theorem diag_linear {n k : Nat} (sd : Fin n → α) (Z : Mat α k n) :
    diag sd Z = ((Matrix.diagonal sd * (Matrix.of Z)ᵀ : Matrix _ _ α)ᵀ : Matrix _ _ α) := by
  funext s i
  simp [diag, Matrix.diagonal_mul, mul_comm]

/-- Diagonal sampler: `diag(√d) diag(√d)ᵀ = diag(d)` whenever `√dᵢ · √dᵢ = dᵢ`. -/
theorem diag_cov {n : Nat} (sd d : Fin n → α) (h : ∀ i, sd i * sd i = d i) :
    (Matrix.diagonal sd * (Matrix.diagonal sd)ᵀ : Matrix (Fin n) (Fin n) α) = Matrix.diagonal d := by
  rw [Matrix.diagonal_transpose, Matrix.diagonal_mul_diagonal]
  congr 1; funext i; exact h i

/-- Identity sampler: the map is `I` and `I Iᵀ = I`. -/
theorem identity_cov {n : Nat} : ((1 : Matrix (Fin n) (Fin n) α) * (1 : Matrix (Fin n) (Fin n) α)ᵀ) = 1 := by
  simp

/-! ### Block structures.  `Lb b : n × m` is the linear map of block `b`'s sampler; block `b` draws its
own noise `Z b : m × k`, so the base draws are `x s b r = Σ_j Lb b r j * Z b j s`. -/

/-- Linear map of the BlockDiag sampler: row `i` belongs to block `i / n`, within-block row `i % n`. -/
def blockDiagL {nb n m : Nat} (Lb : Fin nb → Matrix (Fin n) (Fin m) α) :
    Matrix (Fin (nb * n)) (Fin nb × Fin m) α :=
  fun i c => if i.1 / n = c.1.1 then Lb c.1 ⟨i.1 % n, Nat.mod_lt _ (Nat.pos_of_ne_zero (by
    intro h; have := i.2; simp [h] at this))⟩ c.2 else 0

/-- The dense block-diagonal matrix with blocks `A b`. -/
def blockDiagDense {nb n : Nat} (A : Fin nb → Matrix (Fin n) (Fin n) α) : Matrix (Fin (nb * n)) (Fin (nb * n)) α :=
  fun i j => if h : i.1 / n = j.1 / n then
    A ⟨i.1 / n, (Nat.div_lt_iff_lt_mul (Nat.pos_of_ne_zero (by intro h0; have := i.2; simp [h0] at this))).2 i.2⟩
      ⟨i.1 % n, Nat.mod_lt _ (Nat.pos_of_ne_zero (by intro h0; have := i.2; simp [h0] at this))⟩
      ⟨j.1 % n, Nat.mod_lt _ (Nat.pos_of_ne_zero (by intro h0; have := i.2; simp [h0] at this))⟩ else 0

theorem blockDiag_linear {nb n m k : Nat} (hn : 0 < n) (Lb : Fin nb → Matrix (Fin n) (Fin m) α)
    (Z : Fin nb → Matrix (Fin m) (Fin k) α) (s : Fin k) (i : Fin (nb * n)) :
    blockDiag (fun s b r => ∑ j, Lb b r j * Z b j s) hn s i
      = ∑ c : Fin nb × Fin m, blockDiagL Lb i c * Z c.1 c.2 s :=
  (selL_sum Fin.divNat Fin.modNat Lb i fun b j => Z b j s).symm

/-- **BlockDiag sampler has the block-diagonal covariance**: `L Lᵀ = blockdiag(L_b L_bᵀ)`. -/
theorem blockDiag_cov {nb n m : Nat} (Lb : Fin nb → Matrix (Fin n) (Fin m) α)
    (A : Fin nb → Matrix (Fin n) (Fin n) α) (hL : ∀ b, Lb b * (Lb b)ᵀ = A b) :
    blockDiagL Lb * (blockDiagL Lb)ᵀ = blockDiagDense A := by
  funext i j
  rw [show blockDiagL Lb = selL Fin.divNat Fin.modNat Lb from rfl, selL_gram, hL]
  rfl  -- `blockDiagDense A i j` is this `if` with block `i / n` and rows `i % n`, `j % n` spelled out

/-! BlockInterleaved: row `i` belongs to block `i % nb`, within-block row `i / nb`. -/

def blockInterleavedL {nb n m : Nat} (Lb : Fin nb → Matrix (Fin n) (Fin m) α) :
    Matrix (Fin (n * nb)) (Fin nb × Fin m) α :=
  fun i c => if i.1 % nb = c.1.1 then Lb c.1 ⟨i.1 / nb, (Nat.div_lt_iff_lt_mul (Nat.pos_of_ne_zero (by
    intro h; have := i.2; simp [h] at this))).2 i.2⟩ c.2 else 0

def blockInterleavedDense {nb n : Nat} (A : Fin nb → Matrix (Fin n) (Fin n) α) :
    Matrix (Fin (n * nb)) (Fin (n * nb)) α :=
  fun i j => if h : i.1 % nb = j.1 % nb then
    A ⟨i.1 % nb, Nat.mod_lt _ (Nat.pos_of_ne_zero (by intro h0; have := i.2; simp [h0] at this))⟩
      ⟨i.1 / nb, (Nat.div_lt_iff_lt_mul (Nat.pos_of_ne_zero (by intro h0; have := i.2; simp [h0] at this))).2 i.2⟩
      ⟨j.1 / nb, (Nat.div_lt_iff_lt_mul (Nat.pos_of_ne_zero (by intro h0; have := i.2; simp [h0] at this))).2 j.2⟩ else 0

theorem blockInterleaved_linear {nb n m k : Nat} (hb : 0 < nb) (Lb : Fin nb → Matrix (Fin n) (Fin m) α)
    (Z : Fin nb → Matrix (Fin m) (Fin k) α) (s : Fin k) (i : Fin (n * nb)) :
    blockInterleaved (fun s b r => ∑ j, Lb b r j * Z b j s) hb s i
      = ∑ c : Fin nb × Fin m, blockInterleavedL Lb i c * Z c.1 c.2 s :=
  (selL_sum Fin.modNat Fin.divNat Lb i fun b j => Z b j s).symm

/-- **BlockInterleaved sampler has the interleaved-block covariance.** -/
theorem blockInterleaved_cov {nb n m : Nat} (Lb : Fin nb → Matrix (Fin n) (Fin m) α)
    (A : Fin nb → Matrix (Fin n) (Fin n) α) (hL : ∀ b, Lb b * (Lb b)ᵀ = A b) :
    blockInterleavedL Lb * (blockInterleavedL Lb)ᵀ = blockInterleavedDense A := by
  funext i j
  rw [show blockInterleavedL Lb = selL Fin.modNat Fin.divNat Lb from rfl, selL_gram, hL]
  rfl

/-! SumBatch / PsdSum: the parts draw independent noise and the draws are added. -/

def sumL {nb n m : Nat} (Lb : Fin nb → Matrix (Fin n) (Fin m) α) : Matrix (Fin n) (Fin nb × Fin m) α :=
  fun i c => Lb c.1 i c.2

theorem sumBatch_linear {nb n m k : Nat} (Lb : Fin nb → Matrix (Fin n) (Fin m) α)
    (Z : Fin nb → Matrix (Fin m) (Fin k) α) (s : Fin k) (i : Fin n) :
    sumBatch (fun s b r => ∑ j, Lb b r j * Z b j s) s i = ∑ c : Fin nb × Fin m, sumL Lb i c * Z c.1 c.2 s := by
  rw [Fintype.sum_prod_type]
  exact sumFin_eq_sum nb _

/-- **A sum of PSD terms is sampled as a sum of independent draws**: `[L₁ … L_k][L₁ … L_k]ᵀ = Σ L_b L_bᵀ`. -/
theorem sumBatch_cov {nb n m : Nat} (Lb : Fin nb → Matrix (Fin n) (Fin m) α)
    (A : Fin nb → Matrix (Fin n) (Fin n) α) (hL : ∀ b, Lb b * (Lb b)ᵀ = A b) :
    sumL Lb * (sumL Lb)ᵀ = ∑ b, A b := by
  funext i j
  rw [Matrix.mul_apply, Fintype.sum_prod_type, Matrix.sum_apply]
  exact Finset.sum_congr rfl fun b _ => congrFun (congrFun (hL b) i) j

/-! Interpolated: draws of the base pushed through the left interpolation `W`. -/

/-- The interpolation matrix `W[r, idx[r,c]] += val[r,c]` (duplicate indices add). -/
def interpW {nBase r q : Nat} (idx : Fin r → Fin q → Fin nBase) (val : Fin r → Fin q → α) :
    Matrix (Fin r) (Fin nBase) α :=
  fun i t => ∑ c, if idx i c = t then val i c else 0

theorem interp_linear {nBase r q k : Nat} (idx : Fin r → Fin q → Fin nBase) (val : Fin r → Fin q → α)
    (x : Mat α k nBase) :
    interp idx val x = ((interpW idx val * (Matrix.of x)ᵀ : Matrix _ _ α)ᵀ : Matrix _ _ α) := by
  funext s i
  simp only [interp, sumFin_eq_sum, interpW, Matrix.transpose_apply, Matrix.mul_apply, Matrix.of_apply,
    Finset.sum_mul, ite_mul, zero_mul]
  rw [Finset.sum_comm]
  simp only [Finset.sum_ite_eq, Finset.mem_univ, if_true]

/-- **Interpolated sampler**: with base map `L` (`L Lᵀ = K`) the draws have covariance `W K Wᵀ`,
which is the represented matrix `W_l K W_rᵀ` when left and right interpolation coincide. -/
theorem interp_cov {nBase r m : Nat} (W : Matrix (Fin r) (Fin nBase) α) (L : Matrix (Fin nBase) (Fin m) α)
    (K : Matrix (Fin nBase) (Fin nBase) α) (hL : L * Lᵀ = K) :
    (W * L) * (W * L)ᵀ = W * K * Wᵀ := by
  rw [Matrix.transpose_mul, ← hL]
  simp only [Matrix.mul_assoc]


/-! ### Contour-integral sampler (`settings.ciq_samples`).  `contour_integral_quad` returns, for every quadrature
point `q`, the solves `K (s_q I − K)⁻¹ b` (minres with `value = -1`, shift `s_q`, then `linear_op._matmul`) and the
weight `w_q`; the sampler returns `Σ_q w_q · solves_q` with `b` the noise. -/

/-- **CIQ sampler is a fixed linear map of the noise**: with `R_q` the matrix applied by quadrature point `q`
(`R_q = K (s_q I − K)⁻¹`), the draws are `((Σ_q w_q R_q) Z)ᵀ`, any number of points, sizes and samples. -/
theorem ciq_linear {Q n k : Nat} (w : Fin Q → α) (Rq : Fin Q → Matrix (Fin n) (Fin n) α)
    (Z : Matrix (Fin n) (Fin k) α) :
    ciq w (fun q s i => ∑ j, Rq q i j * Z j s) = ((((∑ q, w q • Rq q) * Z : Matrix _ _ α))ᵀ : Matrix _ _ α) := by
  funext s i
  simp only [ciq, sumFin_eq_sum, Matrix.transpose_apply, Matrix.mul_apply, Matrix.sum_apply, Matrix.smul_apply,
    smul_eq_mul, Finset.sum_mul]
  rw [Finset.sum_comm]
  exact Finset.sum_congr rfl fun j _ => Finset.sum_congr rfl fun q _ => by ring

/-- The error of the CIQ covariance is the error of the scalar rule on the spectrum, whatever it is:
`R Rᵀ = U diag(f(λ)²) Uᵀ`. -/
theorem ciq_cov_general {β : Type} [Field β] {Q n : Nat} {U : Matrix (Fin n) (Fin n) β} (hU : Uᵀ * U = 1)
    (hU' : U * Uᵀ = 1) (lam : Fin n → β) (s w : Fin Q → β) (hs : ∀ q i, s q - lam i ≠ 0)
    (M : Fin Q → Matrix (Fin n) (Fin n) β)
    (hM : ∀ q, (s q • (1 : Matrix (Fin n) (Fin n) β) - conjU U lam) * M q = 1) :
    (∑ q, w q • (conjU U lam * M q)) * (∑ q, w q • (conjU U lam * M q))ᵀ
      = conjU U (fun i => (∑ q, w q * (lam i / (s q - lam i))) * (∑ q, w q * (lam i / (s q - lam i)))) := by
  rw [ciq_operator_spectral hU hU' lam s w hs M hM, conjU_transpose, conjU_mul hU]

/-- **CIQ covariance reduces to the scalar quadrature rule**: let `K = U diag(λ) Uᵀ` with an orthonormal eigenbasis,
`M_q` any right inverse of `s_q I − K` (what the shifted solves apply), no shift on the spectrum.  Then the quadrature
operator `R = Σ_q w_q K M_q` equals `U diag(f(λ)) Uᵀ` with `f(λ) = Σ_q w_q λ/(s_q − λ)`, and if the scalar rule is
exact on the spectrum (`f(λ_i)² = λ_i`) the draws `R z` have covariance `R Rᵀ = K`. -/
theorem ciq_cov {β : Type} [Field β] {Q n : Nat} {U : Matrix (Fin n) (Fin n) β} (hU : Uᵀ * U = 1) (hU' : U * Uᵀ = 1)
    (lam : Fin n → β) (s w : Fin Q → β) (hs : ∀ q i, s q - lam i ≠ 0)
    (M : Fin Q → Matrix (Fin n) (Fin n) β)
    (hM : ∀ q, (s q • (1 : Matrix (Fin n) (Fin n) β) - conjU U lam) * M q = 1)
    (hf : ∀ i, (∑ q, w q * (lam i / (s q - lam i))) * (∑ q, w q * (lam i / (s q - lam i))) = lam i) :
    (∑ q, w q • (conjU U lam * M q)) * (∑ q, w q • (conjU U lam * M q))ᵀ = conjU U lam := by
  rw [ciq_cov_general hU hU' lam s w hs M hM, funext hf]

/-- Non-vacuity of `ciq_cov`: 1×1, `K = 4`, one quadrature point `s = 0`, `w = 2`: `R = 2·4·(0−4)⁻¹ = −2`, `R² = 4`. -/
example : (∑ q : Fin 1, (fun _ => (2 : ℚ)) q • (conjU (1 : Matrix (Fin 1) (Fin 1) ℚ) (fun _ => 4) * (fun _ => conjU 1 (fun _ => (0 - 4)⁻¹)) q))
    * (∑ q : Fin 1, (fun _ => (2 : ℚ)) q • (conjU (1 : Matrix (Fin 1) (Fin 1) ℚ) (fun _ => 4) * (fun _ => conjU 1 (fun _ => (0 - 4)⁻¹)) q))ᵀ
    = conjU 1 (fun _ => 4) :=
  ciq_cov (U := (1 : Matrix (Fin 1) (Fin 1) ℚ)) (by decide +kernel) (by decide +kernel) (fun _ => 4) (fun _ => 0) (fun _ => 2)
    (by decide +kernel) _ (by decide +kernel) (by decide +kernel)

/-! ### Samplers reached through a specialised `root_decomposition` (the base-class sampler `generic` then draws
with that root). -/

/-- **ConstantMul** (`c·K`, `c ≥ 0`): the root is the base root times `√c`; it is a root of `c·A`. -/
theorem constMul_cov {n m : Nat} (sc c : α) (h : sc * sc = c) (R : Matrix (Fin n) (Fin m) α)
    (A : Matrix (Fin n) (Fin n) α) (hR : R * Rᵀ = A) :
    (Matrix.of (constMulRoot sc R) * (Matrix.of (constMulRoot sc R))ᵀ : Matrix _ _ α) = c • A := by
  ext i j
  simp only [← hR, ← h, Matrix.mul_apply, Matrix.transpose_apply, Matrix.of_apply, constMulRoot, Matrix.smul_apply,
    smul_eq_mul, Finset.mul_sum]
  exact Finset.sum_congr rfl fun l _ => by ring

/-- ConstantMul draws are the fixed linear map `√c · R` of the noise. -/
theorem constMul_linear {n m k : Nat} (sc : α) (R : Mat α n m) (Z : Mat α m k) :
    generic (constMulRoot sc R) Z
      = ((Matrix.of (constMulRoot sc R) * Matrix.of Z : Matrix _ _ α)ᵀ : Matrix _ _ α) :=
  generic_linear _ _

/-- **Kronecker** (`KroneckerProductLinearOperator.root_decomposition` above max_cholesky_size): the root is the
Kronecker product of the factor roots in the dense layout `(i₁·n₂ + i₂, j₁·m₂ + j₂)`; it is a root of the Kronecker
product of the factor covariances, all factor sizes and root widths. -/
theorem kron_cov {n1 n2 m1 m2 : Nat} (h2 : 0 < n2) (hm2 : 0 < m2)
    (R1 : Matrix (Fin n1) (Fin m1) α) (R2 : Matrix (Fin n2) (Fin m2) α)
    (A1 : Matrix (Fin n1) (Fin n1) α) (A2 : Matrix (Fin n2) (Fin n2) α)
    (e1 : R1 * R1ᵀ = A1) (e2 : R2 * R2ᵀ = A2) :
    (Matrix.of (kronFlat R1 R2 h2 hm2) * (Matrix.of (kronFlat R1 R2 h2 hm2))ᵀ : Matrix _ _ α)
      = Matrix.of (kronFlat A1 A2 h2 h2) := by
  ext i j
  -- `finProdFinEquiv.symm x = (x / m₂, x % m₂)`: the flat column index of the pair `(a, b)` splits back into `a` and `b`
  have hd : ∀ (a : Fin m1) (b : Fin m2) h, (⟨(finProdFinEquiv (a, b) : Fin (m1 * m2)).1 / m2, h⟩ : Fin m1) = a :=
    fun a b _ => congrArg Prod.fst (finProdFinEquiv.symm_apply_apply (a, b))
  have hm : ∀ (a : Fin m1) (b : Fin m2) h, (⟨(finProdFinEquiv (a, b) : Fin (m1 * m2)).1 % m2, h⟩ : Fin m2) = b :=
    fun a b _ => congrArg Prod.snd (finProdFinEquiv.symm_apply_apply (a, b))
  simp only [Matrix.mul_apply, Matrix.transpose_apply, Matrix.of_apply, kronFlat]
  rw [← finProdFinEquiv.sum_comp, Fintype.sum_prod_type]
  simp only [hd, hm, ← e1, ← e2, Matrix.mul_apply, Matrix.transpose_apply, Finset.sum_mul_sum]
  exact Finset.sum_congr rfl fun a _ => Finset.sum_congr rfl fun b _ => by ring


/-- Kronecker draws are the fixed linear map `R₁ ⊗ R₂` of the noise. -/
theorem kron_linear {n1 n2 m1 m2 k : Nat} (h2 : 0 < n2) (hm2 : 0 < m2) (R1 : Mat α n1 m1) (R2 : Mat α n2 m2)
    (Z : Mat α (m1 * m2) k) :
    generic (kronFlat R1 R2 h2 hm2) Z
      = ((Matrix.of (kronFlat R1 R2 h2 hm2) * Matrix.of Z : Matrix _ _ α)ᵀ : Matrix _ _ α) :=
  generic_linear _ _

/-! ### Shapes: `zero_mean_mvn_samples(k)` returns `(k, *batch, n)` for every batch shape. -/

theorem bcastRev_self (l : List Nat) : bcastRev l l = some l := by
  induction l with
  | nil => rfl
  | cons a as ih => simp [bcastRev, ih]

/-- A root with the operator's own batch shape broadcasts to it. -/
theorem bcast_self (l : List Nat) : bcast l l = some l := by
  simp [bcast, bcastRev_self]

/-- An unbatched root broadcasts to any batch shape. -/
theorem bcast_nil_left (l : List Nat) : bcast [] l = some l := by
  simp [bcast, bcastRev]

theorem lastFirst_append (b : List Nat) (n k : Nat) : lastFirst (b ++ [n, k]) = k :: (b ++ [n]) := by
  simp [lastFirst]

/-- **Shape of the base-class sampler, all batch shapes, sizes and sample counts**: for a root `(*rb, n, m)` whose
batch shape broadcasts to the operator's batch shape, `root.matmul(randn(*batch, m, k)).permute(-1, 0, …)` has shape
`(k, *batch, n)`. -/
theorem genericShape_total (rb batch : List Nat) (n m k : Nat) (h : bcast rb batch = some batch) :
    genericShape rb batch n m m k = some (k :: batch ++ [n]) := by
  simp [genericShape, h, lastFirst_append]

/-- Instances: the root carries the operator's batch shape, or none at all. -/
theorem genericShape_self (batch : List Nat) (n m k : Nat) :
    genericShape batch batch n m m k = some (k :: batch ++ [n]) ∧
    genericShape [] batch n m m k = some (k :: batch ++ [n]) :=
  ⟨genericShape_total _ _ _ _ _ (bcast_self _), genericShape_total _ _ _ _ _ (bcast_nil_left _)⟩

/-- The sampler's shape function is total in the sense of torch: it fails exactly when the noise's inner size does
not match the root or the batch shapes do not broadcast. -/
theorem genericShape_none_iff (rb batch : List Nat) (n m m' k : Nat) :
    genericShape rb batch n m m' k = none ↔ (m ≠ m' ∨ bcast rb batch = none) := by
  unfold genericShape
  by_cases h : m = m'
  · simp [h]
  · simp [h]

/-- Block samplers: the draws of the base `(k, *batch, nb, n)` become `(k, *batch, N)` with `N` the size of the
block operator (`nb·n` for BlockDiag / BlockInterleaved, `n` for SumBatch); the sample and batch dimensions are kept. -/
theorem blockShape_eq (kind k : Nat) (batch : List Nat) (nb n : Nat) :
    blockShape kind k batch nb n = k :: batch ++ [if kind = 2 then n else nb * n] ∧
    (blockShape kind k batch nb n).length = batch.length + 2 := by
  simp [blockShape]

/-- Non-vacuity: a 2-block BlockDiag with 1×1 roots 2 and 3 has covariance diag(4, 9). -/
example : blockDiagL (α := ℤ) (nb := 2) (n := 1) (m := 1) (fun b => fun _ _ => if b = 0 then 2 else 3)
    * (blockDiagL (α := ℤ) (nb := 2) (n := 1) (m := 1) (fun b => fun _ _ => if b = 0 then 2 else 3))ᵀ
    = blockDiagDense (fun b => fun _ _ => if b = 0 then 4 else 9) :=
  blockDiag_cov _ _ fun b => by fin_cases b <;> rfl


/-! ## Class-specific roots handed to the base-class sampler, preconditioned CIQ, repeat indexing, sampler shapes, translator facts -/

/-- **Chol, both orientations**: the root handed to the sampler (`root` for the lower orientation, `rootᵀ` for the upper
one) is a root of what the operator represents (`T Tᵀ` resp. `Tᵀ T`), every size. -/
theorem chol_cov {n : Nat} (upper : Bool) (T : Matrix (Fin n) (Fin n) α) :
    (Matrix.of (cholRoot upper T) * (Matrix.of (cholRoot upper T))ᵀ : Matrix _ _ α)
      = if upper then Tᵀ * T else T * Tᵀ := by
  cases upper <;> rfl

/-- Chol draws are the fixed linear map `cholRoot upper T` of the noise (base-class sampler). -/
theorem chol_linear {n k : Nat} (upper : Bool) (T : Mat α n n) (Z : Mat α n k) :
    generic (cholRoot upper T) Z
      = ((Matrix.of (cholRoot upper T) * Matrix.of Z : Matrix _ _ α)ᵀ : Matrix _ _ α) :=
  generic_linear _ _

/-- `_scale_columns(U, s)` is `U · diag(s)`. -/
theorem scaleCols_eq {n m : Nat} (U : Matrix (Fin n) (Fin m) α) (s : Fin m → α) :
    (Matrix.of (scaleCols U s) : Matrix _ _ α) = U * Matrix.diagonal s := by
  ext i j; simp [scaleCols, Matrix.mul_diagonal]

/-- **symeig / diagonalization / svd roots** `_scale_columns(evecs, √evals)`: a root of `U diag(λ) Uᵀ` whenever
`s_j² = λ_j`, any (also non-square, non-orthogonal) `U`. -/
theorem symeig_cov {n m : Nat} (U : Matrix (Fin n) (Fin m) α) (s lam : Fin m → α) (h : ∀ j, s j * s j = lam j) :
    (Matrix.of (scaleCols U s) * (Matrix.of (scaleCols U s))ᵀ : Matrix _ _ α) = U * Matrix.diagonal lam * Uᵀ := by
  have e : (fun j => s j * s j) = lam := funext h
  rw [scaleCols_eq, Matrix.transpose_mul, Matrix.diagonal_transpose, Matrix.mul_assoc,
    ← Matrix.mul_assoc (Matrix.diagonal s), Matrix.diagonal_mul_diagonal, e, ← Matrix.mul_assoc]

/-- symeig-root draws are the fixed linear map `U diag(s)` of the noise. -/
theorem symeig_linear {n m k : Nat} (U : Mat α n m) (s : Fin m → α) (Z : Mat α m k) :
    generic (scaleCols U s) Z = ((Matrix.of (scaleCols U s) * Matrix.of Z : Matrix _ _ α)ᵀ : Matrix _ _ α) :=
  generic_linear _ _

/-- **KroneckerProductAddedDiag with a constant diagonal** (`_root_decomposition`, reached above max_cholesky_size):
`Q · diag(√(λ + c))` with `K = Q diag(λ) Qᵀ`, `Q Qᵀ = 1` is a root of `K + c·I`. -/
theorem kronAddedDiag_cov {n : Nat} (Qm : Matrix (Fin n) (Fin n) α) (hQ : Qm * Qmᵀ = 1) (s lam : Fin n → α) (c : α)
    (h : ∀ j, s j * s j = lam j + c) :
    (Matrix.of (scaleCols Qm s) * (Matrix.of (scaleCols Qm s))ᵀ : Matrix _ _ α)
      = Qm * Matrix.diagonal lam * Qmᵀ + c • (1 : Matrix (Fin n) (Fin n) α) := by
  rw [symeig_cov Qm s (fun j => lam j + c) h, ← Matrix.diagonal_add, ← Matrix.smul_one_eq_diagonal, Matrix.mul_add,
    Matrix.add_mul, Matrix.mul_smul, Matrix.mul_one, Matrix.smul_mul, hQ]

/-- KroneckerAddedDiag draws are the fixed linear map `Q diag(s)` of the noise. -/
theorem kronAddedDiag_linear {n k : Nat} (Qm : Mat α n n) (s : Fin n → α) (Z : Mat α n k) :
    generic (scaleCols Qm s) Z = ((Matrix.of (scaleCols Qm s) * Matrix.of Z : Matrix _ _ α)ᵀ : Matrix _ _ α) :=
  generic_linear _ _

/-- `mmul` is the matrix product. -/
theorem mmul_eq {n m p : Nat} (A : Matrix (Fin n) (Fin m) α) (B : Matrix (Fin m) (Fin p) α) :
    (Matrix.of (mmul A B) : Matrix _ _ α) = A * B := by
  ext i j
  exact (congrFun (congrFun (tab_eq _) i) j).trans (sumFin_eq_sum m _)

/-- **SumKronecker** (`K₁ + K₂`, `_root_decomposition = lt2_root.matmul(inner_root)`): with `R₂ R₂ᵀ = K₂`, `Rinv` a right
inverse of `R₂` (`R₂ Rinv = 1`; the code inverts the square `R₂`), inner matrix `Minner = Rinv K₁ Rinvᵀ + 1` and `Ri Riᵀ = Minner`, the root
`R₂ Ri` is a root of `K₁ + K₂`. -/
theorem sumKron_cov {n m : Nat} (R2 Rinv K1 K2 : Matrix (Fin n) (Fin n) α) (Ri : Matrix (Fin n) (Fin m) α)
    (h2 : R2 * R2ᵀ = K2) (hinv : R2 * Rinv = 1)
    (hi : Ri * Riᵀ = Rinv * K1 * Rinvᵀ + 1) :
    (Matrix.of (mmul R2 Ri) * (Matrix.of (mmul R2 Ri))ᵀ : Matrix _ _ α) = K1 + K2 := by
  have hinvT : Rinvᵀ * R2ᵀ = 1 := by rw [← Matrix.transpose_mul, hinv, Matrix.transpose_one]
  -- `R₂ (Rinv K₁ Rinvᵀ + 1) R₂ᵀ = (R₂ Rinv) K₁ (Rinvᵀ R₂ᵀ) + R₂ R₂ᵀ`
  rw [mmul_eq, Matrix.transpose_mul, Matrix.mul_assoc R2 Ri, ← Matrix.mul_assoc Ri, hi, Matrix.add_mul, Matrix.one_mul,
    Matrix.mul_add, h2, Matrix.mul_assoc (Rinv * K1), hinvT, Matrix.mul_one, ← Matrix.mul_assoc, hinv, Matrix.one_mul]

/-- **ConstantMul with a batch of constants**: member `b` of the root is `√c_b · R_b`, a root of `c_b · A_b`, for every
member of any index type (all batch shapes). -/
theorem constMul_batch_cov {B : Type} {n m : Nat} (sc c : B → α) (h : ∀ b, sc b * sc b = c b)
    (R : B → Matrix (Fin n) (Fin m) α) (A : B → Matrix (Fin n) (Fin n) α) (hR : ∀ b, R b * (R b)ᵀ = A b) (b : B) :
    (Matrix.of (constMulRoot (sc b) (R b)) * (Matrix.of (constMulRoot (sc b) (R b)))ᵀ : Matrix _ _ α) = c b • A b :=
  constMul_cov (sc b) (c b) (h b) (R b) (A b) (hR b)

/-! ### BatchRepeat: `root.repeat(*batch_repeat, 1, 1)` — output member `idx` reads base member `idx % base`. -/

/-- The index map of `repeat` lands inside the base batch shape (every dimension, every number of batch dims). -/
theorem repeatIdx_lt : ∀ (base idx : List Nat), idx.length = base.length → (∀ b ∈ base, 0 < b) →
    List.Forall₂ (· < ·) (repeatIdx base idx) base
  | [], [], _, _ => .nil
  | [], _ :: _, h, _ => by simp at h
  | _ :: _, [], h, _ => by simp at h
  | b :: bs, i :: is, h, hp =>
    .cons (Nat.mod_lt _ (hp b List.mem_cons_self))
      (repeatIdx_lt bs is (Nat.succ.inj h) fun x hx => hp x (List.mem_cons_of_mem _ hx))

/-- The first tile is the base itself: an index inside the base shape is read from the same base member. -/
theorem repeatIdx_of_lt : ∀ (base idx : List Nat), List.Forall₂ (· < ·) idx base → repeatIdx base idx = idx
  | _, _, .nil => rfl
  | _, _, .cons h t => congrArg₂ List.cons (Nat.mod_eq_of_lt h) (repeatIdx_of_lt _ _ t)

/-- Row-major flattening inverts un-flattening for every shape and every member index below the member count. -/
theorem ravel_unravel : ∀ (shape : List Nat) (f : Nat), f < shape.foldr (· * ·) 1 →
    ravelRev shape (unravelRev shape f) = f
  | [], f, h => (Nat.lt_one_iff.1 h).symm
  | d :: ds, f, h => by
    have hd : 0 < d := Nat.pos_of_lt_mul_right (show f < d * ds.foldr (· * ·) 1 from h)
    have h' : f / d < ds.foldr (· * ·) 1 := (Nat.div_lt_iff_lt_mul hd).2 (Nat.mul_comm d _ ▸ h)
    simp only [unravelRev, ravelRev, ravel_unravel ds (f / d) h']
    exact Nat.mod_add_div f d

/-- The repeated batch shape has as many dimensions as repeat arguments (at least as many as the base has). -/
theorem repeatShape_length (base reps : List Nat) (h : base.length ≤ reps.length) :
    (repeatShape base reps).length = reps.length := by
  rw [repeatShape, List.length_zipWith, padLeft, List.length_append, List.length_replicate, Nat.sub_add_cancel h,
    Nat.min_self]

/-- **BatchRepeat roots**: if every base member's root is a root of that member's covariance, then every member of the
repeated root is a root of the corresponding member of the repeated operator (member `idx` of both reads base member
`idx % base`), for every batch shape and repeat pattern. -/
theorem batchRepeat_cov {n m : Nat} (base : List Nat) (R : List Nat → Matrix (Fin n) (Fin m) α)
    (A : List Nat → Matrix (Fin n) (Fin n) α) (h : ∀ idx, R idx * (R idx)ᵀ = A idx) (idx : List Nat) :
    R (repeatIdx base idx) * (R (repeatIdx base idx))ᵀ = A (repeatIdx base idx) := h _

/-- Shape of the sampler on a BatchRepeat whose root carries the repeated batch shape: `(k, *(bᵢ·rᵢ), n)`. -/
theorem batchRepeatShape_total (base reps : List Nat) (n m k : Nat) :
    genericShape (repeatShape base reps) (repeatShape base reps) n m m k = some (k :: repeatShape base reps ++ [n]) :=
  (genericShape_self _ _ _ _).1

/-! ### Shapes of the specialised samplers: all return `(k, *batch, n)`, every batch shape (also size-1 dims), every
`k` (also 0 and 1). -/

theorem ciqNoiseShape_eq (batch : List Nat) (n k : Nat) : ciqNoiseShape batch n k = k :: batch ++ [n, 1] := by
  simp [ciqNoiseShape, lastFirst_append]

theorem ciqShape_eq (batch : List Nat) (n k Q : Nat) : ciqShape batch n k Q = k :: batch ++ [n] := by
  have : k :: batch ++ [n, 1] = (k :: batch ++ [n]) ++ [1] := by simp
  rw [ciqShape, ciqNoiseShape_eq, List.tail_cons, this, List.dropLast_concat]

/-- **General shape theorem**: the generic sampler (root with the operator's batch shape), the Diag / Identity sampler,
the CIQ sampler and the three block samplers all return `(k, *batch, N)`. -/
theorem sampler_shapes (k : Nat) (batch : List Nat) (n m Q nb : Nat) :
    genericShape batch batch n m m k = some (k :: batch ++ [n]) ∧
    diagShape k batch n = k :: batch ++ [n] ∧
    ciqShape batch n k Q = k :: batch ++ [n] ∧
    blockShape 0 k batch nb n = k :: batch ++ [nb * n] ∧
    blockShape 1 k batch nb n = k :: batch ++ [nb * n] ∧
    blockShape 2 k batch nb n = k :: batch ++ [n] :=
  ⟨(genericShape_self _ _ _ _).1, rfl, ciqShape_eq _ _ _ _, rfl, rfl, rfl⟩

/-! ### CIQ with a preconditioner (see `LinOp/C18/ProofsPrecond.lean` for the code path). -/

/-- Preconditioned CIQ draws are a fixed linear map of the noise: `((Σ_q w_q K N_q) S Z)ᵀ`. -/
theorem ciqPrecond_linear {Q n k : Nat} (w : Fin Q → α) (K S : Matrix (Fin n) (Fin n) α)
    (N : Fin Q → Matrix (Fin n) (Fin n) α) (Z : Matrix (Fin n) (Fin k) α) :
    ciq w (fun q s i => ∑ j, (K * N q * S) i j * Z j s)
      = (((∑ q, w q • (K * N q)) * S * Z : Matrix _ _ α)ᵀ : Matrix _ _ α) := by
  rw [ciq_linear w (fun q => K * N q * S) Z]
  simp only [Matrix.sum_mul, Matrix.smul_mul]
  rfl

/-- **Preconditioned CIQ, error term**: `P = V V` (`V` symmetric with inverse `W`), `K = V M V`, `M = U diag(μ) Uᵀ` the
preconditioned matrix `P^{-1/2} K P^{-1/2}` in an orthonormal eigenbasis, `N_q` any right inverse of `s_q P − K` (what
preconditioned msMINRES applies), `S` any root of `P` (what `sqrt_precond_matmul` applies).  Then the sampler's map
`R = (Σ_q w_q K N_q) S` has `R Rᵀ = V · U diag(f(μ)²) Uᵀ · V` with the scalar rule `f(μ) = Σ_q w_q μ/(s_q − μ)`. -/
theorem ciqPrecond_cov_general {β : Type} [Field β] {Q n : Nat} {U V W S : Matrix (Fin n) (Fin n) β}
    (hU : Uᵀ * U = 1) (hU' : U * Uᵀ = 1) (hVW : V * W = 1) (hWV : W * V = 1) (hW : Wᵀ = W)
    (mu : Fin n → β) (s w : Fin Q → β) (hs : ∀ q i, s q - mu i ≠ 0)
    (N : Fin Q → Matrix (Fin n) (Fin n) β)
    (hN : ∀ q, (s q • (V * V) - V * conjU U mu * V) * N q = 1) (hS : S * Sᵀ = V * V) :
    ((∑ q, w q • ((V * conjU U mu * V) * N q)) * S) * ((∑ q, w q • ((V * conjU U mu * V) * N q)) * S)ᵀ
      = V * conjU U (fun i => (∑ q, w q * (mu i / (s q - mu i))) * (∑ q, w q * (mu i / (s q - mu i)))) * V := by
  rw [ciqPrecond_operator hU hU' hVW hWV mu s w hs N hN]
  exact sandwich_cov hU hVW hWV hW _ hS

/-- **Preconditioned CIQ covariance**: if the scalar rule is exact on the spectrum of the preconditioned matrix
(`f(μ_i)² = μ_i`) the draws have covariance `R Rᵀ = K`. -/
theorem ciqPrecond_cov {β : Type} [Field β] {Q n : Nat} {U V W S : Matrix (Fin n) (Fin n) β}
    (hU : Uᵀ * U = 1) (hU' : U * Uᵀ = 1) (hVW : V * W = 1) (hWV : W * V = 1) (hW : Wᵀ = W)
    (mu : Fin n → β) (s w : Fin Q → β) (hs : ∀ q i, s q - mu i ≠ 0)
    (N : Fin Q → Matrix (Fin n) (Fin n) β)
    (hN : ∀ q, (s q • (V * V) - V * conjU U mu * V) * N q = 1) (hS : S * Sᵀ = V * V)
    (hf : ∀ i, (∑ q, w q * (mu i / (s q - mu i))) * (∑ q, w q * (mu i / (s q - mu i))) = mu i) :
    ((∑ q, w q • ((V * conjU U mu * V) * N q)) * S) * ((∑ q, w q • ((V * conjU U mu * V) * N q)) * S)ᵀ
      = V * conjU U mu * V := by
  rw [ciqPrecond_cov_general hU hU' hVW hWV hW mu s w hs N hN hS]
  simp only [hf]

/-- Non-vacuity of `ciqPrecond_cov`: 1×1, `P = 4` (`V = 2`, `W = 1/2`), `K = 16` (`μ = 4`), one point `s = 0`, `w = 2`,
`N = (0·4 − 16)⁻¹`, `S = 2`: `R = 2·16·(−1/16)·2 = −4`, `R² = 16 = K`. -/
example : ∃ (V _W S : Matrix (Fin 1) (Fin 1) ℚ) (N : Fin 1 → Matrix (Fin 1) (Fin 1) ℚ),
    ((∑ q : Fin 1, (2 : ℚ) • ((V * conjU 1 (fun _ => 4) * V) * N q)) * S)
      * ((∑ q : Fin 1, (2 : ℚ) • ((V * conjU 1 (fun _ => 4) * V) * N q)) * S)ᵀ = V * conjU 1 (fun _ => 4) * V ∧ V 0 0 = 2 :=
  ⟨Matrix.of fun _ _ => 2, Matrix.of fun _ _ => 1 / 2, Matrix.of fun _ _ => 2, fun _ => Matrix.of fun _ _ => -1 / 16,
    ciqPrecond_cov (U := (1 : Matrix (Fin 1) (Fin 1) ℚ)) (W := Matrix.of fun _ _ => 1 / 2) (by decide +kernel)
      (by decide +kernel) (by decide +kernel) (by decide +kernel) (by decide +kernel) (fun _ => 4) (fun _ => 0) (fun _ => 2)
      (by decide +kernel) _ (by decide +kernel) (by decide +kernel) (by decide +kernel), rfl⟩

/-- Non-vacuity of `kronAddedDiag_cov` / `symeig_cov`: `Q = 1` (2×2), `λ = (3, 8)`, `c = 1`, `s = (2, 3)`. -/
example : (Matrix.of (scaleCols (1 : Matrix (Fin 2) (Fin 2) ℤ) ![2, 3]) * (Matrix.of (scaleCols (1 : Matrix (Fin 2) (Fin 2) ℤ) ![2, 3]))ᵀ
    : Matrix _ _ ℤ) = 1 * Matrix.diagonal ![3, 8] * (1 : Matrix (Fin 2) (Fin 2) ℤ)ᵀ + (1 : ℤ) • 1 :=
  kronAddedDiag_cov 1 (by decide +kernel) _ _ 1 (by decide +kernel)

/-- Non-vacuity of `repeatIdx_lt` and of `ravel_unravel`: base batch `(2, 1)` repeated `(3, 2)` → `(6, 2)`; output member
`(5, 1)` (flat 11) reads base member `(1, 0)` (flat 1). -/
example : repeatShape [2, 1] [3, 2] = [6, 2] ∧ repeatIdx [2, 1] [5, 1] = [1, 0] ∧ repeatMember [2, 1] [3, 2] 11 = 1 ∧
    repeatShape [2] [3, 1] = [3, 2] ∧ repeatMember [2] [3, 1] 5 = 1 := by decide

/-! ### ConstantMul inverse root (`root_inv_decomposition` override, /repo c4c33aa): `c^{-1/2} · R₀`. -/

/-- **ConstantMul inverse root**: with `isc = c^{-1/2}` (`isc² c = 1`) and `R₀ R₀ᵀ = A⁻¹` the scaled inverse root
`isc · R₀` satisfies `R Rᵀ = isc² · A⁻¹`, and that matrix is the inverse of `c · A`; all sizes and root widths. -/
theorem constMul_rootInv_cov {n m : Nat} (isc c : α) (hc : isc * isc * c = 1)
    (R0 : Matrix (Fin n) (Fin m) α) (A Ainv : Matrix (Fin n) (Fin n) α) (hR : R0 * R0ᵀ = Ainv) (hA : A * Ainv = 1) :
    (Matrix.of (constMulRootInv isc R0) * (Matrix.of (constMulRootInv isc R0))ᵀ : Matrix _ _ α) = (isc * isc) • Ainv ∧
    (c • A) * ((isc * isc) • Ainv) = 1 := by
  refine ⟨constMul_cov isc (isc * isc) rfl R0 Ainv hR, ?_⟩
  have hk : c * (isc * isc) = 1 := by rw [mul_comm]; exact hc
  rw [Matrix.smul_mul, Matrix.mul_smul, smul_smul, hA, hk, one_smul]

/-- **The cached root and inverse root of a ConstantMul stay paired**: if the base pair is paired (`R₀ᵀ R = 1`) and
`√c · c^{-1/2} = 1`, then `(c^{-1/2} R₀)ᵀ (√c R) = 1` — the assumption `add_low_rank` / `cat_rows` make when they combine the
two (the defect fixed by c4c33aa was that this failed after `diagonalization()`). -/
theorem constMul_rootInv_paired {n m : Nat} (sc isc : α) (h : sc * isc = 1)
    (R R0 : Matrix (Fin n) (Fin m) α) (hp : R0ᵀ * R = 1) :
    ((Matrix.of (constMulRootInv isc R0))ᵀ * Matrix.of (constMulRoot sc R) : Matrix _ _ α) = 1 := by
  ext i j
  have hij := congrFun (congrFun hp i) j
  simp only [Matrix.mul_apply, Matrix.transpose_apply] at hij
  simp only [Matrix.mul_apply, Matrix.transpose_apply, Matrix.of_apply, constMulRootInv, constMulRoot]
  calc ∑ l, R0 l i * isc * (R l j * sc) = (∑ l, R0 l i * R l j) * (sc * isc) := by
        rw [Finset.sum_mul]; exact Finset.sum_congr rfl fun l _ => by ring
    _ = (1 : Matrix (Fin m) (Fin m) α) i j := by rw [hij, h, mul_one]

/-- Non-vacuity: `c = 4`, `c^{-1/2} = 1/2`, `A = 9`, `R₀ = 1/3` (1×1): inverse root `1/6`, `(1/6)² = 1/36 = (4·9)⁻¹`. -/
example : (Matrix.of (constMulRootInv (1 / 2 : ℚ) (Matrix.of fun (_ _ : Fin 1) => (1 / 3 : ℚ)))
      * (Matrix.of (constMulRootInv (1 / 2 : ℚ) (Matrix.of fun (_ _ : Fin 1) => (1 / 3 : ℚ))))ᵀ : Matrix _ _ ℚ)
        = ((1 / 2 : ℚ) * (1 / 2)) • (Matrix.of fun _ _ => (1 / 9 : ℚ)) ∧
      ((4 : ℚ) • (Matrix.of fun (_ _ : Fin 1) => (9 : ℚ))) * (((1 / 2 : ℚ) * (1 / 2)) • (Matrix.of fun _ _ => (1 / 9 : ℚ))) = 1 :=
  constMul_rootInv_cov (1 / 2) 4 (by decide +kernel) _ (Matrix.of fun _ _ => 9) _ (by decide +kernel) (by decide +kernel)

/-! ### Translator facts: the sampler / root source text the model was written against (regenerated from /repo by
`harness/extract/c18_samplers.py` on every run). -/

/-- Today's source of every mirrored sampler / root override is, after `ast` normalisation, the text the model mirrors:
noise shapes, permutes, the reshape / transpose / sum of the block samplers, Chol orientation, BatchRepeat's `repeat`
arguments, ConstantMul's test and exponent, Kronecker's threshold comparison, KroneckerAddedDiag's constant-diagonal root,
`_scale_columns`, SumKronecker's `matmul`, the CIQ preconditioning steps. -/
theorem gen_sampler_facts : LinOp.Generated.C18.facts = expectedFacts := rfl

end LinOp.C18
