import LinOp.C13.Model
import LinOp.Generated.C13PSigma
-- GENERATED by harness/extract/c13_alias.py from /repo/linear_operator (do not edit)
namespace LinOp.Generated.C13P
open LinOp.C13

/-- operators/batch_repeat_linear_operator.py:BatchRepeatLinearOperator._getitem (line 98); formals ['self', 'row_index', 'col_index', 'batch_indices'] -/
def f180_operators_batch_repeat_linear_operator__BatchRepeatLinearOperator__getitem : Fn := ⟨4,
 (.seq (.seq (.seq (.seq (.assign 5 (.join []))
       (.assign 6 (.same 5)))
     (.seq (.assign 7 (.view 0))
       (.seq (.assign 8 (.view 7))
         (.ifStar (.call 8 811 [7, 4]) .skip))))
   (.seq (.seq (.assign 9 (.same 8))
       (.seq (.assign 10 (.same 9))
         (.assign 11 (.view 0))))
     (.seq (.assign 12 (.view 11))
       (.seq (.ifStar (.call 12 807 [11, 4]) .skip)
         (.assign 13 (.same 12))))))
 (.seq (.seq (.seq (.whileStar ⟨[[0], [1], [2], [3], [], [], [0], [0], [0], [0], [0], [0], [0], [0], [0], [0], [], [0], [], [0], [0], [0]], [], []⟩ (.seq (.assign 14 (.view 13))
           (.seq (.assign 15 (.same 14))
             (.ifStar (.seq (.seq (.seq (.call 16 808 [15, 4])
                 (.assign 17 (.view 0)))
                 (.seq (.assign 18 .fresh)
                 (.whileStar ⟨[[0], [1], [2], [3], [], [], [0], [0], [0], [0], [0], [0], [0], [0], [0], [0], [], [0], [], [0], [0], [0]], [], []⟩ (.assign 18 (.join [4, 18])))))
                 (.seq (.seq (.assign 19 (.join [17, 18]))
                 (.assign 21 (.join [19])))
                 (.seq (.ifStar (.assign 20 .fresh) (.call 20 816 [15, 21]))
                 (.assign 6 (.join [6, 20]))))) (.assign 6 (.join [6, 15]))))))
       (.assign 22 (.join [6, 10])))
     (.seq (.assign 24 .fresh)
       (.seq (.assign 26 (.join [22]))
         (.call 25 812 [24, 22, 22, 22, 22, 22, 22, 22, 22, 22, 22, 22, 22, 22, 22, 22, 22, 22, 22, 22, 22, 22, 22, 22, 22, 22, 22, 22, 22, 22, 22, 22, 22, 22, 22, 22, 22, 22, 22, 22, 22, 22, 22, 22, 22, 22, 22, 22, 22, 22, 22, 22, 22, 22, 26]))))
   (.seq (.seq (.assign 23 (.join [22, 25]))
       (.seq (.assign 27 (.same 23))
         (.assign 28 (.join [3]))))
     (.seq (.assign 30 (.join [28]))
       (.seq (.call 29 813 [27, 1, 2, 30])
         (.ret 29))))))⟩

/-- operators/batch_repeat_linear_operator.py:BatchRepeatLinearOperator._matmul (line 113); formals ['self', 'rhs'] -/
def f181_operators_batch_repeat_linear_operator__BatchRepeatLinearOperator__matmul : Fn := ⟨2,
 (.seq (.seq (.seq (.call 3 703 [2, 2, 2])
     (.seq (.assign 4 (.same 3))
       (.ifStar (.call 5 789 [4, 2, 2]) .skip)))
   (.seq (.seq (.assign 6 .fresh)
       (.assign 7 (.same 6)))
     (.seq (.ifStar (.seq (.assign 8 (.view 1))
           (.assign 1 (.same 8))) .skip)
       (.call 9 869 [0, 1, 7, 2]))))
 (.seq (.seq (.assign 1 (.same 9))
     (.seq (.assign 11 (.view 0))
       (.call 10 815 [11, 1, 2])))
   (.seq (.seq (.assign 12 (.same 10))
       (.call 13 870 [0, 12, 4, 2]))
     (.seq (.assign 12 (.same 13))
       (.ret 12)))))⟩

/-- operators/batch_repeat_linear_operator.py:BatchRepeatLinearOperator._move_repeat_batches_back (line 130); formals ['self', 'batch_matrix', 'output_shape'] -/
def f182_operators_batch_repeat_linear_operator__BatchRepeatLinearOperator__move_repeat_batches_back : Fn := ⟨3,
 (.seq (.seq (.seq (.seq (.ifStar (.seq (.assign 4 (.view 0))
           (.seq (.assign 5 (.view 4))
             (.assign 6 (.same 5)))) (.seq (.seq (.assign 7 .fresh)
             (.seq (.assign 8 (.view 0))
               (.call 9 808 [8, 3])))
           (.seq (.seq (.whileStar ⟨[[0], [1], [2], [], [], [], [], [], [0], [], [0]], [], []⟩ (.seq (.assign 10 (.view 0))
                 (.seq (.call 11 808 [10, 3])
                 (.assign 7 (.join [3, 7])))))
               (.assign 6 (.same 3)))
             (.seq (.ifStar (.call 12 789 [2, 3, 3]) (.assign 12 (.view 2)))
               (.call 13 871 [0, 6, 12, 3])))))
       (.ifStar (.call 14 789 [2, 3, 3]) .skip))
     (.seq (.assign 15 (.view 1))
       (.seq (.assign 1 (.same 15))
         (.assign 16 .fresh))))
   (.seq (.seq (.assign 18 .fresh)
       (.seq (.assign 19 (.view 18))
         (.assign 17 (.same 19))))
     (.seq (.whileStar ⟨[[0], [1], [2], [], [0], [0], [0], [], [0], [], [0], [], [2], [], [2], [1]], [], []⟩ (.seq (.seq (.assign 20 .fresh)
             (.assign 21 (.view 20)))
           (.seq (.assign 17 (.same 21))
             (.seq (.assign 22 (.join [3, 17]))
               (.assign 16 (.join [16, 22]))))))
       (.seq (.assign 23 (.join [16]))
         (.assign 24 (.join [23]))))))
 (.seq (.seq (.seq (.assign 25 (.join [3]))
       (.assign 26 (.join [24, 25])))
     (.seq (.assign 27 (.same 26))
       (.seq (.assign 29 (.join [27]))
         (.assign 31 (.join [29])))))
   (.seq (.seq (.ifStar (.assign 30 (.view 1)) (.call 30 809 [1, 31]))
       (.seq (.assign 28 (.maybeView 30))
         (.assign 1 (.same 28))))
     (.seq (.assign 32 (.view 1))
       (.seq (.assign 1 (.same 32))
         (.ret 1))))))⟩

/-- operators/batch_repeat_linear_operator.py:BatchRepeatLinearOperator._move_repeat_batches_to_columns (line 157); formals ['self', 'batch_matrix', 'output_shape'] -/
def f183_operators_batch_repeat_linear_operator__BatchRepeatLinearOperator__move_repeat_batches_to_columns : Fn := ⟨3,
 (.seq (.seq (.seq (.seq (.seq (.assign 4 .fresh)
         (.assign 5 (.view 0)))
       (.seq (.call 6 808 [5, 3])
         (.whileStar ⟨[[0], [1], [2], [], [], [0], [], [0]], [], []⟩ (.seq (.assign 7 (.view 0))
             (.seq (.call 8 808 [7, 3])
               (.assign 4 (.join [3, 4])))))))
     (.seq (.seq (.assign 9 (.same 3))
         (.ifStar (.call 10 789 [2, 3, 3]) (.assign 10 (.view 2))))
       (.seq (.call 11 871 [0, 9, 10, 3])
         (.assign 12 (.same 11)))))
   (.seq (.seq (.seq (.assign 13 .fresh)
         (.assign 16 (.view 12)))
       (.seq (.assign 14 (.same 16))
         (.assign 17 (.view 9))))
     (.seq (.seq (.assign 15 (.same 17))
         (.whileStar ⟨[[0], [1], [2], [], [], [0], [], [0], [], [], [2]], [], []⟩ (.seq (.seq (.assign 18 (.view 12))
               (.seq (.assign 14 (.same 18))
                 (.assign 19 (.view 9))))
             (.seq (.assign 15 (.same 19))
               (.seq (.assign 20 (.join [14, 15]))
                 (.assign 13 (.join [13, 20])))))))
       (.seq (.ifStar (.call 21 789 [2, 3, 3]) .skip)
         (.assign 22 (.view 1))))))
 (.seq (.seq (.seq (.seq (.assign 1 (.same 22))
         (.assign 23 .fresh))
       (.seq (.assign 24 (.same 23))
         (.assign 25 .fresh)))
     (.seq (.seq (.assign 26 (.same 25))
         (.assign 28 (.join [24, 26])))
       (.seq (.assign 30 (.join [3, 28]))
         (.ifStar (.assign 29 (.view 1)) (.call 29 809 [1, 30])))))
   (.seq (.seq (.seq (.assign 27 (.maybeView 29))
         (.assign 1 (.same 27)))
       (.seq (.ifStar (.call 31 789 [2, 3, 3]) .skip)
         (.assign 32 (.view 1))))
     (.seq (.seq (.assign 1 (.same 32))
         (.assign 33 (.join [2, 9, 12])))
       (.seq (.assign 0 (.join [0, 33]))
         (.ret 1))))))⟩

/-- operators/batch_repeat_linear_operator.py:BatchRepeatLinearOperator._permute_batch (line 190); formals ['self', 'dims'] -/
def f184_operators_batch_repeat_linear_operator__BatchRepeatLinearOperator__permute_batch : Fn := ⟨2,
 (.seq (.seq (.seq (.seq (.assign 3 .fresh)
       (.assign 5 (.view 1)))
     (.seq (.assign 4 (.same 5))
       (.whileStar ⟨[[0], [1], [], [0, 1], [1], [1], [1], [0], [0, 1]], [], []⟩ (.seq (.seq (.assign 6 (.view 1))
             (.assign 4 (.same 6)))
           (.seq (.assign 7 (.view 0))
             (.seq (.ifStar (.call 8 789 [7, 4, 2]) (.assign 8 (.maybeView 7)))
               (.assign 3 (.join [3, 8]))))))))
   (.seq (.seq (.assign 9 .fresh)
       (.assign 10 (.same 9)))
     (.seq (.assign 11 (.join [1]))
       (.assign 13 (.view 0)))))
 (.seq (.seq (.seq (.assign 14 (.join [11]))
       (.call 12 810 [13, 14]))
     (.seq (.assign 16 .fresh)
       (.assign 18 (.join [12]))))
   (.seq (.seq (.call 17 812 [16, 2, 2, 2, 2, 10, 2, 2, 2, 2, 2, 2, 2, 2, 2, 2, 2, 2, 2, 2, 2, 2, 2, 2, 2, 2, 2, 2, 2, 2, 2, 2, 2, 2, 2, 2, 2, 2, 2, 2, 2, 2, 2, 2, 2, 2, 2, 2, 2, 2, 2, 2, 2, 2, 18])
       (.assign 15 (.join [10, 12, 17])))
     (.seq (.assign 19 (.same 15))
       (.ret 19)))))⟩

/-- operators/batch_repeat_linear_operator.py:BatchRepeatLinearOperator._bilinear_derivative (line 195); formals ['self', 'left_vecs', 'right_vecs'] -/
def f185_operators_batch_repeat_linear_operator__BatchRepeatLinearOperator__bilinear_derivative : Fn := ⟨3,
 (.ifStar (.seq (.seq (.seq (.call 4 703 [3, 3, 3])
       (.seq (.assign 5 (.same 4))
         (.ifStar (.seq (.assign 6 (.view 1))
             (.assign 1 (.same 6))) .skip)))
     (.seq (.call 7 703 [3, 3, 3])
       (.seq (.assign 8 (.same 7))
         (.ifStar (.seq (.assign 9 (.view 2))
             (.assign 2 (.same 9))) .skip))))
   (.seq (.seq (.call 10 869 [0, 1, 5, 3])
       (.seq (.assign 1 (.same 10))
         (.call 11 869 [0, 2, 8, 3])))
     (.seq (.seq (.assign 2 (.same 11))
         (.assign 13 (.view 0)))
       (.seq (.call 12 799 [13, 1, 2, 3])
         (.ret 12))))) (.seq (.call 14 799 [0, 1, 2, 3])
   (.ret 14)))⟩

/-- operators/batch_repeat_linear_operator.py:BatchRepeatLinearOperator._root_decomposition (line 212); formals ['self'] -/
def f186_operators_batch_repeat_linear_operator__BatchRepeatLinearOperator__root_decomposition : Fn := ⟨1,
 (.seq (.seq (.assign 2 (.view 0))
   (.seq (.assign 3 (.join [2]))
     (.assign 6 (.view 0))))
 (.seq (.seq (.call 5 846 [6, 1])
     (.assign 7 (.join [1, 3])))
   (.seq (.ifStar (.assign 4 .fresh) (.call 4 816 [5, 7]))
     (.ret 4))))⟩

/-- operators/batch_repeat_linear_operator.py:BatchRepeatLinearOperator._root_inv_decomposition (line 217); formals ['self', 'initial_vectors', 'test_vectors'] -/
def f187_operators_batch_repeat_linear_operator__BatchRepeatLinearOperator__root_inv_decomposition : Fn := ⟨3,
 (.seq (.seq (.assign 4 (.view 0))
   (.seq (.assign 5 (.join [4]))
     (.assign 8 (.view 0))))
 (.seq (.seq (.call 7 847 [8, 3, 3, 3])
     (.assign 9 (.join [3, 5])))
   (.seq (.ifStar (.assign 6 .fresh) (.call 6 816 [7, 9]))
     (.ret 6))))⟩

/-- operators/batch_repeat_linear_operator.py:BatchRepeatLinearOperator._size (line 224); formals ['self'] -/
def f188_operators_batch_repeat_linear_operator__BatchRepeatLinearOperator__size : Fn := ⟨1,
 (.seq (.seq (.seq (.assign 2 .fresh)
     (.assign 5 (.view 0)))
   (.seq (.assign 6 (.view 1))
     (.seq (.assign 3 (.same 6))
       (.assign 7 (.view 5)))))
 (.seq (.seq (.assign 4 (.same 7))
     (.whileStar ⟨[[0], [], [0], [], [0], [0], [], [0], [0], [], [0], [0]], [], []⟩ (.seq (.seq (.assign 8 (.view 0))
           (.seq (.assign 9 (.view 1))
             (.assign 3 (.same 9))))
         (.seq (.seq (.assign 10 (.view 8))
             (.assign 4 (.same 10)))
           (.seq (.ifStar (.assign 11 .fresh) (.ifStar (.call 11 804 [4, 3, 1]) (.call 11 803 [3, 4, 1])))
             (.assign 2 (.join [2, 11])))))))
   (.seq (.assign 12 .fresh)
     (.seq (.assign 13 (.same 12))
       (.ret 13)))))⟩

/-- operators/batch_repeat_linear_operator.py:BatchRepeatLinearOperator._transpose_nonbatch (line 231); formals ['self'] -/
def f189_operators_batch_repeat_linear_operator__BatchRepeatLinearOperator__transpose_nonbatch : Fn := ⟨1,
 (.seq (.seq (.seq (.assign 3 (.view 0))
     (.call 2 829 [3, 1]))
   (.seq (.assign 4 (.view 0))
     (.assign 6 .fresh)))
 (.seq (.seq (.assign 8 (.join [2]))
     (.call 7 812 [6, 1, 1, 1, 1, 4, 1, 1, 1, 1, 1, 1, 1, 1, 1, 1, 1, 1, 1, 1, 1, 1, 1, 1, 1, 1, 1, 1, 1, 1, 1, 1, 1, 1, 1, 1, 1, 1, 1, 1, 1, 1, 1, 1, 1, 1, 1, 1, 1, 1, 1, 1, 1, 1, 8]))
   (.seq (.assign 5 (.join [2, 4, 7]))
     (.ret 5))))⟩

/-- operators/batch_repeat_linear_operator.py:BatchRepeatLinearOperator._unsqueeze_batch (line 234); formals ['self', 'dim'] -/
def f190_operators_batch_repeat_linear_operator__BatchRepeatLinearOperator__unsqueeze_batch : Fn := ⟨2,
 (.seq (.seq (.seq (.assign 3 (.view 0))
     (.seq (.assign 4 (.same 3))
       (.assign 5 (.view 0))))
   (.seq (.seq (.assign 6 (.join [5]))
       (.assign 7 (.same 6)))
     (.seq (.assign 7 (.join [1, 2, 7]))
       (.assign 8 .fresh))))
 (.seq (.seq (.seq (.assign 7 (.same 8))
       (.assign 9 (.same 2)))
     (.seq (.ifStar (.seq (.call 10 854 [4, 9, 2])
           (.assign 4 (.same 10))) .skip)
       (.assign 12 .fresh)))
   (.seq (.seq (.assign 14 (.join [4]))
       (.call 13 812 [12, 2, 2, 2, 2, 7, 2, 2, 2, 2, 2, 2, 2, 2, 2, 2, 2, 2, 2, 2, 2, 2, 2, 2, 2, 2, 2, 2, 2, 2, 2, 2, 2, 2, 2, 2, 2, 2, 2, 2, 2, 2, 2, 2, 2, 2, 2, 2, 2, 2, 2, 2, 2, 2, 14]))
     (.seq (.assign 11 (.join [4, 7, 13]))
       (.ret 11)))))⟩

/-- operators/batch_repeat_linear_operator.py:BatchRepeatLinearOperator.add_jitter (line 246); formals ['self', 'jitter_val'] -/
def f191_operators_batch_repeat_linear_operator__BatchRepeatLinearOperator_add_jitter : Fn := ⟨2,
 (.seq (.seq (.seq (.assign 4 (.view 0))
     (.call 3 766 [4, 1, 2]))
   (.seq (.assign 5 (.view 0))
     (.assign 7 .fresh)))
 (.seq (.seq (.assign 9 (.join [3]))
     (.call 8 812 [7, 2, 2, 2, 2, 5, 2, 2, 2, 2, 2, 2, 2, 2, 2, 2, 2, 2, 2, 2, 2, 2, 2, 2, 2, 2, 2, 2, 2, 2, 2, 2, 2, 2, 2, 2, 2, 2, 2, 2, 2, 2, 2, 2, 2, 2, 2, 2, 2, 2, 2, 2, 2, 2, 9]))
   (.seq (.assign 6 (.join [3, 5, 8]))
     (.ret 6))))⟩

/-- operators/batch_repeat_linear_operator.py:BatchRepeatLinearOperator.inv_quad_logdet (line 251); formals ['self', 'inv_quad_rhs', 'logdet', 'reduce_inv_quad'] -/
def f192_operators_batch_repeat_linear_operator__BatchRepeatLinearOperator_inv_quad_logdet : Fn := ⟨4,
 (.seq (.seq (.seq (.ifStar (.call 5 767 [0, 4, 4]) .skip)
     (.seq (.ifStar (.call 6 808 [0, 4]) .skip)
       (.ifStar (.seq (.seq (.call 7 703 [4, 4, 4])
             (.assign 8 (.same 7)))
           (.seq (.call 9 869 [0, 1, 8, 4])
             (.assign 1 (.same 9)))) .skip)))
   (.seq (.seq (.assign 11 (.view 0))
       (.call 10 770 [11, 1, 2, 4, 4]))
     (.seq (.assign 12 (.view 10))
       (.assign 13 (.same 12)))))
 (.seq (.seq (.seq (.assign 14 (.view 10))
       (.assign 15 (.same 14)))
     (.seq (.call 16 837 [13, 4])
       (.ifStar (.seq (.seq (.seq (.assign 17 (.view 0))
               (.call 18 837 [17, 4]))
             (.seq (.assign 19 (.view 13))
               (.seq (.assign 13 (.same 19))
                 (.assign 20 (.join [8])))))
           (.seq (.seq (.assign 8 (.same 20))
               (.seq (.write 8)
                 (.call 22 870 [0, 13, 8, 4])))
             (.seq (.ifStar (.assign 21 (.view 22)) (.call 21 784 [22, 4, 4]))
               (.seq (.assign 13 (.same 21))
                 (.ifStar (.seq (.call 24 835 [13, 4, 4])
                 (.seq (.assign 23 .fresh)
                 (.assign 13 (.same 23)))) .skip))))) .skip)))
   (.seq (.seq (.call 25 837 [15, 4])
       (.ifStar (.seq (.seq (.assign 26 (.view 0))
             (.assign 27 (.join [26])))
           (.seq (.assign 29 (.join [27]))
             (.seq (.ifStar (.assign 28 .fresh) (.call 28 816 [15, 29]))
               (.assign 15 (.same 28))))) .skip))
     (.seq (.assign 30 (.join [13, 15]))
       (.ret 30)))))⟩

/-- operators/batch_repeat_linear_operator.py:BatchRepeatLinearOperator.repeat (line 299); formals ['self', 'sizes'] -/
def f193_operators_batch_repeat_linear_operator__BatchRepeatLinearOperator_repeat : Fn := ⟨2,
 (.seq (.seq (.seq (.assign 3 .fresh)
     (.whileStar ⟨[[0], [1]], [], []⟩ (.assign 3 (.join [2, 3]))))
   (.seq (.assign 4 (.view 0))
     (.seq (.assign 5 .fresh)
       (.whileStar ⟨[[0], [1], [], [], [0]], [], []⟩ (.seq (.assign 6 .fresh)
           (.assign 5 (.join [5, 6])))))))
 (.seq (.seq (.assign 7 .fresh)
     (.seq (.assign 9 .fresh)
       (.assign 11 (.join [4]))))
   (.seq (.call 10 812 [9, 2, 2, 2, 2, 7, 2, 2, 2, 2, 2, 2, 2, 2, 2, 2, 2, 2, 2, 2, 2, 2, 2, 2, 2, 2, 2, 2, 2, 2, 2, 2, 2, 2, 2, 2, 2, 2, 2, 2, 2, 2, 2, 2, 2, 2, 2, 2, 2, 2, 2, 2, 2, 2, 11])
     (.seq (.assign 8 (.join [4, 7, 10]))
       (.ret 8)))))⟩

/-- operators/batch_repeat_linear_operator.py:BatchRepeatLinearOperator._svd (line 316); formals ['self'] -/
def f194_operators_batch_repeat_linear_operator__BatchRepeatLinearOperator__svd : Fn := ⟨1,
 (.seq (.seq (.seq (.seq (.assign 3 (.view 0))
       (.seq (.call 2 845 [3, 1])
         (.assign 4 (.view 2))))
     (.seq (.assign 5 (.same 4))
       (.seq (.assign 6 (.view 2))
         (.assign 7 (.same 6)))))
   (.seq (.seq (.assign 8 (.view 2))
       (.seq (.assign 9 (.same 8))
         (.assign 10 (.view 0))))
     (.seq (.seq (.assign 11 (.join [10]))
         (.assign 13 (.join [1, 11])))
       (.seq (.ifStar (.assign 12 .fresh) (.call 12 816 [5, 13]))
         (.assign 14 (.same 12))))))
 (.seq (.seq (.seq (.assign 15 (.view 0))
       (.seq (.assign 16 (.join [15]))
         (.assign 18 (.join [1, 16]))))
     (.seq (.ifStar (.assign 17 .fresh) (.call 17 816 [7, 18]))
       (.seq (.assign 19 (.same 17))
         (.assign 20 (.view 0)))))
   (.seq (.seq (.assign 21 (.join [20]))
       (.seq (.assign 23 (.join [1, 21]))
         (.ifStar (.assign 22 .fresh) (.call 22 816 [9, 23]))))
     (.seq (.seq (.assign 24 (.same 22))
         (.assign 25 (.join [14, 19, 24])))
       (.seq (.ret 25)
         (.ret 0))))))⟩

/-- operators/batch_repeat_linear_operator.py:BatchRepeatLinearOperator._symeig (line 325); formals ['self', 'eigenvectors', 'return_evals_as_lazy'] -/
def f195_operators_batch_repeat_linear_operator__BatchRepeatLinearOperator__symeig : Fn := ⟨3,
 (.seq (.seq (.seq (.assign 5 (.view 0))
     (.seq (.call 4 823 [5, 1, 3, 3])
       (.assign 6 (.view 4))))
   (.seq (.seq (.assign 7 (.same 6))
       (.assign 8 (.view 4)))
     (.seq (.assign 9 (.same 8))
       (.assign 10 (.view 0)))))
 (.seq (.seq (.assign 11 (.join [10]))
     (.seq (.assign 13 (.join [3, 11]))
       (.ifStar (.assign 12 .fresh) (.call 12 816 [7, 13]))))
   (.seq (.seq (.assign 7 (.same 12))
       (.ifStar (.seq (.seq (.assign 14 (.view 0))
             (.assign 15 (.join [14])))
           (.seq (.assign 17 (.join [3, 15]))
             (.seq (.ifStar (.assign 16 .fresh) (.call 16 816 [9, 17]))
               (.assign 9 (.same 16))))) .skip))
     (.seq (.assign 18 (.join [7, 9]))
       (.ret 18)))))⟩

/-- operators/block_diag_linear_operator.py:_MetaBlockDiagLinearOperator.__call__ (line 21); formals ['cls', 'base_linear_op', 'block_dim'] -/
def f196_operators_block_diag_linear_operator___MetaBlockDiagLinearOperator___call__ : Fn := ⟨3,
 (.ifStar (.ifStar .skip (.seq (.seq (.seq (.assign 5 (.view 1))
         (.ifStar (.call 5 860 [1, 3]) .skip))
       (.seq (.assign 6 (.same 5))
         (.assign 4 (.maybeView 6))))
     (.seq (.seq (.assign 7 (.same 4))
         (.assign 9 .fresh))
       (.seq (.call 8 312 [9, 7])
         (.ret 8))))) (.seq (.assign 10 (.opq [0, 1, 2]))
   (.ret 10)))⟩

/-- operators/block_diag_linear_operator.py:BlockDiagLinearOperator.__init__ (line 52); formals ['self', 'base_linear_op', 'block_dim'] -/
def f197_operators_block_diag_linear_operator__BlockDiagLinearOperator___init__ : Fn := ⟨3,
 (.seq (.assign 5 (.join [1, 2]))
 (.seq (.call 4 812 [0, 3, 3, 3, 3, 3, 3, 3, 3, 3, 3, 3, 3, 3, 3, 3, 3, 3, 3, 3, 3, 3, 3, 3, 3, 3, 3, 3, 3, 3, 3, 3, 3, 3, 3, 3, 3, 3, 3, 3, 3, 3, 3, 3, 3, 3, 3, 3, 3, 3, 3, 3, 3, 3, 5])
   (.ret 0)))⟩

/-- operators/block_diag_linear_operator.py:BlockDiagLinearOperator.num_blocks (line 62); formals ['self'] -/
def f198_operators_block_diag_linear_operator__BlockDiagLinearOperator_num_blocks : Fn := ⟨1,
 (.seq (.seq (.assign 3 (.view 0))
   (.call 4 767 [3, 1, 1]))
 (.seq (.assign 2 .fresh)
   (.ret 2)))⟩

/-- operators/block_diag_linear_operator.py:BlockDiagLinearOperator._add_batch_dim (line 65); formals ['self', 'other'] -/
def f199_operators_block_diag_linear_operator__BlockDiagLinearOperator__add_batch_dim : Fn := ⟨2,
 (.seq (.seq (.seq (.assign 3 (.view 2))
     (.assign 4 (.same 3)))
   (.seq (.assign 5 (.join [4]))
     (.assign 4 (.same 5))))
 (.seq (.seq (.write 4)
     (.assign 4 (.join [2, 4])))
   (.seq (.assign 6 (.view 1))
     (.seq (.assign 1 (.same 6))
       (.ret 1)))))⟩

/-- operators/block_diag_linear_operator.py:BlockDiagLinearOperator._cholesky (line 76); formals ['self', 'upper'] -/
def f200_operators_block_diag_linear_operator__BlockDiagLinearOperator__cholesky : Fn := ⟨2,
 (.seq (.seq (.seq (.assign 4 (.view 0))
     (.call 3 792 [4, 1, 2]))
   (.seq (.assign 6 .fresh)
     (.seq (.assign 8 (.join [3]))
       (.call 7 812 [6, 2, 2, 2, 2, 2, 2, 2, 2, 2, 2, 2, 2, 2, 2, 2, 2, 2, 2, 2, 2, 2, 2, 2, 2, 2, 2, 2, 2, 2, 2, 2, 2, 2, 2, 2, 2, 2, 2, 2, 2, 2, 2, 2, 2, 2, 2, 2, 2, 2, 2, 2, 2, 2, 8]))))
 (.seq (.seq (.assign 5 (.join [3, 7]))
     (.seq (.assign 9 (.same 5))
       (.assign 11 .fresh)))
   (.seq (.call 10 619 [11, 9, 1])
     (.seq (.ret 10)
       (.ret 0)))))⟩

/-- operators/block_diag_linear_operator.py:BlockDiagLinearOperator._cholesky_solve (line 84); formals ['self', 'rhs', 'upper'] -/
def f201_operators_block_diag_linear_operator__BlockDiagLinearOperator__cholesky_solve : Fn := ⟨3,
 (.seq (.seq (.seq (.call 4 872 [0, 1, 3])
     (.assign 1 (.same 4)))
   (.seq (.assign 6 (.view 0))
     (.call 5 793 [6, 1, 2, 3])))
 (.seq (.seq (.assign 7 (.same 5))
     (.call 8 873 [0, 7, 3]))
   (.seq (.assign 7 (.same 8))
     (.ret 7))))⟩

/-- operators/block_diag_linear_operator.py:BlockDiagLinearOperator._diagonal (line 94); formals ['self'] -/
def f202_operators_block_diag_linear_operator__BlockDiagLinearOperator__diagonal : Fn := ⟨1,
 (.seq (.seq (.assign 4 (.view 0))
   (.seq (.call 3 818 [4, 1])
     (.assign 2 (.maybeView 3))))
 (.seq (.seq (.assign 5 (.same 2))
     (.call 6 767 [0, 1, 1]))
   (.seq (.assign 7 (.view 5))
     (.ret 7))))⟩

/-- operators/block_diag_linear_operator.py:BlockDiagLinearOperator._getitem_block_aligned (line 98); formals ['self', 'row_start', 'row_end', 'col_start', 'col_end', 'batch_indices'] -/
def f203_operators_block_diag_linear_operator__BlockDiagLinearOperator__getitem_block_aligned : Fn := ⟨6,
 (.seq (.seq (.seq (.seq (.ifStar (.ret 6) .skip)
       (.assign 7 .fresh))
     (.seq (.assign 8 (.same 7))
       (.ifStar (.ret 6) .skip)))
   (.seq (.seq (.assign 9 .fresh)
       (.assign 10 (.same 9)))
     (.seq (.assign 11 (.join [5]))
       (.assign 13 (.view 0)))))
 (.seq (.seq (.seq (.assign 14 (.join [8, 11]))
       (.call 12 813 [13, 10, 10, 14]))
     (.seq (.assign 15 (.same 12))
       (.assign 17 .fresh)))
   (.seq (.seq (.assign 19 (.join [15]))
       (.call 18 812 [17, 6, 6, 6, 6, 6, 6, 6, 6, 6, 6, 6, 6, 6, 6, 6, 6, 6, 6, 6, 6, 6, 6, 6, 6, 6, 6, 6, 6, 6, 6, 6, 6, 6, 6, 6, 6, 6, 6, 6, 6, 6, 6, 6, 6, 6, 6, 6, 6, 6, 6, 6, 6, 6, 19]))
     (.seq (.assign 16 (.join [6, 15, 18]))
       (.ret 16)))))⟩

/-- operators/block_diag_linear_operator.py:BlockDiagLinearOperator._get_indices (line 111); formals ['self', 'row_index', 'col_index', 'batch_indices'] -/
def f204_operators_block_diag_linear_operator__BlockDiagLinearOperator__get_indices : Fn := ⟨4,
 (.seq (.seq (.seq (.seq (.assign 5 (.view 0))
       (.call 6 767 [5, 4, 4]))
     (.seq (.assign 7 .fresh)
       (.seq (.assign 8 (.same 7))
         (.assign 9 (.view 0)))))
   (.seq (.seq (.call 10 767 [9, 4, 4])
       (.seq (.assign 11 (.view 0))
         (.call 12 767 [11, 4, 4])))
     (.seq (.assign 13 .fresh)
       (.seq (.assign 1 (.same 13))
         (.assign 14 (.view 0))))))
 (.seq (.seq (.seq (.call 15 767 [14, 4, 4])
       (.assign 16 .fresh))
     (.seq (.assign 2 (.same 16))
       (.seq (.assign 17 (.join [3]))
         (.assign 19 (.view 0)))))
   (.seq (.seq (.assign 20 (.join [8, 17]))
       (.seq (.call 18 857 [19, 1, 2, 20])
         (.assign 21 (.same 18))))
     (.seq (.assign 22 .fresh)
       (.seq (.assign 21 (.same 22))
         (.ret 21))))))⟩

/-- operators/block_diag_linear_operator.py:BlockDiagLinearOperator._remove_batch_dim (line 126); formals ['self', 'other'] -/
def f205_operators_block_diag_linear_operator__BlockDiagLinearOperator__remove_batch_dim : Fn := ⟨2,
 (.seq (.seq (.seq (.assign 3 (.join [2]))
     (.assign 4 (.same 3)))
   (.seq (.assign 4 (.join [2, 4]))
     (.assign 5 (.join [4]))))
 (.seq (.seq (.assign 7 (.join [5]))
     (.ifStar (.assign 6 (.maybeView 1)) (.call 6 856 [1, 7])))
   (.seq (.assign 1 (.same 6))
     (.ret 1))))⟩

/-- operators/block_diag_linear_operator.py:BlockDiagLinearOperator._root_decomposition (line 133); formals ['self'] -/
def f206_operators_block_diag_linear_operator__BlockDiagLinearOperator__root_decomposition : Fn := ⟨1,
 (.seq (.seq (.assign 3 (.view 0))
   (.seq (.call 2 846 [3, 1])
     (.assign 5 .fresh)))
 (.seq (.seq (.assign 7 (.join [2]))
     (.call 6 812 [5, 1, 1, 1, 1, 1, 1, 1, 1, 1, 1, 1, 1, 1, 1, 1, 1, 1, 1, 1, 1, 1, 1, 1, 1, 1, 1, 1, 1, 1, 1, 1, 1, 1, 1, 1, 1, 1, 1, 1, 1, 1, 1, 1, 1, 1, 1, 1, 1, 1, 1, 1, 1, 1, 7]))
   (.seq (.assign 4 (.join [2, 6]))
     (.ret 4))))⟩

/-- operators/block_diag_linear_operator.py:BlockDiagLinearOperator._root_inv_decomposition (line 138); formals ['self', 'initial_vectors', 'test_vectors'] -/
def f207_operators_block_diag_linear_operator__BlockDiagLinearOperator__root_inv_decomposition : Fn := ⟨3,
 (.seq (.seq (.assign 5 (.view 0))
   (.seq (.call 4 847 [5, 1, 3, 3])
     (.assign 7 .fresh)))
 (.seq (.seq (.assign 9 (.join [4]))
     (.call 8 812 [7, 3, 3, 3, 3, 3, 3, 3, 3, 3, 3, 3, 3, 3, 3, 3, 3, 3, 3, 3, 3, 3, 3, 3, 3, 3, 3, 3, 3, 3, 3, 3, 3, 3, 3, 3, 3, 3, 3, 3, 3, 3, 3, 3, 3, 3, 3, 3, 3, 3, 3, 3, 3, 3, 9]))
   (.seq (.assign 6 (.join [4, 8]))
     (.ret 6))))⟩

/-- operators/block_diag_linear_operator.py:BlockDiagLinearOperator._size (line 145); formals ['self'] -/
def f208_operators_block_diag_linear_operator__BlockDiagLinearOperator__size : Fn := ⟨1,
 (.seq (.seq (.seq (.assign 2 (.join [1]))
     (.assign 3 (.same 2)))
   (.seq (.assign 4 (.view 3))
     (.assign 3 (.join [3, 4]))))
 (.seq (.seq (.assign 5 (.view 3))
     (.assign 3 (.join [3, 5])))
   (.seq (.assign 6 .fresh)
     (.ret 6))))⟩

/-- operators/block_diag_linear_operator.py:BlockDiagLinearOperator._solve (line 152); formals ['self', 'rhs', 'preconditioner', 'num_tridiag'] -/
def f209_operators_block_diag_linear_operator__BlockDiagLinearOperator__solve : Fn := ⟨4,
 (.ifStar (.seq (.call 5 795 [0, 1, 2, 3, 4])
   (.ret 5)) (.seq (.seq (.seq (.call 6 872 [0, 1, 4])
       (.assign 1 (.same 6)))
     (.seq (.assign 8 (.view 0))
       (.call 7 795 [8, 1, 2, 4, 4])))
   (.seq (.seq (.assign 9 (.same 7))
       (.call 10 873 [0, 9, 4]))
     (.seq (.assign 9 (.same 10))
       (.ret 9)))))⟩

/-- operators/block_diag_linear_operator.py:BlockDiagLinearOperator.inv_quad_logdet (line 172); formals ['self', 'inv_quad_rhs', 'logdet', 'reduce_inv_quad'] -/
def f210_operators_block_diag_linear_operator__BlockDiagLinearOperator_inv_quad_logdet : Fn := ⟨4,
 (.seq (.seq (.seq (.ifStar (.seq (.ifStar (.seq (.assign 5 (.view 1))
             (.assign 1 (.same 5))) .skip)
         (.seq (.call 6 872 [0, 1, 4])
           (.assign 1 (.same 6)))) .skip)
     (.seq (.assign 8 (.view 0))
       (.call 7 770 [8, 1, 2, 3, 4])))
   (.seq (.assign 9 (.view 7))
     (.seq (.assign 10 (.same 9))
       (.assign 11 (.view 7)))))
 (.seq (.seq (.assign 12 (.same 11))
     (.seq (.call 13 837 [10, 4])
       (.ifStar (.ifStar (.seq (.seq (.assign 14 (.view 10))
               (.assign 10 (.same 14)))
             (.seq (.call 16 835 [10, 4, 4])
               (.seq (.assign 15 .fresh)
                 (.assign 10 (.same 15))))) (.seq (.seq (.call 17 767 [10, 4, 4])
               (.seq (.assign 18 (.view 10))
                 (.assign 10 (.same 18))))
             (.seq (.call 20 835 [10, 4, 4])
               (.seq (.assign 19 .fresh)
                 (.assign 10 (.same 19)))))) .skip)))
   (.seq (.seq (.call 21 837 [12, 4])
       (.ifStar (.seq (.seq (.assign 23 (.view 12))
             (.call 24 835 [23, 4, 4]))
           (.seq (.assign 22 .fresh)
             (.assign 12 (.same 22)))) .skip))
     (.seq (.assign 25 (.join [10, 12]))
       (.ret 25)))))⟩

/-- operators/block_diag_linear_operator.py:BlockDiagLinearOperator.matmul (line 200); formals ['self', 'other'] -/
def f211_operators_block_diag_linear_operator__BlockDiagLinearOperator_matmul : Fn := ⟨2,
 (.seq (.seq (.call 3 703 [2, 2, 2])
   (.ifStar (.seq (.seq (.assign 4 (.view 0))
         (.seq (.assign 5 (.view 1))
           (.ifStar (.call 6 798 [5, 4, 2]) (.call 6 797 [4, 5, 2]))))
       (.seq (.assign 8 .fresh)
         (.seq (.call 7 197 [8, 6, 2])
           (.ret 7)))) .skip))
 (.seq (.ifStar (.seq (.seq (.seq (.assign 10 (.view 1))
           (.seq (.ifStar (.call 10 860 [1, 2]) .skip)
             (.assign 11 (.same 10))))
         (.seq (.assign 9 (.view 11))
           (.seq (.assign 12 (.same 9))
             (.assign 14 .fresh))))
       (.seq (.seq (.call 13 312 [14, 12])
           (.seq (.assign 15 (.same 13))
             (.assign 16 (.view 0))))
         (.seq (.seq (.ifStar (.call 17 798 [15, 16, 2]) (.call 17 797 [16, 15, 2]))
             (.assign 19 .fresh))
           (.seq (.call 18 197 [19, 17, 2])
             (.ret 18))))) .skip)
   (.seq (.call 20 805 [0, 1, 2])
     (.ret 20))))⟩

/-- operators/block_diag_linear_operator.py:BlockDiagLinearOperator._svd (line 221); formals ['self'] -/
def f212_operators_block_diag_linear_operator__BlockDiagLinearOperator__svd : Fn := ⟨1,
 (.seq (.seq (.seq (.seq (.assign 3 (.view 0))
       (.seq (.call 2 845 [3, 1])
         (.assign 4 (.view 2))))
     (.seq (.assign 5 (.same 4))
       (.seq (.assign 6 (.view 2))
         (.assign 7 (.same 6)))))
   (.seq (.seq (.assign 8 (.view 2))
       (.seq (.assign 9 (.same 8))
         (.assign 10 .fresh)))
     (.seq (.seq (.assign 11 (.join [1]))
         (.assign 13 (.join [10, 11])))
       (.seq (.ifStar (.assign 12 (.maybeView 7)) (.call 12 856 [7, 13]))
         (.assign 7 (.same 12))))))
 (.seq (.seq (.seq (.assign 15 .fresh)
       (.seq (.assign 17 (.join [5]))
         (.call 16 812 [15, 1, 1, 1, 1, 1, 1, 1, 1, 1, 1, 1, 1, 1, 1, 1, 1, 1, 1, 1, 1, 1, 1, 1, 1, 1, 1, 1, 1, 1, 1, 1, 1, 1, 1, 1, 1, 1, 1, 1, 1, 1, 1, 1, 1, 1, 1, 1, 1, 1, 1, 1, 1, 1, 17])))
     (.seq (.assign 14 (.join [5, 16]))
       (.seq (.assign 5 (.same 14))
         (.assign 19 .fresh))))
   (.seq (.seq (.assign 21 (.join [9]))
       (.seq (.call 20 812 [19, 1, 1, 1, 1, 1, 1, 1, 1, 1, 1, 1, 1, 1, 1, 1, 1, 1, 1, 1, 1, 1, 1, 1, 1, 1, 1, 1, 1, 1, 1, 1, 1, 1, 1, 1, 1, 1, 1, 1, 1, 1, 1, 1, 1, 1, 1, 1, 1, 1, 1, 1, 1, 1, 21])
         (.assign 18 (.join [9, 20]))))
     (.seq (.seq (.assign 9 (.same 18))
         (.assign 22 (.join [5, 7, 9])))
       (.seq (.ret 22)
         (.ret 0))))))⟩

/-- operators/block_diag_linear_operator.py:BlockDiagLinearOperator._symeig (line 232); formals ['self', 'eigenvectors', 'return_evals_as_lazy'] -/
def f213_operators_block_diag_linear_operator__BlockDiagLinearOperator__symeig : Fn := ⟨3,
 (.seq (.seq (.seq (.assign 5 (.view 0))
     (.seq (.call 4 823 [5, 1, 3, 3])
       (.assign 6 (.view 4))))
   (.seq (.seq (.assign 7 (.same 6))
       (.assign 8 (.view 4)))
     (.seq (.assign 9 (.same 8))
       (.assign 10 .fresh))))
 (.seq (.seq (.assign 11 (.join [3]))
     (.seq (.assign 13 (.join [10, 11]))
       (.ifStar (.assign 12 (.maybeView 7)) (.call 12 856 [7, 13]))))
   (.seq (.seq (.assign 7 (.same 12))
       (.ifStar (.seq (.seq (.assign 15 .fresh)
             (.assign 17 (.join [9])))
           (.seq (.call 16 812 [15, 3, 3, 3, 3, 3, 3, 3, 3, 3, 3, 3, 3, 3, 3, 3, 3, 3, 3, 3, 3, 3, 3, 3, 3, 3, 3, 3, 3, 3, 3, 3, 3, 3, 3, 3, 3, 3, 3, 3, 3, 3, 3, 3, 3, 3, 3, 3, 3, 3, 3, 3, 3, 3, 17])
             (.seq (.assign 14 (.join [9, 16]))
               (.assign 9 (.same 14))))) (.assign 9 (.same 3))))
     (.seq (.assign 18 (.join [7, 9]))
       (.ret 18)))))⟩

/-- operators/block_interleaved_linear_operator.py:BlockInterleavedLinearOperator.num_blocks (line 30); formals ['self'] -/
def f214_operators_block_interleaved_linear_operator__BlockInterleavedLinearOperator_num_blocks : Fn := ⟨1,
 (.seq (.seq (.assign 3 (.view 0))
   (.call 4 767 [3, 1, 1]))
 (.seq (.assign 2 .fresh)
   (.ret 2)))⟩

/-- operators/block_interleaved_linear_operator.py:BlockInterleavedLinearOperator._add_batch_dim (line 33); formals ['self', 'other'] -/
def f215_operators_block_interleaved_linear_operator__BlockInterleavedLinearOperator__add_batch_dim : Fn := ⟨2,
 (.seq (.seq (.seq (.assign 3 (.view 2))
     (.seq (.assign 4 (.same 3))
       (.assign 5 (.join [4]))))
   (.seq (.assign 4 (.same 5))
     (.seq (.write 4)
       (.assign 4 (.join [2, 4])))))
 (.seq (.seq (.assign 6 (.view 1))
     (.seq (.assign 1 (.same 6))
       (.ifStar (.assign 8 (.view 1)) (.call 8 839 [1, 2, 2, 2]))))
   (.seq (.assign 7 (.maybeView 8))
     (.seq (.assign 1 (.same 7))
       (.ret 1)))))⟩

/-- operators/block_interleaved_linear_operator.py:BlockInterleavedLinearOperator._cholesky (line 43); formals ['self', 'upper'] -/
def f216_operators_block_interleaved_linear_operator__BlockInterleavedLinearOperator__cholesky : Fn := ⟨2,
 (.seq (.seq (.seq (.assign 4 (.view 0))
     (.call 3 792 [4, 1, 2]))
   (.seq (.assign 6 .fresh)
     (.seq (.assign 8 (.join [3]))
       (.call 7 812 [6, 2, 2, 2, 2, 2, 2, 2, 2, 2, 2, 2, 2, 2, 2, 2, 2, 2, 2, 2, 2, 2, 2, 2, 2, 2, 2, 2, 2, 2, 2, 2, 2, 2, 2, 2, 2, 2, 2, 2, 2, 2, 2, 2, 2, 2, 2, 2, 2, 2, 2, 2, 2, 2, 8]))))
 (.seq (.seq (.assign 5 (.join [3, 7]))
     (.seq (.assign 9 (.same 5))
       (.assign 11 .fresh)))
   (.seq (.call 10 619 [11, 9, 1])
     (.seq (.ret 10)
       (.ret 0)))))⟩

/-- operators/block_interleaved_linear_operator.py:BlockInterleavedLinearOperator._cholesky_solve (line 51); formals ['self', 'rhs', 'upper'] -/
def f217_operators_block_interleaved_linear_operator__BlockInterleavedLinearOperator__cholesky_solve : Fn := ⟨3,
 (.seq (.seq (.seq (.call 4 872 [0, 1, 3])
     (.assign 1 (.same 4)))
   (.seq (.assign 6 (.view 0))
     (.call 5 793 [6, 1, 2, 3])))
 (.seq (.seq (.assign 7 (.same 5))
     (.call 8 873 [0, 7, 3]))
   (.seq (.assign 7 (.same 8))
     (.ret 7))))⟩

/-- operators/block_interleaved_linear_operator.py:BlockInterleavedLinearOperator._diagonal (line 61); formals ['self'] -/
def f218_operators_block_interleaved_linear_operator__BlockInterleavedLinearOperator__diagonal : Fn := ⟨1,
 (.seq (.seq (.assign 3 (.view 0))
   (.seq (.call 2 818 [3, 1])
     (.assign 4 (.same 2))))
 (.seq (.seq (.assign 7 (.view 4))
     (.assign 6 (.maybeView 7)))
   (.seq (.assign 5 (.view 6))
     (.ret 5))))⟩

/-- operators/block_interleaved_linear_operator.py:BlockInterleavedLinearOperator._getitem_block_aligned (line 65); formals ['self', 'row_start', 'row_end', 'col_start', 'col_end', 'batch_indices'] -/
def f219_operators_block_interleaved_linear_operator__BlockInterleavedLinearOperator__getitem_block_aligned : Fn := ⟨6,
 (.seq (.seq (.seq (.seq (.ifStar (.ret 6) .skip)
       (.ifStar (.ret 6) .skip))
     (.seq (.assign 7 .fresh)
       (.assign 8 (.same 7))))
   (.seq (.seq (.assign 9 .fresh)
       (.assign 10 (.same 9)))
     (.seq (.assign 11 .fresh)
       (.assign 12 (.join [5])))))
 (.seq (.seq (.seq (.assign 14 (.view 0))
       (.assign 15 (.join [11, 12])))
     (.seq (.call 13 813 [14, 8, 10, 15])
       (.assign 16 (.same 13))))
   (.seq (.seq (.assign 18 .fresh)
       (.assign 20 (.join [16])))
     (.seq (.call 19 812 [18, 6, 6, 6, 6, 6, 6, 6, 6, 6, 6, 6, 6, 6, 6, 6, 6, 6, 6, 6, 6, 6, 6, 6, 6, 6, 6, 6, 6, 6, 6, 6, 6, 6, 6, 6, 6, 6, 6, 6, 6, 6, 6, 6, 6, 6, 6, 6, 6, 6, 6, 6, 6, 6, 20])
       (.seq (.assign 17 (.join [6, 16, 19]))
         (.ret 17))))))⟩

/-- operators/block_interleaved_linear_operator.py:BlockInterleavedLinearOperator._get_indices (line 78); formals ['self', 'row_index', 'col_index', 'batch_indices'] -/
def f220_operators_block_interleaved_linear_operator__BlockInterleavedLinearOperator__get_indices : Fn := ⟨4,
 (.seq (.seq (.seq (.seq (.assign 5 (.view 0))
       (.call 6 767 [5, 4, 4]))
     (.seq (.assign 7 .fresh)
       (.seq (.assign 8 (.same 7))
         (.assign 9 (.view 0)))))
   (.seq (.seq (.call 10 767 [9, 4, 4])
       (.seq (.assign 11 (.view 0))
         (.call 12 767 [11, 4, 4])))
     (.seq (.assign 13 .fresh)
       (.seq (.assign 1 (.same 13))
         (.assign 14 (.view 0))))))
 (.seq (.seq (.seq (.call 15 767 [14, 4, 4])
       (.assign 16 .fresh))
     (.seq (.assign 2 (.same 16))
       (.seq (.assign 17 (.join [3]))
         (.assign 19 (.view 0)))))
   (.seq (.seq (.assign 20 (.join [8, 17]))
       (.seq (.call 18 857 [19, 1, 2, 20])
         (.assign 21 (.same 18))))
     (.seq (.assign 22 .fresh)
       (.seq (.assign 21 (.same 22))
         (.ret 21))))))⟩

/-- operators/block_interleaved_linear_operator.py:BlockInterleavedLinearOperator._remove_batch_dim (line 93); formals ['self', 'other'] -/
def f221_operators_block_interleaved_linear_operator__BlockInterleavedLinearOperator__remove_batch_dim : Fn := ⟨2,
 (.seq (.seq (.seq (.ifStar (.assign 4 (.view 1)) (.call 4 839 [1, 2, 2, 2]))
     (.assign 3 (.maybeView 4)))
   (.seq (.assign 1 (.same 3))
     (.seq (.assign 5 (.join [2]))
       (.assign 6 (.same 5)))))
 (.seq (.seq (.assign 6 (.join [2, 6]))
     (.seq (.assign 7 (.join [6]))
       (.assign 9 (.join [7]))))
   (.seq (.ifStar (.assign 8 (.maybeView 1)) (.call 8 856 [1, 9]))
     (.seq (.assign 1 (.same 8))
       (.ret 1)))))⟩

/-- operators/block_interleaved_linear_operator.py:BlockInterleavedLinearOperator._root_decomposition (line 101); formals ['self'] -/
def f222_operators_block_interleaved_linear_operator__BlockInterleavedLinearOperator__root_decomposition : Fn := ⟨1,
 (.seq (.seq (.assign 3 (.view 0))
   (.seq (.call 2 846 [3, 1])
     (.assign 5 .fresh)))
 (.seq (.seq (.assign 7 (.join [2]))
     (.call 6 812 [5, 1, 1, 1, 1, 1, 1, 1, 1, 1, 1, 1, 1, 1, 1, 1, 1, 1, 1, 1, 1, 1, 1, 1, 1, 1, 1, 1, 1, 1, 1, 1, 1, 1, 1, 1, 1, 1, 1, 1, 1, 1, 1, 1, 1, 1, 1, 1, 1, 1, 1, 1, 1, 1, 7]))
   (.seq (.assign 4 (.join [2, 6]))
     (.ret 4))))⟩

/-- operators/block_interleaved_linear_operator.py:BlockInterleavedLinearOperator._root_inv_decomposition (line 106); formals ['self', 'initial_vectors', 'test_vectors'] -/
def f223_operators_block_interleaved_linear_operator__BlockInterleavedLinearOperator__root_inv_decomposition : Fn := ⟨3,
 (.seq (.seq (.assign 5 (.view 0))
   (.seq (.call 4 847 [5, 1, 3, 3])
     (.assign 7 .fresh)))
 (.seq (.seq (.assign 9 (.join [4]))
     (.call 8 812 [7, 3, 3, 3, 3, 3, 3, 3, 3, 3, 3, 3, 3, 3, 3, 3, 3, 3, 3, 3, 3, 3, 3, 3, 3, 3, 3, 3, 3, 3, 3, 3, 3, 3, 3, 3, 3, 3, 3, 3, 3, 3, 3, 3, 3, 3, 3, 3, 3, 3, 3, 3, 3, 3, 9]))
   (.seq (.assign 6 (.join [4, 8]))
     (.ret 6))))⟩

/-- operators/block_interleaved_linear_operator.py:BlockInterleavedLinearOperator._size (line 113); formals ['self'] -/
def f224_operators_block_interleaved_linear_operator__BlockInterleavedLinearOperator__size : Fn := ⟨1,
 (.seq (.seq (.seq (.assign 2 (.join [1]))
     (.assign 3 (.same 2)))
   (.seq (.assign 4 (.view 3))
     (.assign 3 (.join [3, 4]))))
 (.seq (.seq (.assign 5 (.view 3))
     (.assign 3 (.join [3, 5])))
   (.seq (.assign 6 .fresh)
     (.ret 6))))⟩

/-- operators/block_interleaved_linear_operator.py:BlockInterleavedLinearOperator._solve (line 120); formals ['self', 'rhs', 'preconditioner', 'num_tridiag'] -/
def f225_operators_block_interleaved_linear_operator__BlockInterleavedLinearOperator__solve : Fn := ⟨4,
 (.ifStar (.seq (.call 5 795 [0, 1, 2, 3, 4])
   (.ret 5)) (.seq (.seq (.seq (.call 6 872 [0, 1, 4])
       (.assign 1 (.same 6)))
     (.seq (.assign 8 (.view 0))
       (.call 7 795 [8, 1, 2, 4, 4])))
   (.seq (.seq (.assign 9 (.same 7))
       (.call 10 873 [0, 9, 4]))
     (.seq (.assign 9 (.same 10))
       (.ret 9)))))⟩

/-- operators/block_interleaved_linear_operator.py:BlockInterleavedLinearOperator.inv_quad_logdet (line 140); formals ['self', 'inv_quad_rhs', 'logdet', 'reduce_inv_quad'] -/
def f226_operators_block_interleaved_linear_operator__BlockInterleavedLinearOperator_inv_quad_logdet : Fn := ⟨4,
 (.seq (.seq (.seq (.ifStar (.seq (.ifStar (.seq (.assign 5 (.view 1))
             (.assign 1 (.same 5))) .skip)
         (.seq (.call 6 872 [0, 1, 4])
           (.assign 1 (.same 6)))) .skip)
     (.seq (.assign 8 (.view 0))
       (.call 7 770 [8, 1, 2, 3, 4])))
   (.seq (.assign 9 (.view 7))
     (.seq (.assign 10 (.same 9))
       (.assign 11 (.view 7)))))
 (.seq (.seq (.assign 12 (.same 11))
     (.seq (.call 13 837 [10, 4])
       (.ifStar (.ifStar (.seq (.seq (.assign 14 (.view 10))
               (.assign 10 (.same 14)))
             (.seq (.call 16 835 [10, 4, 4])
               (.seq (.assign 15 .fresh)
                 (.assign 10 (.same 15))))) (.seq (.seq (.call 17 767 [10, 4, 4])
               (.seq (.assign 18 (.view 10))
                 (.assign 10 (.same 18))))
             (.seq (.call 20 835 [10, 4, 4])
               (.seq (.assign 19 .fresh)
                 (.assign 10 (.same 19)))))) .skip)))
   (.seq (.seq (.call 21 837 [12, 4])
       (.ifStar (.seq (.seq (.assign 23 (.view 12))
             (.call 24 835 [23, 4, 4]))
           (.seq (.assign 22 .fresh)
             (.assign 12 (.same 22)))) .skip))
     (.seq (.assign 25 (.join [10, 12]))
       (.ret 25)))))⟩

/-- operators/block_linear_operator.py:BlockLinearOperator.__init__ (line 35); formals ['self', 'base_linear_op', 'block_dim'] -/
def f227_operators_block_linear_operator__BlockLinearOperator___init__ : Fn := ⟨3,
 (.seq (.seq (.seq (.call 4 808 [1, 3])
     (.ifStar (.call 5 808 [1, 3]) .skip))
   (.seq (.ifStar (.assign 8 (.same 2)) (.seq (.call 6 808 [1, 3])
         (.seq (.assign 7 .fresh)
           (.assign 8 (.same 7)))))
     (.seq (.assign 2 (.same 8))
       (.ifStar (.seq (.seq (.seq (.call 9 808 [1, 3])
               (.assign 10 .fresh))
             (.seq (.assign 11 (.same 10))
               (.seq (.assign 12 .fresh)
                 (.call 13 808 [1, 3]))))
           (.seq (.seq (.assign 14 .fresh)
               (.assign 15 (.join [12, 14])))
             (.seq (.assign 17 (.join [11, 15]))
               (.seq (.ifStar (.assign 16 .fresh) (.call 16 810 [1, 17]))
                 (.assign 1 (.same 16)))))) .skip))))
 (.seq (.seq (.call 18 311 [1])
     (.assign 20 (.join [18])))
   (.seq (.call 19 812 [0, 3, 3, 3, 3, 3, 3, 3, 3, 3, 3, 3, 3, 3, 3, 3, 3, 3, 3, 3, 3, 3, 3, 3, 3, 3, 3, 3, 3, 3, 3, 3, 3, 3, 3, 3, 3, 3, 3, 3, 3, 3, 3, 3, 3, 3, 3, 3, 3, 3, 3, 3, 3, 3, 20])
     (.seq (.assign 0 (.join [0, 1]))
       (.ret 0)))))⟩

/-- operators/block_linear_operator.py:BlockLinearOperator._add_batch_dim (line 59); formals ['self', 'other'] -/
def f228_operators_block_linear_operator__BlockLinearOperator__add_batch_dim : Fn := ⟨2,
 .skip⟩

/-- operators/block_linear_operator.py:BlockLinearOperator._expand_batch (line 62); formals ['self', 'batch_shape'] -/
def f229_operators_block_linear_operator__BlockLinearOperator__expand_batch : Fn := ⟨2,
 (.seq (.seq (.seq (.assign 3 (.view 0))
     (.seq (.call 4 767 [3, 2, 2])
       (.assign 5 .fresh)))
   (.seq (.assign 1 (.same 5))
     (.seq (.assign 7 (.view 0))
       (.call 6 817 [7, 1, 2]))))
 (.seq (.seq (.assign 9 .fresh)
     (.seq (.assign 11 (.join [6]))
       (.call 10 812 [9, 2, 2, 2, 2, 2, 2, 2, 2, 2, 2, 2, 2, 2, 2, 2, 2, 2, 2, 2, 2, 2, 2, 2, 2, 2, 2, 2, 2, 2, 2, 2, 2, 2, 2, 2, 2, 2, 2, 2, 2, 2, 2, 2, 2, 2, 2, 2, 2, 2, 2, 2, 2, 2, 11])))
   (.seq (.assign 8 (.join [6, 10]))
     (.seq (.assign 12 (.same 8))
       (.ret 12)))))⟩

/-- operators/block_linear_operator.py:BlockLinearOperator._getitem (line 69); formals ['self', 'row_index', 'col_index', 'batch_indices'] -/
def f230_operators_block_linear_operator__BlockLinearOperator__getitem : Fn := ⟨4,
 (.seq (.seq (.seq (.seq (.call 5 717 [1])
       (.call 6 717 [2]))
     (.seq (.ifStar (.seq (.seq (.seq (.assign 7 (.join [3]))
               (.assign 9 (.view 0)))
             (.seq (.assign 10 (.join [4, 7]))
               (.call 8 813 [9, 1, 2, 10])))
           (.seq (.seq (.assign 12 .fresh)
               (.assign 14 (.join [8])))
             (.seq (.call 13 812 [12, 4, 4, 4, 4, 4, 4, 4, 4, 4, 4, 4, 4, 4, 4, 4, 4, 4, 4, 4, 4, 4, 4, 4, 4, 4, 4, 4, 4, 4, 4, 4, 4, 4, 4, 4, 4, 4, 4, 4, 4, 4, 4, 4, 4, 4, 4, 4, 4, 4, 4, 4, 4, 4, 14])
               (.seq (.assign 11 (.join [8, 13]))
                 (.ret 11))))) .skip)
       (.ifStar (.seq (.seq (.assign 15 (.join [3]))
             (.assign 17 (.join [15])))
           (.seq (.call 16 813 [0, 1, 2, 17])
             (.ret 16))) .skip)))
   (.seq (.seq (.ifStar (.seq (.seq (.assign 18 (.join [3]))
             (.assign 20 (.join [18])))
           (.seq (.call 19 813 [0, 1, 2, 20])
             (.ret 19))) .skip)
       (.assign 21 (.view 1)))
     (.seq (.assign 22 (.view 21))
       (.seq (.assign 23 (.same 22))
         (.assign 24 (.view 21))))))
 (.seq (.seq (.seq (.assign 25 (.same 24))
       (.assign 26 (.view 2)))
     (.seq (.assign 27 (.view 26))
       (.seq (.assign 28 (.same 27))
         (.assign 29 (.view 26)))))
   (.seq (.seq (.assign 30 (.same 29))
       (.call 31 874 [0, 23, 25, 28, 30, 3, 4]))
     (.seq (.assign 32 (.same 31))
       (.seq (.ifStar (.seq (.seq (.assign 33 (.join [3]))
               (.assign 35 (.join [33])))
             (.seq (.call 34 813 [0, 1, 2, 35])
               (.ret 34))) .skip)
         (.ret 32))))))⟩

/-- operators/block_linear_operator.py:BlockLinearOperator._getitem_block_aligned (line 93); formals ['self', 'row_start', 'row_end', 'col_start', 'col_end', 'batch_indices'] -/
def f231_operators_block_linear_operator__BlockLinearOperator__getitem_block_aligned : Fn := ⟨6,
 (.ret 6)⟩

/-- operators/block_linear_operator.py:BlockLinearOperator._matmul (line 100); formals ['self', 'rhs'] -/
def f232_operators_block_linear_operator__BlockLinearOperator__matmul : Fn := ⟨2,
 (.seq (.seq (.seq (.ifStar (.seq (.assign 3 (.view 1))
         (.assign 1 (.same 3))) .skip)
     (.call 4 872 [0, 1, 2]))
   (.seq (.assign 1 (.same 4))
     (.seq (.assign 6 (.view 0))
       (.call 5 815 [6, 1, 2]))))
 (.seq (.seq (.assign 7 (.same 5))
     (.call 8 873 [0, 7, 2]))
   (.seq (.assign 7 (.same 8))
     (.seq (.ifStar (.seq (.ifStar (.assign 9 (.view 7)) (.call 9 784 [7, 2, 2]))
           (.assign 7 (.same 9))) .skip)
       (.ret 7)))))⟩

/-- operators/block_linear_operator.py:BlockLinearOperator._bilinear_derivative (line 116); formals ['self', 'left_vecs', 'right_vecs'] -/
def f233_operators_block_linear_operator__BlockLinearOperator__bilinear_derivative : Fn := ⟨3,
 (.seq (.seq (.seq (.ifStar (.seq (.seq (.assign 4 (.view 1))
           (.assign 1 (.same 4)))
         (.seq (.assign 5 (.view 2))
           (.assign 2 (.same 5)))) (.ifStar (.seq (.assign 6 (.view 1))
           (.assign 1 (.same 6))) .skip))
     (.call 7 872 [0, 1, 3]))
   (.seq (.assign 1 (.same 7))
     (.call 8 872 [0, 2, 3])))
 (.seq (.seq (.assign 2 (.same 8))
     (.assign 10 (.view 0)))
   (.seq (.call 9 799 [10, 1, 2, 3])
     (.seq (.assign 11 (.same 9))
       (.ret 11)))))⟩

/-- operators/block_linear_operator.py:BlockLinearOperator._permute_batch (line 128); formals ['self', 'dims'] -/
def f234_operators_block_linear_operator__BlockLinearOperator__permute_batch : Fn := ⟨2,
 (.seq (.seq (.ifStar (.seq (.seq (.assign 3 (.join [1]))
         (.assign 5 (.view 0)))
       (.seq (.assign 6 (.join [2, 3]))
         (.seq (.call 4 809 [5, 6])
           (.assign 7 (.same 4))))) (.seq (.seq (.assign 8 (.view 0))
         (.seq (.call 9 808 [8, 2])
           (.assign 10 (.join [1]))))
       (.seq (.seq (.assign 12 (.view 0))
           (.assign 13 (.join [2, 10])))
         (.seq (.call 11 810 [12, 13])
           (.assign 7 (.same 11))))))
   (.seq (.assign 15 .fresh)
     (.assign 17 (.join [7]))))
 (.seq (.seq (.call 16 812 [15, 2, 2, 2, 2, 2, 2, 2, 2, 2, 2, 2, 2, 2, 2, 2, 2, 2, 2, 2, 2, 2, 2, 2, 2, 2, 2, 2, 2, 2, 2, 2, 2, 2, 2, 2, 2, 2, 2, 2, 2, 2, 2, 2, 2, 2, 2, 2, 2, 2, 2, 2, 2, 2, 17])
     (.assign 14 (.join [7, 16])))
   (.seq (.assign 18 (.same 14))
     (.ret 18))))⟩

/-- operators/block_linear_operator.py:BlockLinearOperator._unsqueeze_batch (line 136); formals ['self', 'dim'] -/
def f235_operators_block_linear_operator__BlockLinearOperator__unsqueeze_batch : Fn := ⟨2,
 (.seq (.seq (.ifStar (.seq (.assign 4 (.view 0))
       (.seq (.call 3 782 [4, 1, 2])
         (.assign 5 (.same 3)))) (.seq (.assign 7 (.view 0))
       (.seq (.call 6 854 [7, 1, 2])
         (.assign 5 (.same 6)))))
   (.seq (.assign 9 .fresh)
     (.assign 11 (.join [5]))))
 (.seq (.seq (.call 10 812 [9, 2, 2, 2, 2, 2, 2, 2, 2, 2, 2, 2, 2, 2, 2, 2, 2, 2, 2, 2, 2, 2, 2, 2, 2, 2, 2, 2, 2, 2, 2, 2, 2, 2, 2, 2, 2, 2, 2, 2, 2, 2, 2, 2, 2, 2, 2, 2, 2, 2, 2, 2, 2, 2, 11])
     (.assign 8 (.join [5, 10])))
   (.seq (.assign 12 (.same 8))
     (.ret 12))))⟩

/-- operators/block_linear_operator.py:BlockLinearOperator._remove_batch_dim (line 145); formals ['self', 'other'] -/
def f236_operators_block_linear_operator__BlockLinearOperator__remove_batch_dim : Fn := ⟨2,
 .skip⟩

/-- operators/block_linear_operator.py:BlockLinearOperator._mul_constant (line 148); formals ['self', 'other'] -/
def f237_operators_block_linear_operator__BlockLinearOperator__mul_constant : Fn := ⟨2,
 (.seq (.seq (.seq (.ifStar (.seq (.assign 3 (.view 1))
         (.assign 4 (.same 3))) (.assign 4 (.same 1)))
     (.assign 5 (.same 4)))
   (.seq (.assign 6 (.view 0))
     (.seq (.assign 8 .fresh)
       (.call 7 277 [8, 6, 5]))))
 (.seq (.seq (.assign 10 .fresh)
     (.assign 12 (.join [7])))
   (.seq (.call 11 812 [10, 2, 2, 2, 2, 2, 2, 2, 2, 2, 2, 2, 2, 2, 2, 2, 2, 2, 2, 2, 2, 2, 2, 2, 2, 2, 2, 2, 2, 2, 2, 2, 2, 2, 2, 2, 2, 2, 2, 2, 2, 2, 2, 2, 2, 2, 2, 2, 2, 2, 2, 2, 2, 2, 12])
     (.seq (.assign 9 (.join [7, 11]))
       (.ret 9)))))⟩

/-- operators/block_linear_operator.py:BlockLinearOperator._transpose_nonbatch (line 159); formals ['self'] -/
def f238_operators_block_linear_operator__BlockLinearOperator__transpose_nonbatch : Fn := ⟨1,
 (.seq (.seq (.seq (.assign 2 (.view 0))
     (.assign 3 (.same 2)))
   (.seq (.ifStar (.seq (.call 4 829 [3, 1])
         (.assign 5 (.same 4))) (.seq (.call 6 839 [3, 1, 1, 1])
         (.assign 5 (.same 6))))
     (.assign 8 .fresh)))
 (.seq (.seq (.assign 10 (.join [5]))
     (.call 9 812 [8, 1, 1, 1, 1, 1, 1, 1, 1, 1, 1, 1, 1, 1, 1, 1, 1, 1, 1, 1, 1, 1, 1, 1, 1, 1, 1, 1, 1, 1, 1, 1, 1, 1, 1, 1, 1, 1, 1, 1, 1, 1, 1, 1, 1, 1, 1, 1, 1, 1, 1, 1, 1, 1, 10]))
   (.seq (.assign 7 (.join [5, 9]))
     (.ret 7))))⟩

/-- operators/block_linear_operator.py:BlockLinearOperator.zero_mean_mvn_samples (line 167); formals ['self', 'num_samples'] -/
def f239_operators_block_linear_operator__BlockLinearOperator_zero_mean_mvn_samples : Fn := ⟨2,
 (.seq (.seq (.seq (.assign 4 (.view 0))
     (.call 3 875 [4, 1, 2]))
   (.seq (.assign 5 (.same 3))
     (.assign 7 (.view 5))))
 (.seq (.seq (.call 8 873 [0, 7, 2])
     (.ifStar (.assign 6 (.view 8)) (.call 6 784 [8, 2, 2])))
   (.seq (.assign 5 (.same 6))
     (.ret 5))))⟩

def chunk3 : List Fn := [
  f180_operators_batch_repeat_linear_operator__BatchRepeatLinearOperator__getitem,
  f181_operators_batch_repeat_linear_operator__BatchRepeatLinearOperator__matmul,
  f182_operators_batch_repeat_linear_operator__BatchRepeatLinearOperator__move_repeat_batches_back,
  f183_operators_batch_repeat_linear_operator__BatchRepeatLinearOperator__move_repeat_batches_to_columns,
  f184_operators_batch_repeat_linear_operator__BatchRepeatLinearOperator__permute_batch,
  f185_operators_batch_repeat_linear_operator__BatchRepeatLinearOperator__bilinear_derivative,
  f186_operators_batch_repeat_linear_operator__BatchRepeatLinearOperator__root_decomposition,
  f187_operators_batch_repeat_linear_operator__BatchRepeatLinearOperator__root_inv_decomposition,
  f188_operators_batch_repeat_linear_operator__BatchRepeatLinearOperator__size,
  f189_operators_batch_repeat_linear_operator__BatchRepeatLinearOperator__transpose_nonbatch,
  f190_operators_batch_repeat_linear_operator__BatchRepeatLinearOperator__unsqueeze_batch,
  f191_operators_batch_repeat_linear_operator__BatchRepeatLinearOperator_add_jitter,
  f192_operators_batch_repeat_linear_operator__BatchRepeatLinearOperator_inv_quad_logdet,
  f193_operators_batch_repeat_linear_operator__BatchRepeatLinearOperator_repeat,
  f194_operators_batch_repeat_linear_operator__BatchRepeatLinearOperator__svd,
  f195_operators_batch_repeat_linear_operator__BatchRepeatLinearOperator__symeig,
  f196_operators_block_diag_linear_operator___MetaBlockDiagLinearOperator___call__,
  f197_operators_block_diag_linear_operator__BlockDiagLinearOperator___init__,
  f198_operators_block_diag_linear_operator__BlockDiagLinearOperator_num_blocks,
  f199_operators_block_diag_linear_operator__BlockDiagLinearOperator__add_batch_dim,
  f200_operators_block_diag_linear_operator__BlockDiagLinearOperator__cholesky,
  f201_operators_block_diag_linear_operator__BlockDiagLinearOperator__cholesky_solve,
  f202_operators_block_diag_linear_operator__BlockDiagLinearOperator__diagonal,
  f203_operators_block_diag_linear_operator__BlockDiagLinearOperator__getitem_block_aligned,
  f204_operators_block_diag_linear_operator__BlockDiagLinearOperator__get_indices,
  f205_operators_block_diag_linear_operator__BlockDiagLinearOperator__remove_batch_dim,
  f206_operators_block_diag_linear_operator__BlockDiagLinearOperator__root_decomposition,
  f207_operators_block_diag_linear_operator__BlockDiagLinearOperator__root_inv_decomposition,
  f208_operators_block_diag_linear_operator__BlockDiagLinearOperator__size,
  f209_operators_block_diag_linear_operator__BlockDiagLinearOperator__solve,
  f210_operators_block_diag_linear_operator__BlockDiagLinearOperator_inv_quad_logdet,
  f211_operators_block_diag_linear_operator__BlockDiagLinearOperator_matmul,
  f212_operators_block_diag_linear_operator__BlockDiagLinearOperator__svd,
  f213_operators_block_diag_linear_operator__BlockDiagLinearOperator__symeig,
  f214_operators_block_interleaved_linear_operator__BlockInterleavedLinearOperator_num_blocks,
  f215_operators_block_interleaved_linear_operator__BlockInterleavedLinearOperator__add_batch_dim,
  f216_operators_block_interleaved_linear_operator__BlockInterleavedLinearOperator__cholesky,
  f217_operators_block_interleaved_linear_operator__BlockInterleavedLinearOperator__cholesky_solve,
  f218_operators_block_interleaved_linear_operator__BlockInterleavedLinearOperator__diagonal,
  f219_operators_block_interleaved_linear_operator__BlockInterleavedLinearOperator__getitem_block_aligned,
  f220_operators_block_interleaved_linear_operator__BlockInterleavedLinearOperator__get_indices,
  f221_operators_block_interleaved_linear_operator__BlockInterleavedLinearOperator__remove_batch_dim,
  f222_operators_block_interleaved_linear_operator__BlockInterleavedLinearOperator__root_decomposition,
  f223_operators_block_interleaved_linear_operator__BlockInterleavedLinearOperator__root_inv_decomposition,
  f224_operators_block_interleaved_linear_operator__BlockInterleavedLinearOperator__size,
  f225_operators_block_interleaved_linear_operator__BlockInterleavedLinearOperator__solve,
  f226_operators_block_interleaved_linear_operator__BlockInterleavedLinearOperator_inv_quad_logdet,
  f227_operators_block_linear_operator__BlockLinearOperator___init__,
  f228_operators_block_linear_operator__BlockLinearOperator__add_batch_dim,
  f229_operators_block_linear_operator__BlockLinearOperator__expand_batch,
  f230_operators_block_linear_operator__BlockLinearOperator__getitem,
  f231_operators_block_linear_operator__BlockLinearOperator__getitem_block_aligned,
  f232_operators_block_linear_operator__BlockLinearOperator__matmul,
  f233_operators_block_linear_operator__BlockLinearOperator__bilinear_derivative,
  f234_operators_block_linear_operator__BlockLinearOperator__permute_batch,
  f235_operators_block_linear_operator__BlockLinearOperator__unsqueeze_batch,
  f236_operators_block_linear_operator__BlockLinearOperator__remove_batch_dim,
  f237_operators_block_linear_operator__BlockLinearOperator__mul_constant,
  f238_operators_block_linear_operator__BlockLinearOperator__transpose_nonbatch,
  f239_operators_block_linear_operator__BlockLinearOperator_zero_mean_mvn_samples]

end LinOp.Generated.C13P
