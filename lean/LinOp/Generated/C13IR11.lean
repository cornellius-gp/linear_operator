import LinOp.C13.Model
import LinOp.Generated.C13Sigma
-- GENERATED by harness/extract/c13_alias.py from /repo/linear_operator (do not edit)
namespace LinOp.Generated.C13
open LinOp.C13

/-- operators/zero_linear_operator.py:ZeroLinearOperator._root_inv_decomposition (line 113); formals ['self', 'initial_vectors', 'test_vectors'] -/
def f660_operators_zero_linear_operator__ZeroLinearOperator__root_inv_decomposition : Fn := ⟨3,
 .skip⟩

/-- operators/zero_linear_operator.py:ZeroLinearOperator._size (line 120); formals ['self'] -/
def f661_operators_zero_linear_operator__ZeroLinearOperator__size : Fn := ⟨1,
 (.seq (.assign 1 .fresh)
 (.ret 1))⟩

/-- operators/zero_linear_operator.py:ZeroLinearOperator._sum_batch (line 123); formals ['self', 'dim'] -/
def f662_operators_zero_linear_operator__ZeroLinearOperator__sum_batch : Fn := ⟨2,
 (.seq (.seq (.seq (.assign 2 (.view 0))
     (.assign 3 (.join [2])))
   (.seq (.assign 4 (.same 3))
     (.seq (.assign 5 (.view 0))
       (.assign 6 (.view 0)))))
 (.seq (.seq (.assign 7 (.join [4]))
     (.seq (.assign 9 .fresh)
       (.assign 11 (.join [7]))))
   (.seq (.call 10 812 [9, 7, 7, 7, 7, 7, 7, 7, 7, 7, 7, 7, 7, 7, 7, 7, 7, 5, 6, 7, 7, 7, 7, 7, 7, 7, 7, 7, 7, 7, 7, 7, 7, 7, 7, 7, 7, 7, 7, 7, 7, 7, 7, 7, 7, 7, 7, 7, 7, 7, 7, 7, 7, 7, 11])
     (.seq (.assign 8 (.join [5, 6, 7, 10]))
       (.ret 8)))))⟩

/-- operators/zero_linear_operator.py:ZeroLinearOperator._t_matmul (line 128); formals ['self', 'rhs'] -/
def f663_operators_zero_linear_operator__ZeroLinearOperator__t_matmul : Fn := ⟨2,
 (.seq (.seq (.seq (.call 3 796 [1, 2])
     (.ifStar (.assign 4 (.same 2)) (.assign 4 (.same 2))))
   (.seq (.assign 5 (.same 4))
     (.seq (.call 6 767 [0, 2, 2])
       (.call 7 767 [1, 5, 2]))))
 (.seq (.seq (.ifStar (.seq (.call 8 767 [0, 2, 2])
         (.call 9 767 [1, 2, 2])) .skip)
     (.assign 10 (.join [2])))
   (.seq (.call 11 703 [10, 2, 2])
     (.seq (.assign 12 .fresh)
       (.ret 12)))))⟩

/-- operators/zero_linear_operator.py:ZeroLinearOperator._transpose_nonbatch (line 138); formals ['self'] -/
def f664_operators_zero_linear_operator__ZeroLinearOperator__transpose_nonbatch : Fn := ⟨1,
 (.seq (.seq (.assign 2 (.view 0))
   (.ifStar (.call 2 777 [0, 1]) .skip))
 (.seq (.assign 3 (.same 2))
   (.ret 3)))⟩

/-- operators/zero_linear_operator.py:ZeroLinearOperator._unsqueeze_batch (line 141); formals ['self', 'dim'] -/
def f665_operators_zero_linear_operator__ZeroLinearOperator__unsqueeze_batch : Fn := ⟨2,
 (.seq (.seq (.seq (.assign 4 (.view 0))
     (.seq (.assign 3 (.join [4]))
       (.assign 5 (.same 3))))
   (.seq (.assign 5 (.join [1, 2, 5]))
     (.seq (.assign 6 (.view 0))
       (.assign 7 (.view 0)))))
 (.seq (.seq (.assign 8 (.join [5]))
     (.seq (.assign 10 .fresh)
       (.assign 12 (.join [8]))))
   (.seq (.call 11 812 [10, 8, 8, 8, 8, 8, 8, 8, 8, 8, 8, 8, 8, 8, 8, 8, 8, 6, 7, 8, 8, 8, 8, 8, 8, 8, 8, 8, 8, 8, 8, 8, 8, 8, 8, 8, 8, 8, 8, 8, 8, 8, 8, 8, 8, 8, 8, 8, 8, 8, 8, 8, 8, 8, 12])
     (.seq (.assign 9 (.join [6, 7, 8, 11]))
       (.ret 9)))))⟩

/-- operators/zero_linear_operator.py:ZeroLinearOperator.add_diagonal (line 146); formals ['self', 'diag'] -/
def f666_operators_zero_linear_operator__ZeroLinearOperator_add_diagonal : Fn := ⟨2,
 (.seq (.seq (.seq (.call 3 767 [0, 2, 2])
     (.call 4 767 [0, 2, 2]))
   (.seq (.call 5 796 [0, 2])
     (.seq (.ifStar (.ifStar (.seq (.seq (.call 6 767 [0, 2, 2])
               (.call 7 767 [0, 2, 2]))
             (.seq (.assign 9 (.view 1))
               (.seq (.assign 8 (.view 9))
                 (.assign 1 (.same 8))))) (.ifStar (.seq (.seq (.call 10 767 [0, 2, 2])
                 (.call 11 767 [0, 2, 2]))
               (.seq (.assign 13 (.view 1))
                 (.seq (.assign 12 (.view 13))
                 (.assign 1 (.same 12))))) (.ifStar (.seq (.seq (.call 14 767 [0, 2, 2])
                 (.call 15 767 [0, 2, 2]))
                 (.seq (.assign 16 (.view 1))
                 (.assign 1 (.same 16)))) (.call 17 767 [0, 2, 2])))) (.ifStar (.seq (.seq (.call 18 767 [0, 2, 2])
               (.assign 20 (.view 1)))
             (.seq (.assign 19 (.view 20))
               (.assign 1 (.same 19)))) (.ifStar (.seq (.call 21 767 [0, 2, 2])
               (.seq (.assign 22 (.view 1))
                 (.assign 1 (.same 22)))) (.call 23 767 [0, 2, 2]))))
       (.assign 25 .fresh))))
 (.seq (.seq (.call 24 312 [25, 1])
     (.seq (.assign 26 (.same 24))
       (.call 27 767 [26, 2, 2])))
   (.seq (.call 28 767 [0, 2, 2])
     (.seq (.ifStar (.seq (.call 29 767 [26, 2, 2])
           (.call 30 767 [0, 2, 2])) .skip)
       (.ret 26)))))⟩

/-- operators/zero_linear_operator.py:ZeroLinearOperator.div (line 186); formals ['self', 'other'] -/
def f667_operators_zero_linear_operator__ZeroLinearOperator_div : Fn := ⟨2,
 (.ret 0)⟩

/-- operators/zero_linear_operator.py:ZeroLinearOperator.inv_quad (line 189); formals ['self', 'inv_quad_rhs', 'reduce_inv_quad'] -/
def f668_operators_zero_linear_operator__ZeroLinearOperator_inv_quad : Fn := ⟨3,
 .skip⟩

/-- operators/zero_linear_operator.py:ZeroLinearOperator.inv_quad_logdet (line 196); formals ['self', 'inv_quad_rhs', 'logdet', 'reduce_inv_quad'] -/
def f669_operators_zero_linear_operator__ZeroLinearOperator_inv_quad_logdet : Fn := ⟨4,
 .skip⟩

/-- operators/zero_linear_operator.py:ZeroLinearOperator.logdet (line 207); formals ['self'] -/
def f670_operators_zero_linear_operator__ZeroLinearOperator_logdet : Fn := ⟨1,
 (.seq (.assign 1 .fresh)
 (.ret 1))⟩

/-- operators/zero_linear_operator.py:ZeroLinearOperator.matmul (line 212); formals ['self', 'other'] -/
def f671_operators_zero_linear_operator__ZeroLinearOperator_matmul : Fn := ⟨2,
 (.seq (.seq (.seq (.call 3 796 [1, 2])
     (.seq (.ifStar (.assign 4 (.same 2)) (.assign 4 (.same 2)))
       (.assign 5 (.same 4))))
   (.seq (.seq (.call 6 767 [0, 2, 2])
       (.call 7 767 [1, 5, 2]))
     (.seq (.ifStar (.seq (.call 8 767 [0, 2, 2])
           (.call 9 767 [1, 2, 2])) .skip)
       (.call 10 703 [2, 2, 2]))))
 (.seq (.seq (.assign 11 (.same 10))
     (.seq (.ifStar (.seq (.assign 12 .fresh)
           (.ret 12)) .skip)
       (.assign 13 (.join [11]))))
   (.seq (.seq (.assign 15 .fresh)
       (.assign 16 (.join [13])))
     (.seq (.call 14 645 [15, 2, 2, 16])
       (.ret 14)))))⟩

/-- operators/zero_linear_operator.py:ZeroLinearOperator.mul (line 225); formals ['self', 'other'] -/
def f672_operators_zero_linear_operator__ZeroLinearOperator_mul : Fn := ⟨2,
 (.seq (.seq (.seq (.ifStar (.seq (.assign 2 .fresh)
         (.assign 1 (.same 2))) .skip)
     (.assign 3 .fresh))
   (.seq (.assign 4 (.same 3))
     (.seq (.assign 5 (.view 0))
       (.assign 6 (.view 0)))))
 (.seq (.seq (.assign 7 (.join [4]))
     (.seq (.assign 9 .fresh)
       (.assign 11 (.join [7]))))
   (.seq (.call 10 812 [9, 7, 7, 7, 7, 7, 7, 7, 7, 7, 7, 7, 7, 7, 7, 7, 7, 5, 6, 7, 7, 7, 7, 7, 7, 7, 7, 7, 7, 7, 7, 7, 7, 7, 7, 7, 7, 7, 7, 7, 7, 7, 7, 7, 7, 7, 7, 7, 7, 7, 7, 7, 7, 7, 11])
     (.seq (.assign 8 (.join [5, 6, 7, 10]))
       (.ret 8)))))⟩

/-- operators/zero_linear_operator.py:ZeroLinearOperator.solve (line 234); formals ['self', 'right_tensor', 'left_tensor'] -/
def f673_operators_zero_linear_operator__ZeroLinearOperator_solve : Fn := ⟨3,
 .skip⟩

/-- operators/zero_linear_operator.py:ZeroLinearOperator.to_dense (line 242); formals ['self'] -/
def f674_operators_zero_linear_operator__ZeroLinearOperator_to_dense : Fn := ⟨1,
 (.seq (.assign 1 .fresh)
 (.seq (.ret 1)
   (.ret 0)))⟩

/-- operators/zero_linear_operator.py:ZeroLinearOperator.to (line 245); formals ['self', 'args', 'kwargs'] -/
def f675_operators_zero_linear_operator__ZeroLinearOperator_to : Fn := ⟨3,
 (.seq (.seq (.seq (.seq (.assign 3 (.join [1, 2]))
       (.assign 5 (.join [3])))
     (.seq (.assign 6 (.join [3]))
       (.call 4 713 [5, 6])))
   (.seq (.seq (.assign 7 (.view 4))
       (.assign 8 (.same 7)))
     (.seq (.assign 9 (.view 4))
       (.seq (.assign 10 (.same 9))
         (.assign 11 (.view 0))))))
 (.seq (.seq (.seq (.assign 12 (.view 0))
       (.assign 13 (.join [10, 12])))
     (.seq (.assign 14 (.view 0))
       (.seq (.assign 15 (.join [8, 14]))
         (.assign 16 (.join [11])))))
   (.seq (.seq (.assign 18 .fresh)
       (.assign 20 (.join [16])))
     (.seq (.call 19 812 [18, 16, 16, 16, 16, 16, 16, 16, 16, 16, 16, 16, 16, 16, 16, 16, 16, 13, 15, 16, 16, 16, 16, 16, 16, 16, 16, 16, 16, 16, 16, 16, 16, 16, 16, 16, 16, 16, 16, 16, 16, 16, 16, 16, 16, 16, 16, 16, 16, 16, 16, 16, 16, 16, 20])
       (.seq (.assign 17 (.join [13, 15, 16, 19]))
         (.ret 17))))))⟩

/-- operators/zero_linear_operator.py:ZeroLinearOperator.type (line 249); formals ['self', 'dtype'] -/
def f676_operators_zero_linear_operator__ZeroLinearOperator_type : Fn := ⟨2,
 (.seq (.seq (.seq (.assign 2 (.view 0))
     (.assign 3 (.view 0)))
   (.seq (.assign 4 (.join [2]))
     (.assign 6 .fresh)))
 (.seq (.seq (.assign 8 (.join [4]))
     (.call 7 812 [6, 4, 4, 4, 4, 4, 4, 4, 4, 4, 4, 4, 4, 4, 4, 4, 4, 1, 3, 4, 4, 4, 4, 4, 4, 4, 4, 4, 4, 4, 4, 4, 4, 4, 4, 4, 4, 4, 4, 4, 4, 4, 4, 4, 4, 4, 4, 4, 4, 4, 4, 4, 4, 4, 8]))
   (.seq (.assign 5 (.join [1, 3, 4, 7]))
     (.ret 5))))⟩

/-- operators/zero_linear_operator.py:ZeroLinearOperator.transpose (line 252); formals ['self', 'dim1', 'dim2'] -/
def f677_operators_zero_linear_operator__ZeroLinearOperator_transpose : Fn := ⟨3,
 (.seq (.seq (.seq (.assign 4 (.view 0))
     (.seq (.assign 3 (.join [4]))
       (.assign 5 (.same 3))))
   (.seq (.seq (.assign 6 (.view 5))
       (.assign 7 (.same 6)))
     (.seq (.assign 8 (.view 5))
       (.assign 5 (.join [5, 8])))))
 (.seq (.seq (.seq (.assign 5 (.join [5, 7]))
       (.assign 9 (.view 0)))
     (.seq (.assign 10 (.view 0))
       (.assign 11 (.join [5]))))
   (.seq (.seq (.assign 13 .fresh)
       (.assign 14 (.join [11])))
     (.seq (.call 12 645 [13, 9, 10, 14])
       (.ret 12)))))⟩

/-- operators/zero_linear_operator.py:ZeroLinearOperator.__add__ (line 260); formals ['self', 'other'] -/
def f678_operators_zero_linear_operator__ZeroLinearOperator___add__ : Fn := ⟨2,
 (.seq (.seq (.seq (.ifStar (.ret 1) .skip)
     (.assign 3 .fresh))
   (.seq (.assign 4 (.same 3))
     (.ifStar (.ret 1) .skip)))
 (.seq (.seq (.ifStar (.seq (.ifStar (.assign 5 (.maybeView 1)) (.call 5 778 [1, 2, 2, 2, 2, 2]))
         (.assign 1 (.same 5))) .skip)
     (.assign 6 (.join [4])))
   (.seq (.assign 8 (.join [6]))
     (.seq (.ifStar (.assign 7 (.view 1)) (.call 7 776 [1, 8]))
       (.ret 7)))))⟩

/-- settings.py:_dtype_value_context.value (line 14); formals ['cls', 'dtype'] -/
def f679_settings___dtype_value_context_value : Fn := ⟨2,
 (.seq (.ifStar (.assign 1 (.same 2)) .skip)
 (.ifStar (.seq (.assign 3 (.view 0))
     (.ret 3)) (.ifStar (.seq (.assign 4 (.view 0))
       (.ret 4)) (.ifStar (.seq (.assign 5 (.view 0))
         (.ret 5)) .skip))))⟩

/-- settings.py:_dtype_value_context._set_value (line 27); formals ['cls', 'float_value', 'double_value', 'half_value'] -/
def f680_settings___dtype_value_context__set_value : Fn := ⟨4,
 (.seq (.ifStar (.assign 0 (.join [0, 1])) .skip)
 (.seq (.ifStar (.assign 0 (.join [0, 2])) .skip)
   (.ifStar (.assign 0 (.join [0, 3])) .skip)))⟩

/-- settings.py:_dtype_value_context.__init__ (line 35); formals ['self', 'float_value', 'double_value', 'half_value'] -/
def f681_settings___dtype_value_context___init__ : Fn := ⟨4,
 (.seq (.seq (.seq (.assign 4 .fresh)
     (.assign 0 (.join [0, 4])))
   (.seq (.assign 0 (.join [0, 1]))
     (.seq (.assign 5 .fresh)
       (.assign 0 (.join [0, 5])))))
 (.seq (.seq (.assign 0 (.join [0, 2]))
     (.assign 6 .fresh))
   (.seq (.assign 0 (.join [0, 6]))
     (.seq (.assign 0 (.join [0, 3]))
       (.ret 0)))))⟩

/-- settings.py:_dtype_value_context.__enter__ (line 43); formals ['self'] -/
def f682_settings___dtype_value_context___enter__ : Fn := ⟨1,
 (.seq (.seq (.seq (.assign 2 .fresh)
     (.assign 0 (.join [0, 2])))
   (.seq (.assign 3 .fresh)
     (.seq (.assign 0 (.join [0, 3]))
       (.assign 4 .fresh))))
 (.seq (.seq (.assign 0 (.join [0, 4]))
     (.assign 5 (.view 0)))
   (.seq (.assign 6 (.view 0))
     (.seq (.assign 7 (.view 0))
       (.ifStar .skip (.call 8 897 [1, 5, 6, 7, 1, 1]))))))⟩

/-- settings.py:_dtype_value_context.__exit__ (line 56); formals ['self', 'args'] -/
def f683_settings___dtype_value_context___exit__ : Fn := ⟨2,
 (.seq (.seq (.assign 0 (.join [0, 2]))
   (.assign 0 (.join [0, 2])))
 (.seq (.assign 0 (.join [0, 2]))
   (.ret 2)))⟩

/-- settings.py:_feature_flag.is_default (line 73); formals ['cls'] -/
def f684_settings___feature_flag_is_default : Fn := ⟨1,
 (.ret 1)⟩

/-- settings.py:_feature_flag.on (line 77); formals ['cls'] -/
def f685_settings___feature_flag_on : Fn := ⟨1,
 (.seq (.seq (.call 2 898 [0, 1])
   (.ifStar (.seq (.assign 3 (.view 0))
       (.ret 3)) .skip))
 (.seq (.assign 4 (.view 0))
   (.ret 4)))⟩

/-- settings.py:_feature_flag.off (line 83); formals ['cls'] -/
def f686_settings___feature_flag_off : Fn := ⟨1,
 (.seq (.call 2 899 [0, 1])
 (.ret 1))⟩

/-- settings.py:_feature_flag._set_state (line 87); formals ['cls', 'state'] -/
def f687_settings___feature_flag__set_state : Fn := ⟨2,
 (.assign 0 (.join [0, 1]))⟩

/-- settings.py:_feature_flag.__init__ (line 90); formals ['self', 'state'] -/
def f688_settings___feature_flag___init__ : Fn := ⟨2,
 (.seq (.seq (.assign 3 (.view 2))
   (.assign 0 (.join [0, 3])))
 (.seq (.assign 0 (.join [0, 1]))
   (.ret 0)))⟩

/-- settings.py:_feature_flag.__enter__ (line 94); formals ['self'] -/
def f689_settings___feature_flag___enter__ : Fn := ⟨1,
 (.seq (.seq (.assign 2 (.view 1))
   (.assign 0 (.join [0, 2])))
 (.seq (.assign 3 (.view 0))
   (.ifStar .skip (.call 4 900 [1, 3, 1]))))⟩

/-- settings.py:_feature_flag.__exit__ (line 99); formals ['self', 'args'] -/
def f690_settings___feature_flag___exit__ : Fn := ⟨2,
 (.seq (.assign 3 (.view 0))
 (.seq (.ifStar .skip (.call 4 900 [2, 3, 2]))
   (.ret 2)))⟩

/-- settings.py:_value_context.value (line 108); formals ['cls'] -/
def f691_settings___value_context_value : Fn := ⟨1,
 (.seq (.assign 1 (.view 0))
 (.ret 1))⟩

/-- settings.py:_value_context._set_value (line 112); formals ['cls', 'value'] -/
def f692_settings___value_context__set_value : Fn := ⟨2,
 (.assign 0 (.join [0, 1]))⟩

/-- settings.py:_value_context.__init__ (line 115); formals ['self', 'value'] -/
def f693_settings___value_context___init__ : Fn := ⟨2,
 (.seq (.seq (.assign 2 .fresh)
   (.assign 0 (.join [0, 2])))
 (.seq (.assign 0 (.join [0, 1]))
   (.ret 0)))⟩

/-- settings.py:_value_context.__enter__ (line 119); formals ['self'] -/
def f694_settings___value_context___enter__ : Fn := ⟨1,
 (.seq (.seq (.assign 2 .fresh)
   (.assign 0 (.join [0, 2])))
 (.seq (.assign 3 (.view 0))
   (.ifStar .skip (.call 4 897 [1, 3, 1, 1, 1, 1]))))⟩

/-- settings.py:_value_context.__exit__ (line 126); formals ['self', 'args'] -/
def f695_settings___value_context___exit__ : Fn := ⟨2,
 (.seq (.assign 3 (.view 0))
 (.seq (.ifStar .skip (.call 4 897 [2, 3, 2, 2, 2, 2]))
   (.ret 2)))⟩

/-- settings.py:deterministic_probes._set_state (line 270); formals ['cls', 'state'] -/
def f696_settings__deterministic_probes__set_state : Fn := ⟨2,
 (.seq (.ifStar .skip (.call 3 900 [0, 1, 2]))
 (.assign 0 (.join [0, 2])))⟩

/-- settings.py:fast_computations.__init__ (line 349); formals ['self', 'covar_root_decomposition', 'log_prob', 'solves'] -/
def f697_settings__fast_computations___init__ : Fn := ⟨4,
 (.seq (.seq (.seq (.assign 5 .fresh)
     (.call 4 688 [5, 1]))
   (.seq (.assign 0 (.join [0, 4]))
     (.seq (.assign 7 .fresh)
       (.call 6 688 [7, 2]))))
 (.seq (.seq (.assign 0 (.join [0, 6]))
     (.assign 9 .fresh))
   (.seq (.call 8 688 [9, 3])
     (.seq (.assign 0 (.join [0, 8]))
       (.ret 0)))))⟩

/-- settings.py:fast_computations.__enter__ (line 354); formals ['self'] -/
def f698_settings__fast_computations___enter__ : Fn := ⟨1,
 (.seq (.seq (.assign 3 (.view 0))
   (.seq (.ifStar .skip (.call 2 901 [3, 1]))
     (.assign 5 (.view 0))))
 (.seq (.ifStar .skip (.call 4 901 [5, 1]))
   (.seq (.assign 7 (.view 0))
     (.ifStar .skip (.call 6 901 [7, 1])))))⟩

/-- settings.py:fast_computations.__exit__ (line 359); formals ['self', 'args'] -/
def f699_settings__fast_computations___exit__ : Fn := ⟨2,
 (.seq (.seq (.assign 4 (.view 0))
   (.seq (.ifStar .skip (.call 3 902 [4, 2]))
     (.assign 6 (.view 0))))
 (.seq (.seq (.ifStar .skip (.call 5 902 [6, 2]))
     (.assign 8 (.view 0)))
   (.seq (.ifStar .skip (.call 7 902 [8, 2]))
     (.ret 2))))⟩

/-- settings.py:linalg_dtypes.__init__ (line 375); formals ['self', 'default', 'symeig', 'cholesky'] -/
def f700_settings__linalg_dtypes___init__ : Fn := ⟨4,
 (.seq (.seq (.seq (.ifStar (.assign 4 (.same 1)) (.assign 4 (.same 2)))
     (.assign 2 (.same 4)))
   (.seq (.ifStar (.assign 5 (.same 1)) (.assign 5 (.same 3)))
     (.seq (.assign 3 (.same 5))
       (.assign 7 .fresh))))
 (.seq (.seq (.call 6 693 [7, 2])
     (.seq (.assign 0 (.join [0, 6]))
       (.assign 9 .fresh)))
   (.seq (.call 8 693 [9, 3])
     (.seq (.assign 0 (.join [0, 8]))
       (.ret 0)))))⟩

/-- settings.py:linalg_dtypes.__enter__ (line 382); formals ['self'] -/
def f701_settings__linalg_dtypes___enter__ : Fn := ⟨1,
 (.seq (.seq (.assign 3 (.view 0))
   (.ifStar .skip (.call 2 901 [3, 1])))
 (.seq (.assign 5 (.view 0))
   (.ifStar .skip (.call 4 901 [5, 1]))))⟩

/-- settings.py:linalg_dtypes.__exit__ (line 386); formals ['self', 'args'] -/
def f702_settings__linalg_dtypes___exit__ : Fn := ⟨2,
 (.seq (.seq (.assign 4 (.view 0))
   (.ifStar .skip (.call 3 902 [4, 2])))
 (.seq (.assign 6 (.view 0))
   (.seq (.ifStar .skip (.call 5 902 [6, 2]))
     (.ret 2))))⟩

/-- utils/broadcasting.py:_matmul_broadcast_shape (line 6); formals ['shape_a', 'shape_b', 'error_msg'] -/
def f703_utils_broadcasting___matmul_broadcast_shape : Fn := ⟨3,
 (.seq (.seq (.ifStar (.seq (.assign 3 (.view 0))
       (.ret 3)) .skip)
   (.seq (.assign 4 .fresh)
     (.assign 5 (.same 4))))
 (.seq (.seq (.assign 6 .fresh)
     (.assign 7 (.same 6)))
   (.seq (.assign 8 (.join [5, 7]))
     (.ret 8))))⟩

/-- utils/broadcasting.py:_pad_with_singletons (line 31); formals ['obj', 'num_singletons_before', 'num_singletons_after'] -/
def f704_utils_broadcasting___pad_with_singletons : Fn := ⟨3,
 (.seq (.assign 3 (.view 0))
 (.ret 3))⟩

/-- utils/cholesky.py:_psd_safe_cholesky (line 12); formals ['A', 'out', 'jitter', 'max_tries'] -/
def f705_utils_cholesky___psd_safe_cholesky : Fn := ⟨4,
 (.seq (.seq (.seq (.ifStar (.seq (.assign 4 .fresh)
         (.seq (.assign 5 (.join [1, 4]))
           (.assign 1 (.same 5)))) .skip)
     (.write 1))
   (.seq (.assign 6 (.same 1))
     (.seq (.assign 7 (.view 6))
       (.assign 8 (.same 7)))))
 (.seq (.seq (.ifStar (.ret 8) .skip)
     (.seq (.ifStar (.seq (.assign 9 .fresh)
           (.assign 2 (.same 9))) .skip)
       (.ifStar (.seq (.assign 10 .fresh)
           (.assign 3 (.same 10))) .skip)))
   (.seq (.assign 11 .fresh)
     (.seq (.assign 12 (.same 11))
       (.whileStar ⟨[[0], [1], [2], [3], [], [1], [1], [1], [1], [], [], [], [], [], [1], [1]], [1], [1]⟩ (.seq (.seq (.assign 13 (.view 12))
             (.seq (.write 13)
               (.write 1)))
           (.seq (.seq (.assign 14 (.same 1))
               (.assign 15 (.view 14)))
             (.seq (.assign 8 (.same 15))
               (.ifStar (.ret 8) .skip)))))))))⟩

/-- utils/cholesky.py:psd_safe_cholesky (line 50); formals ['A', 'upper', 'out', 'jitter', 'max_tries'] -/
def f706_utils_cholesky__psd_safe_cholesky : Fn := ⟨5,
 (.seq (.seq (.call 6 705 [0, 2, 3, 4])
   (.assign 7 (.same 6)))
 (.seq (.ifStar (.ifStar (.seq (.write 2)
         (.seq (.assign 8 (.same 2))
           (.assign 2 (.same 8)))) (.seq (.seq (.assign 9 (.view 7))
           (.ifStar (.call 9 777 [7, 5]) .skip))
         (.seq (.assign 10 (.same 9))
           (.assign 7 (.same 10))))) .skip)
   (.ret 7)))⟩

/-- utils/contour_integral_quad.py:contour_integral_quad (line 12); formals ['linear_op', 'rhs', 'inverse', 'weights', 'shifts', 'max_lanczos_iter', 'num_contour_quadrature', 'shift_offset'] -/
def f707_utils_contour_integral_quad__contour_integral_quad : Fn := ⟨8,
 (.seq (.seq (.seq (.seq (.ifStar (.seq (.assign 9 .fresh)
           (.assign 6 (.same 9))) .skip)
       (.assign 10 .fresh))
     (.seq (.assign 11 (.same 10))
       (.seq (.ifStar (.assign 12 .fresh) (.call 12 821 [0, 8]))
         (.assign 13 (.view 12)))))
   (.seq (.seq (.assign 14 (.same 13))
       (.assign 15 (.view 12)))
     (.seq (.assign 16 (.same 15))
       (.seq (.call 17 903 [1, 16])
         (.assign 1 (.same 17))))))
 (.seq (.seq (.seq (.ifStar (.seq (.seq (.seq (.seq (.seq (.call 18 808 [1, 8])
                 (.call 19 808 [0, 8]))
                 (.seq (.assign 20 .fresh)
                 (.assign 21 (.same 20))))
               (.seq (.seq (.assign 22 (.join [8]))
                 (.assign 24 .fresh))
                 (.seq (.assign 25 .fresh)
                 (.assign 26 (.join [8])))))
             (.seq (.seq (.seq (.assign 27 (.join [21, 26]))
                 (.assign 28 (.join [8, 24, 25, 27])))
                 (.seq (.ifStar (.assign 29 (.view 1)) (.call 29 789 [1, 28, 8]))
                 (.assign 30 (.join [8, 22]))))
               (.seq (.seq (.ifStar (.assign 23 (.view 29)) (.call 23 776 [29, 30]))
                 (.assign 31 (.same 23)))
                 (.seq (.assign 32 (.join [0]))
                 (.call 33 727 [32, 31, 8, 8, 8, 8, 5, 5, 8, 14])))))
           (.seq (.seq (.seq (.seq (.assign 34 (.view 33))
                 (.assign 35 (.same 34)))
                 (.seq (.ifStar (.assign 36 (.view 35)) (.call 36 784 [35, 8, 8]))
                 (.assign 35 (.same 36))))
               (.seq (.seq (.ifStar .skip (.ifStar (.ifStar .skip (.call 37 818 [0, 8])) .skip))
                 (.assign 38 .fresh))
                 (.seq (.assign 39 (.same 38))
                 (.assign 40 .fresh))))
             (.seq (.seq (.seq (.assign 41 (.same 40))
                 (.whileStar ⟨[[0], [1], [2], [3], [4], [5], [6], [7], [], [], [], [], [0], [0], [0], [0], [0], [1], [], [], [], [], [], [1], [], [], [], [], [], [1], [], [1], [0], [], [], [], [], [0], [], [], [], [], [6], [], [], [], [], [], [], [], [], [], [], [], [6]], [], []⟩ (.seq (.seq (.seq (.seq (.assign 42 (.same 6))
                 (.assign 43 .fresh))
                 (.seq (.assign 44 .fresh)
                 (.seq (.assign 45 (.opq [43, 44]))
                 (.assign 46 (.view 45)))))
                 (.seq (.seq (.assign 47 (.same 46))
                 (.seq (.assign 48 (.view 45))
                 (.assign 49 (.same 48))))
                 (.seq (.assign 50 .fresh)
                 (.seq (.assign 47 (.same 50))
                 (.ifStar (.assign 51 .fresh) (.ifStar (.call 51 804 [47, 49, 8]) (.call 51 803 [49, 47, 8])))))))
                 (.seq (.seq (.seq (.assign 49 (.same 51))
                 (.seq (.assign 52 .fresh)
                 (.ifStar .skip (.ifStar (.call 53 804 [47, 52, 8]) (.call 53 803 [52, 47, 8])))))
                 (.seq (.ifStar .skip (.ifStar (.call 54 804 [42, 8, 8]) (.call 54 803 [8, 42, 8])))
                 (.seq (.ifStar .skip (.ifStar (.call 55 804 [49, 47, 8]) (.call 55 803 [47, 49, 8])))
                 (.assign 56 .fresh))))
                 (.seq (.seq (.assign 57 (.same 56))
                 (.seq (.write 57)
                 (.assign 58 (.view 39))))
                 (.seq (.write 58)
                 (.seq (.assign 59 (.view 41))
                 (.write 59))))))))
                 (.seq (.assign 60 (.view 41))
                 (.assign 3 (.same 60))))
               (.seq (.seq (.assign 61 (.view 39))
                 (.assign 4 (.same 61)))
                 (.seq (.write 4)
                 (.ifStar (.seq (.seq (.seq (.assign 62 .fresh)
                 (.seq (.assign 64 (.view 3))
                 (.assign 63 (.same 64))))
                 (.seq (.whileStar ⟨[[0], [1], [2], [], [], [5], [6], [7], [], [], [], [], [0], [0], [0], [0], [0], [1], [], [], [], [], [], [1], [], [], [], [], [], [1], [], [1], [0], [], [], [], [], [0], [], [], [], [], [6], [], [], [], [], [], [], [], [], [], [], [], [6]], [], []⟩ (.seq (.seq (.assign 65 (.view 3))
                 (.seq (.assign 63 (.same 65))
                 (.assign 66 (.join [11]))))
                 (.seq (.assign 68 (.join [8, 66]))
                 (.seq (.ifStar (.assign 67 (.view 63)) (.call 67 776 [63, 68]))
                 (.assign 62 (.join [62, 67]))))))
                 (.seq (.assign 69 .fresh)
                 (.assign 3 (.same 69)))))
                 (.seq (.seq (.assign 70 .fresh)
                 (.seq (.assign 72 (.view 4))
                 (.assign 71 (.same 72))))
                 (.seq (.whileStar ⟨[[0], [1], [2], [], [], [5], [6], [7], [], [], [], [], [0], [0], [0], [0], [0], [1], [], [], [], [], [], [1], [], [], [], [], [], [1], [], [1], [0], [], [], [], [], [0], [], [], [], [], [6], [], [], [], [], [], [], [], [], [], [], [], [6]], [], []⟩ (.seq (.seq (.assign 73 (.view 4))
                 (.assign 71 (.same 73)))
                 (.seq (.assign 75 (.join [11]))
                 (.seq (.ifStar (.assign 74 (.view 71)) (.call 74 776 [71, 75]))
                 (.assign 70 (.join [70, 74]))))))
                 (.seq (.assign 76 .fresh)
                 (.assign 4 (.same 76)))))) .skip)))))) .skip)
       (.assign 77 (.join [0])))
     (.seq (.call 78 743 [77, 1, 8, 4, 8, 8, 14])
       (.seq (.assign 79 (.same 78))
         (.ifStar (.call 80 789 [79, 8, 8]) (.assign 80 (.view 79))))))
   (.seq (.seq (.assign 81 (.same 80))
       (.seq (.ifStar (.call 82 789 [79, 8, 8]) (.assign 82 (.view 79)))
         (.assign 79 (.same 82))))
     (.seq (.ifStar (.seq (.ifStar (.assign 83 .fresh) (.call 83 815 [0, 79, 8]))
           (.assign 79 (.same 83))) .skip)
       (.seq (.assign 84 (.join [3, 4, 79, 81]))
         (.ret 84))))))⟩

/-- utils/deprecation.py:_deprecated_function_for (line 20); formals ['old_function_name', 'function'] -/
def f708_utils_deprecation___deprecated_function_for : Fn := ⟨2,
 (.seq (.assign 2 (.join [0, 1]))
 (.ret 2))⟩

/-- utils/deprecation.py:_deprecate_kwarg (line 32); formals ['kwargs', 'old_kw', 'new_kw', 'new_kw_value'] -/
def f709_utils_deprecation___deprecate_kwarg : Fn := ⟨4,
 (.seq (.seq (.assign 4 (.join [0, 1]))
   (.assign 5 (.same 4)))
 (.seq (.ifStar (.ret 5) .skip)
   (.ret 3)))⟩

/-- utils/deprecation.py:_deprecate_kwarg_with_transform (line 45); formals ['kwargs', 'old_kw', 'new_kw', 'new_kw_value', 'transform'] -/
def f710_utils_deprecation___deprecate_kwarg_with_transform : Fn := ⟨5,
 (.seq (.seq (.assign 5 (.join [0, 1]))
   (.assign 6 (.same 5)))
 (.seq (.ifStar (.seq (.assign 7 (.opq [6]))
       (.ret 7)) .skip)
   (.ret 3)))⟩

/-- utils/deprecation.py:_deprecated_renamed_method (line 56); formals ['cls', 'old_method_name', 'new_method_name'] -/
def f711_utils_deprecation___deprecated_renamed_method : Fn := ⟨3,
 (.seq (.assign 3 (.join [1, 2]))
 (.seq (.assign 3 (.join [1, 3]))
   (.ret 0)))⟩

/-- utils/deprecation.py:_deprecate_renamed_methods (line 69); formals ['cls', 'renamed_methods'] -/
def f712_utils_deprecation___deprecate_renamed_methods : Fn := ⟨2,
 (.seq (.assign 2 (.join [1]))
 (.seq (.whileStar ⟨[[0], [1], [1], [1], [1], [1], [1], [1], [0]], [], []⟩ (.seq (.seq (.assign 3 (.view 2))
         (.seq (.assign 4 (.view 3))
           (.assign 5 (.same 4))))
       (.seq (.assign 6 (.view 3))
         (.seq (.assign 7 (.same 6))
           (.call 8 711 [0, 5, 7])))))
   (.ret 0)))⟩

/-- utils/generic.py:_to_helper (line 10); formals ['args', 'kwargs'] -/
def f713_utils_generic___to_helper : Fn := ⟨2,
 (.seq (.seq (.seq (.assign 3 (.join []))
     (.seq (.assign 4 (.same 3))
       (.assign 5 (.join []))))
   (.seq (.assign 6 (.same 5))
     (.seq (.whileStar ⟨[[0], [1], [], [], [0], [], [0], [0], [0]], [], []⟩ (.seq (.assign 7 (.view 0))
           (.seq (.assign 8 (.same 7))
             (.ifStar (.assign 4 (.join [4, 8])) (.ifStar (.assign 6 (.join [6, 8])) (.ifStar (.seq (.assign 4 (.join [2, 4]))
                 (.assign 6 (.join [2, 6]))) .skip))))))
       (.ifStar (.seq (.assign 9 (.view 1))
           (.assign 4 (.join [4, 9]))) .skip))))
 (.seq (.seq (.ifStar (.seq (.assign 10 (.view 1))
         (.assign 6 (.join [6, 10]))) .skip)
     (.seq (.ifStar (.seq (.assign 4 (.join [4]))
           (.seq (.assign 11 (.same 4))
             (.assign 12 (.same 11)))) (.assign 12 (.same 2)))
       (.assign 13 (.same 12))))
   (.seq (.seq (.ifStar (.seq (.assign 6 (.join [6]))
           (.seq (.assign 14 (.same 6))
             (.assign 15 (.same 14)))) (.assign 15 (.same 2)))
       (.assign 16 (.same 15)))
     (.seq (.assign 17 (.join [13, 16]))
       (.ret 17)))))⟩

/-- utils/getitem.py:_compute_getitem_size (line 19); formals ['obj', 'indices'] -/
def f714_utils_getitem___compute_getitem_size : Fn := ⟨2,
 (.seq (.seq (.seq (.assign 3 (.join []))
     (.assign 4 (.same 3)))
   (.seq (.assign 5 (.same 2))
     (.assign 6 (.join [1, 2]))))
 (.seq (.seq (.whileStar ⟨[[0], [1], [], [], [1], [], [1], [1], [1], [1]], [], []⟩ (.seq (.seq (.assign 7 (.view 6))
           (.assign 8 (.view 7)))
         (.seq (.assign 9 (.same 8))
           (.ifStar (.ifStar (.assign 4 (.join [4, 9])) (.seq (.assign 10 .fresh)
                 (.assign 4 (.join [4, 10])))) (.ifStar .skip (.ifStar (.ifStar (.assign 5 (.same 2)) (.ifStar (.seq (.assign 11 .fresh)
                 (.assign 5 (.same 11))) (.seq (.ifStar (.assign 11 .fresh) .skip)
                 (.seq (.ifStar (.assign 5 (.same 11)) .skip)
                 (.ifStar (.seq (.assign 12 .fresh)
                 (.whileStar ⟨[[0], [1], [], [], [1], [], [1], [1], [1], [1]], [], []⟩ (.assign 12 (.join [2, 12])))) .skip))))) .skip))))))
     (.ifStar (.seq (.seq (.assign 13 (.view 4))
           (.seq (.assign 14 (.join [5]))
             (.assign 15 (.join [13, 14]))))
         (.seq (.assign 16 (.view 4))
           (.seq (.assign 17 (.join [15, 16]))
             (.assign 4 (.same 17))))) .skip))
   (.seq (.assign 18 .fresh)
     (.ret 18))))⟩

/-- utils/getitem.py:_convert_indices_to_tensors (line 98); formals ['obj', 'indices'] -/
def f715_utils_getitem___convert_indices_to_tensors : Fn := ⟨2,
 (.seq (.seq (.seq (.seq (.assign 3 .fresh)
       (.seq (.assign 5 (.view 1))
         (.assign 4 (.same 5))))
     (.seq (.whileStar ⟨[[0], [1], [], [1], [1], [1], [1]], [], []⟩ (.seq (.assign 6 (.view 1))
           (.seq (.assign 4 (.same 6))
             (.assign 3 (.join [3, 4])))))
       (.seq (.assign 7 .fresh)
         (.assign 9 (.view 1)))))
   (.seq (.seq (.assign 8 (.same 9))
       (.seq (.whileStar ⟨[[0], [1], [], [1], [1], [1], [1], [1], [1], [1], [1]], [], []⟩ (.seq (.assign 10 (.view 1))
             (.seq (.assign 8 (.same 10))
               (.assign 7 (.join [7, 8])))))
         (.assign 11 .fresh)))
     (.seq (.whileStar ⟨[[0], [1], [], [1], [1], [1], [1], [1], [1], [1], [1]], [], []⟩ (.assign 11 (.join [2, 11])))
       (.seq (.assign 12 (.same 2))
         (.call 13 718 [1])))))
 (.seq (.seq (.seq (.ifStar (.seq (.assign 14 .fresh)
           (.assign 15 (.same 14))) (.assign 15 (.same 2)))
       (.seq (.assign 16 (.same 15))
         (.ifStar (.assign 17 (.same 2)) (.assign 17 (.same 12)))))
     (.seq (.assign 18 (.same 17))
       (.seq (.ifStar (.assign 19 (.same 2)) (.assign 19 (.same 2)))
         (.assign 20 (.same 19)))))
   (.seq (.seq (.ifStar (.assign 21 (.same 2)) (.assign 21 (.same 2)))
       (.seq (.assign 22 (.same 21))
         (.assign 23 (.join []))))
     (.seq (.seq (.assign 24 (.same 23))
         (.whileStar ⟨[[0], [1], [], [1], [1], [1], [1], [1], [1], [1], [1], [], [], [], [], [], [], [], [], [], [], [], [], [], [1], [1], [1], [], [], [1], [], [], [], [1]], [], []⟩ (.seq (.seq (.assign 25 (.view 1))
               (.assign 26 (.same 25)))
             (.seq (.ifStar (.seq (.seq (.assign 18 .fresh)
                 (.seq (.assign 27 .fresh)
                 (.assign 28 (.view 27))))
                 (.seq (.seq (.assign 29 (.same 28))
                 (.call 30 704 [29, 16, 18]))
                 (.seq (.assign 29 (.same 30))
                 (.assign 16 .fresh)))) (.ifStar (.seq (.seq (.assign 31 .fresh)
                 (.assign 29 (.same 31)))
                 (.seq (.call 32 704 [29, 16, 18])
                 (.assign 29 (.same 32)))) (.ifStar (.seq (.ifStar (.seq (.seq (.assign 18 .fresh)
                 (.assign 20 (.same 16)))
                 (.seq (.assign 22 (.same 18))
                 (.assign 16 .fresh))) .skip)
                 (.seq (.call 33 704 [26, 20, 22])
                 (.assign 29 (.same 33)))) .skip)))
               (.assign 24 (.join [24, 29]))))))
       (.seq (.assign 34 (.join [24]))
         (.ret 34))))))⟩

/-- utils/getitem.py:_equal_indices (line 166); formals ['a', 'b'] -/
def f716_utils_getitem___equal_indices : Fn := ⟨2,
 (.ifStar (.seq (.assign 3 .fresh)
   (.ret 3)) (.ifStar (.seq (.assign 4 .fresh)
     (.ret 4)) (.ret 2)))⟩

/-- utils/getitem.py:_is_noop_index (line 178); formals ['index'] -/
def f717_utils_getitem___is_noop_index : Fn := ⟨1,
 (.seq (.seq (.assign 1 .fresh)
   (.assign 2 .fresh))
 (.seq (.assign 3 (.join [1, 2]))
   (.ret 3)))⟩

/-- utils/getitem.py:_is_tensor_index_moved_to_start (line 185); formals ['indices'] -/
def f718_utils_getitem___is_tensor_index_moved_to_start : Fn := ⟨1,
 (.seq (.seq (.ifStar (.call 2 789 [0, 1, 1]) .skip)
   (.ifStar (.ret 1) .skip))
 (.seq (.ifStar (.call 3 789 [0, 1, 1]) .skip)
   (.seq (.whileStar ⟨[[0], [], [0], [0]], [], []⟩ (.ifStar (.ifStar .skip (.ifStar (.ret 1) .skip)) .skip))
     (.ret 1))))⟩

/-- utils/interpolation.py:left_interp (line 9); formals ['interp_indices', 'interp_values', 'rhs'] -/
def f719_utils_interpolation__left_interp : Fn := ⟨3,
 (.ifStar (.seq (.seq (.seq (.assign 5 .fresh)
       (.assign 4 (.view 5)))
     (.seq (.assign 6 (.same 4))
       (.assign 7 .fresh)))
   (.seq (.seq (.assign 6 (.same 7))
       (.assign 8 .fresh))
     (.seq (.assign 6 (.same 8))
       (.ret 6)))) (.seq (.seq (.assign 9 .fresh)
     (.seq (.assign 10 (.same 9))
       (.call 11 703 [10, 3, 3])))
   (.seq (.seq (.assign 12 .fresh)
       (.assign 6 (.same 12)))
     (.seq (.assign 13 .fresh)
       (.ret 13)))))⟩

def chunk11 : List Fn := [
  f660_operators_zero_linear_operator__ZeroLinearOperator__root_inv_decomposition,
  f661_operators_zero_linear_operator__ZeroLinearOperator__size,
  f662_operators_zero_linear_operator__ZeroLinearOperator__sum_batch,
  f663_operators_zero_linear_operator__ZeroLinearOperator__t_matmul,
  f664_operators_zero_linear_operator__ZeroLinearOperator__transpose_nonbatch,
  f665_operators_zero_linear_operator__ZeroLinearOperator__unsqueeze_batch,
  f666_operators_zero_linear_operator__ZeroLinearOperator_add_diagonal,
  f667_operators_zero_linear_operator__ZeroLinearOperator_div,
  f668_operators_zero_linear_operator__ZeroLinearOperator_inv_quad,
  f669_operators_zero_linear_operator__ZeroLinearOperator_inv_quad_logdet,
  f670_operators_zero_linear_operator__ZeroLinearOperator_logdet,
  f671_operators_zero_linear_operator__ZeroLinearOperator_matmul,
  f672_operators_zero_linear_operator__ZeroLinearOperator_mul,
  f673_operators_zero_linear_operator__ZeroLinearOperator_solve,
  f674_operators_zero_linear_operator__ZeroLinearOperator_to_dense,
  f675_operators_zero_linear_operator__ZeroLinearOperator_to,
  f676_operators_zero_linear_operator__ZeroLinearOperator_type,
  f677_operators_zero_linear_operator__ZeroLinearOperator_transpose,
  f678_operators_zero_linear_operator__ZeroLinearOperator___add__,
  f679_settings___dtype_value_context_value,
  f680_settings___dtype_value_context__set_value,
  f681_settings___dtype_value_context___init__,
  f682_settings___dtype_value_context___enter__,
  f683_settings___dtype_value_context___exit__,
  f684_settings___feature_flag_is_default,
  f685_settings___feature_flag_on,
  f686_settings___feature_flag_off,
  f687_settings___feature_flag__set_state,
  f688_settings___feature_flag___init__,
  f689_settings___feature_flag___enter__,
  f690_settings___feature_flag___exit__,
  f691_settings___value_context_value,
  f692_settings___value_context__set_value,
  f693_settings___value_context___init__,
  f694_settings___value_context___enter__,
  f695_settings___value_context___exit__,
  f696_settings__deterministic_probes__set_state,
  f697_settings__fast_computations___init__,
  f698_settings__fast_computations___enter__,
  f699_settings__fast_computations___exit__,
  f700_settings__linalg_dtypes___init__,
  f701_settings__linalg_dtypes___enter__,
  f702_settings__linalg_dtypes___exit__,
  f703_utils_broadcasting___matmul_broadcast_shape,
  f704_utils_broadcasting___pad_with_singletons,
  f705_utils_cholesky___psd_safe_cholesky,
  f706_utils_cholesky__psd_safe_cholesky,
  f707_utils_contour_integral_quad__contour_integral_quad,
  f708_utils_deprecation___deprecated_function_for,
  f709_utils_deprecation___deprecate_kwarg,
  f710_utils_deprecation___deprecate_kwarg_with_transform,
  f711_utils_deprecation___deprecated_renamed_method,
  f712_utils_deprecation___deprecate_renamed_methods,
  f713_utils_generic___to_helper,
  f714_utils_getitem___compute_getitem_size,
  f715_utils_getitem___convert_indices_to_tensors,
  f716_utils_getitem___equal_indices,
  f717_utils_getitem___is_noop_index,
  f718_utils_getitem___is_tensor_index_moved_to_start,
  f719_utils_interpolation__left_interp]

/-- every function of this chunk conforms to its summary (kernel-evaluated analysis, mask form) -/
theorem chunk11_ok : tableOKB lk sigma11 chunk11 = true := by decide +kernel

end LinOp.Generated.C13
