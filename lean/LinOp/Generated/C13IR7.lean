import LinOp.C13.Model
import LinOp.Generated.C13Sigma
-- GENERATED by harness/extract/c13_alias.py from /repo/linear_operator (do not edit)
namespace LinOp.Generated.C13
open LinOp.C13

/-- operators/keops_linear_operator.py:KeOpsLinearOperator._get_indices (line 54); formals ['self', 'row_index', 'col_index', 'batch_indices'] -/
def f420_operators_keops_linear_operator__KeOpsLinearOperator__get_indices : Fn := ⟨4,
 (.seq (.seq (.seq (.assign 5 (.view 0))
     (.seq (.assign 6 (.join [1, 3]))
       (.ifStar (.call 7 789 [5, 6, 4]) (.assign 7 (.maybeView 5)))))
   (.seq (.assign 8 (.same 7))
     (.seq (.assign 9 (.view 0))
       (.assign 10 (.join [2, 3])))))
 (.seq (.seq (.ifStar (.call 11 789 [9, 10, 4]) (.assign 11 (.maybeView 9)))
     (.seq (.assign 12 (.same 11))
       (.assign 13 (.view 0))))
   (.seq (.assign 14 (.join [13]))
     (.seq (.assign 15 (.opq [0, 4, 8, 12, 14]))
       (.ret 15)))))⟩

/-- operators/keops_linear_operator.py:KeOpsLinearOperator._getitem (line 59); formals ['self', 'row_index', 'col_index', 'batch_indices'] -/
def f421_operators_keops_linear_operator__KeOpsLinearOperator__getitem : Fn := ⟨4,
 (.seq (.seq (.seq (.assign 5 (.view 0))
     (.seq (.assign 6 (.same 5))
       (.assign 7 (.view 0))))
   (.seq (.seq (.assign 8 (.same 7))
       (.assign 9 (.same 4)))
     (.seq (.ifStar (.seq (.assign 10 (.join [1, 3, 9]))
           (.seq (.ifStar (.call 11 789 [6, 10, 4]) (.assign 11 (.maybeView 6)))
             (.assign 6 (.same 11)))) (.seq (.seq (.ifStar (.assign 10 (.join [1, 3, 9])) .skip)
             (.ifStar (.ifStar (.call 11 789 [6, 10, 4]) (.assign 11 (.maybeView 6))) .skip))
           (.seq (.ifStar (.assign 6 (.same 11)) .skip)
             (.ifStar (.ifStar (.seq (.seq (.assign 12 (.join [4]))
                 (.seq (.assign 14 (.join [4, 12]))
                 (.ifStar (.assign 13 (.view 6)) (.call 13 776 [6, 14]))))
                 (.seq (.assign 15 (.join [1, 3, 9]))
                 (.seq (.ifStar (.call 16 789 [13, 15, 4]) (.assign 16 (.maybeView 13)))
                 (.assign 6 (.same 16))))) (.ifStar (.seq (.seq (.seq (.assign 17 .fresh)
                 (.seq (.whileStar ⟨[[0], [1], [2], [3], [], [0], [0, 1, 3], [0], [0], [], [1, 3], [0, 1, 3]], [], []⟩ (.assign 17 (.join [4, 17])))
                 (.assign 18 (.join [4]))))
                 (.seq (.assign 19 .fresh)
                 (.seq (.assign 20 (.join [18, 19]))
                 (.assign 21 (.join [4, 20])))))
                 (.seq (.seq (.assign 23 (.join [21]))
                 (.seq (.ifStar (.assign 22 (.view 6)) (.call 22 776 [6, 23]))
                 (.assign 6 (.same 22))))
                 (.seq (.assign 24 (.join [1, 3, 9]))
                 (.seq (.ifStar (.call 25 789 [6, 24, 4]) (.assign 25 (.maybeView 6)))
                 (.assign 6 (.same 25)))))) .skip)) .skip))))
       (.ifStar (.seq (.assign 26 (.join [2, 3, 9]))
           (.seq (.ifStar (.call 27 789 [8, 26, 4]) (.assign 27 (.maybeView 8)))
             (.assign 8 (.same 27)))) (.seq (.seq (.ifStar (.assign 26 (.join [2, 3, 9])) .skip)
             (.ifStar (.ifStar (.call 27 789 [8, 26, 4]) (.assign 27 (.maybeView 8))) .skip))
           (.seq (.ifStar (.assign 8 (.same 27)) .skip)
             (.ifStar (.ifStar (.seq (.seq (.assign 28 (.join [4]))
                 (.seq (.assign 30 (.join [4, 28]))
                 (.ifStar (.assign 29 (.view 8)) (.call 29 776 [8, 30]))))
                 (.seq (.assign 31 (.join [1, 3, 9]))
                 (.seq (.ifStar (.call 32 789 [29, 31, 4]) (.assign 32 (.maybeView 29)))
                 (.assign 8 (.same 32))))) (.ifStar (.seq (.seq (.seq (.assign 33 .fresh)
                 (.seq (.whileStar ⟨[[0], [1], [2], [3], [], [0], [0, 1, 3], [0], [0, 2, 3], [], [1, 3], [0, 1, 3], [], [0, 1, 3], [], [1, 3], [0, 1, 3], [], [], [], [], [], [0, 1, 3], [], [1, 3], [0, 1, 3], [2, 3], [0, 2, 3]], [], []⟩ (.assign 33 (.join [4, 33])))
                 (.assign 34 (.join [4]))))
                 (.seq (.assign 35 .fresh)
                 (.seq (.assign 36 (.join [34, 35]))
                 (.assign 37 (.join [4, 36])))))
                 (.seq (.seq (.assign 39 (.join [37]))
                 (.seq (.ifStar (.assign 38 (.view 8)) (.call 38 776 [8, 39]))
                 (.assign 8 (.same 38))))
                 (.seq (.assign 40 (.join [1, 3, 9]))
                 (.seq (.ifStar (.call 41 789 [8, 40, 4]) (.assign 41 (.maybeView 8)))
                 (.assign 8 (.same 41)))))) .skip)) .skip)))))))
 (.seq (.seq (.seq (.assign 42 (.view 0))
       (.assign 43 (.view 0)))
     (.seq (.assign 44 (.join [43]))
       (.assign 46 .fresh)))
   (.seq (.seq (.assign 48 (.join [6, 8, 44]))
       (.call 47 812 [46, 44, 44, 44, 44, 44, 44, 44, 44, 44, 44, 44, 44, 44, 44, 44, 44, 44, 44, 44, 44, 44, 44, 44, 44, 42, 44, 44, 44, 44, 44, 44, 44, 44, 44, 44, 44, 44, 44, 44, 44, 44, 44, 44, 44, 44, 44, 44, 44, 44, 44, 44, 44, 44, 48]))
     (.seq (.assign 45 (.join [6, 8, 42, 44, 47]))
       (.ret 45)))))⟩

/-- operators/keops_linear_operator.py:KeOpsLinearOperator._bilinear_derivative (line 102); formals ['self', 'left_vecs', 'right_vecs'] -/
def f422_operators_keops_linear_operator__KeOpsLinearOperator__bilinear_derivative : Fn := ⟨3,
 (.seq (.seq (.assign 4 (.maybeView 1))
   (.assign 5 (.maybeView 2)))
 (.seq (.call 6 799 [0, 4, 5, 3])
   (.ret 6)))⟩

/-- operators/kernel_linear_operator.py:_x_getitem (line 16); formals ['x', 'batch_indices', 'data_index'] -/
def f423_operators_kernel_linear_operator___x_getitem : Fn := ⟨3,
 (.seq (.ifStar (.seq (.assign 4 (.join [1, 2, 3]))
     (.seq (.ifStar (.call 5 789 [0, 4, 3]) (.assign 5 (.maybeView 0)))
       (.assign 0 (.same 5)))) (.seq (.seq (.ifStar (.assign 4 (.join [1, 2, 3])) .skip)
       (.ifStar (.ifStar (.call 5 789 [0, 4, 3]) (.assign 5 (.maybeView 0))) .skip))
     (.seq (.ifStar (.assign 0 (.same 5)) .skip)
       (.ifStar (.ifStar (.seq (.seq (.assign 6 (.join [3]))
               (.seq (.assign 8 (.join [3, 6]))
                 (.ifStar (.assign 7 (.view 0)) (.call 7 776 [0, 8]))))
             (.seq (.seq (.assign 0 (.same 7))
                 (.assign 9 (.join [1, 2, 3])))
               (.seq (.assign 10 (.join [9]))
                 (.assign 0 (.same 10))))) (.ifStar (.seq (.seq (.seq (.assign 11 .fresh)
                 (.seq (.whileStar ⟨[[0, 1, 2], [1], [2], [], [1, 2], [0, 1, 2]], [], []⟩ (.assign 11 (.join [3, 11])))
                 (.assign 12 (.join [3]))))
                 (.seq (.assign 13 .fresh)
                 (.seq (.assign 14 (.join [12, 13]))
                 (.assign 15 (.join [3, 14])))))
               (.seq (.seq (.assign 17 (.join [15]))
                 (.seq (.ifStar (.assign 16 (.view 0)) (.call 16 776 [0, 17]))
                 (.assign 0 (.same 16))))
                 (.seq (.assign 18 (.join [1, 2, 3]))
                 (.seq (.ifStar (.call 19 789 [0, 18, 3]) (.assign 19 (.maybeView 0)))
                 (.assign 0 (.same 19)))))) .skip)) .skip))))
 (.ret 0))⟩

/-- operators/kernel_linear_operator.py:KernelLinearOperator.__init__ (line 133); formals ['self', 'x1', 'x2', 'covar_func', 'num_outputs_per_input', 'num_nonbatch_dimensions', 'params'] -/
def f424_operators_kernel_linear_operator__KernelLinearOperator___init__ : Fn := ⟨7,
 (.seq (.seq (.seq (.seq (.ifStar (.seq (.assign 8 (.join []))
           (.seq (.assign 9 (.join [8]))
             (.assign 5 (.same 9)))) (.seq (.seq (.assign 10 (.join []))
             (.assign 11 (.join [5])))
           (.seq (.assign 12 (.join [10, 11]))
             (.assign 5 (.same 12)))))
       (.seq (.assign 13 (.join []))
         (.assign 14 (.same 13))))
     (.seq (.assign 15 (.join []))
       (.seq (.assign 16 (.same 15))
         (.assign 17 (.join [6])))))
   (.seq (.seq (.whileStar ⟨[[0], [1], [2], [3], [4], [5], [6], [], [], [], [], [5], [5], [], [6], [], [6], [6], [6], [6], [6], [6], [6]], [], []⟩ (.seq (.seq (.assign 18 (.view 17))
             (.seq (.assign 19 (.view 18))
               (.assign 20 (.same 19))))
           (.seq (.assign 21 (.view 18))
             (.seq (.assign 22 (.same 21))
               (.ifStar (.assign 14 (.join [14, 22])) (.assign 16 (.join [16, 22])))))))
       (.seq (.assign 23 (.join []))
         (.assign 24 (.same 23))))
     (.seq (.seq (.assign 25 (.join []))
         (.assign 26 (.same 25)))
       (.seq (.assign 27 (.join [14]))
         (.whileStar ⟨[[0], [1], [2], [3], [4], [5], [6], [], [], [], [], [5], [5], [], [6], [], [6], [6], [6], [6], [6], [6], [6], [], [], [], [], [6], [6], [6], [6], [5, 6], [], [5, 6]], [], []⟩ (.seq (.seq (.assign 28 (.view 27))
               (.seq (.assign 29 (.view 28))
                 (.assign 20 (.same 29))))
             (.seq (.seq (.assign 30 (.view 28))
                 (.assign 22 (.same 30)))
               (.seq (.ifStar (.call 31 789 [5, 20, 7]) .skip)
                 (.ifStar (.seq (.assign 24 (.join [7, 24]))
                 (.seq (.assign 32 .fresh)
                 (.assign 26 (.join [26, 32])))) (.seq (.ifStar (.call 33 789 [5, 20, 7]) .skip)
                 (.seq (.assign 24 (.join [7, 24]))
                 (.assign 26 (.join [7, 26])))))))))))))
 (.seq (.seq (.seq (.ifStar (.seq (.assign 34 .fresh)
           (.assign 35 (.same 34))) (.seq (.ifStar (.assign 34 .fresh) .skip)
           (.seq (.ifStar (.assign 35 (.same 34)) .skip)
             (.ifStar (.seq (.assign 36 .fresh)
                 (.whileStar ⟨[[0], [1], [2], [3], [4], [5], [6], [], [], [], [], [5], [5], [], [6], [], [6], [6], [6], [6], [6], [6], [6], [], [], [], [], [6], [6], [6], [6], [5, 6], [], [5, 6]], [], []⟩ (.seq (.assign 37 .fresh)
                 (.assign 36 (.join [36, 37]))))) .skip))))
       (.seq (.ifStar (.seq (.seq (.seq (.seq (.assign 40 (.view 1))
                 (.assign 39 (.maybeView 40)))
                 (.seq (.assign 38 (.same 39))
                 (.assign 1 (.same 38))))
               (.seq (.seq (.assign 43 (.view 2))
                 (.assign 42 (.maybeView 43)))
                 (.seq (.assign 41 (.same 42))
                 (.assign 2 (.same 41)))))
             (.seq (.seq (.seq (.assign 44 .fresh)
                 (.assign 47 (.join [14])))
                 (.seq (.assign 48 (.view 47))
                 (.assign 49 (.view 48))))
               (.seq (.seq (.assign 45 (.same 49))
                 (.assign 50 (.view 48)))
                 (.seq (.assign 46 (.same 50))
                 (.seq (.whileStar ⟨[[0], [1], [2], [3], [4], [5], [6], [], [], [], [], [5], [5], [], [6], [], [6], [6], [6], [6], [6], [6], [6], [], [], [], [], [6], [6], [6], [6], [5, 6], [], [5, 6], [], [], [], [], [1], [1], [1], [2], [2], [2], [6], [6], [6], [6], [6], [6], [6], [6], [6], [6], [6], [6], [], [], [6]], [], []⟩ (.seq (.seq (.seq (.assign 51 (.join [14]))
                 (.seq (.assign 52 (.view 51))
                 (.assign 53 (.view 52))))
                 (.seq (.assign 45 (.same 53))
                 (.seq (.assign 54 (.view 52))
                 (.assign 46 (.same 54)))))
                 (.seq (.seq (.assign 56 (.view 26))
                 (.seq (.assign 57 (.join [35, 56]))
                 (.assign 59 (.join [57]))))
                 (.seq (.ifStar (.assign 58 (.view 46)) (.call 58 776 [46, 59]))
                 (.seq (.ifStar (.assign 55 (.same 58)) (.call 55 788 [58, 7, 7]))
                 (.assign 44 (.join [44, 45, 55])))))))
                 (.assign 14 (.same 44))))))) .skip)
         (.assign 60 (.join [14, 16]))))
     (.seq (.seq (.assign 62 (.join [1, 2, 60]))
         (.call 61 812 [0, 60, 60, 60, 60, 60, 60, 60, 60, 60, 60, 60, 60, 60, 60, 60, 60, 60, 60, 60, 60, 60, 60, 60, 60, 3, 4, 5, 60, 60, 60, 60, 60, 60, 60, 60, 60, 60, 60, 60, 60, 60, 60, 60, 60, 60, 60, 60, 60, 60, 60, 60, 60, 60, 62]))
       (.seq (.assign 0 (.join [0, 35]))
         (.assign 0 (.join [0, 1])))))
   (.seq (.seq (.assign 0 (.join [0, 2]))
       (.seq (.assign 0 (.join [0, 14]))
         (.assign 0 (.join [0, 16]))))
     (.seq (.seq (.assign 0 (.join [0, 3]))
         (.assign 0 (.join [0, 4])))
       (.seq (.assign 0 (.join [0, 5]))
         (.ret 0))))))⟩

/-- operators/kernel_linear_operator.py:KernelLinearOperator._diagonal (line 226); formals ['self'] -/
def f425_operators_kernel_linear_operator__KernelLinearOperator__diagonal : Fn := ⟨1,
 (.seq (.seq (.seq (.seq (.assign 4 (.view 0))
       (.seq (.ifStar (.assign 3 (.view 4)) (.call 3 782 [4, 1, 1]))
         (.ifStar (.assign 2 (.view 3)) (.call 2 839 [3, 1, 1, 1]))))
     (.seq (.assign 5 (.same 2))
       (.seq (.assign 8 (.view 0))
         (.ifStar (.assign 7 (.view 8)) (.call 7 782 [8, 1, 1])))))
   (.seq (.seq (.ifStar (.assign 6 (.view 7)) (.call 6 839 [7, 1, 1, 1]))
       (.seq (.assign 9 (.same 6))
         (.assign 10 .fresh)))
     (.seq (.assign 14 (.view 0))
       (.seq (.assign 13 (.join [14]))
         (.assign 15 (.view 13))))))
 (.seq (.seq (.seq (.assign 16 (.view 15))
       (.seq (.assign 11 (.same 16))
         (.assign 17 (.view 15))))
     (.seq (.assign 12 (.same 17))
       (.seq (.whileStar ⟨[[0], [], [0], [0], [0], [0], [0], [0], [0], [0], [0], [0], [0], [0], [0], [0], [0], [0], [0], [0], [0], [0], [0], [0]], [], []⟩ (.seq (.seq (.seq (.assign 19 (.view 0))
                 (.assign 18 (.join [19])))
               (.seq (.assign 20 (.view 18))
                 (.assign 21 (.view 20))))
             (.seq (.seq (.assign 11 (.same 21))
                 (.assign 22 (.view 20)))
               (.seq (.assign 12 (.same 22))
                 (.seq (.ifStar (.assign 23 (.view 12)) (.call 23 782 [12, 1, 1]))
                 (.assign 10 (.join [10, 11, 23])))))))
         (.assign 24 (.same 10)))))
   (.seq (.seq (.assign 25 (.view 0))
       (.seq (.assign 26 (.join [24, 25]))
         (.assign 27 (.opq [0, 5, 9, 26]))))
     (.seq (.seq (.call 28 162 [27])
         (.assign 29 (.same 28)))
       (.seq (.ifStar (.seq (.seq (.ifStar (.assign 30 (.view 29)) (.call 30 839 [29, 1, 1, 1]))
               (.assign 31 (.join [1])))
             (.seq (.ifStar (.call 32 789 [30, 31, 1]) (.assign 32 (.view 30)))
               (.ret 32))) (.seq (.seq (.seq (.call 33 808 [29, 1])
                 (.seq (.assign 34 .fresh)
                 (.assign 35 (.join [34]))))
               (.seq (.assign 37 (.join [1, 35]))
                 (.seq (.ifStar (.assign 36 (.view 29)) (.call 36 809 [29, 37]))
                 (.assign 29 (.same 36)))))
             (.seq (.seq (.ifStar (.assign 38 (.view 29)) (.call 38 866 [29, 1, 1, 1, 1]))
                 (.seq (.assign 39 (.same 38))
                 (.assign 40 (.join [1]))))
               (.seq (.assign 42 (.join [1, 40]))
                 (.seq (.ifStar (.assign 41 (.maybeView 39)) (.call 41 856 [39, 42]))
                 (.ret 41))))))
         (.ret 0))))))⟩

/-- operators/kernel_linear_operator.py:KernelLinearOperator.covar_mat (line 251); formals ['self'] -/
def f426_operators_kernel_linear_operator__KernelLinearOperator_covar_mat : Fn := ⟨1,
 (.seq (.seq (.seq (.assign 1 (.view 0))
     (.assign 2 (.view 0)))
   (.seq (.assign 3 (.view 0))
     (.assign 4 (.view 0))))
 (.seq (.seq (.assign 5 (.join [3, 4]))
     (.assign 6 (.opq [0, 1, 2, 5])))
   (.seq (.ret 6)
     (.ret 0))))⟩

/-- operators/kernel_linear_operator.py:KernelLinearOperator._get_indices (line 254); formals ['self', 'row_index', 'col_index', 'batch_indices'] -/
def f427_operators_kernel_linear_operator__KernelLinearOperator__get_indices : Fn := ⟨4,
 (.seq (.seq (.seq (.seq (.seq (.assign 5 (.view 4))
         (.assign 6 (.same 5)))
       (.seq (.assign 8 (.view 0))
         (.assign 10 (.join [4]))))
     (.seq (.seq (.ifStar (.assign 9 .fresh) (.call 9 859 [1, 6, 10]))
         (.assign 11 (.join [3, 9])))
       (.seq (.ifStar (.call 12 789 [8, 11, 4]) (.assign 12 (.maybeView 8)))
         (.ifStar (.assign 7 (.view 12)) (.call 7 782 [12, 4, 4])))))
   (.seq (.seq (.seq (.assign 13 (.same 7))
         (.assign 15 (.view 0)))
       (.seq (.assign 17 (.join [4]))
         (.ifStar (.assign 16 .fresh) (.call 16 859 [2, 6, 17]))))
     (.seq (.seq (.assign 18 (.join [3, 16]))
         (.ifStar (.call 19 789 [15, 18, 4]) (.assign 19 (.maybeView 15))))
       (.seq (.ifStar (.assign 14 (.view 19)) (.call 14 782 [19, 4, 4]))
         (.assign 20 (.same 14))))))
 (.seq (.seq (.seq (.seq (.assign 21 .fresh)
         (.assign 25 (.view 0)))
       (.seq (.assign 24 (.join [25]))
         (.assign 26 (.view 24))))
     (.seq (.seq (.assign 27 (.view 26))
         (.assign 22 (.same 27)))
       (.seq (.assign 28 (.view 26))
         (.assign 23 (.same 28)))))
   (.seq (.seq (.seq (.whileStar ⟨[[0], [1], [2], [3], [], [], [], [0, 1, 3], [0], [1], [], [1, 3], [0, 1, 3], [0, 1, 3], [0, 2, 3], [0], [2], [], [2, 3], [0, 2, 3], [0, 2, 3], [0, 3], [0], [0], [0], [0], [0], [0], [0], [0], [0], [0], [0], [0], [0, 3]], [], []⟩ (.seq (.seq (.seq (.assign 30 (.view 0))
                 (.assign 29 (.join [30])))
               (.seq (.assign 31 (.view 29))
                 (.assign 32 (.view 31))))
             (.seq (.seq (.assign 22 (.same 32))
                 (.assign 33 (.view 31)))
               (.seq (.assign 23 (.same 33))
                 (.seq (.ifStar (.call 34 789 [23, 3, 4]) (.assign 34 (.maybeView 23)))
                 (.assign 21 (.join [21, 22, 34])))))))
         (.assign 35 (.same 21)))
       (.seq (.assign 36 (.view 0))
         (.assign 37 (.join [35, 36]))))
     (.seq (.seq (.assign 38 (.opq [0, 13, 20, 37]))
         (.call 39 162 [38]))
       (.seq (.assign 40 (.same 39))
         (.ifStar (.seq (.assign 41 (.join [4]))
             (.seq (.ifStar (.call 42 789 [40, 41, 4]) (.assign 42 (.view 40)))
               (.ret 42))) (.seq (.seq (.seq (.assign 43 .fresh)
                 (.seq (.assign 44 (.same 43))
                 (.assign 45 .fresh)))
               (.seq (.assign 46 (.same 45))
                 (.seq (.assign 47 .fresh)
                 (.assign 49 (.view 4)))))
             (.seq (.seq (.assign 48 (.same 49))
                 (.seq (.whileStar ⟨[[0], [1], [2], [3], [], [], [], [0, 1, 3], [0], [1], [], [1, 3], [0, 1, 3], [0, 1, 3], [0, 2, 3], [0], [2], [], [2, 3], [0, 2, 3], [0, 2, 3], [0, 3], [0], [0], [0], [0], [0], [0], [0], [0], [0], [0], [0], [0], [0, 3], [0, 3], [0], [0, 3], [0, 1, 2, 3], [0, 1, 2, 3], [0, 1, 2, 3]], [], []⟩ (.seq (.seq (.assign 50 (.view 4))
                 (.seq (.assign 48 (.same 50))
                 (.assign 51 .fresh)))
                 (.seq (.call 52 808 [40, 4])
                 (.seq (.call 53 704 [51, 48, 4])
                 (.assign 47 (.join [47, 53]))))))
                 (.assign 3 (.same 47))))
               (.seq (.assign 54 (.join [3, 44, 46]))
                 (.seq (.ifStar (.call 55 789 [40, 54, 4]) (.assign 55 (.maybeView 40)))
                 (.ret 55)))))))))))⟩

/-- operators/kernel_linear_operator.py:KernelLinearOperator._getitem (line 291); formals ['self', 'row_index', 'col_index', 'batch_indices'] -/
def f428_operators_kernel_linear_operator__KernelLinearOperator__getitem : Fn := ⟨4,
 (.seq (.seq (.seq (.seq (.ifStar (.seq (.seq (.seq (.ifStar (.ifStar (.seq (.seq (.assign 5 (.join [3]))
                 (.seq (.assign 7 (.view 0))
                 (.ifStar (.call 7 887 [0, 4]) .skip)))
                 (.seq (.seq (.assign 8 (.same 7))
                 (.assign 9 (.join [5])))
                 (.seq (.ifStar (.assign 6 .fresh) (.call 6 813 [8, 1, 2, 9]))
                 (.ret 6)))) (.seq (.seq (.seq (.ifStar (.assign 5 (.join [3])) .skip)
                 (.ifStar (.assign 7 (.view 0)) .skip))
                 (.seq (.ifStar (.ifStar (.call 7 887 [0, 4]) .skip) .skip)
                 (.ifStar (.assign 8 (.same 7)) .skip)))
                 (.seq (.seq (.ifStar (.assign 9 (.join [5])) .skip)
                 (.ifStar (.ifStar (.assign 6 .fresh) (.call 6 813 [8, 1, 2, 9])) .skip))
                 (.seq (.ifStar (.ret 6) .skip)
                 (.ifStar (.seq (.assign 10 .fresh)
                 (.whileStar ⟨[[0], [1], [2], [3], [], [3], [0, 1, 2, 3], [0], [0], [3]], [], [0, 1, 2, 3]⟩ (.seq (.assign 11 .fresh)
                 (.assign 10 (.join [10, 11]))))) .skip))))) .skip)
               (.call 12 848 [0, 4]))
             (.seq (.ifStar (.ifStar (.seq (.seq (.assign 13 (.join [3]))
                 (.seq (.assign 15 (.view 0))
                 (.ifStar (.call 15 887 [0, 4]) .skip)))
                 (.seq (.seq (.assign 16 (.same 15))
                 (.assign 17 (.join [13])))
                 (.seq (.ifStar (.assign 14 .fresh) (.call 14 813 [16, 1, 2, 17]))
                 (.ret 14)))) (.seq (.seq (.seq (.ifStar (.assign 13 (.join [3])) .skip)
                 (.ifStar (.assign 15 (.view 0)) .skip))
                 (.seq (.ifStar (.ifStar (.call 15 887 [0, 4]) .skip) .skip)
                 (.ifStar (.assign 16 (.same 15)) .skip)))
                 (.seq (.seq (.ifStar (.assign 17 (.join [13])) .skip)
                 (.ifStar (.ifStar (.assign 14 .fresh) (.call 14 813 [16, 1, 2, 17])) .skip))
                 (.seq (.ifStar (.ret 14) .skip)
                 (.ifStar (.ifStar (.call 18 887 [0, 4]) .skip) .skip))))) .skip)
               (.ifStar (.ifStar (.seq (.seq (.assign 19 (.join [3]))
                 (.seq (.assign 21 (.view 0))
                 (.ifStar (.call 21 887 [0, 4]) .skip)))
                 (.seq (.seq (.assign 22 (.same 21))
                 (.assign 23 (.join [19])))
                 (.seq (.ifStar (.assign 20 .fresh) (.call 20 813 [22, 1, 2, 23]))
                 (.ret 20)))) (.seq (.seq (.seq (.ifStar (.assign 19 (.join [3])) .skip)
                 (.ifStar (.assign 21 (.view 0)) .skip))
                 (.seq (.ifStar (.ifStar (.call 21 887 [0, 4]) .skip) .skip)
                 (.ifStar (.assign 22 (.same 21)) .skip)))
                 (.seq (.seq (.ifStar (.assign 23 (.join [19])) .skip)
                 (.ifStar (.ifStar (.assign 20 .fresh) (.call 20 813 [22, 1, 2, 23])) .skip))
                 (.seq (.ifStar (.ret 20) .skip)
                 (.ifStar (.ifStar (.call 24 887 [0, 4]) .skip) .skip))))) .skip)))
           (.seq (.seq (.assign 25 .fresh)
               (.assign 1 (.same 25)))
             (.seq (.assign 26 .fresh)
               (.assign 2 (.same 26))))) .skip)
       (.seq (.assign 27 (.view 0))
         (.call 28 423 [27, 3, 1])))
     (.seq (.assign 29 (.same 28))
       (.seq (.assign 30 (.view 0))
         (.call 31 423 [30, 3, 2]))))
   (.seq (.seq (.assign 32 (.same 31))
       (.seq (.assign 33 .fresh)
         (.assign 37 (.view 0))))
     (.seq (.assign 36 (.join [37]))
       (.seq (.assign 38 (.view 36))
         (.assign 39 (.view 38))))))
 (.seq (.seq (.seq (.assign 34 (.same 39))
       (.seq (.assign 40 (.view 38))
         (.assign 35 (.same 40))))
     (.seq (.whileStar ⟨[[0], [1], [2], [3], [], [3], [0, 1, 2, 3], [0], [0], [3], [], [], [0], [3], [0, 1, 2, 3], [0], [0], [3], [0], [3], [0, 1, 2, 3], [0], [0], [3], [0], [], [], [0], [0, 1, 3], [0, 1, 3], [0], [0, 2, 3], [0, 2, 3], [0, 3], [0], [0], [0], [0], [0], [0], [0], [0], [0], [0], [0], [0], [], [], [3], [0, 3]], [], [0, 1, 2, 3]⟩ (.seq (.seq (.seq (.assign 42 (.view 0))
               (.seq (.assign 41 (.join [42]))
                 (.assign 43 (.view 41))))
             (.seq (.assign 44 (.view 43))
               (.seq (.assign 34 (.same 44))
                 (.assign 45 (.view 43)))))
           (.seq (.seq (.assign 35 (.same 45))
               (.seq (.assign 46 (.join [4]))
                 (.assign 47 (.join [4, 46]))))
             (.seq (.assign 48 (.join [3, 47]))
               (.seq (.ifStar (.call 49 789 [35, 48, 4]) (.assign 49 (.maybeView 35)))
                 (.assign 33 (.join [33, 34, 49])))))))
       (.seq (.assign 50 (.same 33))
         (.assign 51 (.view 0)))))
   (.seq (.seq (.assign 52 (.view 0))
       (.seq (.assign 53 (.join [50, 52]))
         (.assign 55 .fresh)))
     (.seq (.seq (.assign 57 (.join [29, 32, 53]))
         (.call 56 812 [55, 53, 53, 53, 53, 53, 53, 53, 53, 53, 53, 53, 53, 53, 53, 53, 53, 53, 53, 53, 53, 53, 53, 53, 53, 51, 4, 4, 53, 53, 53, 53, 53, 53, 53, 53, 53, 53, 53, 53, 53, 53, 53, 53, 53, 53, 53, 53, 53, 53, 53, 53, 53, 53, 57]))
       (.seq (.assign 54 (.join [4, 29, 32, 51, 53, 56]))
         (.ret 54))))))⟩

/-- operators/kernel_linear_operator.py:KernelLinearOperator._matmul (line 370); formals ['self', 'rhs'] -/
def f429_operators_kernel_linear_operator__KernelLinearOperator__matmul : Fn := ⟨2,
 (.seq (.seq (.assign 3 (.view 0))
   (.seq (.ifStar (.call 3 887 [0, 2]) .skip)
     (.assign 4 (.same 3))))
 (.seq (.assign 5 (.maybeView 1))
   (.seq (.ifStar (.assign 6 .fresh) (.ifStar (.call 6 798 [5, 4, 2]) (.call 6 797 [4, 5, 2])))
     (.ret 6))))⟩

/-- operators/kernel_linear_operator.py:KernelLinearOperator._permute_batch (line 376); formals ['self', 'dims'] -/
def f430_operators_kernel_linear_operator__KernelLinearOperator__permute_batch : Fn := ⟨2,
 (.seq (.seq (.seq (.seq (.assign 3 (.join [1]))
       (.seq (.assign 5 (.view 0))
         (.assign 6 (.join [2, 3]))))
     (.seq (.seq (.ifStar (.assign 4 (.view 5)) (.call 4 809 [5, 6]))
         (.assign 7 (.same 4)))
       (.seq (.assign 8 (.join [1]))
         (.assign 10 (.view 0)))))
   (.seq (.seq (.assign 11 (.join [2, 8]))
       (.seq (.ifStar (.assign 9 (.view 10)) (.call 9 809 [10, 11]))
         (.assign 12 (.same 9))))
     (.seq (.seq (.assign 13 .fresh)
         (.assign 17 (.view 0)))
       (.seq (.assign 16 (.join [17]))
         (.assign 18 (.view 16))))))
 (.seq (.seq (.seq (.assign 19 (.view 18))
       (.seq (.assign 14 (.same 19))
         (.assign 20 (.view 18))))
     (.seq (.seq (.assign 15 (.same 20))
         (.whileStar ⟨[[0], [1], [], [1], [0], [0], [1], [0], [1], [0], [0], [1], [0], [0], [0], [0], [0], [0], [0], [0], [0], [0], [0], [0], [0], [0], [], [1], [0], [1]], [], []⟩ (.seq (.seq (.seq (.assign 22 (.view 0))
                 (.seq (.assign 21 (.join [22]))
                 (.assign 23 (.view 21))))
               (.seq (.assign 24 (.view 23))
                 (.seq (.assign 14 (.same 24))
                 (.assign 25 (.view 23)))))
             (.seq (.seq (.assign 15 (.same 25))
                 (.seq (.assign 26 .fresh)
                 (.assign 27 (.join [1, 26]))))
               (.seq (.assign 29 (.join [27]))
                 (.seq (.ifStar (.assign 28 (.view 15)) (.call 28 809 [15, 29]))
                 (.assign 13 (.join [13, 14, 28]))))))))
       (.seq (.assign 30 (.same 13))
         (.assign 31 (.view 0)))))
   (.seq (.seq (.assign 32 (.view 0))
       (.seq (.assign 33 (.join [30, 32]))
         (.assign 35 .fresh)))
     (.seq (.seq (.assign 37 (.join [7, 12, 33]))
         (.call 36 812 [35, 33, 33, 33, 33, 33, 33, 33, 33, 33, 33, 33, 33, 33, 33, 33, 33, 33, 33, 33, 33, 33, 33, 33, 33, 31, 2, 2, 33, 33, 33, 33, 33, 33, 33, 33, 33, 33, 33, 33, 33, 33, 33, 33, 33, 33, 33, 33, 33, 33, 33, 33, 33, 33, 37]))
       (.seq (.assign 34 (.join [2, 7, 12, 31, 33, 36]))
         (.ret 34))))))⟩

/-- operators/kernel_linear_operator.py:KernelLinearOperator._size (line 393); formals ['self'] -/
def f431_operators_kernel_linear_operator__KernelLinearOperator__size : Fn := ⟨1,
 (.seq (.assign 1 .fresh)
 (.ret 1))⟩

/-- operators/kernel_linear_operator.py:KernelLinearOperator._transpose_nonbatch (line 403); formals ['self'] -/
def f432_operators_kernel_linear_operator__KernelLinearOperator__transpose_nonbatch : Fn := ⟨1,
 (.seq (.seq (.seq (.assign 2 (.view 0))
     (.assign 3 (.view 0)))
   (.seq (.assign 4 (.view 0))
     (.seq (.assign 5 (.view 0))
       (.assign 6 (.view 0)))))
 (.seq (.seq (.assign 7 (.join [5, 6]))
     (.seq (.assign 9 .fresh)
       (.assign 11 (.join [2, 3, 7]))))
   (.seq (.call 10 812 [9, 7, 7, 7, 7, 7, 7, 7, 7, 7, 7, 7, 7, 7, 7, 7, 7, 7, 7, 7, 7, 7, 7, 7, 7, 4, 1, 1, 7, 7, 7, 7, 7, 7, 7, 7, 7, 7, 7, 7, 7, 7, 7, 7, 7, 7, 7, 7, 7, 7, 7, 7, 7, 7, 11])
     (.seq (.assign 8 (.join [1, 2, 3, 4, 7, 10]))
       (.ret 8)))))⟩

/-- operators/kernel_linear_operator.py:KernelLinearOperator._unsqueeze_batch (line 414); formals ['self', 'dim'] -/
def f433_operators_kernel_linear_operator__KernelLinearOperator__unsqueeze_batch : Fn := ⟨2,
 (.seq (.seq (.seq (.seq (.assign 4 (.view 0))
       (.seq (.ifStar (.assign 3 (.view 4)) (.call 3 782 [4, 1, 2]))
         (.assign 5 (.same 3))))
     (.seq (.assign 7 (.view 0))
       (.seq (.ifStar (.assign 6 (.view 7)) (.call 6 782 [7, 1, 2]))
         (.assign 8 (.same 6)))))
   (.seq (.seq (.assign 9 .fresh)
       (.seq (.assign 13 (.view 0))
         (.assign 12 (.join [13]))))
     (.seq (.assign 14 (.view 12))
       (.seq (.assign 15 (.view 14))
         (.assign 10 (.same 15))))))
 (.seq (.seq (.seq (.assign 16 (.view 14))
       (.seq (.assign 11 (.same 16))
         (.whileStar ⟨[[0], [1], [], [0, 1], [0], [0, 1], [0, 1], [0], [0, 1], [0, 1], [0], [0], [0], [0], [0], [0], [0], [0], [0], [0], [0], [0], [0, 1]], [], []⟩ (.seq (.seq (.seq (.assign 18 (.view 0))
                 (.assign 17 (.join [18])))
               (.seq (.assign 19 (.view 17))
                 (.assign 20 (.view 19))))
             (.seq (.seq (.assign 10 (.same 20))
                 (.assign 21 (.view 19)))
               (.seq (.assign 11 (.same 21))
                 (.seq (.ifStar (.assign 22 (.view 11)) (.call 22 782 [11, 1, 2]))
                 (.assign 9 (.join [9, 10, 22])))))))))
     (.seq (.assign 23 (.same 9))
       (.seq (.assign 24 (.view 0))
         (.assign 25 (.view 0)))))
   (.seq (.seq (.assign 26 (.join [23, 25]))
       (.seq (.assign 28 .fresh)
         (.assign 30 (.join [5, 8, 26]))))
     (.seq (.call 29 812 [28, 26, 26, 26, 26, 26, 26, 26, 26, 26, 26, 26, 26, 26, 26, 26, 26, 26, 26, 26, 26, 26, 26, 26, 26, 24, 2, 2, 26, 26, 26, 26, 26, 26, 26, 26, 26, 26, 26, 26, 26, 26, 26, 26, 26, 26, 26, 26, 26, 26, 26, 26, 26, 26, 30])
       (.seq (.assign 27 (.join [2, 5, 8, 24, 26, 29]))
         (.ret 27))))))⟩

/-- operators/kronecker_product_added_diag_linear_operator.py:_constant_kpadlt_constructor (line 20); formals ['lt', 'dlt'] -/
def f434_operators_kronecker_product_added_diag_linear_operator___constant_kpadlt_constructor : Fn := ⟨2,
 (.seq (.seq (.seq (.seq (.assign 3 (.join []))
       (.seq (.assign 4 (.join []))
         (.assign 5 (.same 3))))
     (.seq (.assign 6 (.same 4))
       (.seq (.assign 7 (.same 5))
         (.assign 8 (.same 6)))))
   (.seq (.seq (.assign 9 (.view 0))
       (.seq (.assign 10 (.view 1))
         (.whileStar ⟨[[0], [1], [], [], [], [], [], [0], [0], [0], [1], [0], [0], [1], [1], [0], [0], [0], [0], [0], [1], [0], [0]], [], []⟩ (.seq (.seq (.seq (.assign 11 (.view 9))
                 (.seq (.assign 12 (.same 11))
                 (.assign 13 (.view 10))))
               (.seq (.seq (.assign 14 (.same 13))
                 (.ifStar (.assign 15 .fresh) (.call 15 768 [12, 2, 2])))
                 (.seq (.assign 16 (.view 15))
                 (.assign 17 (.same 16)))))
             (.seq (.seq (.seq (.assign 18 (.view 15))
                 (.assign 19 (.same 18)))
                 (.seq (.assign 20 (.view 14))
                 (.ifStar (.assign 21 .fresh) (.call 21 863 [17, 20, 2]))))
               (.seq (.seq (.assign 23 .fresh)
                 (.call 22 312 [23, 21]))
                 (.seq (.assign 7 (.join [7, 22]))
                 (.assign 8 (.join [8, 19])))))))))
     (.seq (.seq (.assign 24 (.join [7]))
         (.assign 26 .fresh))
       (.seq (.assign 27 (.join [24]))
         (.call 25 476 [26, 27])))))
 (.seq (.seq (.seq (.assign 28 (.same 25))
       (.seq (.call 29 818 [28, 2])
         (.assign 30 .fresh)))
     (.seq (.seq (.assign 32 .fresh)
         (.call 31 312 [32, 30]))
       (.seq (.assign 33 (.same 31))
         (.assign 34 (.join [8])))))
   (.seq (.seq (.assign 36 .fresh)
       (.seq (.assign 37 (.join [34]))
         (.assign 38 (.join [34]))))
     (.seq (.seq (.call 35 449 [36, 37, 38])
         (.assign 39 (.same 35)))
       (.seq (.assign 40 (.join [33, 39]))
         (.ret 40))))))⟩

/-- operators/kronecker_product_added_diag_linear_operator.py:_symmetrize_kpadlt_constructor (line 35); formals ['lt', 'dlt'] -/
def f435_operators_kronecker_product_added_diag_linear_operator___symmetrize_kpadlt_constructor : Fn := ⟨2,
 (.seq (.seq (.seq (.seq (.call 5 783 [1, 2])
       (.seq (.assign 4 .fresh)
         (.ifStar (.assign 3 .fresh) (.call 3 827 [4, 2]))))
     (.seq (.assign 6 (.same 3))
       (.seq (.assign 7 .fresh)
         (.assign 10 (.view 0)))))
   (.seq (.seq (.assign 11 (.view 6))
       (.seq (.assign 12 (.view 10))
         (.assign 8 (.same 12))))
     (.seq (.seq (.assign 13 (.view 11))
         (.assign 9 (.same 13)))
       (.seq (.whileStar ⟨[[0], [1], [], [], [], [1], [], [0], [0], [], [0], [], [0], [], [0], [], [0], [], [0], [0]], [], []⟩ (.seq (.seq (.seq (.assign 14 (.view 0))
                 (.assign 15 (.view 6)))
               (.seq (.assign 16 (.view 14))
                 (.assign 8 (.same 16))))
             (.seq (.seq (.assign 17 (.view 15))
                 (.assign 9 (.same 17)))
               (.seq (.ifStar (.assign 19 .fresh) (.call 19 805 [9, 8, 2]))
                 (.seq (.ifStar (.assign 18 .fresh) (.call 18 805 [19, 9, 2]))
                 (.assign 7 (.join [7, 18])))))))
         (.assign 20 (.join [7]))))))
 (.seq (.seq (.seq (.assign 22 .fresh)
       (.seq (.assign 23 (.join [20]))
         (.assign 24 (.join [20]))))
     (.seq (.seq (.call 21 449 [22, 23, 24])
         (.assign 25 (.same 21)))
       (.seq (.call 26 768 [25, 2, 2])
         (.assign 27 (.view 26)))))
   (.seq (.seq (.assign 28 (.same 27))
       (.seq (.assign 29 .fresh)
         (.assign 31 .fresh)))
     (.seq (.seq (.call 30 312 [31, 29])
         (.assign 32 (.same 30)))
       (.seq (.assign 33 (.join [6, 28, 32]))
         (.ret 33))))))⟩

/-- operators/kronecker_product_added_diag_linear_operator.py:KroneckerProductAddedDiagLinearOperator.__init__ (line 50); formals ['self', 'preconditioner_override', 'linear_ops'] -/
def f436_operators_kronecker_product_added_diag_linear_operator__KroneckerProductAddedDiagLinearOperator___init__ : Fn := ⟨3,
 (.seq (.seq (.assign 3 (.join [2]))
   (.seq (.assign 5 (.join [3]))
     (.call 4 812 [0, 3, 3, 1, 3, 3, 3, 3, 3, 3, 3, 3, 3, 3, 3, 3, 3, 3, 3, 3, 3, 3, 3, 3, 3, 3, 3, 3, 3, 3, 3, 3, 3, 3, 3, 3, 3, 3, 3, 3, 3, 3, 3, 3, 3, 3, 3, 3, 3, 3, 3, 3, 3, 3, 5])))
 (.seq (.seq (.ifStar .skip (.ifStar (.seq (.seq (.assign 6 (.view 2))
             (.assign 0 (.join [0, 6])))
           (.seq (.assign 7 (.view 2))
             (.assign 0 (.join [0, 7])))) (.ifStar (.seq (.seq (.assign 8 (.view 2))
               (.assign 0 (.join [0, 8])))
             (.seq (.assign 9 (.view 2))
               (.assign 0 (.join [0, 9])))) .skip)))
     (.assign 10 .fresh))
   (.seq (.assign 0 (.join [0, 10]))
     (.ret 0))))⟩

/-- operators/kronecker_product_added_diag_linear_operator.py:KroneckerProductAddedDiagLinearOperator.inv_quad_logdet (line 66); formals ['self', 'inv_quad_rhs', 'logdet', 'reduce_inv_quad'] -/
def f437_operators_kronecker_product_added_diag_linear_operator__KroneckerProductAddedDiagLinearOperator_inv_quad_logdet : Fn := ⟨4,
 (.seq (.seq (.ifStar (.seq (.call 5 770 [0, 1, 4, 3, 4])
       (.seq (.assign 6 (.view 5))
         (.assign 7 (.same 6)))) (.assign 7 (.same 4)))
   (.ifStar (.seq (.call 8 888 [0, 4])
       (.assign 9 (.same 8))) (.assign 9 (.same 4))))
 (.seq (.assign 10 (.same 9))
   (.seq (.assign 11 (.join [7, 10]))
     (.ret 11))))⟩

/-- operators/kronecker_product_added_diag_linear_operator.py:KroneckerProductAddedDiagLinearOperator._logdet (line 84); formals ['self'] -/
def f438_operators_kronecker_product_added_diag_linear_operator__KroneckerProductAddedDiagLinearOperator__logdet : Fn := ⟨1,
 (.seq (.seq (.ifStar (.seq (.seq (.seq (.assign 3 (.view 0))
           (.call 2 823 [3, 1, 1, 1]))
         (.seq (.assign 4 (.view 2))
           (.assign 5 (.same 4))))
       (.seq (.seq (.assign 7 (.view 0))
           (.ifStar (.assign 6 .fresh) (.call 6 818 [7, 1])))
         (.seq (.ifStar .skip (.ifStar (.call 8 826 [6, 5, 1, 1]) (.call 8 825 [5, 6, 1])))
           (.seq (.assign 9 .fresh)
             (.ret 9))))) .skip)
   (.ifStar (.seq (.assign 10 .fresh)
       (.seq (.whileStar ⟨[[0], [], [0], [0], [0], [0], [0], [0], [0]], [], []⟩ (.seq (.assign 11 .fresh)
             (.assign 10 (.join [10, 11]))))
         (.ifStar (.seq (.seq (.seq (.seq (.assign 15 (.view 0))
                 (.seq (.ifStar .skip (.call 14 818 [15, 1]))
                 (.assign 13 .fresh)))
                 (.seq (.call 16 868 [13, 1])
                 (.seq (.assign 12 .fresh)
                 (.assign 17 (.same 12)))))
               (.seq (.seq (.assign 19 (.view 0))
                 (.seq (.call 18 823 [19, 1, 1, 1])
                 (.assign 20 (.view 18))))
                 (.seq (.seq (.assign 5 (.same 20))
                 (.assign 21 .fresh))
                 (.seq (.assign 24 (.view 5))
                 (.assign 25 (.view 0))))))
             (.seq (.seq (.seq (.assign 26 (.view 25))
                 (.seq (.assign 27 (.view 24))
                 (.assign 22 (.same 27))))
                 (.seq (.assign 28 (.view 26))
                 (.seq (.assign 23 (.same 28))
                 (.whileStar ⟨[[0], [], [0], [0], [0], [0], [0], [0], [0], [], [], [], [], [], [0], [0], [], [], [0], [0], [0], [0], [0], [0], [0], [0], [0], [0], [0], [0], [0], [0], [0], [0], [0], [0], [0], [0]], [], []⟩ (.seq (.seq (.seq (.assign 29 (.view 5))
                 (.seq (.assign 30 (.view 0))
                 (.assign 31 (.view 30))))
                 (.seq (.assign 32 (.view 29))
                 (.seq (.assign 22 (.same 32))
                 (.assign 33 (.view 31)))))
                 (.seq (.seq (.assign 23 (.same 33))
                 (.seq (.ifStar (.assign 34 .fresh) (.call 34 818 [22, 1]))
                 (.assign 35 (.view 23))))
                 (.seq (.seq (.ifStar (.assign 36 .fresh) (.call 36 863 [34, 35, 1]))
                 (.assign 38 .fresh))
                 (.seq (.call 37 312 [38, 36])
                 (.assign 21 (.join [21, 37]))))))))))
               (.seq (.seq (.assign 39 (.join [21]))
                 (.seq (.assign 41 .fresh)
                 (.assign 42 (.join [39]))))
                 (.seq (.seq (.call 40 476 [41, 42])
                 (.assign 43 (.same 40)))
                 (.seq (.call 44 818 [43, 1])
                 (.ret 1)))))) (.seq (.seq (.seq (.assign 45 (.view 0))
                 (.assign 46 (.same 45)))
               (.seq (.assign 47 (.view 0))
                 (.seq (.assign 48 (.same 47))
                 (.ifStar .skip (.seq (.call 49 435 [46, 48])
                 (.seq (.assign 50 (.view 49))
                 (.assign 51 (.same 50))))))))
             (.seq (.seq (.assign 53 (.view 0))
                 (.seq (.ifStar (.assign 52 .fresh) (.call 52 889 [53, 1]))
                 (.assign 17 (.same 52))))
               (.seq (.ifStar (.assign 54 .fresh) (.call 54 889 [51, 1]))
                 (.seq (.ifStar (.assign 55 .fresh) (.ifStar (.call 55 826 [54, 17, 1, 1]) (.call 55 825 [17, 54, 1])))
                 (.ret 55)))))))) .skip))
 (.seq (.call 56 770 [0, 1, 1, 1, 1])
   (.seq (.ifStar (.call 57 789 [56, 1, 1]) (.assign 57 (.view 56)))
     (.ret 57))))⟩

/-- operators/kronecker_product_added_diag_linear_operator.py:KroneckerProductAddedDiagLinearOperator._preconditioner (line 132); formals ['self'] -/
def f439_operators_kronecker_product_added_diag_linear_operator__KroneckerProductAddedDiagLinearOperator__preconditioner : Fn := ⟨1,
 (.seq (.assign 2 (.join [1]))
 (.ret 2))⟩

/-- operators/kronecker_product_added_diag_linear_operator.py:KroneckerProductAddedDiagLinearOperator._solve (line 136); formals ['self', 'rhs', 'preconditioner', 'num_tridiag'] -/
def f440_operators_kronecker_product_added_diag_linear_operator__KroneckerProductAddedDiagLinearOperator__solve : Fn := ⟨4,
 (.seq (.seq (.seq (.assign 5 (.same 4))
     (.assign 6 .fresh))
   (.seq (.assign 7 (.same 6))
     (.ifStar (.seq (.seq (.seq (.seq (.seq (.assign 10 (.view 0))
                 (.assign 11 (.join [7])))
               (.seq (.call 9 824 [10, 11])
                 (.ifStar (.assign 8 .fresh) (.call 8 768 [9, 4, 4]))))
             (.seq (.seq (.assign 12 (.view 8))
                 (.assign 13 (.same 12)))
               (.seq (.assign 14 (.view 8))
                 (.assign 15 (.same 14)))))
           (.seq (.seq (.seq (.assign 18 (.view 0))
                 (.ifStar (.assign 17 .fresh) (.call 17 818 [18, 4])))
               (.seq (.assign 19 (.join [7]))
                 (.ifStar (.assign 16 (.maybeView 17)) (.call 16 824 [17, 19]))))
             (.seq (.seq (.ifStar .skip (.ifStar (.call 20 826 [16, 13, 4, 4]) (.call 20 825 [13, 16, 4])))
                 (.assign 21 .fresh))
               (.seq (.assign 22 (.same 21))
                 (.assign 23 (.join [22]))))))
         (.seq (.seq (.seq (.seq (.assign 25 .fresh)
                 (.call 24 312 [25, 23]))
               (.seq (.assign 26 (.same 24))
                 (.assign 27 (.maybeView 1))))
             (.seq (.seq (.assign 29 (.view 15))
                 (.ifStar (.call 29 777 [15, 4]) .skip))
               (.seq (.assign 30 (.same 29))
                 (.ifStar (.assign 28 .fresh) (.call 28 805 [30, 27, 4])))))
           (.seq (.seq (.seq (.assign 31 (.same 28))
                 (.call 32 805 [26, 31, 4]))
               (.seq (.assign 33 (.same 32))
                 (.ifStar (.assign 34 .fresh) (.call 34 805 [15, 26, 4]))))
             (.seq (.seq (.assign 35 (.same 34))
                 (.ifStar (.assign 37 .fresh) (.call 37 805 [35, 33, 4])))
               (.seq (.call 38 834 [37, 5, 4])
                 (.seq (.assign 36 .fresh)
                 (.ret 36))))))) .skip)))
 (.seq (.seq (.assign 39 .fresh)
     (.whileStar ⟨[[0], [1], [2], [3], [], [], [], [], [0], [0], [0], [], [0], [0], [0], [0], [0], [0], [0], [], [0], [], [], [], [], [], [], [1], [0, 1], [0], [0], [0, 1], [0, 1], [0, 1], [0], [0], [], [0, 1], [0, 1]], [], []⟩ (.assign 39 (.join [4, 39]))))
   (.seq (.ifStar (.seq (.seq (.seq (.seq (.seq (.assign 40 (.maybeView 1))
                 (.assign 1 (.same 40)))
               (.seq (.assign 42 (.view 0))
                 (.assign 43 (.join [7]))))
             (.seq (.seq (.call 41 824 [42, 43])
                 (.assign 44 (.same 41)))
               (.seq (.assign 46 (.view 0))
                 (.assign 47 (.join [7])))))
           (.seq (.seq (.seq (.ifStar (.assign 45 (.maybeView 46)) (.call 45 824 [46, 47]))
                 (.assign 48 (.same 45)))
               (.seq (.assign 49 .fresh)
                 (.whileStar ⟨[[0], [1], [2], [3], [], [], [], [], [0], [0], [0], [], [0], [0], [0], [0], [0], [0], [0], [], [0], [], [], [], [], [], [], [1], [0, 1], [0], [0], [0, 1], [0, 1], [0, 1], [0], [0], [], [0, 1], [0, 1], [], [1], [0], [0], [], [0], [0], [0], [], [0]], [], []⟩ (.seq (.assign 50 .fresh)
                 (.assign 49 (.join [49, 50]))))))
             (.seq (.seq (.ifStar (.seq (.seq (.seq (.call 51 434 [44, 48])
                 (.seq (.assign 52 (.view 51))
                 (.assign 53 (.same 52))))
                 (.seq (.seq (.assign 54 (.view 51))
                 (.assign 55 (.same 54)))
                 (.seq (.ifStar (.assign 57 .fresh) (.call 57 829 [55, 4]))
                 (.ifStar (.assign 56 .fresh) (.call 56 805 [57, 1, 4])))))
                 (.seq (.seq (.seq (.ifStar (.assign 58 .fresh) (.call 58 774 [53, 56, 4, 4]))
                 (.assign 59 (.same 58)))
                 (.seq (.ifStar (.assign 60 .fresh) (.call 60 805 [55, 59, 4]))
                 (.ifStar (.assign 61 .fresh) (.call 61 774 [48, 60, 4, 4]))))
                 (.seq (.seq (.assign 31 (.same 61))
                 (.assign 63 (.join [5])))
                 (.seq (.ifStar (.assign 62 (.maybeView 31)) (.call 62 824 [31, 63]))
                 (.ret 62))))) .skip)
                 (.call 64 435 [44, 48]))
               (.seq (.assign 65 (.view 64))
                 (.assign 66 (.same 65))))))
         (.seq (.seq (.seq (.seq (.assign 67 (.view 64))
                 (.assign 53 (.same 67)))
               (.seq (.assign 68 (.view 64))
                 (.assign 55 (.same 68))))
             (.seq (.seq (.ifStar (.assign 69 .fresh) (.call 69 805 [66, 1, 4]))
                 (.ifStar (.assign 71 .fresh) (.call 71 829 [55, 4])))
               (.seq (.ifStar (.assign 70 .fresh) (.call 70 805 [71, 69, 4]))
                 (.assign 59 (.same 70)))))
           (.seq (.seq (.seq (.ifStar (.assign 72 .fresh) (.call 72 774 [53, 59, 4, 4]))
                 (.assign 33 (.same 72)))
               (.seq (.ifStar (.assign 73 .fresh) (.call 73 805 [55, 33, 4]))
                 (.assign 74 (.same 73))))
             (.seq (.seq (.ifStar (.assign 75 .fresh) (.call 75 805 [66, 74, 4]))
                 (.assign 31 (.same 75)))
               (.seq (.assign 77 (.join [5]))
                 (.seq (.ifStar (.assign 76 (.maybeView 31)) (.call 76 824 [31, 77]))
                 (.ret 76))))))) .skip)
     (.seq (.call 78 795 [0, 1, 2, 3, 4])
       (.ret 78)))))⟩

/-- operators/kronecker_product_added_diag_linear_operator.py:KroneckerProductAddedDiagLinearOperator._root_decomposition (line 228); formals ['self'] -/
def f441_operators_kronecker_product_added_diag_linear_operator__KroneckerProductAddedDiagLinearOperator__root_decomposition : Fn := ⟨1,
 (.seq (.seq (.seq (.ifStar (.seq (.seq (.seq (.seq (.assign 3 (.view 0))
               (.call 2 768 [3, 1, 1]))
             (.seq (.assign 4 (.view 2))
               (.assign 5 (.same 4))))
           (.seq (.seq (.assign 6 (.view 2))
               (.assign 7 (.same 6)))
             (.seq (.assign 10 (.view 0))
               (.ifStar (.assign 9 .fresh) (.call 9 818 [10, 1])))))
         (.seq (.seq (.seq (.ifStar .skip (.ifStar (.call 11 826 [9, 5, 1, 1]) (.call 11 825 [5, 9, 1])))
               (.assign 8 .fresh))
             (.seq (.assign 13 .fresh)
               (.call 12 312 [13, 8])))
           (.seq (.seq (.assign 14 (.same 12))
               (.assign 16 .fresh))
             (.seq (.call 15 521 [16, 7, 14])
               (.ret 15))))) .skip)
     (.assign 17 (.view 0)))
   (.seq (.assign 18 (.same 17))
     (.assign 19 (.view 0))))
 (.seq (.seq (.assign 20 (.same 19))
     (.ifStar (.seq (.seq (.seq (.seq (.assign 21 .fresh)
               (.whileStar ⟨[[0], [], [0], [0], [0], [0], [0], [0], [], [0], [0], [0], [], [], [], [0], [], [0], [0], [0], [0]], [], [0]⟩ (.seq (.assign 22 .fresh)
                 (.assign 21 (.join [21, 22])))))
             (.seq (.ifStar (.seq (.seq (.seq (.seq (.call 23 434 [20, 18])
                 (.seq (.assign 24 (.view 23))
                 (.assign 25 (.same 24))))
                 (.seq (.assign 26 (.view 23))
                 (.seq (.assign 27 (.same 26))
                 (.ifStar (.assign 29 .fresh) (.call 29 818 [25, 1])))))
                 (.seq (.seq (.call 30 783 [29, 1])
                 (.seq (.assign 28 .fresh)
                 (.assign 32 .fresh)))
                 (.seq (.call 31 312 [32, 28])
                 (.seq (.assign 33 (.same 31))
                 (.assign 34 (.join []))))))
                 (.seq (.seq (.seq (.assign 35 (.same 34))
                 (.seq (.assign 36 (.view 27))
                 (.assign 37 (.view 18))))
                 (.seq (.whileStar ⟨[[0], [], [0], [0], [0], [0], [0], [0], [], [0], [0], [0], [], [], [], [0], [], [0], [0], [0], [0], [], [], [0], [0], [0], [0], [0], [], [0], [0], [], [], [], [], [0], [0], [0], [0], [0], [0], [0], [], [], [0], [0], [0]], [], [0]⟩ (.seq (.seq (.seq (.assign 38 (.view 36))
                 (.assign 39 (.same 38)))
                 (.seq (.assign 40 (.view 37))
                 (.seq (.assign 41 (.same 40))
                 (.assign 44 (.view 41)))))
                 (.seq (.seq (.call 45 783 [44, 1])
                 (.assign 43 .fresh))
                 (.seq (.ifStar (.assign 42 (.view 43)) (.call 42 782 [43, 1, 1]))
                 (.seq (.ifStar (.assign 46 .fresh) (.ifStar (.call 46 804 [42, 39, 1]) (.call 46 803 [39, 42, 1])))
                 (.assign 35 (.join [35, 46])))))))
                 (.seq (.assign 47 (.join [35]))
                 (.assign 49 .fresh))))
                 (.seq (.seq (.assign 50 (.join [47]))
                 (.seq (.assign 51 (.join [47]))
                 (.call 48 449 [49, 50, 51])))
                 (.seq (.seq (.assign 52 (.same 48))
                 (.assign 54 .fresh))
                 (.seq (.call 53 521 [54, 52, 33])
                 (.ret 53)))))) .skip)
               (.seq (.call 56 783 [18, 1])
                 (.assign 55 .fresh))))
           (.seq (.seq (.assign 57 (.same 55))
               (.seq (.call 58 435 [20, 18])
                 (.assign 59 (.view 58))))
             (.seq (.assign 25 (.same 59))
               (.seq (.assign 60 (.view 58))
                 (.assign 27 (.same 60))))))
         (.seq (.seq (.seq (.ifStar (.assign 62 .fresh) (.call 62 818 [25, 1]))
               (.call 63 783 [62, 1]))
             (.seq (.assign 61 .fresh)
               (.seq (.assign 65 .fresh)
                 (.call 64 312 [65, 61]))))
           (.seq (.seq (.assign 33 (.same 64))
               (.seq (.assign 67 .fresh)
                 (.call 66 521 [67, 27, 33])))
             (.seq (.assign 69 .fresh)
               (.seq (.call 68 521 [69, 57, 66])
                 (.ret 68)))))) .skip))
   (.seq (.call 70 846 [0, 1])
     (.ret 70))))⟩

/-- operators/kronecker_product_added_diag_linear_operator.py:KroneckerProductAddedDiagLinearOperator._root_inv_decomposition (line 261); formals ['self', 'initial_vectors', 'test_vectors'] -/
def f442_operators_kronecker_product_added_diag_linear_operator__KroneckerProductAddedDiagLinearOperator__root_inv_decomposi : Fn := ⟨3,
 (.seq (.seq (.seq (.ifStar (.seq (.seq (.seq (.seq (.assign 5 (.view 0))
               (.call 4 768 [5, 3, 3]))
             (.seq (.assign 6 (.view 4))
               (.assign 7 (.same 6))))
           (.seq (.seq (.assign 8 (.view 4))
               (.assign 9 (.same 8)))
             (.seq (.assign 12 (.view 0))
               (.ifStar (.assign 11 .fresh) (.call 11 818 [12, 3])))))
         (.seq (.seq (.seq (.ifStar .skip (.ifStar (.call 13 826 [11, 7, 3, 3]) (.call 13 825 [7, 11, 3])))
               (.assign 10 .fresh))
             (.seq (.assign 15 .fresh)
               (.call 14 312 [15, 10])))
           (.seq (.seq (.assign 16 (.same 14))
               (.assign 18 .fresh))
             (.seq (.call 17 521 [18, 9, 16])
               (.ret 17))))) .skip)
     (.assign 19 (.view 0)))
   (.seq (.assign 20 (.same 19))
     (.assign 21 (.view 0))))
 (.seq (.seq (.assign 22 (.same 21))
     (.ifStar (.seq (.seq (.seq (.seq (.assign 23 .fresh)
               (.whileStar ⟨[[0], [1], [2], [], [0], [0], [0], [0], [0], [0], [], [0], [0], [0], [], [], [], [0], [], [0], [0], [0], [0]], [], [0]⟩ (.seq (.assign 24 .fresh)
                 (.assign 23 (.join [23, 24])))))
             (.seq (.ifStar (.seq (.seq (.seq (.seq (.call 25 434 [22, 20])
                 (.seq (.assign 26 (.view 25))
                 (.assign 27 (.same 26))))
                 (.seq (.assign 28 (.view 25))
                 (.seq (.assign 29 (.same 28))
                 (.ifStar .skip (.call 32 818 [27, 3])))))
                 (.seq (.seq (.assign 31 .fresh)
                 (.seq (.call 33 783 [31, 3])
                 (.assign 30 .fresh)))
                 (.seq (.assign 35 .fresh)
                 (.seq (.call 34 312 [35, 30])
                 (.assign 36 (.same 34))))))
                 (.seq (.seq (.seq (.assign 37 (.join []))
                 (.seq (.assign 38 (.same 37))
                 (.assign 39 (.view 29))))
                 (.seq (.whileStar ⟨[[0], [1], [2], [], [0], [0], [0], [0], [0], [0], [], [0], [0], [0], [], [], [], [0], [], [0], [0], [0], [0], [], [], [0], [0], [0], [0], [0], [], [], [0], [], [], [], [], [], [0], [0], [0], [0], [], [], [0]], [], [0]⟩ (.seq (.seq (.assign 40 (.view 39))
                 (.seq (.assign 41 (.same 40))
                 (.assign 43 .fresh)))
                 (.seq (.ifStar (.assign 42 (.view 43)) (.call 42 782 [43, 3, 3]))
                 (.seq (.ifStar (.assign 44 .fresh) (.ifStar (.call 44 804 [42, 41, 3]) (.call 44 803 [41, 42, 3])))
                 (.assign 38 (.join [38, 44]))))))
                 (.seq (.assign 45 (.join [38]))
                 (.assign 47 .fresh))))
                 (.seq (.seq (.assign 48 (.join [45]))
                 (.seq (.assign 49 (.join [45]))
                 (.call 46 449 [47, 48, 49])))
                 (.seq (.seq (.assign 50 (.same 46))
                 (.assign 52 .fresh))
                 (.seq (.call 51 521 [52, 50, 36])
                 (.ret 51)))))) .skip)
               (.seq (.call 53 435 [22, 20])
                 (.assign 54 (.view 53)))))
           (.seq (.seq (.assign 55 (.same 54))
               (.seq (.assign 56 (.view 53))
                 (.assign 27 (.same 56))))
             (.seq (.assign 57 (.view 53))
               (.seq (.assign 29 (.same 57))
                 (.ifStar .skip (.call 60 818 [27, 3]))))))
         (.seq (.seq (.seq (.assign 59 .fresh)
               (.call 61 783 [59, 3]))
             (.seq (.assign 58 .fresh)
               (.seq (.assign 63 .fresh)
                 (.call 62 312 [63, 58]))))
           (.seq (.seq (.assign 64 (.same 62))
               (.seq (.assign 66 .fresh)
                 (.call 65 521 [66, 29, 64])))
             (.seq (.assign 68 .fresh)
               (.seq (.call 67 521 [68, 55, 65])
                 (.ret 67)))))) .skip))
   (.seq (.call 69 847 [0, 1, 3, 3])
     (.ret 69))))⟩

/-- operators/kronecker_product_added_diag_linear_operator.py:KroneckerProductAddedDiagLinearOperator._symeig (line 295); formals ['self', 'eigenvectors', 'return_evals_as_lazy'] -/
def f443_operators_kronecker_product_added_diag_linear_operator__KroneckerProductAddedDiagLinearOperator__symeig : Fn := ⟨3,
 (.seq (.ifStar (.seq (.seq (.seq (.assign 5 (.view 0))
         (.seq (.call 4 823 [5, 1, 3, 3])
           (.assign 6 (.view 4))))
       (.seq (.assign 7 (.same 6))
         (.seq (.assign 8 (.view 4))
           (.assign 9 (.same 8)))))
     (.seq (.seq (.assign 10 (.view 0))
         (.seq (.assign 11 (.view 10))
           (.ifStar (.assign 12 .fresh) (.ifStar (.call 12 826 [11, 7, 3, 3]) (.call 12 825 [7, 11, 3])))))
       (.seq (.assign 7 (.same 12))
         (.seq (.assign 13 (.join [7, 9]))
           (.ret 13))))) .skip)
 (.seq (.call 14 823 [0, 1, 3, 3])
   (.ret 14)))⟩

/-- operators/kronecker_product_added_diag_linear_operator.py:KroneckerProductAddedDiagLinearOperator.__add__ (line 310); formals ['self', 'other'] -/
def f444_operators_kronecker_product_added_diag_linear_operator__KroneckerProductAddedDiagLinearOperator___add__ : Fn := ⟨2,
 (.seq (.ifStar (.seq (.seq (.assign 3 (.view 0))
       (.seq (.assign 4 (.view 0))
         (.ifStar (.assign 5 .fresh) (.ifStar (.call 5 826 [1, 4, 2, 2]) (.call 5 825 [4, 1, 2])))))
     (.seq (.seq (.assign 7 .fresh)
         (.assign 8 (.join [3, 5])))
       (.seq (.call 6 436 [7, 2, 8])
         (.ret 6)))) .skip)
 (.seq (.call 9 825 [0, 1, 2])
   (.ret 9)))⟩

/-- operators/kronecker_product_linear_operator.py:_kron_diag (line 20); formals ['lts'] -/
def f445_operators_kronecker_product_linear_operator___kron_diag : Fn := ⟨1,
 (.seq (.seq (.seq (.seq (.assign 3 (.view 0))
       (.ifStar (.assign 2 .fresh) (.call 2 818 [3, 1])))
     (.seq (.assign 4 (.same 2))
       (.seq (.ifStar (.ret 4) .skip)
         (.assign 5 (.view 0)))))
   (.seq (.seq (.assign 6 (.join [5]))
       (.assign 8 (.join [6])))
     (.seq (.call 7 445 [8])
       (.seq (.assign 9 (.same 7))
         (.ifStar (.assign 10 (.view 4)) (.call 10 782 [4, 1, 1]))))))
 (.seq (.seq (.seq (.ifStar (.assign 11 (.view 9)) (.call 11 782 [9, 1, 1]))
       (.ifStar (.assign 12 .fresh) (.ifStar (.call 12 804 [11, 10, 1]) (.call 12 803 [10, 11, 1]))))
     (.seq (.assign 13 (.same 12))
       (.seq (.assign 14 (.join [1]))
         (.assign 16 (.view 13)))))
   (.seq (.seq (.ifStar (.call 16 777 [13, 1]) .skip)
       (.assign 17 (.same 16)))
     (.seq (.assign 18 (.join [1, 14]))
       (.seq (.ifStar (.assign 15 (.maybeView 17)) (.call 15 856 [17, 18]))
         (.ret 15))))))⟩

/-- operators/kronecker_product_linear_operator.py:_prod (line 30); formals ['iterable'] -/
def f446_operators_kronecker_product_linear_operator___prod : Fn := ⟨1,
 (.seq (.assign 2 (.opq [0, 1]))
 (.ret 2))⟩

/-- operators/kronecker_product_linear_operator.py:_matmul (line 34); formals ['linear_ops', 'kp_shape', 'rhs'] -/
def f447_operators_kronecker_product_linear_operator___matmul : Fn := ⟨3,
 (.seq (.seq (.seq (.call 4 703 [1, 3, 3])
     (.seq (.assign 5 (.same 4))
       (.ifStar (.call 6 789 [5, 3, 3]) (.assign 6 (.view 5)))))
   (.seq (.seq (.assign 7 (.same 6))
       (.assign 8 (.join [3, 7])))
     (.seq (.assign 10 (.maybeView 2))
       (.assign 11 (.join [8])))))
 (.seq (.seq (.ifStar (.assign 9 (.view 10)) (.call 9 776 [10, 11]))
     (.seq (.assign 12 (.same 9))
       (.call 14 767 [2, 3, 3])))
   (.seq (.seq (.assign 13 .fresh)
       (.assign 15 (.same 13)))
     (.seq (.whileStar ⟨[[0], [1], [2], [], [1], [1], [1], [1], [1], [2], [2], [1], [2], [], [2], [], [0], [0], [0], [2], [2], [2], [2], [0], [2], [1], [2], [1]], [], []⟩ (.seq (.seq (.seq (.assign 16 (.view 0))
               (.seq (.assign 17 (.same 16))
                 (.call 18 767 [17, 3, 3])))
             (.seq (.seq (.assign 19 (.view 12))
                 (.assign 12 (.same 19)))
               (.seq (.ifStar (.assign 20 .fresh) (.call 20 815 [17, 12, 3]))
                 (.assign 21 (.same 20)))))
           (.seq (.seq (.seq (.call 23 767 [17, 3, 3])
                 (.assign 24 (.view 21)))
               (.seq (.ifStar (.assign 22 (.view 24)) (.call 22 839 [24, 3, 3, 3]))
                 (.assign 21 (.same 22))))
             (.seq (.seq (.assign 25 (.join [7]))
                 (.assign 27 (.join [3, 15, 25])))
               (.seq (.ifStar (.assign 26 (.maybeView 21)) (.call 26 856 [21, 27]))
                 (.assign 12 (.same 26)))))))
       (.ret 12)))))⟩

/-- operators/kronecker_product_linear_operator.py:_t_matmul (line 48); formals ['linear_ops', 'kp_shape', 'rhs'] -/
def f448_operators_kronecker_product_linear_operator___t_matmul : Fn := ⟨3,
 (.seq (.seq (.seq (.seq (.ifStar (.call 4 789 [1, 3, 3]) (.assign 4 (.view 1)))
       (.ifStar (.call 5 789 [1, 3, 3]) (.assign 5 (.view 1))))
     (.seq (.ifStar (.call 6 789 [1, 3, 3]) (.assign 6 (.view 1)))
       (.seq (.assign 7 (.join [4, 5, 6]))
         (.assign 8 (.same 7)))))
   (.seq (.seq (.call 9 703 [8, 3, 3])
       (.assign 10 (.same 9)))
     (.seq (.ifStar (.call 11 789 [10, 3, 3]) .skip)
       (.seq (.assign 12 .fresh)
         (.assign 13 (.same 12))))))
 (.seq (.seq (.seq (.assign 14 (.join [3, 13]))
       (.assign 16 (.maybeView 2)))
     (.seq (.assign 17 (.join [14]))
       (.seq (.ifStar (.assign 15 (.view 16)) (.call 15 776 [16, 17]))
         (.assign 18 (.same 15)))))
   (.seq (.seq (.call 20 767 [2, 3, 3])
       (.assign 19 .fresh))
     (.seq (.assign 21 (.same 19))
       (.seq (.whileStar ⟨[[0], [1], [2], [], [1], [1], [1], [1], [1], [1], [1], [1], [], [], [], [2], [2], [], [2], [], [2], [], [0], [0], [0], [2], [2], [2], [2], [0], [2], [], [2]], [], []⟩ (.seq (.seq (.seq (.assign 22 (.view 0))
                 (.seq (.assign 23 (.same 22))
                 (.call 24 767 [23, 3, 3])))
               (.seq (.seq (.assign 25 (.view 18))
                 (.assign 18 (.same 25)))
                 (.seq (.ifStar (.assign 26 .fresh) (.call 26 878 [23, 18, 3]))
                 (.assign 27 (.same 26)))))
             (.seq (.seq (.seq (.call 29 767 [23, 3, 3])
                 (.assign 30 (.view 27)))
                 (.seq (.ifStar (.assign 28 (.view 30)) (.call 28 839 [30, 3, 3, 3]))
                 (.assign 27 (.same 28))))
               (.seq (.seq (.assign 31 (.join [13]))
                 (.assign 33 (.join [3, 21, 31])))
                 (.seq (.ifStar (.assign 32 (.maybeView 27)) (.call 32 856 [27, 33]))
                 (.assign 18 (.same 32)))))))
         (.ret 18))))))⟩

/-- operators/kronecker_product_linear_operator.py:KroneckerProductLinearOperator.__init__ (line 71); formals ['self', 'linear_ops', 'kwargs'] -/
def f449_operators_kronecker_product_linear_operator__KroneckerProductLinearOperator___init__ : Fn := ⟨3,
 (.seq (.seq (.seq (.ifStar (.seq (.seq (.assign 4 .fresh)
           (.seq (.assign 6 (.view 1))
             (.assign 5 (.same 6))))
         (.seq (.whileStar ⟨[[0], [1], [2], [], [1], [1], [1], [1], [1]], [], []⟩ (.seq (.seq (.assign 7 (.view 1))
                 (.assign 5 (.same 7)))
               (.seq (.call 8 311 [5])
                 (.assign 4 (.join [4, 8])))))
           (.seq (.assign 9 (.join [4]))
             (.assign 1 (.same 9))))) (.seq (.seq (.ifStar (.assign 4 .fresh) .skip)
           (.seq (.ifStar (.assign 6 (.view 1)) .skip)
             (.ifStar (.assign 5 (.same 6)) .skip)))
         (.seq (.ifStar (.whileStar ⟨[[0], [1], [2], [], [1], [1], [1], [1], [1]], [], []⟩ (.seq (.seq (.assign 7 (.view 1))
                 (.assign 5 (.same 7)))
                 (.seq (.call 8 311 [5])
                 (.assign 4 (.join [4, 8]))))) .skip)
           (.seq (.ifStar (.assign 9 (.join [4])) .skip)
             (.ifStar (.assign 1 (.same 9)) .skip)))))
     (.ifStar (.seq (.seq (.assign 10 .fresh)
           (.whileStar ⟨[[0], [1], [2], [], [1], [1], [1], [1], [1], [1]], [], []⟩ (.assign 10 (.join [3, 10]))))
         (.seq (.assign 11 .fresh)
           (.assign 12 (.same 11)))) (.seq (.seq (.ifStar (.assign 10 .fresh) .skip)
           (.ifStar (.whileStar ⟨[[0], [1], [2], [], [1], [1], [1], [1], [1], [1]], [], []⟩ (.assign 10 (.join [3, 10]))) .skip))
         (.seq (.ifStar (.assign 11 .fresh) .skip)
           (.seq (.ifStar (.assign 12 (.same 11)) .skip)
             (.ifStar (.seq (.assign 13 .fresh)
                 (.whileStar ⟨[[0], [1], [2], [], [1], [1], [1], [1], [1], [1]], [], []⟩ (.seq (.assign 14 .fresh)
                 (.assign 13 (.join [13, 14]))))) .skip))))))
   (.seq (.ifStar (.seq (.seq (.assign 15 .fresh)
           (.seq (.assign 17 (.view 1))
             (.assign 16 (.same 17))))
         (.seq (.whileStar ⟨[[0], [1], [2], [], [1], [1], [1], [1], [1], [1], [], [], [], [], [], [1], [1], [1], [1], [1], [1]], [], []⟩ (.seq (.seq (.assign 18 (.view 1))
                 (.assign 16 (.same 18)))
               (.seq (.ifStar (.assign 20 .fresh) (.call 20 817 [16, 12, 3]))
                 (.seq (.ifStar (.assign 19 (.same 20)) (.call 19 788 [20, 3, 3]))
                 (.assign 15 (.join [15, 19]))))))
           (.seq (.assign 21 (.join [15]))
             (.assign 1 (.same 21))))) .skip)
     (.assign 22 (.join [1, 2]))))
 (.seq (.seq (.assign 24 (.join [22]))
     (.call 23 812 [0, 22, 22, 22, 22, 22, 22, 22, 22, 22, 22, 22, 22, 22, 22, 22, 22, 22, 22, 22, 22, 22, 22, 22, 22, 22, 22, 22, 22, 22, 22, 22, 22, 22, 22, 22, 22, 22, 22, 22, 22, 22, 22, 22, 22, 22, 22, 22, 22, 22, 22, 22, 22, 22, 24]))
   (.seq (.assign 0 (.join [0, 1]))
     (.ret 0))))⟩

/-- operators/kronecker_product_linear_operator.py:KroneckerProductLinearOperator.__add__ (line 98); formals ['self', 'other'] -/
def f450_operators_kronecker_product_linear_operator__KroneckerProductLinearOperator___add__ : Fn := ⟨2,
 (.seq (.seq (.ifStar (.seq (.seq (.assign 4 .fresh)
         (.assign 5 (.join [0, 1])))
       (.seq (.call 3 436 [4, 2, 5])
         (.ret 3))) .skip)
   (.ifStar (.seq (.seq (.assign 7 .fresh)
         (.assign 8 (.join [0, 1])))
       (.seq (.assign 9 (.join [0, 1]))
         (.seq (.call 6 595 [7, 8, 9])
           (.ret 6)))) .skip))
 (.seq (.ifStar (.seq (.ifStar (.assign 10 .fresh) (.call 10 818 [1, 2]))
       (.seq (.call 11 765 [0, 10, 2])
         (.ret 11))) .skip)
   (.seq (.call 12 825 [0, 1, 2])
     (.ret 12))))⟩

/-- operators/kronecker_product_linear_operator.py:KroneckerProductLinearOperator.add_diagonal (line 116); formals ['self', 'diag'] -/
def f451_operators_kronecker_product_linear_operator__KroneckerProductLinearOperator_add_diagonal : Fn := ⟨2,
 (.seq (.seq (.ifStar (.seq (.seq (.assign 3 (.view 1))
         (.assign 5 .fresh))
       (.seq (.call 4 345 [5, 3, 2])
         (.assign 6 (.same 4)))) (.ifStar (.seq (.assign 8 .fresh)
         (.seq (.call 7 345 [8, 1, 2])
           (.assign 6 (.same 7)))) (.seq (.seq (.ifStar (.seq (.assign 9 (.view 1))
               (.assign 10 (.same 9))) (.seq (.ifStar (.assign 9 (.view 1)) .skip)
               (.ifStar (.assign 10 (.same 9)) .skip)))
           (.assign 12 .fresh))
         (.seq (.call 11 312 [12, 10])
           (.assign 6 (.same 11))))))
   (.assign 14 .fresh))
 (.seq (.assign 15 (.join [0, 6]))
   (.seq (.call 13 436 [14, 2, 15])
     (.ret 13))))⟩

/-- operators/kronecker_product_linear_operator.py:KroneckerProductLinearOperator.diagonalization (line 147); formals ['self', 'method'] -/
def f452_operators_kronecker_product_linear_operator__KroneckerProductLinearOperator_diagonalization : Fn := ⟨2,
 (.seq (.ifStar (.assign 1 (.same 2)) .skip)
 (.seq (.call 3 768 [0, 1, 2])
   (.ret 3)))⟩

/-- operators/kronecker_product_linear_operator.py:KroneckerProductLinearOperator.inverse (line 155); formals ['self'] -/
def f453_operators_kronecker_product_linear_operator__KroneckerProductLinearOperator_inverse : Fn := ⟨1,
 (.seq (.seq (.seq (.assign 2 .fresh)
     (.seq (.assign 4 (.view 0))
       (.assign 5 (.view 4))))
   (.seq (.assign 3 (.same 5))
     (.seq (.whileStar ⟨[[0], [], [0], [0], [0], [0], [0], [0], [0]], [], []⟩ (.seq (.seq (.assign 6 (.view 0))
             (.assign 7 (.view 6)))
           (.seq (.assign 3 (.same 7))
             (.seq (.ifStar (.assign 8 .fresh) (.call 8 827 [3, 1]))
               (.assign 2 (.join [2, 8]))))))
       (.assign 9 (.same 2)))))
 (.seq (.seq (.assign 10 (.join [9]))
     (.seq (.assign 12 .fresh)
       (.assign 14 (.join [10]))))
   (.seq (.seq (.call 13 812 [12, 10, 10, 10, 10, 10, 10, 10, 10, 10, 10, 10, 10, 10, 10, 10, 10, 10, 10, 10, 10, 10, 10, 10, 10, 10, 10, 10, 10, 10, 10, 10, 10, 10, 10, 10, 10, 10, 10, 10, 10, 10, 10, 10, 10, 10, 10, 10, 10, 10, 10, 10, 10, 10, 14])
       (.assign 11 (.join [10, 13])))
     (.seq (.ret 11)
       (.ret 0)))))⟩

/-- operators/kronecker_product_linear_operator.py:KroneckerProductLinearOperator.inv_quad_logdet (line 161); formals ['self', 'inv_quad_rhs', 'logdet', 'reduce_inv_quad'] -/
def f454_operators_kronecker_product_linear_operator__KroneckerProductLinearOperator_inv_quad_logdet : Fn := ⟨4,
 (.seq (.seq (.ifStar (.seq (.call 5 770 [0, 1, 4, 3, 4])
       (.seq (.assign 6 (.view 5))
         (.assign 7 (.same 6)))) (.assign 7 (.same 4)))
   (.ifStar (.seq (.call 8 888 [0, 4])
       (.assign 9 (.same 8))) (.assign 9 (.same 4))))
 (.seq (.assign 10 (.same 9))
   (.seq (.assign 11 (.join [7, 10]))
     (.ret 11))))⟩

/-- operators/kronecker_product_linear_operator.py:KroneckerProductLinearOperator._cholesky (line 180); formals ['self', 'upper'] -/
def f455_operators_kronecker_product_linear_operator__KroneckerProductLinearOperator__cholesky : Fn := ⟨2,
 (.seq (.seq (.seq (.assign 3 .fresh)
     (.seq (.assign 5 (.view 0))
       (.assign 6 (.view 5))))
   (.seq (.assign 4 (.same 6))
     (.seq (.whileStar ⟨[[0], [1], [], [0], [0], [0], [0], [0], [0], [0]], [], []⟩ (.seq (.seq (.assign 7 (.view 0))
             (.assign 8 (.view 7)))
           (.seq (.assign 4 (.same 8))
             (.seq (.ifStar (.assign 9 .fresh) (.call 9 792 [4, 1, 2]))
               (.assign 3 (.join [3, 9]))))))
       (.assign 10 (.same 3)))))
 (.seq (.seq (.assign 11 (.join [10]))
     (.seq (.assign 13 .fresh)
       (.assign 14 (.join [11]))))
   (.seq (.call 12 470 [13, 1, 14])
     (.seq (.ret 12)
       (.ret 0)))))⟩

/-- operators/kronecker_product_linear_operator.py:KroneckerProductLinearOperator._diagonal (line 186); formals ['self'] -/
def f456_operators_kronecker_product_linear_operator__KroneckerProductLinearOperator__diagonal : Fn := ⟨1,
 (.seq (.seq (.seq (.assign 2 .fresh)
     (.whileStar ⟨[[0]], [], []⟩ (.assign 2 (.join [1, 2]))))
   (.seq (.ifStar (.seq (.call 3 818 [0, 1])
         (.ret 3)) .skip)
     (.assign 4 (.view 0))))
 (.seq (.seq (.assign 5 (.join [4]))
     (.assign 7 (.join [5])))
   (.seq (.call 6 445 [7])
     (.ret 6))))⟩

/-- operators/kronecker_product_linear_operator.py:KroneckerProductLinearOperator._expand_batch (line 192); formals ['self', 'batch_shape'] -/
def f457_operators_kronecker_product_linear_operator__KroneckerProductLinearOperator__expand_batch : Fn := ⟨2,
 (.seq (.seq (.seq (.assign 3 .fresh)
     (.assign 5 (.view 0)))
   (.seq (.assign 6 (.view 5))
     (.seq (.assign 4 (.same 6))
       (.whileStar ⟨[[0], [1], [], [0, 1], [0], [0], [0], [0], [0], [0, 1]], [], []⟩ (.seq (.seq (.assign 7 (.view 0))
             (.assign 8 (.view 7)))
           (.seq (.assign 4 (.same 8))
             (.seq (.ifStar (.assign 9 .fresh) (.call 9 817 [4, 1, 2]))
               (.assign 3 (.join [3, 9])))))))))
 (.seq (.seq (.assign 10 (.join [3]))
     (.seq (.assign 12 .fresh)
       (.assign 14 (.join [10]))))
   (.seq (.call 13 812 [12, 10, 10, 10, 10, 10, 10, 10, 10, 10, 10, 10, 10, 10, 10, 10, 10, 10, 10, 10, 10, 10, 10, 10, 10, 10, 10, 10, 10, 10, 10, 10, 10, 10, 10, 10, 10, 10, 10, 10, 10, 10, 10, 10, 10, 10, 10, 10, 10, 10, 10, 10, 10, 10, 14])
     (.seq (.assign 11 (.join [10, 13]))
       (.ret 11)))))⟩

/-- operators/kronecker_product_linear_operator.py:KroneckerProductLinearOperator._get_indices (line 197); formals ['self', 'row_index', 'col_index', 'batch_indices'] -/
def f458_operators_kronecker_product_linear_operator__KroneckerProductLinearOperator__get_indices : Fn := ⟨4,
 (.seq (.seq (.call 5 767 [0, 4, 4])
   (.seq (.call 6 767 [0, 4, 4])
     (.assign 7 (.same 4))))
 (.seq (.assign 8 (.view 0))
   (.seq (.whileStar ⟨[[0], [1], [2], [3], [], [0], [0], [0, 3], [0], [0], [0], [0], [0], [], [], [3], [0, 3], [3], [0, 3], [], [0, 3]], [], []⟩ (.seq (.seq (.seq (.assign 9 (.view 8))
             (.seq (.assign 10 (.same 9))
               (.call 11 767 [10, 4, 4])))
           (.seq (.call 12 767 [10, 4, 4])
             (.seq (.assign 13 .fresh)
               (.assign 14 .fresh))))
         (.seq (.seq (.assign 15 (.join [3]))
             (.seq (.assign 17 (.join [15]))
               (.ifStar (.assign 16 .fresh) (.call 16 857 [10, 13, 14, 17]))))
           (.seq (.assign 18 (.same 16))
             (.seq (.ifStar (.assign 20 (.same 18)) (.seq (.assign 19 .fresh)
                 (.assign 20 (.same 19))))
               (.assign 7 (.same 20)))))))
     (.ret 7))))⟩

/-- operators/kronecker_product_linear_operator.py:KroneckerProductLinearOperator._solve (line 217); formals ['self', 'rhs', 'preconditioner', 'num_tridiag'] -/
def f459_operators_kronecker_product_linear_operator__KroneckerProductLinearOperator__solve : Fn := ⟨4,
 (.seq (.seq (.seq (.seq (.assign 5 .fresh)
       (.assign 7 (.view 0)))
     (.seq (.assign 8 (.view 7))
       (.seq (.assign 6 (.same 8))
         (.whileStar ⟨[[0], [1], [2], [3], [], [], [0], [0], [0], [0], [0], [], [0]], [], []⟩ (.seq (.seq (.assign 9 (.view 0))
               (.seq (.assign 10 (.view 9))
                 (.assign 6 (.same 10))))
             (.seq (.call 12 767 [6, 4, 4])
               (.seq (.assign 11 .fresh)
                 (.assign 5 (.join [5, 11])))))))))
   (.seq (.seq (.assign 13 (.same 5))
       (.seq (.assign 14 .fresh)
         (.assign 15 (.same 14))))
     (.seq (.assign 16 .fresh)
       (.seq (.assign 17 (.same 16))
         (.assign 18 .fresh)))))
 (.seq (.seq (.seq (.assign 19 (.join [18]))
       (.seq (.assign 20 (.same 19))
         (.assign 22 .fresh)))
     (.seq (.assign 21 (.view 22))
       (.seq (.assign 23 (.same 21))
         (.assign 24 (.view 0)))))
   (.seq (.seq (.whileStar ⟨[[0], [1], [2], [3], [], [], [0], [0], [0], [0], [0], [], [0], [], [], [], [], [], [], [], [], [], [], [0], [0], [], [], [0], [0], [0], [0], [], [0], [], [0]], [], []⟩ (.seq (.seq (.seq (.assign 25 (.view 13))
               (.seq (.assign 26 (.same 25))
                 (.assign 27 (.view 24))))
             (.seq (.seq (.assign 28 (.same 27))
                 (.assign 29 (.maybeView 23)))
               (.seq (.ifStar (.assign 30 .fresh) (.call 30 774 [28, 29, 4, 4]))
                 (.assign 23 (.same 30)))))
           (.seq (.seq (.assign 31 (.join [20]))
               (.seq (.assign 33 (.join [17]))
                 (.assign 35 (.join [4, 26, 33]))))
             (.seq (.seq (.ifStar (.assign 34 (.maybeView 23)) (.call 34 856 [23, 35]))
                 (.assign 36 (.join [4, 31])))
               (.seq (.ifStar (.assign 32 (.view 34)) (.call 32 809 [34, 36]))
                 (.assign 23 (.same 32)))))))
       (.seq (.assign 37 (.join [17]))
         (.assign 39 (.join [4, 15, 37]))))
     (.seq (.ifStar (.assign 38 (.maybeView 23)) (.call 38 856 [23, 39]))
       (.seq (.assign 40 (.same 38))
         (.ifStar (.ret 40) (.seq (.seq (.seq (.seq (.call 41 768 [0, 4, 4])
                 (.assign 42 (.view 41)))
                 (.seq (.assign 43 (.same 42))
                 (.assign 44 (.join [4]))))
               (.seq (.seq (.assign 45 (.join [4, 44]))
                 (.assign 46 (.join [45])))
                 (.seq (.ifStar (.assign 48 (.view 43)) (.call 48 782 [43, 4, 4]))
                 (.assign 49 (.join [3, 46])))))
             (.seq (.seq (.seq (.ifStar (.assign 47 .fresh) (.call 47 816 [48, 49]))
                 (.assign 50 (.same 47)))
                 (.seq (.assign 52 .fresh)
                 (.call 51 312 [52, 50])))
               (.seq (.seq (.assign 53 (.same 51))
                 (.call 54 778 [53, 4, 4, 4, 4, 4]))
                 (.seq (.assign 55 (.same 54))
                 (.seq (.assign 56 (.join [40, 55]))
                 (.ret 56))))))))))))⟩

/-- operators/kronecker_product_linear_operator.py:KroneckerProductLinearOperator._inv_matmul (line 256); formals ['self', 'right_tensor', 'left_tensor'] -/
def f460_operators_kronecker_product_linear_operator__KroneckerProductLinearOperator__inv_matmul : Fn := ⟨3,
 (.seq (.seq (.call 4 796 [1, 3])
   (.seq (.ifStar (.seq (.ifStar (.assign 5 (.view 1)) (.call 5 782 [1, 3, 3]))
         (.assign 1 (.same 5))) .skip)
     (.call 6 795 [0, 1, 3, 3, 3])))
 (.seq (.seq (.assign 7 (.same 6))
     (.ifStar (.seq (.ifStar (.assign 8 .fresh) (.ifStar (.call 8 798 [7, 2, 3]) (.call 8 797 [2, 7, 3])))
         (.assign 7 (.same 8))) .skip))
   (.seq (.ifStar (.seq (.ifStar (.assign 9 (.view 7)) (.call 9 784 [7, 3, 3]))
         (.assign 7 (.same 9))) .skip)
     (.ret 7))))⟩

/-- operators/kronecker_product_linear_operator.py:KroneckerProductLinearOperator._logdet (line 269); formals ['self'] -/
def f461_operators_kronecker_product_linear_operator__KroneckerProductLinearOperator__logdet : Fn := ⟨1,
 (.seq (.seq (.call 2 768 [0, 1, 1])
   (.seq (.assign 4 .fresh)
     (.call 5 868 [4, 1])))
 (.seq (.assign 3 .fresh)
   (.seq (.assign 6 (.same 3))
     (.ret 6))))⟩

/-- operators/kronecker_product_linear_operator.py:KroneckerProductLinearOperator._matmul (line 274); formals ['self', 'rhs'] -/
def f462_operators_kronecker_product_linear_operator__KroneckerProductLinearOperator__matmul : Fn := ⟨2,
 (.seq (.seq (.ifStar (.seq (.assign 3 (.view 1))
       (.assign 1 (.same 3))) .skip)
   (.seq (.assign 4 (.view 0))
     (.assign 5 (.maybeView 1))))
 (.seq (.seq (.call 6 447 [4, 2, 5])
     (.assign 7 (.same 6)))
   (.seq (.ifStar (.seq (.ifStar (.assign 8 (.view 7)) (.call 8 784 [7, 2, 2]))
         (.assign 7 (.same 8))) .skip)
     (.ret 7))))⟩

/-- operators/kronecker_product_linear_operator.py:KroneckerProductLinearOperator.root_decomposition (line 289); formals ['self', 'method'] -/
def f463_operators_kronecker_product_linear_operator__KroneckerProductLinearOperator_root_decomposition : Fn := ⟨2,
 (.seq (.seq (.seq (.seq (.ifStar (.seq (.call 3 772 [0, 1, 2])
           (.ret 3)) .skip)
       (.assign 4 .fresh))
     (.seq (.assign 6 (.view 0))
       (.assign 7 (.view 6))))
   (.seq (.seq (.assign 5 (.same 7))
       (.whileStar ⟨[[0], [1], [], [0], [0], [0], [0], [0], [0], [0], [0], [0]], [], [0]⟩ (.seq (.seq (.assign 8 (.view 0))
             (.seq (.assign 9 (.view 8))
               (.assign 5 (.same 9))))
           (.seq (.ifStar (.assign 10 .fresh) (.call 10 772 [5, 1, 2]))
             (.seq (.assign 11 (.view 10))
               (.assign 4 (.join [4, 11])))))))
     (.seq (.assign 12 (.same 4))
       (.assign 13 (.join [12])))))
 (.seq (.seq (.seq (.assign 15 .fresh)
       (.assign 16 (.join [13])))
     (.seq (.assign 17 (.join [13]))
       (.call 14 449 [15, 16, 17])))
   (.seq (.seq (.assign 18 (.same 14))
       (.assign 20 .fresh))
     (.seq (.call 19 566 [20, 18, 2])
       (.seq (.ret 19)
         (.ret 0))))))⟩

/-- operators/kronecker_product_linear_operator.py:KroneckerProductLinearOperator.root_inv_decomposition (line 303); formals ['self', 'initial_vectors', 'test_vectors', 'method'] -/
def f464_operators_kronecker_product_linear_operator__KroneckerProductLinearOperator_root_inv_decomposition : Fn := ⟨4,
 (.seq (.seq (.seq (.seq (.ifStar (.seq (.call 5 773 [0, 1, 2, 3, 4])
           (.ret 5)) .skip)
       (.assign 6 .fresh))
     (.seq (.assign 8 (.view 0))
       (.assign 9 (.view 8))))
   (.seq (.seq (.assign 7 (.same 9))
       (.whileStar ⟨[[0], [1], [2], [3], [], [0], [0], [0], [0], [0], [0], [0], [0], [0]], [], [0]⟩ (.seq (.seq (.assign 10 (.view 0))
             (.seq (.assign 11 (.view 10))
               (.assign 7 (.same 11))))
           (.seq (.ifStar (.assign 12 .fresh) (.call 12 773 [7, 4, 4, 3, 4]))
             (.seq (.assign 13 (.view 12))
               (.assign 6 (.join [6, 13])))))))
     (.seq (.assign 14 (.same 6))
       (.assign 15 (.join [14])))))
 (.seq (.seq (.seq (.assign 17 .fresh)
       (.assign 18 (.join [15])))
     (.seq (.assign 19 (.join [15]))
       (.call 16 449 [17, 18, 19])))
   (.seq (.seq (.assign 20 (.same 16))
       (.assign 22 .fresh))
     (.seq (.call 21 566 [22, 20, 4])
       (.seq (.ret 21)
         (.ret 0))))))⟩

/-- operators/kronecker_product_linear_operator.py:KroneckerProductLinearOperator._size (line 322); formals ['self'] -/
def f465_operators_kronecker_product_linear_operator__KroneckerProductLinearOperator__size : Fn := ⟨1,
 (.seq (.seq (.seq (.assign 2 .fresh)
     (.seq (.assign 4 (.view 0))
       (.assign 5 (.view 4))))
   (.seq (.seq (.assign 3 (.same 5))
       (.whileStar ⟨[[0], [], [], [0], [0], [0], [0], [0], [], [0]], [], []⟩ (.seq (.seq (.assign 6 (.view 0))
             (.seq (.assign 7 (.view 6))
               (.assign 3 (.same 7))))
           (.seq (.call 9 767 [3, 1, 1])
             (.seq (.assign 8 .fresh)
               (.assign 2 (.join [2, 8])))))))
     (.seq (.call 10 446 [2])
       (.assign 11 .fresh))))
 (.seq (.seq (.seq (.assign 13 (.view 0))
       (.assign 14 (.view 13)))
     (.seq (.assign 12 (.same 14))
       (.whileStar ⟨[[0], [], [], [0], [0], [0], [0], [0], [], [0], [], [], [0], [0], [0], [0], [0], [], [0]], [], []⟩ (.seq (.seq (.assign 15 (.view 0))
             (.seq (.assign 16 (.view 15))
               (.assign 12 (.same 16))))
           (.seq (.call 18 767 [12, 1, 1])
             (.seq (.assign 17 .fresh)
               (.assign 11 (.join [11, 17]))))))))
   (.seq (.seq (.call 19 446 [11])
       (.assign 20 .fresh))
     (.seq (.ret 20)
       (.ret 0)))))⟩

/-- operators/kronecker_product_linear_operator.py:KroneckerProductLinearOperator._svd (line 328); formals ['self'] -/
def f466_operators_kronecker_product_linear_operator__KroneckerProductLinearOperator__svd : Fn := ⟨1,
 (.seq (.seq (.seq (.seq (.seq (.assign 2 (.join []))
         (.assign 3 (.join [])))
       (.seq (.assign 4 (.join []))
         (.assign 5 (.same 2))))
     (.seq (.seq (.assign 6 (.same 3))
         (.assign 7 (.same 4)))
       (.seq (.assign 8 (.same 5))
         (.seq (.assign 9 (.same 6))
           (.assign 10 (.same 7))))))
   (.seq (.seq (.seq (.assign 11 (.view 0))
         (.whileStar ⟨[[0], [], [], [], [], [], [], [], [0], [0], [0], [0], [0], [0], [0], [0], [0], [0], [0], [0], [0]], [], []⟩ (.seq (.seq (.seq (.assign 12 (.view 11))
                 (.seq (.assign 13 (.same 12))
                 (.ifStar (.assign 14 .fresh) (.call 14 845 [13, 1]))))
               (.seq (.assign 15 (.view 14))
                 (.seq (.assign 16 (.same 15))
                 (.assign 17 (.view 14)))))
             (.seq (.seq (.assign 18 (.same 17))
                 (.seq (.assign 19 (.view 14))
                 (.assign 20 (.same 19))))
               (.seq (.assign 8 (.join [8, 16]))
                 (.seq (.assign 9 (.join [9, 18]))
                 (.assign 10 (.join [10, 20]))))))))
       (.seq (.assign 22 .fresh)
         (.assign 24 (.view 9))))
     (.seq (.seq (.assign 23 (.same 24))
         (.whileStar ⟨[[0], [], [], [], [], [], [], [], [0], [0], [0], [0], [0], [0], [0], [0], [0], [0], [0], [0], [0], [], [0], [0], [0], [0], [0]], [], []⟩ (.seq (.seq (.assign 25 (.view 9))
               (.assign 23 (.same 25)))
             (.seq (.assign 27 .fresh)
               (.seq (.call 26 312 [27, 23])
                 (.assign 22 (.join [22, 26])))))))
       (.seq (.assign 28 (.join [22]))
         (.seq (.assign 30 .fresh)
           (.assign 31 (.join [28])))))))
 (.seq (.seq (.seq (.seq (.assign 32 (.join [28]))
         (.call 29 449 [30, 31, 32]))
       (.seq (.call 21 818 [29, 1])
         (.assign 9 (.same 21))))
     (.seq (.seq (.assign 33 (.join [8]))
         (.assign 35 .fresh))
       (.seq (.assign 36 (.join [33]))
         (.seq (.assign 37 (.join [33]))
           (.call 34 449 [35, 36, 37])))))
   (.seq (.seq (.seq (.assign 8 (.same 34))
         (.assign 38 (.join [10])))
       (.seq (.assign 40 .fresh)
         (.seq (.assign 41 (.join [38]))
           (.assign 42 (.join [38])))))
     (.seq (.seq (.call 39 449 [40, 41, 42])
         (.assign 10 (.same 39)))
       (.seq (.assign 43 (.join [8, 9, 10]))
         (.seq (.ret 43)
           (.ret 0)))))))⟩

/-- operators/kronecker_product_linear_operator.py:KroneckerProductLinearOperator._symeig (line 342); formals ['self', 'eigenvectors', 'return_evals_as_lazy'] -/
def f467_operators_kronecker_product_linear_operator__KroneckerProductLinearOperator__symeig : Fn := ⟨3,
 (.seq (.seq (.seq (.seq (.assign 4 (.join []))
       (.assign 5 (.join [])))
     (.seq (.assign 6 (.same 4))
       (.seq (.assign 7 (.same 5))
         (.assign 8 (.same 6)))))
   (.seq (.seq (.assign 9 (.same 7))
       (.assign 10 (.view 0)))
     (.seq (.whileStar ⟨[[0], [1], [2], [], [], [], [], [], [0], [0], [0], [0], [0], [0], [0], [0], [0], [0]], [], []⟩ (.seq (.seq (.seq (.assign 11 (.view 10))
               (.assign 12 (.same 11)))
             (.seq (.ifStar (.assign 13 .fresh) (.call 13 823 [12, 1, 3, 3]))
               (.assign 14 (.view 13))))
           (.seq (.seq (.assign 15 (.same 14))
               (.assign 16 (.view 13)))
             (.seq (.assign 17 (.same 16))
               (.seq (.assign 8 (.join [8, 15]))
                 (.assign 9 (.join [9, 17])))))))
       (.seq (.assign 18 .fresh)
         (.assign 20 (.view 8))))))
 (.seq (.seq (.seq (.assign 19 (.same 20))
       (.whileStar ⟨[[0], [1], [2], [], [], [], [], [], [0], [0], [0], [0], [0], [0], [0], [0], [0], [0], [0], [0], [0], [0], [0]], [], []⟩ (.seq (.seq (.assign 21 (.view 8))
             (.assign 19 (.same 21)))
           (.seq (.assign 23 .fresh)
             (.seq (.call 22 312 [23, 19])
               (.assign 18 (.join [18, 22])))))))
     (.seq (.assign 24 (.join [18]))
       (.seq (.assign 26 .fresh)
         (.assign 27 (.join [24])))))
   (.seq (.seq (.call 25 476 [26, 27])
       (.seq (.assign 8 (.same 25))
         (.ifStar (.seq (.ifStar (.assign 28 .fresh) (.call 28 818 [8, 3]))
             (.assign 8 (.same 28))) .skip)))
     (.seq (.ifStar (.seq (.seq (.assign 29 (.join [9]))
             (.seq (.assign 31 .fresh)
               (.assign 32 (.join [29]))))
           (.seq (.assign 33 (.join [29]))
             (.seq (.call 30 449 [31, 32, 33])
               (.assign 9 (.same 30))))) (.assign 9 (.same 3)))
       (.seq (.assign 34 (.join [8, 9]))
         (.ret 34))))))⟩

/-- operators/kronecker_product_linear_operator.py:KroneckerProductLinearOperator._t_matmul (line 366); formals ['self', 'rhs'] -/
def f468_operators_kronecker_product_linear_operator__KroneckerProductLinearOperator__t_matmul : Fn := ⟨2,
 (.seq (.seq (.seq (.call 3 796 [1, 2])
     (.ifStar (.seq (.ifStar (.assign 4 (.view 1)) (.call 4 782 [1, 2, 2]))
         (.assign 1 (.same 4))) .skip))
   (.seq (.assign 5 (.view 0))
     (.assign 6 (.maybeView 1))))
 (.seq (.seq (.call 7 448 [5, 2, 6])
     (.assign 8 (.same 7)))
   (.seq (.ifStar (.seq (.ifStar (.assign 9 (.view 8)) (.call 9 784 [8, 2, 2]))
         (.assign 8 (.same 9))) .skip)
     (.ret 8))))⟩

/-- operators/kronecker_product_linear_operator.py:KroneckerProductLinearOperator._transpose_nonbatch (line 380); formals ['self'] -/
def f469_operators_kronecker_product_linear_operator__KroneckerProductLinearOperator__transpose_nonbatch : Fn := ⟨1,
 (.seq (.seq (.seq (.assign 2 .fresh)
     (.seq (.assign 4 (.view 0))
       (.assign 5 (.view 4))))
   (.seq (.seq (.assign 3 (.same 5))
       (.whileStar ⟨[[0], [], [0], [0], [0], [0], [0], [0], [0]], [], []⟩ (.seq (.seq (.assign 6 (.view 0))
             (.assign 7 (.view 6)))
           (.seq (.assign 3 (.same 7))
             (.seq (.ifStar (.assign 8 .fresh) (.call 8 829 [3, 1]))
               (.assign 2 (.join [2, 8])))))))
     (.seq (.assign 9 (.view 0))
       (.ifStar (.call 9 811 [0, 1]) .skip))))
 (.seq (.seq (.assign 10 (.same 9))
     (.seq (.assign 11 (.join [2, 10]))
       (.assign 13 .fresh)))
   (.seq (.seq (.assign 15 (.join [11]))
       (.call 14 812 [13, 11, 11, 11, 11, 11, 11, 11, 11, 11, 11, 11, 11, 11, 11, 11, 11, 11, 11, 11, 11, 11, 11, 11, 11, 11, 11, 11, 11, 11, 11, 11, 11, 11, 11, 11, 11, 11, 11, 11, 11, 11, 11, 11, 11, 11, 11, 11, 11, 11, 11, 11, 11, 11, 15]))
     (.seq (.assign 12 (.join [11, 14]))
       (.ret 12)))))⟩

/-- operators/kronecker_product_linear_operator.py:KroneckerProductTriangularLinearOperator.__init__ (line 385); formals ['self', 'upper', 'linear_ops'] -/
def f470_operators_kronecker_product_linear_operator__KroneckerProductTriangularLinearOperator___init__ : Fn := ⟨3,
 (.seq (.seq (.assign 3 .fresh)
   (.seq (.whileStar ⟨[[0], [1], [2]], [], []⟩ (.seq (.assign 4 .fresh)
         (.assign 3 (.join [3, 4]))))
     (.assign 5 (.join [2]))))
 (.seq (.seq (.assign 7 (.join [5]))
     (.call 6 812 [0, 5, 5, 5, 5, 5, 5, 5, 5, 5, 1, 5, 5, 5, 5, 5, 5, 5, 5, 5, 5, 5, 5, 5, 5, 5, 5, 5, 5, 5, 5, 5, 5, 5, 5, 5, 5, 5, 5, 5, 5, 5, 5, 5, 5, 5, 5, 5, 5, 5, 5, 5, 5, 5, 7]))
   (.seq (.assign 0 (.join [0, 1]))
     (.ret 0))))⟩

/-- operators/kronecker_product_linear_operator.py:KroneckerProductTriangularLinearOperator.inverse (line 394); formals ['self'] -/
def f471_operators_kronecker_product_linear_operator__KroneckerProductTriangularLinearOperator_inverse : Fn := ⟨1,
 (.seq (.seq (.seq (.assign 2 .fresh)
     (.seq (.assign 4 (.view 0))
       (.assign 5 (.view 4))))
   (.seq (.assign 3 (.same 5))
     (.seq (.whileStar ⟨[[0], [], [0], [0], [0], [0], [0], [0], [0]], [], []⟩ (.seq (.seq (.assign 6 (.view 0))
             (.assign 7 (.view 6)))
           (.seq (.assign 3 (.same 7))
             (.seq (.ifStar (.assign 8 .fresh) (.call 8 827 [3, 1]))
               (.assign 2 (.join [2, 8]))))))
       (.assign 9 (.same 2)))))
 (.seq (.seq (.assign 10 (.join [9]))
     (.seq (.assign 12 .fresh)
       (.assign 14 (.join [10]))))
   (.seq (.seq (.call 13 812 [12, 10, 10, 10, 10, 10, 10, 10, 10, 10, 1, 10, 10, 10, 10, 10, 10, 10, 10, 10, 10, 10, 10, 10, 10, 10, 10, 10, 10, 10, 10, 10, 10, 10, 10, 10, 10, 10, 10, 10, 10, 10, 10, 10, 10, 10, 10, 10, 10, 10, 10, 10, 10, 10, 14])
       (.assign 11 (.join [1, 10, 13])))
     (.seq (.ret 11)
       (.ret 0)))))⟩

/-- operators/kronecker_product_linear_operator.py:KroneckerProductTriangularLinearOperator._cholesky (line 400); formals ['self', 'upper'] -/
def f472_operators_kronecker_product_linear_operator__KroneckerProductTriangularLinearOperator__cholesky : Fn := ⟨2,
 (.ret 0)⟩

/-- operators/kronecker_product_linear_operator.py:KroneckerProductTriangularLinearOperator._cholesky_solve (line 405); formals ['self', 'rhs', 'upper'] -/
def f473_operators_kronecker_product_linear_operator__KroneckerProductTriangularLinearOperator__cholesky_solve : Fn := ⟨3,
 (.seq (.ifStar (.seq (.seq (.call 5 829 [0, 3])
       (.ifStar (.assign 4 .fresh) (.call 4 774 [5, 1, 3, 3])))
     (.seq (.assign 6 (.same 4))
       (.seq (.call 7 774 [0, 6, 3, 3])
         (.assign 8 (.same 7))))) (.seq (.seq (.call 9 774 [0, 1, 3, 3])
       (.assign 6 (.same 9)))
     (.seq (.call 11 829 [0, 3])
       (.seq (.ifStar (.assign 10 .fresh) (.call 10 774 [11, 6, 3, 3]))
         (.assign 8 (.same 10))))))
 (.ret 8))⟩

/-- operators/kronecker_product_linear_operator.py:KroneckerProductTriangularLinearOperator._symeig (line 420); formals ['self', 'eigenvectors', 'return_evals_as_lazy'] -/
def f474_operators_kronecker_product_linear_operator__KroneckerProductTriangularLinearOperator__symeig : Fn := ⟨3,
 .skip⟩

/-- operators/kronecker_product_linear_operator.py:KroneckerProductTriangularLinearOperator.solve (line 427); formals ['self', 'right_tensor', 'left_tensor'] -/
def f475_operators_kronecker_product_linear_operator__KroneckerProductTriangularLinearOperator_solve : Fn := ⟨3,
 (.seq (.call 4 703 [3, 3, 3])
 (.seq (.call 5 890 [0, 1, 2, 3])
   (.ret 5)))⟩

/-- operators/kronecker_product_linear_operator.py:KroneckerProductDiagLinearOperator.__init__ (line 446); formals ['self', 'linear_ops'] -/
def f476_operators_kronecker_product_linear_operator__KroneckerProductDiagLinearOperator___init__ : Fn := ⟨2,
 (.seq (.seq (.assign 3 .fresh)
   (.seq (.whileStar ⟨[[0], [1]], [], []⟩ (.seq (.assign 4 .fresh)
         (.assign 3 (.join [3, 4]))))
     (.assign 5 (.join [1]))))
 (.seq (.seq (.assign 7 (.join [5]))
     (.call 6 812 [0, 5, 5, 5, 5, 5, 5, 5, 5, 5, 5, 5, 5, 5, 5, 5, 5, 5, 5, 5, 5, 5, 5, 5, 5, 5, 5, 5, 5, 5, 5, 5, 5, 5, 5, 5, 5, 5, 5, 5, 5, 5, 5, 5, 5, 5, 5, 5, 5, 5, 5, 5, 5, 5, 7]))
   (.seq (.assign 0 (.join [0, 2]))
     (.ret 0))))⟩

/-- operators/kronecker_product_linear_operator.py:KroneckerProductDiagLinearOperator._bilinear_derivative (line 452); formals ['self', 'left_vecs', 'right_vecs'] -/
def f477_operators_kronecker_product_linear_operator__KroneckerProductDiagLinearOperator__bilinear_derivative : Fn := ⟨3,
 (.seq (.call 3 46 [0, 1, 2])
 (.ret 3))⟩

/-- operators/kronecker_product_linear_operator.py:KroneckerProductDiagLinearOperator._cholesky (line 456); formals ['self', 'upper'] -/
def f478_operators_kronecker_product_linear_operator__KroneckerProductDiagLinearOperator__cholesky : Fn := ⟨2,
 (.seq (.seq (.seq (.assign 3 .fresh)
     (.seq (.assign 5 (.view 0))
       (.assign 6 (.view 5))))
   (.seq (.assign 4 (.same 6))
     (.seq (.whileStar ⟨[[0], [1], [], [0], [0], [0], [0], [0], [0], [0]], [], []⟩ (.seq (.seq (.assign 7 (.view 0))
             (.assign 8 (.view 7)))
           (.seq (.assign 4 (.same 8))
             (.seq (.ifStar (.assign 9 .fresh) (.call 9 792 [4, 1, 2]))
               (.assign 3 (.join [3, 9]))))))
       (.assign 10 (.same 3)))))
 (.seq (.seq (.assign 11 (.join [10]))
     (.seq (.assign 13 .fresh)
       (.assign 14 (.join [11]))))
   (.seq (.call 12 476 [13, 14])
     (.seq (.ret 12)
       (.ret 0)))))⟩

/-- operators/kronecker_product_linear_operator.py:KroneckerProductDiagLinearOperator._diag (line 463); formals ['self'] -/
def f479_operators_kronecker_product_linear_operator__KroneckerProductDiagLinearOperator__diag : Fn := ⟨1,
 (.seq (.seq (.assign 1 (.view 0))
   (.assign 2 (.join [1])))
 (.seq (.assign 4 (.join [2]))
   (.seq (.call 3 445 [4])
     (.ret 3))))⟩

def chunk7 : List Fn := [
  f420_operators_keops_linear_operator__KeOpsLinearOperator__get_indices,
  f421_operators_keops_linear_operator__KeOpsLinearOperator__getitem,
  f422_operators_keops_linear_operator__KeOpsLinearOperator__bilinear_derivative,
  f423_operators_kernel_linear_operator___x_getitem,
  f424_operators_kernel_linear_operator__KernelLinearOperator___init__,
  f425_operators_kernel_linear_operator__KernelLinearOperator__diagonal,
  f426_operators_kernel_linear_operator__KernelLinearOperator_covar_mat,
  f427_operators_kernel_linear_operator__KernelLinearOperator__get_indices,
  f428_operators_kernel_linear_operator__KernelLinearOperator__getitem,
  f429_operators_kernel_linear_operator__KernelLinearOperator__matmul,
  f430_operators_kernel_linear_operator__KernelLinearOperator__permute_batch,
  f431_operators_kernel_linear_operator__KernelLinearOperator__size,
  f432_operators_kernel_linear_operator__KernelLinearOperator__transpose_nonbatch,
  f433_operators_kernel_linear_operator__KernelLinearOperator__unsqueeze_batch,
  f434_operators_kronecker_product_added_diag_linear_operator___constant_kpadlt_constructor,
  f435_operators_kronecker_product_added_diag_linear_operator___symmetrize_kpadlt_constructor,
  f436_operators_kronecker_product_added_diag_linear_operator__KroneckerProductAddedDiagLinearOperator___init__,
  f437_operators_kronecker_product_added_diag_linear_operator__KroneckerProductAddedDiagLinearOperator_inv_quad_logdet,
  f438_operators_kronecker_product_added_diag_linear_operator__KroneckerProductAddedDiagLinearOperator__logdet,
  f439_operators_kronecker_product_added_diag_linear_operator__KroneckerProductAddedDiagLinearOperator__preconditioner,
  f440_operators_kronecker_product_added_diag_linear_operator__KroneckerProductAddedDiagLinearOperator__solve,
  f441_operators_kronecker_product_added_diag_linear_operator__KroneckerProductAddedDiagLinearOperator__root_decomposition,
  f442_operators_kronecker_product_added_diag_linear_operator__KroneckerProductAddedDiagLinearOperator__root_inv_decomposi,
  f443_operators_kronecker_product_added_diag_linear_operator__KroneckerProductAddedDiagLinearOperator__symeig,
  f444_operators_kronecker_product_added_diag_linear_operator__KroneckerProductAddedDiagLinearOperator___add__,
  f445_operators_kronecker_product_linear_operator___kron_diag,
  f446_operators_kronecker_product_linear_operator___prod,
  f447_operators_kronecker_product_linear_operator___matmul,
  f448_operators_kronecker_product_linear_operator___t_matmul,
  f449_operators_kronecker_product_linear_operator__KroneckerProductLinearOperator___init__,
  f450_operators_kronecker_product_linear_operator__KroneckerProductLinearOperator___add__,
  f451_operators_kronecker_product_linear_operator__KroneckerProductLinearOperator_add_diagonal,
  f452_operators_kronecker_product_linear_operator__KroneckerProductLinearOperator_diagonalization,
  f453_operators_kronecker_product_linear_operator__KroneckerProductLinearOperator_inverse,
  f454_operators_kronecker_product_linear_operator__KroneckerProductLinearOperator_inv_quad_logdet,
  f455_operators_kronecker_product_linear_operator__KroneckerProductLinearOperator__cholesky,
  f456_operators_kronecker_product_linear_operator__KroneckerProductLinearOperator__diagonal,
  f457_operators_kronecker_product_linear_operator__KroneckerProductLinearOperator__expand_batch,
  f458_operators_kronecker_product_linear_operator__KroneckerProductLinearOperator__get_indices,
  f459_operators_kronecker_product_linear_operator__KroneckerProductLinearOperator__solve,
  f460_operators_kronecker_product_linear_operator__KroneckerProductLinearOperator__inv_matmul,
  f461_operators_kronecker_product_linear_operator__KroneckerProductLinearOperator__logdet,
  f462_operators_kronecker_product_linear_operator__KroneckerProductLinearOperator__matmul,
  f463_operators_kronecker_product_linear_operator__KroneckerProductLinearOperator_root_decomposition,
  f464_operators_kronecker_product_linear_operator__KroneckerProductLinearOperator_root_inv_decomposition,
  f465_operators_kronecker_product_linear_operator__KroneckerProductLinearOperator__size,
  f466_operators_kronecker_product_linear_operator__KroneckerProductLinearOperator__svd,
  f467_operators_kronecker_product_linear_operator__KroneckerProductLinearOperator__symeig,
  f468_operators_kronecker_product_linear_operator__KroneckerProductLinearOperator__t_matmul,
  f469_operators_kronecker_product_linear_operator__KroneckerProductLinearOperator__transpose_nonbatch,
  f470_operators_kronecker_product_linear_operator__KroneckerProductTriangularLinearOperator___init__,
  f471_operators_kronecker_product_linear_operator__KroneckerProductTriangularLinearOperator_inverse,
  f472_operators_kronecker_product_linear_operator__KroneckerProductTriangularLinearOperator__cholesky,
  f473_operators_kronecker_product_linear_operator__KroneckerProductTriangularLinearOperator__cholesky_solve,
  f474_operators_kronecker_product_linear_operator__KroneckerProductTriangularLinearOperator__symeig,
  f475_operators_kronecker_product_linear_operator__KroneckerProductTriangularLinearOperator_solve,
  f476_operators_kronecker_product_linear_operator__KroneckerProductDiagLinearOperator___init__,
  f477_operators_kronecker_product_linear_operator__KroneckerProductDiagLinearOperator__bilinear_derivative,
  f478_operators_kronecker_product_linear_operator__KroneckerProductDiagLinearOperator__cholesky,
  f479_operators_kronecker_product_linear_operator__KroneckerProductDiagLinearOperator__diag]

/-- every function of this chunk conforms to its summary (kernel-evaluated analysis, mask form) -/
theorem chunk7_ok : tableOKB lk sigma7 chunk7 = true := by decide +kernel

end LinOp.Generated.C13
