import LinOp.C13.Model
import LinOp.Generated.C13PSigma
-- GENERATED by harness/extract/c13_alias.py from /repo/linear_operator (do not edit)
namespace LinOp.Generated.C13P
open LinOp.C13

/-- operators/dense_linear_operator.py:DenseLinearOperator._getitem (line 53); formals ['self', 'row_index', 'col_index', 'batch_indices'] -/
def f300_operators_dense_linear_operator__DenseLinearOperator__getitem : Fn := ⟨4,
 (.seq (.seq (.seq (.assign 5 (.view 0))
     (.assign 6 (.join [1, 2, 3])))
   (.seq (.ifStar (.call 7 789 [5, 6, 4]) (.assign 7 (.maybeView 5)))
     (.assign 8 (.same 7))))
 (.seq (.seq (.assign 10 .fresh)
     (.assign 12 (.join [8])))
   (.seq (.call 11 812 [10, 4, 4, 4, 4, 4, 4, 4, 4, 4, 4, 4, 4, 4, 4, 4, 4, 4, 4, 4, 4, 4, 4, 4, 4, 4, 4, 4, 4, 4, 4, 4, 4, 4, 4, 4, 4, 4, 4, 4, 4, 4, 4, 4, 4, 4, 4, 4, 4, 4, 4, 4, 4, 4, 12])
     (.seq (.assign 9 (.join [8, 11]))
       (.ret 9)))))⟩

/-- operators/dense_linear_operator.py:DenseLinearOperator._isclose (line 58); formals ['self', 'other', 'rtol', 'atol', 'equal_nan'] -/
def f301_operators_dense_linear_operator__DenseLinearOperator__isclose : Fn := ⟨5,
 (.seq (.call 5 162 [1])
 (.seq (.assign 6 .fresh)
   (.ret 6)))⟩

/-- operators/dense_linear_operator.py:DenseLinearOperator._matmul (line 61); formals ['self', 'rhs'] -/
def f302_operators_dense_linear_operator__DenseLinearOperator__matmul : Fn := ⟨2,
 (.seq (.assign 2 .fresh)
 (.ret 2))⟩

/-- operators/dense_linear_operator.py:DenseLinearOperator._prod_batch (line 67); formals ['self', 'dim'] -/
def f303_operators_dense_linear_operator__DenseLinearOperator__prod_batch : Fn := ⟨2,
 (.seq (.seq (.seq (.assign 4 (.view 0))
     (.call 5 881 [4, 1, 2]))
   (.seq (.assign 3 .fresh)
     (.assign 7 .fresh)))
 (.seq (.seq (.assign 9 (.join [3]))
     (.call 8 812 [7, 2, 2, 2, 2, 2, 2, 2, 2, 2, 2, 2, 2, 2, 2, 2, 2, 2, 2, 2, 2, 2, 2, 2, 2, 2, 2, 2, 2, 2, 2, 2, 2, 2, 2, 2, 2, 2, 2, 2, 2, 2, 2, 2, 2, 2, 2, 2, 2, 2, 2, 2, 2, 2, 9]))
   (.seq (.assign 6 (.join [3, 8]))
     (.ret 6))))⟩

/-- operators/dense_linear_operator.py:DenseLinearOperator._bilinear_derivative (line 70); formals ['self', 'left_vecs', 'right_vecs'] -/
def f304_operators_dense_linear_operator__DenseLinearOperator__bilinear_derivative : Fn := ⟨3,
 (.seq (.seq (.assign 3 .fresh)
   (.assign 4 (.same 3)))
 (.seq (.assign 5 (.join [4]))
   (.ret 5)))⟩

/-- operators/dense_linear_operator.py:DenseLinearOperator._size (line 74); formals ['self'] -/
def f305_operators_dense_linear_operator__DenseLinearOperator__size : Fn := ⟨1,
 (.seq (.seq (.assign 3 (.view 0))
   (.call 4 767 [3, 1, 1]))
 (.seq (.assign 2 .fresh)
   (.ret 2)))⟩

/-- operators/dense_linear_operator.py:DenseLinearOperator._sum_batch (line 77); formals ['self', 'dim'] -/
def f306_operators_dense_linear_operator__DenseLinearOperator__sum_batch : Fn := ⟨2,
 (.seq (.seq (.seq (.assign 4 (.view 0))
     (.call 5 835 [4, 1, 2]))
   (.seq (.assign 3 .fresh)
     (.assign 7 .fresh)))
 (.seq (.seq (.assign 9 (.join [3]))
     (.call 8 812 [7, 2, 2, 2, 2, 2, 2, 2, 2, 2, 2, 2, 2, 2, 2, 2, 2, 2, 2, 2, 2, 2, 2, 2, 2, 2, 2, 2, 2, 2, 2, 2, 2, 2, 2, 2, 2, 2, 2, 2, 2, 2, 2, 2, 2, 2, 2, 2, 2, 2, 2, 2, 2, 2, 9]))
   (.seq (.assign 6 (.join [3, 8]))
     (.ret 6))))⟩

/-- operators/dense_linear_operator.py:DenseLinearOperator._transpose_nonbatch (line 80); formals ['self'] -/
def f307_operators_dense_linear_operator__DenseLinearOperator__transpose_nonbatch : Fn := ⟨1,
 (.seq (.seq (.assign 2 (.view 0))
   (.seq (.assign 3 (.view 2))
     (.ifStar (.call 3 777 [2, 1]) .skip)))
 (.seq (.seq (.assign 4 (.same 3))
     (.assign 6 .fresh))
   (.seq (.call 5 295 [6, 4])
     (.ret 5))))⟩

/-- operators/dense_linear_operator.py:DenseLinearOperator._t_matmul (line 83); formals ['self', 'rhs'] -/
def f308_operators_dense_linear_operator__DenseLinearOperator__t_matmul : Fn := ⟨2,
 (.seq (.seq (.assign 3 (.view 0))
   (.ifStar (.call 4 777 [3, 2]) .skip))
 (.seq (.assign 5 .fresh)
   (.ret 5)))⟩

/-- operators/dense_linear_operator.py:DenseLinearOperator.to_dense (line 89); formals ['self'] -/
def f309_operators_dense_linear_operator__DenseLinearOperator_to_dense : Fn := ⟨1,
 (.seq (.assign 1 (.view 0))
 (.ret 1))⟩

/-- operators/dense_linear_operator.py:DenseLinearOperator.__add__ (line 92); formals ['self', 'other'] -/
def f310_operators_dense_linear_operator__DenseLinearOperator___add__ : Fn := ⟨2,
 (.ifStar (.seq (.seq (.assign 3 (.view 0))
     (.seq (.assign 4 (.view 1))
       (.ifStar (.assign 5 .fresh) (.ifStar (.call 5 826 [4, 3, 2, 2]) (.call 5 825 [3, 4, 2])))))
   (.seq (.assign 7 .fresh)
     (.seq (.call 6 295 [7, 5])
       (.ret 6)))) (.ifStar (.seq (.seq (.assign 8 (.view 0))
       (.ifStar (.assign 9 .fresh) (.ifStar (.call 9 826 [1, 8, 2, 2]) (.call 9 825 [8, 1, 2]))))
     (.seq (.assign 11 .fresh)
       (.seq (.call 10 295 [11, 9])
         (.ret 10)))) (.seq (.call 12 825 [0, 1, 2])
     (.ret 12))))⟩

/-- operators/dense_linear_operator.py:to_linear_operator (line 104); formals ['obj'] -/
def f311_operators_dense_linear_operator__to_linear_operator : Fn := ⟨1,
 (.ifStar (.seq (.assign 2 .fresh)
   (.seq (.call 1 295 [2, 0])
     (.ret 1))) (.ifStar (.ret 0) .skip))⟩

/-- operators/diag_linear_operator.py:DiagLinearOperator.__init__ (line 27); formals ['self', 'diag'] -/
def f312_operators_diag_linear_operator__DiagLinearOperator___init__ : Fn := ⟨2,
 (.seq (.seq (.assign 4 (.join [1]))
   (.call 3 812 [0, 2, 2, 2, 2, 2, 2, 2, 2, 2, 2, 2, 2, 2, 2, 2, 2, 2, 2, 2, 2, 2, 2, 2, 2, 2, 2, 2, 2, 2, 2, 2, 2, 2, 2, 2, 2, 2, 2, 2, 2, 2, 2, 2, 2, 2, 2, 2, 2, 2, 2, 2, 2, 2, 4]))
 (.seq (.assign 0 (.join [0, 1]))
   (.ret 0)))⟩

/-- operators/diag_linear_operator.py:DiagLinearOperator.__add__ (line 31); formals ['self', 'other'] -/
def f313_operators_diag_linear_operator__DiagLinearOperator___add__ : Fn := ⟨2,
 (.seq (.seq (.ifStar (.seq (.seq (.assign 3 (.view 1))
         (.ifStar (.call 3 860 [1, 2]) .skip))
       (.seq (.assign 4 (.same 3))
         (.seq (.call 5 765 [0, 4, 2])
           (.ret 5)))) .skip)
   (.assign 7 .fresh))
 (.seq (.assign 8 (.join [0, 1]))
   (.seq (.call 6 163 [7, 2, 8])
     (.ret 6))))⟩

/-- operators/diag_linear_operator.py:DiagLinearOperator._bilinear_derivative (line 41); formals ['self', 'left_vecs', 'right_vecs'] -/
def f314_operators_diag_linear_operator__DiagLinearOperator__bilinear_derivative : Fn := ⟨3,
 (.seq (.seq (.seq (.ifStar (.call 4 860 [0, 3]) .skip)
     (.ifStar (.seq (.assign 5 (.join [3]))
         (.ret 5)) .skip))
   (.seq (.assign 6 .fresh)
     (.seq (.assign 7 (.same 6))
       (.assign 8 (.view 0)))))
 (.seq (.seq (.ifStar (.call 8 860 [0, 3]) .skip)
     (.seq (.assign 9 (.same 8))
       (.call 10 796 [9, 3])))
   (.seq (.ifStar (.seq (.assign 11 .fresh)
         (.assign 7 (.same 11))) .skip)
     (.seq (.assign 12 (.join [7]))
       (.ret 12)))))⟩

/-- operators/diag_linear_operator.py:DiagLinearOperator._cholesky (line 52); formals ['self', 'upper'] -/
def f315_operators_diag_linear_operator__DiagLinearOperator__cholesky : Fn := ⟨2,
 (.seq (.seq (.call 4 783 [0, 2])
   (.assign 3 .fresh))
 (.seq (.ret 3)
   (.ret 0)))⟩

/-- operators/diag_linear_operator.py:DiagLinearOperator._cholesky_solve (line 57); formals ['self', 'rhs', 'upper'] -/
def f316_operators_diag_linear_operator__DiagLinearOperator__cholesky_solve : Fn := ⟨3,
 (.seq (.seq (.assign 5 (.view 0))
   (.seq (.ifStar (.call 5 860 [0, 3]) .skip)
     (.assign 6 (.same 5))))
 (.seq (.ifStar .skip (.call 4 782 [6, 3, 3]))
   (.seq (.assign 7 .fresh)
     (.ret 7))))⟩

/-- operators/diag_linear_operator.py:DiagLinearOperator._expand_batch (line 64); formals ['self', 'batch_shape'] -/
def f317_operators_diag_linear_operator__DiagLinearOperator__expand_batch : Fn := ⟨2,
 (.seq (.seq (.seq (.seq (.assign 4 (.view 0))
       (.ifStar (.call 4 860 [0, 2]) .skip))
     (.seq (.assign 5 (.same 4))
       (.call 6 767 [5, 2, 2])))
   (.seq (.seq (.assign 3 .fresh)
       (.assign 7 (.join [1])))
     (.seq (.assign 9 (.view 0))
       (.ifStar (.call 9 860 [0, 2]) .skip))))
 (.seq (.seq (.seq (.assign 10 (.same 9))
       (.assign 11 (.join [3, 7])))
     (.seq (.ifStar (.assign 8 (.view 10)) (.call 8 776 [10, 11]))
       (.assign 13 .fresh)))
   (.seq (.seq (.assign 15 (.join [8]))
       (.call 14 812 [13, 2, 2, 2, 2, 2, 2, 2, 2, 2, 2, 2, 2, 2, 2, 2, 2, 2, 2, 2, 2, 2, 2, 2, 2, 2, 2, 2, 2, 2, 2, 2, 2, 2, 2, 2, 2, 2, 2, 2, 2, 2, 2, 2, 2, 2, 2, 2, 2, 2, 2, 2, 2, 2, 15]))
     (.seq (.assign 12 (.join [8, 14]))
       (.ret 12)))))⟩

/-- operators/diag_linear_operator.py:DiagLinearOperator._diagonal (line 69); formals ['self'] -/
def f318_operators_diag_linear_operator__DiagLinearOperator__diagonal : Fn := ⟨1,
 (.seq (.seq (.assign 2 (.view 0))
   (.ifStar (.call 2 860 [0, 1]) .skip))
 (.seq (.assign 3 (.same 2))
   (.ret 3)))⟩

/-- operators/diag_linear_operator.py:DiagLinearOperator._get_indices (line 72); formals ['self', 'row_index', 'col_index', 'batch_indices'] -/
def f319_operators_diag_linear_operator__DiagLinearOperator__get_indices : Fn := ⟨4,
 (.seq (.seq (.seq (.assign 5 (.view 0))
     (.seq (.ifStar (.call 5 860 [0, 4]) .skip)
       (.assign 6 (.same 5))))
   (.seq (.seq (.assign 7 (.join [1, 3]))
       (.ifStar (.call 8 789 [6, 7, 4]) (.assign 8 (.maybeView 6))))
     (.seq (.assign 9 (.same 8))
       (.assign 11 (.join [4])))))
 (.seq (.seq (.seq (.ifStar (.assign 10 (.maybeView 1)) (.call 10 824 [1, 11]))
       (.assign 1 (.same 10)))
     (.seq (.assign 13 (.join [4]))
       (.ifStar (.assign 12 (.maybeView 2)) (.call 12 824 [2, 13]))))
   (.seq (.seq (.assign 2 (.same 12))
       (.assign 14 .fresh))
     (.seq (.assign 9 (.same 14))
       (.ret 9)))))⟩

/-- operators/diag_linear_operator.py:DiagLinearOperator._mul_constant (line 82); formals ['self', 'other'] -/
def f320_operators_diag_linear_operator__DiagLinearOperator__mul_constant : Fn := ⟨2,
 (.seq (.seq (.ifStar (.call 3 860 [0, 2]) .skip)
   (.seq (.assign 4 .fresh)
     (.assign 6 .fresh)))
 (.seq (.seq (.assign 8 (.join [4]))
     (.call 7 812 [6, 2, 2, 2, 2, 2, 2, 2, 2, 2, 2, 2, 2, 2, 2, 2, 2, 2, 2, 2, 2, 2, 2, 2, 2, 2, 2, 2, 2, 2, 2, 2, 2, 2, 2, 2, 2, 2, 2, 2, 2, 2, 2, 2, 2, 2, 2, 2, 2, 2, 2, 2, 2, 2, 8]))
   (.seq (.assign 5 (.join [4, 7]))
     (.ret 5))))⟩

/-- operators/diag_linear_operator.py:DiagLinearOperator._mul_matrix (line 87); formals ['self', 'other'] -/
def f321_operators_diag_linear_operator__DiagLinearOperator__mul_matrix : Fn := ⟨2,
 (.seq (.seq (.seq (.assign 3 (.view 0))
     (.ifStar (.call 3 860 [0, 2]) .skip))
   (.seq (.assign 4 (.same 3))
     (.ifStar (.assign 5 .fresh) (.call 5 818 [1, 2]))))
 (.seq (.seq (.ifStar (.assign 6 .fresh) (.ifStar (.call 6 804 [5, 4, 2]) (.call 6 803 [4, 5, 2])))
     (.assign 8 .fresh))
   (.seq (.call 7 312 [8, 6])
     (.ret 7))))⟩

/-- operators/diag_linear_operator.py:DiagLinearOperator._prod_batch (line 93); formals ['self', 'dim'] -/
def f322_operators_diag_linear_operator__DiagLinearOperator__prod_batch : Fn := ⟨2,
 (.seq (.seq (.seq (.assign 4 (.view 0))
     (.ifStar (.call 4 860 [0, 2]) .skip))
   (.seq (.assign 5 (.same 4))
     (.seq (.call 6 881 [5, 1, 2])
       (.assign 3 .fresh))))
 (.seq (.seq (.assign 8 .fresh)
     (.assign 10 (.join [3])))
   (.seq (.call 9 812 [8, 2, 2, 2, 2, 2, 2, 2, 2, 2, 2, 2, 2, 2, 2, 2, 2, 2, 2, 2, 2, 2, 2, 2, 2, 2, 2, 2, 2, 2, 2, 2, 2, 2, 2, 2, 2, 2, 2, 2, 2, 2, 2, 2, 2, 2, 2, 2, 2, 2, 2, 2, 2, 2, 10])
     (.seq (.assign 7 (.join [3, 9]))
       (.ret 7)))))⟩

/-- operators/diag_linear_operator.py:DiagLinearOperator._root_decomposition (line 96); formals ['self'] -/
def f323_operators_diag_linear_operator__DiagLinearOperator__root_decomposition : Fn := ⟨1,
 (.seq (.call 3 783 [0, 1])
 (.seq (.assign 2 .fresh)
   (.ret 2)))⟩

/-- operators/diag_linear_operator.py:DiagLinearOperator._root_inv_decomposition (line 101); formals ['self', 'initial_vectors', 'test_vectors'] -/
def f324_operators_diag_linear_operator__DiagLinearOperator__root_inv_decomposition : Fn := ⟨3,
 (.seq (.seq (.call 5 827 [0, 3])
   (.call 6 783 [5, 3]))
 (.seq (.assign 4 .fresh)
   (.ret 4)))⟩

/-- operators/diag_linear_operator.py:DiagLinearOperator._size (line 108); formals ['self'] -/
def f325_operators_diag_linear_operator__DiagLinearOperator__size : Fn := ⟨1,
 (.seq (.seq (.ifStar (.call 2 860 [0, 1]) .skip)
   (.ifStar (.call 3 860 [0, 1]) .skip))
 (.seq (.assign 4 .fresh)
   (.ret 4)))⟩

/-- operators/diag_linear_operator.py:DiagLinearOperator._sum_batch (line 111); formals ['self', 'dim'] -/
def f326_operators_diag_linear_operator__DiagLinearOperator__sum_batch : Fn := ⟨2,
 (.seq (.seq (.seq (.assign 4 (.view 0))
     (.ifStar (.call 4 860 [0, 2]) .skip))
   (.seq (.assign 5 (.same 4))
     (.seq (.call 6 835 [5, 1, 2])
       (.assign 3 .fresh))))
 (.seq (.seq (.assign 8 .fresh)
     (.assign 10 (.join [3])))
   (.seq (.call 9 812 [8, 2, 2, 2, 2, 2, 2, 2, 2, 2, 2, 2, 2, 2, 2, 2, 2, 2, 2, 2, 2, 2, 2, 2, 2, 2, 2, 2, 2, 2, 2, 2, 2, 2, 2, 2, 2, 2, 2, 2, 2, 2, 2, 2, 2, 2, 2, 2, 2, 2, 2, 2, 2, 2, 10])
     (.seq (.assign 7 (.join [3, 9]))
       (.ret 7)))))⟩

/-- operators/diag_linear_operator.py:DiagLinearOperator._t_matmul (line 114); formals ['self', 'rhs'] -/
def f327_operators_diag_linear_operator__DiagLinearOperator__t_matmul : Fn := ⟨2,
 (.seq (.call 3 815 [0, 1, 2])
 (.ret 3))⟩

/-- operators/diag_linear_operator.py:DiagLinearOperator._transpose_nonbatch (line 121); formals ['self'] -/
def f328_operators_diag_linear_operator__DiagLinearOperator__transpose_nonbatch : Fn := ⟨1,
 (.ret 0)⟩

/-- operators/diag_linear_operator.py:DiagLinearOperator.abs (line 124); formals ['self'] -/
def f329_operators_diag_linear_operator__DiagLinearOperator_abs : Fn := ⟨1,
 (.seq (.seq (.seq (.assign 3 (.view 0))
     (.ifStar (.call 3 860 [0, 1]) .skip))
   (.seq (.assign 4 (.same 3))
     (.seq (.call 5 867 [4, 1])
       (.assign 2 .fresh))))
 (.seq (.seq (.assign 7 .fresh)
     (.assign 9 (.join [2])))
   (.seq (.call 8 812 [7, 1, 1, 1, 1, 1, 1, 1, 1, 1, 1, 1, 1, 1, 1, 1, 1, 1, 1, 1, 1, 1, 1, 1, 1, 1, 1, 1, 1, 1, 1, 1, 1, 1, 1, 1, 1, 1, 1, 1, 1, 1, 1, 1, 1, 1, 1, 1, 1, 1, 1, 1, 1, 1, 9])
     (.seq (.assign 6 (.join [2, 8]))
       (.ret 6)))))⟩

/-- operators/diag_linear_operator.py:DiagLinearOperator.add_diagonal (line 130); formals ['self', 'diag'] -/
def f330_operators_diag_linear_operator__DiagLinearOperator_add_diagonal : Fn := ⟨2,
 (.seq (.seq (.seq (.ifStar (.call 3 860 [0, 2]) .skip)
     (.seq (.assign 4 .fresh)
       (.assign 5 (.same 4))))
   (.seq (.assign 7 (.view 0))
     (.seq (.ifStar (.call 7 860 [0, 2]) .skip)
       (.assign 8 (.same 7)))))
 (.seq (.seq (.assign 9 (.join [5]))
     (.seq (.ifStar .skip (.call 6 776 [8, 9]))
       (.assign 10 .fresh)))
   (.seq (.assign 12 .fresh)
     (.seq (.call 11 312 [12, 10])
       (.ret 11)))))⟩

/-- operators/diag_linear_operator.py:DiagLinearOperator.to_dense (line 138); formals ['self'] -/
def f331_operators_diag_linear_operator__DiagLinearOperator_to_dense : Fn := ⟨1,
 (.seq (.seq (.seq (.assign 2 (.view 0))
     (.ifStar (.call 2 860 [0, 1]) .skip))
   (.seq (.assign 3 (.same 2))
     (.call 4 808 [3, 1])))
 (.seq (.seq (.ifStar (.seq (.seq (.assign 5 (.view 0))
           (.ifStar (.call 5 860 [0, 1]) .skip))
         (.seq (.assign 6 (.same 5))
           (.ret 6))) .skip)
     (.ifStar (.call 7 860 [0, 1]) .skip))
   (.seq (.assign 8 .fresh)
     (.seq (.ret 8)
       (.ret 0)))))⟩

/-- operators/diag_linear_operator.py:DiagLinearOperator.exp (line 143); formals ['self'] -/
def f332_operators_diag_linear_operator__DiagLinearOperator_exp : Fn := ⟨1,
 (.seq (.seq (.seq (.assign 3 (.view 0))
     (.ifStar (.call 3 860 [0, 1]) .skip))
   (.seq (.assign 4 (.same 3))
     (.ifStar (.assign 2 .fresh) (.call 2 882 [4, 1]))))
 (.seq (.seq (.assign 6 .fresh)
     (.assign 8 (.join [2])))
   (.seq (.call 7 812 [6, 1, 1, 1, 1, 1, 1, 1, 1, 1, 1, 1, 1, 1, 1, 1, 1, 1, 1, 1, 1, 1, 1, 1, 1, 1, 1, 1, 1, 1, 1, 1, 1, 1, 1, 1, 1, 1, 1, 1, 1, 1, 1, 1, 1, 1, 1, 1, 1, 1, 1, 1, 1, 1, 8])
     (.seq (.assign 5 (.join [2, 7]))
       (.ret 5)))))⟩

/-- operators/diag_linear_operator.py:DiagLinearOperator.inverse (line 149); formals ['self'] -/
def f333_operators_diag_linear_operator__DiagLinearOperator_inverse : Fn := ⟨1,
 (.seq (.seq (.ifStar (.call 3 860 [0, 1]) .skip)
   (.seq (.assign 2 .fresh)
     (.assign 5 .fresh)))
 (.seq (.seq (.assign 7 (.join [2]))
     (.call 6 812 [5, 1, 1, 1, 1, 1, 1, 1, 1, 1, 1, 1, 1, 1, 1, 1, 1, 1, 1, 1, 1, 1, 1, 1, 1, 1, 1, 1, 1, 1, 1, 1, 1, 1, 1, 1, 1, 1, 1, 1, 1, 1, 1, 1, 1, 1, 1, 1, 1, 1, 1, 1, 1, 1, 7]))
   (.seq (.assign 4 (.join [2, 6]))
     (.ret 4))))⟩

/-- operators/diag_linear_operator.py:DiagLinearOperator.inv_quad_logdet (line 155); formals ['self', 'inv_quad_rhs', 'logdet', 'reduce_inv_quad'] -/
def f334_operators_diag_linear_operator__DiagLinearOperator_inv_quad_logdet : Fn := ⟨4,
 (.seq (.seq (.ifStar .skip (.seq (.call 5 703 [4, 4, 4])
       (.seq (.call 6 808 [0, 4])
         (.call 7 808 [0, 4]))))
   (.ifStar (.seq (.assign 8 .fresh)
       (.assign 9 (.same 8))) (.seq (.seq (.seq (.assign 10 (.view 0))
           (.ifStar (.call 10 860 [0, 4]) .skip))
         (.seq (.assign 11 (.same 10))
           (.assign 12 (.same 11))))
       (.seq (.seq (.whileStar ⟨[[0], [1], [2], [3], [], [], [], [], [], [], [0], [0], [0], [0]], [], []⟩ (.seq (.ifStar (.assign 13 (.view 12)) (.call 13 782 [12, 4, 4]))
               (.assign 12 (.same 13))))
           (.assign 14 .fresh))
         (.seq (.assign 9 (.same 14))
           (.ifStar (.seq (.call 16 835 [9, 4, 4])
               (.seq (.assign 15 .fresh)
                 (.assign 9 (.same 15)))) .skip))))))
 (.seq (.ifStar (.seq (.assign 17 .fresh)
       (.assign 18 (.same 17))) (.seq (.seq (.assign 20 (.view 0))
         (.seq (.ifStar (.call 20 860 [0, 4]) .skip)
           (.assign 21 (.same 20))))
       (.seq (.call 22 868 [21, 4])
         (.seq (.assign 19 .fresh)
           (.assign 18 (.same 19))))))
   (.seq (.assign 23 (.join [9, 18]))
     (.ret 23))))⟩

/-- operators/diag_linear_operator.py:DiagLinearOperator.log (line 196); formals ['self'] -/
def f335_operators_diag_linear_operator__DiagLinearOperator_log : Fn := ⟨1,
 (.seq (.seq (.seq (.assign 3 (.view 0))
     (.ifStar (.call 3 860 [0, 1]) .skip))
   (.seq (.assign 4 (.same 3))
     (.seq (.call 5 868 [4, 1])
       (.assign 2 .fresh))))
 (.seq (.seq (.assign 7 .fresh)
     (.assign 9 (.join [2])))
   (.seq (.call 8 812 [7, 1, 1, 1, 1, 1, 1, 1, 1, 1, 1, 1, 1, 1, 1, 1, 1, 1, 1, 1, 1, 1, 1, 1, 1, 1, 1, 1, 1, 1, 1, 1, 1, 1, 1, 1, 1, 1, 1, 1, 1, 1, 1, 1, 1, 1, 1, 1, 1, 1, 1, 1, 1, 1, 9])
     (.seq (.assign 6 (.join [2, 8]))
       (.ret 6)))))⟩

/-- operators/diag_linear_operator.py:DiagLinearOperator.matmul (line 204); formals ['self', 'other'] -/
def f336_operators_diag_linear_operator__DiagLinearOperator_matmul : Fn := ⟨2,
 (.seq (.seq (.seq (.call 3 703 [2, 2, 2])
     (.ifStar (.seq (.seq (.ifStar (.seq (.seq (.assign 4 (.view 0))
                 (.ifStar (.call 4 860 [0, 2]) .skip))
               (.seq (.assign 5 (.same 4))
                 (.assign 9 (.same 5)))) (.seq (.seq (.assign 7 (.view 0))
                 (.ifStar (.call 7 860 [0, 2]) .skip))
               (.seq (.assign 8 (.same 7))
                 (.seq (.ifStar (.assign 6 (.view 8)) (.call 6 782 [8, 2, 2]))
                 (.assign 9 (.same 6))))))
           (.assign 10 (.same 9)))
         (.seq (.ifStar (.assign 11 .fresh) (.ifStar (.call 11 804 [1, 10, 2]) (.call 11 803 [10, 1, 2])))
           (.ret 11))) .skip))
   (.seq (.ifStar (.seq (.seq (.assign 12 (.view 1))
           (.ifStar (.call 13 798 [12, 0, 2]) (.call 13 797 [0, 12, 2])))
         (.seq (.assign 15 .fresh)
           (.seq (.call 14 295 [15, 13])
             (.ret 14)))) .skip)
     (.ifStar (.seq (.seq (.seq (.assign 16 (.view 0))
             (.ifStar (.call 16 860 [0, 2]) .skip))
           (.seq (.assign 17 (.same 16))
             (.seq (.assign 18 (.view 1))
               (.ifStar (.call 18 860 [1, 2]) .skip))))
         (.seq (.seq (.assign 19 (.same 18))
             (.ifStar (.assign 20 .fresh) (.ifStar (.call 20 804 [19, 17, 2]) (.call 20 803 [17, 19, 2]))))
           (.seq (.assign 22 .fresh)
             (.seq (.call 21 312 [22, 20])
               (.ret 21))))) .skip)))
 (.seq (.seq (.ifStar (.seq (.seq (.assign 23 (.view 1))
           (.ifStar (.call 24 798 [23, 0, 2]) (.call 24 797 [0, 23, 2])))
         (.seq (.assign 26 .fresh)
           (.seq (.call 25 619 [26, 24, 2])
             (.ret 25)))) .skip)
     (.ifStar (.seq (.seq (.seq (.assign 28 (.view 0))
             (.seq (.ifStar (.call 28 860 [0, 2]) .skip)
               (.assign 29 (.same 28))))
           (.seq (.assign 27 (.view 29))
             (.seq (.assign 30 (.same 27))
               (.assign 32 .fresh))))
         (.seq (.seq (.call 31 312 [32, 30])
             (.seq (.assign 10 (.same 31))
               (.assign 33 (.view 1))))
           (.seq (.seq (.ifStar (.call 34 798 [33, 10, 2]) (.call 34 797 [10, 33, 2]))
               (.assign 36 .fresh))
             (.seq (.call 35 197 [36, 34, 2])
               (.ret 35))))) .skip))
   (.seq (.call 37 805 [0, 1, 2])
     (.ret 37))))⟩

/-- operators/diag_linear_operator.py:DiagLinearOperator._matmul (line 233); formals ['self', 'rhs'] -/
def f337_operators_diag_linear_operator__DiagLinearOperator__matmul : Fn := ⟨2,
 (.seq (.call 3 805 [0, 1, 2])
 (.ret 3))⟩

/-- operators/diag_linear_operator.py:DiagLinearOperator.solve (line 239); formals ['self', 'right_tensor', 'left_tensor'] -/
def f338_operators_diag_linear_operator__DiagLinearOperator_solve : Fn := ⟨3,
 (.seq (.seq (.call 5 827 [0, 3])
   (.ifStar (.assign 4 .fresh) (.call 4 815 [5, 1, 3])))
 (.seq (.assign 6 (.same 4))
   (.seq (.ifStar (.seq (.ifStar (.assign 7 .fresh) (.ifStar (.call 7 798 [6, 2, 3]) (.call 7 797 [2, 6, 3])))
         (.assign 6 (.same 7))) .skip)
     (.ret 6))))⟩

/-- operators/diag_linear_operator.py:DiagLinearOperator.solve_triangular (line 249); formals ['self', 'rhs', 'upper', 'left', 'unitriangular'] -/
def f339_operators_diag_linear_operator__DiagLinearOperator_solve_triangular : Fn := ⟨5,
 (.seq (.ifStar (.seq (.call 6 866 [0, 5, 5, 5, 5])
     (.ret 1)) .skip)
 (.seq (.call 7 774 [0, 1, 5, 5])
   (.ret 7)))⟩

/-- operators/diag_linear_operator.py:DiagLinearOperator.sqrt (line 259); formals ['self'] -/
def f340_operators_diag_linear_operator__DiagLinearOperator_sqrt : Fn := ⟨1,
 (.seq (.seq (.seq (.assign 3 (.view 0))
     (.ifStar (.call 3 860 [0, 1]) .skip))
   (.seq (.assign 4 (.same 3))
     (.seq (.call 5 783 [4, 1])
       (.assign 2 .fresh))))
 (.seq (.seq (.assign 7 .fresh)
     (.assign 9 (.join [2])))
   (.seq (.call 8 812 [7, 1, 1, 1, 1, 1, 1, 1, 1, 1, 1, 1, 1, 1, 1, 1, 1, 1, 1, 1, 1, 1, 1, 1, 1, 1, 1, 1, 1, 1, 1, 1, 1, 1, 1, 1, 1, 1, 1, 1, 1, 1, 1, 1, 1, 1, 1, 1, 1, 1, 1, 1, 1, 1, 9])
     (.seq (.assign 6 (.join [2, 8]))
       (.ret 6)))))⟩

/-- operators/diag_linear_operator.py:DiagLinearOperator.sqrt_inv_matmul (line 265); formals ['self', 'rhs', 'lhs'] -/
def f341_operators_diag_linear_operator__DiagLinearOperator_sqrt_inv_matmul : Fn := ⟨3,
 (.seq (.call 4 847 [0, 3, 3, 3])
 (.seq (.assign 5 (.same 4))
   (.ifStar (.seq (.ifStar (.assign 6 .fresh) (.call 6 805 [5, 1, 3]))
       (.ret 6)) (.seq (.seq (.seq (.ifStar (.assign 7 .fresh) (.call 7 805 [5, 1, 3]))
           (.ifStar (.assign 8 .fresh) (.ifStar (.call 8 798 [7, 2, 3]) (.call 8 797 [2, 7, 3]))))
         (.seq (.assign 9 (.same 8))
           (.seq (.assign 11 (.view 2))
             (.ifStar (.assign 12 .fresh) (.ifStar (.call 12 798 [11, 5, 3]) (.call 12 797 [5, 11, 3]))))))
       (.seq (.seq (.ifStar (.call 13 777 [12, 3]) .skip)
           (.assign 10 .fresh))
         (.seq (.assign 14 (.same 10))
           (.seq (.assign 15 (.join [9, 14]))
             (.ret 15))))))))⟩

/-- operators/diag_linear_operator.py:DiagLinearOperator.zero_mean_mvn_samples (line 278); formals ['self', 'num_samples'] -/
def f342_operators_diag_linear_operator__DiagLinearOperator_zero_mean_mvn_samples : Fn := ⟨2,
 (.seq (.seq (.ifStar (.call 3 860 [0, 2]) .skip)
   (.seq (.assign 4 (.view 0))
     (.ifStar (.call 4 860 [0, 2]) .skip)))
 (.seq (.seq (.assign 5 (.same 4))
     (.call 6 783 [5, 2]))
   (.seq (.assign 7 .fresh)
     (.ret 7))))⟩

/-- operators/diag_linear_operator.py:DiagLinearOperator._svd (line 285); formals ['self'] -/
def f343_operators_diag_linear_operator__DiagLinearOperator__svd : Fn := ⟨1,
 (.seq (.seq (.seq (.call 2 823 [0, 1, 1, 1])
     (.seq (.assign 3 (.view 2))
       (.assign 4 (.same 3))))
   (.seq (.seq (.assign 5 .fresh)
       (.assign 6 (.same 5)))
     (.seq (.assign 7 (.same 4))
       (.assign 8 .fresh))))
 (.seq (.seq (.assign 9 (.same 8))
     (.seq (.assign 11 .fresh)
       (.call 10 312 [11, 9])))
   (.seq (.seq (.assign 12 (.same 10))
       (.assign 13 (.join [6, 7, 12])))
     (.seq (.ret 13)
       (.ret 0)))))⟩

/-- operators/diag_linear_operator.py:DiagLinearOperator._symeig (line 297); formals ['self', 'eigenvectors', 'return_evals_as_lazy'] -/
def f344_operators_diag_linear_operator__DiagLinearOperator__symeig : Fn := ⟨3,
 (.seq (.seq (.assign 4 (.view 0))
   (.seq (.ifStar (.call 4 860 [0, 3]) .skip)
     (.assign 5 (.same 4))))
 (.seq (.seq (.assign 6 (.same 5))
     (.ifStar (.seq (.seq (.assign 8 .fresh)
           (.seq (.assign 7 (.view 8))
             (.assign 9 (.same 7))))
         (.seq (.assign 11 .fresh)
           (.seq (.call 10 345 [11, 9, 3])
             (.assign 12 (.same 10))))) (.assign 12 (.same 3))))
   (.seq (.assign 13 (.join [6, 12]))
     (.ret 13))))⟩

/-- operators/diag_linear_operator.py:ConstantDiagLinearOperator.__init__ (line 321); formals ['self', 'diag_values', 'diag_shape'] -/
def f345_operators_diag_linear_operator__ConstantDiagLinearOperator___init__ : Fn := ⟨3,
 (.seq (.seq (.assign 5 (.join [1]))
   (.call 4 812 [0, 3, 3, 3, 3, 3, 3, 3, 3, 3, 3, 3, 3, 3, 3, 2, 3, 3, 3, 3, 3, 3, 3, 3, 3, 3, 3, 3, 3, 3, 3, 3, 3, 3, 3, 3, 3, 3, 3, 3, 3, 3, 3, 3, 3, 3, 3, 3, 3, 3, 3, 3, 3, 3, 5]))
 (.seq (.assign 0 (.join [0, 1]))
   (.seq (.assign 0 (.join [0, 2]))
     (.ret 0))))⟩

/-- operators/diag_linear_operator.py:ConstantDiagLinearOperator.__add__ (line 332); formals ['self', 'other'] -/
def f346_operators_diag_linear_operator__ConstantDiagLinearOperator___add__ : Fn := ⟨2,
 (.seq (.ifStar (.ifStar (.seq (.seq (.assign 3 (.view 0))
         (.seq (.assign 4 (.view 1))
           (.ifStar (.assign 5 .fresh) (.ifStar (.call 5 826 [4, 3, 2, 2]) (.call 5 825 [3, 4, 2])))))
       (.seq (.assign 7 .fresh)
         (.seq (.call 6 345 [7, 5, 2])
           (.ret 6)))) .skip) .skip)
 (.seq (.call 8 825 [0, 1, 2])
   (.ret 8)))⟩

/-- operators/diag_linear_operator.py:ConstantDiagLinearOperator._bilinear_derivative (line 345); formals ['self', 'left_vecs', 'right_vecs'] -/
def f347_operators_diag_linear_operator__ConstantDiagLinearOperator__bilinear_derivative : Fn := ⟨3,
 (.seq (.seq (.ifStar (.seq (.assign 4 (.join [3]))
       (.ret 4)) .skip)
   (.seq (.assign 5 .fresh)
     (.assign 6 (.same 5))))
 (.seq (.seq (.ifStar (.assign 7 (.view 6)) (.call 7 782 [6, 3, 3]))
     (.assign 6 (.same 7)))
   (.seq (.assign 8 (.join [6]))
     (.ret 8))))⟩

/-- operators/diag_linear_operator.py:ConstantDiagLinearOperator._diag (line 355); formals ['self'] -/
def f348_operators_diag_linear_operator__ConstantDiagLinearOperator__diag : Fn := ⟨1,
 (.seq (.seq (.assign 2 (.join [1]))
   (.assign 4 (.view 0)))
 (.seq (.assign 5 (.join [1, 2]))
   (.seq (.ifStar (.assign 3 (.view 4)) (.call 3 776 [4, 5]))
     (.ret 3))))⟩

/-- operators/diag_linear_operator.py:ConstantDiagLinearOperator._expand_batch (line 358); formals ['self', 'batch_shape'] -/
def f349_operators_diag_linear_operator__ConstantDiagLinearOperator__expand_batch : Fn := ⟨2,
 (.seq (.seq (.seq (.assign 3 (.join [1]))
     (.assign 5 (.view 0)))
   (.seq (.assign 6 (.join [2, 3]))
     (.ifStar (.assign 4 (.view 5)) (.call 4 776 [5, 6]))))
 (.seq (.seq (.assign 8 .fresh)
     (.assign 10 (.join [4])))
   (.seq (.call 9 812 [8, 2, 2, 2, 2, 2, 2, 2, 2, 2, 2, 2, 2, 2, 2, 2, 2, 2, 2, 2, 2, 2, 2, 2, 2, 2, 2, 2, 2, 2, 2, 2, 2, 2, 2, 2, 2, 2, 2, 2, 2, 2, 2, 2, 2, 2, 2, 2, 2, 2, 2, 2, 2, 2, 10])
     (.seq (.assign 7 (.join [2, 4, 9]))
       (.ret 7)))))⟩

/-- operators/diag_linear_operator.py:ConstantDiagLinearOperator._mul_constant (line 363); formals ['self', 'other'] -/
def f350_operators_diag_linear_operator__ConstantDiagLinearOperator__mul_constant : Fn := ⟨2,
 (.seq (.seq (.assign 3 .fresh)
   (.seq (.assign 5 .fresh)
     (.assign 7 (.join [3]))))
 (.seq (.call 6 812 [5, 2, 2, 2, 2, 2, 2, 2, 2, 2, 2, 2, 2, 2, 2, 2, 2, 2, 2, 2, 2, 2, 2, 2, 2, 2, 2, 2, 2, 2, 2, 2, 2, 2, 2, 2, 2, 2, 2, 2, 2, 2, 2, 2, 2, 2, 2, 2, 2, 2, 2, 2, 2, 2, 7])
   (.seq (.assign 4 (.join [2, 3, 6]))
     (.ret 4))))⟩

/-- operators/diag_linear_operator.py:ConstantDiagLinearOperator._mul_matrix (line 368); formals ['self', 'other'] -/
def f351_operators_diag_linear_operator__ConstantDiagLinearOperator__mul_matrix : Fn := ⟨2,
 (.seq (.ifStar (.seq (.seq (.assign 3 (.view 0))
       (.seq (.assign 4 (.view 1))
         (.ifStar (.assign 5 .fresh) (.ifStar (.call 5 804 [4, 3, 2]) (.call 5 803 [3, 4, 2])))))
     (.seq (.assign 7 .fresh)
       (.seq (.call 6 345 [7, 5, 2])
         (.ret 6)))) .skip)
 (.seq (.call 8 841 [0, 1, 2])
   (.ret 8)))⟩

/-- operators/diag_linear_operator.py:ConstantDiagLinearOperator._prod_batch (line 382); formals ['self', 'dim'] -/
def f352_operators_diag_linear_operator__ConstantDiagLinearOperator__prod_batch : Fn := ⟨2,
 (.seq (.seq (.seq (.assign 4 (.view 0))
     (.call 5 881 [4, 1, 2]))
   (.seq (.assign 3 .fresh)
     (.assign 7 .fresh)))
 (.seq (.seq (.assign 9 (.join [3]))
     (.call 8 812 [7, 2, 2, 2, 2, 2, 2, 2, 2, 2, 2, 2, 2, 2, 2, 2, 2, 2, 2, 2, 2, 2, 2, 2, 2, 2, 2, 2, 2, 2, 2, 2, 2, 2, 2, 2, 2, 2, 2, 2, 2, 2, 2, 2, 2, 2, 2, 2, 2, 2, 2, 2, 2, 2, 9]))
   (.seq (.assign 6 (.join [2, 3, 8]))
     (.ret 6))))⟩

/-- operators/diag_linear_operator.py:ConstantDiagLinearOperator._size (line 385); formals ['self'] -/
def f353_operators_diag_linear_operator__ConstantDiagLinearOperator__size : Fn := ⟨1,
 (.seq (.assign 1 .fresh)
 (.ret 1))⟩

/-- operators/diag_linear_operator.py:ConstantDiagLinearOperator._sum_batch (line 389); formals ['self', 'dim'] -/
def f354_operators_diag_linear_operator__ConstantDiagLinearOperator__sum_batch : Fn := ⟨2,
 (.seq (.seq (.assign 4 (.view 0))
   (.seq (.call 5 835 [4, 1, 2])
     (.assign 3 .fresh)))
 (.seq (.assign 7 .fresh)
   (.seq (.call 6 345 [7, 3, 2])
     (.ret 6))))⟩

/-- operators/diag_linear_operator.py:ConstantDiagLinearOperator.abs (line 392); formals ['self'] -/
def f355_operators_diag_linear_operator__ConstantDiagLinearOperator_abs : Fn := ⟨1,
 (.seq (.seq (.assign 3 (.view 0))
   (.seq (.call 4 867 [3, 1])
     (.assign 2 .fresh)))
 (.seq (.assign 6 .fresh)
   (.seq (.call 5 345 [6, 2, 1])
     (.ret 5))))⟩

/-- operators/diag_linear_operator.py:ConstantDiagLinearOperator.exp (line 398); formals ['self'] -/
def f356_operators_diag_linear_operator__ConstantDiagLinearOperator_exp : Fn := ⟨1,
 (.seq (.seq (.assign 3 (.view 0))
   (.ifStar (.assign 2 .fresh) (.call 2 882 [3, 1])))
 (.seq (.assign 5 .fresh)
   (.seq (.call 4 345 [5, 2, 1])
     (.ret 4))))⟩

/-- operators/diag_linear_operator.py:ConstantDiagLinearOperator.inverse (line 404); formals ['self'] -/
def f357_operators_diag_linear_operator__ConstantDiagLinearOperator_inverse : Fn := ⟨1,
 (.seq (.seq (.assign 2 .fresh)
   (.assign 4 .fresh))
 (.seq (.call 3 345 [4, 2, 1])
   (.ret 3)))⟩

/-- operators/diag_linear_operator.py:ConstantDiagLinearOperator.log (line 410); formals ['self'] -/
def f358_operators_diag_linear_operator__ConstantDiagLinearOperator_log : Fn := ⟨1,
 (.seq (.seq (.assign 3 (.view 0))
   (.seq (.call 4 868 [3, 1])
     (.assign 2 .fresh)))
 (.seq (.assign 6 .fresh)
   (.seq (.call 5 345 [6, 2, 1])
     (.ret 5))))⟩

/-- operators/diag_linear_operator.py:ConstantDiagLinearOperator.matmul (line 416); formals ['self', 'other'] -/
def f359_operators_diag_linear_operator__ConstantDiagLinearOperator_matmul : Fn := ⟨2,
 (.seq (.ifStar (.seq (.call 3 841 [0, 1, 2])
     (.ret 3)) .skip)
 (.seq (.call 4 805 [0, 1, 2])
   (.ret 4)))⟩

def chunk5 : List Fn := [
  f300_operators_dense_linear_operator__DenseLinearOperator__getitem,
  f301_operators_dense_linear_operator__DenseLinearOperator__isclose,
  f302_operators_dense_linear_operator__DenseLinearOperator__matmul,
  f303_operators_dense_linear_operator__DenseLinearOperator__prod_batch,
  f304_operators_dense_linear_operator__DenseLinearOperator__bilinear_derivative,
  f305_operators_dense_linear_operator__DenseLinearOperator__size,
  f306_operators_dense_linear_operator__DenseLinearOperator__sum_batch,
  f307_operators_dense_linear_operator__DenseLinearOperator__transpose_nonbatch,
  f308_operators_dense_linear_operator__DenseLinearOperator__t_matmul,
  f309_operators_dense_linear_operator__DenseLinearOperator_to_dense,
  f310_operators_dense_linear_operator__DenseLinearOperator___add__,
  f311_operators_dense_linear_operator__to_linear_operator,
  f312_operators_diag_linear_operator__DiagLinearOperator___init__,
  f313_operators_diag_linear_operator__DiagLinearOperator___add__,
  f314_operators_diag_linear_operator__DiagLinearOperator__bilinear_derivative,
  f315_operators_diag_linear_operator__DiagLinearOperator__cholesky,
  f316_operators_diag_linear_operator__DiagLinearOperator__cholesky_solve,
  f317_operators_diag_linear_operator__DiagLinearOperator__expand_batch,
  f318_operators_diag_linear_operator__DiagLinearOperator__diagonal,
  f319_operators_diag_linear_operator__DiagLinearOperator__get_indices,
  f320_operators_diag_linear_operator__DiagLinearOperator__mul_constant,
  f321_operators_diag_linear_operator__DiagLinearOperator__mul_matrix,
  f322_operators_diag_linear_operator__DiagLinearOperator__prod_batch,
  f323_operators_diag_linear_operator__DiagLinearOperator__root_decomposition,
  f324_operators_diag_linear_operator__DiagLinearOperator__root_inv_decomposition,
  f325_operators_diag_linear_operator__DiagLinearOperator__size,
  f326_operators_diag_linear_operator__DiagLinearOperator__sum_batch,
  f327_operators_diag_linear_operator__DiagLinearOperator__t_matmul,
  f328_operators_diag_linear_operator__DiagLinearOperator__transpose_nonbatch,
  f329_operators_diag_linear_operator__DiagLinearOperator_abs,
  f330_operators_diag_linear_operator__DiagLinearOperator_add_diagonal,
  f331_operators_diag_linear_operator__DiagLinearOperator_to_dense,
  f332_operators_diag_linear_operator__DiagLinearOperator_exp,
  f333_operators_diag_linear_operator__DiagLinearOperator_inverse,
  f334_operators_diag_linear_operator__DiagLinearOperator_inv_quad_logdet,
  f335_operators_diag_linear_operator__DiagLinearOperator_log,
  f336_operators_diag_linear_operator__DiagLinearOperator_matmul,
  f337_operators_diag_linear_operator__DiagLinearOperator__matmul,
  f338_operators_diag_linear_operator__DiagLinearOperator_solve,
  f339_operators_diag_linear_operator__DiagLinearOperator_solve_triangular,
  f340_operators_diag_linear_operator__DiagLinearOperator_sqrt,
  f341_operators_diag_linear_operator__DiagLinearOperator_sqrt_inv_matmul,
  f342_operators_diag_linear_operator__DiagLinearOperator_zero_mean_mvn_samples,
  f343_operators_diag_linear_operator__DiagLinearOperator__svd,
  f344_operators_diag_linear_operator__DiagLinearOperator__symeig,
  f345_operators_diag_linear_operator__ConstantDiagLinearOperator___init__,
  f346_operators_diag_linear_operator__ConstantDiagLinearOperator___add__,
  f347_operators_diag_linear_operator__ConstantDiagLinearOperator__bilinear_derivative,
  f348_operators_diag_linear_operator__ConstantDiagLinearOperator__diag,
  f349_operators_diag_linear_operator__ConstantDiagLinearOperator__expand_batch,
  f350_operators_diag_linear_operator__ConstantDiagLinearOperator__mul_constant,
  f351_operators_diag_linear_operator__ConstantDiagLinearOperator__mul_matrix,
  f352_operators_diag_linear_operator__ConstantDiagLinearOperator__prod_batch,
  f353_operators_diag_linear_operator__ConstantDiagLinearOperator__size,
  f354_operators_diag_linear_operator__ConstantDiagLinearOperator__sum_batch,
  f355_operators_diag_linear_operator__ConstantDiagLinearOperator_abs,
  f356_operators_diag_linear_operator__ConstantDiagLinearOperator_exp,
  f357_operators_diag_linear_operator__ConstantDiagLinearOperator_inverse,
  f358_operators_diag_linear_operator__ConstantDiagLinearOperator_log,
  f359_operators_diag_linear_operator__ConstantDiagLinearOperator_matmul]

end LinOp.Generated.C13P
