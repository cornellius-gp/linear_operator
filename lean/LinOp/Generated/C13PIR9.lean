import LinOp.C13.Model
import LinOp.Generated.C13PSigma
-- GENERATED by harness/extract/c13_alias.py from /repo/linear_operator (do not edit)
namespace LinOp.Generated.C13P
open LinOp.C13

/-- operators/mul_linear_operator.py:MulLinearOperator._expand_batch (line 131); formals ['self', 'batch_shape'] -/
def f540_operators_mul_linear_operator__MulLinearOperator__expand_batch : Fn := ⟨2,
 (.seq (.seq (.seq (.assign 4 (.view 0))
     (.call 3 817 [4, 1, 2]))
   (.seq (.assign 6 (.view 0))
     (.call 5 817 [6, 1, 2])))
 (.seq (.seq (.assign 8 .fresh)
     (.assign 10 (.join [3, 5])))
   (.seq (.call 9 812 [8, 2, 2, 2, 2, 2, 2, 2, 2, 2, 2, 2, 2, 2, 2, 2, 2, 2, 2, 2, 2, 2, 2, 2, 2, 2, 2, 2, 2, 2, 2, 2, 2, 2, 2, 2, 2, 2, 2, 2, 2, 2, 2, 2, 2, 2, 2, 2, 2, 2, 2, 2, 2, 2, 10])
     (.seq (.assign 7 (.join [3, 5, 9]))
       (.ret 7)))))⟩

/-- operators/mul_linear_operator.py:MulLinearOperator.to_dense (line 139); formals ['self'] -/
def f541_operators_mul_linear_operator__MulLinearOperator_to_dense : Fn := ⟨1,
 (.seq (.seq (.assign 3 (.view 0))
   (.seq (.call 2 778 [3, 1, 1, 1, 1, 1])
     (.assign 5 (.view 0))))
 (.seq (.seq (.call 4 778 [5, 1, 1, 1, 1, 1])
     (.assign 6 .fresh))
   (.seq (.ret 6)
     (.ret 0))))⟩

/-- operators/mul_linear_operator.py:MulLinearOperator._size (line 142); formals ['self'] -/
def f542_operators_mul_linear_operator__MulLinearOperator__size : Fn := ⟨1,
 (.seq (.seq (.assign 3 (.view 0))
   (.call 4 767 [3, 1, 1]))
 (.seq (.assign 2 .fresh)
   (.ret 2)))⟩

/-- operators/mul_linear_operator.py:MulLinearOperator._transpose_nonbatch (line 145); formals ['self'] -/
def f543_operators_mul_linear_operator__MulLinearOperator__transpose_nonbatch : Fn := ⟨1,
 (.ret 0)⟩

/-- operators/mul_linear_operator.py:MulLinearOperator.representation (line 149); formals ['self'] -/
def f544_operators_mul_linear_operator__MulLinearOperator_representation : Fn := ⟨1,
 (.seq (.call 2 814 [0, 1])
 (.seq (.assign 3 (.same 2))
   (.ret 3)))⟩

/-- operators/mul_linear_operator.py:MulLinearOperator.representation_tree (line 156); formals ['self'] -/
def f545_operators_mul_linear_operator__MulLinearOperator_representation_tree : Fn := ⟨1,
 (.seq (.call 2 779 [0, 1])
 (.ret 2))⟩

/-- operators/permutation_linear_operator.py:AbstractPermutationLinearOperator.inverse (line 16); formals ['self'] -/
def f546_operators_permutation_linear_operator__AbstractPermutationLinearOperator_inverse : Fn := ⟨1,
 (.seq (.call 2 829 [0, 1])
 (.ret 2))⟩

/-- operators/permutation_linear_operator.py:AbstractPermutationLinearOperator._solve (line 19); formals ['self', 'rhs', 'preconditioner', 'num_tridiag'] -/
def f547_operators_permutation_linear_operator__AbstractPermutationLinearOperator__solve : Fn := ⟨4,
 (.seq (.seq (.call 5 893 [0, 1, 4])
   (.call 6 827 [0, 4]))
 (.seq (.ifStar (.assign 7 .fresh) (.ifStar (.call 7 798 [1, 6, 4]) (.call 7 797 [6, 1, 4])))
   (.ret 7)))⟩

/-- operators/permutation_linear_operator.py:AbstractPermutationLinearOperator._matmul_check_shape (line 34); formals ['self', 'rhs'] -/
def f548_operators_permutation_linear_operator__AbstractPermutationLinearOperator__matmul_check_shape : Fn := ⟨2,
 .skip⟩

/-- operators/permutation_linear_operator.py:AbstractPermutationLinearOperator._matmul_batch_shape (line 41); formals ['self', 'rhs'] -/
def f549_operators_permutation_linear_operator__AbstractPermutationLinearOperator__matmul_batch_shape : Fn := ⟨2,
 (.seq (.assign 2 .fresh)
 (.ret 2))⟩

/-- operators/permutation_linear_operator.py:AbstractPermutationLinearOperator.dtype (line 45); formals ['self'] -/
def f550_operators_permutation_linear_operator__AbstractPermutationLinearOperator_dtype : Fn := ⟨1,
 (.seq (.assign 1 (.view 0))
 (.ret 1))⟩

/-- operators/permutation_linear_operator.py:PermutationLinearOperator.__init__ (line 64); formals ['self', 'perm', 'inv_perm', 'validate_args'] -/
def f551_operators_permutation_linear_operator__PermutationLinearOperator___init__ : Fn := ⟨4,
 (.seq (.seq (.ifStar (.call 5 894 [0, 4, 4]) (.seq (.assign 6 .fresh)
       (.seq (.assign 7 (.view 6))
         (.assign 2 (.same 7)))))
   (.seq (.assign 0 (.join [0, 1]))
     (.assign 0 (.join [0, 2]))))
 (.seq (.seq (.assign 0 (.join [0, 4]))
     (.assign 9 (.join [1, 2])))
   (.seq (.call 8 812 [0, 4, 4, 4, 4, 4, 4, 4, 4, 4, 4, 4, 4, 4, 4, 4, 4, 4, 4, 4, 4, 4, 4, 4, 4, 4, 4, 4, 4, 4, 4, 4, 4, 4, 4, 4, 3, 4, 4, 4, 4, 4, 4, 4, 4, 4, 4, 4, 4, 4, 4, 4, 4, 4, 9])
     (.ret 0))))⟩

/-- operators/permutation_linear_operator.py:PermutationLinearOperator._matmul (line 98); formals ['self', 'rhs'] -/
def f552_operators_permutation_linear_operator__PermutationLinearOperator__matmul : Fn := ⟨2,
 (.seq (.seq (.seq (.seq (.call 3 893 [0, 1, 2])
       (.call 4 895 [0, 1, 2]))
     (.seq (.assign 5 (.same 4))
       (.assign 6 (.view 1))))
   (.seq (.seq (.assign 7 (.same 6))
       (.call 8 894 [0, 5, 2]))
     (.seq (.assign 9 (.same 8))
       (.assign 10 .fresh))))
 (.seq (.seq (.seq (.assign 12 (.view 9))
       (.assign 11 (.same 12)))
     (.seq (.whileStar ⟨[[0], [1], [], [], [], [], [1], [1]], [], []⟩ (.seq (.seq (.assign 13 (.view 9))
             (.assign 11 (.same 13)))
           (.seq (.ifStar (.assign 14 (.view 11)) (.call 14 782 [11, 2, 2]))
             (.assign 10 (.join [10, 14])))))
       (.assign 15 (.join [10]))))
   (.seq (.seq (.assign 9 (.same 15))
       (.assign 17 (.view 0)))
     (.seq (.ifStar .skip (.call 16 782 [17, 2, 2]))
       (.seq (.assign 18 (.maybeView 7))
         (.ret 18))))))⟩

/-- operators/permutation_linear_operator.py:PermutationLinearOperator._batch_indexing_helper (line 117); formals ['self', 'batch_shape'] -/
def f553_operators_permutation_linear_operator__PermutationLinearOperator__batch_indexing_helper : Fn := ⟨2,
 (.seq (.seq (.assign 2 .fresh)
   (.whileStar ⟨[[0], [1]], [], []⟩ (.seq (.assign 4 .fresh)
       (.seq (.assign 3 (.view 4))
         (.assign 2 (.join [2, 3]))))))
 (.seq (.assign 5 (.join [2]))
   (.ret 5)))⟩

/-- operators/permutation_linear_operator.py:PermutationLinearOperator._size (line 131); formals ['self'] -/
def f554_operators_permutation_linear_operator__PermutationLinearOperator__size : Fn := ⟨1,
 (.seq (.assign 1 .fresh)
 (.ret 1))⟩

/-- operators/permutation_linear_operator.py:PermutationLinearOperator._transpose_nonbatch (line 134); formals ['self'] -/
def f555_operators_permutation_linear_operator__PermutationLinearOperator__transpose_nonbatch : Fn := ⟨1,
 (.seq (.seq (.assign 2 (.view 0))
   (.assign 3 (.view 0)))
 (.seq (.assign 5 .fresh)
   (.seq (.call 4 551 [5, 2, 3, 1])
     (.ret 4))))⟩

/-- operators/permutation_linear_operator.py:PermutationLinearOperator.to_sparse (line 137); formals ['self'] -/
def f556_operators_permutation_linear_operator__PermutationLinearOperator_to_sparse : Fn := ⟨1,
 (.seq (.assign 1 .fresh)
 (.ret 1))⟩

/-- operators/permutation_linear_operator.py:TransposePermutationLinearOperator.__init__ (line 160); formals ['self', 'm'] -/
def f557_operators_permutation_linear_operator__TransposePermutationLinearOperator___init__ : Fn := ⟨2,
 (.seq (.seq (.call 3 812 [0, 2, 2, 2, 2, 2, 2, 2, 2, 2, 2, 2, 2, 2, 2, 2, 2, 2, 2, 2, 2, 2, 2, 2, 2, 2, 2, 2, 2, 2, 2, 2, 2, 2, 2, 2, 2, 1, 2, 2, 2, 2, 2, 2, 2, 2, 2, 2, 2, 2, 2, 2, 2, 2, 2])
   (.assign 0 (.join [0, 2])))
 (.seq (.assign 0 (.join [0, 1]))
   (.seq (.assign 0 (.join [0, 2]))
     (.ret 0))))⟩

/-- operators/permutation_linear_operator.py:TransposePermutationLinearOperator._matmul (line 169); formals ['self', 'rhs'] -/
def f558_operators_permutation_linear_operator__TransposePermutationLinearOperator__matmul : Fn := ⟨2,
 (.seq (.seq (.call 3 893 [0, 1, 2])
   (.assign 6 (.view 1)))
 (.seq (.assign 5 (.view 6))
   (.seq (.assign 4 (.maybeView 5))
     (.ret 4))))⟩

/-- operators/permutation_linear_operator.py:TransposePermutationLinearOperator._get_indices (line 176); formals ['self', 'row_index', 'col_index', 'batch_indices'] -/
def f559_operators_permutation_linear_operator__TransposePermutationLinearOperator__get_indices : Fn := ⟨4,
 (.seq (.seq (.assign 5 .fresh)
   (.seq (.assign 6 (.view 0))
     (.ifStar .skip (.ifStar (.call 7 804 [6, 5, 4]) (.call 7 803 [5, 6, 4])))))
 (.seq (.assign 9 .fresh)
   (.seq (.assign 8 (.maybeView 9))
     (.ret 8))))⟩

/-- operators/permutation_linear_operator.py:TransposePermutationLinearOperator._size (line 181); formals ['self'] -/
def f560_operators_permutation_linear_operator__TransposePermutationLinearOperator__size : Fn := ⟨1,
 (.seq (.assign 1 .fresh)
 (.ret 1))⟩

/-- operators/permutation_linear_operator.py:TransposePermutationLinearOperator._transpose_nonbatch (line 184); formals ['self'] -/
def f561_operators_permutation_linear_operator__TransposePermutationLinearOperator__transpose_nonbatch : Fn := ⟨1,
 (.ret 0)⟩

/-- operators/permutation_linear_operator.py:TransposePermutationLinearOperator.dtype (line 188); formals ['self'] -/
def f562_operators_permutation_linear_operator__TransposePermutationLinearOperator_dtype : Fn := ⟨1,
 (.seq (.assign 1 (.view 0))
 (.ret 1))⟩

/-- operators/permutation_linear_operator.py:TransposePermutationLinearOperator.type (line 191); formals ['self', 'dtype'] -/
def f563_operators_permutation_linear_operator__TransposePermutationLinearOperator_type : Fn := ⟨2,
 (.seq (.assign 0 (.join [0, 1]))
 (.ret 0))⟩

/-- operators/permutation_linear_operator.py:TransposePermutationLinearOperator.device (line 196); formals ['self'] -/
def f564_operators_permutation_linear_operator__TransposePermutationLinearOperator_device : Fn := ⟨1,
 (.ret 1)⟩

/-- operators/psd_sum_linear_operator.py:PsdSumLinearOperator.zero_mean_mvn_samples (line 14); formals ['self', 'num_samples'] -/
def f565_operators_psd_sum_linear_operator__PsdSumLinearOperator_zero_mean_mvn_samples : Fn := ⟨2,
 (.seq (.seq (.assign 3 .fresh)
   (.seq (.assign 5 (.view 0))
     (.assign 6 (.view 5))))
 (.seq (.seq (.assign 4 (.same 6))
     (.whileStar ⟨[[0], [1], [], [0], [0], [0], [0], [0], [0], [0]], [], []⟩ (.seq (.seq (.assign 7 (.view 0))
           (.assign 8 (.view 7)))
         (.seq (.assign 4 (.same 8))
           (.seq (.ifStar (.assign 9 .fresh) (.call 9 875 [4, 1, 2]))
             (.assign 3 (.join [3, 9])))))))
   (.seq (.assign 10 .fresh)
     (.ret 10))))⟩

/-- operators/root_linear_operator.py:RootLinearOperator.__init__ (line 18); formals ['self', 'root', 'kwargs'] -/
def f566_operators_root_linear_operator__RootLinearOperator___init__ : Fn := ⟨3,
 (.seq (.seq (.call 3 311 [1])
   (.seq (.assign 1 (.same 3))
     (.assign 4 (.join [2]))))
 (.seq (.seq (.assign 6 (.join [1, 4]))
     (.call 5 812 [0, 4, 4, 4, 4, 4, 4, 4, 4, 4, 4, 4, 4, 4, 4, 4, 4, 4, 4, 4, 4, 4, 4, 4, 4, 4, 4, 4, 4, 4, 4, 4, 4, 4, 4, 4, 4, 4, 4, 4, 4, 4, 4, 4, 4, 4, 4, 4, 4, 4, 4, 4, 4, 4, 6]))
   (.seq (.assign 0 (.join [0, 1]))
     (.ret 0))))⟩

/-- operators/root_linear_operator.py:RootLinearOperator._diagonal (line 23); formals ['self'] -/
def f567_operators_root_linear_operator__RootLinearOperator__diagonal : Fn := ⟨1,
 (.ifStar (.seq (.seq (.assign 3 .fresh)
     (.call 4 835 [3, 1, 1]))
   (.seq (.assign 2 .fresh)
     (.ret 2))) (.seq (.call 5 818 [0, 1])
   (.ret 5)))⟩

/-- operators/root_linear_operator.py:RootLinearOperator._expand_batch (line 29); formals ['self', 'batch_shape'] -/
def f568_operators_root_linear_operator__RootLinearOperator__expand_batch : Fn := ⟨2,
 (.seq (.seq (.seq (.ifStar (.ret 0) .skip)
     (.seq (.assign 4 (.view 0))
       (.ifStar (.assign 3 .fresh) (.call 3 817 [4, 1, 2]))))
   (.seq (.assign 5 (.view 0))
     (.seq (.ifStar (.call 5 811 [0, 2]) .skip)
       (.assign 6 (.same 5)))))
 (.seq (.seq (.assign 7 (.join [6]))
     (.seq (.assign 9 .fresh)
       (.assign 11 (.join [3, 7]))))
   (.seq (.call 10 812 [9, 7, 7, 7, 7, 7, 7, 7, 7, 7, 7, 7, 7, 7, 7, 7, 7, 7, 7, 7, 7, 7, 7, 7, 7, 7, 7, 7, 7, 7, 7, 7, 7, 7, 7, 7, 7, 7, 7, 7, 7, 7, 7, 7, 7, 7, 7, 7, 7, 7, 7, 7, 7, 7, 11])
     (.seq (.assign 8 (.join [3, 7, 10]))
       (.ret 8)))))⟩

/-- operators/root_linear_operator.py:RootLinearOperator._get_indices (line 36); formals ['self', 'row_index', 'col_index', 'batch_indices'] -/
def f569_operators_root_linear_operator__RootLinearOperator__get_indices : Fn := ⟨4,
 (.seq (.seq (.seq (.seq (.ifStar (.assign 5 (.view 1)) (.call 5 782 [1, 4, 4]))
       (.seq (.assign 1 (.same 5))
         (.ifStar (.assign 6 (.view 2)) (.call 6 782 [2, 4, 4]))))
     (.seq (.assign 2 (.same 6))
       (.seq (.assign 7 .fresh)
         (.assign 9 (.view 3)))))
   (.seq (.seq (.assign 8 (.same 9))
       (.seq (.whileStar ⟨[[0], [1], [2], [3], [], [1], [2], [3], [3], [3], [3], [3]], [], []⟩ (.seq (.seq (.assign 10 (.view 3))
               (.assign 8 (.same 10)))
             (.seq (.ifStar (.assign 11 (.view 8)) (.call 11 782 [8, 4, 4]))
               (.assign 7 (.join [7, 11])))))
         (.assign 12 (.join [7]))))
     (.seq (.assign 3 (.same 12))
       (.seq (.assign 13 (.view 0))
         (.call 14 767 [13, 4, 4])))))
 (.seq (.seq (.seq (.assign 15 .fresh)
       (.seq (.assign 16 (.same 15))
         (.call 17 808 [1, 4])))
     (.seq (.call 18 704 [16, 4, 4])
       (.seq (.assign 16 (.same 18))
         (.assign 19 (.join [3])))))
   (.seq (.seq (.assign 21 (.view 0))
       (.seq (.assign 22 (.join [19]))
         (.ifStar (.assign 20 .fresh) (.call 20 857 [21, 1, 16, 22]))))
     (.seq (.assign 23 (.same 20))
       (.seq (.ifStar (.seq (.assign 24 .fresh)
             (.assign 25 (.same 24))) (.seq (.seq (.seq (.assign 26 (.join [3]))
                 (.assign 28 (.view 0)))
               (.seq (.assign 29 (.join [26]))
                 (.ifStar (.assign 27 .fresh) (.call 27 857 [28, 2, 16, 29]))))
             (.seq (.seq (.assign 30 (.same 27))
                 (.ifStar (.assign 32 .fresh) (.ifStar (.call 32 804 [30, 23, 4]) (.call 32 803 [23, 30, 4]))))
               (.seq (.call 33 835 [32, 4, 4])
                 (.seq (.assign 31 .fresh)
                 (.assign 25 (.same 31)))))))
         (.ret 25))))))⟩

/-- operators/root_linear_operator.py:RootLinearOperator._getitem (line 51); formals ['self', 'row_index', 'col_index', 'batch_indices'] -/
def f570_operators_root_linear_operator__RootLinearOperator__getitem : Fn := ⟨4,
 (.seq (.seq (.seq (.ifStar (.seq (.call 5 837 [1, 4])
         (.ifStar (.seq (.seq (.assign 6 (.join [3]))
               (.seq (.call 8 778 [0, 4, 4, 4, 4, 4])
                 (.call 9 311 [8])))
             (.seq (.assign 10 (.join [6]))
               (.seq (.ifStar (.assign 7 .fresh) (.call 7 813 [9, 1, 2, 10]))
                 (.ret 7)))) .skip)) .skip)
     (.assign 11 (.join [3])))
   (.seq (.assign 13 (.view 0))
     (.assign 14 (.join [11]))))
 (.seq (.seq (.ifStar (.assign 12 .fresh) (.call 12 813 [13, 1, 4, 14]))
     (.assign 15 (.same 12)))
   (.seq (.call 16 716 [1, 2])
     (.seq (.ifStar (.seq (.seq (.assign 18 .fresh)
             (.assign 20 (.join [15])))
           (.seq (.call 19 812 [18, 4, 4, 4, 4, 4, 4, 4, 4, 4, 4, 4, 4, 4, 4, 4, 4, 4, 4, 4, 4, 4, 4, 4, 4, 4, 4, 4, 4, 4, 4, 4, 4, 4, 4, 4, 4, 4, 4, 4, 4, 4, 4, 4, 4, 4, 4, 4, 4, 4, 4, 4, 4, 4, 20])
             (.seq (.assign 17 (.join [15, 19]))
               (.assign 21 (.same 17))))) (.seq (.seq (.seq (.assign 22 (.join [3]))
               (.assign 24 (.view 0)))
             (.seq (.assign 25 (.join [22]))
               (.seq (.ifStar (.assign 23 .fresh) (.call 23 813 [24, 2, 4, 25]))
                 (.assign 26 (.same 23)))))
           (.seq (.seq (.assign 27 (.view 26))
               (.seq (.ifStar (.call 27 777 [26, 4]) .skip)
                 (.assign 28 (.same 27))))
             (.seq (.assign 30 .fresh)
               (.seq (.call 29 521 [30, 15, 28])
                 (.assign 21 (.same 29)))))))
       (.ret 21)))))⟩

/-- operators/root_linear_operator.py:RootLinearOperator._matmul (line 67); formals ['self', 'rhs'] -/
def f571_operators_root_linear_operator__RootLinearOperator__matmul : Fn := ⟨2,
 (.seq (.seq (.assign 4 (.view 0))
   (.ifStar (.assign 3 .fresh) (.call 3 878 [4, 1, 2])))
 (.seq (.assign 6 (.view 0))
   (.seq (.ifStar (.assign 5 .fresh) (.call 5 815 [6, 3, 2]))
     (.ret 5))))⟩

/-- operators/root_linear_operator.py:RootLinearOperator._mul_constant (line 73); formals ['self', 'other'] -/
def f572_operators_root_linear_operator__RootLinearOperator__mul_constant : Fn := ⟨2,
 (.seq (.ifStar (.seq (.seq (.seq (.assign 3 .fresh)
         (.assign 5 (.view 0)))
       (.seq (.ifStar (.assign 4 .fresh) (.call 4 840 [5, 3, 2]))
         (.assign 7 .fresh)))
     (.seq (.seq (.assign 9 (.join [4]))
         (.call 8 812 [7, 2, 2, 2, 2, 2, 2, 2, 2, 2, 2, 2, 2, 2, 2, 2, 2, 2, 2, 2, 2, 2, 2, 2, 2, 2, 2, 2, 2, 2, 2, 2, 2, 2, 2, 2, 2, 2, 2, 2, 2, 2, 2, 2, 2, 2, 2, 2, 2, 2, 2, 2, 2, 2, 9]))
       (.seq (.assign 6 (.join [4, 8]))
         (.assign 10 (.same 6))))) (.seq (.call 11 840 [0, 1, 2])
     (.assign 10 (.same 11))))
 (.ret 10))⟩

/-- operators/root_linear_operator.py:RootLinearOperator._t_matmul (line 82); formals ['self', 'rhs'] -/
def f573_operators_root_linear_operator__RootLinearOperator__t_matmul : Fn := ⟨2,
 (.seq (.call 3 815 [0, 1, 2])
 (.ret 3))⟩

/-- operators/root_linear_operator.py:RootLinearOperator.add_low_rank (line 89); formals ['self', 'low_rank_mat', 'root_decomp_method', 'root_inv_decomp_method', 'generate_roots', 'root_decomp_kwargs'] -/
def f574_operators_root_linear_operator__RootLinearOperator_add_low_rank : Fn := ⟨6,
 (.seq (.call 7 855 [0, 1, 6, 3, 6, 6])
 (.ret 7))⟩

/-- operators/root_linear_operator.py:RootLinearOperator.root_decomposition (line 99); formals ['self', 'method'] -/
def f575_operators_root_linear_operator__RootLinearOperator_root_decomposition : Fn := ⟨2,
 (.ret 0)⟩

/-- operators/root_linear_operator.py:RootLinearOperator._root_decomposition (line 104); formals ['self'] -/
def f576_operators_root_linear_operator__RootLinearOperator__root_decomposition : Fn := ⟨1,
 (.seq (.assign 1 (.view 0))
 (.ret 1))⟩

/-- operators/root_linear_operator.py:RootLinearOperator._root_decomposition_size (line 109); formals ['self'] -/
def f577_operators_root_linear_operator__RootLinearOperator__root_decomposition_size : Fn := ⟨1,
 (.seq (.seq (.assign 3 (.view 0))
   (.call 4 767 [3, 1, 1]))
 (.seq (.assign 2 .fresh)
   (.ret 2)))⟩

/-- operators/root_linear_operator.py:RootLinearOperator._size (line 112); formals ['self'] -/
def f578_operators_root_linear_operator__RootLinearOperator__size : Fn := ⟨1,
 (.seq (.seq (.assign 2 (.view 0))
   (.seq (.call 3 767 [2, 1, 1])
     (.assign 4 (.view 0))))
 (.seq (.call 5 767 [4, 1, 1])
   (.seq (.assign 6 .fresh)
     (.ret 6))))⟩

/-- operators/root_linear_operator.py:RootLinearOperator._transpose_nonbatch (line 115); formals ['self'] -/
def f579_operators_root_linear_operator__RootLinearOperator__transpose_nonbatch : Fn := ⟨1,
 (.ret 0)⟩

/-- operators/root_linear_operator.py:RootLinearOperator.to_dense (line 119); formals ['self'] -/
def f580_operators_root_linear_operator__RootLinearOperator_to_dense : Fn := ⟨1,
 (.seq (.seq (.assign 3 (.view 0))
   (.seq (.ifStar (.assign 2 (.maybeView 3)) (.call 2 778 [3, 1, 1, 1, 1, 1]))
     (.assign 4 (.same 2))))
 (.seq (.seq (.ifStar (.call 5 777 [4, 1]) .skip)
     (.assign 6 .fresh))
   (.seq (.ret 6)
     (.ret 0))))⟩

/-- operators/sum_batch_linear_operator.py:SumBatchLinearOperator._add_batch_dim (line 29); formals ['self', 'other'] -/
def f581_operators_sum_batch_linear_operator__SumBatchLinearOperator__add_batch_dim : Fn := ⟨2,
 (.seq (.seq (.seq (.seq (.assign 3 (.join [2]))
       (.assign 4 (.same 3)))
     (.seq (.assign 5 (.join [2]))
       (.assign 6 (.same 5))))
   (.seq (.seq (.assign 4 (.join [2, 4]))
       (.assign 8 (.view 0)))
     (.seq (.call 9 767 [8, 2, 2])
       (.assign 7 .fresh))))
 (.seq (.seq (.seq (.assign 6 (.join [2, 6, 7]))
       (.assign 10 (.join [6])))
     (.seq (.assign 12 (.join [4]))
       (.assign 14 (.join [12]))))
   (.seq (.seq (.ifStar (.assign 13 (.maybeView 1)) (.call 13 856 [1, 14]))
       (.assign 15 (.join [10])))
     (.seq (.ifStar (.assign 11 (.view 13)) (.call 11 776 [13, 15]))
       (.seq (.assign 1 (.same 11))
         (.ret 1))))))⟩

/-- operators/sum_batch_linear_operator.py:SumBatchLinearOperator._diagonal (line 37); formals ['self'] -/
def f582_operators_sum_batch_linear_operator__SumBatchLinearOperator__diagonal : Fn := ⟨1,
 (.seq (.seq (.assign 4 (.view 0))
   (.call 3 818 [4, 1]))
 (.seq (.assign 2 .fresh)
   (.seq (.assign 5 (.same 2))
     (.ret 5))))⟩

/-- operators/sum_batch_linear_operator.py:SumBatchLinearOperator._get_indices (line 41); formals ['self', 'row_index', 'col_index', 'batch_indices'] -/
def f583_operators_sum_batch_linear_operator__SumBatchLinearOperator__get_indices : Fn := ⟨4,
 (.seq (.seq (.seq (.seq (.assign 5 (.view 0))
       (.seq (.call 6 767 [5, 4, 4])
         (.assign 7 .fresh)))
     (.seq (.assign 8 (.same 7))
       (.seq (.call 10 808 [1, 4])
         (.assign 9 .fresh))))
   (.seq (.seq (.call 11 704 [8, 9, 4])
       (.seq (.assign 8 (.same 11))
         (.ifStar (.assign 12 (.view 1)) (.call 12 782 [1, 4, 4]))))
     (.seq (.assign 1 (.same 12))
       (.seq (.ifStar (.assign 13 (.view 2)) (.call 13 782 [2, 4, 4]))
         (.assign 2 (.same 13))))))
 (.seq (.seq (.seq (.assign 14 .fresh)
       (.seq (.assign 16 (.view 3))
         (.assign 15 (.same 16))))
     (.seq (.whileStar ⟨[[0], [1], [2], [3], [], [0], [0], [], [], [], [], [], [1], [2], [3], [3], [3], [3], [3]], [], []⟩ (.seq (.seq (.assign 17 (.view 3))
             (.assign 15 (.same 17)))
           (.seq (.ifStar (.assign 18 (.view 15)) (.call 18 782 [15, 4, 4]))
             (.assign 14 (.join [14, 18])))))
       (.seq (.assign 3 (.same 14))
         (.assign 19 (.join [3])))))
   (.seq (.seq (.assign 21 (.view 0))
       (.seq (.assign 22 (.join [8, 19]))
         (.call 20 857 [21, 1, 2, 22])))
     (.seq (.seq (.assign 23 (.same 20))
         (.call 25 835 [23, 4, 4]))
       (.seq (.assign 24 .fresh)
         (.ret 24))))))⟩

/-- operators/sum_batch_linear_operator.py:SumBatchLinearOperator._getitem (line 52); formals ['self', 'row_index', 'col_index', 'batch_indices'] -/
def f584_operators_sum_batch_linear_operator__SumBatchLinearOperator__getitem : Fn := ⟨4,
 (.seq (.seq (.seq (.assign 5 (.join [3]))
     (.seq (.assign 7 (.view 0))
       (.assign 8 (.join [4, 5]))))
   (.seq (.seq (.call 6 813 [7, 1, 2, 8])
       (.assign 9 (.same 6)))
     (.seq (.assign 10 (.view 0))
       (.ifStar (.call 10 811 [0, 4]) .skip))))
 (.seq (.seq (.assign 11 (.same 10))
     (.seq (.assign 12 (.join [11]))
       (.assign 14 .fresh)))
   (.seq (.seq (.assign 16 (.join [9, 12]))
       (.call 15 812 [14, 12, 12, 12, 12, 12, 12, 12, 12, 12, 12, 12, 12, 12, 12, 12, 12, 12, 12, 12, 12, 12, 12, 12, 12, 12, 12, 12, 12, 12, 12, 12, 12, 12, 12, 12, 12, 12, 12, 12, 12, 12, 12, 12, 12, 12, 12, 12, 12, 12, 12, 12, 12, 12, 16]))
     (.seq (.assign 13 (.join [9, 12, 15]))
       (.ret 13)))))⟩

/-- operators/sum_batch_linear_operator.py:SumBatchLinearOperator._remove_batch_dim (line 56); formals ['self', 'other'] -/
def f585_operators_sum_batch_linear_operator__SumBatchLinearOperator__remove_batch_dim : Fn := ⟨2,
 (.seq (.call 4 835 [1, 2, 2])
 (.seq (.assign 3 .fresh)
   (.ret 3)))⟩

/-- operators/sum_batch_linear_operator.py:SumBatchLinearOperator._size (line 59); formals ['self'] -/
def f586_operators_sum_batch_linear_operator__SumBatchLinearOperator__size : Fn := ⟨1,
 (.seq (.assign 1 .fresh)
 (.ret 1))⟩

/-- operators/sum_batch_linear_operator.py:SumBatchLinearOperator.to_dense (line 64); formals ['self'] -/
def f587_operators_sum_batch_linear_operator__SumBatchLinearOperator_to_dense : Fn := ⟨1,
 (.seq (.seq (.assign 4 (.view 0))
   (.call 3 778 [4, 1, 1, 1, 1, 1]))
 (.seq (.assign 2 .fresh)
   (.ret 2)))⟩

/-- operators/sum_kronecker_linear_operator.py:SumKroneckerLinearOperator._sum_formulation (line 30); formals ['self'] -/
def f588_operators_sum_kronecker_linear_operator__SumKroneckerLinearOperator__sum_formulation : Fn := ⟨1,
 (.seq (.seq (.seq (.seq (.assign 2 (.view 0))
       (.seq (.assign 3 (.view 2))
         (.assign 4 (.same 3))))
     (.seq (.seq (.assign 5 (.view 0))
         (.assign 6 (.view 5)))
       (.seq (.assign 7 (.same 6))
         (.assign 8 .fresh))))
   (.seq (.seq (.assign 10 (.view 7))
       (.seq (.assign 11 (.view 10))
         (.assign 9 (.same 11))))
     (.seq (.seq (.whileStar ⟨[[0], [], [0], [0], [0], [0], [0], [0], [0], [0], [0], [0], [0], [0], [0], [0]], [], []⟩ (.seq (.seq (.assign 12 (.view 7))
               (.seq (.assign 13 (.view 12))
                 (.assign 9 (.same 13))))
             (.seq (.ifStar (.assign 14 .fresh) (.call 14 773 [9, 1, 1, 1, 1]))
               (.seq (.assign 15 (.view 14))
                 (.assign 8 (.join [8, 15]))))))
         (.assign 16 (.same 8)))
       (.seq (.assign 17 .fresh)
         (.assign 20 (.view 4))))))
 (.seq (.seq (.seq (.assign 21 (.view 16))
       (.seq (.assign 18 (.same 21))
         (.assign 22 (.view 20))))
     (.seq (.seq (.assign 19 (.same 22))
         (.whileStar ⟨[[0], [], [0], [0], [0], [0], [0], [0], [0], [0], [0], [0], [0], [0], [0], [0], [0], [0], [0], [0], [0], [0], [0], [0], [0], [0], [0], [0], [0], [0]], [], []⟩ (.seq (.seq (.seq (.assign 23 (.view 4))
                 (.assign 24 (.view 16)))
               (.seq (.assign 18 (.same 24))
                 (.seq (.assign 25 (.view 23))
                 (.assign 19 (.same 25)))))
             (.seq (.seq (.assign 28 (.view 18))
                 (.seq (.ifStar (.call 28 777 [18, 1]) .skip)
                 (.assign 29 (.same 28))))
               (.seq (.ifStar (.assign 27 .fresh) (.call 27 805 [29, 19, 1]))
                 (.seq (.ifStar (.assign 26 .fresh) (.call 26 805 [27, 18, 1]))
                 (.assign 17 (.join [17, 26]))))))))
       (.seq (.assign 30 (.same 17))
         (.assign 32 (.join [30])))))
   (.seq (.seq (.assign 34 .fresh)
       (.seq (.assign 35 (.join [32]))
         (.assign 36 (.join [32]))))
     (.seq (.seq (.call 33 449 [34, 35, 36])
         (.call 31 766 [33, 1, 1]))
       (.seq (.assign 37 (.same 31))
         (.ret 37))))))⟩

/-- operators/sum_kronecker_linear_operator.py:SumKroneckerLinearOperator._solve (line 41); formals ['self', 'rhs', 'preconditioner', 'num_tridiag'] -/
def f589_operators_sum_kronecker_linear_operator__SumKroneckerLinearOperator__solve : Fn := ⟨4,
 (.seq (.seq (.seq (.seq (.assign 5 (.view 0))
       (.seq (.ifStar (.call 5 896 [0, 4]) .skip)
         (.assign 6 (.same 5))))
     (.seq (.seq (.assign 7 (.same 6))
         (.assign 8 .fresh))
       (.seq (.assign 10 (.view 0))
         (.assign 11 (.view 10)))))
   (.seq (.seq (.assign 12 (.view 11))
       (.seq (.assign 13 (.view 12))
         (.assign 9 (.same 13))))
     (.seq (.seq (.whileStar ⟨[[0], [1], [2], [3], [], [0], [0], [0], [0], [0], [0], [0], [0], [0], [0], [0], [0], [0], [0], [0]], [], []⟩ (.seq (.seq (.seq (.assign 14 (.view 0))
                 (.assign 15 (.view 14)))
               (.seq (.assign 16 (.view 15))
                 (.assign 17 (.view 16))))
             (.seq (.seq (.assign 9 (.same 17))
                 (.ifStar (.assign 18 .fresh) (.call 18 773 [9, 4, 4, 4, 4])))
               (.seq (.assign 19 (.view 18))
                 (.assign 8 (.join [8, 19]))))))
         (.assign 20 (.same 8)))
       (.seq (.assign 21 (.join [20]))
         (.assign 23 .fresh)))))
 (.seq (.seq (.seq (.assign 24 (.join [21]))
       (.seq (.assign 25 (.join [21]))
         (.call 22 449 [23, 24, 25])))
     (.seq (.seq (.assign 26 (.same 22))
         (.assign 28 (.view 26)))
       (.seq (.ifStar (.call 28 777 [26, 4]) .skip)
         (.assign 29 (.same 28)))))
   (.seq (.seq (.call 27 805 [29, 1, 4])
       (.seq (.assign 30 (.same 27))
         (.ifStar (.assign 31 .fresh) (.call 31 774 [7, 30, 4, 4]))))
     (.seq (.seq (.assign 30 (.same 31))
         (.call 32 805 [26, 30, 4]))
       (.seq (.assign 30 (.same 32))
         (.ret 30))))))⟩

/-- operators/sum_kronecker_linear_operator.py:SumKroneckerLinearOperator._mul_constant (line 67); formals ['self', 'other'] -/
def f590_operators_sum_kronecker_linear_operator__SumKroneckerLinearOperator__mul_constant : Fn := ⟨2,
 (.seq (.seq (.seq (.assign 3 .fresh)
     (.assign 5 (.view 0)))
   (.seq (.assign 6 (.view 5))
     (.seq (.assign 4 (.same 6))
       (.whileStar ⟨[[0], [1], [], [0, 1], [0], [0], [0], [0], [0], [0, 1]], [], []⟩ (.seq (.seq (.assign 7 (.view 0))
             (.assign 8 (.view 7)))
           (.seq (.assign 4 (.same 8))
             (.seq (.ifStar (.assign 9 .fresh) (.call 9 840 [4, 1, 2]))
               (.assign 3 (.join [3, 9])))))))))
 (.seq (.seq (.assign 10 (.join [3]))
     (.seq (.assign 12 .fresh)
       (.assign 13 (.join [10]))))
   (.seq (.assign 14 (.join [10]))
     (.seq (.call 11 595 [12, 13, 14])
       (.ret 11)))))⟩

/-- operators/sum_kronecker_linear_operator.py:SumKroneckerLinearOperator._logdet (line 74); formals ['self'] -/
def f591_operators_sum_kronecker_linear_operator__SumKroneckerLinearOperator__logdet : Fn := ⟨1,
 (.seq (.seq (.seq (.assign 2 (.view 0))
     (.ifStar (.call 2 896 [0, 1]) .skip))
   (.seq (.assign 3 (.same 2))
     (.seq (.assign 4 (.same 3))
       (.assign 6 (.view 0)))))
 (.seq (.seq (.assign 7 (.view 6))
     (.seq (.ifStar (.assign 5 .fresh) (.call 5 889 [7, 1]))
       (.assign 8 (.same 5))))
   (.seq (.ifStar (.assign 9 .fresh) (.call 9 888 [4, 1]))
     (.seq (.ifStar (.assign 10 .fresh) (.ifStar (.call 10 826 [8, 9, 1, 1]) (.call 10 825 [9, 8, 1])))
       (.ret 10)))))⟩

/-- operators/sum_kronecker_linear_operator.py:SumKroneckerLinearOperator._root_decomposition (line 79); formals ['self'] -/
def f592_operators_sum_kronecker_linear_operator__SumKroneckerLinearOperator__root_decomposition : Fn := ⟨1,
 (.seq (.seq (.seq (.seq (.assign 2 (.view 0))
       (.ifStar (.call 2 896 [0, 1]) .skip))
     (.seq (.assign 3 (.same 2))
       (.seq (.assign 4 (.same 3))
         (.assign 5 .fresh))))
   (.seq (.seq (.assign 7 (.view 0))
       (.seq (.assign 8 (.view 7))
         (.assign 9 (.view 8))))
     (.seq (.assign 10 (.view 9))
       (.seq (.assign 6 (.same 10))
         (.whileStar ⟨[[0], [], [0], [0], [0], [0], [0], [0], [0], [0], [0], [0], [0], [0], [0], [0], [0]], [], []⟩ (.seq (.seq (.seq (.assign 11 (.view 0))
                 (.assign 12 (.view 11)))
               (.seq (.assign 13 (.view 12))
                 (.assign 14 (.view 13))))
             (.seq (.seq (.assign 6 (.same 14))
                 (.ifStar (.assign 15 .fresh) (.call 15 772 [6, 1, 1])))
               (.seq (.assign 16 (.view 15))
                 (.assign 5 (.join [5, 16]))))))))))
 (.seq (.seq (.seq (.assign 17 (.join [5]))
       (.seq (.assign 19 .fresh)
         (.assign 20 (.join [17]))))
     (.seq (.assign 21 (.join [17]))
       (.seq (.call 18 449 [19, 20, 21])
         (.assign 22 (.same 18)))))
   (.seq (.seq (.ifStar (.assign 23 .fresh) (.call 23 772 [4, 1, 1]))
       (.seq (.assign 24 (.view 23))
         (.assign 25 (.same 24))))
     (.seq (.call 26 805 [22, 25, 1])
       (.seq (.assign 27 (.same 26))
         (.ret 27))))))⟩

/-- operators/sum_kronecker_linear_operator.py:SumKroneckerLinearOperator._root_inv_decomposition (line 90); formals ['self', 'initial_vectors', 'test_vectors'] -/
def f593_operators_sum_kronecker_linear_operator__SumKroneckerLinearOperator__root_inv_decomposition : Fn := ⟨3,
 (.seq (.seq (.seq (.seq (.assign 4 (.view 0))
       (.ifStar (.call 4 896 [0, 3]) .skip))
     (.seq (.assign 5 (.same 4))
       (.seq (.assign 6 (.same 5))
         (.assign 7 .fresh))))
   (.seq (.seq (.assign 9 (.view 0))
       (.seq (.assign 10 (.view 9))
         (.assign 11 (.view 10))))
     (.seq (.assign 12 (.view 11))
       (.seq (.assign 8 (.same 12))
         (.whileStar ⟨[[0], [1], [2], [], [0], [0], [0], [0], [0], [0], [0], [0], [0], [0], [0], [0], [0], [0], [0]], [], []⟩ (.seq (.seq (.seq (.assign 13 (.view 0))
                 (.assign 14 (.view 13)))
               (.seq (.assign 15 (.view 14))
                 (.assign 16 (.view 15))))
             (.seq (.seq (.assign 8 (.same 16))
                 (.ifStar (.assign 17 .fresh) (.call 17 773 [8, 3, 3, 3, 3])))
               (.seq (.assign 18 (.view 17))
                 (.assign 7 (.join [7, 18]))))))))))
 (.seq (.seq (.seq (.assign 19 (.join [7]))
       (.seq (.assign 21 .fresh)
         (.assign 22 (.join [19]))))
     (.seq (.assign 23 (.join [19]))
       (.seq (.call 20 449 [21, 22, 23])
         (.assign 24 (.same 20)))))
   (.seq (.seq (.ifStar (.assign 25 .fresh) (.call 25 773 [6, 3, 3, 3, 3]))
       (.seq (.assign 26 (.view 25))
         (.assign 27 (.same 26))))
     (.seq (.call 28 805 [24, 27, 3])
       (.seq (.assign 29 (.same 28))
         (.ret 29))))))⟩

/-- operators/sum_kronecker_linear_operator.py:SumKroneckerLinearOperator.inv_quad_logdet (line 105); formals ['self', 'inv_quad_rhs', 'logdet', 'reduce_inv_quad'] -/
def f594_operators_sum_kronecker_linear_operator__SumKroneckerLinearOperator_inv_quad_logdet : Fn := ⟨4,
 (.seq (.seq (.assign 5 (.same 4))
   (.seq (.assign 6 (.same 4))
     (.ifStar (.seq (.seq (.ifStar (.seq (.assign 7 (.view 1))
               (.assign 1 (.same 7))) .skip)
           (.call 8 774 [0, 1, 4, 4]))
         (.seq (.assign 9 .fresh)
           (.seq (.assign 5 (.same 9))
             (.ifStar (.seq (.assign 10 .fresh)
                 (.assign 5 (.same 10))) .skip)))) .skip)))
 (.seq (.ifStar (.seq (.call 11 888 [0, 4])
       (.assign 6 (.same 11))) .skip)
   (.seq (.assign 12 (.join [5, 6]))
     (.ret 12))))⟩

/-- operators/sum_linear_operator.py:SumLinearOperator.__init__ (line 18); formals ['self', 'linear_ops', 'kwargs'] -/
def f595_operators_sum_linear_operator__SumLinearOperator___init__ : Fn := ⟨3,
 (.seq (.seq (.seq (.seq (.ifStar (.seq (.seq (.assign 4 .fresh)
             (.seq (.assign 6 (.view 1))
               (.assign 5 (.same 6))))
           (.seq (.whileStar ⟨[[0], [1], [2], [], [1], [1], [1], [1], [1]], [], []⟩ (.seq (.seq (.assign 7 (.view 1))
                 (.assign 5 (.same 7)))
                 (.seq (.call 8 311 [5])
                 (.assign 4 (.join [4, 8])))))
             (.seq (.assign 9 (.join [4]))
               (.assign 1 (.same 9))))) (.seq (.seq (.ifStar (.assign 4 .fresh) .skip)
             (.seq (.ifStar (.assign 6 (.view 1)) .skip)
               (.ifStar (.assign 5 (.same 6)) .skip)))
           (.seq (.ifStar (.whileStar ⟨[[0], [1], [2], [], [1], [1], [1], [1], [1]], [], []⟩ (.seq (.seq (.assign 7 (.view 1))
                 (.assign 5 (.same 7)))
                 (.seq (.call 8 311 [5])
                 (.assign 4 (.join [4, 8]))))) .skip)
             (.seq (.ifStar (.assign 9 (.join [4])) .skip)
               (.ifStar (.assign 1 (.same 9)) .skip)))))
       (.assign 10 .fresh))
     (.seq (.whileStar ⟨[[0], [1], [2], [], [1], [1], [1], [1], [1], [1]], [], []⟩ (.assign 10 (.join [3, 10])))
       (.assign 11 .fresh)))
   (.seq (.seq (.assign 12 (.same 11))
       (.assign 13 .fresh))
     (.seq (.assign 15 (.view 1))
       (.assign 14 (.same 15)))))
 (.seq (.seq (.seq (.whileStar ⟨[[0], [1], [2], [], [1], [1], [1], [1], [1], [1], [], [], [], [1], [1], [1], [1], [1], [1]], [], []⟩ (.seq (.seq (.assign 16 (.view 1))
             (.assign 14 (.same 16)))
           (.seq (.ifStar (.seq (.ifStar (.assign 17 .fresh) (.call 17 817 [14, 12, 3]))
                 (.assign 18 (.same 17))) (.assign 18 (.same 14)))
             (.assign 13 (.join [13, 18])))))
       (.assign 19 (.join [13])))
     (.seq (.assign 1 (.same 19))
       (.assign 20 (.join [1, 2]))))
   (.seq (.seq (.assign 22 (.join [20]))
       (.call 21 812 [0, 20, 20, 20, 20, 20, 20, 20, 20, 20, 20, 20, 20, 20, 20, 20, 20, 20, 20, 20, 20, 20, 20, 20, 20, 20, 20, 20, 20, 20, 20, 20, 20, 20, 20, 20, 20, 20, 20, 20, 20, 20, 20, 20, 20, 20, 20, 20, 20, 20, 20, 20, 20, 20, 22]))
     (.seq (.assign 0 (.join [0, 1]))
       (.ret 0)))))⟩

/-- operators/sum_linear_operator.py:SumLinearOperator._diagonal (line 29); formals ['self'] -/
def f596_operators_sum_linear_operator__SumLinearOperator__diagonal : Fn := ⟨1,
 (.seq (.seq (.assign 2 .fresh)
   (.seq (.assign 4 (.view 0))
     (.assign 5 (.view 4))))
 (.seq (.seq (.assign 3 (.same 5))
     (.whileStar ⟨[[0], [], [0], [0], [0], [0], [0], [0], [0], [0]], [], []⟩ (.seq (.seq (.assign 6 (.view 0))
           (.seq (.assign 7 (.view 6))
             (.assign 3 (.same 7))))
         (.seq (.ifStar (.assign 9 .fresh) (.call 9 818 [3, 1]))
           (.seq (.assign 8 (.maybeView 9))
             (.assign 2 (.join [2, 8])))))))
   (.seq (.assign 10 .fresh)
     (.ret 10))))⟩

/-- operators/sum_linear_operator.py:SumLinearOperator._expand_batch (line 32); formals ['self', 'batch_shape'] -/
def f597_operators_sum_linear_operator__SumLinearOperator__expand_batch : Fn := ⟨2,
 (.seq (.seq (.seq (.assign 3 .fresh)
     (.seq (.assign 5 (.view 0))
       (.assign 6 (.view 5))))
   (.seq (.assign 4 (.same 6))
     (.seq (.whileStar ⟨[[0], [1], [], [0, 1], [0], [0], [0], [0], [0], [0, 1]], [], []⟩ (.seq (.seq (.assign 7 (.view 0))
             (.assign 8 (.view 7)))
           (.seq (.assign 4 (.same 8))
             (.seq (.ifStar (.assign 9 .fresh) (.call 9 817 [4, 1, 2]))
               (.assign 3 (.join [3, 9]))))))
       (.assign 10 (.same 3)))))
 (.seq (.seq (.assign 11 (.join [10]))
     (.seq (.assign 13 .fresh)
       (.assign 15 (.join [11]))))
   (.seq (.call 14 812 [13, 11, 11, 11, 11, 11, 11, 11, 11, 11, 11, 11, 11, 11, 11, 11, 11, 11, 11, 11, 11, 11, 11, 11, 11, 11, 11, 11, 11, 11, 11, 11, 11, 11, 11, 11, 11, 11, 11, 11, 11, 11, 11, 11, 11, 11, 11, 11, 11, 11, 11, 11, 11, 11, 15])
     (.seq (.assign 12 (.join [11, 14]))
       (.ret 12)))))⟩

/-- operators/sum_linear_operator.py:SumLinearOperator._get_indices (line 38); formals ['self', 'row_index', 'col_index', 'batch_indices'] -/
def f598_operators_sum_linear_operator__SumLinearOperator__get_indices : Fn := ⟨4,
 (.seq (.seq (.assign 4 .fresh)
   (.seq (.assign 6 (.view 0))
     (.assign 7 (.view 6))))
 (.seq (.seq (.assign 5 (.same 7))
     (.whileStar ⟨[[0], [1], [2], [3], [0, 1, 2, 3], [0], [0], [0], [0], [0], [3], [0, 1, 2, 3], [3]], [], []⟩ (.seq (.seq (.assign 8 (.view 0))
           (.seq (.assign 9 (.view 8))
             (.assign 5 (.same 9))))
         (.seq (.seq (.assign 10 (.join [3]))
             (.assign 12 (.join [10])))
           (.seq (.ifStar (.assign 11 .fresh) (.call 11 857 [5, 1, 2, 12]))
             (.assign 4 (.join [4, 11])))))))
   (.seq (.assign 13 .fresh)
     (.ret 13))))⟩

/-- operators/sum_linear_operator.py:SumLinearOperator._getitem (line 42); formals ['self', 'row_index', 'col_index', 'batch_indices'] -/
def f599_operators_sum_linear_operator__SumLinearOperator__getitem : Fn := ⟨4,
 (.seq (.seq (.seq (.assign 4 .fresh)
     (.seq (.assign 6 (.view 0))
       (.assign 7 (.view 6))))
   (.seq (.assign 5 (.same 7))
     (.seq (.whileStar ⟨[[0], [1], [2], [3], [0, 1, 2, 3], [0], [0], [0], [0], [0], [3], [0, 1, 2, 3], [3]], [], []⟩ (.seq (.seq (.assign 8 (.view 0))
             (.seq (.assign 9 (.view 8))
               (.assign 5 (.same 9))))
           (.seq (.seq (.assign 10 (.join [3]))
               (.assign 12 (.join [10])))
             (.seq (.ifStar (.assign 11 .fresh) (.call 11 813 [5, 1, 2, 12]))
               (.assign 4 (.join [4, 11]))))))
       (.assign 13 (.same 4)))))
 (.seq (.seq (.assign 14 (.join [13]))
     (.seq (.assign 16 .fresh)
       (.assign 17 (.join [14]))))
   (.seq (.assign 18 (.join [14]))
     (.seq (.call 15 595 [16, 17, 18])
       (.ret 15)))))⟩

def chunk9 : List Fn := [
  f540_operators_mul_linear_operator__MulLinearOperator__expand_batch,
  f541_operators_mul_linear_operator__MulLinearOperator_to_dense,
  f542_operators_mul_linear_operator__MulLinearOperator__size,
  f543_operators_mul_linear_operator__MulLinearOperator__transpose_nonbatch,
  f544_operators_mul_linear_operator__MulLinearOperator_representation,
  f545_operators_mul_linear_operator__MulLinearOperator_representation_tree,
  f546_operators_permutation_linear_operator__AbstractPermutationLinearOperator_inverse,
  f547_operators_permutation_linear_operator__AbstractPermutationLinearOperator__solve,
  f548_operators_permutation_linear_operator__AbstractPermutationLinearOperator__matmul_check_shape,
  f549_operators_permutation_linear_operator__AbstractPermutationLinearOperator__matmul_batch_shape,
  f550_operators_permutation_linear_operator__AbstractPermutationLinearOperator_dtype,
  f551_operators_permutation_linear_operator__PermutationLinearOperator___init__,
  f552_operators_permutation_linear_operator__PermutationLinearOperator__matmul,
  f553_operators_permutation_linear_operator__PermutationLinearOperator__batch_indexing_helper,
  f554_operators_permutation_linear_operator__PermutationLinearOperator__size,
  f555_operators_permutation_linear_operator__PermutationLinearOperator__transpose_nonbatch,
  f556_operators_permutation_linear_operator__PermutationLinearOperator_to_sparse,
  f557_operators_permutation_linear_operator__TransposePermutationLinearOperator___init__,
  f558_operators_permutation_linear_operator__TransposePermutationLinearOperator__matmul,
  f559_operators_permutation_linear_operator__TransposePermutationLinearOperator__get_indices,
  f560_operators_permutation_linear_operator__TransposePermutationLinearOperator__size,
  f561_operators_permutation_linear_operator__TransposePermutationLinearOperator__transpose_nonbatch,
  f562_operators_permutation_linear_operator__TransposePermutationLinearOperator_dtype,
  f563_operators_permutation_linear_operator__TransposePermutationLinearOperator_type,
  f564_operators_permutation_linear_operator__TransposePermutationLinearOperator_device,
  f565_operators_psd_sum_linear_operator__PsdSumLinearOperator_zero_mean_mvn_samples,
  f566_operators_root_linear_operator__RootLinearOperator___init__,
  f567_operators_root_linear_operator__RootLinearOperator__diagonal,
  f568_operators_root_linear_operator__RootLinearOperator__expand_batch,
  f569_operators_root_linear_operator__RootLinearOperator__get_indices,
  f570_operators_root_linear_operator__RootLinearOperator__getitem,
  f571_operators_root_linear_operator__RootLinearOperator__matmul,
  f572_operators_root_linear_operator__RootLinearOperator__mul_constant,
  f573_operators_root_linear_operator__RootLinearOperator__t_matmul,
  f574_operators_root_linear_operator__RootLinearOperator_add_low_rank,
  f575_operators_root_linear_operator__RootLinearOperator_root_decomposition,
  f576_operators_root_linear_operator__RootLinearOperator__root_decomposition,
  f577_operators_root_linear_operator__RootLinearOperator__root_decomposition_size,
  f578_operators_root_linear_operator__RootLinearOperator__size,
  f579_operators_root_linear_operator__RootLinearOperator__transpose_nonbatch,
  f580_operators_root_linear_operator__RootLinearOperator_to_dense,
  f581_operators_sum_batch_linear_operator__SumBatchLinearOperator__add_batch_dim,
  f582_operators_sum_batch_linear_operator__SumBatchLinearOperator__diagonal,
  f583_operators_sum_batch_linear_operator__SumBatchLinearOperator__get_indices,
  f584_operators_sum_batch_linear_operator__SumBatchLinearOperator__getitem,
  f585_operators_sum_batch_linear_operator__SumBatchLinearOperator__remove_batch_dim,
  f586_operators_sum_batch_linear_operator__SumBatchLinearOperator__size,
  f587_operators_sum_batch_linear_operator__SumBatchLinearOperator_to_dense,
  f588_operators_sum_kronecker_linear_operator__SumKroneckerLinearOperator__sum_formulation,
  f589_operators_sum_kronecker_linear_operator__SumKroneckerLinearOperator__solve,
  f590_operators_sum_kronecker_linear_operator__SumKroneckerLinearOperator__mul_constant,
  f591_operators_sum_kronecker_linear_operator__SumKroneckerLinearOperator__logdet,
  f592_operators_sum_kronecker_linear_operator__SumKroneckerLinearOperator__root_decomposition,
  f593_operators_sum_kronecker_linear_operator__SumKroneckerLinearOperator__root_inv_decomposition,
  f594_operators_sum_kronecker_linear_operator__SumKroneckerLinearOperator_inv_quad_logdet,
  f595_operators_sum_linear_operator__SumLinearOperator___init__,
  f596_operators_sum_linear_operator__SumLinearOperator__diagonal,
  f597_operators_sum_linear_operator__SumLinearOperator__expand_batch,
  f598_operators_sum_linear_operator__SumLinearOperator__get_indices,
  f599_operators_sum_linear_operator__SumLinearOperator__getitem]

end LinOp.Generated.C13P
