import LinOp.C13.Model
import LinOp.Generated.C13Sigma
-- GENERATED by harness/extract/c13_alias.py from /repo/linear_operator (do not edit)
namespace LinOp.Generated.C13
open LinOp.C13

/-- beta_features.py:_moved_beta_feature.__init__ (line 9); formals ['self', 'new_cls', 'orig_name'] -/
def f0_beta_features___moved_beta_feature___init__ : Fn := ⟨3,
 (.seq (.seq (.assign 0 (.join [0, 1]))
   (.ifStar (.assign 4 (.same 2)) (.seq (.assign 3 .fresh)
       (.assign 4 (.same 3)))))
 (.seq (.assign 0 (.join [0, 4]))
   (.ret 0)))⟩

/-- beta_features.py:_moved_beta_feature.__call__ (line 13); formals ['self', 'args', 'kwargs'] -/
def f1_beta_features___moved_beta_feature___call__ : Fn := ⟨3,
 (.seq (.assign 3 (.join [1, 2]))
 (.seq (.assign 4 (.opq [0, 3]))
   (.ret 4)))⟩

/-- beta_features.py:_moved_beta_feature.__getattr__ (line 20); formals ['self', 'name'] -/
def f2_beta_features___moved_beta_feature___getattr__ : Fn := ⟨2,
 (.seq (.assign 2 (.view 0))
 (.seq (.assign 3 (.join [1, 2]))
   (.ret 3)))⟩

/-- functions/__init__.py:add_diagonal (line 17); formals ['input', 'diag'] -/
def f3_functions___init____add_diagonal : Fn := ⟨2,
 (.seq (.call 4 311 [0])
 (.seq (.ifStar (.assign 3 .fresh) (.call 3 765 [4, 1, 2]))
   (.ret 3)))⟩

/-- functions/__init__.py:add_jitter (line 31); formals ['input', 'jitter_val'] -/
def f4_functions___init____add_jitter : Fn := ⟨2,
 (.ifStar (.seq (.ifStar (.assign 3 .fresh) (.call 3 766 [0, 1, 2]))
   (.ret 3)) (.seq (.seq (.call 4 767 [0, 2, 2])
     (.assign 5 .fresh))
   (.seq (.write 5)
     (.seq (.assign 6 .fresh)
       (.ret 6)))))⟩

/-- functions/__init__.py:diagonalization (line 50); formals ['input', 'method'] -/
def f5_functions___init____diagonalization : Fn := ⟨2,
 (.seq (.call 4 311 [0])
 (.seq (.ifStar (.assign 3 .fresh) (.call 3 768 [4, 1, 2]))
   (.ret 3)))⟩

/-- functions/__init__.py:dsmm (line 69); formals ['sparse_mat', 'dense_mat'] -/
def f6_functions___init____dsmm : Fn := ⟨2,
 (.seq (.assign 3 .fresh)
 (.seq (.call 2 16 [3, 0, 1])
   (.ret 2)))⟩

/-- functions/__init__.py:inv_quad (line 84); formals ['input', 'inv_quad_rhs', 'reduce_inv_quad'] -/
def f7_functions___init____inv_quad : Fn := ⟨3,
 (.seq (.call 5 311 [0])
 (.seq (.ifStar (.assign 4 .fresh) (.call 4 769 [5, 1, 2, 3]))
   (.ret 4)))⟩

/-- functions/__init__.py:inv_quad_logdet (line 113); formals ['input', 'inv_quad_rhs', 'logdet', 'reduce_inv_quad'] -/
def f8_functions___init____inv_quad_logdet : Fn := ⟨4,
 (.seq (.call 6 311 [0])
 (.seq (.ifStar (.assign 5 .fresh) (.call 5 770 [6, 1, 2, 3, 4]))
   (.ret 5)))⟩

/-- functions/__init__.py:pivoted_cholesky (line 135); formals ['input', 'rank', 'error_tol', 'return_pivots'] -/
def f9_functions___init____pivoted_cholesky : Fn := ⟨4,
 (.seq (.call 6 311 [0])
 (.seq (.ifStar (.assign 5 .fresh) (.call 5 771 [6, 1, 2, 3, 4]))
   (.ret 5)))⟩

/-- functions/__init__.py:root_decomposition (line 164); formals ['input', 'method'] -/
def f10_functions___init____root_decomposition : Fn := ⟨2,
 (.seq (.call 4 311 [0])
 (.seq (.ifStar (.assign 3 .fresh) (.call 3 772 [4, 1, 2]))
   (.ret 3)))⟩

/-- functions/__init__.py:root_inv_decomposition (line 181); formals ['input', 'initial_vectors', 'test_vectors', 'method'] -/
def f11_functions___init____root_inv_decomposition : Fn := ⟨4,
 (.seq (.call 6 311 [0])
 (.seq (.ifStar (.assign 5 .fresh) (.call 5 773 [6, 1, 2, 3, 4]))
   (.ret 5)))⟩

/-- functions/__init__.py:solve (line 209); formals ['input', 'rhs', 'lhs'] -/
def f12_functions___init____solve : Fn := ⟨3,
 (.seq (.call 5 311 [0])
 (.seq (.ifStar (.assign 4 .fresh) (.call 4 774 [5, 1, 2, 3]))
   (.ret 4)))⟩

/-- functions/__init__.py:sqrt_inv_matmul (line 243); formals ['input', 'rhs', 'lhs'] -/
def f13_functions___init____sqrt_inv_matmul : Fn := ⟨3,
 (.seq (.call 5 311 [0])
 (.seq (.ifStar (.assign 4 .fresh) (.call 4 775 [5, 1, 2, 3]))
   (.ret 4)))⟩

/-- functions/_diagonalization.py:Diagonalization.forward (line 12); formals ['ctx', 'representation_tree', 'device', 'dtype', 'matrix_shape', 'max_iter', 'batch_shape', 'matrix_args'] -/
def f14_functions__diagonalization__Diagonalization_forward : Fn := ⟨8,
 (.seq (.seq (.seq (.seq (.seq (.assign 0 (.join [0, 1]))
         (.assign 0 (.join [0, 2])))
       (.seq (.assign 0 (.join [0, 3]))
         (.assign 0 (.join [0, 4]))))
     (.seq (.seq (.assign 0 (.join [0, 5]))
         (.assign 0 (.join [0, 6])))
       (.seq (.assign 9 .fresh)
         (.seq (.assign 10 (.same 9))
           (.assign 11 (.view 10))))))
   (.seq (.seq (.seq (.assign 12 (.same 11))
         (.call 13 721 [12, 8, 8, 8, 8, 8, 8, 8, 8]))
       (.seq (.assign 14 (.view 13))
         (.seq (.assign 15 (.same 14))
           (.assign 16 (.view 13)))))
     (.seq (.seq (.assign 17 (.same 16))
         (.ifStar (.seq (.seq (.assign 18 (.view 15))
               (.assign 15 (.same 18)))
             (.seq (.assign 19 (.view 17))
               (.assign 17 (.same 19)))) .skip))
       (.seq (.ifStar (.seq (.seq (.assign 20 (.view 15))
               (.assign 15 (.same 20)))
             (.seq (.assign 21 (.view 17))
               (.assign 17 (.same 21)))) .skip)
         (.seq (.assign 22 .fresh)
           (.assign 23 (.join [8])))))))
 (.seq (.seq (.seq (.seq (.assign 25 (.join [22, 23]))
         (.ifStar .skip (.call 24 776 [8, 25])))
       (.seq (.assign 26 .fresh)
         (.call 27 722 [26])))
     (.seq (.seq (.assign 28 (.view 27))
         (.assign 29 (.same 28)))
       (.seq (.assign 30 .fresh)
         (.seq (.assign 15 (.same 30))
           (.ifStar (.assign 0 (.join [0, 10])) .skip)))))
   (.seq (.seq (.seq (.ifStar (.seq (.assign 31 (.view 15))
             (.assign 15 (.same 31))) .skip)
         (.ifStar (.seq (.seq (.assign 32 (.view 15))
               (.assign 15 (.same 32)))
             (.seq (.assign 33 (.view 29))
               (.assign 29 (.same 33)))) .skip))
       (.seq (.assign 34 (.join [7]))
         (.seq (.assign 35 (.join [15, 29]))
           (.assign 36 (.join [34, 35])))))
     (.seq (.seq (.assign 37 (.same 36))
         (.assign 38 (.join [37])))
       (.seq (.assign 0 (.join [0, 38]))
         (.seq (.assign 39 (.join [15, 29]))
           (.ret 39)))))))⟩

/-- functions/_diagonalization.py:Diagonalization.backward (line 75); formals ['ctx', 'evals_grad_output', 'evecs_grad_output'] -/
def f15_functions__diagonalization__Diagonalization_backward : Fn := ⟨3,
 (.seq (.seq (.seq (.seq (.assign 4 (.view 0))
       (.assign 5 (.view 4)))
     (.seq (.assign 6 (.same 5))
       (.assign 7 .fresh)))
   (.seq (.seq (.assign 8 (.same 7))
       (.assign 9 (.view 8)))
     (.seq (.write 9)
       (.ifStar (.call 10 777 [6, 3]) .skip))))
 (.seq (.seq (.seq (.assign 11 .fresh)
       (.assign 12 (.same 11)))
     (.seq (.assign 13 (.join [3]))
       (.assign 14 (.join [3, 13]))))
   (.seq (.seq (.assign 15 (.join [12]))
       (.assign 16 (.join [14, 15])))
     (.seq (.assign 17 (.join [16]))
       (.ret 17)))))⟩

/-- functions/_dsmm.py:DSMM.forward (line 10); formals ['ctx', 'sparse', 'dense'] -/
def f16_functions__dsmm__DSMM_forward : Fn := ⟨3,
 (.seq (.seq (.assign 0 (.join [0, 1]))
   (.assign 3 (.view 0)))
 (.seq (.call 4 750 [3, 2])
   (.ret 4)))⟩

/-- functions/_dsmm.py:DSMM.backward (line 15); formals ['ctx', 'grad_output'] -/
def f17_functions__dsmm__DSMM_backward : Fn := ⟨2,
 (.seq (.seq (.assign 3 (.view 0))
   (.seq (.assign 4 (.view 3))
     (.ifStar (.call 4 777 [3, 2]) .skip)))
 (.seq (.seq (.assign 5 (.same 4))
     (.call 6 750 [5, 1]))
   (.seq (.assign 7 (.join [2, 6]))
     (.ret 7))))⟩

/-- functions/_inv_quad.py:_solve (line 9); formals ['linear_op', 'rhs'] -/
def f18_functions__inv_quad___solve : Fn := ⟨2,
 (.ifStar (.seq (.assign 2 .fresh)
   (.ret 2)) (.seq (.assign 3 .fresh)
   (.ret 3)))⟩

/-- functions/_inv_quad.py:InvQuad.forward (line 29); formals ['ctx', 'representation_tree', 'args'] -/
def f19_functions__inv_quad__InvQuad_forward : Fn := ⟨3,
 (.seq (.seq (.seq (.seq (.assign 4 (.view 2))
       (.assign 5 (.same 4)))
     (.seq (.assign 6 (.view 2))
       (.seq (.assign 7 (.same 6))
         (.assign 0 (.join [0, 1])))))
   (.seq (.seq (.assign 8 .fresh)
       (.assign 9 (.same 8)))
     (.seq (.assign 0 (.join [0, 3]))
       (.seq (.ifStar (.seq (.assign 10 (.view 5))
             (.seq (.assign 5 (.same 10))
               (.assign 0 (.join [0, 3])))) .skip)
         (.call 11 18 [9, 5])))))
 (.seq (.seq (.seq (.assign 12 (.same 11))
       (.assign 13 .fresh))
     (.seq (.assign 14 (.same 13))
       (.seq (.assign 15 (.join [12]))
         (.assign 16 (.join [7, 15])))))
   (.seq (.seq (.assign 17 (.same 16))
       (.assign 18 (.join [17])))
     (.seq (.assign 0 (.join [0, 18]))
       (.seq (.ifStar (.assign 0 (.join [0, 9])) .skip)
         (.ret 14))))))⟩

/-- functions/_inv_quad.py:InvQuad.backward (line 63); formals ['ctx', 'inv_quad_grad_output'] -/
def f20_functions__inv_quad__InvQuad_backward : Fn := ⟨2,
 (.seq (.seq (.seq (.seq (.assign 3 (.view 1))
       (.assign 1 (.same 3)))
     (.seq (.assign 4 (.join [2]))
       (.assign 5 .fresh)))
   (.seq (.seq (.assign 6 (.join [4, 5]))
       (.assign 7 (.same 6)))
     (.seq (.ifStar (.seq (.assign 8 .fresh)
           (.assign 7 (.same 8))) .skip)
       (.seq (.ifStar (.seq (.assign 9 .fresh)
             (.assign 10 (.same 9))) (.seq (.assign 11 .fresh)
             (.assign 10 (.same 11))))
         (.ifStar (.write 10) .skip)))))
 (.seq (.seq (.seq (.assign 12 (.join [2]))
       (.assign 13 (.join [10])))
     (.seq (.assign 14 (.join [12, 13]))
       (.assign 15 (.join [7]))))
   (.seq (.seq (.assign 16 (.join [14, 15]))
       (.assign 17 (.join [16])))
     (.seq (.assign 18 (.same 17))
       (.seq (.assign 19 (.join [18]))
         (.ret 19))))))⟩

/-- functions/_inv_quad_logdet.py:InvQuadLogdet.forward (line 27); formals ['ctx', 'representation_tree', 'precond_representation_tree', 'preconditioner', 'num_precond_args', 'inv_quad', 'probe_vectors', 'probe_vector_norms', 'args'] -/
def f21_functions__inv_quad_logdet__InvQuadLogdet_forward : Fn := ⟨9,
 (.seq (.seq (.seq (.seq (.seq (.assign 0 (.join [0, 1]))
         (.seq (.assign 0 (.join [0, 2]))
           (.assign 0 (.join [0, 3]))))
       (.seq (.assign 0 (.join [0, 5]))
         (.seq (.assign 0 (.join [0, 4]))
           (.assign 10 (.same 9)))))
     (.seq (.seq (.assign 11 (.join []))
         (.seq (.assign 12 (.same 11))
           (.assign 13 (.same 9))))
       (.seq (.ifStar (.seq (.seq (.assign 14 (.view 8))
               (.assign 13 (.same 14)))
             (.seq (.assign 15 (.view 8))
               (.assign 8 (.same 15)))) .skip)
         (.seq (.ifStar (.seq (.seq (.assign 16 (.view 8))
                 (.assign 10 (.same 16)))
               (.seq (.assign 17 (.view 8))
                 (.assign 12 (.same 17)))) (.assign 10 (.same 8)))
           (.assign 0 (.join [0, 9]))))))
   (.seq (.seq (.seq (.assign 0 (.join [0, 9]))
         (.seq (.assign 0 (.join [0, 9]))
           (.assign 0 (.join [0, 9]))))
       (.seq (.ifStar (.seq (.seq (.seq (.assign 18 .fresh)
                 (.seq (.assign 19 (.same 18))
                 (.ifStar (.seq (.seq (.ifStar (.write 9) .skip)
                 (.assign 21 .fresh))
                 (.seq (.assign 20 (.view 21))
                 (.assign 6 (.same 20)))) (.seq (.assign 22 .fresh)
                 (.assign 6 (.same 22))))))
               (.seq (.assign 26 (.view 6))
                 (.seq (.assign 25 (.view 26))
                 (.assign 24 (.view 25)))))
             (.seq (.seq (.assign 27 (.view 24))
                 (.seq (.assign 23 (.maybeView 27))
                 (.assign 6 (.same 23))))
               (.seq (.seq (.assign 28 .fresh)
                 (.assign 7 (.same 28)))
                 (.seq (.assign 29 .fresh)
                 (.assign 6 (.same 29)))))) .skip)
         (.seq (.assign 0 (.join [0, 6]))
           (.assign 0 (.join [0, 7])))))
     (.seq (.seq (.assign 30 (.view 0))
         (.seq (.assign 31 (.join [30]))
           (.assign 32 (.same 31))))
       (.seq (.assign 33 .fresh)
         (.seq (.assign 19 (.same 33))
           (.assign 34 (.same 9)))))))
 (.seq (.seq (.seq (.seq (.assign 0 (.join [0, 9]))
         (.seq (.ifStar (.seq (.seq (.ifStar (.seq (.assign 35 (.view 13))
                 (.seq (.assign 13 (.same 35))
                 (.assign 0 (.join [0, 9])))) .skip)
                 (.assign 32 (.join [13, 32])))
               (.seq (.assign 36 .fresh)
                 (.assign 34 (.same 36)))) .skip)
           (.assign 37 .fresh)))
       (.seq (.assign 38 (.view 37))
         (.seq (.assign 39 (.same 38))
           (.assign 40 (.view 37)))))
     (.seq (.seq (.assign 41 (.same 40))
         (.seq (.assign 42 .fresh)
           (.assign 43 (.same 42))))
       (.seq (.assign 44 .fresh)
         (.seq (.assign 45 (.same 44))
           (.ifStar (.ifStar (.seq (.assign 46 .fresh)
                 (.assign 43 (.same 46))) (.seq (.seq (.seq (.ifStar (.seq (.assign 47 (.view 41))
                 (.assign 41 (.same 47))) .skip)
                 (.seq (.call 48 722 [41])
                 (.assign 49 (.view 48))))
                 (.seq (.seq (.assign 50 (.same 49))
                 (.assign 51 (.view 48)))
                 (.seq (.assign 52 (.same 51))
                 (.assign 54 .fresh))))
                 (.seq (.seq (.seq (.call 53 755 [54, 9, 9])
                 (.assign 55 (.same 53)))
                 (.seq (.assign 56 (.join []))
                 (.assign 57 (.join [56]))))
                 (.seq (.seq (.assign 59 (.join [9, 50, 52, 57]))
                 (.ifStar (.assign 58 (.maybeView 55)) (.call 58 778 [55, 9, 9, 9, 9, 59])))
                 (.seq (.assign 60 (.view 58))
                 (.assign 43 (.same 60))))))) .skip)))))
   (.seq (.seq (.seq (.ifStar (.seq (.assign 61 .fresh)
             (.assign 45 (.same 61))) .skip)
         (.seq (.assign 0 (.join [0, 19]))
           (.assign 0 (.join [0, 34]))))
       (.seq (.assign 62 (.join [12]))
         (.seq (.assign 63 (.join [10]))
           (.assign 64 (.join [62, 63])))))
     (.seq (.seq (.assign 65 (.join [39]))
         (.seq (.assign 66 (.join [64, 65]))
           (.assign 67 (.same 66))))
       (.seq (.seq (.assign 68 (.join [67]))
           (.assign 0 (.join [0, 68])))
         (.seq (.assign 69 (.join [43, 45]))
           (.ret 69)))))))⟩

/-- functions/_inv_quad_logdet.py:InvQuadLogdet.backward (line 163); formals ['ctx', 'inv_quad_grad_output', 'logdet_grad_output'] -/
def f22_functions__inv_quad_logdet__InvQuadLogdet_backward : Fn := ⟨3,
 (.seq (.seq (.seq (.seq (.assign 4 (.view 0))
       (.seq (.assign 5 (.view 4))
         (.assign 6 (.same 5))))
     (.seq (.seq (.ifStar (.seq (.assign 7 (.view 1))
             (.assign 1 (.same 7))) .skip)
         (.assign 8 (.view 2)))
       (.seq (.assign 2 (.same 8))
         (.write 2))))
   (.seq (.seq (.seq (.assign 9 .fresh)
         (.assign 10 (.same 9)))
       (.seq (.write 10)
         (.assign 11 (.same 10))))
     (.seq (.seq (.write 11)
         (.ifStar (.seq (.assign 12 .fresh)
             (.assign 13 (.same 12))) (.seq (.assign 14 .fresh)
             (.assign 13 (.same 14)))))
       (.seq (.assign 15 (.join [10]))
         (.assign 16 (.same 15))))))
 (.seq (.seq (.seq (.assign 17 (.join [13]))
       (.seq (.assign 18 (.same 17))
         (.assign 19 (.same 3))))
     (.seq (.seq (.assign 20 (.same 3))
         (.ifStar (.seq (.seq (.seq (.assign 21 (.view 6))
                 (.assign 19 (.same 21)))
               (.seq (.assign 23 .fresh)
                 (.write 23)))
             (.seq (.seq (.assign 22 (.same 23))
                 (.assign 20 (.same 22)))
               (.seq (.assign 16 (.join [16, 20]))
                 (.assign 18 (.join [18, 19]))))) .skip))
       (.seq (.assign 24 .fresh)
         (.assign 25 (.same 24)))))
   (.seq (.seq (.seq (.assign 26 .fresh)
         (.assign 27 (.same 26)))
       (.seq (.ifStar (.seq (.seq (.seq (.write 20)
                 (.assign 28 (.same 20)))
               (.seq (.assign 29 (.same 28))
                 (.seq (.ifStar (.write 29) .skip)
                 (.assign 30 (.join [29])))))
             (.seq (.seq (.assign 31 (.join [25]))
                 (.assign 32 (.join [30, 31])))
               (.seq (.assign 33 (.join [27]))
                 (.seq (.assign 34 (.join [32, 33]))
                 (.assign 35 (.same 34)))))) (.seq (.seq (.assign 36 (.join [25]))
               (.assign 37 (.join [27])))
             (.seq (.assign 38 (.join [36, 37]))
               (.assign 35 (.same 38)))))
         (.assign 39 (.join [3]))))
     (.seq (.seq (.assign 40 (.join [3, 39]))
         (.assign 41 (.join [35, 40])))
       (.seq (.assign 42 (.join [41]))
         (.ret 42))))))⟩

/-- functions/_matmul.py:Matmul.forward (line 10); formals ['ctx', 'representation_tree', 'rhs', 'matrix_args'] -/
def f23_functions__matmul__Matmul_forward : Fn := ⟨4,
 (.seq (.seq (.seq (.seq (.assign 0 (.join [0, 1]))
       (.assign 4 (.same 2)))
     (.seq (.ifStar (.seq (.assign 5 (.view 2))
           (.assign 2 (.same 5))) .skip)
       (.assign 6 .fresh)))
   (.seq (.seq (.assign 7 (.same 6))
       (.assign 8 .fresh))
     (.seq (.assign 9 (.same 8))
       (.assign 10 (.join [4])))))
 (.seq (.seq (.seq (.assign 11 (.join [3]))
       (.assign 12 (.join [10, 11])))
     (.seq (.assign 13 (.same 12))
       (.assign 14 (.join [13]))))
   (.seq (.seq (.assign 0 (.join [0, 14]))
       (.ifStar (.assign 0 (.join [0, 7])) .skip))
     (.seq (.ifStar (.seq (.assign 15 (.view 9))
           (.assign 9 (.same 15))) .skip)
       (.ret 9)))))⟩

/-- functions/_matmul.py:Matmul.backward (line 34); formals ['ctx', 'grad_output'] -/
def f24_functions__matmul__Matmul_backward : Fn := ⟨2,
 (.seq (.seq (.seq (.seq (.assign 3 (.view 0))
       (.assign 4 (.view 3)))
     (.seq (.assign 5 (.same 4))
       (.assign 6 (.same 2))))
   (.seq (.seq (.assign 7 (.join [2]))
       (.assign 8 .fresh))
     (.seq (.assign 9 (.join [7, 8]))
       (.assign 10 (.same 9)))))
 (.seq (.seq (.seq (.ifStar (.seq (.seq (.ifStar (.seq (.assign 11 (.view 5))
                 (.assign 12 (.same 11))) (.assign 12 (.same 5)))
             (.assign 5 (.same 12)))
           (.seq (.assign 13 .fresh)
             (.assign 10 (.same 13)))) .skip)
       (.ifStar (.seq (.ifStar (.seq (.assign 15 .fresh)
               (.seq (.assign 14 (.view 15))
                 (.assign 6 (.same 14)))) (.seq (.assign 16 .fresh)
               (.assign 6 (.same 16))))
           (.ifStar (.seq (.assign 17 .fresh)
               (.assign 6 (.same 17))) .skip)) .skip))
     (.seq (.assign 18 (.join [2]))
       (.assign 19 (.join [6]))))
   (.seq (.seq (.assign 20 (.join [18, 19]))
       (.assign 21 (.join [10])))
     (.seq (.assign 22 (.join [20, 21]))
       (.seq (.assign 23 (.join [22]))
         (.ret 23))))))⟩

/-- functions/_pivoted_cholesky.py:PivotedCholesky.forward (line 13); formals ['ctx', 'representation_tree', 'max_iter', 'error_tol', 'matrix_args'] -/
def f25_functions__pivoted_cholesky__PivotedCholesky_forward : Fn := ⟨5,
 (.seq (.seq (.seq (.seq (.assign 0 (.join [0, 1]))
       (.seq (.assign 6 (.join [4]))
         (.assign 8 (.join [6]))))
     (.seq (.seq (.ifStar (.assign 7 .fresh) (.call 7 779 [0, 8]))
         (.assign 9 (.same 7)))
       (.seq (.ifStar (.seq (.assign 10 .fresh)
             (.assign 3 (.same 10))) .skip)
         (.ifStar (.assign 11 .fresh) (.call 11 780 [9, 5])))))
   (.seq (.seq (.assign 12 (.same 11))
       (.seq (.call 14 781 [12, 5])
         (.assign 13 .fresh)))
     (.seq (.seq (.assign 12 (.same 13))
         (.assign 15 .fresh))
       (.seq (.assign 2 (.same 15))
         (.assign 16 .fresh)))))
 (.seq (.seq (.seq (.assign 17 (.same 16))
       (.seq (.assign 18 .fresh)
         (.assign 19 (.same 18))))
     (.seq (.seq (.assign 20 .fresh)
         (.assign 19 (.same 20)))
       (.seq (.whileStar ⟨[[0, 1], [1], [], [3], [4], [], [4], [0, 1], [4], [0, 1], [], [0, 1], [], [], [0, 1], [], [], [], [], [], [], [], [], [], [], [], [], [], [], [], [], [], [], [], [], [], [0, 1], [], [0, 1]], [], []⟩ (.seq (.seq (.seq (.seq (.assign 21 .fresh)
                 (.assign 22 (.view 21)))
                 (.seq (.assign 23 (.same 22))
                 (.seq (.assign 24 .fresh)
                 (.assign 23 (.same 24)))))
               (.seq (.seq (.ifStar .skip (.call 25 782 [23, 5, 5]))
                 (.assign 26 .fresh))
                 (.seq (.write 26)
                 (.seq (.assign 27 (.view 19))
                 (.write 27)))))
             (.seq (.seq (.seq (.ifStar .skip (.call 28 782 [23, 5, 5]))
                 (.write 19))
                 (.seq (.assign 30 (.view 19))
                 (.seq (.assign 29 (.maybeView 30))
                 (.assign 31 (.same 29)))))
               (.seq (.seq (.assign 32 (.view 17))
                 (.seq (.assign 33 (.same 32))
                 (.assign 34 .fresh)))
                 (.seq (.call 35 783 [34, 5])
                 (.seq (.write 33)
                 (.ifStar (.seq (.seq (.seq (.assign 37 (.view 31))
                 (.seq (.call 38 745 [9, 37, 5])
                 (.ifStar .skip (.call 36 784 [38, 5, 5]))))
                 (.seq (.seq (.assign 39 .fresh)
                 (.assign 40 (.same 39)))
                 (.seq (.ifStar (.seq (.seq (.assign 41 .fresh)
                 (.whileStar ⟨[[0, 1], [1], [], [3], [4], [], [4], [0, 1], [4], [0, 1], [], [0, 1], [], [], [0, 1], [], [], [], [], [], [], [], [], [], [], [], [], [], [], [], [], [], [], [], [], [], [0, 1], [], [0, 1]], [], []⟩ (.assign 41 (.join [5, 41]))))
                 (.seq (.assign 42 .fresh)
                 (.seq (.whileStar ⟨[[0, 1], [1], [], [3], [4], [], [4], [0, 1], [4], [0, 1], [], [0, 1], [], [], [0, 1], [], [], [], [], [], [], [], [], [], [], [], [], [], [], [], [], [], [], [], [], [], [0, 1], [], [0, 1]], [], []⟩ (.assign 42 (.join [5, 42])))
                 (.write 40)))) .skip)
                 (.assign 43 .fresh))))
                 (.seq (.seq (.seq (.assign 40 (.same 43))
                 (.write 33))
                 (.seq (.assign 44 .fresh)
                 (.assign 45 (.same 44))))
                 (.seq (.seq (.assign 46 .fresh)
                 (.ifStar .skip (.ifStar (.call 47 786 [46, 45, 5, 5]) (.call 47 785 [45, 46, 5]))))
                 (.seq (.write 12)
                 (.write 17))))) .skip)))))))
         (.assign 48 (.view 19)))))
   (.seq (.seq (.assign 49 (.join [4]))
       (.seq (.assign 0 (.join [0, 19, 48, 49]))
         (.assign 51 (.view 17))))
     (.seq (.seq (.assign 52 (.view 51))
         (.assign 50 (.maybeView 52)))
       (.seq (.assign 53 (.join [19, 50]))
         (.ret 53))))))⟩

/-- functions/_pivoted_cholesky.py:PivotedCholesky.backward (line 110); formals ['ctx', 'grad_output', '_'] -/
def f26_functions__pivoted_cholesky__PivotedCholesky_backward : Fn := ⟨3,
 (.seq (.seq (.seq (.seq (.seq (.assign 4 (.view 0))
         (.assign 5 (.view 4)))
       (.seq (.assign 6 (.same 5))
         (.assign 7 (.view 4))))
     (.seq (.seq (.assign 8 (.same 7))
         (.assign 9 (.view 4)))
       (.seq (.assign 10 (.same 9))
         (.seq (.call 11 746 [6])
           (.assign 12 (.same 11))))))
   (.seq (.seq (.seq (.call 13 767 [8, 3, 3])
         (.assign 14 (.join [])))
       (.seq (.assign 15 (.same 14))
         (.seq (.whileStar ⟨[[0], [1], [2], [], [0], [0], [0], [0], [0], [0], [0], [], [], [0], [], [0], [0], [0], [0], [0]], [], []⟩ (.seq (.seq (.assign 16 (.view 10))
                 (.assign 17 (.same 16)))
               (.seq (.ifStar (.seq (.ifStar (.assign 19 (.view 17)) (.call 19 787 [17, 3]))
                 (.seq (.ifStar (.assign 18 (.same 19)) (.call 18 788 [19, 3, 3]))
                 (.assign 17 (.same 18)))) .skip)
                 (.assign 15 (.join [15, 17])))))
           (.assign 20 (.join [15])))))
     (.seq (.seq (.assign 22 (.join [20]))
         (.ifStar (.assign 21 .fresh) (.call 21 779 [0, 22])))
       (.seq (.assign 23 (.same 21))
         (.seq (.call 24 745 [23, 6, 8])
           (.assign 25 (.same 24)))))))
 (.seq (.seq (.seq (.seq (.assign 26 (.join [3]))
         (.ifStar (.call 27 789 [25, 26, 3]) (.assign 27 (.view 25))))
       (.seq (.call 28 706 [27, 3, 3, 3, 3])
         (.seq (.assign 29 (.join [3]))
           (.ifStar (.call 30 789 [25, 29, 3]) (.assign 30 (.view 25))))))
     (.seq (.seq (.ifStar (.call 31 777 [30, 3]) .skip)
         (.assign 32 .fresh))
       (.seq (.assign 33 (.same 32))
         (.seq (.call 34 745 [33, 12, 3])
           (.assign 35 (.same 34))))))
   (.seq (.seq (.seq (.assign 37 (.join [1]))
         (.ifStar .skip (.call 36 790 [35, 3, 3, 3, 3, 3, 3, 3, 3, 3, 3, 3, 37])))
       (.seq (.assign 38 (.join [3]))
         (.seq (.assign 39 .fresh)
           (.assign 41 (.view 15)))))
     (.seq (.seq (.assign 40 (.same 41))
         (.whileStar ⟨[[0], [1], [2], [], [0], [0], [0], [0], [0], [0], [0], [], [], [0], [], [0], [0], [0], [0], [0], [0], [0], [0], [0], [0], [0], [], [0], [], [], [0], [0], [], [], [], [], [], [1], [], [0], [0], [0], [0], [0]], [], []⟩ (.seq (.seq (.assign 42 (.view 15))
               (.assign 40 (.same 42)))
             (.seq (.assign 43 (.view 40))
               (.assign 39 (.join [39, 43]))))))
       (.seq (.assign 44 (.join [38, 39]))
         (.seq (.assign 45 (.join [44]))
           (.ret 45)))))))⟩

/-- functions/_root_decomposition.py:RootDecomposition.forward (line 12); formals ['ctx', 'representation_tree', 'max_iter', 'dtype', 'device', 'batch_shape', 'matrix_shape', 'root', 'inverse', 'initial_vectors', 'matrix_args'] -/
def f27_functions__root_decomposition__RootDecomposition_forward : Fn := ⟨11,
 (.seq (.seq (.seq (.seq (.seq (.assign 0 (.join [0, 1]))
         (.assign 0 (.join [0, 4])))
       (.seq (.assign 0 (.join [0, 3]))
         (.seq (.assign 0 (.join [0, 6]))
           (.assign 0 (.join [0, 2])))))
     (.seq (.seq (.assign 0 (.join [0, 5]))
         (.seq (.assign 0 (.join [0, 7]))
           (.assign 0 (.join [0, 8]))))
       (.seq (.assign 0 (.join [0, 9]))
         (.seq (.assign 12 .fresh)
           (.assign 13 (.same 12))))))
   (.seq (.seq (.seq (.assign 14 (.view 13))
         (.seq (.assign 15 (.same 14))
           (.assign 16 (.view 0))))
       (.seq (.call 17 721 [15, 11, 11, 11, 11, 11, 16, 11, 11])
         (.seq (.assign 18 (.view 17))
           (.assign 19 (.same 18)))))
     (.seq (.seq (.assign 20 (.view 17))
         (.seq (.assign 21 (.same 20))
           (.ifStar (.seq (.seq (.assign 22 (.view 19))
                 (.assign 19 (.same 22)))
               (.seq (.assign 23 (.view 21))
                 (.assign 21 (.same 23)))) .skip)))
       (.seq (.ifStar (.seq (.seq (.assign 24 (.view 19))
               (.assign 19 (.same 24)))
             (.seq (.assign 25 (.view 21))
               (.assign 21 (.same 25)))) .skip)
         (.seq (.call 27 311 [21])
           (.ifStar .skip (.call 26 782 [11, 11, 11])))))))
 (.seq (.seq (.seq (.seq (.assign 28 .fresh)
         (.call 29 722 [28]))
       (.seq (.assign 30 .fresh)
         (.seq (.assign 19 (.same 30))
           (.assign 31 .fresh))))
     (.seq (.seq (.assign 32 (.same 31))
         (.seq (.assign 33 .fresh)
           (.assign 7 (.same 33))))
       (.seq (.assign 34 .fresh)
         (.seq (.assign 8 (.same 34))
           (.ifStar (.seq (.ifStar .skip (.call 35 782 [32, 11, 11]))
               (.seq (.assign 36 .fresh)
                 (.assign 8 (.same 36)))) .skip)))))
   (.seq (.seq (.seq (.ifStar (.seq (.ifStar .skip (.call 37 782 [32, 11, 11]))
             (.seq (.assign 38 .fresh)
               (.assign 7 (.same 38)))) .skip)
         (.seq (.ifStar (.assign 0 (.join [0, 13])) .skip)
           (.ifStar (.seq (.seq (.seq (.ifStar (.seq (.assign 39 (.view 7))
                 (.assign 40 (.same 39))) (.assign 40 (.same 7)))
                 (.assign 7 (.same 40)))
                 (.seq (.assign 41 (.view 19))
                 (.assign 19 (.same 41))))
               (.seq (.seq (.ifStar (.assign 42 (.view 32)) (.call 42 784 [32, 11, 11]))
                 (.assign 32 (.same 42)))
                 (.seq (.ifStar (.seq (.assign 43 (.view 8))
                 (.assign 44 (.same 43))) (.assign 44 (.same 8)))
                 (.assign 8 (.same 44))))) .skip)))
       (.seq (.ifStar (.seq (.seq (.seq (.ifStar (.seq (.assign 45 (.view 7))
                 (.assign 46 (.same 45))) (.assign 46 (.same 7)))
                 (.assign 7 (.same 46)))
               (.seq (.assign 47 (.view 19))
                 (.assign 19 (.same 47))))
             (.seq (.seq (.assign 48 (.view 32))
                 (.assign 32 (.same 48)))
               (.seq (.ifStar (.seq (.assign 49 (.view 8))
                 (.assign 50 (.same 49))) (.assign 50 (.same 8)))
                 (.assign 8 (.same 50))))) .skip)
         (.seq (.assign 51 (.join [10]))
           (.assign 52 (.join [8, 19, 32])))))
     (.seq (.seq (.assign 53 (.join [51, 52]))
         (.seq (.assign 54 (.same 53))
           (.assign 55 (.join [54]))))
       (.seq (.assign 0 (.join [0, 55]))
         (.seq (.assign 56 (.join [7, 8]))
           (.ret 56)))))))⟩

/-- functions/_root_decomposition.py:RootDecomposition.backward (line 107); formals ['ctx', 'root_grad_output', 'inverse_grad_output'] -/
def f28_functions__root_decomposition__RootDecomposition_backward : Fn := ⟨3,
 (.ifStar (.seq (.seq (.seq (.seq (.call 4 791 [1])
         (.ifStar (.assign 1 (.same 3)) .skip))
       (.seq (.call 5 791 [2])
         (.seq (.ifStar (.assign 2 (.same 3)) .skip)
           (.ifStar (.seq (.ifStar (.seq (.assign 6 (.view 1))
                 (.assign 1 (.same 6))) .skip)
               (.ifStar (.seq (.assign 7 (.view 1))
                 (.assign 1 (.same 7))) .skip)) .skip))))
     (.seq (.seq (.ifStar (.seq (.ifStar (.seq (.assign 8 (.view 2))
                 (.assign 2 (.same 8))) .skip)
             (.ifStar (.seq (.assign 9 (.view 2))
                 (.assign 2 (.same 9))) .skip)) .skip)
         (.assign 10 .fresh))
       (.seq (.assign 11 (.same 10))
         (.seq (.ifStar (.write 11) .skip)
           (.ifStar (.seq (.ifStar (.call 12 777 [2, 3]) .skip)
               (.write 11)) .skip)))))
   (.seq (.seq (.seq (.assign 13 .fresh)
         (.assign 14 (.same 13)))
       (.seq (.ifStar (.seq (.seq (.seq (.assign 16 (.view 11))
                 (.assign 15 (.maybeView 16)))
               (.seq (.assign 11 (.same 15))
                 (.seq (.assign 17 (.view 11))
                 (.assign 11 (.same 17)))))
             (.seq (.seq (.assign 19 (.view 14))
                 (.assign 18 (.maybeView 19)))
               (.seq (.assign 14 (.same 18))
                 (.seq (.assign 20 (.view 14))
                 (.assign 14 (.same 20)))))) (.seq (.seq (.assign 21 (.maybeView 11))
               (.assign 11 (.same 21)))
             (.seq (.assign 22 (.maybeView 14))
               (.assign 14 (.same 22)))))
         (.seq (.assign 23 .fresh)
           (.assign 24 (.same 23)))))
     (.seq (.seq (.assign 25 (.join [3]))
         (.seq (.assign 26 (.join [3, 25]))
           (.assign 27 (.join [24]))))
       (.seq (.assign 28 (.join [26, 27]))
         (.seq (.assign 29 (.join [28]))
           (.ret 29)))))) .skip)⟩

/-- functions/_solve.py:_solve (line 9); formals ['linear_op', 'rhs'] -/
def f29_functions__solve___solve : Fn := ⟨2,
 (.seq (.ifStar (.seq (.ifStar (.assign 3 .fresh) (.call 3 774 [0, 1, 2, 2]))
     (.ret 3)) .skip)
 (.seq (.call 4 767 [0, 2, 2])
   (.ifStar (.seq (.ifStar (.assign 6 .fresh) (.call 6 792 [0, 2, 2]))
       (.seq (.ifStar (.assign 5 .fresh) (.call 5 793 [6, 1, 2, 2]))
         (.ret 5))) (.seq (.seq (.ifStar (.assign 8 (.view 0)) (.call 8 787 [0, 2]))
         (.ifStar (.assign 7 .fresh) (.call 7 794 [8, 2])))
       (.seq (.assign 9 (.same 7))
         (.seq (.ifStar (.assign 10 .fresh) (.call 10 795 [0, 1, 9, 2, 2]))
           (.ret 10)))))))⟩

/-- functions/_solve.py:Solve.forward (line 26); formals ['ctx', 'representation_tree', 'has_left', 'args'] -/
def f30_functions__solve__Solve_forward : Fn := ⟨4,
 (.seq (.seq (.seq (.seq (.assign 5 (.same 4))
       (.assign 6 (.same 4)))
     (.seq (.assign 7 (.same 4))
       (.seq (.assign 0 (.join [0, 1]))
         (.assign 0 (.join [0, 2])))))
   (.seq (.seq (.ifStar (.seq (.seq (.assign 8 (.view 3))
             (.seq (.assign 5 (.same 8))
               (.assign 9 (.view 3))))
           (.seq (.assign 6 (.same 9))
             (.seq (.assign 10 (.view 3))
               (.assign 7 (.same 10))))) (.seq (.seq (.assign 11 (.view 3))
             (.assign 6 (.same 11)))
           (.seq (.assign 12 (.view 3))
             (.assign 7 (.same 12)))))
       (.assign 13 (.same 6)))
     (.seq (.assign 14 (.join [7]))
       (.seq (.assign 16 (.join [14]))
         (.ifStar (.assign 15 .fresh) (.call 15 779 [0, 16]))))))
 (.seq (.seq (.seq (.assign 17 (.same 15))
       (.assign 0 (.join [0, 4])))
     (.seq (.call 18 796 [6, 4])
       (.seq (.ifStar (.seq (.ifStar (.assign 19 (.view 6)) (.call 19 782 [6, 4, 4]))
             (.seq (.assign 6 (.same 19))
               (.assign 0 (.join [0, 4])))) .skip)
         (.ifStar (.seq (.seq (.seq (.ifStar (.call 20 777 [5, 4]) .skip)
                 (.assign 21 .fresh))
               (.seq (.assign 22 (.same 21))
                 (.seq (.call 23 29 [17, 22])
                 (.assign 24 (.same 23)))))
             (.seq (.seq (.call 25 767 [5, 4, 4])
                 (.seq (.assign 26 (.join [4]))
                 (.ifStar (.call 27 789 [24, 26, 4]) (.assign 27 (.view 24)))))
               (.seq (.assign 28 (.same 27))
                 (.seq (.ifStar (.assign 29 .fresh) (.ifStar (.call 29 798 [28, 5, 4]) (.call 29 797 [5, 28, 4])))
                 (.assign 28 (.same 29)))))) (.seq (.call 30 29 [17, 6])
             (.seq (.assign 24 (.same 30))
               (.assign 28 (.same 24))))))))
   (.seq (.seq (.ifStar (.seq (.ifStar (.assign 31 (.view 28)) (.call 31 784 [28, 4, 4]))
           (.assign 28 (.same 31))) .skip)
       (.seq (.ifStar (.seq (.seq (.assign 32 (.join [5, 13, 24]))
               (.assign 33 (.join [7])))
             (.seq (.assign 34 (.join [32, 33]))
               (.assign 3 (.same 34)))) (.seq (.seq (.assign 35 (.join [13, 24]))
               (.assign 36 (.join [7])))
             (.seq (.assign 37 (.join [35, 36]))
               (.assign 3 (.same 37)))))
         (.assign 38 (.join [3]))))
     (.seq (.assign 0 (.join [0, 38]))
       (.seq (.ifStar (.assign 0 (.join [0, 17])) .skip)
         (.ret 28))))))⟩

/-- functions/_solve.py:Solve.backward (line 70); formals ['ctx', 'grad_output'] -/
def f31_functions__solve__Solve_backward : Fn := ⟨2,
 (.seq (.seq (.seq (.ifStar (.seq (.seq (.seq (.seq (.assign 3 (.view 0))
               (.assign 4 (.view 3)))
             (.seq (.assign 5 (.same 4))
               (.assign 6 (.view 3))))
           (.seq (.seq (.assign 7 (.same 6))
               (.assign 8 (.view 3)))
             (.seq (.assign 9 (.same 8))
               (.assign 10 (.view 3)))))
         (.seq (.seq (.seq (.assign 11 (.same 10))
               (.call 12 767 [7, 2, 2]))
             (.seq (.assign 13 (.join [2]))
               (.ifStar (.call 14 789 [5, 13, 2]) (.assign 14 (.view 5)))))
           (.seq (.seq (.assign 15 (.same 14))
               (.call 16 767 [7, 2, 2]))
             (.seq (.assign 17 (.join [2]))
               (.seq (.ifStar (.call 18 789 [5, 17, 2]) (.assign 18 (.view 5)))
                 (.assign 19 (.same 18))))))) (.seq (.seq (.assign 20 (.view 0))
           (.seq (.assign 21 (.view 20))
             (.assign 19 (.same 21))))
         (.seq (.seq (.assign 22 (.view 20))
             (.assign 9 (.same 22)))
           (.seq (.assign 23 (.view 20))
             (.assign 11 (.same 23))))))
     (.ifStar (.seq (.assign 24 (.view 0))
         (.assign 25 (.same 24))) (.seq (.seq (.assign 26 (.join [11]))
           (.assign 28 (.join [26])))
         (.seq (.ifStar (.assign 27 .fresh) (.call 27 779 [0, 28]))
           (.assign 25 (.same 27))))))
   (.seq (.assign 29 (.join [2]))
     (.assign 30 .fresh)))
 (.seq (.seq (.assign 31 (.join [29, 30]))
     (.assign 32 (.same 31)))
   (.seq (.assign 33 (.same 2))
     (.seq (.assign 34 (.same 2))
       (.ifStar (.seq (.ifStar (.seq (.seq (.ifStar (.assign 35 (.view 9)) (.call 35 782 [9, 2, 2]))
                 (.assign 9 (.same 35)))
               (.seq (.ifStar (.assign 36 (.view 1)) (.call 36 782 [1, 2, 2]))
                 (.assign 1 (.same 36)))) .skip)
           (.ifStar (.seq (.seq (.seq (.assign 37 (.view 0))
                 (.seq (.assign 38 (.join [11]))
                 (.assign 40 .fresh)))
                 (.seq (.seq (.assign 41 (.join [1, 38]))
                 (.call 39 30 [40, 37, 2, 41]))
                 (.seq (.assign 15 (.same 39))
                 (.ifStar (.seq (.seq (.assign 42 .fresh)
                 (.assign 43 .fresh))
                 (.seq (.ifStar (.assign 44 .fresh) (.call 44 799 [25, 42, 43, 2]))
                 (.assign 32 (.same 44)))) .skip))))
               (.seq (.seq (.seq (.ifStar (.assign 34 (.same 15)) .skip)
                 (.assign 45 (.join [2])))
                 (.seq (.assign 46 (.join [34]))
                 (.assign 47 (.join [45, 46]))))
                 (.seq (.seq (.assign 48 (.join [32]))
                 (.assign 49 (.join [47, 48])))
                 (.seq (.assign 50 (.join [49]))
                 (.ret 50))))) (.seq (.seq (.seq (.ifStar (.assign 51 .fresh) (.ifStar (.call 51 798 [1, 15, 2]) (.call 51 797 [15, 1, 2])))
                 (.seq (.assign 15 (.same 51))
                 (.ifStar (.seq (.seq (.assign 52 (.view 19))
                 (.ifStar (.call 52 777 [19, 2]) .skip))
                 (.seq (.assign 53 (.same 52))
                 (.seq (.ifStar (.assign 54 .fresh) (.ifStar (.call 54 798 [53, 1, 2]) (.call 54 797 [1, 53, 2])))
                 (.assign 33 (.same 54))))) .skip)))
                 (.seq (.ifStar (.seq (.seq (.assign 55 .fresh)
                 (.assign 56 .fresh))
                 (.seq (.ifStar (.assign 57 .fresh) (.call 57 799 [25, 55, 56, 2]))
                 (.assign 32 (.same 57)))) .skip)
                 (.seq (.ifStar (.assign 34 (.same 15)) .skip)
                 (.assign 58 (.join [2])))))
               (.seq (.seq (.assign 59 (.join [33, 34]))
                 (.seq (.assign 60 (.join [58, 59]))
                 (.assign 61 (.join [32]))))
                 (.seq (.assign 62 (.join [60, 61]))
                 (.seq (.assign 63 (.join [62]))
                 (.ret 63))))))) .skip)))))⟩

/-- functions/_sqrt_inv_matmul.py:SqrtInvMatmul.forward (line 18); formals ['ctx', 'representation_tree', 'rhs', 'lhs', 'matrix_args'] -/
def f32_functions__sqrt_inv_matmul__SqrtInvMatmul_forward : Fn := ⟨5,
 (.seq (.seq (.seq (.assign 0 (.join [0, 1]))
     (.assign 6 .fresh))
   (.seq (.assign 0 (.join [0, 6]))
     (.ifStar (.seq (.seq (.seq (.seq (.ifStar (.call 7 777 [3, 5]) .skip)
               (.seq (.assign 8 .fresh)
                 (.assign 9 (.same 8))))
             (.seq (.seq (.assign 10 (.view 0))
                 (.assign 11 .fresh))
               (.seq (.call 12 707 [10, 9, 5, 5, 5, 5, 11, 5])
                 (.assign 13 (.view 12)))))
           (.seq (.seq (.assign 14 (.same 13))
               (.seq (.assign 15 (.view 12))
                 (.assign 16 (.same 15))))
             (.seq (.seq (.assign 17 (.view 12))
                 (.assign 18 (.same 17)))
               (.seq (.assign 19 (.view 12))
                 (.assign 20 (.same 19))))))
         (.seq (.seq (.seq (.assign 21 (.view 14))
               (.seq (.assign 22 (.view 21))
                 (.assign 23 (.same 22))))
             (.seq (.seq (.assign 24 (.view 21))
                 (.assign 25 (.same 24)))
               (.seq (.assign 26 (.view 18))
                 (.assign 27 (.same 26)))))
           (.seq (.seq (.seq (.assign 28 .fresh)
                 (.ifStar (.assign 29 .fresh) (.ifStar (.call 29 798 [28, 3, 5]) (.call 29 797 [3, 28, 5]))))
               (.seq (.assign 30 (.same 29))
                 (.ifStar (.call 33 777 [27, 5]) .skip)))
             (.seq (.seq (.assign 32 .fresh)
                 (.write 32))
               (.seq (.assign 31 (.same 32))
                 (.assign 34 (.same 31))))))) (.seq (.seq (.seq (.assign 35 (.view 0))
             (.seq (.assign 36 .fresh)
               (.call 37 707 [35, 2, 5, 5, 5, 5, 36, 5])))
           (.seq (.seq (.assign 38 (.view 37))
               (.assign 23 (.same 38)))
             (.seq (.assign 39 (.view 37))
               (.assign 16 (.same 39)))))
         (.seq (.seq (.seq (.assign 40 (.view 37))
               (.assign 20 (.same 40)))
             (.seq (.assign 41 .fresh)
               (.assign 30 (.same 41))))
           (.seq (.seq (.assign 25 (.same 5))
               (.assign 27 (.same 5)))
             (.seq (.assign 42 .fresh)
               (.assign 34 (.same 42)))))))))
 (.seq (.seq (.assign 43 (.join [4]))
     (.assign 0 (.join [0, 2, 3, 16, 20, 23, 25, 27, 43])))
   (.seq (.assign 44 (.join [30, 34]))
     (.ret 44))))⟩

/-- functions/_sqrt_inv_matmul.py:SqrtInvMatmul.backward (line 52); formals ['ctx', 'sqrt_inv_matmul_grad', 'inv_quad_grad'] -/
def f33_functions__sqrt_inv_matmul__SqrtInvMatmul_backward : Fn := ⟨3,
 (.seq (.seq (.seq (.seq (.assign 4 (.view 0))
       (.assign 5 (.view 4)))
     (.seq (.assign 6 (.same 5))
       (.assign 7 (.view 4))))
   (.seq (.seq (.assign 8 (.same 7))
       (.assign 9 (.view 4)))
     (.seq (.assign 10 (.same 9))
       (.assign 11 (.same 3)))))
 (.seq (.seq (.seq (.assign 12 (.same 3))
       (.assign 13 (.join [3])))
     (.seq (.assign 14 .fresh)
       (.assign 15 (.join [13, 14]))))
   (.seq (.seq (.assign 16 (.same 15))
       (.ifStar (.seq (.seq (.seq (.assign 17 .fresh)
               (.seq (.assign 18 (.view 1))
                 (.ifStar (.call 18 777 [1, 3]) .skip)))
             (.seq (.seq (.assign 19 (.same 18))
                 (.ifStar (.assign 20 .fresh) (.ifStar (.call 20 798 [19, 17, 3]) (.call 20 797 [17, 19, 3]))))
               (.seq (.assign 21 (.same 20))
                 (.ifStar (.seq (.seq (.ifStar (.call 23 777 [21, 3]) .skip)
                 (.assign 22 .fresh))
                 (.seq (.assign 12 (.same 22))
                 (.write 12))) .skip))))
           (.seq (.seq (.seq (.ifStar (.seq (.ifStar .skip (.ifStar (.call 25 798 [1, 6, 3]) (.call 25 797 [6, 1, 3])))
                 (.seq (.assign 24 .fresh)
                 (.assign 11 (.same 24)))) .skip)
                 (.assign 26 .fresh))
               (.seq (.assign 28 .fresh)
                 (.write 28)))
             (.seq (.seq (.assign 27 (.same 28))
                 (.assign 30 (.view 0)))
               (.seq (.call 29 799 [30, 26, 27, 3])
                 (.assign 16 (.same 29)))))) (.seq (.seq (.seq (.assign 31 (.view 0))
               (.seq (.assign 32 .fresh)
                 (.call 33 707 [31, 1, 3, 8, 10, 3, 32, 3])))
             (.seq (.assign 12 (.same 3))
               (.seq (.ifStar (.seq (.assign 34 .fresh)
                 (.assign 11 (.same 34))) .skip)
                 (.assign 35 .fresh))))
           (.seq (.seq (.assign 37 .fresh)
               (.seq (.write 37)
                 (.assign 36 (.same 37))))
             (.seq (.assign 39 (.view 0))
               (.seq (.call 38 799 [39, 35, 36, 3])
                 (.assign 16 (.same 38))))))))
     (.seq (.assign 40 (.join [3, 11, 12, 16]))
       (.seq (.assign 41 (.same 40))
         (.ret 41))))))⟩

/-- operators/_linear_operator.py:_implements (line 66); formals ['torch_function'] -/
def f34_operators__linear_operator___implements : Fn := ⟨1,
 (.seq (.assign 1 (.join [0]))
 (.ret 1))⟩

/-- operators/_linear_operator.py:_implements_second_arg (line 82); formals ['torch_function'] -/
def f35_operators__linear_operator___implements_second_arg : Fn := ⟨1,
 (.seq (.assign 1 (.join [0]))
 (.ret 1))⟩

/-- operators/_linear_operator.py:_implements_symmetric (line 102); formals ['torch_function'] -/
def f36_operators__linear_operator___implements_symmetric : Fn := ⟨1,
 (.seq (.assign 1 (.join [0]))
 (.ret 1))⟩

/-- operators/_linear_operator.py:_scale_columns (line 119); formals ['evecs', 'scale'] -/
def f37_operators__linear_operator___scale_columns : Fn := ⟨2,
 (.seq (.seq (.ifStar (.seq (.ifStar (.assign 3 (.view 1)) (.call 3 782 [1, 2, 2]))
       (.seq (.ifStar (.assign 4 .fresh) (.ifStar (.call 4 804 [3, 0, 2]) (.call 4 803 [0, 3, 2])))
         (.ret 4))) .skip)
   (.assign 6 .fresh))
 (.seq (.call 5 312 [6, 1])
   (.seq (.ifStar (.assign 7 .fresh) (.call 7 805 [0, 5, 2]))
     (.ret 7))))⟩

/-- operators/_linear_operator.py:LinearOperator._check_args (line 161); formals ['self', 'args', 'kwargs'] -/
def f38_operators__linear_operator__LinearOperator__check_args : Fn := ⟨3,
 (.ret 3)⟩

/-- operators/_linear_operator.py:LinearOperator.__init__ (line 169); formals ['self', 'args', 'kwargs'] -/
def f39_operators__linear_operator__LinearOperator___init__ : Fn := ⟨3,
 (.seq (.seq (.seq (.ifStar (.seq (.assign 3 (.join [1, 2]))
         (.seq (.assign 5 (.join [3]))
           (.call 4 806 [0, 3, 3, 3, 3, 3, 3, 3, 3, 3, 3, 5]))) .skip)
     (.assign 0 (.join [0, 1])))
   (.seq (.assign 6 (.join []))
     (.seq (.assign 0 (.join [0, 6]))
       (.assign 7 (.join [])))))
 (.seq (.seq (.assign 0 (.join [0, 7]))
     (.assign 8 (.join [2])))
   (.seq (.assign 9 (.join [8]))
     (.seq (.whileStar ⟨[[0, 1, 2], [1], [2], [1, 2], [], [1, 2], [], [], [2], [2], [2], [2], [2], [0, 1, 2], [0, 1, 2]], [], []⟩ (.seq (.seq (.assign 10 (.view 9))
             (.assign 11 (.view 10)))
           (.seq (.assign 12 (.same 11))
             (.ifStar (.seq (.assign 13 (.view 0))
                 (.seq (.assign 13 (.join [12, 13]))
                 (.assign 0 (.join [0, 13])))) (.seq (.assign 14 (.view 0))
                 (.seq (.assign 14 (.join [12, 14]))
                 (.assign 0 (.join [0, 14]))))))))
       (.ret 0)))))⟩

/-- operators/_linear_operator.py:LinearOperator._matmul (line 190); formals ['self', 'rhs'] -/
def f40_operators__linear_operator__LinearOperator__matmul : Fn := ⟨2,
 .skip⟩

/-- operators/_linear_operator.py:LinearOperator._size (line 213); formals ['self'] -/
def f41_operators__linear_operator__LinearOperator__size : Fn := ⟨1,
 .skip⟩

/-- operators/_linear_operator.py:LinearOperator._transpose_nonbatch (line 227); formals ['self'] -/
def f42_operators__linear_operator__LinearOperator__transpose_nonbatch : Fn := ⟨1,
 .skip⟩

/-- operators/_linear_operator.py:LinearOperator._permute_batch (line 245); formals ['self', 'dims'] -/
def f43_operators__linear_operator__LinearOperator__permute_batch : Fn := ⟨2,
 (.seq (.seq (.seq (.seq (.assign 3 (.join []))
       (.assign 4 (.same 3)))
     (.seq (.assign 5 (.view 0))
       (.ifStar (.call 5 807 [0, 2]) .skip)))
   (.seq (.seq (.assign 6 (.same 5))
       (.whileStar ⟨[[0], [1], [], [], [0], [0], [0], [0], [0], [], [], [], [1], [0], [1], [1], [0], [1]], [], []⟩ (.seq (.assign 7 (.view 6))
           (.seq (.assign 8 (.same 7))
             (.ifStar (.seq (.seq (.call 9 808 [8, 2])
                 (.seq (.assign 10 .fresh)
                 (.assign 11 (.same 10))))
                 (.seq (.seq (.assign 12 (.join [1, 11]))
                 (.assign 14 (.join [12])))
                 (.seq (.ifStar (.assign 13 (.view 8)) (.call 13 809 [8, 14]))
                 (.assign 4 (.join [4, 13]))))) (.ifStar (.seq (.seq (.assign 15 (.join [1]))
                 (.assign 17 (.join [15])))
                 (.seq (.ifStar (.assign 16 .fresh) (.call 16 810 [8, 17]))
                 (.assign 4 (.join [4, 16])))) (.assign 4 (.join [4, 8]))))))))
     (.seq (.assign 18 (.view 0))
       (.ifStar (.call 18 811 [0, 2]) .skip))))
 (.seq (.seq (.seq (.assign 19 (.same 18))
       (.assign 20 (.join [4, 19])))
     (.seq (.assign 22 .fresh)
       (.assign 24 (.join [20]))))
   (.seq (.seq (.call 23 812 [22, 20, 20, 20, 20, 20, 20, 20, 20, 20, 20, 20, 20, 20, 20, 20, 20, 20, 20, 20, 20, 20, 20, 20, 20, 20, 20, 20, 20, 20, 20, 20, 20, 20, 20, 20, 20, 20, 20, 20, 20, 20, 20, 20, 20, 20, 20, 20, 20, 20, 20, 20, 20, 20, 24])
       (.assign 21 (.join [20, 23])))
     (.seq (.assign 25 (.same 21))
       (.ret 25)))))⟩

/-- operators/_linear_operator.py:LinearOperator._getitem (line 272); formals ['self', 'row_index', 'col_index', 'batch_indices'] -/
def f44_operators__linear_operator__LinearOperator__getitem : Fn := ⟨4,
 (.seq (.seq (.seq (.seq (.call 5 717 [1])
       (.seq (.call 6 717 [2])
         (.ifStar (.ifStar (.seq (.seq (.seq (.seq (.assign 7 .fresh)
                 (.assign 9 (.view 0)))
                 (.seq (.ifStar (.call 9 807 [0, 4]) .skip)
                 (.assign 10 (.same 9))))
                 (.seq (.seq (.assign 11 (.view 10))
                 (.assign 8 (.same 11)))
                 (.seq (.whileStar ⟨[[0], [1], [2], [3], [], [], [], [0, 3], [0], [0], [0], [0], [0], [0], [0], [0, 3]], [], []⟩ (.seq (.seq (.assign 12 (.view 0))
                 (.seq (.ifStar (.call 12 807 [0, 4]) .skip)
                 (.assign 13 (.same 12))))
                 (.seq (.seq (.assign 14 (.view 13))
                 (.assign 8 (.same 14)))
                 (.seq (.ifStar (.call 15 789 [8, 3, 4]) (.assign 15 (.maybeView 8)))
                 (.assign 7 (.join [7, 15]))))))
                 (.seq (.assign 16 (.same 7))
                 (.assign 17 (.view 0))))))
               (.seq (.seq (.seq (.ifStar (.call 17 811 [0, 4]) .skip)
                 (.assign 18 (.same 17)))
                 (.seq (.assign 19 (.join [16, 18]))
                 (.assign 21 .fresh)))
                 (.seq (.seq (.assign 23 (.join [19]))
                 (.call 22 812 [21, 19, 19, 19, 19, 19, 19, 19, 19, 19, 19, 19, 19, 19, 19, 19, 19, 19, 19, 19, 19, 19, 19, 19, 19, 19, 19, 19, 19, 19, 19, 19, 19, 19, 19, 19, 19, 19, 19, 19, 19, 19, 19, 19, 19, 19, 19, 19, 19, 19, 19, 19, 19, 19, 23]))
                 (.seq (.assign 20 (.join [19, 22]))
                 (.seq (.assign 24 (.same 20))
                 (.ret 24)))))) (.ret 0)) .skip)))
     (.seq (.seq (.call 26 767 [0, 4, 4])
         (.assign 27 .fresh))
       (.seq (.assign 25 (.view 27))
         (.assign 28 (.same 25)))))
   (.seq (.seq (.assign 29 (.view 28))
       (.seq (.assign 28 (.same 29))
         (.assign 31 .fresh)))
     (.seq (.seq (.assign 30 (.view 31))
         (.assign 32 (.same 30)))
       (.seq (.call 34 767 [0, 4, 4])
         (.assign 35 .fresh)))))
 (.seq (.seq (.seq (.assign 33 (.view 35))
       (.seq (.assign 36 (.same 33))
         (.assign 37 (.view 36))))
     (.seq (.seq (.assign 36 (.same 37))
         (.assign 39 .fresh))
       (.seq (.assign 38 (.view 39))
         (.assign 40 (.same 38)))))
   (.seq (.seq (.assign 42 .fresh)
       (.seq (.call 41 396 [42, 0, 28, 32, 36, 40])
         (.assign 24 (.same 41))))
     (.seq (.seq (.assign 43 (.join [3]))
         (.assign 45 (.join [43])))
       (.seq (.call 44 813 [24, 1, 2, 45])
         (.ret 44))))))⟩

/-- operators/_linear_operator.py:LinearOperator._unsqueeze_batch (line 333); formals ['self', 'dim'] -/
def f45_operators__linear_operator__LinearOperator__unsqueeze_batch : Fn := ⟨2,
 (.seq (.seq (.seq (.seq (.assign 3 .fresh)
       (.assign 5 (.view 0)))
     (.seq (.ifStar (.call 5 807 [0, 2]) .skip)
       (.assign 6 (.same 5))))
   (.seq (.seq (.assign 7 (.view 6))
       (.assign 4 (.same 7)))
     (.seq (.whileStar ⟨[[0], [1], [], [0, 1], [0], [0], [0], [0], [0], [0], [0], [0, 1]], [], []⟩ (.seq (.seq (.assign 8 (.view 0))
             (.seq (.ifStar (.call 8 807 [0, 2]) .skip)
               (.assign 9 (.same 8))))
           (.seq (.seq (.assign 10 (.view 9))
               (.assign 4 (.same 10)))
             (.seq (.ifStar (.assign 11 (.view 4)) (.call 11 782 [4, 1, 2]))
               (.assign 3 (.join [3, 11]))))))
       (.seq (.assign 12 (.same 3))
         (.assign 13 (.view 0))))))
 (.seq (.seq (.seq (.ifStar (.call 13 811 [0, 2]) .skip)
       (.assign 14 (.same 13)))
     (.seq (.assign 15 (.join [12, 14]))
       (.assign 17 .fresh)))
   (.seq (.seq (.assign 19 (.join [15]))
       (.call 18 812 [17, 15, 15, 15, 15, 15, 15, 15, 15, 15, 15, 15, 15, 15, 15, 15, 15, 15, 15, 15, 15, 15, 15, 15, 15, 15, 15, 15, 15, 15, 15, 15, 15, 15, 15, 15, 15, 15, 15, 15, 15, 15, 15, 15, 15, 15, 15, 15, 15, 15, 15, 15, 15, 15, 19]))
     (.seq (.assign 16 (.join [15, 18]))
       (.seq (.assign 20 (.same 16))
         (.ret 20))))))⟩

/-- operators/_linear_operator.py:LinearOperator._bilinear_derivative (line 354); formals ['self', 'left_vecs', 'right_vecs'] -/
def f46_operators__linear_operator__LinearOperator__bilinear_derivative : Fn := ⟨3,
 (.seq (.seq (.seq (.seq (.assign 4 (.join []))
       (.seq (.assign 5 (.same 4))
         (.call 6 814 [0, 3])))
     (.seq (.whileStar ⟨[[0], [1], [2], [], [], [0], [0], [0], [0], [0], [0], [0]], [], []⟩ (.seq (.assign 7 (.view 6))
           (.seq (.assign 8 (.same 7))
             (.ifStar (.seq (.ifStar (.assign 10 (.view 8)) (.call 10 787 [8, 3]))
                 (.seq (.ifStar (.assign 9 (.same 10)) (.call 9 788 [10, 3, 3]))
                 (.assign 5 (.join [5, 9])))) (.seq (.ifStar (.assign 11 (.view 8)) (.call 11 787 [8, 3]))
                 (.assign 5 (.join [5, 11])))))))
       (.seq (.assign 12 .fresh)
         (.whileStar ⟨[[0], [1], [2], [], [], [0], [0], [0], [0], [0], [0], [0]], [], []⟩ (.assign 12 (.join [3, 12]))))))
   (.seq (.seq (.ifStar (.seq (.seq (.assign 13 (.join [3]))
             (.assign 14 .fresh))
           (.seq (.assign 15 (.join [13, 14]))
             (.ret 15))) .skip)
       (.seq (.assign 16 (.join [5]))
         (.call 18 779 [0, 3])))
     (.seq (.assign 17 (.opq [16]))
       (.seq (.assign 19 (.same 17))
         (.ifStar .skip (.call 20 815 [19, 2, 3]))))))
 (.seq (.seq (.seq (.assign 21 .fresh)
       (.seq (.assign 23 (.view 5))
         (.assign 22 (.same 23))))
     (.seq (.whileStar ⟨[[0], [1], [2], [], [], [0], [0], [0], [0], [0], [0], [0], [], [], [], [], [0], [0], [0], [0], [2], [0], [0], [0], [0]], [], []⟩ (.seq (.assign 24 (.view 5))
           (.seq (.assign 22 (.same 24))
             (.assign 21 (.join [21, 22])))))
       (.seq (.assign 25 .fresh)
         (.assign 26 (.opq [25])))))
   (.seq (.seq (.assign 27 (.same 26))
       (.seq (.assign 28 (.join []))
         (.assign 29 (.same 28))))
     (.seq (.whileStar ⟨[[0], [1], [2], [], [], [0], [0], [0], [0], [0], [0], [0], [], [], [], [], [0], [0], [0], [0], [2], [0], [0], [0], [0], [], [], [], [], [], [0]], [], []⟩ (.seq (.assign 30 (.view 5))
           (.seq (.assign 8 (.same 30))
             (.ifStar (.seq (.assign 31 (.opq [27]))
                 (.assign 29 (.join [29, 31]))) (.assign 29 (.join [3, 29]))))))
       (.seq (.assign 32 (.join [29]))
         (.ret 32))))))⟩

/-- operators/_linear_operator.py:LinearOperator._expand_batch (line 413); formals ['self', 'batch_shape'] -/
def f47_operators__linear_operator__LinearOperator__expand_batch : Fn := ⟨2,
 (.seq (.seq (.seq (.assign 3 .fresh)
     (.call 4 808 [0, 2]))
   (.seq (.whileStar ⟨[[0], [1]], [], []⟩ (.seq (.call 5 808 [0, 2])
         (.assign 3 (.join [2, 3]))))
     (.seq (.assign 6 .fresh)
       (.whileStar ⟨[[0], [1]], [], []⟩ (.seq (.assign 7 .fresh)
           (.assign 6 (.join [6, 7])))))))
 (.seq (.seq (.assign 8 .fresh)
     (.seq (.assign 9 (.same 8))
       (.assign 10 (.join [9]))))
   (.seq (.assign 12 (.join [2, 10]))
     (.seq (.call 11 816 [0, 12])
       (.ret 11)))))⟩

/-- operators/_linear_operator.py:LinearOperator._get_indices (line 430); formals ['self', 'row_index', 'col_index', 'batch_indices'] -/
def f48_operators__linear_operator__LinearOperator__get_indices : Fn := ⟨4,
 (.seq (.seq (.seq (.seq (.seq (.assign 5 .fresh)
         (.seq (.whileStar ⟨[[0], [1], [2], [3]], [], []⟩ (.assign 5 (.join [4, 5])))
           (.assign 6 .fresh)))
       (.seq (.assign 7 (.same 6))
         (.seq (.assign 9 (.join [7]))
           (.ifStar (.assign 8 (.view 1)) (.call 8 776 [1, 9])))))
     (.seq (.seq (.assign 1 (.same 8))
         (.seq (.assign 11 (.join [7]))
           (.ifStar (.assign 10 (.view 2)) (.call 10 776 [2, 11]))))
       (.seq (.seq (.assign 2 (.same 10))
           (.assign 12 .fresh))
         (.seq (.assign 14 (.view 3))
           (.assign 13 (.same 14))))))
   (.seq (.seq (.seq (.whileStar ⟨[[0], [1], [2], [3], [], [], [], [], [1], [], [2], [], [3], [3], [3], [3], [3]], [], []⟩ (.seq (.seq (.assign 15 (.view 3))
               (.assign 13 (.same 15)))
             (.seq (.assign 17 (.join [7]))
               (.seq (.ifStar (.assign 16 (.view 13)) (.call 16 776 [13, 17]))
                 (.assign 12 (.join [12, 16]))))))
         (.seq (.assign 18 (.join [12]))
           (.assign 3 (.same 18))))
       (.seq (.assign 20 (.join [3]))
         (.seq (.assign 22 (.join [20]))
           (.call 21 813 [0, 4, 4, 22]))))
     (.seq (.seq (.ifStar (.assign 19 .fresh) (.call 19 817 [21, 7, 4]))
         (.seq (.assign 23 (.same 19))
           (.call 24 767 [0, 4, 4])))
       (.seq (.seq (.assign 25 .fresh)
           (.assign 26 (.same 25)))
         (.seq (.assign 29 (.maybeView 26))
           (.write 29))))))
 (.seq (.seq (.seq (.seq (.assign 28 (.same 29))
         (.seq (.write 28)
           (.assign 27 (.same 28))))
       (.seq (.assign 26 (.same 27))
         (.seq (.assign 31 .fresh)
           (.assign 30 (.view 31)))))
     (.seq (.seq (.assign 32 (.same 30))
         (.seq (.call 33 767 [0, 4, 4])
           (.assign 34 .fresh)))
       (.seq (.seq (.assign 35 (.same 34))
           (.assign 38 (.maybeView 35)))
         (.seq (.write 38)
           (.assign 37 (.same 38))))))
   (.seq (.seq (.seq (.write 37)
         (.seq (.assign 36 (.same 37))
           (.assign 35 (.same 36))))
       (.seq (.assign 40 .fresh)
         (.seq (.assign 39 (.view 40))
           (.assign 41 (.same 39)))))
     (.seq (.seq (.assign 46 .fresh)
         (.seq (.call 45 396 [46, 23, 26, 32, 35, 41])
           (.call 44 778 [45, 4, 4, 4, 4, 4])))
       (.seq (.seq (.assign 43 (.view 44))
           (.assign 42 (.view 43)))
         (.seq (.assign 47 (.same 42))
           (.ret 47)))))))⟩

/-- operators/_linear_operator.py:LinearOperator._args (line 490); formals ['self'] -/
def f49_operators__linear_operator__LinearOperator__args : Fn := ⟨1,
 (.seq (.assign 1 (.view 0))
 (.ret 1))⟩

/-- operators/_linear_operator.py:LinearOperator._args (line 494); formals ['self', 'args'] -/
def f50_operators__linear_operator__LinearOperator__args : Fn := ⟨2,
 (.assign 0 (.join [0, 1]))⟩

/-- operators/_linear_operator.py:LinearOperator._kwargs (line 498); formals ['self'] -/
def f51_operators__linear_operator__LinearOperator__kwargs : Fn := ⟨1,
 (.seq (.seq (.assign 1 (.view 0))
   (.assign 2 (.view 0)))
 (.seq (.assign 3 (.join [1, 2]))
   (.ret 3)))⟩

/-- operators/_linear_operator.py:LinearOperator._approx_diagonal (line 501); formals ['self'] -/
def f52_operators__linear_operator__LinearOperator__approx_diagonal : Fn := ⟨1,
 (.seq (.call 2 818 [0, 1])
 (.ret 2))⟩

/-- operators/_linear_operator.py:LinearOperator._cholesky (line 516); formals ['self', 'upper'] -/
def f53_operators__linear_operator__LinearOperator__cholesky : Fn := ⟨2,
 (.seq (.seq (.seq (.seq (.call 3 819 [0, 2])
       (.assign 4 (.same 3)))
     (.seq (.assign 5 .fresh)
       (.ifStar (.call 6 807 [4, 2]) .skip)))
   (.seq (.seq (.whileStar ⟨[[0], [1], [], [0], [0], [], [0], [0]], [], []⟩ (.seq (.ifStar (.call 7 807 [4, 2]) .skip)
           (.seq (.assign 8 .fresh)
             (.assign 5 (.join [5, 8])))))
       (.ifStar (.assign 9 (.maybeView 4)) (.call 9 778 [4, 2, 2, 2, 2, 2])))
     (.seq (.assign 10 (.same 9))
       (.call 11 767 [10, 2, 2]))))
 (.seq (.seq (.seq (.ifStar (.seq (.seq (.assign 13 .fresh)
             (.seq (.call 14 783 [13, 2])
               (.assign 12 .fresh)))
           (.seq (.assign 16 .fresh)
             (.seq (.call 15 619 [16, 12, 2])
               (.ret 15)))) .skip)
       (.call 18 706 [10, 1, 2, 2, 2]))
     (.seq (.assign 17 (.maybeView 18))
       (.assign 19 (.same 17))))
   (.seq (.seq (.assign 21 .fresh)
       (.call 20 619 [21, 19, 1]))
     (.seq (.ret 20)
       (.ret 0)))))⟩

/-- operators/_linear_operator.py:LinearOperator._cholesky_solve (line 546); formals ['self', 'rhs', 'upper'] -/
def f54_operators__linear_operator__LinearOperator__cholesky_solve : Fn := ⟨3,
 .skip⟩

/-- operators/_linear_operator.py:LinearOperator._choose_root_method (line 559); formals ['self'] -/
def f55_operators__linear_operator__LinearOperator__choose_root_method : Fn := ⟨1,
 (.seq (.seq (.seq (.call 2 742 [0, 1])
     (.ifStar (.ret 1) .skip))
   (.seq (.call 3 742 [0, 1])
     (.ifStar (.ret 1) .skip)))
 (.seq (.seq (.call 4 742 [0, 1])
     (.ifStar (.ret 1) .skip))
   (.seq (.call 5 767 [0, 1, 1])
     (.seq (.ifStar (.ret 1) .skip)
       (.ret 1)))))⟩

/-- operators/_linear_operator.py:LinearOperator._diagonal (line 579); formals ['self'] -/
def f56_operators__linear_operator__LinearOperator__diagonal : Fn := ⟨1,
 (.seq (.seq (.assign 2 .fresh)
   (.assign 3 (.same 2)))
 (.seq (.assign 4 (.join [1, 3]))
   (.seq (.call 5 789 [0, 4, 1])
     (.ret 5))))⟩

/-- operators/_linear_operator.py:LinearOperator._mul_constant (line 592); formals ['self', 'other'] -/
def f57_operators__linear_operator__LinearOperator__mul_constant : Fn := ⟨2,
 (.seq (.assign 3 .fresh)
 (.seq (.call 2 277 [3, 0, 1])
   (.ret 2)))⟩

/-- operators/_linear_operator.py:LinearOperator._mul_matrix (line 609); formals ['self', 'other'] -/
def f58_operators__linear_operator__LinearOperator__mul_matrix : Fn := ⟨2,
 (.seq (.seq (.call 3 819 [0, 2])
   (.assign 0 (.same 3)))
 (.seq (.ifStar (.assign 4 .fresh) (.call 4 819 [1, 2]))
   (.seq (.assign 1 (.same 4))
     (.ifStar (.seq (.seq (.ifStar (.assign 5 (.maybeView 0)) (.call 5 778 [0, 2, 2, 2, 2, 2]))
           (.seq (.ifStar (.assign 6 (.maybeView 1)) (.call 6 778 [1, 2, 2, 2, 2, 2]))
             (.ifStar (.assign 7 .fresh) (.ifStar (.call 7 804 [6, 5, 2]) (.call 7 803 [5, 6, 2])))))
         (.seq (.assign 9 .fresh)
           (.seq (.call 8 295 [9, 7])
             (.ret 8)))) (.seq (.assign 11 .fresh)
         (.seq (.call 10 534 [11, 0, 1])
           (.ret 10)))))))⟩

/-- operators/_linear_operator.py:LinearOperator._preconditioner (line 632); formals ['self'] -/
def f59_operators__linear_operator__LinearOperator__preconditioner : Fn := ⟨1,
 (.seq (.assign 2 (.join [1]))
 (.ret 2))⟩

def chunk0 : List Fn := [
  f0_beta_features___moved_beta_feature___init__,
  f1_beta_features___moved_beta_feature___call__,
  f2_beta_features___moved_beta_feature___getattr__,
  f3_functions___init____add_diagonal,
  f4_functions___init____add_jitter,
  f5_functions___init____diagonalization,
  f6_functions___init____dsmm,
  f7_functions___init____inv_quad,
  f8_functions___init____inv_quad_logdet,
  f9_functions___init____pivoted_cholesky,
  f10_functions___init____root_decomposition,
  f11_functions___init____root_inv_decomposition,
  f12_functions___init____solve,
  f13_functions___init____sqrt_inv_matmul,
  f14_functions__diagonalization__Diagonalization_forward,
  f15_functions__diagonalization__Diagonalization_backward,
  f16_functions__dsmm__DSMM_forward,
  f17_functions__dsmm__DSMM_backward,
  f18_functions__inv_quad___solve,
  f19_functions__inv_quad__InvQuad_forward,
  f20_functions__inv_quad__InvQuad_backward,
  f21_functions__inv_quad_logdet__InvQuadLogdet_forward,
  f22_functions__inv_quad_logdet__InvQuadLogdet_backward,
  f23_functions__matmul__Matmul_forward,
  f24_functions__matmul__Matmul_backward,
  f25_functions__pivoted_cholesky__PivotedCholesky_forward,
  f26_functions__pivoted_cholesky__PivotedCholesky_backward,
  f27_functions__root_decomposition__RootDecomposition_forward,
  f28_functions__root_decomposition__RootDecomposition_backward,
  f29_functions__solve___solve,
  f30_functions__solve__Solve_forward,
  f31_functions__solve__Solve_backward,
  f32_functions__sqrt_inv_matmul__SqrtInvMatmul_forward,
  f33_functions__sqrt_inv_matmul__SqrtInvMatmul_backward,
  f34_operators__linear_operator___implements,
  f35_operators__linear_operator___implements_second_arg,
  f36_operators__linear_operator___implements_symmetric,
  f37_operators__linear_operator___scale_columns,
  f38_operators__linear_operator__LinearOperator__check_args,
  f39_operators__linear_operator__LinearOperator___init__,
  f40_operators__linear_operator__LinearOperator__matmul,
  f41_operators__linear_operator__LinearOperator__size,
  f42_operators__linear_operator__LinearOperator__transpose_nonbatch,
  f43_operators__linear_operator__LinearOperator__permute_batch,
  f44_operators__linear_operator__LinearOperator__getitem,
  f45_operators__linear_operator__LinearOperator__unsqueeze_batch,
  f46_operators__linear_operator__LinearOperator__bilinear_derivative,
  f47_operators__linear_operator__LinearOperator__expand_batch,
  f48_operators__linear_operator__LinearOperator__get_indices,
  f49_operators__linear_operator__LinearOperator__args,
  f50_operators__linear_operator__LinearOperator__args,
  f51_operators__linear_operator__LinearOperator__kwargs,
  f52_operators__linear_operator__LinearOperator__approx_diagonal,
  f53_operators__linear_operator__LinearOperator__cholesky,
  f54_operators__linear_operator__LinearOperator__cholesky_solve,
  f55_operators__linear_operator__LinearOperator__choose_root_method,
  f56_operators__linear_operator__LinearOperator__diagonal,
  f57_operators__linear_operator__LinearOperator__mul_constant,
  f58_operators__linear_operator__LinearOperator__mul_matrix,
  f59_operators__linear_operator__LinearOperator__preconditioner]

/-- every function of this chunk conforms to its summary (kernel-evaluated analysis, mask form) -/
theorem chunk0_ok : tableOKB lk sigma0 chunk0 = true := by decide +kernel

end LinOp.Generated.C13
