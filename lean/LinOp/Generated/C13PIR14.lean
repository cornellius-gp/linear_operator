import LinOp.C13.Model
import LinOp.Generated.C13PSigma
-- GENERATED by harness/extract/c13_alias.py from /repo/linear_operator (do not edit)
namespace LinOp.Generated.C13P
open LinOp.C13

/-- <group>:method:_mul_constant (line 0); formals ['self', 'other', '*extra'] -/
def f840_group__method__mul_constant : Fn := ⟨3,
 (.seq (.seq (.seq (.ifStar (.seq (.call 3 57 [0, 1])
         (.ret 3)) .skip)
     (.seq (.ifStar (.seq (.call 4 237 [0, 1])
           (.ret 4)) .skip)
       (.ifStar (.seq (.call 5 266 [0, 1])
           (.ret 5)) .skip)))
   (.seq (.seq (.ifStar (.seq (.call 6 320 [0, 1])
           (.ret 6)) .skip)
       (.ifStar (.seq (.call 7 350 [0, 1])
           (.ret 7)) .skip))
     (.seq (.ifStar (.seq (.call 8 372 [0, 1])
           (.ret 8)) .skip)
       (.ifStar (.seq (.call 9 403 [0, 1])
           (.ret 9)) .skip))))
 (.seq (.seq (.ifStar (.seq (.call 10 481 [0, 1])
         (.ret 10)) .skip)
     (.seq (.ifStar (.seq (.call 11 493 [0, 1])
           (.ret 11)) .skip)
       (.ifStar (.seq (.call 12 538 [0, 1])
           (.ret 12)) .skip)))
   (.seq (.seq (.ifStar (.seq (.call 13 572 [0, 1])
           (.ret 13)) .skip)
       (.ifStar (.seq (.call 14 590 [0, 1])
           (.ret 14)) .skip))
     (.seq (.ifStar (.seq (.call 15 601 [0, 1])
           (.ret 15)) .skip)
       (.ifStar (.seq (.call 16 627 [0, 1])
           (.ret 16)) .skip)))))⟩

/-- <group>:method:_mul_matrix (line 0); formals ['self', 'other', '*extra'] -/
def f841_group__method__mul_matrix : Fn := ⟨3,
 (.seq (.seq (.ifStar (.seq (.call 3 58 [0, 1])
       (.ret 3)) .skip)
   (.ifStar (.seq (.call 4 321 [0, 1])
       (.ret 4)) .skip))
 (.seq (.ifStar (.seq (.call 5 351 [0, 1])
       (.ret 5)) .skip)
   (.ifStar (.seq (.call 6 628 [0, 1])
       (.ret 6)) .skip)))⟩

/-- <group>:method:_prod_batch (line 0); formals ['self', 'dim', '*extra'] -/
def f842_group__method__prod_batch : Fn := ⟨3,
 (.seq (.seq (.ifStar (.seq (.call 3 61 [0, 1])
       (.ret 3)) .skip)
   (.seq (.ifStar (.seq (.call 4 303 [0, 1])
         (.ret 4)) .skip)
     (.ifStar (.seq (.call 5 322 [0, 1])
         (.ret 5)) .skip)))
 (.seq (.ifStar (.seq (.call 6 352 [0, 1])
       (.ret 6)) .skip)
   (.seq (.ifStar (.seq (.call 7 374 [0, 1])
         (.ret 7)) .skip)
     (.ifStar (.seq (.call 8 657 [0, 1])
         (.ret 8)) .skip))))⟩

/-- <group>:method:_set_requires_grad (line 0); formals ['self', 'val', '*extra'] -/
def f843_group__method__set_requires_grad : Fn := ⟨3,
 (.ifStar (.seq (.call 3 65 [0, 1])
   (.ret 3)) .skip)⟩

/-- <group>:method:_choose_root_method (line 0); formals ['self', '*extra'] -/
def f844_group__method__choose_root_method : Fn := ⟨2,
 (.ifStar (.seq (.call 2 55 [0])
   (.ret 2)) .skip)⟩

/-- <group>:method:svd (line 0); formals ['self', '*extra'] -/
def f845_group__method_svd : Fn := ⟨2,
 (.ifStar (.seq (.call 2 138 [0])
   (.ret 2)) .skip)⟩

/-- <group>:method:_root_decomposition (line 0); formals ['self', '*extra'] -/
def f846_group__method__root_decomposition : Fn := ⟨2,
 (.seq (.seq (.seq (.ifStar (.seq (.call 2 62 [0])
         (.ret 2)) .skip)
     (.seq (.ifStar (.seq (.call 3 186 [0])
           (.ret 3)) .skip)
       (.ifStar (.seq (.call 4 206 [0])
           (.ret 4)) .skip)))
   (.seq (.ifStar (.seq (.call 5 222 [0])
         (.ret 5)) .skip)
     (.seq (.ifStar (.seq (.call 6 268 [0])
           (.ret 6)) .skip)
       (.ifStar (.seq (.call 7 323 [0])
           (.ret 7)) .skip))))
 (.seq (.seq (.ifStar (.seq (.call 8 375 [0])
         (.ret 8)) .skip)
     (.seq (.ifStar (.seq (.call 9 441 [0])
           (.ret 9)) .skip)
       (.ifStar (.seq (.call 10 576 [0])
           (.ret 10)) .skip)))
   (.seq (.ifStar (.seq (.call 11 592 [0])
         (.ret 11)) .skip)
     (.seq (.ifStar (.seq (.call 12 629 [0])
           (.ret 12)) .skip)
       (.ifStar (.seq (.call 13 658 [0])
           (.ret 13)) .skip)))))⟩

/-- <group>:method:_root_inv_decomposition (line 0); formals ['self', 'initial_vectors', 'test_vectors', '*extra'] -/
def f847_group__method__root_inv_decomposition : Fn := ⟨4,
 (.seq (.seq (.seq (.ifStar (.seq (.call 4 64 [0, 1, 2])
         (.ret 4)) .skip)
     (.ifStar (.seq (.call 5 187 [0, 1, 2])
         (.ret 5)) .skip))
   (.seq (.ifStar (.seq (.call 6 207 [0, 1, 2])
         (.ret 6)) .skip)
     (.seq (.ifStar (.seq (.call 7 223 [0, 1, 2])
           (.ret 7)) .skip)
       (.ifStar (.seq (.call 8 324 [0, 1, 2])
           (.ret 8)) .skip))))
 (.seq (.seq (.ifStar (.seq (.call 9 376 [0, 1, 2])
         (.ret 9)) .skip)
     (.ifStar (.seq (.call 10 442 [0, 1, 2])
         (.ret 10)) .skip))
   (.seq (.ifStar (.seq (.call 11 593 [0, 1, 2])
         (.ret 11)) .skip)
     (.seq (.ifStar (.seq (.call 12 630 [0, 1, 2])
           (.ret 12)) .skip)
       (.ifStar (.seq (.call 13 660 [0, 1, 2])
           (.ret 13)) .skip)))))⟩

/-- <group>:method:_size (line 0); formals ['self', '*extra'] -/
def f848_group__method__size : Fn := ⟨2,
 (.seq (.seq (.seq (.seq (.ifStar (.seq (.call 2 41 [0])
           (.ret 2)) .skip)
       (.seq (.ifStar (.seq (.call 3 188 [0])
             (.ret 3)) .skip)
         (.ifStar (.seq (.call 4 208 [0])
             (.ret 4)) .skip)))
     (.seq (.ifStar (.seq (.call 5 224 [0])
           (.ret 5)) .skip)
       (.seq (.ifStar (.seq (.call 6 250 [0])
             (.ret 6)) .skip)
         (.ifStar (.seq (.call 7 286 [0])
             (.ret 7)) .skip))))
   (.seq (.seq (.ifStar (.seq (.call 8 305 [0])
           (.ret 8)) .skip)
       (.seq (.ifStar (.seq (.call 9 325 [0])
             (.ret 9)) .skip)
         (.ifStar (.seq (.call 10 353 [0])
             (.ret 10)) .skip)))
     (.seq (.seq (.ifStar (.seq (.call 11 377 [0])
             (.ret 11)) .skip)
         (.ifStar (.seq (.call 12 406 [0])
             (.ret 12)) .skip))
       (.seq (.ifStar (.seq (.call 13 418 [0])
             (.ret 13)) .skip)
         (.ifStar (.seq (.call 14 431 [0])
             (.ret 14)) .skip)))))
 (.seq (.seq (.seq (.ifStar (.seq (.call 15 465 [0])
           (.ret 15)) .skip)
       (.seq (.ifStar (.seq (.call 16 482 [0])
             (.ret 16)) .skip)
         (.ifStar (.seq (.call 17 508 [0])
             (.ret 17)) .skip)))
     (.seq (.ifStar (.seq (.call 18 530 [0])
           (.ret 18)) .skip)
       (.seq (.ifStar (.seq (.call 19 542 [0])
             (.ret 19)) .skip)
         (.ifStar (.seq (.call 20 554 [0])
             (.ret 20)) .skip))))
   (.seq (.seq (.ifStar (.seq (.call 21 560 [0])
           (.ret 21)) .skip)
       (.seq (.ifStar (.seq (.call 22 578 [0])
             (.ret 22)) .skip)
         (.ifStar (.seq (.call 23 586 [0])
             (.ret 23)) .skip)))
     (.seq (.seq (.ifStar (.seq (.call 24 603 [0])
             (.ret 24)) .skip)
         (.ifStar (.seq (.call 25 616 [0])
             (.ret 25)) .skip))
       (.seq (.ifStar (.seq (.call 26 631 [0])
             (.ret 26)) .skip)
         (.ifStar (.seq (.call 27 661 [0])
             (.ret 27)) .skip))))))⟩

/-- <group>:method:_sum_batch (line 0); formals ['self', 'dim', '*extra'] -/
def f849_group__method__sum_batch : Fn := ⟨3,
 (.seq (.seq (.seq (.ifStar (.seq (.call 3 68 [0, 1])
         (.ret 3)) .skip)
     (.ifStar (.seq (.call 4 306 [0, 1])
         (.ret 4)) .skip))
   (.seq (.ifStar (.seq (.call 5 326 [0, 1])
         (.ret 5)) .skip)
     (.ifStar (.seq (.call 6 354 [0, 1])
         (.ret 6)) .skip)))
 (.seq (.seq (.ifStar (.seq (.call 7 410 [0, 1])
         (.ret 7)) .skip)
     (.ifStar (.seq (.call 8 497 [0, 1])
         (.ret 8)) .skip))
   (.seq (.ifStar (.seq (.call 9 604 [0, 1])
         (.ret 9)) .skip)
     (.seq (.ifStar (.seq (.call 10 633 [0, 1])
           (.ret 10)) .skip)
       (.ifStar (.seq (.call 11 662 [0, 1])
           (.ret 11)) .skip)))))⟩

/-- <group>:method:_svd (line 0); formals ['self', '*extra'] -/
def f850_group__method__svd : Fn := ⟨2,
 (.seq (.seq (.ifStar (.seq (.call 2 69 [0])
       (.ret 2)) .skip)
   (.seq (.ifStar (.seq (.call 3 171 [0])
         (.ret 3)) .skip)
     (.ifStar (.seq (.call 4 194 [0])
         (.ret 4)) .skip)))
 (.seq (.seq (.ifStar (.seq (.call 5 212 [0])
         (.ret 5)) .skip)
     (.ifStar (.seq (.call 6 343 [0])
         (.ret 6)) .skip))
   (.seq (.ifStar (.seq (.call 7 378 [0])
         (.ret 7)) .skip)
     (.ifStar (.seq (.call 8 466 [0])
         (.ret 8)) .skip))))⟩

/-- <group>:method:t (line 0); formals ['self', '*extra'] -/
def f851_group__method_t : Fn := ⟨2,
 (.ifStar (.seq (.call 2 141 [0])
   (.ret 2)) .skip)⟩

/-- operators/_linear_operator.py:LinearOperator.to.<locals>._to (line 2630); formals ['arg', 'dtype', 'device'] -/
def f852_operators__linear_operator__LinearOperator_to__locals___to : Fn := ⟨3,
 (.seq (.seq (.ifStar (.seq (.assign 4 (.join [2]))
       (.seq (.ifStar (.assign 3 (.maybeView 0)) (.call 3 824 [0, 4]))
         (.ret 3))) .skip)
   (.assign 6 (.join [1, 2])))
 (.seq (.ifStar (.assign 5 (.maybeView 0)) (.call 5 824 [0, 6]))
   (.ret 5)))⟩

/-- operators/_linear_operator.py:LinearOperator.type.<locals>._type_helper (line 2724); formals ['arg', 'dtype'] -/
def f853_operators__linear_operator__LinearOperator_type__locals___type_helper : Fn := ⟨2,
 (.ifStar (.seq (.assign 3 (.join [1]))
   (.seq (.ifStar (.assign 2 (.maybeView 0)) (.call 2 824 [0, 3]))
     (.ret 2))) (.ret 0))⟩

/-- <group>:method:_unsqueeze_batch (line 0); formals ['self', 'dim', '*extra'] -/
def f854_group__method__unsqueeze_batch : Fn := ⟨3,
 (.seq (.seq (.seq (.ifStar (.seq (.call 3 45 [0, 1])
         (.ret 3)) .skip)
     (.ifStar (.seq (.call 4 190 [0, 1])
         (.ret 4)) .skip))
   (.seq (.ifStar (.seq (.call 5 235 [0, 1])
         (.ret 5)) .skip)
     (.ifStar (.seq (.call 6 252 [0, 1])
         (.ret 6)) .skip)))
 (.seq (.seq (.ifStar (.seq (.call 7 289 [0, 1])
         (.ret 7)) .skip)
     (.ifStar (.seq (.call 8 382 [0, 1])
         (.ret 8)) .skip))
   (.seq (.ifStar (.seq (.call 9 433 [0, 1])
         (.ret 9)) .skip)
     (.seq (.ifStar (.seq (.call 10 514 [0, 1])
           (.ret 10)) .skip)
       (.ifStar (.seq (.call 11 665 [0, 1])
           (.ret 11)) .skip)))))⟩

/-- <group>:method:add_low_rank (line 0); formals ['self', 'low_rank_mat', 'root_decomp_method', 'root_inv_decomp_method', 'generate_roots', '*extra'] -/
def f855_group__method_add_low_rank : Fn := ⟨6,
 (.seq (.ifStar (.seq (.assign 6 (.join [1, 2, 3, 4, 5]))
     (.seq (.call 7 76 [0, 1, 2, 3, 4, 6])
       (.ret 7))) .skip)
 (.ifStar (.seq (.assign 8 (.join [1, 2, 3, 4, 5]))
     (.seq (.call 9 574 [0, 1, 2, 3, 4, 8])
       (.ret 9))) .skip))⟩

/-- <group>:method:reshape (line 0); formals ['self', '*extra'] -/
def f856_group__method_reshape : Fn := ⟨2,
 (.ifStar (.seq (.assign 2 (.join [1]))
   (.seq (.call 3 125 [0, 2])
     (.ret 3))) .skip)⟩

/-- <group>:method:_get_indices (line 0); formals ['self', 'row_index', 'col_index', '*extra'] -/
def f857_group__method__get_indices : Fn := ⟨4,
 (.seq (.seq (.seq (.seq (.ifStar (.seq (.assign 4 (.join [1, 2, 3]))
           (.seq (.call 5 48 [0, 1, 2, 4])
             (.ret 5))) .skip)
       (.ifStar (.seq (.assign 6 (.join [1, 2, 3]))
           (.seq (.call 7 179 [0, 1, 2, 6])
             (.ret 7))) .skip))
     (.seq (.ifStar (.seq (.assign 8 (.join [1, 2, 3]))
           (.seq (.call 9 204 [0, 1, 2, 8])
             (.ret 9))) .skip)
       (.seq (.ifStar (.seq (.assign 10 (.join [1, 2, 3]))
             (.seq (.call 11 220 [0, 1, 2, 10])
               (.ret 11))) .skip)
         (.ifStar (.seq (.assign 12 (.join [1, 2, 3]))
             (.seq (.call 13 246 [0, 1, 2, 12])
               (.ret 13))) .skip))))
   (.seq (.seq (.ifStar (.seq (.assign 14 (.join [1, 2, 3]))
           (.seq (.call 15 265 [0, 1, 2, 14])
             (.ret 15))) .skip)
       (.seq (.ifStar (.seq (.assign 16 (.join [1, 2, 3]))
             (.seq (.call 17 281 [0, 1, 2, 16])
               (.ret 17))) .skip)
         (.ifStar (.seq (.assign 18 (.join [1, 2, 3]))
             (.seq (.call 19 299 [0, 1, 2, 18])
               (.ret 19))) .skip)))
     (.seq (.ifStar (.seq (.assign 20 (.join [1, 2, 3]))
           (.seq (.call 21 319 [0, 1, 2, 20])
             (.ret 21))) .skip)
       (.seq (.ifStar (.seq (.assign 22 (.join [1, 2, 3]))
             (.seq (.call 23 400 [0, 1, 2, 22])
               (.ret 23))) .skip)
         (.ifStar (.seq (.assign 24 (.join [1, 2, 3]))
             (.seq (.call 25 420 [0, 1, 2, 24])
               (.ret 25))) .skip)))))
 (.seq (.seq (.seq (.ifStar (.seq (.assign 26 (.join [1, 2, 3]))
           (.seq (.call 27 427 [0, 1, 2, 26])
             (.ret 27))) .skip)
       (.seq (.ifStar (.seq (.assign 28 (.join [1, 2, 3]))
             (.seq (.call 29 458 [0, 1, 2, 28])
               (.ret 29))) .skip)
         (.ifStar (.seq (.assign 30 (.join [1, 2, 3]))
             (.seq (.call 31 516 [0, 1, 2, 30])
               (.ret 31))) .skip)))
     (.seq (.ifStar (.seq (.assign 32 (.join [1, 2, 3]))
           (.seq (.call 33 523 [0, 1, 2, 32])
             (.ret 33))) .skip)
       (.seq (.ifStar (.seq (.assign 34 (.join [1, 2, 3]))
             (.seq (.call 35 536 [0, 1, 2, 34])
               (.ret 35))) .skip)
         (.ifStar (.seq (.assign 36 (.join [1, 2, 3]))
             (.seq (.call 37 559 [0, 1, 2, 36])
               (.ret 37))) .skip))))
   (.seq (.seq (.ifStar (.seq (.assign 38 (.join [1, 2, 3]))
           (.seq (.call 39 569 [0, 1, 2, 38])
             (.ret 39))) .skip)
       (.seq (.ifStar (.seq (.assign 40 (.join [1, 2, 3]))
             (.seq (.call 41 583 [0, 1, 2, 40])
               (.ret 41))) .skip)
         (.ifStar (.seq (.assign 42 (.join [1, 2, 3]))
             (.seq (.call 43 598 [0, 1, 2, 42])
               (.ret 43))) .skip)))
     (.seq (.ifStar (.seq (.assign 44 (.join [1, 2, 3]))
           (.seq (.call 45 612 [0, 1, 2, 44])
             (.ret 45))) .skip)
       (.seq (.ifStar (.seq (.assign 46 (.join [1, 2, 3]))
             (.seq (.call 47 625 [0, 1, 2, 46])
               (.ret 47))) .skip)
         (.ifStar (.seq (.assign 48 (.join [1, 2, 3]))
             (.seq (.call 49 653 [0, 1, 2, 48])
               (.ret 49))) .skip))))))⟩

/-- <group>:method:rmatmul (line 0); formals ['self', 'other', '*extra'] -/
def f858_group__method_rmatmul : Fn := ⟨3,
 (.ifStar (.seq (.call 3 126 [0, 1])
   (.ret 3)) .skip)⟩

/-- <group>:method:div (line 0); formals ['self', 'other', '*extra'] -/
def f859_group__method_div : Fn := ⟨3,
 (.seq (.ifStar (.seq (.call 3 90 [0, 1])
     (.ret 3)) .skip)
 (.ifStar (.seq (.call 4 667 [0, 1])
     (.ret 4)) .skip))⟩

/-- <group>:property:_diag (line 0); formals ['self', '*extra'] -/
def f860_group__property__diag : Fn := ⟨2,
 (.seq (.ifStar (.seq (.call 2 348 [0])
     (.ret 2)) .skip)
 (.ifStar (.seq (.call 3 479 [0])
     (.ret 3)) .skip))⟩

/-- <group>:method:_init_cache (line 0); formals ['self', '*extra'] -/
def f861_group__method__init_cache : Fn := ⟨2,
 (.ifStar (.seq (.call 2 168 [0])
   (.ret 2)) .skip)⟩

/-- operators/added_diag_linear_operator.py:AddedDiagLinearOperator._preconditioner.<locals>.precondition_closure (line 136); formals ['tensor', 'self'] -/
def f862_operators_added_diag_linear_operator__AddedDiagLinearOperator__preconditioner__locals__precondition_closure : Fn := ⟨2,
 (.seq (.seq (.seq (.assign 4 (.view 1))
     (.seq (.assign 5 (.view 4))
       (.ifStar (.call 5 777 [4, 2]) .skip)))
   (.seq (.assign 6 (.same 5))
     (.seq (.ifStar (.assign 3 .fresh) (.call 3 805 [6, 0, 2]))
       (.assign 8 (.view 1)))))
 (.seq (.seq (.ifStar (.assign 7 .fresh) (.call 7 805 [8, 3, 2]))
     (.seq (.assign 9 (.same 7))
       (.ifStar (.seq (.seq (.assign 10 .fresh)
             (.ifStar (.assign 11 .fresh) (.ifStar (.call 11 786 [9, 0, 2, 2]) (.call 11 785 [0, 9, 2]))))
           (.seq (.ifStar (.assign 12 .fresh) (.ifStar (.call 12 804 [11, 10, 2]) (.call 12 803 [10, 11, 2])))
             (.ret 12))) .skip)))
   (.seq (.seq (.assign 13 (.view 1))
       (.ifStar (.assign 14 .fresh) (.call 14 863 [0, 13, 2])))
     (.seq (.ifStar (.assign 15 .fresh) (.ifStar (.call 15 786 [9, 14, 2, 2]) (.call 15 785 [14, 9, 2])))
       (.ret 15)))))⟩

/-- <group>:method:__truediv__ (line 0); formals ['self', 'other', '*extra'] -/
def f863_group__method___truediv__ : Fn := ⟨3,
 (.ifStar (.seq (.call 3 159 [0, 1])
   (.ret 3)) .skip)⟩

/-- <group>:method:_init_cache_for_constant_diag (line 0); formals ['self', 'eye', 'batch_shape', 'n', 'k', '*extra'] -/
def f864_group__method__init_cache_for_constant_diag : Fn := ⟨6,
 (.ifStar (.seq (.call 6 169 [0, 1, 2, 3, 4])
   (.ret 6)) .skip)⟩

/-- <group>:method:_init_cache_for_non_constant_diag (line 0); formals ['self', 'eye', 'batch_shape', 'n', '*extra'] -/
def f865_group__method__init_cache_for_non_constant_diag : Fn := ⟨5,
 (.ifStar (.seq (.call 5 170 [0, 1, 2, 3])
   (.ret 5)) .skip)⟩

/-- <group>:method:diagonal (line 0); formals ['self', 'offset', 'dim1', 'dim2', '*extra'] -/
def f866_group__method_diagonal : Fn := ⟨5,
 (.ifStar (.seq (.call 5 87 [0, 1, 2, 3])
   (.ret 5)) .skip)⟩

/-- <group>:method:abs (line 0); formals ['self', '*extra'] -/
def f867_group__method_abs : Fn := ⟨2,
 (.seq (.seq (.ifStar (.seq (.call 2 72 [0])
       (.ret 2)) .skip)
   (.seq (.ifStar (.seq (.call 3 329 [0])
         (.ret 3)) .skip)
     (.ifStar (.seq (.call 4 355 [0])
         (.ret 4)) .skip)))
 (.seq (.ifStar (.seq (.call 5 383 [0])
       (.ret 5)) .skip)
   (.seq (.ifStar (.seq (.call 6 484 [0])
         (.ret 6)) .skip)
     (.ifStar (.seq (.call 7 635 [0])
         (.ret 7)) .skip))))⟩

/-- <group>:method:log (line 0); formals ['self', '*extra'] -/
def f868_group__method_log : Fn := ⟨2,
 (.seq (.seq (.ifStar (.seq (.call 2 106 [0])
       (.ret 2)) .skip)
   (.ifStar (.seq (.call 3 335 [0])
       (.ret 3)) .skip))
 (.seq (.ifStar (.seq (.call 4 358 [0])
       (.ret 4)) .skip)
   (.seq (.ifStar (.seq (.call 5 387 [0])
         (.ret 5)) .skip)
     (.ifStar (.seq (.call 6 487 [0])
         (.ret 6)) .skip))))⟩

/-- <group>:method:_move_repeat_batches_to_columns (line 0); formals ['self', 'batch_matrix', 'output_shape', '*extra'] -/
def f869_group__method__move_repeat_batches_to_columns : Fn := ⟨4,
 (.ifStar (.seq (.call 4 183 [0, 1, 2])
   (.ret 4)) .skip)⟩

/-- <group>:method:_move_repeat_batches_back (line 0); formals ['self', 'batch_matrix', 'output_shape', '*extra'] -/
def f870_group__method__move_repeat_batches_back : Fn := ⟨4,
 (.ifStar (.seq (.call 4 182 [0, 1, 2])
   (.ret 4)) .skip)⟩

/-- <group>:method:_compute_batch_repeat_size (line 0); formals ['self', 'current_batch_shape', 'desired_batch_shape', '*extra'] -/
def f871_group__method__compute_batch_repeat_size : Fn := ⟨4,
 (.ifStar (.seq (.call 4 177 [0, 1, 2])
   (.ret 4)) .skip)⟩

/-- <group>:method:_add_batch_dim (line 0); formals ['self', 'other', '*extra'] -/
def f872_group__method__add_batch_dim : Fn := ⟨3,
 (.seq (.seq (.ifStar (.seq (.call 3 199 [0, 1])
       (.ret 3)) .skip)
   (.ifStar (.seq (.call 4 215 [0, 1])
       (.ret 4)) .skip))
 (.seq (.ifStar (.seq (.call 5 228 [0, 1])
       (.ret 5)) .skip)
   (.ifStar (.seq (.call 6 581 [0, 1])
       (.ret 6)) .skip)))⟩

/-- <group>:method:_remove_batch_dim (line 0); formals ['self', 'other', '*extra'] -/
def f873_group__method__remove_batch_dim : Fn := ⟨3,
 (.seq (.seq (.ifStar (.seq (.call 3 205 [0, 1])
       (.ret 3)) .skip)
   (.ifStar (.seq (.call 4 221 [0, 1])
       (.ret 4)) .skip))
 (.seq (.ifStar (.seq (.call 5 236 [0, 1])
       (.ret 5)) .skip)
   (.ifStar (.seq (.call 6 585 [0, 1])
       (.ret 6)) .skip)))⟩

/-- <group>:method:_getitem_block_aligned (line 0); formals ['self', 'row_start', 'row_end', 'col_start', 'col_end', 'batch_indices', '*extra'] -/
def f874_group__method__getitem_block_aligned : Fn := ⟨7,
 (.seq (.ifStar (.seq (.call 7 203 [0, 1, 2, 3, 4, 5])
     (.ret 7)) .skip)
 (.seq (.ifStar (.seq (.call 8 219 [0, 1, 2, 3, 4, 5])
       (.ret 8)) .skip)
   (.ifStar (.seq (.call 9 231 [0, 1, 2, 3, 4, 5])
       (.ret 9)) .skip)))⟩

/-- <group>:method:zero_mean_mvn_samples (line 0); formals ['self', 'num_samples', '*extra'] -/
def f875_group__method_zero_mean_mvn_samples : Fn := ⟨3,
 (.seq (.seq (.ifStar (.seq (.call 3 147 [0, 1])
       (.ret 3)) .skip)
   (.seq (.ifStar (.seq (.call 4 239 [0, 1])
         (.ret 4)) .skip)
     (.ifStar (.seq (.call 5 342 [0, 1])
         (.ret 5)) .skip)))
 (.seq (.ifStar (.seq (.call 6 393 [0, 1])
       (.ret 6)) .skip)
   (.seq (.ifStar (.seq (.call 7 412 [0, 1])
         (.ret 7)) .skip)
     (.ifStar (.seq (.call 8 565 [0, 1])
         (.ret 8)) .skip))))⟩

/-- <group>:method:_split_slice (line 0); formals ['self', 'slice_idx', '*extra'] -/
def f876_group__method__split_slice : Fn := ⟨3,
 (.ifStar (.seq (.call 3 243 [0, 1])
   (.ret 3)) .skip)⟩

/-- <group>:property:devices (line 0); formals ['self', '*extra'] -/
def f877_group__property_devices : Fn := ⟨2,
 (.ifStar (.seq (.call 2 256 [0])
   (.ret 2)) .skip)⟩

/-- <group>:method:_t_matmul (line 0); formals ['self', 'rhs', '*extra'] -/
def f878_group__method__t_matmul : Fn := ⟨3,
 (.seq (.seq (.seq (.ifStar (.call 3 71 [0, 1]) .skip)
     (.seq (.ifStar (.call 4 287 [0, 1]) .skip)
       (.ifStar (.call 5 308 [0, 1]) .skip)))
   (.seq (.seq (.ifStar (.call 6 327 [0, 1]) .skip)
       (.ifStar (.call 7 380 [0, 1]) .skip))
     (.seq (.ifStar (.call 8 404 [0, 1]) .skip)
       (.ifStar (.call 9 468 [0, 1]) .skip))))
 (.seq (.seq (.seq (.ifStar (.call 10 507 [0, 1]) .skip)
       (.ifStar (.call 11 527 [0, 1]) .skip))
     (.seq (.ifStar (.call 12 573 [0, 1]) .skip)
       (.ifStar (.call 13 605 [0, 1]) .skip)))
   (.seq (.seq (.ifStar (.call 14 614 [0, 1]) .skip)
       (.ifStar (.call 15 663 [0, 1]) .skip))
     (.seq (.assign 16 (.opq [1, 2]))
       (.ret 16)))))⟩

/-- <group>:property:_chol_diag (line 0); formals ['self', '*extra'] -/
def f879_group__property__chol_diag : Fn := ⟨2,
 (.ifStar (.seq (.call 2 261 [0])
   (.ret 2)) .skip)⟩

/-- <group>:property:expanded_constant (line 0); formals ['self', '*extra'] -/
def f880_group__property_expanded_constant : Fn := ⟨2,
 (.ifStar (.seq (.call 2 290 [0])
   (.ret 2)) .skip)⟩

/-- <group>:method:prod (line 0); formals ['self', 'dim', '*extra'] -/
def f881_group__method_prod : Fn := ⟨3,
 (.ifStar (.seq (.call 3 118 [0, 1])
   (.ret 3)) .skip)⟩

/-- <group>:method:exp (line 0); formals ['self', '*extra'] -/
def f882_group__method_exp : Fn := ⟨2,
 (.seq (.seq (.ifStar (.seq (.call 2 96 [0])
       (.ret 2)) .skip)
   (.seq (.ifStar (.seq (.call 3 332 [0])
         (.ret 3)) .skip)
     (.ifStar (.seq (.call 4 356 [0])
         (.ret 4)) .skip)))
 (.seq (.ifStar (.seq (.call 5 384 [0])
       (.ret 5)) .skip)
   (.seq (.ifStar (.seq (.call 6 485 [0])
         (.ret 6)) .skip)
     (.ifStar (.seq (.call 7 638 [0])
         (.ret 7)) .skip))))⟩

/-- <group>:method:_maybe_reshape_rhs (line 0); formals ['self', 'rhs', '*extra'] -/
def f883_group__method__maybe_reshape_rhs : Fn := ⟨3,
 (.ifStar (.seq (.call 3 366 [0, 1])
   (.ret 3)) .skip)⟩

/-- <group>:method:_sparse_left_interp_t (line 0); formals ['self', 'left_interp_indices_tensor', 'left_interp_values_tensor', '*extra'] -/
def f884_group__method__sparse_left_interp_t : Fn := ⟨4,
 (.ifStar (.seq (.call 4 408 [0, 1, 2])
   (.ret 4)) .skip)⟩

/-- <group>:method:_sparse_right_interp_t (line 0); formals ['self', 'right_interp_indices_tensor', 'right_interp_values_tensor', '*extra'] -/
def f885_group__method__sparse_right_interp_t : Fn := ⟨4,
 (.ifStar (.seq (.call 4 409 [0, 1, 2])
   (.ret 4)) .skip)⟩

/-- <group>:method:add (line 0); formals ['self', 'other', 'alpha', '*extra'] -/
def f886_group__method_add : Fn := ⟨4,
 (.ifStar (.seq (.call 4 73 [0, 1, 2])
   (.ret 4)) .skip)⟩

/-- <group>:property:covar_mat (line 0); formals ['self', '*extra'] -/
def f887_group__property_covar_mat : Fn := ⟨2,
 (.seq (.ifStar (.seq (.call 2 416 [0])
     (.ret 2)) .skip)
 (.ifStar (.seq (.call 3 426 [0])
     (.ret 3)) .skip))⟩

/-- <group>:method:_logdet (line 0); formals ['self', '*extra'] -/
def f888_group__method__logdet : Fn := ⟨2,
 (.seq (.seq (.ifStar (.seq (.call 2 438 [0])
       (.ret 2)) .skip)
   (.ifStar (.seq (.call 3 461 [0])
       (.ret 3)) .skip))
 (.seq (.ifStar (.seq (.call 4 498 [0])
       (.ret 4)) .skip)
   (.ifStar (.seq (.call 5 591 [0])
       (.ret 5)) .skip)))⟩

/-- <group>:method:logdet (line 0); formals ['self', '*extra'] -/
def f889_group__method_logdet : Fn := ⟨2,
 (.seq (.ifStar (.seq (.call 2 107 [0])
     (.ret 2)) .skip)
 (.ifStar (.seq (.call 3 670 [0])
     (.ret 3)) .skip))⟩

/-- <group>:method:_inv_matmul (line 0); formals ['self', 'right_tensor', 'left_tensor', '*extra'] -/
def f890_group__method__inv_matmul : Fn := ⟨4,
 (.ifStar (.seq (.call 4 460 [0, 1, 2])
   (.ret 4)) .skip)⟩

/-- <group>:property:chol_cap_mat (line 0); formals ['self', '*extra'] -/
def f891_group__property_chol_cap_mat : Fn := ⟨2,
 (.ifStar (.seq (.call 2 492 [0])
   (.ret 2)) .skip)⟩

/-- <group>:method:_expand (line 0); formals ['self', 'tensor', 'mask', '*extra'] -/
def f892_group__method__expand : Fn := ⟨4,
 (.ifStar (.seq (.call 4 505 [1, 2])
   (.ret 4)) .skip)⟩

/-- <group>:method:_matmul_check_shape (line 0); formals ['self', 'rhs', '*extra'] -/
def f893_group__method__matmul_check_shape : Fn := ⟨3,
 (.ifStar (.seq (.call 3 548 [0, 1])
   (.ret 3)) .skip)⟩

/-- <group>:method:_batch_indexing_helper (line 0); formals ['self', 'batch_shape', '*extra'] -/
def f894_group__method__batch_indexing_helper : Fn := ⟨3,
 (.ifStar (.seq (.call 3 553 [0, 1])
   (.ret 3)) .skip)⟩

/-- <group>:method:_matmul_batch_shape (line 0); formals ['self', 'rhs', '*extra'] -/
def f895_group__method__matmul_batch_shape : Fn := ⟨3,
 (.ifStar (.seq (.call 3 549 [0, 1])
   (.ret 3)) .skip)⟩

/-- <group>:property:_sum_formulation (line 0); formals ['self', '*extra'] -/
def f896_group__property__sum_formulation : Fn := ⟨2,
 (.ifStar (.seq (.call 2 588 [0])
   (.ret 2)) .skip)⟩

/-- <group>:method:_set_value (line 0); formals ['self', 'float_value', 'double_value', 'half_value', 'value', '*extra'] -/
def f897_group__method__set_value : Fn := ⟨6,
 (.seq (.ifStar (.seq (.call 6 680 [0, 1, 2, 3])
     (.ret 6)) .skip)
 (.ifStar (.seq (.call 7 692 [0, 4])
     (.ret 7)) .skip))⟩

/-- <group>:method:is_default (line 0); formals ['self', '*extra'] -/
def f898_group__method_is_default : Fn := ⟨2,
 (.ifStar (.seq (.call 2 684 [0])
   (.ret 2)) .skip)⟩

/-- <group>:method:on (line 0); formals ['self', '*extra'] -/
def f899_group__method_on : Fn := ⟨2,
 (.ifStar (.seq (.call 2 685 [0])
   (.ret 2)) .skip)⟩

def chunk14 : List Fn := [
  f840_group__method__mul_constant,
  f841_group__method__mul_matrix,
  f842_group__method__prod_batch,
  f843_group__method__set_requires_grad,
  f844_group__method__choose_root_method,
  f845_group__method_svd,
  f846_group__method__root_decomposition,
  f847_group__method__root_inv_decomposition,
  f848_group__method__size,
  f849_group__method__sum_batch,
  f850_group__method__svd,
  f851_group__method_t,
  f852_operators__linear_operator__LinearOperator_to__locals___to,
  f853_operators__linear_operator__LinearOperator_type__locals___type_helper,
  f854_group__method__unsqueeze_batch,
  f855_group__method_add_low_rank,
  f856_group__method_reshape,
  f857_group__method__get_indices,
  f858_group__method_rmatmul,
  f859_group__method_div,
  f860_group__property__diag,
  f861_group__method__init_cache,
  f862_operators_added_diag_linear_operator__AddedDiagLinearOperator__preconditioner__locals__precondition_closure,
  f863_group__method___truediv__,
  f864_group__method__init_cache_for_constant_diag,
  f865_group__method__init_cache_for_non_constant_diag,
  f866_group__method_diagonal,
  f867_group__method_abs,
  f868_group__method_log,
  f869_group__method__move_repeat_batches_to_columns,
  f870_group__method__move_repeat_batches_back,
  f871_group__method__compute_batch_repeat_size,
  f872_group__method__add_batch_dim,
  f873_group__method__remove_batch_dim,
  f874_group__method__getitem_block_aligned,
  f875_group__method_zero_mean_mvn_samples,
  f876_group__method__split_slice,
  f877_group__property_devices,
  f878_group__method__t_matmul,
  f879_group__property__chol_diag,
  f880_group__property_expanded_constant,
  f881_group__method_prod,
  f882_group__method_exp,
  f883_group__method__maybe_reshape_rhs,
  f884_group__method__sparse_left_interp_t,
  f885_group__method__sparse_right_interp_t,
  f886_group__method_add,
  f887_group__property_covar_mat,
  f888_group__method__logdet,
  f889_group__method_logdet,
  f890_group__method__inv_matmul,
  f891_group__property_chol_cap_mat,
  f892_group__method__expand,
  f893_group__method__matmul_check_shape,
  f894_group__method__batch_indexing_helper,
  f895_group__method__matmul_batch_shape,
  f896_group__property__sum_formulation,
  f897_group__method__set_value,
  f898_group__method_is_default,
  f899_group__method_on]

end LinOp.Generated.C13P
