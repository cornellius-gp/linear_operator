/- GENERATED by harness/extract/c05_overrides.py from /repo's linear_operator/operators/*.py — do not edit. -/
namespace LinOp.Generated.C05

/-- per class: which of `inv_quad_logdet`, `inv_quad`, `logdet`, `_logdet` its class body defines (classes defining none are omitted) -/
def overrides : List (String × List String) := [
  ("BatchRepeatLinearOperator", ["inv_quad_logdet"]),
  ("BlockDiagLinearOperator", ["inv_quad_logdet"]),
  ("BlockInterleavedLinearOperator", ["inv_quad_logdet"]),
  ("CatLinearOperator", ["inv_quad_logdet"]),
  ("CholLinearOperator", ["inv_quad", "inv_quad_logdet"]),
  ("DiagLinearOperator", ["inv_quad_logdet"]),
  ("IdentityLinearOperator", ["inv_quad_logdet"]),
  ("KroneckerProductAddedDiagLinearOperator", ["_logdet", "inv_quad_logdet"]),
  ("KroneckerProductLinearOperator", ["_logdet", "inv_quad_logdet"]),
  ("LinearOperator", ["inv_quad", "inv_quad_logdet", "logdet"]),
  ("LowRankRootAddedDiagLinearOperator", ["_logdet", "inv_quad_logdet"]),
  ("SumKroneckerLinearOperator", ["_logdet", "inv_quad_logdet"]),
  ("TriangularLinearOperator", ["inv_quad_logdet"]),
  ("ZeroLinearOperator", ["inv_quad", "inv_quad_logdet", "logdet"])]

/-- statement skeleton of `CatLinearOperator.inv_quad_logdet` -/
def catSkeleton : List String := ["assign-super.inv_quad_logdet/3", "return-tuple-genexp/to=1/else-none=1/test-is-not-none=1"]

def definers (meth : String) : List String := (overrides.filter fun r => r.2.contains meth).map (·.1)

/-- the classes that define `inv_quad_logdet` are exactly those the shape model has a path constructor for
(every other class, e.g. SumBatchLinearOperator, takes the base-class path) -/
theorem inv_quad_logdet_overrides_as_modelled : definers "inv_quad_logdet" = ["BatchRepeatLinearOperator", "BlockDiagLinearOperator", "BlockInterleavedLinearOperator", "CatLinearOperator", "CholLinearOperator", "DiagLinearOperator", "IdentityLinearOperator", "KroneckerProductAddedDiagLinearOperator", "KroneckerProductLinearOperator", "LinearOperator", "LowRankRootAddedDiagLinearOperator", "SumKroneckerLinearOperator", "TriangularLinearOperator", "ZeroLinearOperator"] := rfl

/-- `inv_quad` is defined by the base class and CholLinearOperator only (the `invQuadEntry` model + `cholInvQuadCols`) -/
theorem inv_quad_overrides_as_modelled : definers "inv_quad" = ["CholLinearOperator", "LinearOperator", "ZeroLinearOperator"] := rfl

/-- `CatLinearOperator.inv_quad_logdet` is `res = super().inv_quad_logdet(a, b, c)` followed by
`return tuple(r.to(…) if r is not None else None for r in res)` — what `catPost` mirrors -/
theorem cat_override_skeleton : catSkeleton = ["assign-super.inv_quad_logdet/3", "return-tuple-genexp/to=1/else-none=1/test-is-not-none=1"] := rfl

end LinOp.Generated.C05
