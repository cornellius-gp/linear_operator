import LinOp.C13.ProofsLookup
import LinOp.C13.ProofsBits
-- GENERATED by harness/extract/c13_alias.py (do not edit)
namespace LinOp.Generated.C13
open LinOp.C13

/-- candidate summaries (mutated formals, formals the result may alias), checked by `tableOK` -/
def sigma : List Summary := [
  ⟨[], [0, 1, 2]⟩,
  ⟨[], [0, 1, 2]⟩,
  ⟨[], [0, 1]⟩,
  ⟨[], [0, 1]⟩,
  ⟨[], [0]⟩,
  ⟨[], [0]⟩,
  ⟨[], []⟩,
  ⟨[], [0, 1]⟩,
  ⟨[], [0, 1]⟩,
  ⟨[], [0, 1, 2]⟩,
  ⟨[], [0]⟩,
  ⟨[], [0]⟩,
  ⟨[], [0, 1, 2]⟩,
  ⟨[], [0, 1, 2]⟩,
  ⟨[], []⟩,
  ⟨[], []⟩,
  ⟨[], []⟩,
  ⟨[], []⟩,
  ⟨[], []⟩,
  ⟨[], []⟩,
  ⟨[], []⟩,
  ⟨[], []⟩,
  ⟨[2], []⟩,
  ⟨[], []⟩,
  ⟨[], []⟩,
  ⟨[], []⟩,
  ⟨[], [0]⟩,
  ⟨[], []⟩,
  ⟨[], []⟩,
  ⟨[], [0, 1]⟩,
  ⟨[], [0, 1, 2, 3]⟩,
  ⟨[], [0, 1]⟩,
  ⟨[], [3]⟩,
  ⟨[], []⟩,
  ⟨[], [0]⟩,
  ⟨[], [0]⟩,
  ⟨[], [0]⟩,
  ⟨[], [0, 1]⟩,
  ⟨[], []⟩,
  ⟨[], [0, 1, 2]⟩,
  ⟨[], []⟩,
  ⟨[], []⟩,
  ⟨[], []⟩,
  ⟨[], [0]⟩,
  ⟨[], [0, 1, 2, 3]⟩,
  ⟨[], [0, 1]⟩,
  ⟨[], []⟩,
  ⟨[], [0]⟩,
  ⟨[], [0, 3]⟩,
  ⟨[], [0]⟩,
  ⟨[], []⟩,
  ⟨[], [0]⟩,
  ⟨[], [0]⟩,
  ⟨[], [0, 1]⟩,
  ⟨[], []⟩,
  ⟨[], []⟩,
  ⟨[], [0]⟩,
  ⟨[], [0, 1]⟩,
  ⟨[], [0, 1]⟩,
  ⟨[], []⟩,
  ⟨[], []⟩,
  ⟨[], [0]⟩,
  ⟨[], []⟩,
  ⟨[], []⟩,
  ⟨[], []⟩,
  ⟨[], []⟩,
  ⟨[], []⟩,
  ⟨[], [0]⟩,
  ⟨[], [0]⟩,
  ⟨[], [0]⟩,
  ⟨[], []⟩,
  ⟨[], [1]⟩,
  ⟨[], []⟩,
  ⟨[], [0, 1]⟩,
  ⟨[], [0, 1]⟩,
  ⟨[], [0]⟩,
  ⟨[], [0, 1]⟩,
  ⟨[], []⟩,
  ⟨[], []⟩,
  ⟨[], [0, 1, 2]⟩,
  ⟨[], [0]⟩,
  ⟨[], [0]⟩,
  ⟨[], [0]⟩,
  ⟨[], [0]⟩,
  ⟨[], []⟩,
  ⟨[], [0]⟩,
  ⟨[], [0]⟩,
  ⟨[], [0]⟩,
  ⟨[], [0]⟩,
  ⟨[], []⟩,
  ⟨[], [0]⟩,
  ⟨[], []⟩,
  ⟨[], []⟩,
  ⟨[], [0]⟩,
  ⟨[], [0]⟩,
  ⟨[], [0]⟩,
  ⟨[], []⟩,
  ⟨[], [0]⟩,
  ⟨[], []⟩,
  ⟨[], []⟩,
  ⟨[], [0, 1]⟩,
  ⟨[], [0, 1]⟩,
  ⟨[], []⟩,
  ⟨[], []⟩,
  ⟨[], []⟩,
  ⟨[], []⟩,
  ⟨[], []⟩,
  ⟨[], [0]⟩,
  ⟨[], [0, 1]⟩,
  ⟨[], []⟩,
  ⟨[], [0]⟩,
  ⟨[], [0, 1]⟩,
  ⟨[], []⟩,
  ⟨[], []⟩,
  ⟨[], []⟩,
  ⟨[], [0]⟩,
  ⟨[], [0]⟩,
  ⟨[], [0, 1, 2]⟩,
  ⟨[], [0]⟩,
  ⟨[], [0]⟩,
  ⟨[], [0]⟩,
  ⟨[], [0]⟩,
  ⟨[], []⟩,
  ⟨[], []⟩,
  ⟨[], [0]⟩,
  ⟨[], [0]⟩,
  ⟨[], [0, 1]⟩,
  ⟨[], [0]⟩,
  ⟨[], [0]⟩,
  ⟨[], [0]⟩,
  ⟨[], [0]⟩,
  ⟨[], [0, 1, 2]⟩,
  ⟨[], []⟩,
  ⟨[], []⟩,
  ⟨[], [0, 1, 2]⟩,
  ⟨[], [0]⟩,
  ⟨[], [0, 1]⟩,
  ⟨[], [0]⟩,
  ⟨[], [0]⟩,
  ⟨[], [0]⟩,
  ⟨[], [0]⟩,
  ⟨[], [0]⟩,
  ⟨[], [0, 1, 2]⟩,
  ⟨[], [0]⟩,
  ⟨[], [0]⟩,
  ⟨[], [0, 1]⟩,
  ⟨[], [0, 1]⟩,
  ⟨[], [0]⟩,
  ⟨[], [0, 1]⟩,
  ⟨[], [0, 1]⟩,
  ⟨[], [0, 1]⟩,
  ⟨[], []⟩,
  ⟨[], [0, 1]⟩,
  ⟨[], [0, 1]⟩,
  ⟨[], [0, 1]⟩,
  ⟨[], [0, 1, 2]⟩,
  ⟨[], [0, 1]⟩,
  ⟨[], [0, 1]⟩,
  ⟨[], [3, 4]⟩,
  ⟨[], [0]⟩,
  ⟨[], [0]⟩,
  ⟨[], [0]⟩,
  ⟨[], [0]⟩,
  ⟨[], [0, 1, 2]⟩,
  ⟨[], []⟩,
  ⟨[], [0, 1]⟩,
  ⟨[], [0, 1]⟩,
  ⟨[], [0]⟩,
  ⟨[], []⟩,
  ⟨[], []⟩,
  ⟨[], []⟩,
  ⟨[], [0]⟩,
  ⟨[], [0]⟩,
  ⟨[], [0]⟩,
  ⟨[], [0, 1, 2]⟩,
  ⟨[], [0, 1]⟩,
  ⟨[], [0, 1]⟩,
  ⟨[], []⟩,
  ⟨[], [0]⟩,
  ⟨[], [0, 1, 2]⟩,
  ⟨[], [0, 1, 2, 3]⟩,
  ⟨[], [1]⟩,
  ⟨[], [1]⟩,
  ⟨[], [1]⟩,
  ⟨[], [0]⟩,
  ⟨[], []⟩,
  ⟨[], [0]⟩,
  ⟨[], [0]⟩,
  ⟨[], []⟩,
  ⟨[], [0]⟩,
  ⟨[], [0]⟩,
  ⟨[], [0]⟩,
  ⟨[], [0, 1]⟩,
  ⟨[], [0]⟩,
  ⟨[], [0]⟩,
  ⟨[], [0]⟩,
  ⟨[], [0, 1, 2]⟩,
  ⟨[], [0]⟩,
  ⟨[], []⟩,
  ⟨[], [1]⟩,
  ⟨[], [0, 1]⟩,
  ⟨[], [0, 1]⟩,
  ⟨[], [0]⟩,
  ⟨[], [0, 5]⟩,
  ⟨[], []⟩,
  ⟨[], [1]⟩,
  ⟨[], [0]⟩,
  ⟨[], [0]⟩,
  ⟨[], []⟩,
  ⟨[], [0, 1]⟩,
  ⟨[], [0, 1]⟩,
  ⟨[], [0, 1]⟩,
  ⟨[], [0]⟩,
  ⟨[], [0]⟩,
  ⟨[], []⟩,
  ⟨[], [1]⟩,
  ⟨[], [0, 1]⟩,
  ⟨[], [0, 1]⟩,
  ⟨[], [0]⟩,
  ⟨[], [0, 5]⟩,
  ⟨[], []⟩,
  ⟨[], [1]⟩,
  ⟨[], [0]⟩,
  ⟨[], [0]⟩,
  ⟨[], []⟩,
  ⟨[], [0, 1]⟩,
  ⟨[], [0, 1]⟩,
  ⟨[], [0, 1]⟩,
  ⟨[], []⟩,
  ⟨[], [0]⟩,
  ⟨[], [0, 1, 2, 3]⟩,
  ⟨[], []⟩,
  ⟨[], [1]⟩,
  ⟨[], []⟩,
  ⟨[], [0]⟩,
  ⟨[], [0, 1]⟩,
  ⟨[], []⟩,
  ⟨[], [0, 1]⟩,
  ⟨[], [0]⟩,
  ⟨[], [0]⟩,
  ⟨[], [0, 1, 2]⟩,
  ⟨[], []⟩,
  ⟨[], [0, 1, 2, 3]⟩,
  ⟨[], []⟩,
  ⟨[], []⟩,
  ⟨[], [0, 1]⟩,
  ⟨[], [0, 1, 2, 3]⟩,
  ⟨[], [0, 1, 2, 3]⟩,
  ⟨[], [1]⟩,
  ⟨[], [0]⟩,
  ⟨[], []⟩,
  ⟨[], [0]⟩,
  ⟨[], [0, 1]⟩,
  ⟨[], []⟩,
  ⟨[], [0, 1]⟩,
  ⟨[], [0]⟩,
  ⟨[], []⟩,
  ⟨[], []⟩,
  ⟨[], [0, 1, 2]⟩,
  ⟨[], [0, 1]⟩,
  ⟨[], [0, 2]⟩,
  ⟨[], [0]⟩,
  ⟨[], [0]⟩,
  ⟨[], [0]⟩,
  ⟨[], [0, 1, 2, 3]⟩,
  ⟨[], [0, 1, 2, 3]⟩,
  ⟨[], [0, 1]⟩,
  ⟨[], [1]⟩,
  ⟨[], [0]⟩,
  ⟨[], [0]⟩,
  ⟨[], [0, 1]⟩,
  ⟨[], [0]⟩,
  ⟨[], [0]⟩,
  ⟨[], []⟩,
  ⟨[], [0, 1]⟩,
  ⟨[], [0]⟩,
  ⟨[], [0, 1, 2]⟩,
  ⟨[], [0, 1, 2]⟩,
  ⟨[], [0]⟩,
  ⟨[], []⟩,
  ⟨[], [0, 1]⟩,
  ⟨[], [0, 1, 2, 3]⟩,
  ⟨[], [0, 1, 2, 3]⟩,
  ⟨[], []⟩,
  ⟨[], [0]⟩,
  ⟨[], []⟩,
  ⟨[], []⟩,
  ⟨[], []⟩,
  ⟨[], [0]⟩,
  ⟨[], [0, 1]⟩,
  ⟨[], [0]⟩,
  ⟨[], [0]⟩,
  ⟨[], [0]⟩,
  ⟨[], [0]⟩,
  ⟨[], []⟩,
  ⟨[], [0, 1]⟩,
  ⟨[], []⟩,
  ⟨[], [0]⟩,
  ⟨[], [0]⟩,
  ⟨[], [0, 1, 2, 3]⟩,
  ⟨[], [0, 1, 2, 3]⟩,
  ⟨[], []⟩,
  ⟨[], []⟩,
  ⟨[], []⟩,
  ⟨[], []⟩,
  ⟨[], []⟩,
  ⟨[], []⟩,
  ⟨[], [0]⟩,
  ⟨[], []⟩,
  ⟨[], [0]⟩,
  ⟨[], [0, 1]⟩,
  ⟨[], [0]⟩,
  ⟨[], [0, 1]⟩,
  ⟨[], [0, 1]⟩,
  ⟨[], []⟩,
  ⟨[], [0]⟩,
  ⟨[], []⟩,
  ⟨[], [0]⟩,
  ⟨[], [0]⟩,
  ⟨[], []⟩,
  ⟨[], []⟩,
  ⟨[], [0, 1]⟩,
  ⟨[], []⟩,
  ⟨[], []⟩,
  ⟨[], []⟩,
  ⟨[], []⟩,
  ⟨[], []⟩,
  ⟨[], [1]⟩,
  ⟨[], [0]⟩,
  ⟨[], []⟩,
  ⟨[], []⟩,
  ⟨[], [0]⟩,
  ⟨[], [0]⟩,
  ⟨[], []⟩,
  ⟨[], []⟩,
  ⟨[], []⟩,
  ⟨[], [0, 1]⟩,
  ⟨[], [0, 1]⟩,
  ⟨[], [1, 2]⟩,
  ⟨[], [0, 1]⟩,
  ⟨[], []⟩,
  ⟨[], [0, 1, 2]⟩,
  ⟨[], []⟩,
  ⟨[], [0]⟩,
  ⟨[], [0]⟩,
  ⟨[], [0, 1, 2]⟩,
  ⟨[], [0, 1]⟩,
  ⟨[], []⟩,
  ⟨[], [0]⟩,
  ⟨[], [0]⟩,
  ⟨[], []⟩,
  ⟨[], [0, 1]⟩,
  ⟨[], []⟩,
  ⟨[], []⟩,
  ⟨[], []⟩,
  ⟨[], []⟩,
  ⟨[], [0]⟩,
  ⟨[], []⟩,
  ⟨[], []⟩,
  ⟨[], [0, 1]⟩,
  ⟨[], []⟩,
  ⟨[], []⟩,
  ⟨[], [0, 1, 2, 3]⟩,
  ⟨[], []⟩,
  ⟨[], [0]⟩,
  ⟨[], [0]⟩,
  ⟨[], [1]⟩,
  ⟨[], [0]⟩,
  ⟨[], [1]⟩,
  ⟨[], [1]⟩,
  ⟨[], [0, 1, 2, 3]⟩,
  ⟨[], [1]⟩,
  ⟨[], []⟩,
  ⟨[], [0]⟩,
  ⟨[], []⟩,
  ⟨[], []⟩,
  ⟨[], []⟩,
  ⟨[], []⟩,
  ⟨[], [0]⟩,
  ⟨[], [0]⟩,
  ⟨[], [1]⟩,
  ⟨[], [0]⟩,
  ⟨[], []⟩,
  ⟨[], [0]⟩,
  ⟨[], [0]⟩,
  ⟨[], [0]⟩,
  ⟨[], []⟩,
  ⟨[], [0]⟩,
  ⟨[], [1]⟩,
  ⟨[], [1, 2]⟩,
  ⟨[], [0]⟩,
  ⟨[], [1, 2]⟩,
  ⟨[], [1]⟩,
  ⟨[], []⟩,
  ⟨[], [0, 1, 2]⟩,
  ⟨[], []⟩,
  ⟨[], [0, 1, 2, 3, 4, 5]⟩,
  ⟨[], []⟩,
  ⟨[], [0]⟩,
  ⟨[], [0, 1]⟩,
  ⟨[], []⟩,
  ⟨[], [0, 1, 2, 3]⟩,
  ⟨[], []⟩,
  ⟨[], [0, 1]⟩,
  ⟨[], []⟩,
  ⟨[], []⟩,
  ⟨[], []⟩,
  ⟨[], [0]⟩,
  ⟨[], [0, 1, 2]⟩,
  ⟨[], [0, 1, 2]⟩,
  ⟨[], [0]⟩,
  ⟨[], [0, 1]⟩,
  ⟨[], []⟩,
  ⟨[], [0, 1, 2]⟩,
  ⟨[], [0, 1, 2, 3, 4]⟩,
  ⟨[], [0]⟩,
  ⟨[], [0]⟩,
  ⟨[], [0, 1]⟩,
  ⟨[], []⟩,
  ⟨[], [0]⟩,
  ⟨[], [0, 1, 2, 3]⟩,
  ⟨[], [0, 1, 2, 3]⟩,
  ⟨[], []⟩,
  ⟨[], [0, 1, 2]⟩,
  ⟨[], [0, 1, 2, 3, 4, 5, 6]⟩,
  ⟨[], [0]⟩,
  ⟨[], [0]⟩,
  ⟨[], [0, 1, 2, 3]⟩,
  ⟨[], [0, 1, 2, 3]⟩,
  ⟨[], [0, 1]⟩,
  ⟨[], [0]⟩,
  ⟨[], []⟩,
  ⟨[], [0]⟩,
  ⟨[], [0, 1]⟩,
  ⟨[], [0]⟩,
  ⟨[], [0]⟩,
  ⟨[], [0, 2]⟩,
  ⟨[], [0, 1]⟩,
  ⟨[], [0]⟩,
  ⟨[], []⟩,
  ⟨[], [0, 1]⟩,
  ⟨[], [0]⟩,
  ⟨[], [0]⟩,
  ⟨[], [0]⟩,
  ⟨[], [0, 1]⟩,
  ⟨[], [0]⟩,
  ⟨[], [0]⟩,
  ⟨[], [2]⟩,
  ⟨[], [2]⟩,
  ⟨[], [0, 1]⟩,
  ⟨[], [0, 1]⟩,
  ⟨[], [0, 1]⟩,
  ⟨[], [0]⟩,
  ⟨[], [0]⟩,
  ⟨[], [0, 1]⟩,
  ⟨[], [0, 1]⟩,
  ⟨[], [0]⟩,
  ⟨[], [0, 1]⟩,
  ⟨[], [0, 3]⟩,
  ⟨[], [0]⟩,
  ⟨[], [0, 1, 2]⟩,
  ⟨[], []⟩,
  ⟨[], [1]⟩,
  ⟨[], [0]⟩,
  ⟨[], [0]⟩,
  ⟨[], [0]⟩,
  ⟨[], [0]⟩,
  ⟨[], [0]⟩,
  ⟨[], [1]⟩,
  ⟨[], [0]⟩,
  ⟨[], [0, 1]⟩,
  ⟨[], [0]⟩,
  ⟨[], [0]⟩,
  ⟨[], [0, 1]⟩,
  ⟨[], []⟩,
  ⟨[], [0, 1, 2]⟩,
  ⟨[], [0]⟩,
  ⟨[], []⟩,
  ⟨[], [0]⟩,
  ⟨[], [0]⟩,
  ⟨[], [0, 1]⟩,
  ⟨[], []⟩,
  ⟨[], []⟩,
  ⟨[], []⟩,
  ⟨[], []⟩,
  ⟨[], []⟩,
  ⟨[], [0]⟩,
  ⟨[], []⟩,
  ⟨[], []⟩,
  ⟨[], [0, 1]⟩,
  ⟨[], [0, 1]⟩,
  ⟨[], [0]⟩,
  ⟨[], [0]⟩,
  ⟨[], [0, 1]⟩,
  ⟨[], []⟩,
  ⟨[], [0, 1]⟩,
  ⟨[], []⟩,
  ⟨[], [0]⟩,
  ⟨[], []⟩,
  ⟨[], [0, 1]⟩,
  ⟨[], [0]⟩,
  ⟨[], [0, 1, 2]⟩,
  ⟨[], []⟩,
  ⟨[], [0, 1]⟩,
  ⟨[], [0, 1, 2, 3]⟩,
  ⟨[], []⟩,
  ⟨[], [0]⟩,
  ⟨[], [0]⟩,
  ⟨[], []⟩,
  ⟨[], [0]⟩,
  ⟨[], [0]⟩,
  ⟨[], [0]⟩,
  ⟨[], []⟩,
  ⟨[], [0, 1]⟩,
  ⟨[], [0, 1]⟩,
  ⟨[], [0, 1, 2, 3]⟩,
  ⟨[], [0, 3]⟩,
  ⟨[], [0]⟩,
  ⟨[], [0, 1, 2]⟩,
  ⟨[], [0]⟩,
  ⟨[], [0]⟩,
  ⟨[], [0, 1, 2]⟩,
  ⟨[], [0, 1]⟩,
  ⟨[], []⟩,
  ⟨[], [0]⟩,
  ⟨[], [0, 1, 2, 3]⟩,
  ⟨[], [1]⟩,
  ⟨[], [1]⟩,
  ⟨[], []⟩,
  ⟨[], [0]⟩,
  ⟨[], []⟩,
  ⟨[], [0]⟩,
  ⟨[], [0]⟩,
  ⟨[], []⟩,
  ⟨[], [0, 1, 2]⟩,
  ⟨[], []⟩,
  ⟨[], [0, 1, 2, 3]⟩,
  ⟨[], []⟩,
  ⟨[], [0, 1]⟩,
  ⟨[], []⟩,
  ⟨[], [0, 1]⟩,
  ⟨[], [0]⟩,
  ⟨[], []⟩,
  ⟨[], [0]⟩,
  ⟨[], [0]⟩,
  ⟨[], [0]⟩,
  ⟨[], [0]⟩,
  ⟨[], [0, 1]⟩,
  ⟨[], []⟩,
  ⟨[], []⟩,
  ⟨[], [0]⟩,
  ⟨[], [0, 1, 2]⟩,
  ⟨[], [1]⟩,
  ⟨[], []⟩,
  ⟨[], []⟩,
  ⟨[], [0]⟩,
  ⟨[], []⟩,
  ⟨[], [0, 1]⟩,
  ⟨[], [1]⟩,
  ⟨[], []⟩,
  ⟨[], []⟩,
  ⟨[], [0]⟩,
  ⟨[], [0]⟩,
  ⟨[], [0, 1]⟩,
  ⟨[], []⟩,
  ⟨[], []⟩,
  ⟨[], [0, 1]⟩,
  ⟨[], [0]⟩,
  ⟨[], [0, 1]⟩,
  ⟨[], []⟩,
  ⟨[], [0, 1, 2, 3]⟩,
  ⟨[], [1]⟩,
  ⟨[], [0, 1]⟩,
  ⟨[], [1]⟩,
  ⟨[], [0, 1]⟩,
  ⟨[], [0]⟩,
  ⟨[], [0]⟩,
  ⟨[], []⟩,
  ⟨[], []⟩,
  ⟨[], [0]⟩,
  ⟨[], [0]⟩,
  ⟨[], [1]⟩,
  ⟨[], []⟩,
  ⟨[], []⟩,
  ⟨[], [0, 1, 2, 3]⟩,
  ⟨[], []⟩,
  ⟨[], []⟩,
  ⟨[], []⟩,
  ⟨[], [0]⟩,
  ⟨[], [0, 1]⟩,
  ⟨[], [0, 1]⟩,
  ⟨[], [0]⟩,
  ⟨[], [0]⟩,
  ⟨[], [0]⟩,
  ⟨[], [0]⟩,
  ⟨[], [0, 1]⟩,
  ⟨[], []⟩,
  ⟨[], [0, 1]⟩,
  ⟨[], []⟩,
  ⟨[], [0, 1, 2, 3]⟩,
  ⟨[], []⟩,
  ⟨[], [0, 1]⟩,
  ⟨[], []⟩,
  ⟨[], []⟩,
  ⟨[], [0]⟩,
  ⟨[], []⟩,
  ⟨[], [0]⟩,
  ⟨[], [0]⟩,
  ⟨[], [0, 1]⟩,
  ⟨[], [0, 1]⟩,
  ⟨[], [0]⟩,
  ⟨[], [0]⟩,
  ⟨[], [0, 3]⟩,
  ⟨[], []⟩,
  ⟨[], [1]⟩,
  ⟨[], []⟩,
  ⟨[], []⟩,
  ⟨[], [0]⟩,
  ⟨[], [0]⟩,
  ⟨[], [0, 1, 2]⟩,
  ⟨[], [0, 1]⟩,
  ⟨[], []⟩,
  ⟨[], [0, 1]⟩,
  ⟨[], [0]⟩,
  ⟨[], [0, 1]⟩,
  ⟨[], [0, 1, 2, 3]⟩,
  ⟨[], [0, 1]⟩,
  ⟨[], [0, 1]⟩,
  ⟨[], []⟩,
  ⟨[], []⟩,
  ⟨[], []⟩,
  ⟨[], []⟩,
  ⟨[], [0, 1]⟩,
  ⟨[], [0]⟩,
  ⟨[], [0]⟩,
  ⟨[], []⟩,
  ⟨[], [0, 1]⟩,
  ⟨[], [0]⟩,
  ⟨[], [0]⟩,
  ⟨[], []⟩,
  ⟨[], [0]⟩,
  ⟨[], [0, 1, 2]⟩,
  ⟨[], [0, 1]⟩,
  ⟨[], [0, 1]⟩,
  ⟨[], [0]⟩,
  ⟨[], [0, 1, 2, 3]⟩,
  ⟨[], []⟩,
  ⟨[], [0]⟩,
  ⟨[], [0]⟩,
  ⟨[], [0]⟩,
  ⟨[], []⟩,
  ⟨[], []⟩,
  ⟨[], [0, 1]⟩,
  ⟨[], []⟩,
  ⟨[], [0]⟩,
  ⟨[], []⟩,
  ⟨[], [0]⟩,
  ⟨[], [0]⟩,
  ⟨[], []⟩,
  ⟨[], []⟩,
  ⟨[], []⟩,
  ⟨[], []⟩,
  ⟨[], [0]⟩,
  ⟨[], []⟩,
  ⟨[], [0]⟩,
  ⟨[], [0, 1]⟩,
  ⟨[], [1]⟩,
  ⟨[], [0]⟩,
  ⟨[], []⟩,
  ⟨[], []⟩,
  ⟨[], []⟩,
  ⟨[], []⟩,
  ⟨[], [0]⟩,
  ⟨[], []⟩,
  ⟨[], [0]⟩,
  ⟨[], [0, 1, 2]⟩,
  ⟨[], [0, 1]⟩,
  ⟨[], [0]⟩,
  ⟨[], [1]⟩,
  ⟨[], [0]⟩,
  ⟨[], []⟩,
  ⟨[], [0, 1, 2, 3]⟩,
  ⟨[], []⟩,
  ⟨[], []⟩,
  ⟨[], []⟩,
  ⟨[], [0]⟩,
  ⟨[], []⟩,
  ⟨[], []⟩,
  ⟨[], [0, 1]⟩,
  ⟨[], []⟩,
  ⟨[], []⟩,
  ⟨[], [0]⟩,
  ⟨[], []⟩,
  ⟨[], [0, 1]⟩,
  ⟨[], []⟩,
  ⟨[], []⟩,
  ⟨[], []⟩,
  ⟨[], [0, 1, 2, 3]⟩,
  ⟨[], []⟩,
  ⟨[], []⟩,
  ⟨[], [0, 1, 2, 3]⟩,
  ⟨[], []⟩,
  ⟨[], []⟩,
  ⟨[], [0]⟩,
  ⟨[], [0]⟩,
  ⟨[1], [1]⟩,
  ⟨[2], [2]⟩,
  ⟨[], [3, 4]⟩,
  ⟨[], [0, 1]⟩,
  ⟨[], [0, 1, 3]⟩,
  ⟨[], [0, 1, 3]⟩,
  ⟨[], [0]⟩,
  ⟨[], [0]⟩,
  ⟨[], [0, 1]⟩,
  ⟨[], []⟩,
  ⟨[], [1]⟩,
  ⟨[], []⟩,
  ⟨[], []⟩,
  ⟨[], []⟩,
  ⟨[], []⟩,
  ⟨[], []⟩,
  ⟨[], []⟩,
  ⟨[], []⟩,
  ⟨[], [1]⟩,
  ⟨[], []⟩,
  ⟨[0, 2, 4, 7, 8, 9], []⟩,
  ⟨[1, 3, 4, 6, 7, 9, 10, 11], []⟩,
  ⟨[], []⟩,
  ⟨[], [0, 1]⟩,
  ⟨[], [2]⟩,
  ⟨[], [0]⟩,
  ⟨[], [0, 1, 2]⟩,
  ⟨[], [0, 1]⟩,
  ⟨[], []⟩,
  ⟨[], [0, 1]⟩,
  ⟨[], [0, 1]⟩,
  ⟨[], [2]⟩,
  ⟨[], [0]⟩,
  ⟨[], []⟩,
  ⟨[], [2]⟩,
  ⟨[], [0]⟩,
  ⟨[], []⟩,
  ⟨[], []⟩,
  ⟨[], []⟩,
  ⟨[0, 5, 10, 13, 14, 15, 16, 17, 20, 21, 22, 23], []⟩,
  ⟨[], [0]⟩,
  ⟨[], []⟩,
  ⟨[], []⟩,
  ⟨[], []⟩,
  ⟨[], []⟩,
  ⟨[], []⟩,
  ⟨[], []⟩,
  ⟨[], []⟩,
  ⟨[], [0]⟩,
  ⟨[], [0]⟩,
  ⟨[], [0, 1, 2]⟩,
  ⟨[], []⟩,
  ⟨[], []⟩,
  ⟨[], [0]⟩,
  ⟨[], [0]⟩,
  ⟨[], [0, 1]⟩,
  ⟨[], [0]⟩,
  ⟨[], []⟩,
  ⟨[], []⟩,
  ⟨[], []⟩,
  ⟨[], [0, 1]⟩,
  ⟨[], [0]⟩,
  ⟨[], [0]⟩,
  ⟨[], [0]⟩,
  ⟨[], [0, 1]⟩,
  ⟨[], [0, 1]⟩,
  ⟨[], [0, 1, 2]⟩,
  ⟨[], [0]⟩,
  ⟨[], [0]⟩,
  ⟨[], [0, 1, 2]⟩,
  ⟨[], [0, 1, 2]⟩,
  ⟨[], [0]⟩,
  ⟨[], [0]⟩,
  ⟨[], [0]⟩,
  ⟨[], [0]⟩,
  ⟨[], [0]⟩,
  ⟨[], [0]⟩,
  ⟨[], [0, 1]⟩,
  ⟨[], [0]⟩,
  ⟨[], [0]⟩,
  ⟨[], [0, 1]⟩,
  ⟨[], [0, 1]⟩,
  ⟨[], [0]⟩,
  ⟨[], [0]⟩,
  ⟨[], [0, 1]⟩,
  ⟨[6], [0, 1, 4]⟩,
  ⟨[], []⟩,
  ⟨[], [0]⟩,
  ⟨[], [0, 1]⟩,
  ⟨[], [0]⟩,
  ⟨[], [0, 1]⟩,
  ⟨[], []⟩,
  ⟨[], [0, 1]⟩,
  ⟨[], [0, 1]⟩,
  ⟨[], []⟩,
  ⟨[], [0]⟩,
  ⟨[], [0]⟩,
  ⟨[], [0]⟩,
  ⟨[], [0, 1]⟩,
  ⟨[], [0, 1]⟩,
  ⟨[], [0, 1]⟩,
  ⟨[], []⟩,
  ⟨[], [0]⟩,
  ⟨[], []⟩,
  ⟨[], [0]⟩,
  ⟨[], [0]⟩,
  ⟨[], [0]⟩,
  ⟨[], [0, 1, 2, 3, 4, 5, 6, 7, 8, 9, 10, 11, 12, 13, 14, 15, 16, 17, 18, 19, 20, 21, 22, 23, 24, 25, 26, 27, 28, 29, 30, 31, 32, 33, 34, 35, 36, 37, 38, 39, 40, 41, 42, 43, 44, 45, 46, 47, 48, 49, 50, 51, 52, 53, 54]⟩,
  ⟨[], [0, 1, 2, 3]⟩,
  ⟨[], [0]⟩,
  ⟨[], [1, 2]⟩,
  ⟨[], [0]⟩,
  ⟨[], [0, 1]⟩,
  ⟨[], [0]⟩,
  ⟨[], [0]⟩,
  ⟨[], []⟩,
  ⟨[], [0]⟩,
  ⟨[], [0, 1, 3]⟩,
  ⟨[], [0]⟩,
  ⟨[], [0, 1]⟩,
  ⟨[], [0, 1]⟩,
  ⟨[], [0, 1, 2]⟩,
  ⟨[], [0]⟩,
  ⟨[], [0, 1]⟩,
  ⟨[], [0]⟩,
  ⟨[], [0]⟩,
  ⟨[], [0]⟩,
  ⟨[], [0]⟩,
  ⟨[], [0, 1]⟩,
  ⟨[], [0, 1]⟩,
  ⟨[], [0]⟩,
  ⟨[], []⟩,
  ⟨[], []⟩,
  ⟨[], []⟩,
  ⟨[], [0]⟩,
  ⟨[], [0, 1]⟩,
  ⟨[], [0, 1]⟩,
  ⟨[], [0]⟩,
  ⟨[], []⟩,
  ⟨[], []⟩,
  ⟨[], [0]⟩,
  ⟨[], [0]⟩,
  ⟨[], [0]⟩,
  ⟨[], [0]⟩,
  ⟨[], [0]⟩,
  ⟨[], [0]⟩,
  ⟨[], [0]⟩,
  ⟨[], [0, 1, 2]⟩,
  ⟨[], [0, 1]⟩,
  ⟨[], [0, 1]⟩,
  ⟨[], [0, 1]⟩,
  ⟨[], [0]⟩,
  ⟨[], [0, 1, 2, 3]⟩,
  ⟨[], [0, 1]⟩,
  ⟨[], [0]⟩,
  ⟨[], [0]⟩,
  ⟨[], []⟩,
  ⟨[], [0, 1]⟩,
  ⟨[], [0]⟩,
  ⟨[], []⟩,
  ⟨[], []⟩,
  ⟨[], [0]⟩,
  ⟨[], [0]⟩,
  ⟨[], [0]⟩,
  ⟨[], [1]⟩,
  ⟨[], [1]⟩,
  ⟨[], []⟩,
  ⟨[], [1]⟩,
  ⟨[], [1]⟩,
  ⟨[], [0, 5]⟩,
  ⟨[], [0]⟩,
  ⟨[], []⟩,
  ⟨[], []⟩,
  ⟨[], [1, 2]⟩,
  ⟨[], [0]⟩,
  ⟨[], [0]⟩,
  ⟨[], [0]⟩,
  ⟨[], [0]⟩,
  ⟨[], [1]⟩,
  ⟨[], [0, 1, 2]⟩,
  ⟨[], [0, 1, 2]⟩,
  ⟨[], [0, 1]⟩,
  ⟨[], [0]⟩,
  ⟨[], [0]⟩,
  ⟨[], [0]⟩,
  ⟨[], [0, 1, 2]⟩,
  ⟨[], [0]⟩,
  ⟨[], []⟩,
  ⟨[], []⟩,
  ⟨[], []⟩,
  ⟨[], []⟩,
  ⟨[], [0]⟩,
  ⟨[], []⟩,
  ⟨[], []⟩,
  ⟨[], [0]⟩,
  ⟨[], []⟩,
  ⟨[], []⟩,
  ⟨[], []⟩,
  ⟨[], [0]⟩,
  ⟨[], [0, 1]⟩,
  ⟨[], [1, 2]⟩,
  ⟨[], [0, 1, 2]⟩,
  ⟨[], [0, 1, 2]⟩]

def sigma0 : List Summary := [
  ⟨[], [0, 1, 2]⟩,
  ⟨[], [0, 1, 2]⟩,
  ⟨[], [0, 1]⟩,
  ⟨[], [0, 1]⟩,
  ⟨[], [0]⟩,
  ⟨[], [0]⟩,
  ⟨[], []⟩,
  ⟨[], [0, 1]⟩,
  ⟨[], [0, 1]⟩,
  ⟨[], [0, 1, 2]⟩,
  ⟨[], [0]⟩,
  ⟨[], [0]⟩,
  ⟨[], [0, 1, 2]⟩,
  ⟨[], [0, 1, 2]⟩,
  ⟨[], []⟩,
  ⟨[], []⟩,
  ⟨[], []⟩,
  ⟨[], []⟩,
  ⟨[], []⟩,
  ⟨[], []⟩,
  ⟨[], []⟩,
  ⟨[], []⟩,
  ⟨[2], []⟩,
  ⟨[], []⟩,
  ⟨[], []⟩,
  ⟨[], []⟩,
  ⟨[], [0]⟩,
  ⟨[], []⟩,
  ⟨[], []⟩,
  ⟨[], [0, 1]⟩,
  ⟨[], [0, 1, 2, 3]⟩,
  ⟨[], [0, 1]⟩,
  ⟨[], [3]⟩,
  ⟨[], []⟩,
  ⟨[], [0]⟩,
  ⟨[], [0]⟩,
  ⟨[], [0]⟩,
  ⟨[], [0, 1]⟩,
  ⟨[], []⟩,
  ⟨[], [0, 1, 2]⟩,
  ⟨[], []⟩,
  ⟨[], []⟩,
  ⟨[], []⟩,
  ⟨[], [0]⟩,
  ⟨[], [0, 1, 2, 3]⟩,
  ⟨[], [0, 1]⟩,
  ⟨[], []⟩,
  ⟨[], [0]⟩,
  ⟨[], [0, 3]⟩,
  ⟨[], [0]⟩,
  ⟨[], []⟩,
  ⟨[], [0]⟩,
  ⟨[], [0]⟩,
  ⟨[], [0, 1]⟩,
  ⟨[], []⟩,
  ⟨[], []⟩,
  ⟨[], [0]⟩,
  ⟨[], [0, 1]⟩,
  ⟨[], [0, 1]⟩,
  ⟨[], []⟩]

def sigma1 : List Summary := [
  ⟨[], []⟩,
  ⟨[], [0]⟩,
  ⟨[], []⟩,
  ⟨[], []⟩,
  ⟨[], []⟩,
  ⟨[], []⟩,
  ⟨[], []⟩,
  ⟨[], [0]⟩,
  ⟨[], [0]⟩,
  ⟨[], [0]⟩,
  ⟨[], []⟩,
  ⟨[], [1]⟩,
  ⟨[], []⟩,
  ⟨[], [0, 1]⟩,
  ⟨[], [0, 1]⟩,
  ⟨[], [0]⟩,
  ⟨[], [0, 1]⟩,
  ⟨[], []⟩,
  ⟨[], []⟩,
  ⟨[], [0, 1, 2]⟩,
  ⟨[], [0]⟩,
  ⟨[], [0]⟩,
  ⟨[], [0]⟩,
  ⟨[], [0]⟩,
  ⟨[], []⟩,
  ⟨[], [0]⟩,
  ⟨[], [0]⟩,
  ⟨[], [0]⟩,
  ⟨[], [0]⟩,
  ⟨[], []⟩,
  ⟨[], [0]⟩,
  ⟨[], []⟩,
  ⟨[], []⟩,
  ⟨[], [0]⟩,
  ⟨[], [0]⟩,
  ⟨[], [0]⟩,
  ⟨[], []⟩,
  ⟨[], [0]⟩,
  ⟨[], []⟩,
  ⟨[], []⟩,
  ⟨[], [0, 1]⟩,
  ⟨[], [0, 1]⟩,
  ⟨[], []⟩,
  ⟨[], []⟩,
  ⟨[], []⟩,
  ⟨[], []⟩,
  ⟨[], []⟩,
  ⟨[], [0]⟩,
  ⟨[], [0, 1]⟩,
  ⟨[], []⟩,
  ⟨[], [0]⟩,
  ⟨[], [0, 1]⟩,
  ⟨[], []⟩,
  ⟨[], []⟩,
  ⟨[], []⟩,
  ⟨[], [0]⟩,
  ⟨[], [0]⟩,
  ⟨[], [0, 1, 2]⟩,
  ⟨[], [0]⟩,
  ⟨[], [0]⟩]

def sigma2 : List Summary := [
  ⟨[], [0]⟩,
  ⟨[], [0]⟩,
  ⟨[], []⟩,
  ⟨[], []⟩,
  ⟨[], [0]⟩,
  ⟨[], [0]⟩,
  ⟨[], [0, 1]⟩,
  ⟨[], [0]⟩,
  ⟨[], [0]⟩,
  ⟨[], [0]⟩,
  ⟨[], [0]⟩,
  ⟨[], [0, 1, 2]⟩,
  ⟨[], []⟩,
  ⟨[], []⟩,
  ⟨[], [0, 1, 2]⟩,
  ⟨[], [0]⟩,
  ⟨[], [0, 1]⟩,
  ⟨[], [0]⟩,
  ⟨[], [0]⟩,
  ⟨[], [0]⟩,
  ⟨[], [0]⟩,
  ⟨[], [0]⟩,
  ⟨[], [0, 1, 2]⟩,
  ⟨[], [0]⟩,
  ⟨[], [0]⟩,
  ⟨[], [0, 1]⟩,
  ⟨[], [0, 1]⟩,
  ⟨[], [0]⟩,
  ⟨[], [0, 1]⟩,
  ⟨[], [0, 1]⟩,
  ⟨[], [0, 1]⟩,
  ⟨[], []⟩,
  ⟨[], [0, 1]⟩,
  ⟨[], [0, 1]⟩,
  ⟨[], [0, 1]⟩,
  ⟨[], [0, 1, 2]⟩,
  ⟨[], [0, 1]⟩,
  ⟨[], [0, 1]⟩,
  ⟨[], [3, 4]⟩,
  ⟨[], [0]⟩,
  ⟨[], [0]⟩,
  ⟨[], [0]⟩,
  ⟨[], [0]⟩,
  ⟨[], [0, 1, 2]⟩,
  ⟨[], []⟩,
  ⟨[], [0, 1]⟩,
  ⟨[], [0, 1]⟩,
  ⟨[], [0]⟩,
  ⟨[], []⟩,
  ⟨[], []⟩,
  ⟨[], []⟩,
  ⟨[], [0]⟩,
  ⟨[], [0]⟩,
  ⟨[], [0]⟩,
  ⟨[], [0, 1, 2]⟩,
  ⟨[], [0, 1]⟩,
  ⟨[], [0, 1]⟩,
  ⟨[], []⟩,
  ⟨[], [0]⟩,
  ⟨[], [0, 1, 2]⟩]

def sigma3 : List Summary := [
  ⟨[], [0, 1, 2, 3]⟩,
  ⟨[], [1]⟩,
  ⟨[], [1]⟩,
  ⟨[], [1]⟩,
  ⟨[], [0]⟩,
  ⟨[], []⟩,
  ⟨[], [0]⟩,
  ⟨[], [0]⟩,
  ⟨[], []⟩,
  ⟨[], [0]⟩,
  ⟨[], [0]⟩,
  ⟨[], [0]⟩,
  ⟨[], [0, 1]⟩,
  ⟨[], [0]⟩,
  ⟨[], [0]⟩,
  ⟨[], [0]⟩,
  ⟨[], [0, 1, 2]⟩,
  ⟨[], [0]⟩,
  ⟨[], []⟩,
  ⟨[], [1]⟩,
  ⟨[], [0, 1]⟩,
  ⟨[], [0, 1]⟩,
  ⟨[], [0]⟩,
  ⟨[], [0, 5]⟩,
  ⟨[], []⟩,
  ⟨[], [1]⟩,
  ⟨[], [0]⟩,
  ⟨[], [0]⟩,
  ⟨[], []⟩,
  ⟨[], [0, 1]⟩,
  ⟨[], [0, 1]⟩,
  ⟨[], [0, 1]⟩,
  ⟨[], [0]⟩,
  ⟨[], [0]⟩,
  ⟨[], []⟩,
  ⟨[], [1]⟩,
  ⟨[], [0, 1]⟩,
  ⟨[], [0, 1]⟩,
  ⟨[], [0]⟩,
  ⟨[], [0, 5]⟩,
  ⟨[], []⟩,
  ⟨[], [1]⟩,
  ⟨[], [0]⟩,
  ⟨[], [0]⟩,
  ⟨[], []⟩,
  ⟨[], [0, 1]⟩,
  ⟨[], [0, 1]⟩,
  ⟨[], [0, 1]⟩,
  ⟨[], []⟩,
  ⟨[], [0]⟩,
  ⟨[], [0, 1, 2, 3]⟩,
  ⟨[], []⟩,
  ⟨[], [1]⟩,
  ⟨[], []⟩,
  ⟨[], [0]⟩,
  ⟨[], [0, 1]⟩,
  ⟨[], []⟩,
  ⟨[], [0, 1]⟩,
  ⟨[], [0]⟩,
  ⟨[], [0]⟩]

def sigma4 : List Summary := [
  ⟨[], [0, 1, 2]⟩,
  ⟨[], []⟩,
  ⟨[], [0, 1, 2, 3]⟩,
  ⟨[], []⟩,
  ⟨[], []⟩,
  ⟨[], [0, 1]⟩,
  ⟨[], [0, 1, 2, 3]⟩,
  ⟨[], [0, 1, 2, 3]⟩,
  ⟨[], [1]⟩,
  ⟨[], [0]⟩,
  ⟨[], []⟩,
  ⟨[], [0]⟩,
  ⟨[], [0, 1]⟩,
  ⟨[], []⟩,
  ⟨[], [0, 1]⟩,
  ⟨[], [0]⟩,
  ⟨[], []⟩,
  ⟨[], []⟩,
  ⟨[], [0, 1, 2]⟩,
  ⟨[], [0, 1]⟩,
  ⟨[], [0, 2]⟩,
  ⟨[], [0]⟩,
  ⟨[], [0]⟩,
  ⟨[], [0]⟩,
  ⟨[], [0, 1, 2, 3]⟩,
  ⟨[], [0, 1, 2, 3]⟩,
  ⟨[], [0, 1]⟩,
  ⟨[], [1]⟩,
  ⟨[], [0]⟩,
  ⟨[], [0]⟩,
  ⟨[], [0, 1]⟩,
  ⟨[], [0]⟩,
  ⟨[], [0]⟩,
  ⟨[], []⟩,
  ⟨[], [0, 1]⟩,
  ⟨[], [0]⟩,
  ⟨[], [0, 1, 2]⟩,
  ⟨[], [0, 1, 2]⟩,
  ⟨[], [0]⟩,
  ⟨[], []⟩,
  ⟨[], [0, 1]⟩,
  ⟨[], [0, 1, 2, 3]⟩,
  ⟨[], [0, 1, 2, 3]⟩,
  ⟨[], []⟩,
  ⟨[], [0]⟩,
  ⟨[], []⟩,
  ⟨[], []⟩,
  ⟨[], []⟩,
  ⟨[], [0]⟩,
  ⟨[], [0, 1]⟩,
  ⟨[], [0]⟩,
  ⟨[], [0]⟩,
  ⟨[], [0]⟩,
  ⟨[], [0]⟩,
  ⟨[], []⟩,
  ⟨[], [0, 1]⟩,
  ⟨[], []⟩,
  ⟨[], [0]⟩,
  ⟨[], [0]⟩,
  ⟨[], [0, 1, 2, 3]⟩]

def sigma5 : List Summary := [
  ⟨[], [0, 1, 2, 3]⟩,
  ⟨[], []⟩,
  ⟨[], []⟩,
  ⟨[], []⟩,
  ⟨[], []⟩,
  ⟨[], []⟩,
  ⟨[], []⟩,
  ⟨[], [0]⟩,
  ⟨[], []⟩,
  ⟨[], [0]⟩,
  ⟨[], [0, 1]⟩,
  ⟨[], [0]⟩,
  ⟨[], [0, 1]⟩,
  ⟨[], [0, 1]⟩,
  ⟨[], []⟩,
  ⟨[], [0]⟩,
  ⟨[], []⟩,
  ⟨[], [0]⟩,
  ⟨[], [0]⟩,
  ⟨[], []⟩,
  ⟨[], []⟩,
  ⟨[], [0, 1]⟩,
  ⟨[], []⟩,
  ⟨[], []⟩,
  ⟨[], []⟩,
  ⟨[], []⟩,
  ⟨[], []⟩,
  ⟨[], [1]⟩,
  ⟨[], [0]⟩,
  ⟨[], []⟩,
  ⟨[], []⟩,
  ⟨[], [0]⟩,
  ⟨[], [0]⟩,
  ⟨[], []⟩,
  ⟨[], []⟩,
  ⟨[], []⟩,
  ⟨[], [0, 1]⟩,
  ⟨[], [0, 1]⟩,
  ⟨[], [1, 2]⟩,
  ⟨[], [0, 1]⟩,
  ⟨[], []⟩,
  ⟨[], [0, 1, 2]⟩,
  ⟨[], []⟩,
  ⟨[], [0]⟩,
  ⟨[], [0]⟩,
  ⟨[], [0, 1, 2]⟩,
  ⟨[], [0, 1]⟩,
  ⟨[], []⟩,
  ⟨[], [0]⟩,
  ⟨[], [0]⟩,
  ⟨[], []⟩,
  ⟨[], [0, 1]⟩,
  ⟨[], []⟩,
  ⟨[], []⟩,
  ⟨[], []⟩,
  ⟨[], []⟩,
  ⟨[], [0]⟩,
  ⟨[], []⟩,
  ⟨[], []⟩,
  ⟨[], [0, 1]⟩]

def sigma6 : List Summary := [
  ⟨[], []⟩,
  ⟨[], []⟩,
  ⟨[], [0, 1, 2, 3]⟩,
  ⟨[], []⟩,
  ⟨[], [0]⟩,
  ⟨[], [0]⟩,
  ⟨[], [1]⟩,
  ⟨[], [0]⟩,
  ⟨[], [1]⟩,
  ⟨[], [1]⟩,
  ⟨[], [0, 1, 2, 3]⟩,
  ⟨[], [1]⟩,
  ⟨[], []⟩,
  ⟨[], [0]⟩,
  ⟨[], []⟩,
  ⟨[], []⟩,
  ⟨[], []⟩,
  ⟨[], []⟩,
  ⟨[], [0]⟩,
  ⟨[], [0]⟩,
  ⟨[], [1]⟩,
  ⟨[], [0]⟩,
  ⟨[], []⟩,
  ⟨[], [0]⟩,
  ⟨[], [0]⟩,
  ⟨[], [0]⟩,
  ⟨[], []⟩,
  ⟨[], [0]⟩,
  ⟨[], [1]⟩,
  ⟨[], [1, 2]⟩,
  ⟨[], [0]⟩,
  ⟨[], [1, 2]⟩,
  ⟨[], [1]⟩,
  ⟨[], []⟩,
  ⟨[], [0, 1, 2]⟩,
  ⟨[], []⟩,
  ⟨[], [0, 1, 2, 3, 4, 5]⟩,
  ⟨[], []⟩,
  ⟨[], [0]⟩,
  ⟨[], [0, 1]⟩,
  ⟨[], []⟩,
  ⟨[], [0, 1, 2, 3]⟩,
  ⟨[], []⟩,
  ⟨[], [0, 1]⟩,
  ⟨[], []⟩,
  ⟨[], []⟩,
  ⟨[], []⟩,
  ⟨[], [0]⟩,
  ⟨[], [0, 1, 2]⟩,
  ⟨[], [0, 1, 2]⟩,
  ⟨[], [0]⟩,
  ⟨[], [0, 1]⟩,
  ⟨[], []⟩,
  ⟨[], [0, 1, 2]⟩,
  ⟨[], [0, 1, 2, 3, 4]⟩,
  ⟨[], [0]⟩,
  ⟨[], [0]⟩,
  ⟨[], [0, 1]⟩,
  ⟨[], []⟩,
  ⟨[], [0]⟩]

def sigma7 : List Summary := [
  ⟨[], [0, 1, 2, 3]⟩,
  ⟨[], [0, 1, 2, 3]⟩,
  ⟨[], []⟩,
  ⟨[], [0, 1, 2]⟩,
  ⟨[], [0, 1, 2, 3, 4, 5, 6]⟩,
  ⟨[], [0]⟩,
  ⟨[], [0]⟩,
  ⟨[], [0, 1, 2, 3]⟩,
  ⟨[], [0, 1, 2, 3]⟩,
  ⟨[], [0, 1]⟩,
  ⟨[], [0]⟩,
  ⟨[], []⟩,
  ⟨[], [0]⟩,
  ⟨[], [0, 1]⟩,
  ⟨[], [0]⟩,
  ⟨[], [0]⟩,
  ⟨[], [0, 2]⟩,
  ⟨[], [0, 1]⟩,
  ⟨[], [0]⟩,
  ⟨[], []⟩,
  ⟨[], [0, 1]⟩,
  ⟨[], [0]⟩,
  ⟨[], [0]⟩,
  ⟨[], [0]⟩,
  ⟨[], [0, 1]⟩,
  ⟨[], [0]⟩,
  ⟨[], [0]⟩,
  ⟨[], [2]⟩,
  ⟨[], [2]⟩,
  ⟨[], [0, 1]⟩,
  ⟨[], [0, 1]⟩,
  ⟨[], [0, 1]⟩,
  ⟨[], [0]⟩,
  ⟨[], [0]⟩,
  ⟨[], [0, 1]⟩,
  ⟨[], [0, 1]⟩,
  ⟨[], [0]⟩,
  ⟨[], [0, 1]⟩,
  ⟨[], [0, 3]⟩,
  ⟨[], [0]⟩,
  ⟨[], [0, 1, 2]⟩,
  ⟨[], []⟩,
  ⟨[], [1]⟩,
  ⟨[], [0]⟩,
  ⟨[], [0]⟩,
  ⟨[], [0]⟩,
  ⟨[], [0]⟩,
  ⟨[], [0]⟩,
  ⟨[], [1]⟩,
  ⟨[], [0]⟩,
  ⟨[], [0, 1]⟩,
  ⟨[], [0]⟩,
  ⟨[], [0]⟩,
  ⟨[], [0, 1]⟩,
  ⟨[], []⟩,
  ⟨[], [0, 1, 2]⟩,
  ⟨[], [0]⟩,
  ⟨[], []⟩,
  ⟨[], [0]⟩,
  ⟨[], [0]⟩]

def sigma8 : List Summary := [
  ⟨[], [0, 1]⟩,
  ⟨[], []⟩,
  ⟨[], []⟩,
  ⟨[], []⟩,
  ⟨[], []⟩,
  ⟨[], []⟩,
  ⟨[], [0]⟩,
  ⟨[], []⟩,
  ⟨[], []⟩,
  ⟨[], [0, 1]⟩,
  ⟨[], [0, 1]⟩,
  ⟨[], [0]⟩,
  ⟨[], [0]⟩,
  ⟨[], [0, 1]⟩,
  ⟨[], []⟩,
  ⟨[], [0, 1]⟩,
  ⟨[], []⟩,
  ⟨[], [0]⟩,
  ⟨[], []⟩,
  ⟨[], [0, 1]⟩,
  ⟨[], [0]⟩,
  ⟨[], [0, 1, 2]⟩,
  ⟨[], []⟩,
  ⟨[], [0, 1]⟩,
  ⟨[], [0, 1, 2, 3]⟩,
  ⟨[], []⟩,
  ⟨[], [0]⟩,
  ⟨[], [0]⟩,
  ⟨[], []⟩,
  ⟨[], [0]⟩,
  ⟨[], [0]⟩,
  ⟨[], [0]⟩,
  ⟨[], []⟩,
  ⟨[], [0, 1]⟩,
  ⟨[], [0, 1]⟩,
  ⟨[], [0, 1, 2, 3]⟩,
  ⟨[], [0, 3]⟩,
  ⟨[], [0]⟩,
  ⟨[], [0, 1, 2]⟩,
  ⟨[], [0]⟩,
  ⟨[], [0]⟩,
  ⟨[], [0, 1, 2]⟩,
  ⟨[], [0, 1]⟩,
  ⟨[], []⟩,
  ⟨[], [0]⟩,
  ⟨[], [0, 1, 2, 3]⟩,
  ⟨[], [1]⟩,
  ⟨[], [1]⟩,
  ⟨[], []⟩,
  ⟨[], [0]⟩,
  ⟨[], []⟩,
  ⟨[], [0]⟩,
  ⟨[], [0]⟩,
  ⟨[], []⟩,
  ⟨[], [0, 1, 2]⟩,
  ⟨[], []⟩,
  ⟨[], [0, 1, 2, 3]⟩,
  ⟨[], []⟩,
  ⟨[], [0, 1]⟩,
  ⟨[], []⟩]

def sigma9 : List Summary := [
  ⟨[], [0, 1]⟩,
  ⟨[], [0]⟩,
  ⟨[], []⟩,
  ⟨[], [0]⟩,
  ⟨[], [0]⟩,
  ⟨[], [0]⟩,
  ⟨[], [0]⟩,
  ⟨[], [0, 1]⟩,
  ⟨[], []⟩,
  ⟨[], []⟩,
  ⟨[], [0]⟩,
  ⟨[], [0, 1, 2]⟩,
  ⟨[], [1]⟩,
  ⟨[], []⟩,
  ⟨[], []⟩,
  ⟨[], [0]⟩,
  ⟨[], []⟩,
  ⟨[], [0, 1]⟩,
  ⟨[], [1]⟩,
  ⟨[], []⟩,
  ⟨[], []⟩,
  ⟨[], [0]⟩,
  ⟨[], [0]⟩,
  ⟨[], [0, 1]⟩,
  ⟨[], []⟩,
  ⟨[], []⟩,
  ⟨[], [0, 1]⟩,
  ⟨[], [0]⟩,
  ⟨[], [0, 1]⟩,
  ⟨[], []⟩,
  ⟨[], [0, 1, 2, 3]⟩,
  ⟨[], [1]⟩,
  ⟨[], [0, 1]⟩,
  ⟨[], [1]⟩,
  ⟨[], [0, 1]⟩,
  ⟨[], [0]⟩,
  ⟨[], [0]⟩,
  ⟨[], []⟩,
  ⟨[], []⟩,
  ⟨[], [0]⟩,
  ⟨[], [0]⟩,
  ⟨[], [1]⟩,
  ⟨[], []⟩,
  ⟨[], []⟩,
  ⟨[], [0, 1, 2, 3]⟩,
  ⟨[], []⟩,
  ⟨[], []⟩,
  ⟨[], []⟩,
  ⟨[], [0]⟩,
  ⟨[], [0, 1]⟩,
  ⟨[], [0, 1]⟩,
  ⟨[], [0]⟩,
  ⟨[], [0]⟩,
  ⟨[], [0]⟩,
  ⟨[], [0]⟩,
  ⟨[], [0, 1]⟩,
  ⟨[], []⟩,
  ⟨[], [0, 1]⟩,
  ⟨[], []⟩,
  ⟨[], [0, 1, 2, 3]⟩]

def sigma10 : List Summary := [
  ⟨[], []⟩,
  ⟨[], [0, 1]⟩,
  ⟨[], []⟩,
  ⟨[], []⟩,
  ⟨[], [0]⟩,
  ⟨[], []⟩,
  ⟨[], [0]⟩,
  ⟨[], [0]⟩,
  ⟨[], [0, 1]⟩,
  ⟨[], [0, 1]⟩,
  ⟨[], [0]⟩,
  ⟨[], [0]⟩,
  ⟨[], [0, 3]⟩,
  ⟨[], []⟩,
  ⟨[], [1]⟩,
  ⟨[], []⟩,
  ⟨[], []⟩,
  ⟨[], [0]⟩,
  ⟨[], [0]⟩,
  ⟨[], [0, 1, 2]⟩,
  ⟨[], [0, 1]⟩,
  ⟨[], []⟩,
  ⟨[], [0, 1]⟩,
  ⟨[], [0]⟩,
  ⟨[], [0, 1]⟩,
  ⟨[], [0, 1, 2, 3]⟩,
  ⟨[], [0, 1]⟩,
  ⟨[], [0, 1]⟩,
  ⟨[], []⟩,
  ⟨[], []⟩,
  ⟨[], []⟩,
  ⟨[], []⟩,
  ⟨[], [0, 1]⟩,
  ⟨[], [0]⟩,
  ⟨[], [0]⟩,
  ⟨[], []⟩,
  ⟨[], [0, 1]⟩,
  ⟨[], [0]⟩,
  ⟨[], [0]⟩,
  ⟨[], []⟩,
  ⟨[], [0]⟩,
  ⟨[], [0, 1, 2]⟩,
  ⟨[], [0, 1]⟩,
  ⟨[], [0, 1]⟩,
  ⟨[], [0]⟩,
  ⟨[], [0, 1, 2, 3]⟩,
  ⟨[], []⟩,
  ⟨[], [0]⟩,
  ⟨[], [0]⟩,
  ⟨[], [0]⟩,
  ⟨[], []⟩,
  ⟨[], []⟩,
  ⟨[], [0, 1]⟩,
  ⟨[], []⟩,
  ⟨[], [0]⟩,
  ⟨[], []⟩,
  ⟨[], [0]⟩,
  ⟨[], [0]⟩,
  ⟨[], []⟩,
  ⟨[], []⟩]

def sigma11 : List Summary := [
  ⟨[], []⟩,
  ⟨[], []⟩,
  ⟨[], [0]⟩,
  ⟨[], []⟩,
  ⟨[], [0]⟩,
  ⟨[], [0, 1]⟩,
  ⟨[], [1]⟩,
  ⟨[], [0]⟩,
  ⟨[], []⟩,
  ⟨[], []⟩,
  ⟨[], []⟩,
  ⟨[], []⟩,
  ⟨[], [0]⟩,
  ⟨[], []⟩,
  ⟨[], [0]⟩,
  ⟨[], [0, 1, 2]⟩,
  ⟨[], [0, 1]⟩,
  ⟨[], [0]⟩,
  ⟨[], [1]⟩,
  ⟨[], [0]⟩,
  ⟨[], []⟩,
  ⟨[], [0, 1, 2, 3]⟩,
  ⟨[], []⟩,
  ⟨[], []⟩,
  ⟨[], []⟩,
  ⟨[], [0]⟩,
  ⟨[], []⟩,
  ⟨[], []⟩,
  ⟨[], [0, 1]⟩,
  ⟨[], []⟩,
  ⟨[], []⟩,
  ⟨[], [0]⟩,
  ⟨[], []⟩,
  ⟨[], [0, 1]⟩,
  ⟨[], []⟩,
  ⟨[], []⟩,
  ⟨[], []⟩,
  ⟨[], [0, 1, 2, 3]⟩,
  ⟨[], []⟩,
  ⟨[], []⟩,
  ⟨[], [0, 1, 2, 3]⟩,
  ⟨[], []⟩,
  ⟨[], []⟩,
  ⟨[], [0]⟩,
  ⟨[], [0]⟩,
  ⟨[1], [1]⟩,
  ⟨[2], [2]⟩,
  ⟨[], [3, 4]⟩,
  ⟨[], [0, 1]⟩,
  ⟨[], [0, 1, 3]⟩,
  ⟨[], [0, 1, 3]⟩,
  ⟨[], [0]⟩,
  ⟨[], [0]⟩,
  ⟨[], [0, 1]⟩,
  ⟨[], []⟩,
  ⟨[], [1]⟩,
  ⟨[], []⟩,
  ⟨[], []⟩,
  ⟨[], []⟩,
  ⟨[], []⟩]

def sigma12 : List Summary := [
  ⟨[], []⟩,
  ⟨[], []⟩,
  ⟨[], []⟩,
  ⟨[], [1]⟩,
  ⟨[], []⟩,
  ⟨[0, 2, 4, 7, 8, 9], []⟩,
  ⟨[1, 3, 4, 6, 7, 9, 10, 11], []⟩,
  ⟨[], []⟩,
  ⟨[], [0, 1]⟩,
  ⟨[], [2]⟩,
  ⟨[], [0]⟩,
  ⟨[], [0, 1, 2]⟩,
  ⟨[], [0, 1]⟩,
  ⟨[], []⟩,
  ⟨[], [0, 1]⟩,
  ⟨[], [0, 1]⟩,
  ⟨[], [2]⟩,
  ⟨[], [0]⟩,
  ⟨[], []⟩,
  ⟨[], [2]⟩,
  ⟨[], [0]⟩,
  ⟨[], []⟩,
  ⟨[], []⟩,
  ⟨[], []⟩,
  ⟨[0, 5, 10, 13, 14, 15, 16, 17, 20, 21, 22, 23], []⟩,
  ⟨[], [0]⟩,
  ⟨[], []⟩,
  ⟨[], []⟩,
  ⟨[], []⟩,
  ⟨[], []⟩,
  ⟨[], []⟩,
  ⟨[], []⟩,
  ⟨[], []⟩,
  ⟨[], [0]⟩,
  ⟨[], [0]⟩,
  ⟨[], [0, 1, 2]⟩,
  ⟨[], []⟩,
  ⟨[], []⟩,
  ⟨[], [0]⟩,
  ⟨[], [0]⟩,
  ⟨[], [0, 1]⟩,
  ⟨[], [0]⟩,
  ⟨[], []⟩,
  ⟨[], []⟩,
  ⟨[], []⟩,
  ⟨[], [0, 1]⟩,
  ⟨[], [0]⟩,
  ⟨[], [0]⟩,
  ⟨[], [0]⟩,
  ⟨[], [0, 1]⟩,
  ⟨[], [0, 1]⟩,
  ⟨[], [0, 1, 2]⟩,
  ⟨[], [0]⟩,
  ⟨[], [0]⟩,
  ⟨[], [0, 1, 2]⟩,
  ⟨[], [0, 1, 2]⟩,
  ⟨[], [0]⟩,
  ⟨[], [0]⟩,
  ⟨[], [0]⟩,
  ⟨[], [0]⟩]

def sigma13 : List Summary := [
  ⟨[], [0]⟩,
  ⟨[], [0]⟩,
  ⟨[], [0, 1]⟩,
  ⟨[], [0]⟩,
  ⟨[], [0]⟩,
  ⟨[], [0, 1]⟩,
  ⟨[], [0, 1]⟩,
  ⟨[], [0]⟩,
  ⟨[], [0]⟩,
  ⟨[], [0, 1]⟩,
  ⟨[6], [0, 1, 4]⟩,
  ⟨[], []⟩,
  ⟨[], [0]⟩,
  ⟨[], [0, 1]⟩,
  ⟨[], [0]⟩,
  ⟨[], [0, 1]⟩,
  ⟨[], []⟩,
  ⟨[], [0, 1]⟩,
  ⟨[], [0, 1]⟩,
  ⟨[], []⟩,
  ⟨[], [0]⟩,
  ⟨[], [0]⟩,
  ⟨[], [0]⟩,
  ⟨[], [0, 1]⟩,
  ⟨[], [0, 1]⟩,
  ⟨[], [0, 1]⟩,
  ⟨[], []⟩,
  ⟨[], [0]⟩,
  ⟨[], []⟩,
  ⟨[], [0]⟩,
  ⟨[], [0]⟩,
  ⟨[], [0]⟩,
  ⟨[], [0, 1, 2, 3, 4, 5, 6, 7, 8, 9, 10, 11, 12, 13, 14, 15, 16, 17, 18, 19, 20, 21, 22, 23, 24, 25, 26, 27, 28, 29, 30, 31, 32, 33, 34, 35, 36, 37, 38, 39, 40, 41, 42, 43, 44, 45, 46, 47, 48, 49, 50, 51, 52, 53, 54]⟩,
  ⟨[], [0, 1, 2, 3]⟩,
  ⟨[], [0]⟩,
  ⟨[], [1, 2]⟩,
  ⟨[], [0]⟩,
  ⟨[], [0, 1]⟩,
  ⟨[], [0]⟩,
  ⟨[], [0]⟩,
  ⟨[], []⟩,
  ⟨[], [0]⟩,
  ⟨[], [0, 1, 3]⟩,
  ⟨[], [0]⟩,
  ⟨[], [0, 1]⟩,
  ⟨[], [0, 1]⟩,
  ⟨[], [0, 1, 2]⟩,
  ⟨[], [0]⟩,
  ⟨[], [0, 1]⟩,
  ⟨[], [0]⟩,
  ⟨[], [0]⟩,
  ⟨[], [0]⟩,
  ⟨[], [0]⟩,
  ⟨[], [0, 1]⟩,
  ⟨[], [0, 1]⟩,
  ⟨[], [0]⟩,
  ⟨[], []⟩,
  ⟨[], []⟩,
  ⟨[], []⟩,
  ⟨[], [0]⟩]

def sigma14 : List Summary := [
  ⟨[], [0, 1]⟩,
  ⟨[], [0, 1]⟩,
  ⟨[], [0]⟩,
  ⟨[], []⟩,
  ⟨[], []⟩,
  ⟨[], [0]⟩,
  ⟨[], [0]⟩,
  ⟨[], [0]⟩,
  ⟨[], [0]⟩,
  ⟨[], [0]⟩,
  ⟨[], [0]⟩,
  ⟨[], [0]⟩,
  ⟨[], [0, 1, 2]⟩,
  ⟨[], [0, 1]⟩,
  ⟨[], [0, 1]⟩,
  ⟨[], [0, 1]⟩,
  ⟨[], [0]⟩,
  ⟨[], [0, 1, 2, 3]⟩,
  ⟨[], [0, 1]⟩,
  ⟨[], [0]⟩,
  ⟨[], [0]⟩,
  ⟨[], []⟩,
  ⟨[], [0, 1]⟩,
  ⟨[], [0]⟩,
  ⟨[], []⟩,
  ⟨[], []⟩,
  ⟨[], [0]⟩,
  ⟨[], [0]⟩,
  ⟨[], [0]⟩,
  ⟨[], [1]⟩,
  ⟨[], [1]⟩,
  ⟨[], []⟩,
  ⟨[], [1]⟩,
  ⟨[], [1]⟩,
  ⟨[], [0, 5]⟩,
  ⟨[], [0]⟩,
  ⟨[], []⟩,
  ⟨[], []⟩,
  ⟨[], [1, 2]⟩,
  ⟨[], [0]⟩,
  ⟨[], [0]⟩,
  ⟨[], [0]⟩,
  ⟨[], [0]⟩,
  ⟨[], [1]⟩,
  ⟨[], [0, 1, 2]⟩,
  ⟨[], [0, 1, 2]⟩,
  ⟨[], [0, 1]⟩,
  ⟨[], [0]⟩,
  ⟨[], [0]⟩,
  ⟨[], [0]⟩,
  ⟨[], [0, 1, 2]⟩,
  ⟨[], [0]⟩,
  ⟨[], []⟩,
  ⟨[], []⟩,
  ⟨[], []⟩,
  ⟨[], []⟩,
  ⟨[], [0]⟩,
  ⟨[], []⟩,
  ⟨[], []⟩,
  ⟨[], [0]⟩]

def sigma15 : List Summary := [
  ⟨[], []⟩,
  ⟨[], []⟩,
  ⟨[], []⟩,
  ⟨[], [0]⟩,
  ⟨[], [0, 1]⟩,
  ⟨[], [1, 2]⟩,
  ⟨[], [0, 1, 2]⟩,
  ⟨[], [0, 1, 2]⟩]

theorem sigma_split : sigma = sigma0 ++ (sigma1 ++ (sigma2 ++ (sigma3 ++ (sigma4 ++ (sigma5 ++ (sigma6 ++ (sigma7 ++ (sigma8 ++ (sigma9 ++ (sigma10 ++ (sigma11 ++ (sigma12 ++ (sigma13 ++ (sigma14 ++ (sigma15))))))))))))))) := by decide +kernel

/-- `sigma` cut into chunks of 60: `lk f` is `sigma[f]?` found by (chunk, offset) -/
def sigmas : List (List Summary) := [sigma0, sigma1, sigma2, sigma3, sigma4, sigma5, sigma6, sigma7, sigma8, sigma9, sigma10, sigma11, sigma12, sigma13, sigma14, sigma15]

def lk : Nat → Option Summary := lookup2 sigmas 60

theorem lk_eq (f : Nat) : lk f = sigma[f]? :=
  lookup2_eq (sigma_split.trans (by simp only [sigmas, List.flatten_cons, List.flatten_nil, List.append_nil]))
    (by decide) (by decide +kernel) f

end LinOp.Generated.C13
