import LinOp.C13.Model
import LinOp.Generated.C13PSigma
-- GENERATED by harness/extract/c13_alias.py from /repo/linear_operator (do not edit)
namespace LinOp.Generated.C13P
open LinOp.C13

/-- <group>:method:_set_state (line 0); formals ['self', 'state', '*extra'] -/
def f900_group__method__set_state : Fn := ⟨3,
 (.seq (.ifStar (.seq (.call 3 687 [0, 1])
     (.ret 3)) .skip)
 (.ifStar (.seq (.call 4 696 [0, 1])
     (.ret 4)) .skip))⟩

/-- <group>:method:__enter__ (line 0); formals ['self', '*extra'] -/
def f901_group__method___enter__ : Fn := ⟨2,
 (.seq (.seq (.ifStar (.seq (.call 2 682 [0])
       (.ret 2)) .skip)
   (.ifStar (.seq (.call 3 689 [0])
       (.ret 3)) .skip))
 (.seq (.ifStar (.seq (.call 4 694 [0])
       (.ret 4)) .skip)
   (.seq (.ifStar (.seq (.call 5 698 [0])
         (.ret 5)) .skip)
     (.ifStar (.seq (.call 6 701 [0])
         (.ret 6)) .skip))))⟩

/-- <group>:method:__exit__ (line 0); formals ['self', '*extra'] -/
def f902_group__method___exit__ : Fn := ⟨2,
 (.seq (.seq (.ifStar (.seq (.assign 2 (.join [1]))
       (.seq (.call 3 683 [0, 2])
         (.ret 3))) .skip)
   (.ifStar (.seq (.assign 4 (.join [1]))
       (.seq (.call 5 690 [0, 4])
         (.ret 5))) .skip))
 (.seq (.ifStar (.seq (.assign 6 (.join [1]))
       (.seq (.call 7 695 [0, 6])
         (.ret 7))) .skip)
   (.seq (.ifStar (.seq (.assign 8 (.join [1]))
         (.seq (.call 9 699 [0, 8])
           (.ret 9))) .skip)
     (.ifStar (.seq (.assign 10 (.join [1]))
         (.seq (.call 11 702 [0, 10])
           (.ret 11))) .skip))))⟩

/-- utils/contour_integral_quad.py:contour_integral_quad.<locals>.sqrt_precond_matmul (line 44); formals ['rhs', 'preconditioner_lt'] -/
def f903_utils_contour_integral_quad__contour_integral_quad__locals__sqrt_precond_matmul : Fn := ⟨2,
 (.ifStar (.seq (.seq (.seq (.call 3 707 [1, 0, 2, 2, 2, 2, 2, 2])
       (.assign 4 (.view 3)))
     (.seq (.assign 5 (.same 4))
       (.assign 6 (.view 3))))
   (.seq (.seq (.assign 7 (.same 6))
       (.ifStar (.assign 9 .fresh) (.ifStar (.call 9 804 [7, 5, 2]) (.call 9 803 [5, 7, 2]))))
     (.seq (.call 10 835 [9, 2, 2])
       (.seq (.assign 8 .fresh)
         (.ret 8))))) (.ret 0))⟩

/-- utils/deprecation.py:_deprecated_function_for.<locals>._deprecated_function (line 22); formals ['args', 'kwargs', 'old_function_name', 'function'] -/
def f904_utils_deprecation___deprecated_function_for__locals___deprecated_function : Fn := ⟨4,
 (.seq (.assign 4 (.join [0, 1]))
 (.seq (.assign 5 (.opq [4]))
   (.ret 5)))⟩

/-- utils/deprecation.py:_deprecated_renamed_method.<locals>._deprecated_method (line 57); formals ['self', 'args', 'kwargs', 'old_method_name', 'new_method_name'] -/
def f905_utils_deprecation___deprecated_renamed_method__locals___deprecated_method : Fn := ⟨5,
 (.seq (.assign 5 (.join [1, 2]))
 (.seq (.assign 6 (.opq [5]))
   (.ret 6)))⟩

/-- utils/memoize.py:_cached.<locals>.g (line 55); formals ['self', 'args', 'kwargs', 'name', 'method'] -/
def f906_utils_memoize___cached__locals__g : Fn := ⟨5,
 (.seq (.seq (.seq (.ifStar (.assign 5 (.same 3)) (.assign 5 (.same 4)))
     (.seq (.assign 6 (.same 5))
       (.assign 7 .fresh)))
   (.seq (.assign 8 (.same 7))
     (.seq (.assign 9 (.join [1]))
       (.assign 11 (.join [9])))))
 (.seq (.seq (.call 10 738 [0, 6, 8, 11])
     (.seq (.ifStar (.seq (.seq (.assign 12 (.join [1, 2]))
             (.seq (.assign 13 (.opq [0, 12]))
               (.assign 14 (.join [1]))))
           (.seq (.assign 16 (.join [14]))
             (.seq (.call 15 736 [0, 6, 13, 8, 16])
               (.ret 15)))) .skip)
       (.assign 17 (.join [1]))))
   (.seq (.assign 19 (.join [17]))
     (.seq (.call 18 737 [0, 6, 8, 19])
       (.ret 18)))))⟩

/-- utils/memoize.py:_cached_ignore_args.<locals>.g (line 73); formals ['self', 'args', 'kwargs', 'name', 'method'] -/
def f907_utils_memoize___cached_ignore_args__locals__g : Fn := ⟨5,
 (.seq (.seq (.ifStar (.assign 5 (.same 3)) (.assign 5 (.same 4)))
   (.seq (.assign 6 (.same 5))
     (.call 7 741 [0, 6])))
 (.seq (.ifStar (.seq (.seq (.assign 8 (.join [1, 2]))
         (.assign 9 (.opq [0, 8])))
       (.seq (.call 10 739 [0, 6, 9])
         (.ret 10))) .skip)
   (.seq (.call 11 740 [0, 6])
     (.ret 11))))⟩

def chunk15 : List Fn := [
  f900_group__method__set_state,
  f901_group__method___enter__,
  f902_group__method___exit__,
  f903_utils_contour_integral_quad__contour_integral_quad__locals__sqrt_precond_matmul,
  f904_utils_deprecation___deprecated_function_for__locals___deprecated_function,
  f905_utils_deprecation___deprecated_renamed_method__locals___deprecated_method,
  f906_utils_memoize___cached__locals__g,
  f907_utils_memoize___cached_ignore_args__locals__g]

end LinOp.Generated.C13P
