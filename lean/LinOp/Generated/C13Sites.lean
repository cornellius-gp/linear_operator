import LinOp.C13.ProofsSites
import LinOp.Generated.C13Table
-- GENERATED by harness/extract/c13_sites.py from /repo/linear_operator (do not edit)
namespace LinOp.Generated.C13
open LinOp.C13

/-- (function id, number of syntactic in-place sites of the python source [independent ast census] that the
translator turned into IR writes, number of write / mutating-call operations of the emitted IR of that function) -/
def siteRows : List (Nat × Nat × Nat) := [
  (4, 1, countW sigma f4_functions___init____add_jitter.body),
  (15, 1, countW sigma f15_functions__diagonalization__Diagonalization_backward.body),
  (20, 1, countW sigma f20_functions__inv_quad__InvQuad_backward.body),
  (22, 6, countW sigma f22_functions__inv_quad_logdet__InvQuadLogdet_backward.body),
  (25, 8, countW sigma f25_functions__pivoted_cholesky__PivotedCholesky_forward.body),
  (28, 2, countW sigma f28_functions__root_decomposition__RootDecomposition_backward.body),
  (32, 1, countW sigma f32_functions__sqrt_inv_matmul__SqrtInvMatmul_forward.body),
  (33, 3, countW sigma f33_functions__sqrt_inv_matmul__SqrtInvMatmul_backward.body),
  (48, 4, countW sigma f48_operators__linear_operator__LinearOperator__get_indices.body),
  (79, 3, countW sigma f79_operators__linear_operator__LinearOperator_cat_rows.body),
  (170, 1, countW sigma f170_operators_added_diag_linear_operator__AddedDiagLinearOperator__init_cache_for_non_constant_diag.body),
  (192, 1, countW sigma f192_operators_batch_repeat_linear_operator__BatchRepeatLinearOperator_inv_quad_logdet.body),
  (242, 2, countW sigma f242_operators_cat_linear_operator__CatLinearOperator___init__.body),
  (246, 1, countW sigma f246_operators_cat_linear_operator__CatLinearOperator__get_indices.body),
  (247, 1, countW sigma f247_operators_cat_linear_operator__CatLinearOperator__getitem.body),
  (248, 2, countW sigma f248_operators_cat_linear_operator__CatLinearOperator__matmul.body),
  (405, 6, countW sigma f405_operators_interpolated_linear_operator__InterpolatedLinearOperator__bilinear_derivative.body),
  (505, 1, countW sigma f505_operators_masked_linear_operator__MaskedLinearOperator__expand.body),
  (537, 1, countW sigma f537_operators_mul_linear_operator__MulLinearOperator__matmul.body),
  (618, 1, countW sigma f618_operators_toeplitz_linear_operator__ToeplitzLinearOperator_add_jitter.body),
  (705, 3, countW sigma f705_utils_cholesky___psd_safe_cholesky.body),
  (706, 2, countW sigma f706_utils_cholesky__psd_safe_cholesky.body),
  (707, 4, countW sigma f707_utils_contour_integral_quad__contour_integral_quad.body),
  (721, 18, countW sigma f721_utils_lanczos__lanczos_tridiag.body),
  (722, 1, countW sigma f722_utils_lanczos__lanczos_tridiag_to_diag.body),
  (725, 11, countW sigma f725_utils_linear_cg___jit_linear_cg_updates.body),
  (726, 8, countW sigma f726_utils_linear_cg___jit_linear_cg_updates_no_precond.body),
  (727, 23, countW sigma f727_utils_linear_cg__linear_cg.body),
  (743, 21, countW sigma f743_utils_minres__minres.body),
  (744, 22, countW sigma f744_utils_minres___jit_minres_updates.body),
  (746, 1, countW sigma f746_utils_permutation__inverse_permutation.body),
  (748, 1, countW sigma f748_utils_qr__stable_qr.body),
  (749, 1, countW sigma f749_utils_sparse__make_sparse_from_indices_and_values.body),
  (750, 2, countW sigma f750_utils_sparse__bdsmm.body),
  (752, 4, countW sigma f752_utils_sparse__sparse_getitem.body),
  (753, 1, countW sigma f753_utils_sparse__sparse_repeat.body),
  (754, 2, countW sigma f754_utils_sparse__to_sparse.body),
  (758, 2, countW sigma f758_utils_toeplitz__toeplitz.body),
  (762, 4, countW sigma f762_utils_toeplitz__toeplitz_matmul.body),
  (764, 4, countW sigma f764_utils_toeplitz__sym_toeplitz_derivative_quadratic_form.body),
  (800, 1, countW sigma f800_operators__linear_operator___implements__locals__decorator.body),
  (801, 1, countW sigma f801_operators__linear_operator___implements_second_arg__locals__decorator.body),
  (802, 2, countW sigma f802_operators__linear_operator___implements_symmetric__locals__decorator.body)]

def siteTotal : Nat := 186

theorem site_rows_ok : siteRowsOK siteRows = true := by
  -- the kernel counts with the (chunk, offset) lookup `lk` instead of walking `sigma` at every call statement
  simp only [siteRows, ← countWWith_eq lk_eq]
  decide +kernel

theorem site_total_ok : (siteRows.map (fun r => r.2.1)).sum = siteTotal := by decide +kernel

end LinOp.Generated.C13
