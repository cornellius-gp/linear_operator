import LinOp.C13.Model
import LinOp.Generated.C13PSigma
-- GENERATED by harness/extract/c13_alias.py from /repo/linear_operator (do not edit)
namespace LinOp.Generated.C13P
open LinOp.C13

/-- operators/cat_linear_operator.py:cat (line 20); formals ['inputs', 'dim', 'output_device'] -/
def f240_operators_cat_linear_operator__cat : Fn := ⟨3,
 (.seq (.seq (.seq (.seq (.assign 4 .fresh)
       (.whileStar ⟨[[0], [1], [2]], [], []⟩ (.seq (.assign 5 .fresh)
           (.assign 4 (.join [4, 5])))))
     (.seq (.ifStar (.seq (.assign 6 .fresh)
           (.ret 6)) .skip)
       (.assign 7 .fresh)))
   (.seq (.seq (.assign 9 (.view 0))
       (.assign 8 (.same 9)))
     (.seq (.whileStar ⟨[[0], [1], [2], [], [], [], [], [0], [0], [0], [0], [0]], [], []⟩ (.seq (.seq (.assign 10 (.view 0))
             (.assign 8 (.same 10)))
           (.seq (.call 11 311 [8])
             (.assign 7 (.join [7, 11])))))
       (.seq (.assign 0 (.same 7))
         (.assign 12 .fresh)))))
 (.seq (.seq (.seq (.whileStar ⟨[[0], [1], [2], [], [], [], [], [0], [0], [0], [0], [0]], [], []⟩ (.seq (.assign 13 .fresh)
           (.assign 12 (.join [12, 13]))))
       (.ifStar (.seq (.seq (.assign 14 .fresh)
             (.seq (.assign 16 (.view 0))
               (.assign 15 (.same 16))))
           (.seq (.seq (.whileStar ⟨[[0], [1], [2], [], [], [], [], [0], [0], [0], [0], [0], [], [], [0], [0], [0], [0], [0]], [], []⟩ (.seq (.seq (.assign 17 (.view 0))
                 (.assign 15 (.same 17)))
                 (.seq (.call 18 162 [15])
                 (.assign 14 (.join [14, 18])))))
               (.assign 19 .fresh))
             (.seq (.call 20 311 [19])
               (.ret 20)))) .skip))
     (.seq (.assign 21 .fresh)
       (.seq (.whileStar ⟨[[0], [1], [2], [], [], [], [], [0], [0], [0], [0], [0], [], [], [0], [0], [0], [0], [0], [], [], [], [0]], [], []⟩ (.seq (.ifStar (.call 22 789 [0, 3, 3]) .skip)
             (.assign 21 (.join [3, 21]))))
         (.ifStar (.seq (.ifStar (.call 23 789 [0, 3, 3]) .skip)
             (.assign 2 (.same 3))) .skip))))
   (.seq (.seq (.assign 24 (.join [0]))
       (.assign 26 .fresh))
     (.seq (.assign 27 (.join [24]))
       (.seq (.call 25 242 [26, 1, 2, 27])
         (.ret 25))))))⟩

/-- operators/cat_linear_operator.py:CatLinearOperator._check_args (line 55); formals ['self', 'dim', 'output_device', 'linear_ops'] -/
def f241_operators_cat_linear_operator__CatLinearOperator__check_args : Fn := ⟨4,
 (.seq (.seq (.assign 5 .fresh)
   (.whileStar ⟨[[0], [1], [2], [3]], [], []⟩ (.seq (.assign 6 .fresh)
       (.assign 5 (.join [5, 6])))))
 (.seq (.assign 7 (.view 3))
   (.seq (.assign 8 (.same 7))
     (.whileStar ⟨[[0], [1], [2], [3], [], [], [], [3], [3], [3], [3]], [], []⟩ (.seq (.seq (.assign 9 (.view 3))
           (.assign 10 (.same 9)))
         (.seq (.call 11 808 [10, 4])
           (.call 12 808 [8, 4])))))))⟩

/-- operators/cat_linear_operator.py:CatLinearOperator.__init__ (line 76); formals ['self', 'dim', 'output_device', 'linear_ops'] -/
def f242_operators_cat_linear_operator__CatLinearOperator___init__ : Fn := ⟨4,
 (.seq (.seq (.seq (.seq (.assign 5 (.view 3))
       (.seq (.assign 6 (.same 5))
         (.call 7 796 [6, 4])))
     (.seq (.seq (.ifStar (.seq (.assign 8 .fresh)
             (.assign 1 (.same 8))) .skip)
         (.assign 9 (.join [3])))
       (.seq (.assign 11 (.join [9]))
         (.call 10 812 [0, 9, 9, 9, 9, 9, 9, 1, 2, 9, 9, 9, 9, 9, 9, 9, 9, 9, 9, 9, 9, 9, 9, 9, 9, 9, 9, 9, 9, 9, 9, 9, 9, 9, 9, 9, 9, 9, 9, 9, 9, 9, 9, 9, 9, 9, 9, 9, 9, 9, 9, 9, 9, 9, 11]))))
   (.seq (.seq (.assign 0 (.join [0, 3]))
       (.seq (.assign 0 (.join [0, 1]))
         (.assign 0 (.join [0, 2]))))
     (.seq (.seq (.assign 12 .fresh)
         (.assign 14 (.view 3)))
       (.seq (.assign 13 (.same 14))
         (.whileStar ⟨[[0, 1, 2, 3], [1], [2], [3], [], [3], [3], [], [], [3], [0, 1, 2, 3], [3], [], [3], [3], [3], [], [3]], [], []⟩ (.seq (.seq (.assign 15 (.view 3))
               (.assign 13 (.same 15)))
             (.seq (.call 17 767 [13, 1, 4])
               (.seq (.assign 16 .fresh)
                 (.assign 12 (.join [12, 16]))))))))))
 (.seq (.seq (.seq (.assign 18 .fresh)
       (.seq (.assign 19 (.same 18))
         (.assign 20 .fresh)))
     (.seq (.seq (.assign 21 (.same 20))
         (.assign 22 (.view 21)))
       (.seq (.write 22)
         (.assign 23 .fresh))))
   (.seq (.seq (.seq (.assign 24 (.same 23))
         (.whileStar ⟨[[0, 1, 2, 3], [1], [2], [3], [], [3], [3], [], [], [3], [0, 1, 2, 3], [3], [], [3], [3], [3], [], [3]], [], []⟩ (.seq (.assign 25 (.view 24))
             (.write 25))))
       (.seq (.assign 0 (.join [0, 19]))
         (.assign 0 (.join [0, 21]))))
     (.seq (.seq (.assign 0 (.join [0, 24]))
         (.assign 26 .fresh))
       (.seq (.assign 0 (.join [0, 26]))
         (.ret 0))))))⟩

/-- operators/cat_linear_operator.py:CatLinearOperator._split_slice (line 107); formals ['self', 'slice_idx'] -/
def f243_operators_cat_linear_operator__CatLinearOperator__split_slice : Fn := ⟨2,
 (.seq (.seq (.seq (.seq (.call 3 767 [0, 2, 2])
       (.assign 4 (.view 1)))
     (.seq (.assign 5 (.view 4))
       (.assign 6 (.same 5))))
   (.seq (.seq (.assign 8 (.view 0))
       (.ifStar (.call 9 789 [8, 6, 2]) .skip))
     (.seq (.assign 7 .fresh)
       (.seq (.assign 10 (.same 7))
         (.assign 12 (.view 0))))))
 (.seq (.seq (.seq (.assign 13 .fresh)
       (.ifStar (.call 14 789 [12, 13, 2]) .skip))
     (.seq (.assign 11 .fresh)
       (.assign 15 (.same 11))))
   (.seq (.seq (.assign 16 (.view 0))
       (.ifStar (.call 17 789 [16, 10, 2]) .skip))
     (.seq (.assign 18 (.view 0))
       (.seq (.ifStar (.call 19 789 [18, 15, 2]) .skip)
         (.ifStar (.seq (.seq (.assign 20 (.join [10]))
               (.assign 21 .fresh))
             (.seq (.assign 22 (.join [21]))
               (.seq (.assign 23 (.join [20, 22]))
                 (.ret 23)))) (.seq (.seq (.seq (.assign 24 (.same 2))
                 (.seq (.assign 25 .fresh)
                 (.assign 26 (.same 25))))
               (.seq (.seq (.assign 27 .fresh)
                 (.assign 28 (.same 27)))
                 (.seq (.assign 29 .fresh)
                 (.assign 30 (.join [29])))))
             (.seq (.seq (.seq (.assign 31 (.join [26]))
                 (.assign 32 (.join [2])))
                 (.seq (.assign 33 (.join [24, 32]))
                 (.assign 34 (.join [31, 33]))))
               (.seq (.seq (.assign 35 (.join [28]))
                 (.assign 36 (.join [34, 35])))
                 (.seq (.assign 37 (.join [30, 36]))
                 (.ret 37)))))))))))⟩

/-- operators/cat_linear_operator.py:CatLinearOperator._diagonal (line 136); formals ['self'] -/
def f244_operators_cat_linear_operator__CatLinearOperator__diagonal : Fn := ⟨1,
 (.seq (.ifStar (.seq (.seq (.assign 2 (.join []))
       (.seq (.assign 3 (.same 2))
         (.assign 4 (.view 0))))
     (.seq (.whileStar ⟨[[0], [], [], [0], [0], [0], [0], [], [], [], [], [0], [], [0]], [], []⟩ (.seq (.seq (.seq (.assign 5 (.view 4))
               (.assign 6 (.same 5)))
             (.seq (.assign 7 .fresh)
               (.seq (.assign 8 (.same 7))
                 (.assign 9 .fresh))))
           (.seq (.seq (.assign 10 (.same 9))
               (.seq (.assign 12 (.join [1, 8, 10]))
                 (.ifStar (.call 13 789 [6, 12, 1]) (.assign 13 (.maybeView 6)))))
             (.seq (.assign 14 (.join [1]))
               (.seq (.ifStar (.assign 11 (.maybeView 13)) (.call 11 824 [13, 14]))
                 (.assign 3 (.join [3, 11])))))))
       (.seq (.assign 15 .fresh)
         (.assign 3 (.same 15))))) (.ifStar (.seq (.seq (.assign 16 (.join []))
         (.seq (.assign 3 (.same 16))
           (.assign 17 (.view 0))))
       (.seq (.whileStar ⟨[[0], [], [], [0], [], [], [0], [], [], [], [], [], [], [], [], [], [], [0], [0], [], [], [0], [], [0]], [], []⟩ (.seq (.seq (.seq (.assign 18 (.view 17))
                 (.assign 6 (.same 18)))
               (.seq (.assign 19 .fresh)
                 (.seq (.assign 8 (.same 19))
                 (.assign 20 .fresh))))
             (.seq (.seq (.assign 10 (.same 20))
                 (.seq (.assign 22 (.join [1, 8, 10]))
                 (.ifStar (.call 23 789 [6, 22, 1]) (.assign 23 (.maybeView 6)))))
               (.seq (.assign 24 (.join [1]))
                 (.seq (.ifStar (.assign 21 (.maybeView 23)) (.call 21 824 [23, 24]))
                 (.assign 3 (.join [3, 21])))))))
         (.seq (.assign 25 .fresh)
           (.assign 3 (.same 25))))) (.seq (.seq (.assign 26 .fresh)
         (.seq (.assign 28 (.view 0))
           (.assign 29 (.view 28))))
       (.seq (.seq (.assign 27 (.same 29))
           (.whileStar ⟨[[0], [], [], [], [], [], [], [], [], [], [], [], [], [], [], [], [], [], [], [], [], [], [], [], [], [], [0], [0], [0], [0], [0], [0], [0], [0]], [], []⟩ (.seq (.seq (.assign 30 (.view 0))
                 (.seq (.assign 31 (.view 30))
                 (.assign 27 (.same 31))))
               (.seq (.seq (.ifStar (.assign 33 .fresh) (.call 33 818 [27, 1]))
                 (.assign 34 (.join [1])))
                 (.seq (.ifStar (.assign 32 (.maybeView 33)) (.call 32 824 [33, 34]))
                 (.assign 26 (.join [26, 32])))))))
         (.seq (.assign 35 .fresh)
           (.assign 3 (.same 35)))))))
 (.ret 3))⟩

/-- operators/cat_linear_operator.py:CatLinearOperator._expand_batch (line 161); formals ['self', 'batch_shape'] -/
def f245_operators_cat_linear_operator__CatLinearOperator__expand_batch : Fn := ⟨2,
 (.seq (.seq (.seq (.ifStar (.seq (.seq (.assign 3 (.join []))
           (.assign 4 (.same 3)))
         (.seq (.assign 5 (.view 0))
           (.whileStar ⟨[[0], [1], [], [], [0, 1], [0], [0], [0], [1], [1], [1], [0, 1]], [], []⟩ (.seq (.seq (.seq (.assign 6 (.view 5))
                 (.assign 7 (.same 6)))
                 (.seq (.assign 9 (.join [1]))
                 (.assign 8 (.join [9]))))
               (.seq (.seq (.assign 10 (.same 8))
                 (.assign 10 (.join [2, 10])))
                 (.seq (.ifStar (.assign 11 .fresh) (.call 11 817 [7, 10, 2]))
                 (.assign 4 (.join [4, 11])))))))) (.seq (.seq (.assign 12 .fresh)
           (.seq (.assign 14 (.view 0))
             (.assign 15 (.view 14))))
         (.seq (.assign 13 (.same 15))
           (.seq (.whileStar ⟨[[0], [1], [], [], [], [], [], [], [], [], [], [], [0, 1], [0], [0], [0], [0], [0], [0, 1]], [], []⟩ (.seq (.seq (.assign 16 (.view 0))
                 (.assign 17 (.view 16)))
                 (.seq (.assign 13 (.same 17))
                 (.seq (.ifStar (.assign 18 .fresh) (.call 18 817 [13, 1, 2]))
                 (.assign 12 (.join [12, 18]))))))
             (.assign 4 (.same 12))))))
     (.assign 19 (.view 0)))
   (.seq (.assign 20 (.join [4]))
     (.assign 22 .fresh)))
 (.seq (.seq (.assign 24 (.join [20]))
     (.call 23 812 [22, 20, 20, 20, 20, 20, 20, 2, 19, 20, 20, 20, 20, 20, 20, 20, 20, 20, 20, 20, 20, 20, 20, 20, 20, 20, 20, 20, 20, 20, 20, 20, 20, 20, 20, 20, 20, 20, 20, 20, 20, 20, 20, 20, 20, 20, 20, 20, 20, 20, 20, 20, 20, 20, 24]))
   (.seq (.assign 21 (.join [2, 19, 20, 23]))
     (.seq (.assign 25 (.same 21))
       (.ret 25)))))⟩

/-- operators/cat_linear_operator.py:CatLinearOperator._get_indices (line 181); formals ['self', 'row_index', 'col_index', 'batch_indices'] -/
def f246_operators_cat_linear_operator__CatLinearOperator__get_indices : Fn := ⟨4,
 (.seq (.seq (.seq (.seq (.seq (.assign 5 (.join [1, 2, 3]))
         (.seq (.assign 6 (.same 5))
           (.assign 7 .fresh)))
       (.seq (.whileStar ⟨[[0], [1], [2], [3], [], [1, 2, 3], [1, 2, 3]], [], []⟩ (.assign 7 (.join [4, 7])))
         (.seq (.assign 8 .fresh)
           (.assign 9 (.same 8)))))
     (.seq (.seq (.assign 10 .fresh)
         (.seq (.assign 12 (.view 6))
           (.assign 11 (.same 12))))
       (.seq (.whileStar ⟨[[0], [1], [2], [3], [], [1, 2, 3], [1, 2, 3], [], [], [], [1, 2, 3], [1, 2, 3], [1, 2, 3], [1, 2, 3], [1, 2, 3], [1, 2, 3]], [], []⟩ (.seq (.seq (.assign 13 (.view 6))
               (.seq (.assign 11 (.same 13))
                 (.assign 16 (.join [9]))))
             (.seq (.seq (.ifStar (.assign 15 (.view 11)) (.call 15 776 [11, 16]))
                 (.assign 17 (.join [4])))
               (.seq (.ifStar (.assign 14 (.maybeView 15)) (.call 14 856 [15, 17]))
                 (.assign 10 (.join [10, 14]))))))
         (.seq (.assign 6 (.same 10))
           (.assign 18 (.view 6))))))
   (.seq (.seq (.seq (.assign 19 (.same 18))
         (.seq (.assign 20 (.view 0))
           (.ifStar (.call 21 789 [20, 19, 4]) (.assign 21 (.maybeView 20)))))
       (.seq (.assign 22 (.same 21))
         (.seq (.call 23 837 [22, 4])
           (.assign 24 .fresh))))
     (.seq (.seq (.assign 25 (.same 24))
         (.seq (.ifStar (.call 26 789 [22, 4, 4]) .skip)
           (.ifStar (.call 27 789 [22, 4, 4]) .skip)))
       (.seq (.seq (.assign 28 (.view 25))
           (.write 28))
         (.seq (.assign 30 (.view 25))
           (.ifStar (.call 31 789 [22, 30, 4]) .skip))))))
 (.seq (.seq (.seq (.seq (.assign 29 .fresh)
         (.seq (.assign 32 (.same 29))
           (.assign 33 .fresh)))
       (.seq (.whileStar ⟨[[0], [1], [2], [3], [], [1, 2, 3], [1, 2, 3], [], [], [], [1, 2, 3], [1, 2, 3], [1, 2, 3], [1, 2, 3], [1, 2, 3], [1, 2, 3], [], [], [1, 2, 3], [1, 2, 3], [0], [0, 1, 2, 3], [0, 1, 2, 3], [], [], [], [0, 1, 2, 3], [0, 1, 2, 3], [], [], [], [0, 1, 2, 3], [], [0], [0], [0]], [], []⟩ (.seq (.assign 34 (.view 0))
             (.seq (.assign 35 (.view 34))
               (.assign 33 (.join [33, 35])))))
         (.seq (.assign 36 (.same 33))
           (.assign 37 .fresh))))
     (.seq (.seq (.assign 39 (.view 6))
         (.seq (.assign 38 (.same 39))
           (.whileStar ⟨[[0], [1], [2], [3], [], [1, 2, 3], [1, 2, 3], [], [], [], [1, 2, 3], [1, 2, 3], [1, 2, 3], [1, 2, 3], [1, 2, 3], [1, 2, 3], [], [], [1, 2, 3], [1, 2, 3], [0], [0, 1, 2, 3], [0, 1, 2, 3], [], [], [], [0, 1, 2, 3], [0, 1, 2, 3], [], [], [], [0, 1, 2, 3], [], [0], [0], [0], [0], [1, 2, 3], [1, 2, 3], [1, 2, 3], [1, 2, 3], [1, 2, 3], [1, 2, 3], [1, 2, 3], [], [1, 2, 3], [1, 2, 3]], [], []⟩ (.seq (.seq (.assign 40 (.view 6))
                 (.assign 38 (.same 40)))
               (.seq (.ifStar (.seq (.assign 41 (.view 38))
                 (.seq (.assign 42 (.join [41]))
                 (.assign 46 (.same 42)))) (.seq (.seq (.assign 43 (.join [38]))
                 (.assign 44 .fresh))
                 (.seq (.assign 45 (.join [43, 44]))
                 (.assign 46 (.same 45)))))
                 (.assign 37 (.join [37, 46])))))))
       (.seq (.seq (.assign 47 (.join [37]))
           (.assign 48 (.join [47])))
         (.seq (.assign 49 (.same 48))
           (.assign 50 .fresh)))))
   (.seq (.seq (.seq (.assign 52 (.view 49))
         (.seq (.assign 51 (.same 52))
           (.whileStar ⟨[[0], [1], [2], [3], [], [1, 2, 3], [1, 2, 3], [], [], [], [1, 2, 3], [1, 2, 3], [1, 2, 3], [1, 2, 3], [1, 2, 3], [1, 2, 3], [], [], [1, 2, 3], [1, 2, 3], [0], [0, 1, 2, 3], [0, 1, 2, 3], [], [], [], [0, 1, 2, 3], [0, 1, 2, 3], [], [], [], [0, 1, 2, 3], [], [0], [0], [0], [0], [1, 2, 3], [1, 2, 3], [1, 2, 3], [1, 2, 3], [1, 2, 3], [1, 2, 3], [1, 2, 3], [], [1, 2, 3], [1, 2, 3], [1, 2, 3], [1, 2, 3], [1, 2, 3], [1, 2, 3], [1, 2, 3], [1, 2, 3], [1, 2, 3], [1, 2, 3]], [], []⟩ (.seq (.seq (.assign 53 (.view 49))
                 (.assign 51 (.same 53)))
               (.seq (.assign 54 (.join [51]))
                 (.assign 50 (.join [50, 54])))))))
       (.seq (.assign 49 (.same 50))
         (.seq (.whileStar ⟨[[0], [1], [2], [3], [], [1, 2, 3], [1, 2, 3], [], [], [], [1, 2, 3], [1, 2, 3], [1, 2, 3], [1, 2, 3], [1, 2, 3], [1, 2, 3], [], [], [1, 2, 3], [1, 2, 3], [0], [0, 1, 2, 3], [0, 1, 2, 3], [], [], [], [0, 1, 2, 3], [0, 1, 2, 3], [], [], [], [0, 1, 2, 3], [], [0], [0], [0], [0], [1, 2, 3], [1, 2, 3], [1, 2, 3], [1, 2, 3], [1, 2, 3], [1, 2, 3], [1, 2, 3], [], [1, 2, 3], [1, 2, 3], [1, 2, 3], [1, 2, 3], [1, 2, 3], [1, 2, 3], [1, 2, 3], [1, 2, 3], [1, 2, 3], [1, 2, 3], [], [], [1, 2, 3], [0, 1, 2, 3], [1, 2, 3], [0], [0], [0, 1, 2, 3]], [], []⟩ (.seq (.seq (.seq (.assign 55 (.view 32))
                 (.assign 56 (.same 55)))
                 (.seq (.assign 57 (.view 49))
                 (.assign 58 (.same 57))))
               (.seq (.seq (.assign 59 (.view 58))
                 (.assign 60 (.view 0)))
                 (.seq (.ifStar (.call 61 789 [60, 56, 4]) (.assign 61 (.maybeView 60)))
                 (.seq (.ifStar (.assign 62 .fresh) (.ifStar (.call 62 786 [61, 59, 4, 4]) (.call 62 785 [59, 61, 4])))
                 (.assign 58 (.join [58, 62])))))))
           (.assign 63 .fresh))))
     (.seq (.seq (.assign 66 (.view 36))
         (.seq (.assign 64 (.same 66))
           (.assign 67 (.view 49))))
       (.seq (.seq (.assign 65 (.same 67))
           (.whileStar ⟨[[0], [1], [2], [3], [], [1, 2, 3], [1, 2, 3], [], [], [], [1, 2, 3], [1, 2, 3], [1, 2, 3], [1, 2, 3], [1, 2, 3], [1, 2, 3], [], [], [1, 2, 3], [1, 2, 3], [0], [0, 1, 2, 3], [0, 1, 2, 3], [], [], [], [0, 1, 2, 3], [0, 1, 2, 3], [], [], [], [0, 1, 2, 3], [], [0], [0], [0], [0], [1, 2, 3], [1, 2, 3], [1, 2, 3], [1, 2, 3], [1, 2, 3], [1, 2, 3], [1, 2, 3], [], [1, 2, 3], [1, 2, 3], [1, 2, 3], [1, 2, 3], [1, 2, 3], [1, 2, 3], [1, 2, 3], [1, 2, 3], [1, 2, 3], [1, 2, 3], [], [], [1, 2, 3], [0, 1, 2, 3], [1, 2, 3], [0], [0], [0, 1, 2, 3], [0, 1, 2, 3], [0], [1, 2, 3], [0], [1, 2, 3], [0], [1, 2, 3], [1, 2, 3], [1, 2, 3], [1, 2, 3], [1, 2, 3], [0, 1, 2, 3], [1, 2, 3]], [], []⟩ (.seq (.seq (.seq (.assign 68 (.view 36))
                 (.assign 64 (.same 68)))
                 (.seq (.assign 69 (.view 49))
                 (.seq (.assign 65 (.same 69))
                 (.assign 70 (.view 65)))))
               (.seq (.seq (.assign 71 (.view 65))
                 (.seq (.assign 72 (.view 65))
                 (.assign 73 (.join [72]))))
                 (.seq (.assign 75 (.join [73]))
                 (.seq (.ifStar (.assign 74 .fresh) (.call 74 857 [64, 70, 71, 75]))
                 (.assign 63 (.join [63, 74]))))))))
         (.seq (.assign 76 (.same 63))
           (.ifStar (.seq (.seq (.assign 79 (.view 76))
                 (.assign 78 (.view 79)))
               (.seq (.assign 80 (.join [4]))
                 (.seq (.ifStar (.assign 77 (.maybeView 78)) (.call 77 824 [78, 80]))
                 (.ret 77)))) (.seq (.seq (.seq (.assign 81 .fresh)
                 (.assign 83 (.view 76)))
                 (.seq (.assign 82 (.same 83))
                 (.whileStar ⟨[[0], [1], [2], [3], [], [1, 2, 3], [1, 2, 3], [], [], [], [1, 2, 3], [1, 2, 3], [1, 2, 3], [1, 2, 3], [1, 2, 3], [1, 2, 3], [], [], [1, 2, 3], [1, 2, 3], [0], [0, 1, 2, 3], [0, 1, 2, 3], [], [], [], [0, 1, 2, 3], [0, 1, 2, 3], [], [], [], [0, 1, 2, 3], [], [0], [0], [0], [0], [1, 2, 3], [1, 2, 3], [1, 2, 3], [1, 2, 3], [1, 2, 3], [1, 2, 3], [1, 2, 3], [], [1, 2, 3], [1, 2, 3], [1, 2, 3], [1, 2, 3], [1, 2, 3], [1, 2, 3], [1, 2, 3], [1, 2, 3], [1, 2, 3], [1, 2, 3], [], [], [1, 2, 3], [0, 1, 2, 3], [1, 2, 3], [0], [0], [0, 1, 2, 3], [0, 1, 2, 3], [0], [1, 2, 3], [0], [1, 2, 3], [0], [1, 2, 3], [1, 2, 3], [1, 2, 3], [1, 2, 3], [1, 2, 3], [0, 1, 2, 3], [1, 2, 3], [0, 1, 2, 3], [], [], [], [], [0, 1, 2, 3], [0, 1, 2, 3], [0, 1, 2, 3], [0, 1, 2, 3], [0, 1, 2, 3]], [], []⟩ (.seq (.seq (.assign 84 (.view 76))
                 (.assign 82 (.same 84)))
                 (.seq (.assign 86 (.join [4]))
                 (.seq (.ifStar (.assign 85 (.maybeView 82)) (.call 85 824 [82, 86]))
                 (.assign 81 (.join [81, 85]))))))))
               (.seq (.seq (.assign 76 (.same 81))
                 (.assign 88 .fresh))
                 (.seq (.assign 87 (.view 88))
                 (.ret 87)))))))))))⟩

/-- operators/cat_linear_operator.py:CatLinearOperator._getitem (line 224); formals ['self', 'row_index', 'col_index', 'batch_indices'] -/
def f247_operators_cat_linear_operator__CatLinearOperator__getitem : Fn := ⟨4,
 (.seq (.seq (.seq (.assign 5 (.join [1, 2, 3]))
     (.assign 6 (.same 5)))
   (.seq (.assign 7 (.view 6))
     (.assign 8 (.same 7))))
 (.seq (.seq (.assign 9 (.same 4))
     (.ifStar (.seq (.seq (.assign 10 (.view 3))
           (.seq (.assign 11 (.same 10))
             (.assign 12 .fresh)))
         (.seq (.seq (.assign 14 (.view 11))
             (.assign 13 (.same 14)))
           (.seq (.whileStar ⟨[[0], [1], [2], [3], [], [1, 2, 3], [1, 2, 3], [1, 2, 3], [1, 2, 3], [], [3], [3], [3], [3], [3], [3]], [], []⟩ (.seq (.assign 15 (.view 11))
                 (.seq (.assign 13 (.same 15))
                 (.assign 12 (.join [12, 13])))))
             (.assign 9 .fresh)))) .skip))
   (.seq (.ifStar (.ifStar (.seq (.seq (.assign 16 .fresh)
             (.seq (.assign 18 (.view 0))
               (.assign 19 (.view 18))))
           (.seq (.assign 17 (.same 19))
             (.seq (.whileStar ⟨[[0], [1], [2], [3], [], [1, 2, 3], [1, 2, 3], [1, 2, 3], [1, 2, 3], [], [3], [3], [3], [3], [3], [3], [0, 1, 2, 3], [0], [0], [0], [0], [0], [3], [0, 1, 2, 3], [3]], [], []⟩ (.seq (.seq (.assign 20 (.view 0))
                 (.seq (.assign 21 (.view 20))
                 (.assign 17 (.same 21))))
                 (.seq (.seq (.assign 22 (.join [3]))
                 (.assign 24 (.join [22])))
                 (.seq (.ifStar (.assign 23 .fresh) (.call 23 813 [17, 1, 2, 24]))
                 (.assign 16 (.join [16, 23]))))))
               (.assign 25 (.same 16))))) (.seq (.seq (.assign 26 (.join []))
             (.seq (.assign 25 (.same 26))
               (.call 27 876 [0, 8, 4])))
           (.seq (.assign 28 (.view 27))
             (.seq (.assign 29 (.same 28))
               (.whileStar ⟨[[0], [1], [2], [3], [], [1, 2, 3], [1, 2, 3], [1, 2, 3], [1, 2, 3], [], [3], [3], [3], [3], [3], [3], [], [], [], [], [], [], [], [], [], [0, 1, 2, 3], [], [], [], [], [], [], [1, 2, 3], [1, 2, 3], [1, 2, 3], [1, 2, 3], [0, 1, 2, 3], [0], [0], [1, 2, 3], [0, 1, 2, 3]], [], []⟩ (.seq (.seq (.seq (.assign 30 (.view 29))
                 (.seq (.assign 31 (.same 30))
                 (.assign 6 (.join [6, 31]))))
                 (.seq (.assign 32 (.view 6))
                 (.seq (.assign 33 (.view 6))
                 (.assign 34 (.view 6)))))
                 (.seq (.seq (.assign 35 (.join [34]))
                 (.seq (.assign 37 (.view 0))
                 (.assign 38 (.view 37))))
                 (.seq (.seq (.assign 39 (.join [35]))
                 (.ifStar (.assign 36 .fresh) (.call 36 813 [38, 32, 33, 39])))
                 (.seq (.assign 40 (.same 36))
                 (.assign 25 (.join [25, 40]))))))))))) (.ifStar (.seq (.seq (.seq (.seq (.seq (.call 41 808 [8, 4])
                 (.ifStar (.seq (.assign 42 .fresh)
                 (.whileStar ⟨[[0], [1], [2], [3], [], [1, 2, 3], [1, 2, 3], [1, 2, 3], [1, 2, 3], [], [3], [3], [3], [3], [3], [3]], [], []⟩ (.assign 42 (.join [4, 42])))) .skip))
                 (.seq (.assign 43 (.view 0))
                 (.ifStar (.call 44 789 [43, 8, 4]) (.assign 44 (.maybeView 43)))))
               (.seq (.seq (.assign 45 (.same 44))
                 (.call 46 837 [45, 4]))
                 (.seq (.assign 47 .fresh)
                 (.seq (.assign 48 (.same 47))
                 (.ifStar (.call 49 789 [45, 4, 4]) .skip)))))
             (.seq (.seq (.seq (.ifStar (.call 50 789 [45, 4, 4]) .skip)
                 (.assign 51 (.view 48)))
                 (.seq (.write 51)
                 (.seq (.assign 53 (.view 48))
                 (.ifStar (.call 54 789 [45, 53, 4]) .skip))))
               (.seq (.seq (.assign 52 .fresh)
                 (.assign 55 (.same 52)))
                 (.seq (.assign 56 .fresh)
                 (.seq (.whileStar ⟨[[0], [1], [2], [3], [], [1, 2, 3], [1, 2, 3], [1, 2, 3], [1, 2, 3], [], [3], [3], [3], [3], [3], [3], [], [], [], [], [], [], [], [], [], [], [], [], [], [], [], [], [], [], [], [], [], [], [], [], [], [], [], [0], [0, 1, 2, 3], [0, 1, 2, 3], [], [], [], [0, 1, 2, 3], [0, 1, 2, 3], [], [], [], [0, 1, 2, 3], [], [0], [0], [0]], [], []⟩ (.seq (.assign 57 (.view 0))
                 (.seq (.assign 58 (.view 57))
                 (.assign 56 (.join [56, 58])))))
                 (.assign 59 (.same 56)))))))
           (.seq (.seq (.seq (.seq (.assign 60 .fresh)
                 (.assign 62 (.view 6)))
                 (.seq (.assign 61 (.same 62))
                 (.seq (.whileStar ⟨[[0], [1], [2], [3], [], [1, 2, 3], [1, 2, 3], [1, 2, 3], [1, 2, 3], [], [3], [3], [3], [3], [3], [3], [], [], [], [], [], [], [], [], [], [], [], [], [], [], [], [], [], [], [], [], [], [], [], [], [], [], [], [0], [0, 1, 2, 3], [0, 1, 2, 3], [], [], [], [0, 1, 2, 3], [0, 1, 2, 3], [], [], [], [0, 1, 2, 3], [], [0], [0], [0], [0], [1, 2, 3], [1, 2, 3], [1, 2, 3], [1, 2, 3], [1, 2, 3], [1, 2, 3], [1, 2, 3], [], [1, 2, 3], [1, 2, 3]], [], []⟩ (.seq (.seq (.assign 63 (.view 6))
                 (.assign 61 (.same 63)))
                 (.seq (.ifStar (.seq (.assign 64 (.view 61))
                 (.seq (.assign 65 (.join [64]))
                 (.assign 69 (.same 65)))) (.seq (.seq (.assign 66 (.join [61]))
                 (.assign 67 .fresh))
                 (.seq (.assign 68 (.join [66, 67]))
                 (.assign 69 (.same 68)))))
                 (.assign 60 (.join [60, 69])))))
                 (.assign 70 (.join [60])))))
               (.seq (.seq (.assign 71 (.join [70]))
                 (.assign 72 (.same 71)))
                 (.seq (.assign 73 .fresh)
                 (.seq (.assign 75 (.view 72))
                 (.assign 74 (.same 75))))))
             (.seq (.seq (.seq (.whileStar ⟨[[0], [1], [2], [3], [], [1, 2, 3], [1, 2, 3], [1, 2, 3], [1, 2, 3], [], [3], [3], [3], [3], [3], [3], [], [], [], [], [], [], [], [], [], [], [], [], [], [], [], [], [], [], [], [], [], [], [], [], [], [], [], [0], [0, 1, 2, 3], [0, 1, 2, 3], [], [], [], [0, 1, 2, 3], [0, 1, 2, 3], [], [], [], [0, 1, 2, 3], [], [0], [0], [0], [0], [1, 2, 3], [1, 2, 3], [1, 2, 3], [1, 2, 3], [1, 2, 3], [1, 2, 3], [1, 2, 3], [], [1, 2, 3], [1, 2, 3], [1, 2, 3], [1, 2, 3], [1, 2, 3], [1, 2, 3], [1, 2, 3], [1, 2, 3], [1, 2, 3], [1, 2, 3]], [], []⟩ (.seq (.seq (.assign 76 (.view 72))
                 (.assign 74 (.same 76)))
                 (.seq (.assign 77 (.join [74]))
                 (.assign 73 (.join [73, 77])))))
                 (.assign 72 (.same 73)))
                 (.seq (.whileStar ⟨[[0], [1], [2], [3], [], [1, 2, 3], [1, 2, 3], [1, 2, 3], [1, 2, 3], [], [3], [3], [3], [3], [3], [3], [], [], [], [], [], [], [], [], [], [], [], [], [], [], [], [], [], [], [], [], [], [], [], [], [], [], [], [0], [0, 1, 2, 3], [0, 1, 2, 3], [], [], [], [0, 1, 2, 3], [0, 1, 2, 3], [], [], [], [0, 1, 2, 3], [], [0], [0], [0], [0], [1, 2, 3], [1, 2, 3], [1, 2, 3], [1, 2, 3], [1, 2, 3], [1, 2, 3], [1, 2, 3], [], [1, 2, 3], [1, 2, 3], [1, 2, 3], [1, 2, 3], [1, 2, 3], [1, 2, 3], [1, 2, 3], [1, 2, 3], [1, 2, 3], [1, 2, 3], [], [], [1, 2, 3], [0, 1, 2, 3], [1, 2, 3], [0], [0], [0, 1, 2, 3]], [], []⟩ (.seq (.seq (.seq (.assign 78 (.view 55))
                 (.assign 79 (.same 78)))
                 (.seq (.assign 80 (.view 72))
                 (.assign 81 (.same 80))))
                 (.seq (.seq (.assign 82 (.view 81))
                 (.assign 83 (.view 0)))
                 (.seq (.ifStar (.call 84 789 [83, 79, 4]) (.assign 84 (.maybeView 83)))
                 (.seq (.ifStar (.assign 85 .fresh) (.ifStar (.call 85 786 [84, 82, 4, 4]) (.call 85 785 [82, 84, 4])))
                 (.assign 81 (.join [81, 85])))))))
                 (.seq (.assign 86 .fresh)
                 (.assign 89 (.view 59)))))
               (.seq (.seq (.assign 87 (.same 89))
                 (.assign 90 (.view 72)))
                 (.seq (.assign 88 (.same 90))
                 (.seq (.whileStar ⟨[[0], [1], [2], [3], [], [1, 2, 3], [1, 2, 3], [1, 2, 3], [1, 2, 3], [], [3], [3], [3], [3], [3], [3], [], [], [], [], [], [], [], [], [], [], [], [], [], [], [], [], [], [], [], [], [], [], [], [], [], [], [], [0], [0, 1, 2, 3], [0, 1, 2, 3], [], [], [], [0, 1, 2, 3], [0, 1, 2, 3], [], [], [], [0, 1, 2, 3], [], [0], [0], [0], [0], [1, 2, 3], [1, 2, 3], [1, 2, 3], [1, 2, 3], [1, 2, 3], [1, 2, 3], [1, 2, 3], [], [1, 2, 3], [1, 2, 3], [1, 2, 3], [1, 2, 3], [1, 2, 3], [1, 2, 3], [1, 2, 3], [1, 2, 3], [1, 2, 3], [1, 2, 3], [], [], [1, 2, 3], [0, 1, 2, 3], [1, 2, 3], [0], [0], [0, 1, 2, 3], [0, 1, 2, 3], [0], [1, 2, 3], [0], [1, 2, 3], [0], [1, 2, 3], [1, 2, 3], [1, 2, 3], [1, 2, 3], [1, 2, 3], [0, 1, 2, 3], [1, 2, 3]], [], []⟩ (.seq (.seq (.seq (.assign 91 (.view 59))
                 (.assign 87 (.same 91)))
                 (.seq (.assign 92 (.view 72))
                 (.seq (.assign 88 (.same 92))
                 (.assign 93 (.view 88)))))
                 (.seq (.seq (.assign 94 (.view 88))
                 (.seq (.assign 95 (.view 88))
                 (.assign 96 (.join [95]))))
                 (.seq (.assign 98 (.join [96]))
                 (.seq (.ifStar (.assign 97 .fresh) (.call 97 813 [87, 93, 94, 98]))
                 (.assign 86 (.join [86, 97])))))))
                 (.assign 25 (.same 86)))))))) (.ifStar (.seq (.seq (.seq (.seq (.assign 100 (.view 0))
                 (.ifStar (.call 101 789 [100, 8, 4]) .skip))
                 (.seq (.assign 99 .fresh)
                 (.assign 102 (.same 99))))
               (.seq (.seq (.assign 103 (.view 0))
                 (.ifStar (.call 104 789 [103, 102, 4]) .skip))
                 (.seq (.assign 105 .fresh)
                 (.seq (.assign 8 (.same 105))
                 (.assign 6 (.join [6, 8]))))))
             (.seq (.seq (.seq (.assign 106 (.view 6))
                 (.assign 107 (.view 6)))
                 (.seq (.assign 108 (.view 6))
                 (.seq (.assign 109 (.join [108]))
                 (.assign 111 (.view 0)))))
               (.seq (.seq (.assign 112 (.view 111))
                 (.assign 113 (.join [109])))
                 (.seq (.ifStar (.assign 110 .fresh) (.call 110 813 [112, 106, 107, 113]))
                 (.seq (.assign 114 (.join [110]))
                 (.assign 25 (.same 114))))))) .skip)))
     (.ifStar (.seq (.seq (.assign 115 (.view 25))
           (.assign 40 (.same 115)))
         (.seq (.ifStar (.assign 119 (.same 40)) (.seq (.seq (.assign 116 (.view 0))
                 (.assign 118 (.join [116])))
               (.seq (.ifStar (.assign 117 (.maybeView 40)) (.call 117 824 [40, 118]))
                 (.assign 119 (.same 117)))))
           (.ret 119))) (.seq (.seq (.seq (.assign 120 (.view 0))
             (.assign 121 (.join [25])))
           (.seq (.assign 123 .fresh)
             (.assign 125 (.join [121]))))
         (.seq (.seq (.call 124 812 [123, 121, 121, 121, 121, 121, 121, 9, 120, 121, 121, 121, 121, 121, 121, 121, 121, 121, 121, 121, 121, 121, 121, 121, 121, 121, 121, 121, 121, 121, 121, 121, 121, 121, 121, 121, 121, 121, 121, 121, 121, 121, 121, 121, 121, 121, 121, 121, 121, 121, 121, 121, 121, 121, 125])
             (.assign 122 (.join [9, 120, 121, 124])))
           (.seq (.assign 40 (.same 122))
             (.ret 40))))))))⟩

/-- operators/cat_linear_operator.py:CatLinearOperator._matmul (line 306); formals ['self', 'rhs'] -/
def f248_operators_cat_linear_operator__CatLinearOperator__matmul : Fn := ⟨2,
 (.seq (.seq (.seq (.ifStar (.assign 3 (.same 2)) (.assign 3 (.same 2)))
     (.assign 4 (.same 3)))
   (.seq (.assign 5 (.join []))
     (.assign 6 (.same 5))))
 (.seq (.seq (.ifStar (.call 7 877 [0, 2]) .skip)
     (.whileStar ⟨[[0], [1], [], [], [], [], [1], [], [1]], [], []⟩ (.ifStar (.seq (.assign 8 (.maybeView 1))
           (.assign 6 (.join [6, 8]))) (.assign 6 (.join [1, 6])))))
   (.seq (.ifStar (.seq (.seq (.seq (.assign 9 .fresh)
             (.seq (.assign 12 (.view 0))
               (.assign 13 (.view 12))))
           (.seq (.seq (.assign 10 (.same 13))
               (.assign 14 (.view 6)))
             (.seq (.assign 11 (.same 14))
               (.whileStar ⟨[[0], [1], [], [], [], [], [1], [], [1], [1], [0], [1], [0], [0], [1], [0], [0], [1], [1]], [], []⟩ (.seq (.seq (.assign 15 (.view 0))
                 (.seq (.assign 16 (.view 15))
                 (.assign 10 (.same 16))))
                 (.seq (.seq (.assign 17 (.view 6))
                 (.assign 11 (.same 17)))
                 (.seq (.ifStar (.assign 18 .fresh) (.call 18 815 [10, 11, 2]))
                 (.assign 9 (.join [9, 18])))))))))
         (.seq (.seq (.seq (.assign 19 (.same 9))
               (.assign 20 .fresh))
             (.seq (.assign 22 (.view 19))
               (.assign 21 (.same 22))))
           (.seq (.seq (.whileStar ⟨[[0], [1], [], [], [], [], [1], [], [1], [1], [0], [1], [0], [0], [1], [0], [0], [1], [1], [1], [1], [1], [1], [1], [1]], [], []⟩ (.seq (.seq (.assign 23 (.view 19))
                 (.assign 21 (.same 23)))
                 (.seq (.assign 25 (.join [4]))
                 (.seq (.ifStar (.assign 24 (.maybeView 21)) (.call 24 824 [21, 25]))
                 (.assign 20 (.join [20, 24]))))))
               (.assign 19 (.same 20)))
             (.seq (.assign 26 .fresh)
               (.assign 27 (.same 26)))))) (.ifStar (.seq (.seq (.seq (.assign 28 (.same 2))
               (.seq (.assign 29 (.join []))
                 (.assign 19 (.same 29))))
             (.seq (.seq (.assign 30 .fresh)
                 (.whileStar ⟨[[0], [1], [], [], [], [], [1], [], [1]], [], []⟩ (.seq (.assign 31 .fresh)
                 (.assign 30 (.join [30, 31])))))
               (.seq (.assign 32 (.same 30))
                 (.assign 33 (.view 0)))))
           (.seq (.seq (.seq (.whileStar ⟨[[0], [1], [], [], [], [], [1], [], [1], [], [], [], [], [], [], [], [], [], [], [1], [], [], [], [], [], [], [], [], [], [], [], [], [], [0], [0], [0], [1], [], [1], [1]], [], []⟩ (.seq (.seq (.seq (.assign 34 (.view 33))
                 (.assign 35 (.same 34)))
                 (.seq (.assign 36 (.view 6))
                 (.seq (.assign 1 (.same 36))
                 (.assign 37 .fresh))))
                 (.seq (.seq (.assign 32 (.join [32, 37]))
                 (.seq (.ifStar (.call 38 789 [1, 32, 2]) (.assign 38 (.maybeView 1)))
                 (.ifStar (.assign 39 .fresh) (.call 39 815 [35, 38, 2]))))
                 (.seq (.assign 19 (.join [19, 39]))
                 (.seq (.write 28)
                 (.assign 28 (.maybeView 28)))))))
                 (.assign 40 .fresh))
               (.seq (.assign 42 (.view 19))
                 (.assign 41 (.same 42))))
             (.seq (.seq (.whileStar ⟨[[0], [1], [], [], [], [], [1], [], [1], [], [], [], [], [], [], [], [], [], [], [1], [], [], [], [], [], [], [], [], [], [], [], [], [], [0], [0], [0], [1], [], [1], [1], [1], [1], [1], [1], [1]], [], []⟩ (.seq (.seq (.assign 43 (.view 19))
                 (.assign 41 (.same 43)))
                 (.seq (.assign 45 (.join [4]))
                 (.seq (.ifStar (.assign 44 (.maybeView 41)) (.call 44 824 [41, 45]))
                 (.assign 40 (.join [40, 44]))))))
                 (.assign 19 (.same 40)))
               (.seq (.assign 27 (.same 2))
                 (.whileStar ⟨[[0], [1], [], [], [], [], [1], [], [1], [], [], [], [], [], [], [], [], [], [], [1], [], [], [], [], [], [], [], [1], [], [], [], [], [], [0], [0], [0], [1], [], [1], [1], [1], [1], [1], [1], [1], [], [1], [1], [1]], [], []⟩ (.seq (.seq (.assign 46 (.view 19))
                 (.assign 47 (.same 46)))
                 (.seq (.ifStar (.assign 48 .fresh) (.ifStar (.call 48 826 [47, 27, 2, 2]) (.call 48 825 [27, 47, 2])))
                 (.assign 27 (.same 48))))))))) (.seq (.seq (.seq (.seq (.call 49 703 [2, 2, 2])
                 (.assign 50 (.same 49)))
               (.seq (.ifStar (.call 51 789 [50, 2, 2]) (.assign 51 (.view 50)))
                 (.assign 52 (.join [2, 51]))))
             (.seq (.seq (.assign 54 (.join [52]))
                 (.ifStar (.assign 53 (.view 1)) (.call 53 776 [1, 54])))
               (.seq (.assign 1 (.same 53))
                 (.seq (.assign 28 (.same 2))
                 (.assign 55 (.join []))))))
           (.seq (.seq (.seq (.assign 19 (.same 55))
                 (.assign 56 (.view 0)))
               (.seq (.whileStar ⟨[[0], [1], [], [], [], [], [1], [], [1], [], [], [], [], [], [], [], [], [], [], [1], [], [], [], [], [], [], [], [], [], [], [], [], [], [], [], [0], [], [], [], [], [], [], [], [], [], [], [], [], [], [], [], [], [], [1], [], [], [0], [0], [1], [1], [1]], [], []⟩ (.seq (.seq (.assign 57 (.view 56))
                 (.seq (.assign 35 (.same 57))
                 (.assign 58 (.view 1))))
                 (.seq (.seq (.assign 59 (.same 58))
                 (.ifStar (.assign 60 .fresh) (.call 60 815 [35, 59, 2])))
                 (.seq (.assign 19 (.join [19, 60]))
                 (.write 28)))))
                 (.seq (.assign 61 .fresh)
                 (.assign 63 (.view 19)))))
             (.seq (.seq (.assign 62 (.same 63))
                 (.whileStar ⟨[[0], [1], [], [], [], [], [1], [], [1], [], [], [], [], [], [], [], [], [], [], [1], [], [], [], [], [], [], [], [], [], [], [], [], [], [], [], [0], [], [], [], [], [], [], [], [], [], [], [], [], [], [], [], [], [], [1], [], [], [0], [0], [1], [1], [1], [1], [1], [1], [1], [1]], [], []⟩ (.seq (.seq (.assign 64 (.view 19))
                 (.assign 62 (.same 64)))
                 (.seq (.assign 66 (.join [4]))
                 (.seq (.ifStar (.assign 65 (.maybeView 62)) (.call 65 824 [62, 66]))
                 (.assign 61 (.join [61, 65])))))))
               (.seq (.assign 19 (.same 61))
                 (.seq (.assign 67 .fresh)
                 (.assign 27 (.same 67)))))))))
     (.ret 27))))⟩

/-- operators/cat_linear_operator.py:CatLinearOperator._permute_batch (line 352); formals ['self', 'dims'] -/
def f249_operators_cat_linear_operator__CatLinearOperator__permute_batch : Fn := ⟨2,
 (.seq (.seq (.seq (.assign 3 .fresh)
     (.seq (.assign 5 (.view 0))
       (.assign 6 (.view 5))))
   (.seq (.seq (.assign 4 (.same 6))
       (.whileStar ⟨[[0], [1], [], [0], [0], [0], [0], [0], [0], [1], [0], [1]], [], []⟩ (.seq (.seq (.assign 7 (.view 0))
             (.seq (.assign 8 (.view 7))
               (.assign 4 (.same 8))))
           (.seq (.seq (.assign 9 (.join [1]))
               (.assign 11 (.join [9])))
             (.seq (.ifStar (.assign 10 .fresh) (.call 10 810 [4, 11]))
               (.assign 3 (.join [3, 10])))))))
     (.seq (.assign 12 (.same 3))
       (.ifStar (.seq (.call 13 808 [0, 2])
           (.seq (.assign 14 .fresh)
             (.assign 15 (.same 14)))) (.assign 15 (.same 2))))))
 (.seq (.seq (.assign 16 (.view 0))
     (.seq (.assign 17 (.join [12]))
       (.assign 19 .fresh)))
   (.seq (.seq (.assign 21 (.join [17]))
       (.call 20 812 [19, 17, 17, 17, 17, 17, 17, 15, 16, 17, 17, 17, 17, 17, 17, 17, 17, 17, 17, 17, 17, 17, 17, 17, 17, 17, 17, 17, 17, 17, 17, 17, 17, 17, 17, 17, 17, 17, 17, 17, 17, 17, 17, 17, 17, 17, 17, 17, 17, 17, 17, 17, 17, 17, 21]))
     (.seq (.assign 18 (.join [15, 16, 17, 20]))
       (.ret 18)))))⟩

/-- operators/cat_linear_operator.py:CatLinearOperator._size (line 361); formals ['self'] -/
def f250_operators_cat_linear_operator__CatLinearOperator__size : Fn := ⟨1,
 (.ret 1)⟩

/-- operators/cat_linear_operator.py:CatLinearOperator._transpose_nonbatch (line 364); formals ['self'] -/
def f251_operators_cat_linear_operator__CatLinearOperator__transpose_nonbatch : Fn := ⟨1,
 (.seq (.seq (.seq (.ifStar (.assign 2 (.same 1)) (.ifStar (.assign 2 (.same 1)) (.assign 2 (.same 1))))
     (.seq (.assign 3 .fresh)
       (.assign 5 (.view 0))))
   (.seq (.assign 6 (.view 5))
     (.seq (.assign 4 (.same 6))
       (.whileStar ⟨[[0], [], [], [0], [0], [0], [0], [0], [0], [0]], [], []⟩ (.seq (.seq (.assign 7 (.view 0))
             (.assign 8 (.view 7)))
           (.seq (.assign 4 (.same 8))
             (.seq (.ifStar (.assign 9 .fresh) (.call 9 829 [4, 1]))
               (.assign 3 (.join [3, 9])))))))))
 (.seq (.seq (.assign 10 (.view 0))
     (.seq (.assign 11 (.join [3]))
       (.assign 13 .fresh)))
   (.seq (.seq (.assign 15 (.join [11]))
       (.call 14 812 [13, 11, 11, 11, 11, 11, 11, 2, 10, 11, 11, 11, 11, 11, 11, 11, 11, 11, 11, 11, 11, 11, 11, 11, 11, 11, 11, 11, 11, 11, 11, 11, 11, 11, 11, 11, 11, 11, 11, 11, 11, 11, 11, 11, 11, 11, 11, 11, 11, 11, 11, 11, 11, 11, 15]))
     (.seq (.assign 12 (.join [2, 10, 11, 14]))
       (.ret 12)))))⟩

/-- operators/cat_linear_operator.py:CatLinearOperator._unsqueeze_batch (line 375); formals ['self', 'dim'] -/
def f252_operators_cat_linear_operator__CatLinearOperator__unsqueeze_batch : Fn := ⟨2,
 (.seq (.seq (.seq (.seq (.call 3 808 [0, 2])
       (.assign 4 (.same 2)))
     (.seq (.assign 5 .fresh)
       (.assign 7 (.view 0))))
   (.seq (.seq (.assign 8 (.view 7))
       (.assign 6 (.same 8)))
     (.seq (.whileStar ⟨[[0], [1], [], [], [], [0, 1], [0], [0], [0], [0], [0], [0, 1]], [], []⟩ (.seq (.seq (.assign 9 (.view 0))
             (.assign 10 (.view 9)))
           (.seq (.assign 6 (.same 10))
             (.seq (.ifStar (.assign 11 .fresh) (.call 11 854 [6, 1, 2]))
               (.assign 5 (.join [5, 11]))))))
       (.assign 12 (.same 5)))))
 (.seq (.seq (.seq (.ifStar (.assign 13 (.same 2)) (.assign 13 (.same 4)))
       (.assign 14 (.view 0)))
     (.seq (.assign 15 (.join [12]))
       (.assign 17 .fresh)))
   (.seq (.seq (.assign 19 (.join [15]))
       (.call 18 812 [17, 15, 15, 15, 15, 15, 15, 13, 14, 15, 15, 15, 15, 15, 15, 15, 15, 15, 15, 15, 15, 15, 15, 15, 15, 15, 15, 15, 15, 15, 15, 15, 15, 15, 15, 15, 15, 15, 15, 15, 15, 15, 15, 15, 15, 15, 15, 15, 15, 15, 15, 15, 15, 15, 19]))
     (.seq (.assign 16 (.join [13, 14, 15, 18]))
       (.seq (.assign 20 (.same 16))
         (.ret 20))))))⟩

/-- operators/cat_linear_operator.py:CatLinearOperator.to_dense (line 383); formals ['self'] -/
def f253_operators_cat_linear_operator__CatLinearOperator_to_dense : Fn := ⟨1,
 (.seq (.seq (.assign 1 .fresh)
   (.seq (.assign 3 (.view 0))
     (.assign 4 (.view 3))))
 (.seq (.seq (.assign 2 (.same 4))
     (.whileStar ⟨[[0], [0], [0], [0], [0], [0], [0], [0]], [], []⟩ (.seq (.seq (.assign 5 (.view 0))
           (.assign 6 (.view 5)))
         (.seq (.assign 2 (.same 6))
           (.seq (.call 7 162 [2])
             (.assign 1 (.join [1, 7])))))))
   (.seq (.assign 8 .fresh)
     (.ret 8))))⟩

/-- operators/cat_linear_operator.py:CatLinearOperator.inv_quad_logdet (line 386); formals ['self', 'inv_quad_rhs', 'logdet', 'reduce_inv_quad'] -/
def f254_operators_cat_linear_operator__CatLinearOperator_inv_quad_logdet : Fn := ⟨4,
 (.seq (.seq (.seq (.call 5 770 [0, 1, 2, 3, 4])
     (.assign 6 (.same 5)))
   (.seq (.assign 7 .fresh)
     (.assign 9 (.view 6))))
 (.seq (.seq (.assign 8 (.same 9))
     (.whileStar ⟨[[0], [1], [2], [3], [], [0, 1], [0, 1], [0, 1], [0, 1], [0, 1], [0, 1], [0, 1], [], [0, 1]], [], []⟩ (.seq (.seq (.assign 10 (.view 6))
           (.assign 8 (.same 10)))
         (.seq (.ifStar (.seq (.assign 12 (.join [4]))
               (.seq (.ifStar (.assign 11 (.maybeView 8)) (.call 11 824 [8, 12]))
                 (.assign 13 (.same 11)))) (.assign 13 (.same 4)))
           (.assign 7 (.join [7, 13]))))))
   (.seq (.assign 14 (.join [7]))
     (.ret 14))))⟩

/-- operators/cat_linear_operator.py:CatLinearOperator.device (line 400); formals ['self'] -/
def f255_operators_cat_linear_operator__CatLinearOperator_device : Fn := ⟨1,
 (.seq (.assign 1 (.view 0))
 (.ret 1))⟩

/-- operators/cat_linear_operator.py:CatLinearOperator.devices (line 404); formals ['self'] -/
def f256_operators_cat_linear_operator__CatLinearOperator_devices : Fn := ⟨1,
 (.seq (.assign 2 .fresh)
 (.seq (.whileStar ⟨[[0]], [], []⟩ (.assign 2 (.join [1, 2])))
   (.ret 2)))⟩

/-- operators/cat_linear_operator.py:CatLinearOperator.device_count (line 408); formals ['self'] -/
def f257_operators_cat_linear_operator__CatLinearOperator_device_count : Fn := ⟨1,
 (.seq (.ifStar (.call 2 877 [0, 1]) .skip)
 (.seq (.assign 3 .fresh)
   (.ret 3)))⟩

/-- operators/cat_linear_operator.py:CatLinearOperator.to (line 411); formals ['self', 'args', 'kwargs'] -/
def f258_operators_cat_linear_operator__CatLinearOperator_to : Fn := ⟨3,
 (.seq (.seq (.seq (.seq (.assign 4 (.join [1, 2]))
       (.seq (.assign 6 (.join [4]))
         (.assign 7 (.join [4]))))
     (.seq (.call 5 713 [6, 7])
       (.seq (.assign 8 (.view 5))
         (.assign 9 (.same 8)))))
   (.seq (.seq (.assign 10 (.view 5))
       (.seq (.assign 11 (.same 10))
         (.assign 12 (.view 0))))
     (.seq (.ifStar (.call 12 811 [0, 3]) .skip)
       (.seq (.assign 13 (.same 12))
         (.assign 14 (.join [3, 9, 13]))))))
 (.seq (.seq (.seq (.assign 15 (.same 14))
       (.seq (.assign 16 (.view 0))
         (.ifStar (.call 16 807 [0, 3]) .skip)))
     (.seq (.assign 17 (.same 16))
       (.seq (.assign 18 (.join [15, 17]))
         (.assign 20 .fresh))))
   (.seq (.seq (.assign 22 (.join [18]))
       (.seq (.call 21 812 [20, 18, 18, 18, 18, 18, 18, 18, 18, 18, 18, 18, 18, 18, 18, 18, 18, 18, 18, 18, 18, 18, 18, 18, 18, 18, 18, 18, 18, 18, 18, 18, 18, 18, 18, 18, 18, 18, 18, 18, 18, 18, 18, 18, 18, 18, 18, 18, 18, 18, 18, 18, 18, 18, 22])
         (.assign 19 (.join [18, 21]))))
     (.seq (.assign 23 (.same 19))
       (.seq (.ifStar (.seq (.call 25 834 [23, 11, 3])
             (.seq (.assign 24 .fresh)
               (.assign 23 (.same 24)))) .skip)
         (.ret 23))))))⟩

/-- operators/cat_linear_operator.py:CatLinearOperator.all_to (line 428); formals ['self', 'device_id'] -/
def f259_operators_cat_linear_operator__CatLinearOperator_all_to : Fn := ⟨2,
 (.seq (.seq (.seq (.seq (.assign 3 (.join []))
       (.assign 4 (.same 3)))
     (.seq (.assign 5 (.join []))
       (.seq (.assign 6 (.same 5))
         (.assign 7 (.view 0)))))
   (.seq (.seq (.ifStar (.call 7 807 [0, 2]) .skip)
       (.assign 8 (.same 7)))
     (.seq (.whileStar ⟨[[0], [1], [], [], [0, 1], [], [], [0], [0], [0], [0], [0, 1], [1]], [], []⟩ (.seq (.assign 9 (.view 8))
           (.seq (.assign 10 (.same 9))
             (.ifStar (.seq (.assign 12 (.join [1]))
                 (.seq (.ifStar (.assign 11 (.maybeView 10)) (.call 11 824 [10, 12]))
                 (.assign 4 (.join [4, 11])))) (.assign 4 (.join [4, 10]))))))
       (.seq (.assign 14 (.view 0))
         (.ifStar (.call 14 811 [0, 2]) .skip)))))
 (.seq (.seq (.seq (.assign 15 (.same 14))
       (.assign 13 (.join [15])))
     (.seq (.whileStar ⟨[[0], [1], [], [], [0, 1], [], [0, 1], [0], [0], [0], [0], [0, 1], [1], [0], [0], [0], [0], [0], [0], [0, 1], [1]], [], []⟩ (.seq (.seq (.assign 16 (.view 13))
             (.assign 17 (.view 16)))
           (.seq (.assign 18 (.same 17))
             (.ifStar (.seq (.assign 20 (.join [1]))
                 (.seq (.ifStar (.assign 19 (.maybeView 18)) (.call 19 824 [18, 20]))
                 (.assign 6 (.join [6, 19])))) (.assign 6 (.join [6, 18]))))))
       (.seq (.assign 6 (.join [1, 6]))
         (.assign 21 (.join [4, 6])))))
   (.seq (.seq (.assign 23 .fresh)
       (.assign 25 (.join [21])))
     (.seq (.call 24 812 [23, 21, 21, 21, 21, 21, 21, 21, 21, 21, 21, 21, 21, 21, 21, 21, 21, 21, 21, 21, 21, 21, 21, 21, 21, 21, 21, 21, 21, 21, 21, 21, 21, 21, 21, 21, 21, 21, 21, 21, 21, 21, 21, 21, 21, 21, 21, 21, 21, 21, 21, 21, 21, 21, 25])
       (.seq (.assign 22 (.join [21, 24]))
         (.ret 22))))))⟩

/-- operators/chol_linear_operator.py:CholLinearOperator.__init__ (line 34); formals ['self', 'chol', 'upper'] -/
def f260_operators_chol_linear_operator__CholLinearOperator___init__ : Fn := ⟨3,
 (.seq (.seq (.ifStar (.ifStar (.seq (.assign 5 .fresh)
         (.seq (.call 4 619 [5, 1, 3])
           (.assign 1 (.same 4)))) (.ifStar (.seq (.assign 7 .fresh)
           (.seq (.call 6 619 [7, 1, 3])
             (.assign 1 (.same 6)))) .skip)) .skip)
   (.assign 9 (.join [1])))
 (.seq (.call 8 812 [0, 3, 3, 3, 3, 3, 3, 3, 3, 3, 2, 3, 3, 3, 3, 3, 3, 3, 3, 3, 3, 3, 3, 3, 3, 3, 3, 3, 3, 3, 3, 3, 3, 3, 3, 3, 3, 3, 3, 3, 3, 3, 3, 3, 3, 3, 3, 3, 3, 3, 3, 3, 3, 3, 9])
   (.seq (.assign 0 (.join [0, 2]))
     (.ret 0))))⟩

/-- operators/chol_linear_operator.py:CholLinearOperator._chol_diag (line 51); formals ['self'] -/
def f261_operators_chol_linear_operator__CholLinearOperator__chol_diag : Fn := ⟨1,
 (.seq (.assign 3 (.view 0))
 (.seq (.ifStar (.assign 2 .fresh) (.call 2 818 [3, 1]))
   (.ret 2)))⟩

/-- operators/chol_linear_operator.py:CholLinearOperator._cholesky (line 55); formals ['self', 'upper'] -/
def f262_operators_chol_linear_operator__CholLinearOperator__cholesky : Fn := ⟨2,
 (.seq (.ifStar (.seq (.assign 3 (.view 0))
     (.ret 3)) (.seq (.assign 5 (.view 0))
     (.seq (.ifStar (.assign 4 .fresh) (.call 4 829 [5, 2]))
       (.ret 4))))
 (.ret 0))⟩

/-- operators/chol_linear_operator.py:CholLinearOperator._diagonal (line 64); formals ['self'] -/
def f263_operators_chol_linear_operator__CholLinearOperator__diagonal : Fn := ⟨1,
 (.seq (.seq (.seq (.ifStar (.assign 2 (.same 1)) (.assign 2 (.same 1)))
     (.assign 5 (.view 0)))
   (.seq (.ifStar .skip (.call 4 778 [5, 1, 1, 1, 1, 1]))
     (.assign 6 .fresh)))
 (.seq (.seq (.call 7 835 [6, 2, 1])
     (.assign 3 .fresh))
   (.seq (.ret 3)
     (.ret 0))))⟩

/-- operators/chol_linear_operator.py:CholLinearOperator._getitem (line 69); formals ['self', 'row_index', 'col_index', 'batch_indices'] -/
def f264_operators_chol_linear_operator__CholLinearOperator__getitem : Fn := ⟨4,
 (.seq (.seq (.ifStar (.seq (.seq (.seq (.assign 5 (.join [3]))
           (.assign 8 (.view 0)))
         (.seq (.ifStar (.assign 7 .fresh) (.call 7 829 [8, 4]))
           (.assign 10 .fresh)))
       (.seq (.seq (.call 9 566 [10, 7, 4])
           (.assign 11 (.join [5])))
         (.seq (.call 6 813 [9, 1, 2, 11])
           (.ret 6)))) .skip)
   (.assign 12 (.join [3])))
 (.seq (.assign 14 (.join [12]))
   (.seq (.call 13 813 [0, 1, 2, 14])
     (.ret 13))))⟩

/-- operators/chol_linear_operator.py:CholLinearOperator._get_indices (line 74); formals ['self', 'row_index', 'col_index', 'batch_indices'] -/
def f265_operators_chol_linear_operator__CholLinearOperator__get_indices : Fn := ⟨4,
 (.seq (.seq (.ifStar (.seq (.seq (.seq (.assign 5 (.join [3]))
           (.assign 8 (.view 0)))
         (.seq (.ifStar (.assign 7 .fresh) (.call 7 829 [8, 4]))
           (.assign 10 .fresh)))
       (.seq (.seq (.call 9 566 [10, 7, 4])
           (.assign 11 (.join [5])))
         (.seq (.call 6 857 [9, 1, 2, 11])
           (.ret 6)))) .skip)
   (.assign 12 (.join [3])))
 (.seq (.assign 14 (.join [12]))
   (.seq (.call 13 857 [0, 1, 2, 14])
     (.ret 13))))⟩

/-- operators/chol_linear_operator.py:CholLinearOperator._mul_constant (line 79); formals ['self', 'other'] -/
def f266_operators_chol_linear_operator__CholLinearOperator__mul_constant : Fn := ⟨2,
 (.seq (.ifStar (.seq (.seq (.seq (.assign 3 .fresh)
         (.assign 5 (.view 0)))
       (.seq (.ifStar (.assign 4 .fresh) (.call 4 840 [5, 3, 2]))
         (.assign 7 .fresh)))
     (.seq (.seq (.assign 9 (.join [4]))
         (.call 8 812 [7, 2, 2, 2, 2, 2, 2, 2, 2, 2, 2, 2, 2, 2, 2, 2, 2, 2, 2, 2, 2, 2, 2, 2, 2, 2, 2, 2, 2, 2, 2, 2, 2, 2, 2, 2, 2, 2, 2, 2, 2, 2, 2, 2, 2, 2, 2, 2, 2, 2, 2, 2, 2, 2, 9]))
       (.seq (.assign 6 (.join [2, 4, 8]))
         (.ret 6)))) .skip)
 (.seq (.call 10 840 [0, 1, 2])
   (.ret 10)))⟩

/-- operators/chol_linear_operator.py:CholLinearOperator._matmul (line 86); formals ['self', 'rhs'] -/
def f267_operators_chol_linear_operator__CholLinearOperator__matmul : Fn := ⟨2,
 (.seq (.ifStar (.seq (.seq (.assign 4 (.view 0))
       (.ifStar (.assign 3 .fresh) (.call 3 815 [4, 1, 2])))
     (.seq (.assign 6 (.view 0))
       (.seq (.ifStar (.assign 5 .fresh) (.call 5 878 [6, 3, 2]))
         (.ret 5)))) .skip)
 (.seq (.call 7 815 [0, 1, 2])
   (.ret 7)))⟩

/-- operators/chol_linear_operator.py:CholLinearOperator._root_decomposition (line 94); formals ['self'] -/
def f268_operators_chol_linear_operator__CholLinearOperator__root_decomposition : Fn := ⟨1,
 (.seq (.ifStar (.seq (.assign 3 (.view 0))
     (.seq (.ifStar (.assign 2 .fresh) (.call 2 829 [3, 1]))
       (.assign 5 (.same 2)))) (.seq (.assign 4 (.view 0))
     (.assign 5 (.same 4))))
 (.ret 5))⟩

/-- operators/chol_linear_operator.py:CholLinearOperator.root_decomposition (line 100); formals ['self', 'method'] -/
def f269_operators_chol_linear_operator__CholLinearOperator_root_decomposition : Fn := ⟨2,
 (.seq (.ifStar (.seq (.seq (.assign 4 (.view 0))
       (.ifStar (.assign 3 .fresh) (.call 3 829 [4, 2])))
     (.seq (.assign 6 .fresh)
       (.seq (.call 5 566 [6, 3, 2])
         (.ret 5)))) .skip)
 (.ret 0))⟩

/-- operators/chol_linear_operator.py:CholLinearOperator._solve (line 107); formals ['self', 'rhs', 'preconditioner', 'num_tridiag'] -/
def f270_operators_chol_linear_operator__CholLinearOperator__solve : Fn := ⟨4,
 (.seq (.seq (.ifStar (.seq (.call 5 795 [0, 1, 2, 3, 4])
       (.ret 5)) .skip)
   (.assign 7 (.view 0)))
 (.seq (.ifStar (.assign 6 .fresh) (.call 6 793 [7, 1, 4, 4]))
   (.ret 6)))⟩

/-- operators/chol_linear_operator.py:CholLinearOperator.to_dense (line 124); formals ['self'] -/
def f271_operators_chol_linear_operator__CholLinearOperator_to_dense : Fn := ⟨1,
 (.seq (.seq (.assign 2 (.view 0))
   (.seq (.assign 3 (.same 2))
     (.ifStar (.seq (.ifStar (.assign 4 .fresh) (.call 4 829 [3, 1]))
         (.seq (.ifStar (.assign 5 .fresh) (.ifStar (.call 5 798 [3, 4, 1]) (.call 5 797 [4, 3, 1])))
           (.assign 6 (.same 5)))) (.seq (.ifStar (.assign 7 .fresh) (.call 7 829 [3, 1]))
         (.seq (.ifStar (.assign 8 .fresh) (.ifStar (.call 8 798 [7, 3, 1]) (.call 8 797 [3, 7, 1])))
           (.assign 6 (.same 8)))))))
 (.seq (.ifStar (.assign 9 (.maybeView 6)) (.call 9 778 [6, 1, 1, 1, 1, 1]))
   (.seq (.ret 9)
     (.ret 0))))⟩

/-- operators/chol_linear_operator.py:CholLinearOperator.inverse (line 133); formals ['self'] -/
def f272_operators_chol_linear_operator__CholLinearOperator_inverse : Fn := ⟨1,
 (.seq (.seq (.seq (.assign 3 (.view 0))
     (.ifStar (.assign 2 .fresh) (.call 2 827 [3, 1])))
   (.seq (.assign 4 (.same 2))
     (.ifStar (.assign 6 (.same 4)) (.seq (.ifStar (.assign 5 .fresh) (.call 5 829 [4, 1]))
         (.assign 6 (.same 5))))))
 (.seq (.seq (.assign 8 .fresh)
     (.call 7 566 [8, 6, 1]))
   (.seq (.ret 7)
     (.ret 0))))⟩

/-- operators/chol_linear_operator.py:CholLinearOperator.inv_quad (line 142); formals ['self', 'inv_quad_rhs', 'reduce_inv_quad'] -/
def f273_operators_chol_linear_operator__CholLinearOperator_inv_quad : Fn := ⟨3,
 (.seq (.seq (.seq (.ifStar (.seq (.assign 4 (.view 1))
         (.assign 1 (.same 4))) .skip)
     (.ifStar (.seq (.assign 7 (.view 0))
         (.seq (.ifStar (.assign 6 .fresh) (.call 6 829 [7, 3]))
           (.ifStar .skip (.call 5 774 [6, 1, 3, 3])))) (.seq (.assign 9 (.view 0))
         (.ifStar .skip (.call 8 774 [9, 1, 3, 3])))))
   (.seq (.assign 11 .fresh)
     (.call 12 835 [11, 3, 3])))
 (.seq (.seq (.assign 10 .fresh)
     (.assign 13 (.same 10)))
   (.seq (.ifStar (.seq (.assign 14 .fresh)
         (.assign 13 (.same 14))) .skip)
     (.ret 13))))⟩

/-- operators/chol_linear_operator.py:CholLinearOperator.inv_quad_logdet (line 158); formals ['self', 'inv_quad_rhs', 'logdet', 'reduce_inv_quad'] -/
def f274_operators_chol_linear_operator__CholLinearOperator_inv_quad_logdet : Fn := ⟨4,
 (.seq (.seq (.seq (.ifStar (.call 5 767 [0, 4, 4]) .skip)
     (.ifStar (.seq (.call 6 808 [0, 4])
         (.ifStar .skip (.call 7 808 [0, 4]))) .skip))
   (.seq (.assign 8 (.same 4))
     (.assign 9 (.same 4))))
 (.seq (.seq (.ifStar (.seq (.call 10 769 [0, 1, 3, 4])
         (.assign 8 (.same 10))) .skip)
     (.ifStar (.seq (.ifStar (.call 12 879 [0, 4]) .skip)
         (.seq (.assign 11 .fresh)
           (.assign 9 (.same 11)))) .skip))
   (.seq (.assign 13 (.join [8, 9]))
     (.ret 13))))⟩

/-- operators/chol_linear_operator.py:CholLinearOperator.root_inv_decomposition (line 204); formals ['self', 'initial_vectors', 'test_vectors', 'method'] -/
def f275_operators_chol_linear_operator__CholLinearOperator_root_inv_decomposition : Fn := ⟨4,
 (.seq (.seq (.assign 6 (.view 0))
   (.seq (.ifStar (.assign 5 .fresh) (.call 5 827 [6, 4]))
     (.assign 7 (.same 5))))
 (.seq (.seq (.ifStar (.assign 9 (.same 7)) (.seq (.ifStar (.assign 8 .fresh) (.call 8 829 [7, 4]))
         (.assign 9 (.same 8))))
     (.assign 11 .fresh))
   (.seq (.call 10 566 [11, 9, 4])
     (.ret 10))))⟩

/-- operators/chol_linear_operator.py:CholLinearOperator.solve (line 214); formals ['self', 'right_tensor', 'left_tensor'] -/
def f276_operators_chol_linear_operator__CholLinearOperator_solve : Fn := ⟨3,
 (.seq (.seq (.seq (.call 4 703 [3, 3, 3])
     (.ifStar (.seq (.assign 5 (.view 1))
         (.assign 1 (.same 5))) .skip))
   (.seq (.assign 7 (.view 0))
     (.ifStar (.assign 6 .fresh) (.call 6 793 [7, 1, 3, 3]))))
 (.seq (.seq (.assign 8 (.same 6))
     (.ifStar (.seq (.ifStar (.assign 9 (.view 8)) (.call 9 784 [8, 3, 3]))
         (.assign 8 (.same 9))) .skip))
   (.seq (.ifStar (.seq (.ifStar (.assign 10 .fresh) (.ifStar (.call 10 798 [8, 2, 3]) (.call 10 797 [2, 8, 3])))
         (.assign 8 (.same 10))) .skip)
     (.ret 8))))⟩

/-- operators/constant_mul_linear_operator.py:ConstantMulLinearOperator.__init__ (line 66); formals ['self', 'base_linear_op', 'constant'] -/
def f277_operators_constant_mul_linear_operator__ConstantMulLinearOperator___init__ : Fn := ⟨3,
 (.seq (.seq (.ifStar (.seq (.assign 4 .fresh)
       (.assign 2 (.same 4))) .skip)
   (.seq (.assign 6 (.join [1, 2]))
     (.call 5 812 [0, 3, 3, 3, 3, 3, 3, 3, 3, 3, 3, 3, 3, 3, 3, 3, 3, 3, 3, 3, 3, 3, 3, 3, 3, 3, 3, 3, 3, 3, 3, 3, 3, 3, 3, 3, 3, 3, 3, 3, 3, 3, 3, 3, 3, 3, 3, 3, 3, 3, 3, 3, 3, 3, 6])))
 (.seq (.assign 0 (.join [0, 1]))
   (.seq (.assign 0 (.join [0, 2]))
     (.ret 0))))⟩

/-- operators/constant_mul_linear_operator.py:ConstantMulLinearOperator._approx_diagonal (line 74); formals ['self'] -/
def f278_operators_constant_mul_linear_operator__ConstantMulLinearOperator__approx_diagonal : Fn := ⟨1,
 (.seq (.seq (.assign 3 (.view 0))
   (.seq (.call 2 780 [3, 1])
     (.assign 4 (.same 2))))
 (.seq (.seq (.assign 6 (.view 0))
     (.ifStar (.assign 5 (.view 6)) (.call 5 782 [6, 1, 1])))
   (.seq (.ifStar (.assign 7 .fresh) (.ifStar (.call 7 804 [5, 4, 1]) (.call 7 803 [4, 5, 1])))
     (.ret 7))))⟩

/-- operators/constant_mul_linear_operator.py:ConstantMulLinearOperator._diagonal (line 78); formals ['self'] -/
def f279_operators_constant_mul_linear_operator__ConstantMulLinearOperator__diagonal : Fn := ⟨1,
 (.seq (.seq (.assign 3 (.view 0))
   (.seq (.call 2 818 [3, 1])
     (.assign 5 (.view 0))))
 (.seq (.ifStar .skip (.call 4 782 [5, 1, 1]))
   (.seq (.assign 6 .fresh)
     (.ret 6))))⟩

/-- operators/constant_mul_linear_operator.py:ConstantMulLinearOperator._expand_batch (line 82); formals ['self', 'batch_shape'] -/
def f280_operators_constant_mul_linear_operator__ConstantMulLinearOperator__expand_batch : Fn := ⟨2,
 (.seq (.seq (.seq (.assign 4 (.view 0))
     (.call 3 817 [4, 1, 2]))
   (.seq (.ifStar (.seq (.seq (.assign 5 (.join [1]))
           (.assign 7 (.view 0)))
         (.seq (.assign 8 (.join [5]))
           (.seq (.ifStar (.assign 6 (.view 7)) (.call 6 776 [7, 8]))
             (.assign 10 (.same 6))))) (.seq (.assign 9 (.view 0))
         (.assign 10 (.same 9))))
     (.assign 12 .fresh)))
 (.seq (.seq (.assign 14 (.join [3, 10]))
     (.call 13 812 [12, 2, 2, 2, 2, 2, 2, 2, 2, 2, 2, 2, 2, 2, 2, 2, 2, 2, 2, 2, 2, 2, 2, 2, 2, 2, 2, 2, 2, 2, 2, 2, 2, 2, 2, 2, 2, 2, 2, 2, 2, 2, 2, 2, 2, 2, 2, 2, 2, 2, 2, 2, 2, 2, 14]))
   (.seq (.assign 11 (.join [3, 10, 13]))
     (.ret 11))))⟩

/-- operators/constant_mul_linear_operator.py:ConstantMulLinearOperator._get_indices (line 90); formals ['self', 'row_index', 'col_index', 'batch_indices'] -/
def f281_operators_constant_mul_linear_operator__ConstantMulLinearOperator__get_indices : Fn := ⟨4,
 (.seq (.seq (.seq (.assign 5 (.join [3]))
     (.seq (.assign 7 (.view 0))
       (.assign 8 (.join [5]))))
   (.seq (.call 6 857 [7, 1, 2, 8])
     (.seq (.assign 9 (.same 6))
       (.assign 11 (.view 0)))))
 (.seq (.seq (.assign 12 (.join [4]))
     (.seq (.ifStar (.assign 10 (.view 11)) (.call 10 776 [11, 12]))
       (.ifStar (.call 13 789 [10, 3, 4]) (.assign 13 (.maybeView 10)))))
   (.seq (.assign 14 (.same 13))
     (.seq (.ifStar (.assign 15 .fresh) (.ifStar (.call 15 804 [14, 9, 4]) (.call 15 803 [9, 14, 4])))
       (.ret 15)))))⟩

/-- operators/constant_mul_linear_operator.py:ConstantMulLinearOperator._getitem (line 100); formals ['self', 'row_index', 'col_index', 'batch_indices'] -/
def f282_operators_constant_mul_linear_operator__ConstantMulLinearOperator__getitem : Fn := ⟨4,
 (.seq (.seq (.seq (.assign 5 (.join [3]))
     (.seq (.assign 7 (.view 0))
       (.assign 8 (.join [5]))))
   (.seq (.call 6 813 [7, 1, 2, 8])
     (.seq (.assign 9 (.same 6))
       (.assign 11 (.view 0)))))
 (.seq (.seq (.assign 12 (.join [4]))
     (.seq (.ifStar (.assign 10 (.view 11)) (.call 10 776 [11, 12]))
       (.ifStar (.call 13 789 [10, 3, 4]) (.assign 13 (.maybeView 10)))))
   (.seq (.assign 14 (.same 13))
     (.seq (.assign 15 (.opq [9, 14]))
       (.ret 15)))))⟩

/-- operators/constant_mul_linear_operator.py:ConstantMulLinearOperator._matmul (line 110); formals ['self', 'rhs'] -/
def f283_operators_constant_mul_linear_operator__ConstantMulLinearOperator__matmul : Fn := ⟨2,
 (.seq (.seq (.assign 4 (.view 0))
   (.seq (.call 3 815 [4, 1, 2])
     (.assign 5 (.same 3))))
 (.seq (.seq (.ifStar (.call 6 880 [0, 2]) .skip)
     (.assign 7 .fresh))
   (.seq (.assign 5 (.same 7))
     (.ret 5))))⟩

/-- operators/constant_mul_linear_operator.py:ConstantMulLinearOperator._permute_batch (line 118); formals ['self', 'dims'] -/
def f284_operators_constant_mul_linear_operator__ConstantMulLinearOperator__permute_batch : Fn := ⟨2,
 (.seq (.seq (.seq (.assign 3 (.join [1]))
     (.seq (.assign 5 (.view 0))
       (.assign 6 (.join [3]))))
   (.seq (.seq (.call 4 810 [5, 6])
       (.assign 7 (.join [1])))
     (.seq (.assign 10 (.view 0))
       (.assign 11 (.join [2])))))
 (.seq (.seq (.seq (.ifStar (.assign 9 (.view 10)) (.call 9 776 [10, 11]))
       (.assign 12 (.join [7])))
     (.seq (.ifStar (.assign 8 (.view 9)) (.call 8 809 [9, 12]))
       (.assign 14 .fresh)))
   (.seq (.seq (.assign 16 (.join [4, 8]))
       (.call 15 812 [14, 2, 2, 2, 2, 2, 2, 2, 2, 2, 2, 2, 2, 2, 2, 2, 2, 2, 2, 2, 2, 2, 2, 2, 2, 2, 2, 2, 2, 2, 2, 2, 2, 2, 2, 2, 2, 2, 2, 2, 2, 2, 2, 2, 2, 2, 2, 2, 2, 2, 2, 2, 2, 2, 16]))
     (.seq (.assign 13 (.join [4, 8, 15]))
       (.ret 13)))))⟩

/-- operators/constant_mul_linear_operator.py:ConstantMulLinearOperator._bilinear_derivative (line 123); formals ['self', 'left_vecs', 'right_vecs'] -/
def f285_operators_constant_mul_linear_operator__ConstantMulLinearOperator__bilinear_derivative : Fn := ⟨3,
 (.seq (.seq (.seq (.seq (.assign 5 (.view 0))
       (.seq (.call 4 815 [5, 2, 3])
         (.assign 6 .fresh)))
     (.seq (.assign 7 (.same 6))
       (.seq (.assign 8 .fresh)
         (.assign 7 (.same 8)))))
   (.seq (.seq (.whileStar ⟨[[0], [1], [2], [], [2], [0], [], [], [], [], [0]], [], []⟩ (.seq (.seq (.call 9 808 [7, 3])
             (.seq (.assign 10 (.view 0))
               (.call 11 808 [10, 3])))
           (.seq (.call 13 835 [7, 3, 3])
             (.seq (.assign 12 .fresh)
               (.assign 7 (.same 12))))))
       (.seq (.call 14 808 [7, 3])
         (.assign 15 (.view 0))))
     (.seq (.call 16 808 [15, 3])
       (.seq (.assign 17 (.view 0))
         (.call 18 808 [17, 3])))))
 (.seq (.seq (.seq (.assign 19 .fresh)
       (.seq (.whileStar ⟨[[0], [1], [2], [], [2], [0], [], [], [], [], [0], [], [], [], [], [0], [], [0], [], [], [], [], [0], [0]], [], []⟩ (.seq (.seq (.assign 20 (.view 19))
               (.assign 21 (.same 20)))
             (.seq (.assign 22 (.view 0))
               (.seq (.call 23 767 [22, 21, 3])
                 (.ifStar (.seq (.seq (.assign 26 (.join [3]))
                 (.call 25 835 [7, 21, 26]))
                 (.seq (.assign 24 .fresh)
                 (.assign 7 (.same 24)))) .skip)))))
         (.ifStar (.call 27 880 [0, 3]) .skip)))
     (.seq (.assign 28 .fresh)
       (.seq (.assign 1 (.same 28))
         (.assign 30 (.view 0)))))
   (.seq (.seq (.call 29 799 [30, 1, 2, 3])
       (.seq (.assign 31 (.same 29))
         (.assign 32 (.join [31]))))
     (.seq (.assign 33 (.join [7]))
       (.seq (.assign 34 (.join [32, 33]))
         (.ret 34))))))⟩

/-- operators/constant_mul_linear_operator.py:ConstantMulLinearOperator._size (line 139); formals ['self'] -/
def f286_operators_constant_mul_linear_operator__ConstantMulLinearOperator__size : Fn := ⟨1,
 (.seq (.seq (.assign 3 (.view 0))
   (.call 4 767 [3, 1, 1]))
 (.seq (.assign 2 .fresh)
   (.ret 2)))⟩

/-- operators/constant_mul_linear_operator.py:ConstantMulLinearOperator._t_matmul (line 142); formals ['self', 'rhs'] -/
def f287_operators_constant_mul_linear_operator__ConstantMulLinearOperator__t_matmul : Fn := ⟨2,
 (.seq (.seq (.assign 4 (.view 0))
   (.seq (.call 3 878 [4, 1, 2])
     (.assign 5 (.same 3))))
 (.seq (.seq (.ifStar (.call 6 880 [0, 2]) .skip)
     (.assign 7 .fresh))
   (.seq (.assign 5 (.same 7))
     (.ret 5))))⟩

/-- operators/constant_mul_linear_operator.py:ConstantMulLinearOperator._transpose_nonbatch (line 150); formals ['self'] -/
def f288_operators_constant_mul_linear_operator__ConstantMulLinearOperator__transpose_nonbatch : Fn := ⟨1,
 (.seq (.seq (.assign 3 (.view 0))
   (.seq (.call 2 829 [3, 1])
     (.assign 4 (.view 0))))
 (.seq (.assign 6 .fresh)
   (.seq (.call 5 277 [6, 2, 4])
     (.ret 5))))⟩

/-- operators/constant_mul_linear_operator.py:ConstantMulLinearOperator._unsqueeze_batch (line 153); formals ['self', 'dim'] -/
def f289_operators_constant_mul_linear_operator__ConstantMulLinearOperator__unsqueeze_batch : Fn := ⟨2,
 (.seq (.seq (.seq (.assign 3 (.same 2))
     (.seq (.assign 6 (.view 0))
       (.call 5 817 [6, 3, 2])))
   (.seq (.ifStar (.assign 4 .fresh) (.call 4 854 [5, 1, 2]))
     (.seq (.assign 7 (.same 4))
       (.assign 10 (.view 0)))))
 (.seq (.seq (.assign 11 (.join [3]))
     (.seq (.ifStar (.assign 9 (.view 10)) (.call 9 776 [10, 11]))
       (.ifStar (.assign 8 (.view 9)) (.call 8 782 [9, 1, 2]))))
   (.seq (.seq (.assign 12 (.same 8))
       (.assign 14 .fresh))
     (.seq (.call 13 277 [14, 7, 12])
       (.ret 13)))))⟩

/-- operators/constant_mul_linear_operator.py:ConstantMulLinearOperator.expanded_constant (line 160); formals ['self'] -/
def f290_operators_constant_mul_linear_operator__ConstantMulLinearOperator_expanded_constant : Fn := ⟨1,
 (.seq (.ifStar (.seq (.assign 2 (.view 0))
     (.seq (.assign 1 (.view 2))
       (.assign 3 (.same 1)))) (.seq (.ifStar (.assign 2 (.view 0)) .skip)
     (.seq (.ifStar (.assign 1 (.view 2)) .skip)
       (.ifStar (.assign 3 (.same 1)) .skip))))
 (.ret 3))⟩

/-- operators/constant_mul_linear_operator.py:ConstantMulLinearOperator.to_dense (line 174); formals ['self'] -/
def f291_operators_constant_mul_linear_operator__ConstantMulLinearOperator_to_dense : Fn := ⟨1,
 (.seq (.seq (.assign 3 (.view 0))
   (.seq (.call 2 778 [3, 1, 1, 1, 1, 1])
     (.ifStar (.call 4 880 [0, 1]) .skip)))
 (.seq (.assign 5 .fresh)
   (.seq (.ret 5)
     (.ret 0))))⟩

/-- operators/constant_mul_linear_operator.py:ConstantMulLinearOperator.root_decomposition (line 179); formals ['self', 'method'] -/
def f292_operators_constant_mul_linear_operator__ConstantMulLinearOperator_root_decomposition : Fn := ⟨2,
 (.seq (.seq (.ifStar (.seq (.seq (.seq (.assign 4 (.view 0))
           (.call 3 772 [4, 1, 2]))
         (.seq (.assign 5 (.view 3))
           (.seq (.assign 6 (.same 5))
             (.assign 7 .fresh))))
       (.seq (.seq (.assign 9 .fresh)
           (.call 8 277 [9, 6, 7]))
         (.seq (.assign 11 .fresh)
           (.seq (.call 10 566 [11, 8, 2])
             (.ret 10))))) .skip)
   (.call 12 772 [0, 1, 2]))
 (.seq (.ret 12)
   (.ret 0)))⟩

/-- operators/constant_mul_linear_operator.py:ConstantMulLinearOperator.root_inv_decomposition (line 189); formals ['self', 'initial_vectors', 'test_vectors', 'method'] -/
def f293_operators_constant_mul_linear_operator__ConstantMulLinearOperator_root_inv_decomposition : Fn := ⟨4,
 (.seq (.seq (.ifStar (.seq (.seq (.seq (.assign 6 (.view 0))
           (.call 5 773 [6, 1, 2, 3, 4]))
         (.seq (.assign 7 (.view 5))
           (.seq (.assign 8 (.same 7))
             (.assign 9 .fresh))))
       (.seq (.seq (.assign 11 .fresh)
           (.call 10 277 [11, 8, 9]))
         (.seq (.assign 13 .fresh)
           (.seq (.call 12 566 [13, 10, 4])
             (.ret 12))))) .skip)
   (.call 14 773 [0, 1, 2, 3, 4]))
 (.seq (.ret 14)
   (.ret 0)))⟩

/-- operators/dense_linear_operator.py:DenseLinearOperator._check_args (line 15); formals ['self', 'tsr'] -/
def f294_operators_dense_linear_operator__DenseLinearOperator__check_args : Fn := ⟨2,
 (.seq (.ifStar (.seq (.assign 3 .fresh)
     (.ret 3)) .skip)
 (.seq (.call 4 808 [1, 2])
   (.ifStar (.seq (.assign 5 .fresh)
       (.ret 5)) .skip)))⟩

/-- operators/dense_linear_operator.py:DenseLinearOperator.__init__ (line 23); formals ['self', 'tsr'] -/
def f295_operators_dense_linear_operator__DenseLinearOperator___init__ : Fn := ⟨2,
 (.seq (.seq (.assign 4 (.join [1]))
   (.call 3 812 [0, 2, 2, 2, 2, 2, 2, 2, 2, 2, 2, 2, 2, 2, 2, 2, 2, 2, 2, 2, 2, 2, 2, 2, 2, 2, 2, 2, 2, 2, 2, 2, 2, 2, 2, 2, 2, 2, 2, 2, 2, 2, 2, 2, 2, 2, 2, 2, 2, 2, 2, 2, 2, 2, 4]))
 (.seq (.assign 0 (.join [0, 1]))
   (.ret 0)))⟩

/-- operators/dense_linear_operator.py:DenseLinearOperator._cholesky_solve (line 33); formals ['self', 'rhs', 'upper'] -/
def f296_operators_dense_linear_operator__DenseLinearOperator__cholesky_solve : Fn := ⟨3,
 (.seq (.call 4 778 [0, 3, 3, 3, 3, 3])
 (.seq (.assign 5 .fresh)
   (.ret 5)))⟩

/-- operators/dense_linear_operator.py:DenseLinearOperator._diagonal (line 40); formals ['self'] -/
def f297_operators_dense_linear_operator__DenseLinearOperator__diagonal : Fn := ⟨1,
 (.seq (.assign 3 (.view 0))
 (.seq (.ifStar (.assign 2 (.view 3)) (.call 2 866 [3, 1, 1, 1, 1]))
   (.ret 2)))⟩

/-- operators/dense_linear_operator.py:DenseLinearOperator._expand_batch (line 43); formals ['self', 'batch_shape'] -/
def f298_operators_dense_linear_operator__DenseLinearOperator__expand_batch : Fn := ⟨2,
 (.seq (.seq (.seq (.assign 3 (.join [1, 2]))
     (.assign 5 (.view 0)))
   (.seq (.assign 6 (.join [3]))
     (.ifStar (.assign 4 (.view 5)) (.call 4 776 [5, 6]))))
 (.seq (.seq (.assign 8 .fresh)
     (.assign 10 (.join [4])))
   (.seq (.call 9 812 [8, 2, 2, 2, 2, 2, 2, 2, 2, 2, 2, 2, 2, 2, 2, 2, 2, 2, 2, 2, 2, 2, 2, 2, 2, 2, 2, 2, 2, 2, 2, 2, 2, 2, 2, 2, 2, 2, 2, 2, 2, 2, 2, 2, 2, 2, 2, 2, 2, 2, 2, 2, 2, 2, 10])
     (.seq (.assign 7 (.join [4, 9]))
       (.ret 7)))))⟩

/-- operators/dense_linear_operator.py:DenseLinearOperator._get_indices (line 48); formals ['self', 'row_index', 'col_index', 'batch_indices'] -/
def f299_operators_dense_linear_operator__DenseLinearOperator__get_indices : Fn := ⟨4,
 (.seq (.seq (.assign 5 (.view 0))
   (.assign 6 (.join [1, 2, 3])))
 (.seq (.ifStar (.call 7 789 [5, 6, 4]) (.assign 7 (.maybeView 5)))
   (.seq (.assign 8 (.same 7))
     (.ret 8))))⟩

def chunk4 : List Fn := [
  f240_operators_cat_linear_operator__cat,
  f241_operators_cat_linear_operator__CatLinearOperator__check_args,
  f242_operators_cat_linear_operator__CatLinearOperator___init__,
  f243_operators_cat_linear_operator__CatLinearOperator__split_slice,
  f244_operators_cat_linear_operator__CatLinearOperator__diagonal,
  f245_operators_cat_linear_operator__CatLinearOperator__expand_batch,
  f246_operators_cat_linear_operator__CatLinearOperator__get_indices,
  f247_operators_cat_linear_operator__CatLinearOperator__getitem,
  f248_operators_cat_linear_operator__CatLinearOperator__matmul,
  f249_operators_cat_linear_operator__CatLinearOperator__permute_batch,
  f250_operators_cat_linear_operator__CatLinearOperator__size,
  f251_operators_cat_linear_operator__CatLinearOperator__transpose_nonbatch,
  f252_operators_cat_linear_operator__CatLinearOperator__unsqueeze_batch,
  f253_operators_cat_linear_operator__CatLinearOperator_to_dense,
  f254_operators_cat_linear_operator__CatLinearOperator_inv_quad_logdet,
  f255_operators_cat_linear_operator__CatLinearOperator_device,
  f256_operators_cat_linear_operator__CatLinearOperator_devices,
  f257_operators_cat_linear_operator__CatLinearOperator_device_count,
  f258_operators_cat_linear_operator__CatLinearOperator_to,
  f259_operators_cat_linear_operator__CatLinearOperator_all_to,
  f260_operators_chol_linear_operator__CholLinearOperator___init__,
  f261_operators_chol_linear_operator__CholLinearOperator__chol_diag,
  f262_operators_chol_linear_operator__CholLinearOperator__cholesky,
  f263_operators_chol_linear_operator__CholLinearOperator__diagonal,
  f264_operators_chol_linear_operator__CholLinearOperator__getitem,
  f265_operators_chol_linear_operator__CholLinearOperator__get_indices,
  f266_operators_chol_linear_operator__CholLinearOperator__mul_constant,
  f267_operators_chol_linear_operator__CholLinearOperator__matmul,
  f268_operators_chol_linear_operator__CholLinearOperator__root_decomposition,
  f269_operators_chol_linear_operator__CholLinearOperator_root_decomposition,
  f270_operators_chol_linear_operator__CholLinearOperator__solve,
  f271_operators_chol_linear_operator__CholLinearOperator_to_dense,
  f272_operators_chol_linear_operator__CholLinearOperator_inverse,
  f273_operators_chol_linear_operator__CholLinearOperator_inv_quad,
  f274_operators_chol_linear_operator__CholLinearOperator_inv_quad_logdet,
  f275_operators_chol_linear_operator__CholLinearOperator_root_inv_decomposition,
  f276_operators_chol_linear_operator__CholLinearOperator_solve,
  f277_operators_constant_mul_linear_operator__ConstantMulLinearOperator___init__,
  f278_operators_constant_mul_linear_operator__ConstantMulLinearOperator__approx_diagonal,
  f279_operators_constant_mul_linear_operator__ConstantMulLinearOperator__diagonal,
  f280_operators_constant_mul_linear_operator__ConstantMulLinearOperator__expand_batch,
  f281_operators_constant_mul_linear_operator__ConstantMulLinearOperator__get_indices,
  f282_operators_constant_mul_linear_operator__ConstantMulLinearOperator__getitem,
  f283_operators_constant_mul_linear_operator__ConstantMulLinearOperator__matmul,
  f284_operators_constant_mul_linear_operator__ConstantMulLinearOperator__permute_batch,
  f285_operators_constant_mul_linear_operator__ConstantMulLinearOperator__bilinear_derivative,
  f286_operators_constant_mul_linear_operator__ConstantMulLinearOperator__size,
  f287_operators_constant_mul_linear_operator__ConstantMulLinearOperator__t_matmul,
  f288_operators_constant_mul_linear_operator__ConstantMulLinearOperator__transpose_nonbatch,
  f289_operators_constant_mul_linear_operator__ConstantMulLinearOperator__unsqueeze_batch,
  f290_operators_constant_mul_linear_operator__ConstantMulLinearOperator_expanded_constant,
  f291_operators_constant_mul_linear_operator__ConstantMulLinearOperator_to_dense,
  f292_operators_constant_mul_linear_operator__ConstantMulLinearOperator_root_decomposition,
  f293_operators_constant_mul_linear_operator__ConstantMulLinearOperator_root_inv_decomposition,
  f294_operators_dense_linear_operator__DenseLinearOperator__check_args,
  f295_operators_dense_linear_operator__DenseLinearOperator___init__,
  f296_operators_dense_linear_operator__DenseLinearOperator__cholesky_solve,
  f297_operators_dense_linear_operator__DenseLinearOperator__diagonal,
  f298_operators_dense_linear_operator__DenseLinearOperator__expand_batch,
  f299_operators_dense_linear_operator__DenseLinearOperator__get_indices]

end LinOp.Generated.C13P
