import LinOp.Generated.C13Sigma
-- GENERATED by harness/extract/c13_alias.py (do not edit)
namespace LinOp.Generated.C13P
open LinOp.C13

/-- candidate summaries (mutated formals, formals the result may alias), checked by `tableOK` -/
def sigma : List Summary := [
  ⟨[], [0, 1, 2]⟩,
  ⟨[], [0, 1, 2]⟩,
  ⟨[], [0, 1]⟩,
  ⟨[], [0, 1]⟩,
  ⟨[], [0]⟩,
  ⟨[], [0]⟩,
  ⟨[], []⟩,
  ⟨[], [0, 1]⟩,
  ⟨[], [0, 1]⟩,
  ⟨[], [0, 1, 2]⟩,
  ⟨[], [0]⟩,
  ⟨[], [0]⟩,
  ⟨[], [0, 1, 2]⟩,
  ⟨[], [0, 1, 2]⟩,
  ⟨[], []⟩,
  ⟨[], []⟩,
  ⟨[], []⟩,
  ⟨[], []⟩,
  ⟨[], []⟩,
  ⟨[], []⟩,
  ⟨[], []⟩,
  ⟨[], []⟩,
  ⟨[2], []⟩,
  ⟨[], []⟩,
  ⟨[], []⟩,
  ⟨[], []⟩,
  ⟨[], [0]⟩,
  ⟨[], []⟩,
  ⟨[], []⟩,
  ⟨[], [0, 1]⟩,
  ⟨[], [0, 1, 2, 3]⟩,
  ⟨[], [0, 1]⟩,
  ⟨[], [3]⟩,
  ⟨[], []⟩,
  ⟨[], [0]⟩,
  ⟨[], [0]⟩,
  ⟨[], [0]⟩,
  ⟨[], [0, 1]⟩,
  ⟨[], []⟩,
  ⟨[], [0, 1, 2]⟩,
  ⟨[], []⟩,
  ⟨[], []⟩,
  ⟨[], []⟩,
  ⟨[], [0]⟩,
  ⟨[], [0, 1, 2, 3]⟩,
  ⟨[], [0, 1]⟩,
  ⟨[], []⟩,
  ⟨[], [0]⟩,
  ⟨[], [0, 3]⟩,
  ⟨[], [0]⟩,
  ⟨[], []⟩,
  ⟨[], [0]⟩,
  ⟨[], [0]⟩,
  ⟨[], [0, 1]⟩,
  ⟨[], []⟩,
  ⟨[], []⟩,
  ⟨[], [0]⟩,
  ⟨[], [0, 1]⟩,
  ⟨[], [0, 1]⟩,
  ⟨[], []⟩,
  ⟨[], []⟩,
  ⟨[], [0]⟩,
  ⟨[], []⟩,
  ⟨[], []⟩,
  ⟨[], []⟩,
  ⟨[], []⟩,
  ⟨[], []⟩,
  ⟨[], [0]⟩,
  ⟨[], [0]⟩,
  ⟨[], [0]⟩,
  ⟨[], []⟩,
  ⟨[], [1]⟩,
  ⟨[], []⟩,
  ⟨[], [0, 1]⟩,
  ⟨[], [0, 1]⟩,
  ⟨[], [0]⟩,
  ⟨[], [0, 1]⟩,
  ⟨[], []⟩,
  ⟨[], []⟩,
  ⟨[], [0, 1, 2]⟩,
  ⟨[], [0]⟩,
  ⟨[], [0]⟩,
  ⟨[], [0]⟩,
  ⟨[], [0]⟩,
  ⟨[], []⟩,
  ⟨[], [0]⟩,
  ⟨[], [0]⟩,
  ⟨[], [0]⟩,
  ⟨[], [0]⟩,
  ⟨[], []⟩,
  ⟨[], [0]⟩,
  ⟨[], []⟩,
  ⟨[], []⟩,
  ⟨[], [0]⟩,
  ⟨[], [0]⟩,
  ⟨[], [0]⟩,
  ⟨[], []⟩,
  ⟨[], [0]⟩,
  ⟨[], []⟩,
  ⟨[], []⟩,
  ⟨[], [0, 1]⟩,
  ⟨[], [0, 1]⟩,
  ⟨[], []⟩,
  ⟨[], []⟩,
  ⟨[], []⟩,
  ⟨[], []⟩,
  ⟨[], []⟩,
  ⟨[], [0]⟩,
  ⟨[], [0, 1]⟩,
  ⟨[], []⟩,
  ⟨[], [0]⟩,
  ⟨[], [0, 1]⟩,
  ⟨[], []⟩,
  ⟨[], []⟩,
  ⟨[], []⟩,
  ⟨[], [0]⟩,
  ⟨[], [0]⟩,
  ⟨[], [0, 1, 2]⟩,
  ⟨[], [0]⟩,
  ⟨[], [0]⟩,
  ⟨[], [0]⟩,
  ⟨[], [0]⟩,
  ⟨[], []⟩,
  ⟨[], []⟩,
  ⟨[], [0]⟩,
  ⟨[], [0]⟩,
  ⟨[], [0, 1]⟩,
  ⟨[], [0]⟩,
  ⟨[], [0]⟩,
  ⟨[], [0]⟩,
  ⟨[], [0]⟩,
  ⟨[], [0, 1, 2]⟩,
  ⟨[], []⟩,
  ⟨[], []⟩,
  ⟨[], [0, 1, 2]⟩,
  ⟨[], [0]⟩,
  ⟨[], [0, 1]⟩,
  ⟨[], [0]⟩,
  ⟨[], [0]⟩,
  ⟨[], [0]⟩,
  ⟨[], [0]⟩,
  ⟨[], [0]⟩,
  ⟨[], [0, 1, 2]⟩,
  ⟨[], [0]⟩,
  ⟨[], [0]⟩,
  ⟨[], [0, 1]⟩,
  ⟨[], [0, 1]⟩,
  ⟨[], [0]⟩,
  ⟨[], [0, 1]⟩,
  ⟨[], [0, 1]⟩,
  ⟨[], [0, 1]⟩,
  ⟨[], []⟩,
  ⟨[], [0, 1]⟩,
  ⟨[], [0, 1]⟩,
  ⟨[], [0, 1]⟩,
  ⟨[], [0, 1, 2]⟩,
  ⟨[], [0, 1]⟩,
  ⟨[], [0, 1]⟩,
  ⟨[], [3, 4]⟩,
  ⟨[], [0]⟩,
  ⟨[], [0]⟩,
  ⟨[], [0]⟩,
  ⟨[], [0]⟩,
  ⟨[], [0, 1, 2]⟩,
  ⟨[], []⟩,
  ⟨[], [0, 1]⟩,
  ⟨[], [0, 1]⟩,
  ⟨[], [0]⟩,
  ⟨[], []⟩,
  ⟨[], []⟩,
  ⟨[], []⟩,
  ⟨[], [0]⟩,
  ⟨[], [0]⟩,
  ⟨[], [0]⟩,
  ⟨[], [0, 1, 2]⟩,
  ⟨[], [0, 1]⟩,
  ⟨[], [0, 1]⟩,
  ⟨[], []⟩,
  ⟨[], [0]⟩,
  ⟨[], [0, 1, 2]⟩,
  ⟨[], [0, 1, 2, 3]⟩,
  ⟨[], [1]⟩,
  ⟨[], [1]⟩,
  ⟨[], [1]⟩,
  ⟨[], [0]⟩,
  ⟨[], []⟩,
  ⟨[], [0]⟩,
  ⟨[], [0]⟩,
  ⟨[], []⟩,
  ⟨[], [0]⟩,
  ⟨[], [0]⟩,
  ⟨[], [0]⟩,
  ⟨[], [0, 1]⟩,
  ⟨[], [0]⟩,
  ⟨[], [0]⟩,
  ⟨[], [0]⟩,
  ⟨[], [0, 1, 2]⟩,
  ⟨[], [0]⟩,
  ⟨[], []⟩,
  ⟨[], [1]⟩,
  ⟨[], [0, 1]⟩,
  ⟨[], [0, 1]⟩,
  ⟨[], [0]⟩,
  ⟨[], [0, 5]⟩,
  ⟨[], []⟩,
  ⟨[], [1]⟩,
  ⟨[], [0]⟩,
  ⟨[], [0]⟩,
  ⟨[], []⟩,
  ⟨[], [0, 1]⟩,
  ⟨[], [0, 1]⟩,
  ⟨[], [0, 1]⟩,
  ⟨[], [0]⟩,
  ⟨[], [0]⟩,
  ⟨[], []⟩,
  ⟨[], [1]⟩,
  ⟨[], [0, 1]⟩,
  ⟨[], [0, 1]⟩,
  ⟨[], [0]⟩,
  ⟨[], [0, 5]⟩,
  ⟨[], []⟩,
  ⟨[], [1]⟩,
  ⟨[], [0]⟩,
  ⟨[], [0]⟩,
  ⟨[], []⟩,
  ⟨[], [0, 1]⟩,
  ⟨[], [0, 1]⟩,
  ⟨[], [0, 1]⟩,
  ⟨[], []⟩,
  ⟨[], [0]⟩,
  ⟨[], [0, 1, 2, 3]⟩,
  ⟨[], []⟩,
  ⟨[], [1]⟩,
  ⟨[], []⟩,
  ⟨[], [0]⟩,
  ⟨[], [0, 1]⟩,
  ⟨[], []⟩,
  ⟨[], [0, 1]⟩,
  ⟨[], [0]⟩,
  ⟨[], [0]⟩,
  ⟨[], [0, 1, 2]⟩,
  ⟨[], []⟩,
  ⟨[], [0, 1, 2, 3]⟩,
  ⟨[], []⟩,
  ⟨[], []⟩,
  ⟨[], [0, 1]⟩,
  ⟨[], [0, 1, 2, 3]⟩,
  ⟨[], [0, 1, 2, 3]⟩,
  ⟨[], [1]⟩,
  ⟨[], [0]⟩,
  ⟨[], []⟩,
  ⟨[], [0]⟩,
  ⟨[], [0, 1]⟩,
  ⟨[], []⟩,
  ⟨[], [0, 1]⟩,
  ⟨[], [0]⟩,
  ⟨[], []⟩,
  ⟨[], []⟩,
  ⟨[], [0, 1, 2]⟩,
  ⟨[], [0, 1]⟩,
  ⟨[], [0, 2]⟩,
  ⟨[], [0]⟩,
  ⟨[], [0]⟩,
  ⟨[], [0]⟩,
  ⟨[], [0, 1, 2, 3]⟩,
  ⟨[], [0, 1, 2, 3]⟩,
  ⟨[], [0, 1]⟩,
  ⟨[], [1]⟩,
  ⟨[], [0]⟩,
  ⟨[], [0]⟩,
  ⟨[], [0, 1]⟩,
  ⟨[], [0]⟩,
  ⟨[], [0]⟩,
  ⟨[], []⟩,
  ⟨[], [0, 1]⟩,
  ⟨[], [0]⟩,
  ⟨[], [0, 1, 2]⟩,
  ⟨[], [0, 1, 2]⟩,
  ⟨[], [0]⟩,
  ⟨[], []⟩,
  ⟨[], [0, 1]⟩,
  ⟨[], [0, 1, 2, 3]⟩,
  ⟨[], [0, 1, 2, 3]⟩,
  ⟨[], []⟩,
  ⟨[], [0]⟩,
  ⟨[], []⟩,
  ⟨[], []⟩,
  ⟨[], []⟩,
  ⟨[], [0]⟩,
  ⟨[], [0, 1]⟩,
  ⟨[], [0]⟩,
  ⟨[], [0]⟩,
  ⟨[], [0]⟩,
  ⟨[], [0]⟩,
  ⟨[], []⟩,
  ⟨[], [0, 1]⟩,
  ⟨[], []⟩,
  ⟨[], [0]⟩,
  ⟨[], [0]⟩,
  ⟨[], [0, 1, 2, 3]⟩,
  ⟨[], [0, 1, 2, 3]⟩,
  ⟨[], []⟩,
  ⟨[], []⟩,
  ⟨[], []⟩,
  ⟨[], []⟩,
  ⟨[], []⟩,
  ⟨[], []⟩,
  ⟨[], [0]⟩,
  ⟨[], []⟩,
  ⟨[], [0]⟩,
  ⟨[], [0, 1]⟩,
  ⟨[], [0]⟩,
  ⟨[], [0, 1]⟩,
  ⟨[], [0, 1]⟩,
  ⟨[], []⟩,
  ⟨[], [0]⟩,
  ⟨[], []⟩,
  ⟨[], [0]⟩,
  ⟨[], [0]⟩,
  ⟨[], []⟩,
  ⟨[], []⟩,
  ⟨[], [0, 1]⟩,
  ⟨[], []⟩,
  ⟨[], []⟩,
  ⟨[], []⟩,
  ⟨[], []⟩,
  ⟨[], []⟩,
  ⟨[], [1]⟩,
  ⟨[], [0]⟩,
  ⟨[], []⟩,
  ⟨[], []⟩,
  ⟨[], [0]⟩,
  ⟨[], [0]⟩,
  ⟨[], []⟩,
  ⟨[], []⟩,
  ⟨[], []⟩,
  ⟨[], [0, 1]⟩,
  ⟨[], [0, 1]⟩,
  ⟨[], [1, 2]⟩,
  ⟨[], [0, 1]⟩,
  ⟨[], []⟩,
  ⟨[], [0, 1, 2]⟩,
  ⟨[], []⟩,
  ⟨[], [0]⟩,
  ⟨[], [0]⟩,
  ⟨[], [0, 1, 2]⟩,
  ⟨[], [0, 1]⟩,
  ⟨[], []⟩,
  ⟨[], [0]⟩,
  ⟨[], [0]⟩,
  ⟨[], []⟩,
  ⟨[], [0, 1]⟩,
  ⟨[], []⟩,
  ⟨[], []⟩,
  ⟨[], []⟩,
  ⟨[], []⟩,
  ⟨[], [0]⟩,
  ⟨[], []⟩,
  ⟨[], []⟩,
  ⟨[], [0, 1]⟩,
  ⟨[], []⟩,
  ⟨[], []⟩,
  ⟨[], [0, 1, 2, 3]⟩,
  ⟨[], []⟩,
  ⟨[], [0]⟩,
  ⟨[], [0]⟩,
  ⟨[], [1]⟩,
  ⟨[], [0]⟩,
  ⟨[], [1]⟩,
  ⟨[], [1]⟩,
  ⟨[], [0, 1, 2, 3]⟩,
  ⟨[], [1]⟩,
  ⟨[], []⟩,
  ⟨[], [0]⟩,
  ⟨[], []⟩,
  ⟨[], []⟩,
  ⟨[], []⟩,
  ⟨[], []⟩,
  ⟨[], [0]⟩,
  ⟨[], [0]⟩,
  ⟨[], [1]⟩,
  ⟨[], [0]⟩,
  ⟨[], []⟩,
  ⟨[], [0]⟩,
  ⟨[], [0]⟩,
  ⟨[], [0]⟩,
  ⟨[], []⟩,
  ⟨[], [0]⟩,
  ⟨[], [1]⟩,
  ⟨[], [1, 2]⟩,
  ⟨[], [0]⟩,
  ⟨[], [1, 2]⟩,
  ⟨[], [1]⟩,
  ⟨[], []⟩,
  ⟨[], [0, 1, 2]⟩,
  ⟨[], []⟩,
  ⟨[], [0, 1, 2, 3, 4, 5]⟩,
  ⟨[], []⟩,
  ⟨[], [0]⟩,
  ⟨[], [0, 1]⟩,
  ⟨[], []⟩,
  ⟨[], [0, 1, 2, 3]⟩,
  ⟨[], []⟩,
  ⟨[], [0, 1]⟩,
  ⟨[], []⟩,
  ⟨[], []⟩,
  ⟨[], []⟩,
  ⟨[], [0]⟩,
  ⟨[], [0, 1, 2]⟩,
  ⟨[], [0, 1, 2]⟩,
  ⟨[], [0]⟩,
  ⟨[], [0, 1]⟩,
  ⟨[], []⟩,
  ⟨[], [0, 1, 2]⟩,
  ⟨[], [0, 1, 2, 3, 4]⟩,
  ⟨[], [0]⟩,
  ⟨[], [0]⟩,
  ⟨[], [0, 1]⟩,
  ⟨[], []⟩,
  ⟨[], [0]⟩,
  ⟨[], [0, 1, 2, 3]⟩,
  ⟨[], [0, 1, 2, 3]⟩,
  ⟨[], []⟩,
  ⟨[], [0, 1, 2]⟩,
  ⟨[], [0, 1, 2, 3, 4, 5, 6]⟩,
  ⟨[], [0]⟩,
  ⟨[], [0]⟩,
  ⟨[], [0, 1, 2, 3]⟩,
  ⟨[], [0, 1, 2, 3]⟩,
  ⟨[], [0, 1]⟩,
  ⟨[], [0]⟩,
  ⟨[], []⟩,
  ⟨[], [0]⟩,
  ⟨[], [0, 1]⟩,
  ⟨[], [0]⟩,
  ⟨[], [0]⟩,
  ⟨[], [0, 2]⟩,
  ⟨[], [0, 1]⟩,
  ⟨[], [0]⟩,
  ⟨[], []⟩,
  ⟨[], [0, 1]⟩,
  ⟨[], [0]⟩,
  ⟨[], [0]⟩,
  ⟨[], [0]⟩,
  ⟨[], [0, 1]⟩,
  ⟨[], [0]⟩,
  ⟨[], [0]⟩,
  ⟨[], [2]⟩,
  ⟨[], [2]⟩,
  ⟨[], [0, 1]⟩,
  ⟨[], [0, 1]⟩,
  ⟨[], [0, 1]⟩,
  ⟨[], [0]⟩,
  ⟨[], [0]⟩,
  ⟨[], [0, 1]⟩,
  ⟨[], [0, 1]⟩,
  ⟨[], [0]⟩,
  ⟨[], [0, 1]⟩,
  ⟨[], [0, 3]⟩,
  ⟨[], [0]⟩,
  ⟨[], [0, 1, 2]⟩,
  ⟨[], []⟩,
  ⟨[], [1]⟩,
  ⟨[], [0]⟩,
  ⟨[], [0]⟩,
  ⟨[], [0]⟩,
  ⟨[], [0]⟩,
  ⟨[], [0]⟩,
  ⟨[], [1]⟩,
  ⟨[], [0]⟩,
  ⟨[], [0, 1]⟩,
  ⟨[], [0]⟩,
  ⟨[], [0]⟩,
  ⟨[], [0, 1]⟩,
  ⟨[], []⟩,
  ⟨[], [0, 1, 2]⟩,
  ⟨[], [0]⟩,
  ⟨[], []⟩,
  ⟨[], [0]⟩,
  ⟨[], [0]⟩,
  ⟨[], [0, 1]⟩,
  ⟨[], []⟩,
  ⟨[], []⟩,
  ⟨[], []⟩,
  ⟨[], []⟩,
  ⟨[], []⟩,
  ⟨[], [0]⟩,
  ⟨[], []⟩,
  ⟨[], []⟩,
  ⟨[], [0, 1]⟩,
  ⟨[], [0, 1]⟩,
  ⟨[], [0]⟩,
  ⟨[], [0]⟩,
  ⟨[], [0, 1]⟩,
  ⟨[], []⟩,
  ⟨[], [0, 1]⟩,
  ⟨[], []⟩,
  ⟨[], [0]⟩,
  ⟨[], []⟩,
  ⟨[], [0, 1]⟩,
  ⟨[], [0]⟩,
  ⟨[], [0, 1, 2]⟩,
  ⟨[], []⟩,
  ⟨[], [0, 1]⟩,
  ⟨[], [0, 1, 2, 3]⟩,
  ⟨[], []⟩,
  ⟨[], [0]⟩,
  ⟨[], [0]⟩,
  ⟨[], []⟩,
  ⟨[], [0]⟩,
  ⟨[], [0]⟩,
  ⟨[], [0]⟩,
  ⟨[], []⟩,
  ⟨[], [0, 1]⟩,
  ⟨[], [0, 1]⟩,
  ⟨[], [0, 1, 2, 3]⟩,
  ⟨[], [0, 3]⟩,
  ⟨[], [0]⟩,
  ⟨[], [0, 1, 2]⟩,
  ⟨[], [0]⟩,
  ⟨[], [0]⟩,
  ⟨[], [0, 1, 2]⟩,
  ⟨[], [0, 1]⟩,
  ⟨[], []⟩,
  ⟨[], [0]⟩,
  ⟨[], [0, 1, 2, 3]⟩,
  ⟨[], [1]⟩,
  ⟨[], [1]⟩,
  ⟨[], []⟩,
  ⟨[], [0]⟩,
  ⟨[], []⟩,
  ⟨[], [0]⟩,
  ⟨[], [0]⟩,
  ⟨[], []⟩,
  ⟨[], [0, 1, 2]⟩,
  ⟨[], []⟩,
  ⟨[], [0, 1, 2, 3]⟩,
  ⟨[], []⟩,
  ⟨[], [0, 1]⟩,
  ⟨[], []⟩,
  ⟨[], [0, 1]⟩,
  ⟨[], [0]⟩,
  ⟨[], []⟩,
  ⟨[], [0]⟩,
  ⟨[], [0]⟩,
  ⟨[], [0]⟩,
  ⟨[], [0]⟩,
  ⟨[], [0, 1]⟩,
  ⟨[], []⟩,
  ⟨[], []⟩,
  ⟨[], [0]⟩,
  ⟨[], [0, 1, 2]⟩,
  ⟨[], [1]⟩,
  ⟨[], []⟩,
  ⟨[], []⟩,
  ⟨[], [0]⟩,
  ⟨[], []⟩,
  ⟨[], [0, 1]⟩,
  ⟨[], [1]⟩,
  ⟨[], []⟩,
  ⟨[], []⟩,
  ⟨[], [0]⟩,
  ⟨[], [0]⟩,
  ⟨[], [0, 1]⟩,
  ⟨[], []⟩,
  ⟨[], []⟩,
  ⟨[], [0, 1]⟩,
  ⟨[], [0]⟩,
  ⟨[], [0, 1]⟩,
  ⟨[], []⟩,
  ⟨[], [0, 1, 2, 3]⟩,
  ⟨[], [1]⟩,
  ⟨[], [0, 1]⟩,
  ⟨[], [1]⟩,
  ⟨[], [0, 1]⟩,
  ⟨[], [0]⟩,
  ⟨[], [0]⟩,
  ⟨[], []⟩,
  ⟨[], []⟩,
  ⟨[], [0]⟩,
  ⟨[], [0]⟩,
  ⟨[], [1]⟩,
  ⟨[], []⟩,
  ⟨[], []⟩,
  ⟨[], [0, 1, 2, 3]⟩,
  ⟨[], []⟩,
  ⟨[], []⟩,
  ⟨[], []⟩,
  ⟨[], [0]⟩,
  ⟨[], [0, 1]⟩,
  ⟨[], [0, 1]⟩,
  ⟨[], [0]⟩,
  ⟨[], [0]⟩,
  ⟨[], [0]⟩,
  ⟨[], [0]⟩,
  ⟨[], [0, 1]⟩,
  ⟨[], []⟩,
  ⟨[], [0, 1]⟩,
  ⟨[], []⟩,
  ⟨[], [0, 1, 2, 3]⟩,
  ⟨[], []⟩,
  ⟨[], [0, 1]⟩,
  ⟨[], []⟩,
  ⟨[], []⟩,
  ⟨[], [0]⟩,
  ⟨[], []⟩,
  ⟨[], [0]⟩,
  ⟨[], [0]⟩,
  ⟨[], [0, 1]⟩,
  ⟨[], [0, 1]⟩,
  ⟨[], [0]⟩,
  ⟨[], [0]⟩,
  ⟨[], [0, 3]⟩,
  ⟨[], []⟩,
  ⟨[], [1]⟩,
  ⟨[], []⟩,
  ⟨[], []⟩,
  ⟨[], [0]⟩,
  ⟨[], [0]⟩,
  ⟨[], [0, 1, 2]⟩,
  ⟨[], [0, 1]⟩,
  ⟨[], []⟩,
  ⟨[], [0, 1]⟩,
  ⟨[], [0]⟩,
  ⟨[], [0, 1]⟩,
  ⟨[], [0, 1, 2, 3]⟩,
  ⟨[], [0, 1]⟩,
  ⟨[], [0, 1]⟩,
  ⟨[], []⟩,
  ⟨[], []⟩,
  ⟨[], []⟩,
  ⟨[], []⟩,
  ⟨[], [0, 1]⟩,
  ⟨[], [0]⟩,
  ⟨[], [0]⟩,
  ⟨[], []⟩,
  ⟨[], [0, 1]⟩,
  ⟨[], [0]⟩,
  ⟨[], [0]⟩,
  ⟨[], []⟩,
  ⟨[], [0]⟩,
  ⟨[], [0, 1, 2]⟩,
  ⟨[], [0, 1]⟩,
  ⟨[], [0, 1]⟩,
  ⟨[], [0]⟩,
  ⟨[], [0, 1, 2, 3]⟩,
  ⟨[], []⟩,
  ⟨[], [0]⟩,
  ⟨[], [0]⟩,
  ⟨[], [0]⟩,
  ⟨[], []⟩,
  ⟨[], []⟩,
  ⟨[], [0, 1]⟩,
  ⟨[], []⟩,
  ⟨[], [0]⟩,
  ⟨[], []⟩,
  ⟨[], [0]⟩,
  ⟨[], [0]⟩,
  ⟨[], []⟩,
  ⟨[], []⟩,
  ⟨[], []⟩,
  ⟨[], []⟩,
  ⟨[], [0]⟩,
  ⟨[], []⟩,
  ⟨[], [0]⟩,
  ⟨[], [0, 1]⟩,
  ⟨[], [1]⟩,
  ⟨[], [0]⟩,
  ⟨[], []⟩,
  ⟨[], []⟩,
  ⟨[], []⟩,
  ⟨[], []⟩,
  ⟨[], [0]⟩,
  ⟨[], []⟩,
  ⟨[], [0]⟩,
  ⟨[], [0, 1, 2]⟩,
  ⟨[], [0, 1]⟩,
  ⟨[], [0]⟩,
  ⟨[], [1]⟩,
  ⟨[], [0]⟩,
  ⟨[], []⟩,
  ⟨[], [0, 1, 2, 3]⟩,
  ⟨[], []⟩,
  ⟨[], []⟩,
  ⟨[], []⟩,
  ⟨[], [0]⟩,
  ⟨[], []⟩,
  ⟨[], []⟩,
  ⟨[], [0, 1]⟩,
  ⟨[], []⟩,
  ⟨[], []⟩,
  ⟨[], [0]⟩,
  ⟨[], []⟩,
  ⟨[], [0, 1]⟩,
  ⟨[], []⟩,
  ⟨[], []⟩,
  ⟨[], []⟩,
  ⟨[], [0, 1, 2, 3]⟩,
  ⟨[], []⟩,
  ⟨[], []⟩,
  ⟨[], [0, 1, 2, 3]⟩,
  ⟨[], []⟩,
  ⟨[], []⟩,
  ⟨[], [0]⟩,
  ⟨[], [0]⟩,
  ⟨[1], [1]⟩,
  ⟨[2], [2]⟩,
  ⟨[], [3, 4]⟩,
  ⟨[], [0, 1]⟩,
  ⟨[], [0, 1, 3]⟩,
  ⟨[], [0, 1, 3]⟩,
  ⟨[], [0]⟩,
  ⟨[], [0]⟩,
  ⟨[], [0, 1]⟩,
  ⟨[], []⟩,
  ⟨[], [1]⟩,
  ⟨[], []⟩,
  ⟨[], []⟩,
  ⟨[], []⟩,
  ⟨[], []⟩,
  ⟨[], []⟩,
  ⟨[], []⟩,
  ⟨[], []⟩,
  ⟨[], [1]⟩,
  ⟨[], []⟩,
  ⟨[0, 2, 4, 7, 8, 9], []⟩,
  ⟨[1, 3, 4, 6, 7, 9, 10, 11], []⟩,
  ⟨[], []⟩,
  ⟨[], [0, 1]⟩,
  ⟨[], [2]⟩,
  ⟨[], [0]⟩,
  ⟨[], [0, 1, 2]⟩,
  ⟨[], [0, 1]⟩,
  ⟨[], []⟩,
  ⟨[], [0, 1]⟩,
  ⟨[], [0, 1]⟩,
  ⟨[], [2]⟩,
  ⟨[], [0]⟩,
  ⟨[], []⟩,
  ⟨[], [2]⟩,
  ⟨[], [0]⟩,
  ⟨[], []⟩,
  ⟨[], []⟩,
  ⟨[], []⟩,
  ⟨[0, 5, 10, 13, 14, 15, 16, 17, 20, 21, 22, 23], []⟩,
  ⟨[], [0]⟩,
  ⟨[], []⟩,
  ⟨[], []⟩,
  ⟨[], []⟩,
  ⟨[], []⟩,
  ⟨[], []⟩,
  ⟨[], []⟩,
  ⟨[], []⟩,
  ⟨[], [0]⟩,
  ⟨[], [0]⟩,
  ⟨[], [0, 1, 2]⟩,
  ⟨[], []⟩,
  ⟨[], []⟩,
  ⟨[], [0]⟩,
  ⟨[], [0]⟩,
  ⟨[], [0, 1]⟩,
  ⟨[], [0]⟩,
  ⟨[], []⟩,
  ⟨[], []⟩,
  ⟨[], []⟩,
  ⟨[], [0, 1]⟩,
  ⟨[], [0]⟩,
  ⟨[], [0]⟩,
  ⟨[], [0]⟩,
  ⟨[], [0, 1]⟩,
  ⟨[], [0, 1]⟩,
  ⟨[], [0, 1, 2]⟩,
  ⟨[], [0]⟩,
  ⟨[], [0]⟩,
  ⟨[], [0, 1, 2]⟩,
  ⟨[], [0, 1, 2]⟩,
  ⟨[], [0]⟩,
  ⟨[], [0]⟩,
  ⟨[], [0]⟩,
  ⟨[], [0]⟩,
  ⟨[], [0]⟩,
  ⟨[], [0]⟩,
  ⟨[], [0, 1]⟩,
  ⟨[], [0]⟩,
  ⟨[], [0]⟩,
  ⟨[], [0, 1]⟩,
  ⟨[], [0, 1]⟩,
  ⟨[], [0]⟩,
  ⟨[], [0]⟩,
  ⟨[], [0, 1]⟩,
  ⟨[6], [0, 1, 4]⟩,
  ⟨[], []⟩,
  ⟨[], [0]⟩,
  ⟨[], [0, 1]⟩,
  ⟨[], [0]⟩,
  ⟨[], [0, 1]⟩,
  ⟨[], []⟩,
  ⟨[], [0, 1]⟩,
  ⟨[], [0, 1]⟩,
  ⟨[], []⟩,
  ⟨[], [0]⟩,
  ⟨[], [0]⟩,
  ⟨[], [0]⟩,
  ⟨[], [0, 1]⟩,
  ⟨[], [0, 1]⟩,
  ⟨[], [0, 1]⟩,
  ⟨[], []⟩,
  ⟨[], [0]⟩,
  ⟨[], []⟩,
  ⟨[], [0]⟩,
  ⟨[], [0]⟩,
  ⟨[], [0]⟩,
  ⟨[], [0, 1, 2, 3, 4, 5, 6, 7, 8, 9, 10, 11, 12, 13, 14, 15, 16, 17, 18, 19, 20, 21, 22, 23, 24, 25, 26, 27, 28, 29, 30, 31, 32, 33, 34, 35, 36, 37, 38, 39, 40, 41, 42, 43, 44, 45, 46, 47, 48, 49, 50, 51, 52, 53, 54]⟩,
  ⟨[], [0, 1, 2, 3]⟩,
  ⟨[], [0]⟩,
  ⟨[], [1, 2]⟩,
  ⟨[], [0]⟩,
  ⟨[], [0, 1]⟩,
  ⟨[], [0]⟩,
  ⟨[], [0]⟩,
  ⟨[], []⟩,
  ⟨[], [0]⟩,
  ⟨[], [0, 1, 3]⟩,
  ⟨[], [0]⟩,
  ⟨[], [0, 1]⟩,
  ⟨[], [0, 1]⟩,
  ⟨[], [0, 1, 2]⟩,
  ⟨[], [0]⟩,
  ⟨[], [0, 1]⟩,
  ⟨[], [0]⟩,
  ⟨[], [0]⟩,
  ⟨[], [0]⟩,
  ⟨[], [0]⟩,
  ⟨[], [0, 1]⟩,
  ⟨[], [0, 1]⟩,
  ⟨[], [0]⟩,
  ⟨[], []⟩,
  ⟨[], []⟩,
  ⟨[], []⟩,
  ⟨[], [0]⟩,
  ⟨[], [0, 1]⟩,
  ⟨[], [0, 1]⟩,
  ⟨[], [0]⟩,
  ⟨[], []⟩,
  ⟨[], []⟩,
  ⟨[], [0]⟩,
  ⟨[], [0]⟩,
  ⟨[], [0]⟩,
  ⟨[], [0]⟩,
  ⟨[], [0]⟩,
  ⟨[], [0]⟩,
  ⟨[], [0]⟩,
  ⟨[], [0, 1, 2]⟩,
  ⟨[], [0, 1]⟩,
  ⟨[], [0, 1]⟩,
  ⟨[], [0, 1]⟩,
  ⟨[], [0]⟩,
  ⟨[], [0, 1, 2, 3]⟩,
  ⟨[], [0, 1]⟩,
  ⟨[], [0]⟩,
  ⟨[], [0]⟩,
  ⟨[], []⟩,
  ⟨[], [0, 1]⟩,
  ⟨[], [0]⟩,
  ⟨[], []⟩,
  ⟨[], []⟩,
  ⟨[], [0]⟩,
  ⟨[], [0]⟩,
  ⟨[], [0]⟩,
  ⟨[], [1]⟩,
  ⟨[], [1]⟩,
  ⟨[], []⟩,
  ⟨[], [1]⟩,
  ⟨[], [1]⟩,
  ⟨[], [0, 5]⟩,
  ⟨[], [0]⟩,
  ⟨[], []⟩,
  ⟨[], []⟩,
  ⟨[], [1, 2]⟩,
  ⟨[], [0]⟩,
  ⟨[], [0]⟩,
  ⟨[], [0]⟩,
  ⟨[], [0]⟩,
  ⟨[], [1]⟩,
  ⟨[], [0, 1, 2]⟩,
  ⟨[], [0, 1, 2]⟩,
  ⟨[], [0, 1]⟩,
  ⟨[], [0]⟩,
  ⟨[], [0]⟩,
  ⟨[], [0]⟩,
  ⟨[], [0, 1, 2]⟩,
  ⟨[], [0]⟩,
  ⟨[], []⟩,
  ⟨[], []⟩,
  ⟨[], []⟩,
  ⟨[], []⟩,
  ⟨[], [0]⟩,
  ⟨[], []⟩,
  ⟨[], []⟩,
  ⟨[], [0]⟩,
  ⟨[], []⟩,
  ⟨[], []⟩,
  ⟨[], []⟩,
  ⟨[], [0]⟩,
  ⟨[], [0, 1]⟩,
  ⟨[], [1, 2]⟩,
  ⟨[], [0, 1, 2]⟩,
  ⟨[], [0, 1, 2]⟩]

end LinOp.Generated.C13P
