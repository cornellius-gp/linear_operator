import LinOp.C13.Model
import LinOp.Generated.C13Sigma
-- GENERATED by harness/extract/c13_alias.py from /repo/linear_operator (do not edit)
namespace LinOp.Generated.C13
open LinOp.C13

/-- operators/_linear_operator.py:LinearOperator._probe_vectors_and_norms (line 643); formals ['self'] -/
def f60_operators__linear_operator__LinearOperator__probe_vectors_and_norms : Fn := ⟨1,
 (.seq (.assign 2 (.join [1]))
 (.ret 2))⟩

/-- operators/_linear_operator.py:LinearOperator._prod_batch (line 649); formals ['self', 'dim'] -/
def f61_operators__linear_operator__LinearOperator__prod_batch : Fn := ⟨2,
 (.seq (.seq (.seq (.call 3 767 [0, 1, 2])
     (.ifStar (.seq (.call 4 784 [0, 1, 2])
         (.ret 4)) .skip))
   (.seq (.call 6 772 [0, 2, 2])
     (.assign 7 (.view 6))))
 (.seq (.seq (.ifStar (.assign 5 (.maybeView 7)) (.call 5 778 [7, 2, 2, 2, 2, 2]))
     (.assign 8 (.same 5)))
   (.seq (.call 9 767 [8, 1, 2])
     (.seq (.whileStar ⟨[[0], [1], [], [0], [0], [0], [0], [0], [0], [0], [], [], [0], [], [], [], [], [], [], [], [0], [], [0], [0], [], [], [], [], [], [], [0], [], [0], [0], [0], [0], [0], [], [0], [], [0], [], [0], [0], [], [0], [], [0], [], [0], [0], [0]], [], [0]⟩ (.seq (.seq (.seq (.seq (.ifStar (.seq (.seq (.assign 10 (.join [2]))
                 (.seq (.assign 11 (.same 10))
                 (.assign 11 (.join [2, 11]))))
                 (.seq (.call 12 767 [0, 2, 2])
                 (.seq (.assign 13 .fresh)
                 (.assign 8 (.same 13))))) .skip)
                 (.seq (.assign 14 (.join [2]))
                 (.call 16 808 [8, 2])))
               (.seq (.assign 15 .fresh)
                 (.seq (.assign 17 (.join [14, 15]))
                 (.assign 18 (.same 17)))))
             (.seq (.seq (.assign 19 .fresh)
                 (.seq (.assign 18 (.join [18, 19]))
                 (.assign 21 (.join [18]))))
               (.seq (.ifStar (.call 22 789 [8, 21, 2]) (.assign 22 (.maybeView 8)))
                 (.seq (.assign 20 (.maybeView 22))
                 (.assign 23 (.same 20))))))
           (.seq (.seq (.seq (.assign 24 (.join [2]))
                 (.seq (.call 26 808 [8, 2])
                 (.assign 25 .fresh)))
               (.seq (.assign 27 (.join [24, 25]))
                 (.seq (.assign 28 (.same 27))
                 (.assign 29 .fresh))))
             (.seq (.seq (.assign 28 (.join [28, 29]))
                 (.seq (.assign 31 (.join [28]))
                 (.ifStar (.call 32 789 [8, 31, 2]) (.assign 32 (.maybeView 8)))))
               (.seq (.assign 30 (.maybeView 32))
                 (.seq (.assign 33 (.same 30))
                 (.ifStar (.seq (.seq (.seq (.ifStar (.assign 34 (.view 23)) (.call 34 784 [23, 1, 2]))
                 (.assign 23 (.same 34)))
                 (.seq (.ifStar (.assign 35 (.view 33)) (.call 35 784 [33, 1, 2]))
                 (.seq (.assign 33 (.same 35))
                 (.assign 37 .fresh))))
                 (.seq (.seq (.call 36 566 [37, 23, 2])
                 (.seq (.assign 39 .fresh)
                 (.call 38 566 [39, 33, 2])))
                 (.seq (.assign 41 .fresh)
                 (.seq (.call 40 534 [41, 36, 38])
                 (.assign 42 (.same 40)))))) (.seq (.seq (.seq (.assign 44 .fresh)
                 (.call 43 566 [44, 23, 2]))
                 (.seq (.assign 46 .fresh)
                 (.seq (.call 45 566 [46, 33, 2])
                 (.assign 48 .fresh))))
                 (.seq (.seq (.call 47 534 [48, 43, 45])
                 (.seq (.assign 42 (.same 47))
                 (.call 50 772 [42, 2, 2])))
                 (.seq (.assign 51 (.view 50))
                 (.seq (.ifStar (.assign 49 (.maybeView 51)) (.call 49 778 [51, 2, 2, 2, 2, 2]))
                 (.assign 8 (.same 49)))))))))))))
       (.ret 42)))))⟩

/-- operators/_linear_operator.py:LinearOperator._root_decomposition (line 703); formals ['self'] -/
def f62_operators__linear_operator__LinearOperator__root_decomposition : Fn := ⟨1,
 (.seq (.seq (.seq (.call 2 779 [0, 1])
     (.call 3 820 [0, 1]))
   (.seq (.call 4 814 [0, 1])
     (.seq (.assign 5 (.join [4]))
       (.assign 7 .fresh))))
 (.seq (.seq (.assign 8 (.join [5]))
     (.call 6 27 [7, 2, 3, 1, 1, 1, 1, 1, 1, 1, 8]))
   (.seq (.assign 9 (.view 6))
     (.seq (.assign 10 (.same 9))
       (.ret 10)))))⟩

/-- operators/_linear_operator.py:LinearOperator._root_decomposition_size (line 729); formals ['self'] -/
def f63_operators__linear_operator__LinearOperator__root_decomposition_size : Fn := ⟨1,
 (.seq (.assign 1 .fresh)
 (.ret 1))⟩

/-- operators/_linear_operator.py:LinearOperator._root_inv_decomposition (line 737); formals ['self', 'initial_vectors', 'test_vectors'] -/
def f64_operators__linear_operator__LinearOperator__root_inv_decomposition : Fn := ⟨3,
 (.seq (.seq (.seq (.call 4 779 [0, 3])
     (.seq (.call 5 820 [0, 3])
       (.call 6 814 [0, 3])))
   (.seq (.assign 7 (.join [6]))
     (.seq (.assign 9 .fresh)
       (.assign 10 (.join [7])))))
 (.seq (.seq (.call 8 27 [9, 4, 5, 3, 3, 3, 3, 3, 3, 1, 10])
     (.seq (.assign 11 (.view 8))
       (.assign 12 (.same 11))))
   (.seq (.seq (.assign 13 (.view 8))
       (.assign 14 (.same 13)))
     (.seq (.ifStar (.seq (.seq (.ifStar (.call 15 789 [12, 3, 3]) (.assign 15 (.view 12)))
             (.assign 17 .fresh))
           (.seq (.call 16 566 [17, 15, 3])
             (.call 18 729 [0, 3, 16, 3, 3]))) (.seq (.assign 20 .fresh)
           (.seq (.call 19 566 [20, 12, 3])
             (.call 21 729 [0, 3, 19, 3, 3]))))
       (.ret 14)))))⟩

/-- operators/_linear_operator.py:LinearOperator._set_requires_grad (line 777); formals ['self', 'val'] -/
def f65_operators__linear_operator__LinearOperator__set_requires_grad : Fn := ⟨2,
 (.seq (.seq (.seq (.assign 3 (.view 0))
     (.ifStar (.call 3 807 [0, 2]) .skip))
   (.seq (.assign 4 (.same 3))
     (.whileStar ⟨[[0], [1], [], [0], [0], [0], [0], [0]], [], []⟩ (.seq (.assign 5 (.view 4))
         (.seq (.assign 6 (.same 5))
           (.ifStar (.ifStar (.ifStar .skip (.call 7 788 [6, 1, 2])) .skip) .skip))))))
 (.seq (.seq (.assign 9 (.view 0))
     (.ifStar (.call 9 811 [0, 2]) .skip))
   (.seq (.assign 10 (.same 9))
     (.seq (.assign 8 (.join [10]))
       (.whileStar ⟨[[0], [1], [], [0], [0], [0], [0], [0], [0], [0], [0], [0], [0]], [], []⟩ (.seq (.assign 11 (.view 8))
           (.seq (.assign 6 (.same 11))
             (.ifStar (.ifStar (.ifStar .skip (.call 12 788 [6, 1, 2])) .skip) .skip))))))))⟩

/-- operators/_linear_operator.py:LinearOperator._solve (line 795); formals ['self', 'rhs', 'preconditioner', 'num_tridiag'] -/
def f66_operators__linear_operator__LinearOperator__solve : Fn := ⟨4,
 (.seq (.seq (.assign 5 (.view 0))
   (.assign 6 .fresh))
 (.seq (.assign 7 .fresh)
   (.seq (.call 8 727 [5, 1, 3, 4, 4, 4, 6, 7, 4, 2])
     (.ret 8))))⟩

/-- operators/_linear_operator.py:LinearOperator._solve_preconditioner (line 819); formals ['self'] -/
def f67_operators__linear_operator__LinearOperator__solve_preconditioner : Fn := ⟨1,
 (.seq (.seq (.call 2 821 [0, 1])
   (.assign 3 (.view 2)))
 (.seq (.assign 4 (.same 3))
   (.ifStar (.ret 4) (.ifStar (.seq (.ifStar (.seq (.seq (.assign 5 (.view 0))
               (.seq (.assign 6 (.view 5))
                 (.assign 7 (.same 6))))
             (.seq (.seq (.assign 8 (.view 5))
                 (.assign 9 (.same 8)))
               (.seq (.assign 10 (.view 5))
                 (.assign 11 (.same 10))))) (.seq (.seq (.seq (.seq (.call 12 767 [0, 1, 1])
                 (.call 13 767 [0, 1, 1]))
                 (.seq (.assign 14 .fresh)
                 (.assign 15 (.same 14))))
               (.seq (.seq (.call 16 815 [0, 15, 1])
                 (.assign 17 .fresh))
                 (.seq (.assign 18 (.same 17))
                 (.seq (.call 19 815 [0, 18, 1])
                 (.assign 20 .fresh)))))
             (.seq (.seq (.seq (.assign 21 (.view 20))
                 (.assign 7 (.same 21)))
                 (.seq (.assign 22 (.view 20))
                 (.seq (.assign 9 (.same 22))
                 (.assign 23 (.view 20)))))
               (.seq (.seq (.assign 11 (.same 23))
                 (.ifStar (.assign 24 .fresh) (.call 24 805 [18, 7, 1])))
                 (.seq (.assign 7 (.same 24))
                 (.seq (.assign 25 (.join [7, 9, 11]))
                 (.assign 0 (.join [0, 25]))))))))
         (.seq (.assign 26 (.join [7, 9, 11]))
           (.ret 26))) (.ret 1)))))⟩

/-- operators/_linear_operator.py:LinearOperator._sum_batch (line 864); formals ['self', 'dim'] -/
def f68_operators__linear_operator__LinearOperator__sum_batch : Fn := ⟨2,
 (.seq (.assign 3 .fresh)
 (.seq (.call 2 227 [3, 0, 1])
   (.ret 2)))⟩

/-- operators/_linear_operator.py:LinearOperator._svd (line 879); formals ['self'] -/
def f69_operators__linear_operator__LinearOperator__svd : Fn := ⟨1,
 (.seq (.seq (.seq (.call 2 823 [0, 1, 1, 1])
     (.seq (.assign 3 (.view 2))
       (.assign 4 (.same 3))))
   (.seq (.seq (.assign 5 .fresh)
       (.assign 6 (.same 5)))
     (.seq (.ifStar (.assign 7 (.view 6)) (.call 7 782 [6, 1, 1]))
       (.ifStar (.assign 8 .fresh) (.ifStar (.call 8 804 [7, 4, 1]) (.call 8 803 [4, 7, 1]))))))
 (.seq (.seq (.assign 9 (.same 8))
     (.seq (.assign 10 .fresh)
       (.assign 11 (.same 10))))
   (.seq (.seq (.assign 12 (.same 4))
       (.assign 13 (.join [9, 11, 12])))
     (.seq (.ret 13)
       (.ret 0)))))⟩

/-- operators/_linear_operator.py:LinearOperator._symeig (line 894); formals ['self', 'eigenvectors', 'return_evals_as_lazy'] -/
def f70_operators__linear_operator__LinearOperator__symeig : Fn := ⟨3,
 (.seq (.seq (.seq (.assign 4 (.same 3))
     (.seq (.call 5 778 [0, 3, 3, 3, 3, 3])
       (.assign 6 .fresh)))
   (.seq (.seq (.assign 7 (.view 6))
       (.assign 8 (.same 7)))
     (.seq (.assign 9 (.view 6))
       (.assign 10 (.same 9)))))
 (.seq (.seq (.assign 12 .fresh)
     (.seq (.assign 13 (.join [4]))
       (.ifStar (.assign 11 (.maybeView 12)) (.call 11 824 [12, 13]))))
   (.seq (.seq (.assign 8 (.same 11))
       (.ifStar (.seq (.seq (.assign 15 (.join [4]))
             (.ifStar (.assign 14 (.maybeView 10)) (.call 14 824 [10, 15])))
           (.seq (.assign 17 .fresh)
             (.seq (.call 16 295 [17, 14])
               (.assign 10 (.same 16))))) (.assign 10 (.same 3))))
     (.seq (.assign 18 (.join [8, 10]))
       (.ret 18)))))⟩

/-- operators/_linear_operator.py:LinearOperator._t_matmul (line 919); formals ['self', 'rhs'] -/
def f71_operators__linear_operator__LinearOperator__t_matmul : Fn := ⟨2,
 (.seq (.seq (.assign 4 (.view 0))
   (.ifStar (.call 4 777 [0, 2]) .skip))
 (.seq (.assign 5 (.same 4))
   (.seq (.call 3 815 [5, 1, 2])
     (.ret 3))))⟩

/-- operators/_linear_operator.py:LinearOperator.abs (line 940); formals ['self'] -/
def f72_operators__linear_operator__LinearOperator_abs : Fn := ⟨1,
 .skip⟩

/-- operators/_linear_operator.py:LinearOperator.add (line 946); formals ['self', 'other', 'alpha'] -/
def f73_operators__linear_operator__LinearOperator_add : Fn := ⟨3,
 (.ifStar (.seq (.ifStar (.call 4 826 [1, 0, 3, 3]) (.call 4 825 [0, 1, 3]))
   (.ret 4)) (.seq (.assign 5 .fresh)
   (.seq (.ifStar (.call 6 826 [5, 0, 3, 3]) (.call 6 825 [0, 5, 3]))
     (.ret 6))))⟩

/-- operators/_linear_operator.py:LinearOperator.add_diagonal (line 969); formals ['self', 'diag'] -/
def f74_operators__linear_operator__LinearOperator_add_diagonal : Fn := ⟨2,
 (.seq (.seq (.ifStar (.seq (.seq (.ifStar (.seq (.assign 3 (.view 1))
             (.assign 4 (.same 3))) (.seq (.ifStar (.assign 3 (.view 1)) .skip)
             (.ifStar (.assign 4 (.same 3)) .skip)))
         (.assign 6 .fresh))
       (.seq (.call 5 312 [6, 4])
         (.assign 7 (.same 5)))) (.seq (.seq (.ifStar (.seq (.assign 8 (.view 1))
             (.assign 4 (.same 8))) (.seq (.ifStar (.assign 8 (.view 1)) .skip)
             (.ifStar (.assign 4 (.same 8)) .skip)))
         (.assign 10 .fresh))
       (.seq (.call 9 345 [10, 4, 2])
         (.assign 7 (.same 9)))))
   (.assign 12 .fresh))
 (.seq (.assign 13 (.join [0, 7]))
   (.seq (.call 11 163 [12, 2, 13])
     (.ret 11))))⟩

/-- operators/_linear_operator.py:LinearOperator.add_jitter (line 1019); formals ['self', 'jitter_val'] -/
def f75_operators__linear_operator__LinearOperator_add_jitter : Fn := ⟨2,
 (.seq (.seq (.assign 3 .fresh)
   (.assign 4 (.same 3)))
 (.seq (.call 5 765 [0, 4, 2])
   (.ret 5)))⟩

/-- operators/_linear_operator.py:LinearOperator.add_low_rank (line 1035); formals ['self', 'low_rank_mat', 'root_decomp_method', 'root_inv_decomp_method', 'generate_roots', 'root_decomp_kwargs'] -/
def f76_operators__linear_operator__LinearOperator_add_low_rank : Fn := ⟨6,
 (.seq (.seq (.seq (.seq (.seq (.ifStar (.seq (.seq (.assign 7 (.view 1))
               (.seq (.ifStar (.call 7 777 [1, 6]) .skip)
                 (.assign 8 (.same 7))))
             (.seq (.seq (.ifStar (.assign 9 .fresh) (.call 9 805 [1, 8, 6]))
                 (.call 10 311 [9]))
               (.seq (.ifStar (.call 11 826 [10, 0, 6, 6]) (.call 11 825 [0, 10, 6]))
                 (.assign 12 (.same 11))))) (.seq (.seq (.seq (.assign 13 (.view 0))
                 (.seq (.assign 14 (.view 1))
                 (.ifStar (.call 14 777 [1, 6]) .skip)))
               (.seq (.assign 15 (.same 14))
                 (.seq (.ifStar (.assign 16 .fresh) (.call 16 805 [1, 15, 6]))
                 (.call 17 311 [16]))))
             (.seq (.seq (.assign 18 (.join [13]))
                 (.seq (.assign 20 .fresh)
                 (.assign 21 (.join [17, 18]))))
               (.seq (.seq (.assign 22 (.join [17, 18]))
                 (.call 19 595 [20, 21, 22]))
                 (.seq (.assign 12 (.same 19))
                 (.ifStar (.seq (.call 23 778 [12, 6, 6, 6, 6, 6])
                 (.seq (.call 24 311 [23])
                 (.assign 12 (.same 24)))) .skip))))))
         (.assign 25 .fresh))
       (.seq (.assign 27 (.join [6]))
         (.seq (.assign 28 (.view 27))
           (.assign 26 (.same 28)))))
     (.seq (.seq (.whileStar ⟨[[0], [1], [2], [3], [4], [5], [], [1], [1], [1], [1], [0, 1], [0, 1], [0], [1], [1], [1], [1], [0], [0, 1], [], [0, 1], [0, 1], [0, 1], [0, 1]], [], []⟩ (.seq (.seq (.assign 29 (.join [6]))
               (.assign 30 (.view 29)))
             (.seq (.assign 26 (.same 30))
               (.seq (.call 31 741 [0, 26])
                 (.assign 25 (.join [25, 31]))))))
         (.seq (.ifStar (.ret 12) .skip)
           (.assign 32 (.join [5]))))
       (.seq (.assign 34 (.join [32]))
         (.seq (.call 33 772 [0, 2, 34])
           (.assign 35 (.view 33))))))
   (.seq (.seq (.seq (.assign 36 (.same 35))
         (.call 37 773 [0, 6, 6, 3, 6]))
       (.seq (.assign 38 (.view 37))
         (.seq (.assign 39 (.view 38))
           (.ifStar (.call 39 777 [38, 6]) .skip))))
     (.seq (.seq (.assign 40 (.same 39))
         (.seq (.assign 41 (.same 40))
           (.ifStar (.assign 42 .fresh) (.call 42 805 [41, 1, 6]))))
       (.seq (.assign 43 (.same 42))
         (.seq (.call 44 162 [43])
           (.assign 43 (.same 44)))))))
 (.seq (.seq (.seq (.seq (.assign 45 .fresh)
         (.assign 46 (.view 45)))
       (.seq (.assign 47 (.same 46))
         (.seq (.assign 48 .fresh)
           (.ifStar (.assign 49 .fresh) (.call 49 805 [47, 48, 6])))))
     (.seq (.seq (.assign 50 (.same 49))
         (.seq (.ifStar (.seq (.ifStar (.assign 51 .fresh) (.call 51 805 [36, 50, 6]))
               (.assign 52 (.same 51))) (.seq (.ifStar .skip (.call 53 778 [36, 6, 6, 6, 6, 6]))
               (.seq (.assign 54 .fresh)
                 (.assign 52 (.same 54)))))
           (.assign 55 .fresh)))
       (.seq (.ifStar (.assign 56 .fresh) (.call 56 805 [47, 55, 6]))
         (.seq (.assign 57 (.same 56))
           (.assign 59 (.view 41))))))
   (.seq (.seq (.seq (.ifStar (.call 59 777 [41, 6]) .skip)
         (.assign 60 (.same 59)))
       (.seq (.ifStar (.assign 58 .fresh) (.call 58 805 [60, 57, 6]))
         (.seq (.assign 61 (.same 58))
           (.assign 63 .fresh))))
     (.seq (.seq (.call 62 566 [63, 52, 6])
         (.seq (.call 64 729 [12, 6, 62, 6, 6])
           (.assign 66 .fresh)))
       (.seq (.call 65 566 [66, 61, 6])
         (.seq (.call 67 729 [12, 6, 65, 6, 6])
           (.ret 12)))))))⟩

/-- operators/_linear_operator.py:LinearOperator.batch_dim (line 1154); formals ['self'] -/
def f77_operators__linear_operator__LinearOperator_batch_dim : Fn := ⟨1,
 (.seq (.assign 1 .fresh)
 (.ret 1))⟩

/-- operators/_linear_operator.py:LinearOperator.batch_shape (line 1158); formals ['self'] -/
def f78_operators__linear_operator__LinearOperator_batch_shape : Fn := ⟨1,
 (.ret 1)⟩

/-- operators/_linear_operator.py:LinearOperator.cat_rows (line 1161); formals ['self', 'cross_mat', 'new_mat', 'generate_roots', 'generate_inv_roots', 'root_decomp_kwargs'] -/
def f79_operators__linear_operator__LinearOperator_cat_rows : Fn := ⟨6,
 (.seq (.seq (.seq (.seq (.seq (.seq (.call 7 311 [1])
           (.assign 8 (.same 1)))
         (.seq (.assign 9 (.same 7))
           (.assign 10 (.same 8))))
       (.seq (.seq (.assign 11 (.same 9))
           (.call 12 311 [2]))
         (.seq (.assign 13 (.same 12))
           (.call 14 796 [0, 6]))))
     (.seq (.seq (.seq (.ifStar (.seq (.seq (.assign 15 .fresh)
                 (.seq (.assign 16 (.join [6, 15]))
                 (.assign 17 (.same 16))))
               (.seq (.assign 19 (.join [17]))
                 (.seq (.call 18 776 [0, 19])
                 (.assign 20 (.same 18))))) (.assign 20 (.same 0)))
           (.assign 22 .fresh))
         (.seq (.assign 23 (.join [11, 20]))
           (.call 21 242 [22, 6, 6, 23])))
       (.seq (.seq (.assign 24 (.same 21))
           (.assign 25 (.view 11)))
         (.seq (.ifStar (.call 25 777 [11, 6]) .skip)
           (.assign 26 (.same 25))))))
   (.seq (.seq (.seq (.seq (.assign 28 .fresh)
           (.assign 29 (.join [13, 26])))
         (.seq (.call 27 242 [28, 6, 6, 29])
           (.assign 30 (.same 27))))
       (.seq (.seq (.assign 32 .fresh)
           (.assign 33 (.join [24, 30])))
         (.seq (.call 31 242 [32, 6, 6, 33])
           (.assign 34 (.same 31)))))
     (.seq (.seq (.seq (.assign 35 .fresh)
           (.assign 37 (.join [6])))
         (.seq (.assign 38 (.view 37))
           (.assign 36 (.same 38))))
       (.seq (.seq (.whileStar ⟨[[0], [1], [2], [3], [4], [5], [], [1], [1], [1], [1], [1], [2], [2], [], [], [], [], [0], [], [0], [0, 1], [], [0, 1], [0, 1], [1], [1], [1, 2], [], [1, 2], [1, 2], [0, 1, 2], [], [0, 1, 2], [0, 1, 2]], [], []⟩ (.seq (.seq (.assign 39 (.join [6]))
                 (.assign 40 (.view 39)))
               (.seq (.assign 36 (.same 40))
                 (.seq (.call 41 741 [0, 36])
                 (.assign 35 (.join [35, 41]))))))
           (.ifStar (.ret 34) .skip))
         (.seq (.assign 42 (.join [5]))
           (.assign 44 (.join [42])))))))
 (.seq (.seq (.seq (.seq (.seq (.call 43 772 [0, 42, 44])
           (.assign 45 (.view 43)))
         (.seq (.assign 46 (.same 45))
           (.call 48 773 [0, 6, 6, 6, 6])))
       (.seq (.seq (.assign 49 (.view 48))
           (.ifStar (.assign 47 (.maybeView 49)) (.call 47 778 [49, 6, 6, 6, 6, 6])))
         (.seq (.assign 50 (.same 47))
           (.ifStar (.assign 51 .fresh) (.ifStar (.call 51 798 [50, 10, 6]) (.call 51 797 [10, 50, 6]))))))
     (.seq (.seq (.seq (.assign 52 (.same 51))
           (.assign 53 (.view 52)))
         (.seq (.ifStar (.call 53 777 [52, 6]) .skip)
           (.assign 54 (.same 53))))
       (.seq (.seq (.ifStar (.assign 55 .fresh) (.call 55 805 [52, 54, 6]))
           (.ifStar (.assign 56 .fresh) (.ifStar (.call 56 786 [55, 13, 6, 6]) (.call 56 785 [13, 55, 6]))))
         (.seq (.assign 57 (.same 56))
           (.call 59 311 [57])))))
   (.seq (.seq (.seq (.seq (.ifStar (.assign 58 .fresh) (.call 58 772 [59, 6, 6]))
           (.assign 60 (.view 58)))
         (.seq (.assign 61 (.same 60))
           (.call 62 767 [61, 6, 6])))
       (.seq (.seq (.assign 63 .fresh)
           (.assign 64 (.same 63)))
         (.seq (.ifStar .skip (.call 65 778 [46, 6, 6, 6, 6, 6]))
           (.write 64))))
     (.seq (.seq (.seq (.write 64)
           (.ifStar .skip (.call 66 778 [61, 6, 6, 6, 6, 6])))
         (.seq (.write 64)
           (.ifStar (.seq (.seq (.ifStar (.seq (.seq (.seq (.assign 68 .fresh)
                 (.call 67 619 [68, 64, 6]))
                 (.seq (.assign 64 (.same 67))
                 (.ifStar (.assign 69 .fresh) (.call 69 827 [64, 6]))))
                 (.seq (.seq (.assign 70 (.view 69))
                 (.ifStar (.call 70 777 [69, 6]) .skip))
                 (.seq (.assign 71 (.same 70))
                 (.assign 72 (.same 71))))) (.seq (.seq (.call 73 747 [64])
                 (.assign 74 (.view 73)))
                 (.seq (.ifStar (.call 74 777 [73, 6]) .skip)
                 (.seq (.assign 75 (.same 74))
                 (.assign 72 (.same 75))))))
                 (.call 76 311 [72]))
               (.seq (.assign 78 .fresh)
                 (.seq (.call 77 566 [78, 76, 6])
                 (.call 79 729 [34, 6, 77, 6, 6])))) .skip)))
       (.seq (.seq (.call 80 311 [64])
           (.assign 82 .fresh))
         (.seq (.call 81 566 [82, 80, 6])
           (.seq (.call 83 729 [34, 6, 81, 6, 6])
             (.ret 34))))))))⟩

/-- operators/_linear_operator.py:LinearOperator.cholesky (line 1318); formals ['self', 'upper'] -/
def f80_operators__linear_operator__LinearOperator_cholesky : Fn := ⟨2,
 (.seq (.seq (.call 3 828 [0, 2, 2])
   (.assign 4 (.same 3)))
 (.seq (.ifStar (.seq (.ifStar (.assign 5 .fresh) (.call 5 829 [4, 2]))
       (.assign 4 (.same 5))) .skip)
   (.ret 4)))⟩

/-- operators/_linear_operator.py:LinearOperator.clone (line 1333); formals ['self'] -/
def f81_operators__linear_operator__LinearOperator_clone : Fn := ⟨1,
 (.seq (.seq (.seq (.seq (.assign 2 .fresh)
       (.seq (.assign 4 (.view 0))
         (.ifStar (.call 4 807 [0, 1]) .skip)))
     (.seq (.assign 5 (.same 4))
       (.seq (.assign 6 (.view 5))
         (.assign 3 (.same 6)))))
   (.seq (.seq (.whileStar ⟨[[0], [], [0], [0], [0], [0], [0], [0], [0], [0], [], [0], [0]], [], []⟩ (.seq (.seq (.assign 7 (.view 0))
             (.seq (.ifStar (.call 7 807 [0, 1]) .skip)
               (.assign 8 (.same 7))))
           (.seq (.seq (.assign 9 (.view 8))
               (.assign 3 (.same 9)))
             (.seq (.ifStar (.seq (.call 11 781 [3, 1])
                 (.seq (.assign 10 .fresh)
                 (.assign 12 (.same 10)))) (.assign 12 (.same 3)))
               (.assign 2 (.join [2, 12]))))))
       (.seq (.assign 13 (.same 2))
         (.assign 14 .fresh)))
     (.seq (.seq (.assign 18 (.view 0))
         (.ifStar (.call 18 811 [0, 1]) .skip))
       (.seq (.assign 19 (.same 18))
         (.assign 17 (.join [19]))))))
 (.seq (.seq (.seq (.assign 20 (.view 17))
       (.seq (.assign 21 (.view 20))
         (.assign 15 (.same 21))))
     (.seq (.assign 22 (.view 20))
       (.seq (.assign 16 (.same 22))
         (.whileStar ⟨[[0], [], [0], [0], [0], [0], [0], [0], [0], [0], [], [0], [0], [0], [0], [0], [0], [0], [0], [0], [0], [0], [0], [0], [0], [0], [0], [0], [0], [], [0], [0]], [], []⟩ (.seq (.seq (.seq (.assign 24 (.view 0))
                 (.ifStar (.call 24 811 [0, 1]) .skip))
               (.seq (.assign 25 (.same 24))
                 (.seq (.assign 23 (.join [25]))
                 (.assign 26 (.view 23)))))
             (.seq (.seq (.assign 27 (.view 26))
                 (.seq (.assign 15 (.same 27))
                 (.assign 28 (.view 26))))
               (.seq (.assign 16 (.same 28))
                 (.seq (.ifStar (.seq (.call 30 781 [16, 1])
                 (.seq (.assign 29 .fresh)
                 (.assign 31 (.same 29)))) (.assign 31 (.same 16)))
                 (.assign 14 (.join [14, 15, 31]))))))))))
   (.seq (.seq (.assign 32 (.same 14))
       (.seq (.assign 33 (.join [13, 32]))
         (.assign 35 .fresh)))
     (.seq (.seq (.assign 37 (.join [33]))
         (.call 36 812 [35, 33, 33, 33, 33, 33, 33, 33, 33, 33, 33, 33, 33, 33, 33, 33, 33, 33, 33, 33, 33, 33, 33, 33, 33, 33, 33, 33, 33, 33, 33, 33, 33, 33, 33, 33, 33, 33, 33, 33, 33, 33, 33, 33, 33, 33, 33, 33, 33, 33, 33, 33, 33, 33, 37]))
       (.seq (.assign 34 (.join [33, 36]))
         (.ret 34))))))⟩

/-- operators/_linear_operator.py:LinearOperator.cpu (line 1341); formals ['self'] -/
def f82_operators__linear_operator__LinearOperator_cpu : Fn := ⟨1,
 (.seq (.seq (.seq (.seq (.assign 2 (.join []))
       (.assign 3 (.same 2)))
     (.seq (.assign 4 (.join []))
       (.assign 5 (.same 4))))
   (.seq (.seq (.assign 6 (.view 0))
       (.ifStar (.call 6 807 [0, 1]) .skip))
     (.seq (.assign 7 (.same 6))
       (.seq (.whileStar ⟨[[0], [], [], [0], [], [], [0], [0], [0], [0], [0]], [], []⟩ (.seq (.assign 8 (.view 7))
             (.seq (.assign 9 (.same 8))
               (.ifStar (.seq (.ifStar (.assign 10 (.maybeView 9)) (.call 10 830 [9, 1]))
                 (.assign 3 (.join [3, 10]))) (.assign 3 (.join [3, 9]))))))
         (.assign 12 (.view 0))))))
 (.seq (.seq (.seq (.ifStar (.call 12 811 [0, 1]) .skip)
       (.assign 13 (.same 12)))
     (.seq (.assign 11 (.join [13]))
       (.seq (.whileStar ⟨[[0], [], [], [0], [], [0], [0], [0], [0], [0], [0], [0], [0], [0], [0], [0], [0], [0]], [], []⟩ (.seq (.seq (.assign 14 (.view 11))
               (.assign 15 (.view 14)))
             (.seq (.assign 16 (.same 15))
               (.ifStar (.seq (.ifStar (.assign 17 (.maybeView 16)) (.call 17 830 [16, 1]))
                 (.assign 5 (.join [5, 17]))) (.assign 5 (.join [5, 16]))))))
         (.assign 18 (.join [3, 5])))))
   (.seq (.seq (.assign 20 .fresh)
       (.assign 22 (.join [18])))
     (.seq (.call 21 812 [20, 18, 18, 18, 18, 18, 18, 18, 18, 18, 18, 18, 18, 18, 18, 18, 18, 18, 18, 18, 18, 18, 18, 18, 18, 18, 18, 18, 18, 18, 18, 18, 18, 18, 18, 18, 18, 18, 18, 18, 18, 18, 18, 18, 18, 18, 18, 18, 18, 18, 18, 18, 18, 18, 22])
       (.seq (.assign 19 (.join [18, 21]))
         (.ret 19))))))⟩

/-- operators/_linear_operator.py:LinearOperator.cuda (line 1359); formals ['self', 'device_id'] -/
def f83_operators__linear_operator__LinearOperator_cuda : Fn := ⟨2,
 (.seq (.seq (.seq (.seq (.assign 3 (.join []))
       (.assign 4 (.same 3)))
     (.seq (.assign 5 (.join []))
       (.assign 6 (.same 5))))
   (.seq (.seq (.assign 7 (.view 0))
       (.ifStar (.call 7 807 [0, 2]) .skip))
     (.seq (.assign 8 (.same 7))
       (.seq (.whileStar ⟨[[0], [1], [], [], [0], [], [], [0], [0], [0], [0], [0]], [], []⟩ (.seq (.assign 9 (.view 8))
             (.seq (.assign 10 (.same 9))
               (.ifStar (.seq (.ifStar (.assign 11 (.maybeView 10)) (.call 11 831 [10, 1, 2]))
                 (.assign 4 (.join [4, 11]))) (.assign 4 (.join [4, 10]))))))
         (.assign 13 (.view 0))))))
 (.seq (.seq (.seq (.ifStar (.call 13 811 [0, 2]) .skip)
       (.assign 14 (.same 13)))
     (.seq (.assign 12 (.join [14]))
       (.seq (.whileStar ⟨[[0], [1], [], [], [0], [], [0], [0], [0], [0], [0], [0], [0], [0], [0], [0], [0], [0], [0]], [], []⟩ (.seq (.seq (.assign 15 (.view 12))
               (.assign 16 (.view 15)))
             (.seq (.assign 17 (.same 16))
               (.ifStar (.seq (.ifStar (.assign 18 (.maybeView 17)) (.call 18 831 [17, 1, 2]))
                 (.assign 6 (.join [6, 18]))) (.assign 6 (.join [6, 17]))))))
         (.assign 19 (.join [4, 6])))))
   (.seq (.seq (.assign 21 .fresh)
       (.assign 23 (.join [19])))
     (.seq (.call 22 812 [21, 19, 19, 19, 19, 19, 19, 19, 19, 19, 19, 19, 19, 19, 19, 19, 19, 19, 19, 19, 19, 19, 19, 19, 19, 19, 19, 19, 19, 19, 19, 19, 19, 19, 19, 19, 19, 19, 19, 19, 19, 19, 19, 19, 19, 19, 19, 19, 19, 19, 19, 19, 19, 19, 23])
       (.seq (.assign 20 (.join [19, 22]))
         (.ret 20))))))⟩

/-- operators/_linear_operator.py:LinearOperator.device (line 1382); formals ['self'] -/
def f84_operators__linear_operator__LinearOperator_device : Fn := ⟨1,
 (.seq (.ifStar (.call 2 807 [0, 1]) .skip)
 (.ret 1))⟩

/-- operators/_linear_operator.py:LinearOperator.detach (line 1385); formals ['self'] -/
def f85_operators__linear_operator__LinearOperator_detach : Fn := ⟨1,
 (.seq (.seq (.seq (.seq (.assign 2 .fresh)
       (.seq (.assign 4 (.view 0))
         (.ifStar (.call 4 807 [0, 1]) .skip)))
     (.seq (.assign 5 (.same 4))
       (.seq (.assign 6 (.view 5))
         (.assign 3 (.same 6)))))
   (.seq (.seq (.whileStar ⟨[[0], [], [0], [0], [0], [0], [0], [0], [0], [0], [0], [0]], [], []⟩ (.seq (.seq (.assign 7 (.view 0))
             (.seq (.ifStar (.call 7 807 [0, 1]) .skip)
               (.assign 8 (.same 7))))
           (.seq (.seq (.assign 9 (.view 8))
               (.assign 3 (.same 9)))
             (.seq (.ifStar (.seq (.ifStar (.assign 10 (.view 3)) (.call 10 787 [3, 1]))
                 (.assign 11 (.same 10))) (.assign 11 (.same 3)))
               (.assign 2 (.join [2, 11]))))))
       (.seq (.assign 12 (.same 2))
         (.assign 13 .fresh)))
     (.seq (.seq (.assign 17 (.view 0))
         (.ifStar (.call 17 811 [0, 1]) .skip))
       (.seq (.assign 18 (.same 17))
         (.assign 16 (.join [18]))))))
 (.seq (.seq (.seq (.assign 19 (.view 16))
       (.seq (.assign 20 (.view 19))
         (.assign 14 (.same 20))))
     (.seq (.seq (.assign 21 (.view 19))
         (.assign 15 (.same 21)))
       (.seq (.whileStar ⟨[[0], [], [0], [0], [0], [0], [0], [0], [0], [0], [0], [0], [0], [0], [0], [0], [0], [0], [0], [0], [0], [0], [0], [0], [0], [0], [0], [0], [0], [0], [0]], [], []⟩ (.seq (.seq (.seq (.assign 23 (.view 0))
                 (.seq (.ifStar (.call 23 811 [0, 1]) .skip)
                 (.assign 24 (.same 23))))
               (.seq (.assign 22 (.join [24]))
                 (.seq (.assign 25 (.view 22))
                 (.assign 26 (.view 25)))))
             (.seq (.seq (.assign 14 (.same 26))
                 (.seq (.assign 27 (.view 25))
                 (.assign 15 (.same 27))))
               (.seq (.ifStar (.seq (.ifStar (.assign 28 (.view 15)) (.call 28 787 [15, 1]))
                 (.assign 29 (.same 28))) (.assign 29 (.same 15)))
                 (.seq (.assign 30 (.join [14, 29]))
                 (.assign 13 (.join [13, 30])))))))
         (.assign 31 (.join [13])))))
   (.seq (.seq (.assign 32 (.same 31))
       (.seq (.assign 33 (.join [12, 32]))
         (.assign 35 .fresh)))
     (.seq (.seq (.assign 37 (.join [33]))
         (.call 36 812 [35, 33, 33, 33, 33, 33, 33, 33, 33, 33, 33, 33, 33, 33, 33, 33, 33, 33, 33, 33, 33, 33, 33, 33, 33, 33, 33, 33, 33, 33, 33, 33, 33, 33, 33, 33, 33, 33, 33, 33, 33, 33, 33, 33, 33, 33, 33, 33, 33, 33, 33, 33, 33, 33, 37]))
       (.seq (.assign 34 (.join [33, 36]))
         (.ret 34))))))⟩

/-- operators/_linear_operator.py:LinearOperator.detach_ (line 1397); formals ['self'] -/
def f86_operators__linear_operator__LinearOperator_detach_ : Fn := ⟨1,
 (.seq (.seq (.seq (.assign 2 (.view 0))
     (.ifStar (.call 2 807 [0, 1]) .skip))
   (.seq (.assign 3 (.same 2))
     (.seq (.whileStar ⟨[[0], [], [0], [0], [0], [0], [0]], [], []⟩ (.seq (.assign 4 (.view 3))
           (.seq (.assign 5 (.same 4))
             (.ifStar (.ifStar .skip (.call 6 832 [5, 1])) .skip))))
       (.assign 8 (.view 0)))))
 (.seq (.seq (.ifStar (.call 8 811 [0, 1]) .skip)
     (.assign 9 (.same 8)))
   (.seq (.assign 7 (.join [9]))
     (.seq (.whileStar ⟨[[0], [], [0], [0], [0], [0], [0], [0], [0], [0], [0], [0], [0]], [], []⟩ (.seq (.assign 10 (.view 7))
           (.seq (.assign 11 (.same 10))
             (.ifStar (.ifStar .skip (.call 12 832 [11, 1])) .skip))))
       (.ret 0)))))⟩

/-- operators/_linear_operator.py:LinearOperator.diagonal (line 1410); formals ['self', 'offset', 'dim1', 'dim2'] -/
def f87_operators__linear_operator__LinearOperator_diagonal : Fn := ⟨4,
 (.seq (.call 5 796 [0, 4])
 (.seq (.call 6 818 [0, 4])
   (.ret 6)))⟩

/-- operators/_linear_operator.py:LinearOperator.diagonalization (line 1440); formals ['self', 'method'] -/
def f88_operators__linear_operator__LinearOperator_diagonalization : Fn := ⟨2,
 (.seq (.seq (.ifStar (.call 3 767 [0, 2, 2]) .skip)
   (.seq (.ifStar (.seq (.call 4 767 [0, 2, 2])
         (.ifStar (.assign 1 (.same 2)) (.assign 1 (.same 2)))) .skip)
     (.ifStar (.seq (.seq (.seq (.call 5 779 [0, 2])
             (.seq (.call 6 820 [0, 2])
               (.call 7 814 [0, 2])))
           (.seq (.assign 8 (.join [7]))
             (.seq (.assign 10 .fresh)
               (.assign 11 (.join [8])))))
         (.seq (.seq (.call 9 14 [10, 5, 2, 2, 2, 6, 2, 11])
             (.seq (.assign 12 (.view 9))
               (.assign 13 (.same 12))))
           (.seq (.seq (.assign 14 (.view 9))
               (.assign 15 (.same 14)))
             (.seq (.call 16 311 [15])
               (.assign 15 (.same 16)))))) (.ifStar (.seq (.seq (.call 17 823 [0, 2, 2, 2])
             (.assign 18 (.view 17)))
           (.seq (.assign 13 (.same 18))
             (.seq (.assign 19 (.view 17))
               (.assign 15 (.same 19))))) .skip))))
 (.seq (.assign 20 (.join [13, 15]))
   (.seq (.ret 20)
     (.ret 0))))⟩

/-- operators/_linear_operator.py:LinearOperator.dim (line 1485); formals ['self'] -/
def f89_operators__linear_operator__LinearOperator_dim : Fn := ⟨1,
 (.seq (.call 3 796 [0, 1])
 (.seq (.assign 2 .fresh)
   (.ret 2)))⟩

/-- operators/_linear_operator.py:LinearOperator.div (line 1492); formals ['self', 'other'] -/
def f90_operators__linear_operator__LinearOperator_div : Fn := ⟨2,
 (.seq (.assign 3 .fresh)
 (.seq (.call 4 833 [0, 3, 2])
   (.ret 4)))⟩

/-- operators/_linear_operator.py:LinearOperator.double (line 1507); formals ['self', 'device_id'] -/
def f91_operators__linear_operator__LinearOperator_double : Fn := ⟨2,
 (.seq (.call 4 834 [0, 2, 2])
 (.seq (.assign 3 .fresh)
   (.ret 3)))⟩

/-- operators/_linear_operator.py:LinearOperator.dtype (line 1518); formals ['self'] -/
def f92_operators__linear_operator__LinearOperator_dtype : Fn := ⟨1,
 (.seq (.ifStar (.call 2 807 [0, 1]) .skip)
 (.ret 1))⟩

/-- operators/_linear_operator.py:LinearOperator.eigh (line 1522); formals ['self'] -/
def f93_operators__linear_operator__LinearOperator_eigh : Fn := ⟨1,
 (.seq (.ifStar (.seq (.seq (.assign 3 (.join [1]))
       (.seq (.assign 4 (.join [1]))
         (.call 2 731 [0, 1, 3, 4])))
     (.seq (.seq (.assign 5 (.view 2))
         (.assign 6 (.same 5)))
       (.seq (.assign 7 (.join [1, 6]))
         (.ret 7)))) (.seq (.seq (.ifStar (.assign 3 (.join [1])) .skip)
       (.seq (.ifStar (.assign 4 (.join [1])) .skip)
         (.ifStar (.call 2 731 [0, 1, 3, 4]) .skip)))
     (.seq (.seq (.ifStar (.assign 5 (.view 2)) .skip)
         (.ifStar (.assign 6 (.same 5)) .skip))
       (.seq (.ifStar (.assign 7 (.join [1, 6])) .skip)
         (.ifStar (.ret 7) .skip)))))
 (.seq (.call 8 823 [0, 1, 1, 1])
   (.ret 8)))⟩

/-- operators/_linear_operator.py:LinearOperator.eigvalsh (line 1545); formals ['self'] -/
def f94_operators__linear_operator__LinearOperator_eigvalsh : Fn := ⟨1,
 (.seq (.seq (.ifStar (.seq (.seq (.assign 3 (.join [1]))
         (.seq (.assign 4 (.join [1]))
           (.call 2 731 [0, 1, 3, 4])))
       (.seq (.seq (.assign 5 (.view 2))
           (.assign 6 (.same 5)))
         (.seq (.assign 7 (.join [1, 6]))
           (.ret 7)))) (.seq (.seq (.ifStar (.assign 3 (.join [1])) .skip)
         (.seq (.ifStar (.assign 4 (.join [1])) .skip)
           (.ifStar (.call 2 731 [0, 1, 3, 4]) .skip)))
       (.seq (.seq (.ifStar (.assign 5 (.view 2)) .skip)
           (.ifStar (.assign 6 (.same 5)) .skip))
         (.seq (.ifStar (.assign 7 (.join [1, 6])) .skip)
           (.ifStar (.ret 7) .skip)))))
   (.call 8 823 [0, 1, 1, 1]))
 (.seq (.ifStar (.call 9 789 [8, 1, 1]) (.assign 9 (.view 8)))
   (.ret 9)))⟩

/-- operators/_linear_operator.py:LinearOperator.evaluate_kernel (line 1568); formals ['self'] -/
def f95_operators__linear_operator__LinearOperator_evaluate_kernel : Fn := ⟨1,
 (.seq (.seq (.call 2 814 [0, 1])
   (.assign 3 (.join [2])))
 (.seq (.call 5 779 [0, 1])
   (.seq (.assign 4 (.opq [3]))
     (.ret 4))))⟩

/-- operators/_linear_operator.py:LinearOperator.exp (line 1576); formals ['self'] -/
def f96_operators__linear_operator__LinearOperator_exp : Fn := ⟨1,
 .skip⟩

/-- operators/_linear_operator.py:LinearOperator.expand (line 1581); formals ['self', 'sizes'] -/
def f97_operators__linear_operator__LinearOperator_expand : Fn := ⟨2,
 (.seq (.seq (.seq (.seq (.ifStar (.seq (.assign 3 (.view 1))
           (.assign 1 (.same 3))) .skip)
       (.ifStar (.call 4 789 [1, 2, 2]) .skip))
     (.seq (.ifStar .skip (.seq (.assign 5 .fresh)
           (.whileStar ⟨[[0], [1], [], [1], [1]], [], []⟩ (.seq (.assign 6 .fresh)
               (.assign 5 (.join [5, 6]))))))
       (.assign 7 .fresh)))
   (.seq (.seq (.whileStar ⟨[[0], [1], [], [1], [1]], [], []⟩ (.assign 7 (.join [2, 7])))
       (.assign 8 .fresh))
     (.seq (.whileStar ⟨[[0], [1], [], [1], [1]], [], []⟩ (.seq (.seq (.seq (.assign 9 .fresh)
               (.assign 10 .fresh))
             (.seq (.assign 11 .fresh)
               (.assign 12 .fresh)))
           (.seq (.seq (.assign 13 (.join [11, 12]))
               (.assign 14 (.join [10, 13])))
             (.seq (.assign 15 (.join [9, 14]))
               (.assign 8 (.join [8, 15]))))))
       (.seq (.assign 16 .fresh)
         (.assign 19 (.view 2))))))
 (.seq (.seq (.seq (.assign 17 (.same 19))
       (.assign 20 (.view 2)))
     (.seq (.assign 18 (.same 20))
       (.whileStar ⟨[[0], [1], [], [1], [1]], [], []⟩ (.seq (.seq (.assign 21 (.view 2))
             (.seq (.assign 17 (.same 21))
               (.assign 22 (.view 2))))
           (.seq (.assign 18 (.same 22))
             (.seq (.ifStar (.assign 23 (.same 18)) (.assign 23 (.same 17)))
               (.assign 16 (.join [16, 23]))))))))
   (.seq (.seq (.assign 24 .fresh)
       (.assign 25 (.same 24)))
     (.seq (.call 26 817 [0, 25, 2])
       (.seq (.assign 27 (.same 26))
         (.ret 27))))))⟩

/-- operators/_linear_operator.py:LinearOperator.float (line 1641); formals ['self', 'device_id'] -/
def f98_operators__linear_operator__LinearOperator_float : Fn := ⟨2,
 (.seq (.call 4 834 [0, 2, 2])
 (.seq (.assign 3 .fresh)
   (.ret 3)))⟩

/-- operators/_linear_operator.py:LinearOperator.half (line 1651); formals ['self', 'device_id'] -/
def f99_operators__linear_operator__LinearOperator_half : Fn := ⟨2,
 (.seq (.call 4 834 [0, 2, 2])
 (.seq (.assign 3 .fresh)
   (.ret 3)))⟩

/-- operators/_linear_operator.py:LinearOperator.inv_quad (line 1661); formals ['self', 'inv_quad_rhs', 'reduce_inv_quad'] -/
def f100_operators__linear_operator__LinearOperator_inv_quad : Fn := ⟨3,
 (.seq (.seq (.seq (.ifStar (.call 4 767 [0, 3, 3]) .skip)
     (.seq (.ifStar (.seq (.call 5 703 [3, 3, 3])
           (.assign 6 (.same 5))) (.seq (.ifStar (.call 5 703 [3, 3, 3]) .skip)
           (.ifStar (.assign 6 (.same 5)) .skip)))
       (.ifStar (.call 7 789 [6, 3, 3]) .skip)))
   (.seq (.seq (.assign 8 (.view 1))
       (.assign 9 (.join [8])))
     (.seq (.call 10 814 [0, 3])
       (.assign 11 (.join [9, 10])))))
 (.seq (.seq (.assign 12 (.same 11))
     (.seq (.call 13 779 [0, 3])
       (.assign 14 (.join [12]))))
   (.seq (.seq (.assign 15 (.opq [13, 14]))
       (.assign 16 (.same 15)))
     (.seq (.ifStar (.seq (.call 18 835 [16, 3, 3])
           (.seq (.assign 17 .fresh)
             (.assign 16 (.same 17)))) .skip)
       (.ret 16)))))⟩

/-- operators/_linear_operator.py:LinearOperator.inv_quad_logdet (line 1712); formals ['self', 'inv_quad_rhs', 'logdet', 'reduce_inv_quad'] -/
def f101_operators__linear_operator__LinearOperator_inv_quad_logdet : Fn := ⟨4,
 (.seq (.seq (.seq (.seq (.seq (.call 5 767 [0, 4, 4])
         (.ifStar (.seq (.seq (.call 6 742 [0, 4])
               (.ifStar (.seq (.seq (.call 7 772 [0, 4, 4])
                 (.assign 8 (.view 7)))
                 (.seq (.assign 9 (.same 8))
                 (.ifStar (.seq (.assign 11 .fresh)
                 (.seq (.call 10 260 [11, 9, 4])
                 (.assign 12 (.same 10)))) .skip))) .skip))
             (.seq (.ifStar (.seq (.seq (.call 13 792 [0, 4, 4])
                 (.seq (.assign 15 .fresh)
                 (.call 14 619 [15, 13, 4])))
                 (.seq (.assign 17 .fresh)
                 (.seq (.call 16 260 [17, 14, 4])
                 (.assign 12 (.same 16))))) .skip)
               (.seq (.call 18 770 [12, 1, 2, 3, 4])
                 (.ret 18)))) .skip))
       (.seq (.ifStar (.seq (.seq (.call 19 769 [0, 1, 3, 4])
               (.assign 20 .fresh))
             (.seq (.assign 21 (.join [19, 20]))
               (.ret 21))) .skip)
         (.seq (.ifStar (.call 22 767 [0, 4, 4]) .skip)
           (.ifStar (.seq (.call 23 808 [0, 4])
               (.ifStar .skip (.call 24 808 [0, 4]))) .skip))))
     (.seq (.seq (.call 25 814 [0, 4])
         (.assign 26 (.same 25)))
       (.seq (.ifStar (.seq (.seq (.assign 27 (.join [1]))
               (.assign 28 (.join [26])))
             (.seq (.assign 29 (.join [27, 28]))
               (.assign 26 (.same 29)))) .skip)
         (.seq (.call 30 821 [0, 4])
           (.assign 31 (.view 30))))))
   (.seq (.seq (.seq (.assign 32 (.same 31))
         (.assign 33 (.view 30)))
       (.seq (.assign 34 (.same 33))
         (.seq (.assign 35 (.view 30))
           (.assign 36 (.same 35)))))
     (.seq (.seq (.ifStar (.seq (.seq (.call 38 767 [0, 4, 4])
               (.seq (.assign 37 .fresh)
                 (.assign 40 .fresh)))
             (.seq (.call 39 362 [40, 37, 4, 4, 4])
               (.seq (.assign 34 (.same 39))
                 (.assign 36 (.same 4))))) .skip)
         (.seq (.ifStar (.assign 41 .fresh) (.call 41 814 [34, 4]))
           (.assign 42 (.same 41))))
       (.seq (.call 43 836 [0, 4])
         (.seq (.assign 44 (.view 43))
           (.assign 45 (.same 44)))))))
 (.seq (.seq (.seq (.seq (.assign 46 (.view 43))
         (.assign 47 (.same 46)))
       (.seq (.call 48 779 [0, 4])
         (.seq (.ifStar (.assign 49 .fresh) (.call 49 779 [34, 4]))
           (.assign 50 .fresh))))
     (.seq (.seq (.assign 51 (.join [26]))
         (.assign 52 (.join [42])))
       (.seq (.assign 53 (.join [51, 52]))
         (.seq (.assign 54 (.join [53]))
           (.assign 55 (.opq [4, 32, 45, 47, 48, 49, 50, 54]))))))
   (.seq (.seq (.seq (.assign 56 (.view 55))
         (.assign 57 (.same 56)))
       (.seq (.assign 58 (.view 55))
         (.seq (.assign 59 (.same 58))
           (.assign 60 (.same 59)))))
     (.seq (.seq (.ifStar (.assign 61 .fresh) (.ifStar (.call 61 826 [36, 60, 4, 4]) (.call 61 825 [60, 36, 4])))
         (.seq (.assign 60 (.same 61))
           (.call 62 837 [57, 4])))
       (.seq (.ifStar (.seq (.call 64 835 [57, 4, 4])
             (.seq (.assign 63 .fresh)
               (.assign 57 (.same 63)))) .skip)
         (.seq (.assign 65 (.join [57, 60]))
           (.ret 65)))))))⟩

/-- operators/_linear_operator.py:LinearOperator.inverse (line 1831); formals ['self'] -/
def f102_operators__linear_operator__LinearOperator_inverse : Fn := ⟨1,
 .skip⟩

/-- operators/_linear_operator.py:LinearOperator.is_square (line 1837); formals ['self'] -/
def f103_operators__linear_operator__LinearOperator_is_square : Fn := ⟨1,
 (.ret 1)⟩

/-- operators/_linear_operator.py:LinearOperator.isclose (line 1841); formals ['self', 'other', 'rtol', 'atol', 'equal_nan'] -/
def f104_operators__linear_operator__LinearOperator_isclose : Fn := ⟨5,
 (.seq (.call 6 838 [0, 1, 2, 3, 4, 5])
 (.ret 6))⟩

/-- operators/_linear_operator.py:LinearOperator._risclose (line 1845); formals ['self', 'other', 'rtol', 'atol', 'equal_nan'] -/
def f105_operators__linear_operator__LinearOperator__risclose : Fn := ⟨5,
 (.seq (.seq (.call 5 162 [1])
   (.call 6 162 [0]))
 (.seq (.assign 7 .fresh)
   (.ret 7)))⟩

/-- operators/_linear_operator.py:LinearOperator.log (line 1850); formals ['self'] -/
def f106_operators__linear_operator__LinearOperator_log : Fn := ⟨1,
 .skip⟩

/-- operators/_linear_operator.py:LinearOperator.logdet (line 1856); formals ['self'] -/
def f107_operators__linear_operator__LinearOperator_logdet : Fn := ⟨1,
 (.seq (.seq (.call 2 770 [0, 1, 1, 1, 1])
   (.assign 3 (.view 2)))
 (.seq (.assign 4 (.same 3))
   (.ret 4)))⟩

/-- operators/_linear_operator.py:LinearOperator.matmul (line 1864); formals ['self', 'other'] -/
def f108_operators__linear_operator__LinearOperator_matmul : Fn := ⟨2,
 (.seq (.seq (.seq (.call 3 703 [2, 2, 2])
     (.ifStar (.seq (.assign 5 .fresh)
         (.seq (.call 4 521 [5, 0, 1])
           (.ret 4))) .skip))
   (.seq (.call 6 779 [0, 2])
     (.call 7 814 [0, 2])))
 (.seq (.seq (.assign 8 (.join [7]))
     (.assign 10 .fresh))
   (.seq (.assign 11 (.join [8]))
     (.seq (.call 9 23 [10, 6, 1, 11])
       (.ret 9)))))⟩

/-- operators/_linear_operator.py:LinearOperator.matrix_shape (line 1888); formals ['self'] -/
def f109_operators__linear_operator__LinearOperator_matrix_shape : Fn := ⟨1,
 (.seq (.assign 1 .fresh)
 (.ret 1))⟩

/-- operators/_linear_operator.py:LinearOperator.mT (line 1892); formals ['self'] -/
def f110_operators__linear_operator__LinearOperator_mT : Fn := ⟨1,
 (.seq (.call 2 839 [0, 1, 1, 1])
 (.ret 2))⟩

/-- operators/_linear_operator.py:LinearOperator.mul (line 1899); formals ['self', 'other'] -/
def f111_operators__linear_operator__LinearOperator_mul : Fn := ⟨2,
 (.seq (.seq (.ifStar (.seq (.ifStar (.assign 3 .fresh) (.call 3 833 [1, 0, 2]))
       (.ret 3)) .skip)
   (.seq (.ifStar (.seq (.assign 4 .fresh)
         (.assign 1 (.same 4))) .skip)
     (.ifStar (.seq (.call 5 837 [1, 2])
         (.ifStar (.seq (.ifStar (.assign 6 (.view 1)) (.call 6 784 [1, 2, 2]))
             (.seq (.call 7 840 [0, 6, 2])
               (.ret 7))) (.ifStar (.seq (.assign 8 (.view 1))
               (.seq (.call 9 840 [0, 8, 2])
                 (.ret 9))) .skip))) .skip)))
 (.seq (.call 10 311 [1])
   (.seq (.call 11 841 [0, 10, 2])
     (.ret 11))))⟩

/-- operators/_linear_operator.py:LinearOperator.ndim (line 1938); formals ['self'] -/
def f112_operators__linear_operator__LinearOperator_ndim : Fn := ⟨1,
 (.seq (.call 3 796 [0, 1])
 (.seq (.assign 2 .fresh)
   (.ret 2)))⟩

/-- operators/_linear_operator.py:LinearOperator.ndimension (line 1941); formals ['self'] -/
def f113_operators__linear_operator__LinearOperator_ndimension : Fn := ⟨1,
 (.seq (.call 2 767 [0, 1, 1])
 (.seq (.assign 3 .fresh)
   (.ret 3)))⟩

/-- operators/_linear_operator.py:LinearOperator.numel (line 1948); formals ['self'] -/
def f114_operators__linear_operator__LinearOperator_numel : Fn := ⟨1,
 (.seq (.assign 1 .fresh)
 (.ret 1))⟩

/-- operators/_linear_operator.py:LinearOperator.numpy (line 1954); formals ['self'] -/
def f115_operators__linear_operator__LinearOperator_numpy : Fn := ⟨1,
 (.seq (.seq (.call 5 778 [0, 1, 1, 1, 1, 1])
   (.assign 4 (.view 5)))
 (.seq (.assign 3 (.maybeView 4))
   (.seq (.assign 2 (.view 3))
     (.ret 2))))⟩

/-- operators/_linear_operator.py:LinearOperator.permute (line 1961); formals ['self', 'dims'] -/
def f116_operators__linear_operator__LinearOperator_permute : Fn := ⟨2,
 (.seq (.seq (.seq (.ifStar (.seq (.assign 3 (.view 1))
         (.assign 1 (.same 3))) .skip)
     (.seq (.call 4 808 [0, 2])
       (.assign 5 .fresh)))
   (.seq (.seq (.assign 7 (.view 1))
       (.assign 6 (.same 7)))
     (.seq (.whileStar ⟨[[0], [1], [], [1], [], [1], [1], [1], [1], [], [1]], [], []⟩ (.seq (.seq (.assign 8 (.view 1))
             (.assign 6 (.same 8)))
           (.seq (.ifStar (.assign 10 (.same 6)) (.seq (.assign 9 .fresh)
                 (.assign 10 (.same 9))))
             (.assign 5 (.join [5, 10])))))
       (.assign 11 (.join [5])))))
 (.seq (.seq (.assign 1 (.same 11))
     (.seq (.ifStar (.call 12 789 [1, 2, 2]) .skip)
       (.ifStar (.call 13 789 [1, 2, 2]) (.assign 13 (.view 1)))))
   (.seq (.seq (.assign 14 (.join [13]))
       (.assign 16 (.join [14])))
     (.seq (.call 15 810 [0, 16])
       (.ret 15)))))⟩

/-- operators/_linear_operator.py:LinearOperator.pivoted_cholesky (line 1993); formals ['self', 'rank', 'error_tol', 'return_pivots'] -/
def f117_operators__linear_operator__LinearOperator_pivoted_cholesky : Fn := ⟨4,
 (.seq (.seq (.seq (.call 5 779 [0, 4])
     (.call 6 814 [0, 4]))
   (.seq (.assign 7 (.join [6]))
     (.assign 8 (.opq [1, 2, 5, 7]))))
 (.seq (.seq (.assign 9 (.view 8))
     (.assign 10 (.same 9)))
   (.seq (.assign 11 (.view 8))
     (.seq (.assign 12 (.same 11))
       (.ifStar (.seq (.assign 13 (.join [10, 12]))
           (.ret 13)) (.ret 10))))))⟩

/-- operators/_linear_operator.py:LinearOperator.prod (line 2029); formals ['self', 'dim'] -/
def f118_operators__linear_operator__LinearOperator_prod : Fn := ⟨2,
 (.seq (.ifStar (.seq (.call 3 808 [0, 2])
     (.assign 1 (.same 2))) .skip)
 (.seq (.call 4 842 [0, 1, 2])
   (.ret 4)))⟩

/-- operators/_linear_operator.py:LinearOperator.repeat (line 2060); formals ['self', 'sizes'] -/
def f119_operators__linear_operator__LinearOperator_repeat : Fn := ⟨2,
 (.seq (.seq (.seq (.assign 3 .fresh)
     (.whileStar ⟨[[0], [1]], [], []⟩ (.seq (.assign 4 .fresh)
         (.assign 3 (.join [3, 4])))))
   (.seq (.call 5 808 [0, 2])
     (.ifStar (.ret 0) .skip)))
 (.seq (.seq (.assign 6 .fresh)
     (.assign 8 .fresh))
   (.seq (.call 7 174 [8, 0, 6])
     (.ret 7))))⟩

def chunk1 : List Fn := [
  f60_operators__linear_operator__LinearOperator__probe_vectors_and_norms,
  f61_operators__linear_operator__LinearOperator__prod_batch,
  f62_operators__linear_operator__LinearOperator__root_decomposition,
  f63_operators__linear_operator__LinearOperator__root_decomposition_size,
  f64_operators__linear_operator__LinearOperator__root_inv_decomposition,
  f65_operators__linear_operator__LinearOperator__set_requires_grad,
  f66_operators__linear_operator__LinearOperator__solve,
  f67_operators__linear_operator__LinearOperator__solve_preconditioner,
  f68_operators__linear_operator__LinearOperator__sum_batch,
  f69_operators__linear_operator__LinearOperator__svd,
  f70_operators__linear_operator__LinearOperator__symeig,
  f71_operators__linear_operator__LinearOperator__t_matmul,
  f72_operators__linear_operator__LinearOperator_abs,
  f73_operators__linear_operator__LinearOperator_add,
  f74_operators__linear_operator__LinearOperator_add_diagonal,
  f75_operators__linear_operator__LinearOperator_add_jitter,
  f76_operators__linear_operator__LinearOperator_add_low_rank,
  f77_operators__linear_operator__LinearOperator_batch_dim,
  f78_operators__linear_operator__LinearOperator_batch_shape,
  f79_operators__linear_operator__LinearOperator_cat_rows,
  f80_operators__linear_operator__LinearOperator_cholesky,
  f81_operators__linear_operator__LinearOperator_clone,
  f82_operators__linear_operator__LinearOperator_cpu,
  f83_operators__linear_operator__LinearOperator_cuda,
  f84_operators__linear_operator__LinearOperator_device,
  f85_operators__linear_operator__LinearOperator_detach,
  f86_operators__linear_operator__LinearOperator_detach_,
  f87_operators__linear_operator__LinearOperator_diagonal,
  f88_operators__linear_operator__LinearOperator_diagonalization,
  f89_operators__linear_operator__LinearOperator_dim,
  f90_operators__linear_operator__LinearOperator_div,
  f91_operators__linear_operator__LinearOperator_double,
  f92_operators__linear_operator__LinearOperator_dtype,
  f93_operators__linear_operator__LinearOperator_eigh,
  f94_operators__linear_operator__LinearOperator_eigvalsh,
  f95_operators__linear_operator__LinearOperator_evaluate_kernel,
  f96_operators__linear_operator__LinearOperator_exp,
  f97_operators__linear_operator__LinearOperator_expand,
  f98_operators__linear_operator__LinearOperator_float,
  f99_operators__linear_operator__LinearOperator_half,
  f100_operators__linear_operator__LinearOperator_inv_quad,
  f101_operators__linear_operator__LinearOperator_inv_quad_logdet,
  f102_operators__linear_operator__LinearOperator_inverse,
  f103_operators__linear_operator__LinearOperator_is_square,
  f104_operators__linear_operator__LinearOperator_isclose,
  f105_operators__linear_operator__LinearOperator__risclose,
  f106_operators__linear_operator__LinearOperator_log,
  f107_operators__linear_operator__LinearOperator_logdet,
  f108_operators__linear_operator__LinearOperator_matmul,
  f109_operators__linear_operator__LinearOperator_matrix_shape,
  f110_operators__linear_operator__LinearOperator_mT,
  f111_operators__linear_operator__LinearOperator_mul,
  f112_operators__linear_operator__LinearOperator_ndim,
  f113_operators__linear_operator__LinearOperator_ndimension,
  f114_operators__linear_operator__LinearOperator_numel,
  f115_operators__linear_operator__LinearOperator_numpy,
  f116_operators__linear_operator__LinearOperator_permute,
  f117_operators__linear_operator__LinearOperator_pivoted_cholesky,
  f118_operators__linear_operator__LinearOperator_prod,
  f119_operators__linear_operator__LinearOperator_repeat]

/-- every function of this chunk conforms to its summary (kernel-evaluated analysis, mask form) -/
theorem chunk1_ok : tableOKB lk sigma1 chunk1 = true := by decide +kernel

end LinOp.Generated.C13
