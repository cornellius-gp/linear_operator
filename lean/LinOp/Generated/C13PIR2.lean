import LinOp.C13.Model
import LinOp.Generated.C13PSigma
-- GENERATED by harness/extract/c13_alias.py from /repo/linear_operator (do not edit)
namespace LinOp.Generated.C13P
open LinOp.C13

/-- operators/_linear_operator.py:LinearOperator.representation (line 2094); formals ['self'] -/
def f120_operators__linear_operator__LinearOperator_representation : Fn := ⟨1,
 (.seq (.seq (.seq (.assign 2 (.join []))
     (.assign 3 (.same 2)))
   (.seq (.assign 4 (.view 0))
     (.seq (.ifStar (.call 4 807 [0, 1]) .skip)
       (.assign 5 (.same 4)))))
 (.seq (.seq (.assign 7 (.view 0))
     (.seq (.assign 6 (.join [7]))
       (.assign 8 (.join [5, 6]))))
   (.seq (.whileStar ⟨[[0], [], [], [0], [0], [0], [0], [0], [0], [0], [0], [0], [0]], [], []⟩ (.seq (.assign 9 (.view 8))
         (.seq (.assign 10 (.same 9))
           (.ifStar (.assign 3 (.join [3, 10])) (.ifStar (.seq (.ifStar (.assign 11 .fresh) (.call 11 814 [10, 1]))
                 (.seq (.assign 12 (.join [11]))
                 (.assign 3 (.join [3, 12])))) .skip)))))
     (.seq (.assign 13 (.join [3]))
       (.ret 13)))))⟩

/-- operators/_linear_operator.py:LinearOperator.representation_tree (line 2109); formals ['self'] -/
def f121_operators__linear_operator__LinearOperator_representation_tree : Fn := ⟨1,
 (.seq (.assign 2 .fresh)
 (.seq (.call 1 489 [2, 0])
   (.ret 1)))⟩

/-- operators/_linear_operator.py:LinearOperator.requires_grad (line 2122); formals ['self'] -/
def f122_operators__linear_operator__LinearOperator_requires_grad : Fn := ⟨1,
 (.seq (.seq (.assign 2 .fresh)
   (.seq (.ifStar (.call 3 807 [0, 1]) .skip)
     (.ifStar (.call 4 811 [0, 1]) .skip)))
 (.seq (.whileStar ⟨[[0], [], [], [0], [0], [0], [0]], [], []⟩ (.seq (.ifStar (.call 5 807 [0, 1]) .skip)
       (.seq (.ifStar (.call 6 811 [0, 1]) .skip)
         (.assign 2 (.join [1, 2])))))
   (.seq (.assign 7 .fresh)
     (.ret 7))))⟩

/-- operators/_linear_operator.py:LinearOperator.requires_grad (line 2130); formals ['self', 'val'] -/
def f123_operators__linear_operator__LinearOperator_requires_grad : Fn := ⟨2,
 (.call 3 843 [0, 1, 2])⟩

/-- operators/_linear_operator.py:LinearOperator.requires_grad_ (line 2135); formals ['self', 'val'] -/
def f124_operators__linear_operator__LinearOperator_requires_grad_ : Fn := ⟨2,
 (.seq (.call 3 843 [0, 1, 2])
 (.ret 0))⟩

/-- operators/_linear_operator.py:LinearOperator.reshape (line 2146); formals ['self', 'sizes'] -/
def f125_operators__linear_operator__LinearOperator_reshape : Fn := ⟨2,
 (.seq (.seq (.ifStar (.seq (.seq (.assign 3 (.join [2]))
         (.assign 4 (.view 1)))
       (.seq (.assign 5 (.join [3, 4]))
         (.assign 1 (.same 5)))) .skip)
   (.assign 6 (.join [1])))
 (.seq (.assign 8 (.join [6]))
   (.seq (.call 7 776 [0, 8])
     (.ret 7))))⟩

/-- operators/_linear_operator.py:LinearOperator.rmatmul (line 2157); formals ['self', 'other'] -/
def f126_operators__linear_operator__LinearOperator_rmatmul : Fn := ⟨2,
 (.seq (.seq (.seq (.ifStar (.seq (.seq (.assign 4 (.view 0))
           (.ifStar (.call 4 777 [0, 2]) .skip))
         (.seq (.assign 5 (.same 4))
           (.seq (.call 3 805 [5, 1, 2])
             (.ret 3)))) .skip)
     (.assign 6 (.view 1)))
   (.seq (.ifStar (.call 6 777 [1, 2]) .skip)
     (.seq (.assign 7 (.same 6))
       (.assign 9 (.view 0)))))
 (.seq (.seq (.ifStar (.call 9 777 [0, 2]) .skip)
     (.assign 10 (.same 9)))
   (.seq (.call 8 805 [10, 7, 2])
     (.seq (.assign 11 (.view 8))
       (.ret 11)))))⟩

/-- operators/_linear_operator.py:LinearOperator.root_decomposition (line 2176); formals ['self', 'method'] -/
def f127_operators__linear_operator__LinearOperator_root_decomposition : Fn := ⟨2,
 (.seq (.seq (.seq (.ifStar (.call 3 767 [0, 2, 2]) .skip)
     (.ifStar (.seq (.seq (.call 5 778 [0, 2, 2, 2, 2, 2])
           (.assign 4 .fresh))
         (.seq (.assign 7 .fresh)
           (.seq (.call 6 566 [7, 4, 2])
             (.ret 6)))) .skip))
   (.seq (.ifStar (.seq (.call 8 844 [0, 2])
         (.assign 1 (.same 8))) .skip)
     (.seq (.ifStar (.ifStar (.seq (.seq (.call 9 792 [0, 2, 2])
               (.assign 10 (.same 9)))
             (.seq (.assign 12 .fresh)
               (.seq (.call 11 260 [12, 10, 2])
                 (.ret 11)))) (.seq (.seq (.ifStar (.call 9 792 [0, 2, 2]) .skip)
               (.seq (.ifStar (.assign 10 (.same 9)) .skip)
                 (.ifStar (.assign 12 .fresh) .skip)))
             (.seq (.ifStar (.call 11 260 [12, 10, 2]) .skip)
               (.seq (.ifStar (.ret 11) .skip)
                 (.ifStar (.assign 1 (.same 2)) .skip))))) .skip)
       (.ifStar (.seq (.seq (.call 13 820 [0, 2])
             (.seq (.call 15 778 [0, 2, 2, 2, 2, 2])
               (.call 16 311 [15])))
           (.seq (.seq (.ifStar (.assign 14 .fresh) (.call 14 771 [16, 13, 2, 2, 2]))
               (.assign 18 .fresh))
             (.seq (.call 17 566 [18, 14, 2])
               (.ret 17)))) .skip))))
 (.seq (.seq (.ifStar (.seq (.seq (.seq (.call 19 823 [0, 2, 2, 2])
             (.assign 20 (.view 19)))
           (.seq (.assign 21 (.same 20))
             (.assign 23 .fresh)))
         (.seq (.seq (.call 24 783 [23, 2])
             (.assign 22 .fresh))
           (.seq (.call 25 37 [21, 22])
             (.assign 26 (.same 25))))) (.ifStar (.seq (.seq (.seq (.call 27 768 [0, 2, 2])
               (.assign 28 (.view 27)))
             (.seq (.assign 21 (.same 28))
               (.assign 30 .fresh)))
           (.seq (.seq (.call 31 783 [30, 2])
               (.assign 29 .fresh))
             (.seq (.call 32 37 [21, 29])
               (.assign 26 (.same 32))))) (.ifStar (.seq (.seq (.seq (.call 33 845 [0, 2])
                 (.assign 34 (.view 33)))
               (.seq (.assign 35 (.same 34))
                 (.assign 36 (.view 33))))
             (.seq (.seq (.assign 37 (.same 36))
                 (.call 39 783 [37, 2]))
               (.seq (.assign 38 .fresh)
                 (.seq (.call 40 37 [35, 38])
                 (.assign 26 (.same 40)))))) (.ifStar (.seq (.call 41 846 [0, 2])
               (.assign 26 (.same 41))) .skip))))
     (.assign 43 .fresh))
   (.seq (.call 42 566 [43, 26, 2])
     (.seq (.ret 42)
       (.ret 0)))))⟩

/-- operators/_linear_operator.py:LinearOperator.root_inv_decomposition (line 2239); formals ['self', 'initial_vectors', 'test_vectors', 'method'] -/
def f128_operators__linear_operator__LinearOperator_root_inv_decomposition : Fn := ⟨4,
 (.seq (.seq (.seq (.ifStar (.call 5 767 [0, 4, 4]) .skip)
     (.ifStar (.seq (.seq (.call 6 778 [0, 4, 4, 4, 4, 4])
           (.assign 8 .fresh))
         (.seq (.call 7 566 [8, 4, 4])
           (.ret 7))) .skip))
   (.seq (.ifStar (.seq (.call 9 844 [0, 4])
         (.assign 3 (.same 9))) .skip)
     (.ifStar (.seq (.seq (.seq (.call 10 792 [0, 4, 4])
             (.call 11 162 [10]))
           (.seq (.assign 12 .fresh)
             (.assign 13 (.same 12))))
         (.seq (.seq (.assign 14 (.view 13))
             (.assign 16 .fresh))
           (.seq (.call 15 619 [16, 14, 4])
             (.seq (.assign 17 (.same 15))
               (.assign 18 (.same 17)))))) (.ifStar (.seq (.seq (.ifStar (.seq (.call 19 808 [0, 4])
                 (.ifStar .skip (.call 20 808 [0, 4]))) .skip)
             (.call 21 847 [0, 1, 4, 4]))
           (.seq (.assign 18 (.same 21))
             (.ifStar (.seq (.call 22 723 [0, 18, 1, 2])
                 (.assign 18 (.same 22))) .skip))) (.ifStar (.seq (.seq (.seq (.call 23 823 [0, 4, 4, 4])
                 (.assign 24 (.view 23)))
               (.seq (.assign 25 (.same 24))
                 (.assign 27 .fresh)))
             (.seq (.seq (.call 28 783 [27, 4])
                 (.assign 26 .fresh))
               (.seq (.call 29 37 [25, 26])
                 (.assign 18 (.same 29))))) (.ifStar (.seq (.seq (.seq (.call 30 768 [0, 4, 4])
                 (.assign 31 (.view 30)))
                 (.seq (.assign 25 (.same 31))
                 (.assign 33 .fresh)))
               (.seq (.seq (.call 34 783 [33, 4])
                 (.assign 32 .fresh))
                 (.seq (.call 35 37 [25, 32])
                 (.assign 18 (.same 35))))) (.ifStar (.seq (.seq (.seq (.call 36 845 [0, 4])
                 (.assign 37 (.view 36)))
                 (.seq (.assign 38 (.same 37))
                 (.assign 40 .fresh)))
                 (.seq (.seq (.call 41 783 [40, 4])
                 (.assign 39 .fresh))
                 (.seq (.call 42 37 [38, 39])
                 (.assign 18 (.same 42))))) (.ifStar (.seq (.seq (.call 44 772 [0, 4, 4])
                 (.seq (.assign 45 (.view 44))
                 (.ifStar .skip (.call 43 778 [45, 4, 4, 4, 4, 4]))))
                 (.seq (.assign 46 .fresh)
                 (.seq (.assign 47 (.view 46))
                 (.assign 18 (.same 47))))) .skip))))))))
 (.seq (.seq (.assign 49 .fresh)
     (.call 48 566 [49, 18, 4]))
   (.seq (.ret 48)
     (.ret 0))))⟩

/-- operators/_linear_operator.py:LinearOperator.size (line 2327); formals ['self', 'dim'] -/
def f129_operators__linear_operator__LinearOperator_size : Fn := ⟨2,
 (.seq (.seq (.call 3 848 [0, 2])
   (.assign 4 (.same 3)))
 (.seq (.ifStar (.seq (.assign 5 (.view 4))
       (.ret 5)) .skip)
   (.ret 4)))⟩

/-- operators/_linear_operator.py:LinearOperator.shape (line 2339); formals ['self'] -/
def f130_operators__linear_operator__LinearOperator_shape : Fn := ⟨1,
 (.seq (.call 2 848 [0, 1])
 (.ret 2))⟩

/-- operators/_linear_operator.py:LinearOperator.solve (line 2343); formals ['self', 'right_tensor', 'left_tensor'] -/
def f131_operators__linear_operator__LinearOperator_solve : Fn := ⟨3,
 (.seq (.seq (.ifStar (.call 4 767 [0, 3, 3]) .skip)
   (.assign 5 .fresh))
 (.seq (.call 6 703 [3, 3, 5])
   (.ifStar (.seq (.seq (.call 7 779 [0, 3])
         (.call 8 814 [0, 3]))
       (.seq (.assign 9 (.join [8]))
         (.seq (.assign 10 (.opq [1, 3, 7, 9]))
           (.ret 10)))) (.seq (.seq (.call 11 779 [0, 3])
         (.call 12 814 [0, 3]))
       (.seq (.assign 13 (.join [12]))
         (.seq (.assign 14 (.opq [1, 2, 3, 11, 13]))
           (.ret 14)))))))⟩

/-- operators/_linear_operator.py:LinearOperator.solve_triangular (line 2401); formals ['self', 'rhs', 'upper', 'left', 'unitriangular'] -/
def f132_operators__linear_operator__LinearOperator_solve_triangular : Fn := ⟨5,
 .skip⟩

/-- operators/_linear_operator.py:LinearOperator.sqrt (line 2434); formals ['self'] -/
def f133_operators__linear_operator__LinearOperator_sqrt : Fn := ⟨1,
 .skip⟩

/-- operators/_linear_operator.py:LinearOperator.sqrt_inv_matmul (line 2439); formals ['self', 'rhs', 'lhs'] -/
def f134_operators__linear_operator__LinearOperator_sqrt_inv_matmul : Fn := ⟨3,
 (.seq (.seq (.seq (.ifStar (.seq (.assign 4 (.view 1))
         (.assign 1 (.same 4))) .skip)
     (.call 5 779 [0, 3]))
   (.seq (.call 6 814 [0, 3])
     (.seq (.assign 7 (.join [6]))
       (.assign 8 (.opq [1, 2, 5, 7])))))
 (.seq (.seq (.assign 9 (.view 8))
     (.seq (.assign 10 (.same 9))
       (.assign 11 (.view 8))))
   (.seq (.assign 12 (.same 11))
     (.seq (.ifStar (.seq (.ifStar (.assign 13 (.view 10)) (.call 13 784 [10, 3, 3]))
           (.assign 10 (.same 13))) .skip)
       (.ifStar (.ret 10) (.seq (.assign 14 (.join [10, 12]))
           (.ret 14)))))))⟩

/-- operators/_linear_operator.py:LinearOperator.squeeze (line 2486); formals ['self', 'dim'] -/
def f135_operators__linear_operator__LinearOperator_squeeze : Fn := ⟨2,
 (.seq (.call 3 767 [0, 1, 2])
 (.ifStar (.ret 0) (.seq (.seq (.seq (.assign 4 (.join [2]))
         (.call 6 808 [0, 2]))
       (.seq (.assign 5 .fresh)
         (.seq (.assign 7 (.join [4, 5]))
           (.assign 8 (.same 7)))))
     (.seq (.seq (.assign 8 (.join [2, 8]))
         (.assign 9 (.join [8])))
       (.seq (.assign 8 (.same 9))
         (.seq (.call 10 789 [0, 8, 2])
           (.ret 10)))))))⟩

/-- operators/_linear_operator.py:LinearOperator.sub (line 2503); formals ['self', 'other', 'alpha'] -/
def f136_operators__linear_operator__LinearOperator_sub : Fn := ⟨3,
 (.ifStar (.seq (.ifStar (.call 4 786 [1, 0, 3, 3]) (.call 4 785 [0, 1, 3]))
   (.ret 4)) (.seq (.assign 5 .fresh)
   (.seq (.ifStar (.call 6 826 [5, 0, 3, 3]) (.call 6 825 [0, 5, 3]))
     (.ret 6))))⟩

/-- operators/_linear_operator.py:LinearOperator.sum (line 2527); formals ['self', 'dim'] -/
def f137_operators__linear_operator__LinearOperator_sum : Fn := ⟨2,
 (.seq (.seq (.ifStar (.seq (.seq (.call 3 767 [0, 2, 2])
         (.seq (.assign 4 .fresh)
           (.assign 5 (.same 4))))
       (.seq (.seq (.ifStar (.call 7 798 [5, 0, 2]) (.call 7 797 [0, 5, 2]))
           (.call 8 835 [7, 2, 2]))
         (.seq (.assign 6 .fresh)
           (.ret 6)))) .skip)
   (.ifStar (.seq (.call 9 808 [0, 2])
       (.assign 1 (.same 2))) .skip))
 (.seq (.call 10 808 [0, 2])
   (.ifStar (.seq (.seq (.call 11 767 [0, 2, 2])
         (.seq (.assign 12 .fresh)
           (.assign 5 (.same 12))))
       (.seq (.ifStar (.call 14 798 [5, 0, 2]) (.call 14 797 [0, 5, 2]))
         (.seq (.call 13 784 [14, 2, 2])
           (.ret 13)))) (.seq (.call 15 808 [0, 2])
       (.ifStar (.seq (.seq (.seq (.call 16 767 [0, 2, 2])
               (.assign 17 .fresh))
             (.seq (.assign 5 (.same 17))
               (.assign 19 (.view 0))))
           (.seq (.seq (.ifStar (.call 19 777 [0, 2]) .skip)
               (.assign 20 (.same 19)))
             (.seq (.ifStar (.call 21 798 [5, 20, 2]) (.call 21 797 [20, 5, 2]))
               (.seq (.call 18 784 [21, 2, 2])
                 (.ret 18))))) (.seq (.call 22 808 [0, 2])
           (.ifStar (.seq (.call 23 849 [0, 1, 2])
               (.ret 23)) .skip)))))))⟩

/-- operators/_linear_operator.py:LinearOperator.svd (line 2571); formals ['self'] -/
def f138_operators__linear_operator__LinearOperator_svd : Fn := ⟨1,
 (.seq (.call 2 850 [0, 1])
 (.ret 2))⟩

/-- operators/_linear_operator.py:LinearOperator._torch_linalg_svd (line 2591); formals ['self'] -/
def f139_operators__linear_operator__LinearOperator__torch_linalg_svd : Fn := ⟨1,
 (.seq (.seq (.seq (.call 2 850 [0, 1])
     (.seq (.assign 3 (.view 2))
       (.assign 4 (.same 3))))
   (.seq (.assign 5 (.view 2))
     (.seq (.assign 6 (.same 5))
       (.assign 7 (.view 2)))))
 (.seq (.seq (.assign 8 (.same 7))
     (.seq (.assign 9 (.view 8))
       (.ifStar (.call 9 777 [8, 1]) .skip)))
   (.seq (.assign 10 (.same 9))
     (.seq (.assign 11 (.join [4, 6, 10]))
       (.ret 11)))))⟩

/-- operators/_linear_operator.py:LinearOperator.T (line 2606); formals ['self'] -/
def f140_operators__linear_operator__LinearOperator_T : Fn := ⟨1,
 (.seq (.call 2 851 [0, 1])
 (.ret 2))⟩

/-- operators/_linear_operator.py:LinearOperator.t (line 2612); formals ['self'] -/
def f141_operators__linear_operator__LinearOperator_t : Fn := ⟨1,
 (.seq (.call 2 796 [0, 1])
 (.seq (.call 3 839 [0, 1, 1, 1])
   (.ret 3)))⟩

/-- operators/_linear_operator.py:LinearOperator.to (line 2621); formals ['self', 'args', 'kwargs'] -/
def f142_operators__linear_operator__LinearOperator_to : Fn := ⟨3,
 (.seq (.seq (.seq (.seq (.assign 4 (.join [1, 2]))
       (.seq (.assign 6 (.join [4]))
         (.assign 7 (.join [4]))))
     (.seq (.call 5 713 [6, 7])
       (.seq (.assign 8 (.view 5))
         (.assign 9 (.same 8)))))
   (.seq (.seq (.assign 10 (.view 5))
       (.seq (.assign 11 (.same 10))
         (.assign 12 (.join []))))
     (.seq (.seq (.assign 13 (.same 12))
         (.assign 14 (.join [])))
       (.seq (.assign 15 (.same 14))
         (.assign 16 (.view 0))))))
 (.seq (.seq (.seq (.ifStar (.call 16 807 [0, 3]) .skip)
       (.seq (.assign 17 (.same 16))
         (.whileStar ⟨[[0], [1], [2], [], [1, 2], [1, 2], [1, 2], [1, 2], [1, 2], [1, 2], [1, 2], [1, 2], [], [0, 1, 2], [], [], [0], [0], [0], [0], [0, 1, 2]], [], []⟩ (.seq (.assign 18 (.view 17))
             (.seq (.assign 19 (.same 18))
               (.ifStar (.seq (.call 20 852 [19, 11, 9])
                 (.assign 13 (.join [13, 20]))) (.assign 13 (.join [13, 19]))))))))
     (.seq (.seq (.assign 22 (.view 0))
         (.ifStar (.call 22 811 [0, 3]) .skip))
       (.seq (.assign 23 (.same 22))
         (.assign 21 (.join [23])))))
   (.seq (.seq (.whileStar ⟨[[0], [1], [2], [], [1, 2], [1, 2], [1, 2], [1, 2], [1, 2], [1, 2], [1, 2], [1, 2], [], [0, 1, 2], [], [0, 1, 2], [0], [0], [0], [0], [0, 1, 2], [0], [0], [0], [0], [0], [0], [0, 1, 2]], [], []⟩ (.seq (.seq (.assign 24 (.view 21))
             (.assign 25 (.view 24)))
           (.seq (.assign 26 (.same 25))
             (.ifStar (.seq (.call 27 852 [26, 11, 9])
                 (.assign 15 (.join [15, 27]))) (.assign 15 (.join [15, 26]))))))
       (.seq (.assign 28 (.join [13, 15]))
         (.assign 30 .fresh)))
     (.seq (.seq (.assign 32 (.join [28]))
         (.call 31 812 [30, 28, 28, 28, 28, 28, 28, 28, 28, 28, 28, 28, 28, 28, 28, 28, 28, 28, 28, 28, 28, 28, 28, 28, 28, 28, 28, 28, 28, 28, 28, 28, 28, 28, 28, 28, 28, 28, 28, 28, 28, 28, 28, 28, 28, 28, 28, 28, 28, 28, 28, 28, 28, 28, 32]))
       (.seq (.assign 29 (.join [28, 31]))
         (.ret 29))))))⟩

/-- operators/_linear_operator.py:LinearOperator.to_dense (line 2656); formals ['self'] -/
def f143_operators__linear_operator__LinearOperator_to_dense : Fn := ⟨1,
 (.seq (.seq (.ifStar (.seq (.seq (.seq (.assign 2 .fresh)
           (.assign 3 (.same 2)))
         (.seq (.assign 4 (.view 3))
           (.seq (.assign 3 (.same 4))
             (.assign 7 (.view 0)))))
       (.seq (.seq (.ifStar (.call 7 777 [0, 1]) .skip)
           (.seq (.assign 8 (.same 7))
             (.call 6 805 [8, 3, 1])))
         (.seq (.assign 9 (.view 6))
           (.seq (.assign 5 (.maybeView 9))
             (.assign 10 (.same 5)))))) (.seq (.seq (.assign 11 .fresh)
         (.seq (.assign 3 (.same 11))
           (.assign 12 (.view 3))))
       (.seq (.assign 3 (.same 12))
         (.seq (.call 13 805 [0, 3, 1])
           (.assign 10 (.same 13))))))
   (.assign 14 (.maybeView 10)))
 (.seq (.ret 14)
   (.ret 0)))⟩

/-- operators/_linear_operator.py:LinearOperator.transpose (line 2674); formals ['self', 'dim1', 'dim2'] -/
def f144_operators__linear_operator__LinearOperator_transpose : Fn := ⟨3,
 (.seq (.seq (.call 4 796 [0, 3])
   (.seq (.ifStar (.assign 1 (.same 3)) .skip)
     (.ifStar (.assign 2 (.same 3)) .skip)))
 (.seq (.ifStar (.ret 0) .skip)
   (.seq (.ifStar (.seq (.seq (.seq (.ifStar (.assign 5 (.same 1)) (.assign 5 (.same 2)))
             (.assign 6 (.same 5)))
           (.seq (.ifStar (.assign 7 (.same 2)) (.assign 7 (.same 1)))
             (.seq (.assign 8 (.same 7))
               (.assign 9 .fresh))))
         (.seq (.seq (.assign 10 .fresh)
             (.seq (.assign 11 .fresh)
               (.assign 12 (.join [9, 10, 11]))))
           (.seq (.assign 14 (.join [6, 8, 12]))
             (.seq (.call 13 810 [0, 14])
               (.assign 15 (.same 13)))))) (.ifStar (.seq (.call 16 829 [0, 3])
           (.assign 15 (.same 16))) .skip))
     (.ret 15))))⟩

/-- operators/_linear_operator.py:LinearOperator.type (line 2715); formals ['self', 'dtype'] -/
def f145_operators__linear_operator__LinearOperator_type : Fn := ⟨2,
 (.seq (.seq (.seq (.seq (.assign 3 (.join []))
       (.assign 4 (.same 3)))
     (.seq (.assign 5 (.join []))
       (.assign 6 (.same 5))))
   (.seq (.seq (.assign 7 (.view 0))
       (.ifStar (.call 7 807 [0, 2]) .skip))
     (.seq (.assign 8 (.same 7))
       (.seq (.whileStar ⟨[[0], [1], [], [], [0, 1], [], [], [0], [0], [0], [0], [], [0], [1], [], [1]], [], []⟩ (.seq (.assign 9 (.view 8))
             (.seq (.assign 10 (.same 9))
               (.ifStar (.ifStar (.seq (.seq (.call 12 781 [10, 2])
                 (.assign 11 .fresh))
                 (.seq (.call 13 853 [11, 1])
                 (.assign 4 (.join [4, 13])))) (.seq (.seq (.ifStar (.call 12 781 [10, 2]) .skip)
                 (.ifStar (.assign 11 .fresh) .skip))
                 (.seq (.ifStar (.call 13 853 [11, 1]) .skip)
                 (.seq (.ifStar (.assign 4 (.join [4, 13])) .skip)
                 (.ifStar (.seq (.assign 14 .fresh)
                 (.seq (.call 15 853 [14, 1])
                 (.assign 4 (.join [4, 15])))) .skip))))) (.assign 4 (.join [4, 10]))))))
         (.assign 17 (.view 0))))))
 (.seq (.seq (.seq (.ifStar (.call 17 811 [0, 2]) .skip)
       (.assign 18 (.same 17)))
     (.seq (.assign 16 (.join [18]))
       (.seq (.whileStar ⟨[[0], [1], [], [], [0, 1], [], [0, 1], [0], [0], [0], [0], [], [0], [1], [], [1], [0], [0], [0], [0], [0], [0], [], [0], [1], [], [1]], [], []⟩ (.seq (.seq (.assign 19 (.view 16))
               (.assign 20 (.view 19)))
             (.seq (.assign 21 (.same 20))
               (.ifStar (.ifStar (.seq (.seq (.call 23 781 [21, 2])
                 (.assign 22 .fresh))
                 (.seq (.call 24 853 [22, 1])
                 (.assign 6 (.join [6, 24])))) (.seq (.seq (.ifStar (.call 23 781 [21, 2]) .skip)
                 (.ifStar (.assign 22 .fresh) .skip))
                 (.seq (.ifStar (.call 24 853 [22, 1]) .skip)
                 (.seq (.ifStar (.assign 6 (.join [6, 24])) .skip)
                 (.ifStar (.seq (.assign 25 .fresh)
                 (.seq (.call 26 853 [25, 1])
                 (.assign 6 (.join [6, 26])))) .skip))))) (.assign 6 (.join [6, 21]))))))
         (.assign 27 (.join [4, 6])))))
   (.seq (.seq (.assign 29 .fresh)
       (.assign 31 (.join [27])))
     (.seq (.call 30 812 [29, 27, 27, 27, 27, 27, 27, 27, 27, 27, 27, 27, 27, 27, 27, 27, 27, 27, 27, 27, 27, 27, 27, 27, 27, 27, 27, 27, 27, 27, 27, 27, 27, 27, 27, 27, 27, 27, 27, 27, 27, 27, 27, 27, 27, 27, 27, 27, 27, 27, 27, 27, 27, 27, 31])
       (.seq (.assign 28 (.join [27, 30]))
         (.ret 28))))))⟩

/-- operators/_linear_operator.py:LinearOperator.unsqueeze (line 2751); formals ['self', 'dim'] -/
def f146_operators__linear_operator__LinearOperator_unsqueeze : Fn := ⟨2,
 (.seq (.seq (.ifStar (.seq (.call 3 808 [0, 2])
       (.assign 4 (.same 2))) (.assign 4 (.same 1)))
   (.assign 5 (.same 4)))
 (.seq (.call 6 854 [0, 5, 2])
   (.seq (.assign 7 (.same 6))
     (.ret 7))))⟩

/-- operators/_linear_operator.py:LinearOperator.zero_mean_mvn_samples (line 2769); formals ['self', 'num_samples'] -/
def f147_operators__linear_operator__LinearOperator_zero_mean_mvn_samples : Fn := ⟨2,
 (.seq (.ifStar (.seq (.seq (.seq (.seq (.call 3 767 [0, 2, 2])
           (.assign 4 .fresh))
         (.seq (.assign 5 (.same 4))
           (.seq (.call 7 808 [0, 2])
             (.assign 8 (.view 5)))))
       (.seq (.seq (.assign 6 (.maybeView 8))
           (.assign 5 (.same 6)))
         (.seq (.assign 9 (.view 5))
           (.seq (.assign 5 (.same 9))
             (.call 10 819 [0, 2])))))
     (.seq (.seq (.seq (.assign 11 .fresh)
           (.call 12 707 [10, 5, 2, 2, 2, 2, 11, 2]))
         (.seq (.assign 13 (.view 12))
           (.seq (.assign 14 (.same 13))
             (.assign 15 (.view 12)))))
       (.seq (.seq (.assign 16 (.same 15))
           (.seq (.ifStar (.assign 19 .fresh) (.ifStar (.call 19 804 [16, 14, 2]) (.call 19 803 [14, 16, 2])))
             (.call 20 835 [19, 2, 2])))
         (.seq (.assign 18 .fresh)
           (.seq (.ifStar (.assign 17 (.view 18)) (.call 17 784 [18, 2, 2]))
             (.ret 17)))))) (.seq (.seq (.seq (.call 21 767 [0, 2, 2])
         (.seq (.ifStar (.seq (.call 23 778 [0, 2, 2, 2, 2, 2])
               (.seq (.assign 22 .fresh)
                 (.assign 24 (.same 22)))) (.seq (.call 25 772 [0, 2, 2])
               (.seq (.assign 26 (.view 25))
                 (.assign 24 (.same 26)))))
           (.call 27 767 [24, 2, 2])))
       (.seq (.assign 28 .fresh)
         (.seq (.assign 5 (.same 28))
           (.call 30 808 [0, 2]))))
     (.seq (.seq (.assign 31 .fresh)
         (.seq (.assign 32 (.join [31]))
           (.ifStar (.assign 34 .fresh) (.call 34 805 [24, 5, 2]))))
       (.seq (.seq (.assign 35 (.join [2, 32]))
           (.ifStar (.assign 33 (.view 34)) (.call 33 809 [34, 35])))
         (.seq (.assign 29 (.maybeView 33))
           (.assign 36 (.same 29)))))))
 (.ret 36))⟩

/-- operators/_linear_operator.py:LinearOperator.__sub__ (line 2818); formals ['self', 'other'] -/
def f148_operators__linear_operator__LinearOperator___sub__ : Fn := ⟨2,
 (.seq (.ifStar (.assign 3 .fresh) (.call 3 833 [1, 2, 2]))
 (.seq (.ifStar (.call 4 826 [3, 0, 2, 2]) (.call 4 825 [0, 3, 2]))
   (.ret 4)))⟩

/-- operators/_linear_operator.py:LinearOperator.__add__ (line 2824); formals ['self', 'other'] -/
def f149_operators__linear_operator__LinearOperator___add__ : Fn := ⟨2,
 (.ifStar (.seq (.ifStar (.call 3 826 [0, 1, 2, 2]) (.call 3 825 [1, 0, 2]))
   (.ret 3)) (.ifStar (.seq (.seq (.assign 5 .fresh)
       (.assign 6 (.join [0, 1])))
     (.seq (.call 4 163 [5, 2, 6])
       (.ret 4))) (.ifStar (.seq (.seq (.ifStar (.assign 7 .fresh) (.call 7 772 [1, 2, 2]))
         (.assign 8 (.view 7)))
       (.seq (.call 9 855 [0, 8, 2, 2, 2, 2])
         (.ret 9))) (.ifStar (.seq (.seq (.seq (.call 10 311 [1])
             (.seq (.assign 1 (.same 10))
               (.assign 11 .fresh)))
           (.seq (.assign 12 (.same 11))
             (.seq (.ifStar (.assign 15 (.same 0)) (.seq (.assign 13 (.view 12))
                 (.seq (.call 14 817 [0, 13, 2])
                 (.assign 15 (.same 14)))))
               (.assign 16 (.same 15)))))
         (.seq (.seq (.ifStar (.assign 19 (.same 1)) (.seq (.assign 17 (.view 12))
                 (.seq (.ifStar (.assign 18 .fresh) (.call 18 817 [1, 17, 2]))
                 (.assign 19 (.same 18)))))
             (.seq (.assign 20 (.same 19))
               (.assign 22 .fresh)))
           (.seq (.seq (.assign 23 (.join [16, 20]))
               (.assign 24 (.join [16, 20])))
             (.seq (.call 21 595 [22, 23, 24])
               (.ret 21))))) (.ifStar (.ret 0) (.seq (.seq (.assign 26 .fresh)
             (.assign 27 (.join [0, 1])))
           (.seq (.assign 28 (.join [0, 1]))
             (.seq (.call 25 595 [26, 27, 28])
               (.ret 25)))))))))⟩

/-- operators/_linear_operator.py:LinearOperator.__getitem__ (line 2854); formals ['self', 'index'] -/
def f150_operators__linear_operator__LinearOperator___getitem__ : Fn := ⟨2,
 (.seq (.seq (.seq (.seq (.seq (.call 3 796 [0, 2])
         (.seq (.ifStar (.assign 5 (.same 1)) (.seq (.assign 4 (.join [1]))
               (.assign 5 (.same 4))))
           (.assign 1 (.same 5))))
       (.seq (.assign 6 .fresh)
         (.seq (.assign 8 (.view 1))
           (.assign 7 (.same 8)))))
     (.seq (.seq (.whileStar ⟨[[0], [1], [], [], [1], [1], [1], [1], [1], [1], [], [1]], [], []⟩ (.seq (.seq (.assign 9 (.view 1))
               (.assign 7 (.same 9)))
             (.seq (.ifStar (.seq (.assign 10 .fresh)
                 (.assign 11 (.same 10))) (.assign 11 (.same 7)))
               (.assign 6 (.join [6, 11])))))
         (.seq (.assign 12 (.join [6]))
           (.assign 1 (.same 12))))
       (.seq (.assign 13 .fresh)
         (.seq (.assign 15 (.view 1))
           (.assign 14 (.same 15))))))
   (.seq (.seq (.seq (.whileStar ⟨[[0], [1], [], [], [1], [1], [1], [1], [1], [1], [], [1], [1], [1], [1], [1], [1], [], [1]], [], []⟩ (.seq (.seq (.assign 16 (.view 1))
               (.assign 14 (.same 16)))
             (.seq (.ifStar (.seq (.assign 17 .fresh)
                 (.assign 18 (.same 17))) (.assign 18 (.same 14)))
               (.assign 13 (.join [13, 18])))))
         (.seq (.assign 19 (.join [13]))
           (.assign 1 (.same 19))))
       (.seq (.assign 20 .fresh)
         (.seq (.assign 22 (.view 2))
           (.assign 21 (.same 22)))))
     (.seq (.seq (.whileStar ⟨[[0], [1], [], [], [1], [1], [1], [1], [1], [1], [], [1], [1], [1], [1], [1], [1], [], [1], [1]], [], []⟩ (.seq (.assign 23 (.view 2))
             (.seq (.assign 21 (.same 23))
               (.assign 20 (.join [20, 21])))))
         (.seq (.ifStar (.seq (.seq (.seq (.ifStar (.call 24 789 [1, 2, 2]) (.assign 24 (.view 1)))
                 (.assign 25 .fresh))
                 (.seq (.whileStar ⟨[[0], [1], [], [], [1], [1], [1], [1], [1], [1], [], [1], [1], [1], [1], [1], [1], [], [1], [1], [], [], [], [], [1]], [], []⟩ (.assign 25 (.join [2, 25])))
                 (.assign 26 (.join [25]))))
               (.seq (.seq (.assign 27 (.join [24, 26]))
                 (.ifStar (.call 28 789 [1, 2, 2]) (.assign 28 (.view 1))))
                 (.seq (.assign 29 (.join [27, 28]))
                 (.assign 1 (.same 29))))) .skip)
           (.assign 30 .fresh)))
       (.seq (.seq (.whileStar ⟨[[0], [1], [], [], [1], [1], [1], [1], [1], [1], [], [1], [1], [1], [1], [1], [1], [], [1], [1], [], [], [], [], [1], [], [], [1], [1], [1]], [], []⟩ (.assign 30 (.join [2, 30])))
           (.assign 31 (.join [30])))
         (.seq (.assign 32 (.join [1, 31]))
           (.assign 1 (.same 32)))))))
 (.seq (.seq (.seq (.seq (.assign 33 (.join [1, 2]))
         (.seq (.whileStar ⟨[[0], [1], [], [], [1], [1], [1], [1], [1], [1], [], [1], [1], [1], [1], [1], [1], [], [1], [1], [], [], [], [], [1], [], [], [1], [1], [1], [], [], [1], [1], [1], [1], [1]], [], []⟩ (.seq (.seq (.assign 34 (.view 33))
                 (.assign 35 (.view 34)))
               (.seq (.assign 36 (.same 35))
                 (.ifStar .skip (.call 37 837 [36, 2])))))
           (.assign 38 .fresh)))
       (.seq (.assign 41 (.view 1))
         (.seq (.assign 39 (.same 41))
           (.assign 42 (.view 2)))))
     (.seq (.seq (.assign 40 (.same 42))
         (.seq (.whileStar ⟨[[0], [1], [], [], [1], [1], [1], [1], [1], [1], [], [1], [1], [1], [1], [1], [1], [], [1], [1], [], [], [], [], [1], [], [], [1], [1], [1], [], [], [1], [1], [1], [1], [1], [], [1], [1], [], [1], [], [1], [], [1]], [], []⟩ (.seq (.seq (.assign 43 (.view 1))
                 (.seq (.assign 39 (.same 43))
                 (.assign 44 (.view 2))))
               (.seq (.assign 40 (.same 44))
                 (.seq (.call 45 160 [39, 40])
                 (.assign 38 (.join [38, 45]))))))
           (.assign 46 (.join [38]))))
       (.seq (.seq (.assign 1 (.same 46))
           (.assign 47 (.view 1)))
         (.seq (.assign 48 (.same 47))
           (.assign 49 (.view 1))))))
   (.seq (.seq (.seq (.assign 50 (.same 49))
         (.seq (.assign 51 (.view 1))
           (.assign 52 (.same 51))))
       (.seq (.assign 53 .fresh)
         (.seq (.whileStar ⟨[[0], [1], [], [], [1], [1], [1], [1], [1], [1], [], [1], [1], [1], [1], [1], [1], [], [1], [1], [], [], [], [], [1], [], [], [1], [1], [1], [], [], [1], [1], [1], [1], [1], [], [1], [1], [], [1], [], [1], [], [1], [1], [1], [1], [1], [1], [1], [1]], [], []⟩ (.seq (.assign 54 .fresh)
               (.assign 53 (.join [53, 54]))))
           (.ifStar (.seq (.ifStar (.seq (.call 55 767 [0, 2, 2])
                 (.assign 50 .fresh)) .skip)
               (.ifStar (.seq (.assign 56 .fresh)
                 (.assign 50 (.same 56))) .skip)) .skip))))
     (.seq (.seq (.ifStar (.seq (.ifStar (.seq (.call 57 767 [0, 2, 2])
                 (.assign 52 .fresh)) .skip)
             (.ifStar (.seq (.assign 58 .fresh)
                 (.assign 52 (.same 58))) .skip)) .skip)
         (.seq (.ifStar (.seq (.seq (.seq (.seq (.assign 59 (.join [48, 50, 52]))
                 (.assign 60 (.same 59)))
                 (.seq (.assign 61 .fresh)
                 (.seq (.whileStar ⟨[[0], [1], [], [], [1], [1], [1], [1], [1], [1], [], [1], [1], [1], [1], [1], [1], [], [1], [1], [], [], [], [], [1], [], [], [1], [1], [1], [], [], [1], [1], [1], [1], [1], [], [1], [1], [], [1], [], [1], [], [1], [1], [1], [1], [1], [1], [1], [1], [], [], [0], [], [0], [], [1], [1]], [], []⟩ (.assign 61 (.join [2, 61])))
                 (.assign 62 .fresh))))
                 (.seq (.seq (.assign 63 (.same 62))
                 (.seq (.assign 64 .fresh)
                 (.assign 66 (.view 60))))
                 (.seq (.assign 65 (.same 66))
                 (.seq (.whileStar ⟨[[0], [1], [], [], [1], [1], [1], [1], [1], [1], [], [1], [1], [1], [1], [1], [1], [], [1], [1], [], [], [], [], [1], [], [], [1], [1], [1], [], [], [1], [1], [1], [1], [1], [], [1], [1], [], [1], [], [1], [], [1], [1], [1], [1], [1], [1], [1], [1], [], [], [0], [], [0], [], [1], [1], [], [], [], [1], [1], [1], [1], [1], [1], [], [], [1]], [], []⟩ (.seq (.seq (.assign 67 (.view 60))
                 (.assign 65 (.same 67)))
                 (.seq (.ifStar (.seq (.seq (.assign 70 (.join [63]))
                 (.ifStar (.assign 69 (.view 65)) (.call 69 776 [65, 70])))
                 (.seq (.assign 71 (.join [2]))
                 (.seq (.ifStar (.assign 68 (.maybeView 69)) (.call 68 856 [69, 71]))
                 (.assign 72 (.same 68))))) (.assign 72 (.same 65)))
                 (.assign 64 (.join [64, 72])))))
                 (.assign 73 (.same 64))))))
               (.seq (.seq (.seq (.call 74 715 [0, 73])
                 (.seq (.assign 75 (.view 74))
                 (.assign 76 (.same 75))))
                 (.seq (.assign 77 (.view 74))
                 (.seq (.assign 78 (.same 77))
                 (.assign 79 (.view 74)))))
                 (.seq (.seq (.assign 80 (.same 79))
                 (.seq (.assign 81 (.join [76]))
                 (.assign 83 (.join [81]))))
                 (.seq (.call 82 857 [0, 78, 80, 83])
                 (.seq (.assign 84 (.same 82))
                 (.ifStar (.seq (.call 85 718 [60])
                 (.ifStar (.seq (.assign 86 (.view 84))
                 (.assign 84 (.same 86))) (.seq (.whileStar ⟨[[0], [1], [], [], [1], [1], [1], [1], [1], [1], [], [1], [1], [1], [1], [1], [1], [], [1], [1], [], [], [], [], [1], [], [], [1], [1], [1], [], [], [1], [1], [1], [1], [1], [], [1], [1], [], [1], [], [1], [], [1], [1], [1], [1], [1], [1], [1], [1], [], [], [0], [], [0], [], [1], [1], [], [], [], [1], [1], [1], [1], [1], [1], [], [], [1], [1], [1], [1], [1], [1], [1], [1], [1], [1], [0, 1], [1], [0, 1], [], [], [1]], [], []⟩ (.seq (.assign 87 (.view 60))
                 (.assign 36 (.same 87))))
                 (.seq (.assign 88 (.view 84))
                 (.assign 84 (.same 88)))))) .skip)))))) (.seq (.seq (.assign 89 (.join [48]))
                 (.assign 91 (.join [89])))
               (.seq (.call 90 813 [0, 50, 52, 91])
                 (.assign 84 (.same 90)))))
           (.ifStar (.seq (.call 92 162 [84])
               (.assign 84 (.same 92))) .skip)))
       (.seq (.seq (.ifStar (.seq (.ifStar (.assign 93 (.view 84)) (.call 93 784 [84, 2, 2]))
               (.assign 84 (.same 93))) .skip)
           (.ifStar (.seq (.ifStar (.assign 94 (.view 84)) (.call 94 784 [84, 2, 2]))
               (.assign 84 (.same 94))) .skip))
         (.seq (.ifStar (.call 95 714 [0, 1]) .skip)
           (.ret 84)))))))⟩

/-- operators/_linear_operator.py:LinearOperator._isclose (line 2989); formals ['self', 'other', 'rtol', 'atol', 'equal_nan'] -/
def f151_operators__linear_operator__LinearOperator__isclose : Fn := ⟨5,
 (.seq (.seq (.call 5 162 [0])
   (.call 6 162 [1]))
 (.seq (.assign 7 .fresh)
   (.ret 7)))⟩

/-- operators/_linear_operator.py:LinearOperator.__matmul__ (line 3001); formals ['self', 'other'] -/
def f152_operators__linear_operator__LinearOperator___matmul__ : Fn := ⟨2,
 (.seq (.call 3 805 [0, 1, 2])
 (.ret 3))⟩

/-- operators/_linear_operator.py:LinearOperator.__rmatmul__ (line 3010); formals ['self', 'other'] -/
def f153_operators__linear_operator__LinearOperator___rmatmul__ : Fn := ⟨2,
 (.seq (.call 3 858 [0, 1, 2])
 (.ret 3))⟩

/-- operators/_linear_operator.py:LinearOperator.__mul__ (line 3017); formals ['self', 'other'] -/
def f154_operators__linear_operator__LinearOperator___mul__ : Fn := ⟨2,
 (.seq (.call 3 833 [0, 1, 2])
 (.ret 3))⟩

/-- operators/_linear_operator.py:LinearOperator.__radd__ (line 3025); formals ['self', 'other', 'alpha'] -/
def f155_operators__linear_operator__LinearOperator___radd__ : Fn := ⟨3,
 (.seq (.seq (.ifStar (.seq (.ifStar (.call 4 826 [1, 0, 3, 3]) (.call 4 825 [0, 1, 3]))
       (.ret 4)) .skip)
   (.call 5 833 [0, 2, 3]))
 (.seq (.ifStar (.assign 6 .fresh) (.ifStar (.call 6 826 [1, 5, 3, 3]) (.call 6 825 [5, 1, 3])))
   (.ret 6)))⟩

/-- operators/_linear_operator.py:LinearOperator.__rmul__ (line 3035); formals ['self', 'other'] -/
def f156_operators__linear_operator__LinearOperator___rmul__ : Fn := ⟨2,
 (.seq (.call 3 833 [0, 1, 2])
 (.ret 3))⟩

/-- operators/_linear_operator.py:LinearOperator.__rsub__ (line 3043); formals ['self', 'other', 'alpha'] -/
def f157_operators__linear_operator__LinearOperator___rsub__ : Fn := ⟨3,
 (.seq (.seq (.ifStar (.seq (.call 4 833 [0, 3, 3])
       (.seq (.ifStar (.assign 5 .fresh) (.ifStar (.call 5 826 [1, 4, 3, 3]) (.call 5 825 [4, 1, 3])))
         (.ret 5))) .skip)
   (.call 6 833 [0, 3, 3]))
 (.seq (.ifStar (.assign 7 .fresh) (.ifStar (.call 7 826 [1, 6, 3, 3]) (.call 7 825 [6, 1, 3])))
   (.ret 7)))⟩

/-- operators/_linear_operator.py:LinearOperator.__torch_function__ (line 3054); formals ['cls', 'func', 'types', 'args', 'kwargs'] -/
def f158_operators__linear_operator__LinearOperator___torch_function__ : Fn := ⟨5,
 (.seq (.seq (.ifStar (.seq (.assign 6 (.join []))
       (.assign 4 (.same 6))) .skip)
   (.ifStar (.seq (.seq (.seq (.assign 7 (.join [3]))
           (.assign 8 (.join [4])))
         (.seq (.assign 9 (.same 7))
           (.seq (.assign 10 (.same 8))
             (.assign 3 (.same 9)))))
       (.seq (.seq (.assign 4 (.same 10))
           (.seq (.assign 11 (.join [5]))
             (.assign 12 (.join [5]))))
         (.seq (.assign 13 (.join [11, 12]))
           (.seq (.assign 14 (.view 13))
             (.whileStar ⟨[[0], [1], [2], [3, 4], [4], [], [], [3], [4], [3], [4], [], [], [], [], [], [], [], [], [], [], [], [], [4], [4], [3, 4]], [], []⟩ (.seq (.seq (.seq (.assign 15 (.view 14))
                 (.seq (.assign 16 (.same 15))
                 (.assign 17 .fresh)))
                 (.seq (.assign 19 (.view 16))
                 (.seq (.assign 18 (.same 19))
                 (.whileStar ⟨[[0], [1], [2], [3, 4], [4], [], [], [3], [4], [3], [4], [], [], [], [], [], [], [], [], [], [], [], [], [4], [4], [3, 4]], [], []⟩ (.seq (.assign 20 (.view 16))
                 (.seq (.assign 18 (.same 20))
                 (.assign 17 (.join [17, 18]))))))))
                 (.seq (.seq (.assign 21 (.join [5, 17]))
                 (.seq (.assign 22 (.same 21))
                 (.assign 4 (.join [4, 22]))))
                 (.seq (.seq (.assign 23 (.same 4))
                 (.assign 24 (.join [23])))
                 (.seq (.assign 25 (.join [3, 24]))
                 (.assign 3 (.same 25))))))))))) .skip))
 (.seq (.ifStar (.call 26 789 [3, 5, 5]) .skip)
   (.ifStar (.seq (.seq (.seq (.assign 27 .fresh)
           (.whileStar ⟨[[0], [1], [2], [3, 4], [4], [], [], [3], [4], [3], [4], [], [], [], [], [], [], [], [], [], [], [], [], [4], [4], [3, 4], [3, 4]], [], []⟩ (.seq (.assign 28 .fresh)
               (.assign 27 (.join [27, 28])))))
         (.seq (.ifStar (.seq (.seq (.assign 29 (.join [5]))
                 (.seq (.assign 22 (.same 29))
                 (.assign 30 .fresh)))
               (.seq (.whileStar ⟨[[0], [1], [2], [3, 4], [4], [], [], [3], [4], [3], [4], [], [], [], [], [], [], [], [], [], [], [], [], [4], [4], [3, 4], [3, 4]], [], []⟩ (.assign 30 (.join [5, 30])))
                 (.seq (.assign 31 .fresh)
                 (.whileStar ⟨[[0], [1], [2], [3, 4], [4], [], [], [3], [4], [3], [4], [], [], [], [], [], [], [], [], [], [], [], [], [4], [4], [3, 4], [3, 4]], [], []⟩ (.assign 31 (.join [5, 31])))))) .skip)
           (.seq (.assign 32 (.join [0, 5]))
             (.assign 1 (.same 32)))))
       (.seq (.seq (.ifStar (.call 33 789 [3, 5, 5]) (.assign 33 (.view 3)))
           (.seq (.ifStar (.call 34 789 [3, 5, 5]) (.assign 34 (.view 3)))
             (.ifStar (.call 35 789 [3, 5, 5]) (.assign 35 (.view 3)))))
         (.seq (.assign 36 (.join [4, 35]))
           (.seq (.assign 37 (.opq [33, 34, 36]))
             (.ret 37))))) (.seq (.seq (.seq (.assign 38 .fresh)
           (.whileStar ⟨[[0], [1], [2], [3, 4], [4], [], [], [3], [4], [3], [4], [], [], [], [], [], [], [], [], [], [], [], [], [4], [4], [3, 4], [3, 4]], [], []⟩ (.seq (.assign 39 .fresh)
               (.assign 38 (.join [38, 39])))))
         (.seq (.ifStar (.seq (.seq (.assign 40 (.join [5]))
                 (.seq (.assign 22 (.same 40))
                 (.assign 41 .fresh)))
               (.seq (.whileStar ⟨[[0], [1], [2], [3, 4], [4], [], [], [3], [4], [3], [4], [], [], [], [], [], [], [], [], [], [], [], [], [4], [4], [3, 4], [3, 4]], [], []⟩ (.assign 41 (.join [5, 41])))
                 (.seq (.assign 42 .fresh)
                 (.whileStar ⟨[[0], [1], [2], [3, 4], [4], [], [], [3], [4], [3], [4], [], [], [], [], [], [], [], [], [], [], [], [], [4], [4], [3, 4], [3, 4]], [], []⟩ (.assign 42 (.join [5, 42])))))) .skip)
           (.assign 43 (.join [0, 5]))))
       (.seq (.seq (.assign 1 (.same 43))
           (.assign 44 (.join [3, 4])))
         (.seq (.assign 45 (.opq [44]))
           (.ret 45)))))))⟩

/-- operators/_linear_operator.py:LinearOperator.__truediv__ (line 3093); formals ['self', 'other'] -/
def f159_operators__linear_operator__LinearOperator___truediv__ : Fn := ⟨2,
 (.seq (.call 3 859 [0, 1, 2])
 (.ret 3))⟩

/-- operators/_linear_operator.py:_normalize_negative_index (line 3097); formals ['idx', 'size'] -/
def f160_operators__linear_operator___normalize_negative_index : Fn := ⟨2,
 (.seq (.seq (.ifStar (.seq (.ifStar (.assign 3 (.same 2)) (.assign 3 (.same 0)))
       (.ret 3)) .skip)
   (.call 4 837 [0, 2]))
 (.seq (.ifStar (.seq (.assign 5 .fresh)
       (.ret 5)) .skip)
   (.ret 0)))⟩

/-- operators/_linear_operator.py:_import_dotted_name (line 3106); formals ['name'] -/
def f161_operators__linear_operator___import_dotted_name : Fn := ⟨1,
 (.seq (.seq (.seq (.assign 2 (.join [0, 1]))
     (.assign 3 (.same 2)))
   (.seq (.assign 4 (.view 3))
     (.assign 5 (.opq [4]))))
 (.seq (.seq (.assign 6 (.same 5))
     (.assign 7 (.view 3)))
   (.seq (.whileStar ⟨[[0], [], [0], [0], [0], [0], [0], [0], [0], [0], [0]], [], []⟩ (.seq (.seq (.assign 8 (.view 7))
           (.assign 9 (.same 8)))
         (.seq (.assign 10 (.join [6, 9]))
           (.assign 6 (.same 10)))))
     (.ret 6))))⟩

/-- operators/_linear_operator.py:to_dense (line 3114); formals ['obj'] -/
def f162_operators__linear_operator__to_dense : Fn := ⟨1,
 (.ifStar (.ret 0) (.ifStar (.seq (.ifStar (.assign 2 (.maybeView 0)) (.call 2 778 [0, 1, 1, 1, 1, 1]))
     (.ret 2)) .skip))⟩

/-- operators/added_diag_linear_operator.py:AddedDiagLinearOperator.__init__ (line 37); formals ['self', 'preconditioner_override', 'linear_ops'] -/
def f163_operators_added_diag_linear_operator__AddedDiagLinearOperator___init__ : Fn := ⟨3,
 (.seq (.seq (.seq (.assign 4 (.join [2]))
     (.seq (.assign 2 (.same 4))
       (.assign 5 (.join [2]))))
   (.seq (.seq (.assign 7 (.join [5]))
       (.call 6 812 [0, 5, 5, 1, 5, 5, 5, 5, 5, 5, 5, 5, 5, 5, 5, 5, 5, 5, 5, 5, 5, 5, 5, 5, 5, 5, 5, 5, 5, 5, 5, 5, 5, 5, 5, 5, 5, 5, 5, 5, 5, 5, 5, 5, 5, 5, 5, 5, 5, 5, 5, 5, 5, 5, 7]))
     (.seq (.ifStar .skip (.ifStar (.seq (.seq (.assign 8 (.view 2))
               (.assign 0 (.join [0, 8])))
             (.seq (.assign 9 (.view 2))
               (.assign 0 (.join [0, 9])))) (.ifStar (.seq (.seq (.assign 10 (.view 2))
                 (.assign 0 (.join [0, 10])))
               (.seq (.assign 11 (.view 2))
                 (.assign 0 (.join [0, 11])))) .skip)))
       (.assign 0 (.join [0, 1])))))
 (.seq (.seq (.seq (.assign 0 (.join [0, 3]))
       (.assign 0 (.join [0, 3])))
     (.seq (.assign 0 (.join [0, 3]))
       (.assign 0 (.join [0, 3]))))
   (.seq (.seq (.assign 0 (.join [0, 3]))
       (.assign 0 (.join [0, 3])))
     (.seq (.assign 0 (.join [0, 3]))
       (.ret 0)))))⟩

/-- operators/added_diag_linear_operator.py:AddedDiagLinearOperator._matmul (line 73); formals ['self', 'rhs'] -/
def f164_operators_added_diag_linear_operator__AddedDiagLinearOperator__matmul : Fn := ⟨2,
 (.seq (.seq (.seq (.assign 4 (.view 0))
     (.call 3 815 [4, 1, 2]))
   (.seq (.assign 6 (.view 0))
     (.assign 7 (.view 6))))
 (.seq (.seq (.ifStar (.call 7 860 [6, 2]) .skip)
     (.assign 8 (.same 7)))
   (.seq (.ifStar .skip (.call 5 782 [8, 2, 2]))
     (.seq (.assign 9 .fresh)
       (.ret 9)))))⟩

/-- operators/added_diag_linear_operator.py:AddedDiagLinearOperator.add_diagonal (line 79); formals ['self', 'diag'] -/
def f165_operators_added_diag_linear_operator__AddedDiagLinearOperator_add_diagonal : Fn := ⟨2,
 (.seq (.seq (.seq (.assign 3 (.view 0))
     (.assign 5 (.view 0)))
   (.seq (.ifStar (.assign 4 .fresh) (.call 4 765 [5, 1, 2]))
     (.assign 7 .fresh)))
 (.seq (.seq (.assign 9 (.join [3, 4]))
     (.call 8 812 [7, 2, 2, 2, 2, 2, 2, 2, 2, 2, 2, 2, 2, 2, 2, 2, 2, 2, 2, 2, 2, 2, 2, 2, 2, 2, 2, 2, 2, 2, 2, 2, 2, 2, 2, 2, 2, 2, 2, 2, 2, 2, 2, 2, 2, 2, 2, 2, 2, 2, 2, 2, 2, 2, 9]))
   (.seq (.assign 6 (.join [3, 4, 8]))
     (.ret 6))))⟩

/-- operators/added_diag_linear_operator.py:AddedDiagLinearOperator.__add__ (line 85); formals ['self', 'other'] -/
def f166_operators_added_diag_linear_operator__AddedDiagLinearOperator___add__ : Fn := ⟨2,
 (.ifStar (.seq (.seq (.seq (.assign 3 (.view 0))
       (.assign 4 (.view 0)))
     (.seq (.ifStar (.assign 5 .fresh) (.ifStar (.call 5 826 [1, 4, 2, 2]) (.call 5 825 [4, 1, 2])))
       (.assign 7 .fresh)))
   (.seq (.seq (.assign 9 (.join [3, 5]))
       (.call 8 812 [7, 2, 2, 2, 2, 2, 2, 2, 2, 2, 2, 2, 2, 2, 2, 2, 2, 2, 2, 2, 2, 2, 2, 2, 2, 2, 2, 2, 2, 2, 2, 2, 2, 2, 2, 2, 2, 2, 2, 2, 2, 2, 2, 2, 2, 2, 2, 2, 2, 2, 2, 2, 2, 2, 9]))
     (.seq (.assign 6 (.join [3, 5, 8]))
       (.ret 6)))) (.seq (.seq (.seq (.assign 10 (.view 0))
       (.ifStar (.call 11 826 [1, 10, 2, 2]) (.call 11 825 [10, 1, 2])))
     (.seq (.assign 12 (.view 0))
       (.assign 14 .fresh)))
   (.seq (.seq (.assign 16 (.join [11, 12]))
       (.call 15 812 [14, 2, 2, 2, 2, 2, 2, 2, 2, 2, 2, 2, 2, 2, 2, 2, 2, 2, 2, 2, 2, 2, 2, 2, 2, 2, 2, 2, 2, 2, 2, 2, 2, 2, 2, 2, 2, 2, 2, 2, 2, 2, 2, 2, 2, 2, 2, 2, 2, 2, 2, 2, 2, 2, 16]))
     (.seq (.assign 13 (.join [11, 12, 15]))
       (.ret 13)))))⟩

/-- operators/added_diag_linear_operator.py:AddedDiagLinearOperator._preconditioner (line 96); formals ['self'] -/
def f167_operators_added_diag_linear_operator__AddedDiagLinearOperator__preconditioner : Fn := ⟨1,
 (.seq (.seq (.seq (.ifStar (.seq (.assign 2 (.opq [0]))
         (.ret 2)) .skip)
     (.call 3 767 [0, 1, 1]))
   (.seq (.ifStar (.seq (.assign 4 (.join [1]))
         (.ret 4)) .skip)
     (.ifStar (.seq (.seq (.assign 5 .fresh)
           (.seq (.assign 6 (.same 5))
             (.assign 8 (.view 0))))
         (.seq (.seq (.call 7 771 [8, 6, 1, 1, 1])
             (.assign 0 (.join [0, 7])))
           (.seq (.ifStar (.seq (.assign 9 (.join [1]))
                 (.ret 9)) .skip)
             (.call 10 861 [0, 1])))) .skip)))
 (.seq (.seq (.assign 11 (.join [0]))
     (.assign 12 (.view 0)))
   (.seq (.assign 13 (.view 0))
     (.seq (.assign 14 (.join [11, 12, 13]))
       (.ret 14)))))⟩

/-- operators/added_diag_linear_operator.py:AddedDiagLinearOperator._init_cache (line 145); formals ['self'] -/
def f168_operators_added_diag_linear_operator__AddedDiagLinearOperator__init_cache : Fn := ⟨1,
 (.seq (.seq (.seq (.seq (.assign 2 (.view 1))
       (.seq (.assign 3 (.same 2))
         (.assign 4 (.view 1))))
     (.seq (.seq (.assign 5 (.same 4))
         (.assign 6 (.view 1)))
       (.seq (.assign 7 (.same 6))
         (.assign 10 (.view 0)))))
   (.seq (.seq (.ifStar (.assign 9 .fresh) (.call 9 818 [10, 1]))
       (.seq (.ifStar (.assign 8 (.view 9)) (.call 8 782 [9, 1, 1]))
         (.assign 0 (.join [0, 8]))))
     (.seq (.seq (.assign 11 (.view 0))
         (.assign 12 (.join [1])))
       (.seq (.ifStar (.call 13 789 [11, 12, 1]) .skip)
         (.assign 14 .fresh)))))
 (.seq (.seq (.seq (.assign 0 (.join [0, 14]))
       (.seq (.assign 15 .fresh)
         (.assign 16 (.same 15))))
     (.seq (.seq (.assign 17 (.view 16))
         (.assign 16 (.same 17)))
       (.seq (.ifStar (.call 18 864 [0, 16, 3, 5, 7, 1]) (.call 19 865 [0, 16, 3, 5, 1]))
         (.assign 20 (.view 0)))))
   (.seq (.seq (.seq (.assign 22 .fresh)
         (.call 21 566 [22, 20, 1]))
       (.seq (.assign 23 (.view 0))
         (.assign 25 .fresh)))
     (.seq (.seq (.assign 26 (.join [21, 23]))
         (.assign 27 (.join [21, 23])))
       (.seq (.call 24 595 [25, 26, 27])
         (.assign 0 (.join [0, 24])))))))⟩

/-- operators/added_diag_linear_operator.py:AddedDiagLinearOperator._init_cache_for_constant_diag (line 162); formals ['self', 'eye', 'batch_shape', 'n', 'k'] -/
def f169_operators_added_diag_linear_operator__AddedDiagLinearOperator__init_cache_for_constant_diag : Fn := ⟨5,
 (.seq (.seq (.seq (.seq (.assign 7 (.view 0))
       (.seq (.assign 6 (.view 7))
         (.assign 0 (.join [0, 6]))))
     (.seq (.seq (.assign 8 (.view 0))
         (.call 9 783 [8, 5]))
       (.seq (.assign 10 .fresh)
         (.assign 11 (.view 10)))))
   (.seq (.seq (.assign 0 (.join [0, 11]))
       (.seq (.assign 12 (.view 10))
         (.assign 0 (.join [0, 12]))))
     (.seq (.seq (.assign 13 (.view 0))
         (.assign 14 (.join [5])))
       (.seq (.ifStar (.call 15 789 [13, 14, 5]) (.assign 15 (.view 13)))
         (.assign 0 (.join [0, 15]))))))
 (.seq (.seq (.seq (.assign 19 (.view 0))
       (.seq (.ifStar (.assign 18 (.view 19)) (.call 18 866 [19, 5, 5, 5, 5]))
         (.call 20 867 [18, 5])))
     (.seq (.seq (.assign 17 .fresh)
         (.ifStar (.assign 16 .fresh) (.call 16 833 [17, 5, 5])))
       (.seq (.assign 21 (.same 16))
         (.assign 24 (.view 0)))))
   (.seq (.seq (.ifStar (.assign 23 (.view 24)) (.call 23 784 [24, 5, 5]))
       (.seq (.ifStar (.assign 22 (.view 23)) (.call 22 784 [23, 5, 5]))
         (.call 25 868 [22, 5])))
     (.seq (.seq (.assign 26 .fresh)
         (.assign 21 (.same 26)))
       (.seq (.ifStar (.seq (.assign 27 (.view 21))
             (.assign 29 (.same 27))) (.seq (.ifStar (.assign 28 (.view 21)) (.call 28 784 [21, 5, 5]))
             (.assign 29 (.same 28))))
         (.assign 0 (.join [0, 29])))))))⟩

/-- operators/added_diag_linear_operator.py:AddedDiagLinearOperator._init_cache_for_non_constant_diag (line 175); formals ['self', 'eye', 'batch_shape', 'n'] -/
def f170_operators_added_diag_linear_operator__AddedDiagLinearOperator__init_cache_for_non_constant_diag : Fn := ⟨4,
 (.seq (.seq (.seq (.seq (.assign 5 (.view 0))
       (.seq (.call 6 783 [5, 4])
         (.assign 7 .fresh)))
     (.seq (.assign 8 (.view 7))
       (.seq (.assign 0 (.join [0, 8]))
         (.assign 9 (.view 7)))))
   (.seq (.seq (.assign 0 (.join [0, 9]))
       (.seq (.assign 10 (.view 0))
         (.assign 11 (.join [4]))))
     (.seq (.ifStar (.call 12 789 [10, 11, 4]) .skip)
       (.seq (.assign 13 (.view 0))
         (.call 14 783 [13, 4])))))
 (.seq (.seq (.seq (.assign 15 .fresh)
       (.seq (.assign 0 (.join [0, 15]))
         (.assign 19 (.view 0))))
     (.seq (.ifStar (.assign 18 (.view 19)) (.call 18 866 [19, 4, 4, 4, 4]))
       (.seq (.call 20 867 [18, 4])
         (.assign 17 .fresh))))
   (.seq (.seq (.ifStar (.assign 16 .fresh) (.call 16 833 [17, 4, 4]))
       (.seq (.assign 21 (.same 16))
         (.assign 22 .fresh)))
     (.seq (.seq (.call 23 868 [22, 4])
         (.write 21))
       (.seq (.ifStar (.seq (.assign 24 (.view 21))
             (.assign 26 (.same 24))) (.seq (.ifStar (.assign 25 (.view 21)) (.call 25 784 [21, 4, 4]))
             (.assign 26 (.same 25))))
         (.assign 0 (.join [0, 26])))))))⟩

/-- operators/added_diag_linear_operator.py:AddedDiagLinearOperator._svd (line 188); formals ['self'] -/
def f171_operators_added_diag_linear_operator__AddedDiagLinearOperator__svd : Fn := ⟨1,
 (.seq (.seq (.ifStar (.seq (.seq (.seq (.assign 3 (.view 0))
           (.seq (.call 2 845 [3, 1])
             (.assign 4 (.view 2))))
         (.seq (.seq (.assign 5 (.same 4))
             (.assign 6 (.view 2)))
           (.seq (.assign 7 (.same 6))
             (.assign 8 (.view 2)))))
       (.seq (.seq (.assign 9 (.same 8))
           (.seq (.assign 11 (.view 0))
             (.ifStar (.assign 10 .fresh) (.call 10 818 [11, 1]))))
         (.seq (.seq (.ifStar (.assign 12 .fresh) (.ifStar (.call 12 826 [10, 7, 1, 1]) (.call 12 825 [7, 10, 1])))
             (.assign 13 (.same 12)))
           (.seq (.assign 14 (.join [5, 9, 13]))
             (.ret 14))))) .skip)
   (.call 15 850 [0, 1]))
 (.seq (.ret 15)
   (.ret 0)))⟩

/-- operators/added_diag_linear_operator.py:AddedDiagLinearOperator._symeig (line 197); formals ['self', 'eigenvectors', 'return_evals_as_lazy'] -/
def f172_operators_added_diag_linear_operator__AddedDiagLinearOperator__symeig : Fn := ⟨3,
 (.seq (.ifStar (.seq (.seq (.seq (.assign 5 (.view 0))
         (.seq (.call 4 823 [5, 1, 3, 3])
           (.assign 6 (.view 4))))
       (.seq (.assign 7 (.same 6))
         (.seq (.assign 8 (.view 4))
           (.assign 9 (.same 8)))))
     (.seq (.seq (.assign 11 (.view 0))
         (.seq (.ifStar (.assign 10 .fresh) (.call 10 818 [11, 3]))
           (.ifStar (.assign 12 .fresh) (.ifStar (.call 12 826 [10, 7, 3, 3]) (.call 12 825 [7, 10, 3])))))
       (.seq (.assign 13 (.same 12))
         (.seq (.assign 14 (.join [9, 13]))
           (.ret 14))))) .skip)
 (.seq (.call 15 823 [0, 1, 3, 3])
   (.ret 15)))⟩

/-- operators/added_diag_linear_operator.py:AddedDiagLinearOperator.evaluate_kernel (line 208); formals ['self'] -/
def f173_operators_added_diag_linear_operator__AddedDiagLinearOperator_evaluate_kernel : Fn := ⟨1,
 (.seq (.seq (.seq (.call 2 814 [0, 1])
     (.assign 3 (.join [2])))
   (.seq (.call 5 779 [0, 1])
     (.assign 4 (.opq [3]))))
 (.seq (.seq (.assign 6 (.same 4))
     (.assign 7 (.view 6)))
   (.seq (.assign 8 (.view 6))
     (.seq (.ifStar (.call 9 826 [8, 7, 1, 1]) (.call 9 825 [7, 8, 1]))
       (.ret 9)))))⟩

/-- operators/batch_repeat_linear_operator.py:BatchRepeatLinearOperator.__init__ (line 18); formals ['self', 'base_linear_op', 'batch_repeat'] -/
def f174_operators_batch_repeat_linear_operator__BatchRepeatLinearOperator___init__ : Fn := ⟨3,
 (.seq (.seq (.call 4 808 [1, 3])
   (.seq (.whileStar ⟨[[0], [1], [2], [], [], [1]], [], []⟩ (.seq (.ifStar (.assign 5 (.view 1)) (.call 5 782 [1, 3, 3]))
         (.assign 1 (.same 5))))
     (.assign 7 (.join [1]))))
 (.seq (.seq (.call 6 812 [0, 3, 3, 3, 3, 2, 3, 3, 3, 3, 3, 3, 3, 3, 3, 3, 3, 3, 3, 3, 3, 3, 3, 3, 3, 3, 3, 3, 3, 3, 3, 3, 3, 3, 3, 3, 3, 3, 3, 3, 3, 3, 3, 3, 3, 3, 3, 3, 3, 3, 3, 3, 3, 3, 7])
     (.assign 0 (.join [0, 1])))
   (.seq (.assign 0 (.join [0, 2]))
     (.ret 0))))⟩

/-- operators/batch_repeat_linear_operator.py:BatchRepeatLinearOperator._cholesky (line 42); formals ['self', 'upper'] -/
def f175_operators_batch_repeat_linear_operator__BatchRepeatLinearOperator__cholesky : Fn := ⟨2,
 (.seq (.seq (.seq (.assign 5 (.view 0))
     (.seq (.call 4 792 [5, 1, 2])
       (.ifStar (.assign 3 (.maybeView 4)) (.call 3 778 [4, 2, 2, 2, 2, 2]))))
   (.seq (.assign 6 (.same 3))
     (.seq (.assign 7 (.view 0))
       (.assign 8 (.join [7])))))
 (.seq (.seq (.assign 10 (.join [2, 8]))
     (.seq (.ifStar (.assign 9 .fresh) (.call 9 816 [6, 10]))
       (.assign 6 (.same 9))))
   (.seq (.seq (.assign 12 .fresh)
       (.call 11 619 [12, 6, 1]))
     (.seq (.ret 11)
       (.ret 0)))))⟩

/-- operators/batch_repeat_linear_operator.py:BatchRepeatLinearOperator._cholesky_solve (line 51); formals ['self', 'rhs', 'upper'] -/
def f176_operators_batch_repeat_linear_operator__BatchRepeatLinearOperator__cholesky_solve : Fn := ⟨3,
 (.seq (.seq (.seq (.call 4 703 [3, 3, 3])
     (.assign 5 (.same 4)))
   (.seq (.ifStar (.seq (.seq (.assign 6 (.join [5]))
           (.assign 8 (.join [6])))
         (.seq (.ifStar (.assign 7 (.view 1)) (.call 7 776 [1, 8]))
           (.assign 1 (.same 7)))) .skip)
     (.seq (.call 9 869 [0, 1, 5, 3])
       (.assign 1 (.same 9)))))
 (.seq (.seq (.assign 11 (.view 0))
     (.seq (.call 10 793 [11, 1, 2, 3])
       (.assign 12 (.same 10))))
   (.seq (.call 13 870 [0, 12, 5, 3])
     (.seq (.assign 12 (.same 13))
       (.ret 12)))))⟩

/-- operators/batch_repeat_linear_operator.py:BatchRepeatLinearOperator._compute_batch_repeat_size (line 66); formals ['self', 'current_batch_shape', 'desired_batch_shape'] -/
def f177_operators_batch_repeat_linear_operator__BatchRepeatLinearOperator__compute_batch_repeat_size : Fn := ⟨3,
 (.seq (.seq (.assign 3 .fresh)
   (.whileStar ⟨[[0], [1], [2]], [], []⟩ (.seq (.assign 4 .fresh)
       (.assign 3 (.join [3, 4])))))
 (.seq (.assign 5 .fresh)
   (.seq (.assign 6 (.same 5))
     (.ret 6))))⟩

/-- operators/batch_repeat_linear_operator.py:BatchRepeatLinearOperator._expand_batch (line 75); formals ['self', 'batch_shape'] -/
def f178_operators_batch_repeat_linear_operator__BatchRepeatLinearOperator__expand_batch : Fn := ⟨2,
 (.seq (.seq (.seq (.assign 3 .fresh)
     (.seq (.assign 4 (.view 0))
       (.call 5 808 [4, 2])))
   (.seq (.whileStar ⟨[[0], [1], [], [], [0], [], [0]], [], []⟩ (.seq (.assign 6 (.view 0))
         (.seq (.call 7 808 [6, 2])
           (.assign 3 (.join [2, 3])))))
     (.seq (.assign 8 (.same 2))
       (.assign 9 (.view 0)))))
 (.seq (.seq (.call 10 871 [0, 8, 1, 2])
     (.seq (.assign 12 .fresh)
       (.assign 14 (.join [9]))))
   (.seq (.call 13 812 [12, 2, 2, 2, 2, 10, 2, 2, 2, 2, 2, 2, 2, 2, 2, 2, 2, 2, 2, 2, 2, 2, 2, 2, 2, 2, 2, 2, 2, 2, 2, 2, 2, 2, 2, 2, 2, 2, 2, 2, 2, 2, 2, 2, 2, 2, 2, 2, 2, 2, 2, 2, 2, 2, 14])
     (.seq (.assign 11 (.join [9, 10, 13]))
       (.ret 11)))))⟩

/-- operators/batch_repeat_linear_operator.py:BatchRepeatLinearOperator._get_indices (line 84); formals ['self', 'row_index', 'col_index', 'batch_indices'] -/
def f179_operators_batch_repeat_linear_operator__BatchRepeatLinearOperator__get_indices : Fn := ⟨4,
 (.seq (.seq (.seq (.assign 5 (.view 0))
     (.seq (.call 6 808 [5, 4])
       (.assign 7 (.view 3))))
   (.seq (.assign 3 (.same 7))
     (.seq (.assign 8 .fresh)
       (.whileStar ⟨[[0], [1], [2], [3], [], [0], [], [3]], [], []⟩ (.seq (.assign 9 .fresh)
           (.assign 8 (.join [8, 9])))))))
 (.seq (.seq (.assign 3 (.same 8))
     (.seq (.assign 10 (.join [3]))
       (.assign 12 (.view 0))))
   (.seq (.seq (.assign 13 (.join [10]))
       (.call 11 857 [12, 1, 2, 13]))
     (.seq (.assign 14 (.same 11))
       (.ret 14)))))⟩

def chunk2 : List Fn := [
  f120_operators__linear_operator__LinearOperator_representation,
  f121_operators__linear_operator__LinearOperator_representation_tree,
  f122_operators__linear_operator__LinearOperator_requires_grad,
  f123_operators__linear_operator__LinearOperator_requires_grad,
  f124_operators__linear_operator__LinearOperator_requires_grad_,
  f125_operators__linear_operator__LinearOperator_reshape,
  f126_operators__linear_operator__LinearOperator_rmatmul,
  f127_operators__linear_operator__LinearOperator_root_decomposition,
  f128_operators__linear_operator__LinearOperator_root_inv_decomposition,
  f129_operators__linear_operator__LinearOperator_size,
  f130_operators__linear_operator__LinearOperator_shape,
  f131_operators__linear_operator__LinearOperator_solve,
  f132_operators__linear_operator__LinearOperator_solve_triangular,
  f133_operators__linear_operator__LinearOperator_sqrt,
  f134_operators__linear_operator__LinearOperator_sqrt_inv_matmul,
  f135_operators__linear_operator__LinearOperator_squeeze,
  f136_operators__linear_operator__LinearOperator_sub,
  f137_operators__linear_operator__LinearOperator_sum,
  f138_operators__linear_operator__LinearOperator_svd,
  f139_operators__linear_operator__LinearOperator__torch_linalg_svd,
  f140_operators__linear_operator__LinearOperator_T,
  f141_operators__linear_operator__LinearOperator_t,
  f142_operators__linear_operator__LinearOperator_to,
  f143_operators__linear_operator__LinearOperator_to_dense,
  f144_operators__linear_operator__LinearOperator_transpose,
  f145_operators__linear_operator__LinearOperator_type,
  f146_operators__linear_operator__LinearOperator_unsqueeze,
  f147_operators__linear_operator__LinearOperator_zero_mean_mvn_samples,
  f148_operators__linear_operator__LinearOperator___sub__,
  f149_operators__linear_operator__LinearOperator___add__,
  f150_operators__linear_operator__LinearOperator___getitem__,
  f151_operators__linear_operator__LinearOperator__isclose,
  f152_operators__linear_operator__LinearOperator___matmul__,
  f153_operators__linear_operator__LinearOperator___rmatmul__,
  f154_operators__linear_operator__LinearOperator___mul__,
  f155_operators__linear_operator__LinearOperator___radd__,
  f156_operators__linear_operator__LinearOperator___rmul__,
  f157_operators__linear_operator__LinearOperator___rsub__,
  f158_operators__linear_operator__LinearOperator___torch_function__,
  f159_operators__linear_operator__LinearOperator___truediv__,
  f160_operators__linear_operator___normalize_negative_index,
  f161_operators__linear_operator___import_dotted_name,
  f162_operators__linear_operator__to_dense,
  f163_operators_added_diag_linear_operator__AddedDiagLinearOperator___init__,
  f164_operators_added_diag_linear_operator__AddedDiagLinearOperator__matmul,
  f165_operators_added_diag_linear_operator__AddedDiagLinearOperator_add_diagonal,
  f166_operators_added_diag_linear_operator__AddedDiagLinearOperator___add__,
  f167_operators_added_diag_linear_operator__AddedDiagLinearOperator__preconditioner,
  f168_operators_added_diag_linear_operator__AddedDiagLinearOperator__init_cache,
  f169_operators_added_diag_linear_operator__AddedDiagLinearOperator__init_cache_for_constant_diag,
  f170_operators_added_diag_linear_operator__AddedDiagLinearOperator__init_cache_for_non_constant_diag,
  f171_operators_added_diag_linear_operator__AddedDiagLinearOperator__svd,
  f172_operators_added_diag_linear_operator__AddedDiagLinearOperator__symeig,
  f173_operators_added_diag_linear_operator__AddedDiagLinearOperator_evaluate_kernel,
  f174_operators_batch_repeat_linear_operator__BatchRepeatLinearOperator___init__,
  f175_operators_batch_repeat_linear_operator__BatchRepeatLinearOperator__cholesky,
  f176_operators_batch_repeat_linear_operator__BatchRepeatLinearOperator__cholesky_solve,
  f177_operators_batch_repeat_linear_operator__BatchRepeatLinearOperator__compute_batch_repeat_size,
  f178_operators_batch_repeat_linear_operator__BatchRepeatLinearOperator__expand_batch,
  f179_operators_batch_repeat_linear_operator__BatchRepeatLinearOperator__get_indices]

end LinOp.Generated.C13P
