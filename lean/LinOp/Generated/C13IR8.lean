import LinOp.C13.Model
import LinOp.Generated.C13Sigma
-- GENERATED by harness/extract/c13_alias.py from /repo/linear_operator (do not edit)
namespace LinOp.Generated.C13
open LinOp.C13

/-- operators/kronecker_product_linear_operator.py:KroneckerProductDiagLinearOperator._expand_batch (line 466); formals ['self', 'batch_shape'] -/
def f480_operators_kronecker_product_linear_operator__KroneckerProductDiagLinearOperator__expand_batch : Fn := ⟨2,
 (.seq (.call 2 457 [0, 1])
 (.ret 2))⟩

/-- operators/kronecker_product_linear_operator.py:KroneckerProductDiagLinearOperator._mul_constant (line 471); formals ['self', 'other'] -/
def f481_operators_kronecker_product_linear_operator__KroneckerProductDiagLinearOperator__mul_constant : Fn := ⟨2,
 (.seq (.seq (.ifStar (.call 3 860 [0, 2]) .skip)
   (.assign 4 .fresh))
 (.seq (.assign 6 .fresh)
   (.seq (.call 5 312 [6, 4])
     (.ret 5))))⟩

/-- operators/kronecker_product_linear_operator.py:KroneckerProductDiagLinearOperator._size (line 476); formals ['self'] -/
def f482_operators_kronecker_product_linear_operator__KroneckerProductDiagLinearOperator__size : Fn := ⟨1,
 (.seq (.seq (.seq (.assign 2 .fresh)
     (.assign 4 (.view 0)))
   (.seq (.assign 5 (.view 4))
     (.assign 3 (.same 5))))
 (.seq (.seq (.whileStar ⟨[[0], [], [], [0], [0], [0], [0], [0], [0]], [], []⟩ (.seq (.seq (.assign 6 (.view 0))
           (.assign 7 (.view 6)))
         (.seq (.assign 3 (.same 7))
           (.seq (.ifStar (.call 8 860 [3, 1]) .skip)
             (.assign 2 (.join [1, 2]))))))
     (.assign 9 .fresh))
   (.seq (.whileStar ⟨[[0], [], [], [0], [0], [0], [0], [0], [0]], [], []⟩ (.assign 9 (.join [1, 9])))
     (.seq (.assign 10 .fresh)
       (.ret 10)))))⟩

/-- operators/kronecker_product_linear_operator.py:KroneckerProductDiagLinearOperator._symeig (line 485); formals ['self', 'eigenvectors', 'return_evals_as_lazy'] -/
def f483_operators_kronecker_product_linear_operator__KroneckerProductDiagLinearOperator__symeig : Fn := ⟨3,
 (.seq (.seq (.seq (.seq (.assign 4 (.join []))
       (.assign 5 (.join [])))
     (.seq (.assign 6 (.same 4))
       (.seq (.assign 7 (.same 5))
         (.assign 8 (.same 6)))))
   (.seq (.seq (.assign 9 (.same 7))
       (.assign 10 (.view 0)))
     (.seq (.whileStar ⟨[[0], [1], [2], [], [], [], [], [], [0], [0], [0], [0], [0], [0], [0], [0], [0], [0]], [], []⟩ (.seq (.seq (.seq (.assign 11 (.view 10))
               (.assign 12 (.same 11)))
             (.seq (.ifStar (.assign 13 .fresh) (.call 13 823 [12, 1, 3, 3]))
               (.assign 14 (.view 13))))
           (.seq (.seq (.assign 15 (.same 14))
               (.assign 16 (.view 13)))
             (.seq (.assign 17 (.same 16))
               (.seq (.assign 8 (.join [8, 15]))
                 (.assign 9 (.join [9, 17])))))))
       (.seq (.assign 18 .fresh)
         (.assign 20 (.view 8))))))
 (.seq (.seq (.seq (.assign 19 (.same 20))
       (.whileStar ⟨[[0], [1], [2], [], [], [], [], [], [0], [0], [0], [0], [0], [0], [0], [0], [0], [0], [0], [0], [0], [0], [0]], [], []⟩ (.seq (.seq (.assign 21 (.view 8))
             (.assign 19 (.same 21)))
           (.seq (.assign 23 .fresh)
             (.seq (.call 22 312 [23, 19])
               (.assign 18 (.join [18, 22])))))))
     (.seq (.assign 24 (.join [18]))
       (.seq (.assign 26 .fresh)
         (.assign 27 (.join [24])))))
   (.seq (.seq (.call 25 476 [26, 27])
       (.seq (.assign 8 (.same 25))
         (.ifStar (.seq (.ifStar (.assign 28 .fresh) (.call 28 818 [8, 3]))
             (.assign 8 (.same 28))) .skip)))
     (.seq (.ifStar (.seq (.seq (.assign 29 (.join [9]))
             (.assign 31 .fresh))
           (.seq (.assign 32 (.join [29]))
             (.seq (.call 30 476 [31, 32])
               (.assign 9 (.same 30))))) (.assign 9 (.same 3)))
       (.seq (.assign 33 (.join [8, 9]))
         (.ret 33))))))⟩

/-- operators/kronecker_product_linear_operator.py:KroneckerProductDiagLinearOperator.abs (line 509); formals ['self'] -/
def f484_operators_kronecker_product_linear_operator__KroneckerProductDiagLinearOperator_abs : Fn := ⟨1,
 (.seq (.seq (.seq (.assign 2 .fresh)
     (.assign 4 (.view 0)))
   (.seq (.assign 5 (.view 4))
     (.seq (.assign 3 (.same 5))
       (.whileStar ⟨[[0], [], [], [0], [0], [0], [0], [0], [], [0]], [], []⟩ (.seq (.seq (.assign 6 (.view 0))
             (.seq (.assign 7 (.view 6))
               (.assign 3 (.same 7))))
           (.seq (.call 9 867 [3, 1])
             (.seq (.assign 8 .fresh)
               (.assign 2 (.join [2, 8])))))))))
 (.seq (.seq (.assign 10 (.join [2]))
     (.seq (.assign 12 .fresh)
       (.assign 14 (.join [10]))))
   (.seq (.call 13 812 [12, 10, 10, 10, 10, 10, 10, 10, 10, 10, 10, 10, 10, 10, 10, 10, 10, 10, 10, 10, 10, 10, 10, 10, 10, 10, 10, 10, 10, 10, 10, 10, 10, 10, 10, 10, 10, 10, 10, 10, 10, 10, 10, 10, 10, 10, 10, 10, 10, 10, 10, 10, 10, 10, 14])
     (.seq (.assign 11 (.join [10, 13]))
       (.ret 11)))))⟩

/-- operators/kronecker_product_linear_operator.py:KroneckerProductDiagLinearOperator.exp (line 515); formals ['self'] -/
def f485_operators_kronecker_product_linear_operator__KroneckerProductDiagLinearOperator_exp : Fn := ⟨1,
 .skip⟩

/-- operators/kronecker_product_linear_operator.py:KroneckerProductDiagLinearOperator.inverse (line 519); formals ['self'] -/
def f486_operators_kronecker_product_linear_operator__KroneckerProductDiagLinearOperator_inverse : Fn := ⟨1,
 (.seq (.seq (.seq (.assign 2 .fresh)
     (.seq (.assign 4 (.view 0))
       (.assign 5 (.view 4))))
   (.seq (.assign 3 (.same 5))
     (.seq (.whileStar ⟨[[0], [], [0], [0], [0], [0], [0], [0], [0]], [], []⟩ (.seq (.seq (.assign 6 (.view 0))
             (.assign 7 (.view 6)))
           (.seq (.assign 3 (.same 7))
             (.seq (.ifStar (.assign 8 .fresh) (.call 8 827 [3, 1]))
               (.assign 2 (.join [2, 8]))))))
       (.assign 9 (.same 2)))))
 (.seq (.seq (.assign 10 (.join [9]))
     (.seq (.assign 12 .fresh)
       (.assign 14 (.join [10]))))
   (.seq (.seq (.call 13 812 [12, 10, 10, 10, 10, 10, 10, 10, 10, 10, 10, 10, 10, 10, 10, 10, 10, 10, 10, 10, 10, 10, 10, 10, 10, 10, 10, 10, 10, 10, 10, 10, 10, 10, 10, 10, 10, 10, 10, 10, 10, 10, 10, 10, 10, 10, 10, 10, 10, 10, 10, 10, 10, 10, 14])
       (.assign 11 (.join [10, 13])))
     (.seq (.ret 11)
       (.ret 0)))))⟩

/-- operators/kronecker_product_linear_operator.py:KroneckerProductDiagLinearOperator.log (line 527); formals ['self'] -/
def f487_operators_kronecker_product_linear_operator__KroneckerProductDiagLinearOperator_log : Fn := ⟨1,
 .skip⟩

/-- operators/kronecker_product_linear_operator.py:KroneckerProductDiagLinearOperator.sqrt (line 530); formals ['self'] -/
def f488_operators_kronecker_product_linear_operator__KroneckerProductDiagLinearOperator_sqrt : Fn := ⟨1,
 (.seq (.seq (.seq (.assign 2 .fresh)
     (.assign 4 (.view 0)))
   (.seq (.assign 5 (.view 4))
     (.seq (.assign 3 (.same 5))
       (.whileStar ⟨[[0], [], [], [0], [0], [0], [0], [0], [], [0]], [], []⟩ (.seq (.seq (.assign 6 (.view 0))
             (.seq (.assign 7 (.view 6))
               (.assign 3 (.same 7))))
           (.seq (.call 9 783 [3, 1])
             (.seq (.assign 8 .fresh)
               (.assign 2 (.join [2, 8])))))))))
 (.seq (.seq (.assign 10 (.join [2]))
     (.seq (.assign 12 .fresh)
       (.assign 14 (.join [10]))))
   (.seq (.call 13 812 [12, 10, 10, 10, 10, 10, 10, 10, 10, 10, 10, 10, 10, 10, 10, 10, 10, 10, 10, 10, 10, 10, 10, 10, 10, 10, 10, 10, 10, 10, 10, 10, 10, 10, 10, 10, 10, 10, 10, 10, 10, 10, 10, 10, 10, 10, 10, 10, 10, 10, 10, 10, 10, 10, 14])
     (.seq (.assign 11 (.join [10, 13]))
       (.ret 11)))))⟩

/-- operators/linear_operator_representation_tree.py:LinearOperatorRepresentationTree.__init__ (line 6); formals ['self', 'linear_op'] -/
def f489_operators_linear_operator_representation_tree__LinearOperatorRepresentationTree___init__ : Fn := ⟨2,
 (.seq (.seq (.seq (.seq (.assign 0 (.join [0, 2]))
       (.assign 3 .fresh))
     (.seq (.assign 0 (.join [0, 3]))
       (.assign 4 (.view 1))))
   (.seq (.seq (.assign 0 (.join [0, 4]))
       (.assign 5 (.same 2)))
     (.seq (.assign 6 (.join []))
       (.assign 0 (.join [0, 6])))))
 (.seq (.seq (.seq (.assign 7 (.view 1))
       (.ifStar (.call 7 807 [1, 2]) .skip))
     (.seq (.assign 8 (.same 7))
       (.assign 10 (.view 1))))
   (.seq (.seq (.assign 9 (.join [10]))
       (.assign 11 (.join [8, 9])))
     (.seq (.whileStar ⟨[[0, 1], [1], [], [], [1], [], [], [1], [1], [1], [1], [1], [1], [1], [1], [], [1], [1], [0, 1], [], [0, 1]], [], []⟩ (.seq (.assign 12 (.view 11))
           (.seq (.assign 13 (.same 12))
             (.ifStar (.seq (.seq (.seq (.ifStar .skip (.call 14 814 [13, 2]))
                 (.assign 15 .fresh))
                 (.seq (.ifStar (.assign 16 .fresh) (.call 16 779 [13, 2]))
                 (.assign 17 (.join [15, 16]))))
                 (.seq (.seq (.assign 18 (.view 0))
                 (.assign 18 (.join [17, 18])))
                 (.seq (.assign 0 (.join [0, 18]))
                 (.assign 5 .fresh)))) (.seq (.seq (.assign 19 (.join [2, 5]))
                 (.assign 20 (.view 0)))
                 (.seq (.assign 20 (.join [19, 20]))
                 (.seq (.assign 0 (.join [0, 20]))
                 (.assign 5 .fresh))))))))
       (.ret 0)))))⟩

/-- operators/linear_operator_representation_tree.py:LinearOperatorRepresentationTree.__call__ (line 22); formals ['self', 'flattened_representation'] -/
def f490_operators_linear_operator_representation_tree__LinearOperatorRepresentationTree___call__ : Fn := ⟨2,
 (.seq (.seq (.assign 2 (.join []))
   (.assign 3 (.same 2)))
 (.seq (.whileStar ⟨[[0], [1], [], [1], [1], [1], [1], [1], [1]], [], []⟩ (.ifStar (.seq (.assign 4 (.view 1))
         (.assign 3 (.join [3, 4]))) (.seq (.seq (.assign 5 (.view 1))
           (.assign 6 (.same 5)))
         (.seq (.assign 7 (.join [6]))
           (.seq (.assign 8 (.opq [7]))
             (.assign 3 (.join [3, 8])))))))
   (.ifStar (.seq (.seq (.seq (.assign 9 (.view 3))
           (.assign 10 (.same 9)))
         (.seq (.assign 11 (.view 0))
           (.seq (.assign 12 (.view 3))
             (.assign 13 (.join [11, 12])))))
       (.seq (.seq (.assign 14 (.join [13]))
           (.seq (.assign 15 (.same 14))
             (.assign 16 (.view 0))))
         (.seq (.assign 17 (.join [10, 15, 16]))
           (.seq (.assign 18 (.opq [0, 17]))
             (.ret 18))))) (.seq (.seq (.assign 19 (.view 0))
         (.assign 20 (.join [3, 19])))
       (.seq (.assign 21 (.opq [0, 20]))
         (.ret 21))))))⟩

/-- operators/low_rank_root_added_diag_linear_operator.py:LowRankRootAddedDiagLinearOperator.__init__ (line 21); formals ['self', 'preconditioner_override', 'linear_ops'] -/
def f491_operators_low_rank_root_added_diag_linear_operator__LowRankRootAddedDiagLinearOperator___init__ : Fn := ⟨3,
 (.seq (.seq (.assign 3 (.join [2]))
   (.assign 5 (.join [3])))
 (.seq (.call 4 812 [0, 3, 3, 1, 3, 3, 3, 3, 3, 3, 3, 3, 3, 3, 3, 3, 3, 3, 3, 3, 3, 3, 3, 3, 3, 3, 3, 3, 3, 3, 3, 3, 3, 3, 3, 3, 3, 3, 3, 3, 3, 3, 3, 3, 3, 3, 3, 3, 3, 3, 3, 3, 3, 3, 5])
   (.ret 0)))⟩

/-- operators/low_rank_root_added_diag_linear_operator.py:LowRankRootAddedDiagLinearOperator.chol_cap_mat (line 38); formals ['self'] -/
def f492_operators_low_rank_root_added_diag_linear_operator__LowRankRootAddedDiagLinearOperator_chol_cap_mat : Fn := ⟨1,
 (.seq (.seq (.seq (.seq (.assign 3 (.view 0))
       (.seq (.ifStar (.assign 2 .fresh) (.call 2 827 [3, 1]))
         (.assign 4 (.same 2))))
     (.seq (.assign 5 (.view 0))
       (.seq (.assign 6 (.view 5))
         (.assign 7 (.same 6)))))
   (.seq (.seq (.assign 8 (.view 0))
       (.seq (.assign 9 (.view 8))
         (.assign 10 (.view 9))))
     (.seq (.ifStar (.call 10 777 [9, 1]) .skip)
       (.seq (.assign 11 (.same 10))
         (.assign 12 (.same 11))))))
 (.seq (.seq (.seq (.assign 13 .fresh)
       (.seq (.assign 15 .fresh)
         (.call 14 345 [15, 13, 1])))
     (.seq (.assign 16 (.same 14))
       (.seq (.ifStar (.assign 17 .fresh) (.call 17 805 [4, 7, 1]))
         (.ifStar (.assign 18 .fresh) (.call 18 805 [12, 17, 1])))))
   (.seq (.seq (.ifStar (.call 19 826 [18, 16, 1, 1]) (.call 19 825 [16, 18, 1]))
       (.seq (.call 20 162 [19])
         (.assign 21 (.same 20))))
     (.seq (.seq (.call 22 706 [21, 1, 1, 1, 1])
         (.assign 23 (.same 22)))
       (.seq (.ret 23)
         (.ret 0))))))⟩

/-- operators/low_rank_root_added_diag_linear_operator.py:LowRankRootAddedDiagLinearOperator._mul_constant (line 49); formals ['self', 'other'] -/
def f493_operators_low_rank_root_added_diag_linear_operator__LowRankRootAddedDiagLinearOperator__mul_constant : Fn := ⟨2,
 (.seq (.ifStar (.seq (.call 3 840 [0, 1, 2])
     (.assign 4 (.same 3))) (.seq (.seq (.seq (.assign 6 (.view 0))
         (.call 5 840 [6, 1, 2]))
       (.seq (.assign 8 (.view 0))
         (.ifStar (.assign 7 .fresh) (.call 7 840 [8, 1, 2]))))
     (.seq (.seq (.assign 10 .fresh)
         (.assign 11 (.join [5, 7])))
       (.seq (.call 9 163 [10, 2, 11])
         (.assign 4 (.same 9))))))
 (.ret 4))⟩

/-- operators/low_rank_root_added_diag_linear_operator.py:LowRankRootAddedDiagLinearOperator._preconditioner (line 59); formals ['self'] -/
def f494_operators_low_rank_root_added_diag_linear_operator__LowRankRootAddedDiagLinearOperator__preconditioner : Fn := ⟨1,
 (.seq (.assign 2 (.join [1]))
 (.ret 2))⟩

/-- operators/low_rank_root_added_diag_linear_operator.py:LowRankRootAddedDiagLinearOperator._solve (line 62); formals ['self', 'rhs', 'preconditioner', 'num_tridiag'] -/
def f495_operators_low_rank_root_added_diag_linear_operator__LowRankRootAddedDiagLinearOperator__solve : Fn := ⟨4,
 (.seq (.seq (.seq (.seq (.assign 6 (.view 0))
       (.seq (.ifStar (.assign 5 .fresh) (.call 5 827 [6, 4]))
         (.assign 7 (.same 5))))
     (.seq (.assign 8 (.view 0))
       (.seq (.assign 9 (.view 8))
         (.assign 10 (.same 9)))))
   (.seq (.seq (.assign 11 (.view 0))
       (.seq (.assign 12 (.view 11))
         (.assign 13 (.view 12))))
     (.seq (.ifStar (.call 13 777 [12, 4]) .skip)
       (.seq (.assign 14 (.same 13))
         (.assign 15 (.same 14))))))
 (.seq (.seq (.seq (.ifStar (.call 16 891 [0, 4]) .skip)
       (.seq (.ifStar (.assign 17 .fresh) (.call 17 805 [7, 1, 4]))
         (.ifStar (.assign 18 .fresh) (.call 18 805 [15, 17, 4]))))
     (.seq (.assign 19 (.same 18))
       (.seq (.assign 20 .fresh)
         (.assign 19 (.same 20)))))
   (.seq (.seq (.ifStar (.assign 21 .fresh) (.call 21 805 [10, 19, 4]))
       (.seq (.ifStar (.assign 22 .fresh) (.call 22 805 [7, 21, 4]))
         (.assign 19 (.same 22))))
     (.seq (.seq (.ifStar (.assign 23 .fresh) (.call 23 805 [7, 1, 4]))
         (.ifStar (.assign 24 .fresh) (.ifStar (.call 24 786 [19, 23, 4, 4]) (.call 24 785 [23, 19, 4]))))
       (.seq (.assign 25 (.same 24))
         (.ret 25))))))⟩

/-- operators/low_rank_root_added_diag_linear_operator.py:LowRankRootAddedDiagLinearOperator._solve_preconditioner (line 87); formals ['self'] -/
def f496_operators_low_rank_root_added_diag_linear_operator__LowRankRootAddedDiagLinearOperator__solve_preconditioner : Fn := ⟨1,
 (.ret 1)⟩

/-- operators/low_rank_root_added_diag_linear_operator.py:LowRankRootAddedDiagLinearOperator._sum_batch (line 90); formals ['self', 'dim'] -/
def f497_operators_low_rank_root_added_diag_linear_operator__LowRankRootAddedDiagLinearOperator__sum_batch : Fn := ⟨2,
 (.seq (.assign 3 .fresh)
 (.seq (.call 2 227 [3, 0, 1])
   (.ret 2)))⟩

/-- operators/low_rank_root_added_diag_linear_operator.py:LowRankRootAddedDiagLinearOperator._logdet (line 93); formals ['self'] -/
def f498_operators_low_rank_root_added_diag_linear_operator__LowRankRootAddedDiagLinearOperator__logdet : Fn := ⟨1,
 (.seq (.seq (.ifStar (.call 2 891 [0, 1]) .skip)
   (.seq (.assign 4 (.view 0))
     (.ifStar .skip (.call 3 889 [4, 1]))))
 (.seq (.assign 5 .fresh)
   (.seq (.assign 6 (.same 5))
     (.ret 6))))⟩

/-- operators/low_rank_root_added_diag_linear_operator.py:LowRankRootAddedDiagLinearOperator.__add__ (line 101); formals ['self', 'other'] -/
def f499_operators_low_rank_root_added_diag_linear_operator__LowRankRootAddedDiagLinearOperator___add__ : Fn := ⟨2,
 (.ifStar (.seq (.seq (.seq (.assign 3 (.view 0))
       (.assign 4 (.view 0)))
     (.seq (.ifStar (.assign 5 .fresh) (.ifStar (.call 5 826 [1, 4, 2, 2]) (.call 5 825 [4, 1, 2])))
       (.assign 7 .fresh)))
   (.seq (.seq (.assign 9 (.join [3, 5]))
       (.call 8 812 [7, 2, 2, 2, 2, 2, 2, 2, 2, 2, 2, 2, 2, 2, 2, 2, 2, 2, 2, 2, 2, 2, 2, 2, 2, 2, 2, 2, 2, 2, 2, 2, 2, 2, 2, 2, 2, 2, 2, 2, 2, 2, 2, 2, 2, 2, 2, 2, 2, 2, 2, 2, 2, 2, 9]))
     (.seq (.assign 6 (.join [3, 5, 8]))
       (.ret 6)))) (.seq (.seq (.assign 10 (.view 0))
     (.seq (.ifStar (.call 11 826 [1, 10, 2, 2]) (.call 11 825 [10, 1, 2]))
       (.assign 12 (.view 0))))
   (.seq (.seq (.assign 14 .fresh)
       (.assign 15 (.join [11, 12])))
     (.seq (.call 13 163 [14, 2, 15])
       (.ret 13)))))⟩

/-- operators/low_rank_root_added_diag_linear_operator.py:LowRankRootAddedDiagLinearOperator.inv_quad_logdet (line 112); formals ['self', 'inv_quad_rhs', 'logdet', 'reduce_inv_quad'] -/
def f500_operators_low_rank_root_added_diag_linear_operator__LowRankRootAddedDiagLinearOperator_inv_quad_logdet : Fn := ⟨4,
 (.seq (.seq (.seq (.ifStar (.call 5 767 [0, 4, 4]) .skip)
     (.ifStar (.seq (.call 6 808 [0, 4])
         (.ifStar .skip (.call 7 808 [0, 4]))) .skip))
   (.seq (.assign 8 (.same 4))
     (.seq (.assign 9 (.same 4))
       (.assign 10 (.same 8)))))
 (.seq (.seq (.assign 11 (.same 9))
     (.ifStar (.seq (.seq (.ifStar (.seq (.assign 12 (.view 1))
               (.assign 1 (.same 12))) .skip)
           (.call 13 795 [0, 1, 4, 4, 4]))
         (.seq (.assign 14 .fresh)
           (.seq (.assign 10 (.same 14))
             (.ifStar (.seq (.assign 15 .fresh)
                 (.assign 10 (.same 15))) .skip)))) .skip))
   (.seq (.ifStar (.seq (.call 16 888 [0, 4])
         (.assign 11 (.same 16))) .skip)
     (.seq (.assign 17 (.join [10, 11]))
       (.ret 17)))))⟩

/-- operators/low_rank_root_added_diag_linear_operator.py:LowRankRootAddedDiagLinearOperator.solve (line 162); formals ['self', 'right_tensor', 'left_tensor'] -/
def f501_operators_low_rank_root_added_diag_linear_operator__LowRankRootAddedDiagLinearOperator_solve : Fn := ⟨3,
 (.seq (.seq (.seq (.ifStar (.call 4 767 [0, 3, 3]) .skip)
     (.assign 5 .fresh))
   (.seq (.call 6 703 [3, 3, 5])
     (.ifStar (.seq (.assign 7 (.view 1))
         (.assign 1 (.same 7))) .skip)))
 (.seq (.seq (.call 8 795 [0, 1, 3, 3, 3])
     (.assign 9 (.same 8)))
   (.seq (.ifStar (.seq (.assign 10 (.view 9))
         (.assign 9 (.same 10))) .skip)
     (.ifStar (.seq (.ifStar (.assign 11 .fresh) (.ifStar (.call 11 798 [9, 2, 3]) (.call 11 797 [2, 9, 3])))
         (.ret 11)) (.ret 9)))))⟩

/-- operators/low_rank_root_linear_operator.py:LowRankRootLinearOperator.add_diagonal (line 21); formals ['self', 'diag'] -/
def f502_operators_low_rank_root_linear_operator__LowRankRootLinearOperator_add_diagonal : Fn := ⟨2,
 (.seq (.seq (.ifStar (.seq (.seq (.assign 3 (.view 1))
         (.assign 5 .fresh))
       (.seq (.call 4 345 [5, 3, 2])
         (.assign 6 (.same 4)))) (.ifStar (.seq (.assign 8 .fresh)
         (.seq (.call 7 345 [8, 1, 2])
           (.assign 6 (.same 7)))) (.seq (.seq (.ifStar (.seq (.assign 9 (.view 1))
               (.assign 10 (.same 9))) (.seq (.ifStar (.assign 9 (.view 1)) .skip)
               (.ifStar (.assign 10 (.same 9)) .skip)))
           (.assign 12 .fresh))
         (.seq (.call 11 312 [12, 10])
           (.assign 6 (.same 11))))))
   (.assign 14 .fresh))
 (.seq (.assign 15 (.join [0, 6]))
   (.seq (.call 13 491 [14, 2, 15])
     (.ret 13))))⟩

/-- operators/low_rank_root_linear_operator.py:LowRankRootLinearOperator.__add__ (line 53); formals ['self', 'other'] -/
def f503_operators_low_rank_root_linear_operator__LowRankRootLinearOperator___add__ : Fn := ⟨2,
 (.ifStar (.seq (.seq (.assign 4 .fresh)
     (.assign 5 (.join [0, 1])))
   (.seq (.call 3 491 [4, 2, 5])
     (.ret 3))) (.seq (.call 6 825 [0, 1, 2])
   (.ret 6)))⟩

/-- operators/masked_linear_operator.py:MaskedLinearOperator.__init__ (line 18); formals ['self', 'base', 'row_mask', 'col_mask'] -/
def f504_operators_masked_linear_operator__MaskedLinearOperator___init__ : Fn := ⟨4,
 (.seq (.seq (.seq (.assign 6 (.join [1, 2, 3]))
     (.call 5 812 [0, 4, 4, 4, 4, 4, 4, 4, 4, 4, 4, 4, 4, 4, 4, 4, 4, 4, 4, 4, 4, 4, 4, 4, 4, 4, 4, 4, 4, 4, 4, 4, 4, 4, 4, 4, 4, 4, 4, 4, 4, 4, 4, 4, 4, 4, 4, 4, 4, 4, 4, 4, 4, 4, 6]))
   (.seq (.assign 0 (.join [0, 1]))
     (.assign 0 (.join [0, 2]))))
 (.seq (.seq (.assign 0 (.join [0, 3]))
     (.assign 7 .fresh))
   (.seq (.assign 0 (.join [0, 7]))
     (.ret 0))))⟩

/-- operators/masked_linear_operator.py:MaskedLinearOperator._expand (line 39); formals ['tensor', 'mask'] -/
def f505_operators_masked_linear_operator__MaskedLinearOperator__expand : Fn := ⟨2,
 (.seq (.seq (.assign 2 .fresh)
   (.assign 3 (.same 2)))
 (.seq (.write 3)
   (.ret 3)))⟩

/-- operators/masked_linear_operator.py:MaskedLinearOperator._matmul (line 50); formals ['self', 'rhs'] -/
def f506_operators_masked_linear_operator__MaskedLinearOperator__matmul : Fn := ⟨2,
 (.seq (.seq (.seq (.assign 3 (.view 0))
     (.call 4 892 [0, 1, 3, 2]))
   (.seq (.assign 5 (.same 4))
     (.seq (.assign 7 (.view 0))
       (.ifStar (.assign 6 .fresh) (.call 6 815 [7, 5, 2])))))
 (.seq (.seq (.assign 8 (.same 6))
     (.seq (.assign 9 (.view 0))
       (.assign 10 (.join [2, 9]))))
   (.seq (.ifStar (.call 11 789 [8, 10, 2]) (.assign 11 (.maybeView 8)))
     (.seq (.assign 12 (.same 11))
       (.ret 12)))))⟩

/-- operators/masked_linear_operator.py:MaskedLinearOperator._t_matmul (line 60); formals ['self', 'rhs'] -/
def f507_operators_masked_linear_operator__MaskedLinearOperator__t_matmul : Fn := ⟨2,
 (.seq (.seq (.seq (.assign 3 (.view 0))
     (.call 4 892 [0, 1, 3, 2]))
   (.seq (.assign 5 (.same 4))
     (.seq (.assign 7 (.view 0))
       (.ifStar (.assign 6 .fresh) (.call 6 878 [7, 5, 2])))))
 (.seq (.seq (.assign 8 (.same 6))
     (.seq (.assign 9 (.view 0))
       (.assign 10 (.join [2, 9]))))
   (.seq (.ifStar (.call 11 789 [8, 10, 2]) (.assign 11 (.maybeView 8)))
     (.seq (.assign 12 (.same 11))
       (.ret 12)))))⟩

/-- operators/masked_linear_operator.py:MaskedLinearOperator._size (line 69); formals ['self'] -/
def f508_operators_masked_linear_operator__MaskedLinearOperator__size : Fn := ⟨1,
 (.seq (.seq (.assign 2 (.view 0))
   (.call 3 767 [2, 1, 1]))
 (.seq (.assign 4 .fresh)
   (.ret 4)))⟩

/-- operators/masked_linear_operator.py:MaskedLinearOperator._transpose_nonbatch (line 74); formals ['self'] -/
def f509_operators_masked_linear_operator__MaskedLinearOperator__transpose_nonbatch : Fn := ⟨1,
 (.seq (.seq (.seq (.assign 2 (.view 0))
     (.assign 3 (.view 2)))
   (.seq (.ifStar (.call 3 777 [2, 1]) .skip)
     (.seq (.assign 4 (.same 3))
       (.assign 5 (.view 0)))))
 (.seq (.seq (.assign 6 (.view 0))
     (.seq (.assign 8 .fresh)
       (.assign 10 (.join [4, 5, 6]))))
   (.seq (.call 9 812 [8, 1, 1, 1, 1, 1, 1, 1, 1, 1, 1, 1, 1, 1, 1, 1, 1, 1, 1, 1, 1, 1, 1, 1, 1, 1, 1, 1, 1, 1, 1, 1, 1, 1, 1, 1, 1, 1, 1, 1, 1, 1, 1, 1, 1, 1, 1, 1, 1, 1, 1, 1, 1, 1, 10])
     (.seq (.assign 7 (.join [4, 5, 6, 9]))
       (.ret 7)))))⟩

/-- operators/masked_linear_operator.py:MaskedLinearOperator._diagonal (line 77); formals ['self'] -/
def f510_operators_masked_linear_operator__MaskedLinearOperator__diagonal : Fn := ⟨1,
 (.seq (.seq (.assign 3 (.view 0))
   (.seq (.ifStar (.assign 2 (.view 3)) (.call 2 866 [3, 1, 1, 1, 1]))
     (.assign 4 (.same 2))))
 (.seq (.seq (.assign 5 (.view 0))
     (.assign 6 (.join [1, 5])))
   (.seq (.ifStar (.call 7 789 [4, 6, 1]) (.assign 7 (.maybeView 4)))
     (.ret 7))))⟩

/-- operators/masked_linear_operator.py:MaskedLinearOperator.to_dense (line 83); formals ['self'] -/
def f511_operators_masked_linear_operator__MaskedLinearOperator_to_dense : Fn := ⟨1,
 (.seq (.seq (.seq (.assign 3 (.view 0))
     (.ifStar (.assign 2 (.maybeView 3)) (.call 2 778 [3, 1, 1, 1, 1, 1])))
   (.seq (.assign 4 (.same 2))
     (.seq (.assign 5 (.view 0))
       (.assign 6 (.join [1, 5])))))
 (.seq (.seq (.ifStar (.call 7 789 [4, 6, 1]) (.assign 7 (.maybeView 4)))
     (.assign 8 (.view 0)))
   (.seq (.assign 9 (.join [1, 8]))
     (.seq (.ifStar (.call 10 789 [7, 9, 1]) (.assign 10 (.maybeView 7)))
       (.ret 10)))))⟩

/-- operators/masked_linear_operator.py:MaskedLinearOperator._bilinear_derivative (line 87); formals ['self', 'left_vecs', 'right_vecs'] -/
def f512_operators_masked_linear_operator__MaskedLinearOperator__bilinear_derivative : Fn := ⟨3,
 (.seq (.seq (.seq (.assign 4 (.view 0))
     (.call 5 892 [0, 1, 4, 3]))
   (.seq (.assign 1 (.same 5))
     (.seq (.assign 6 (.view 0))
       (.call 7 892 [0, 2, 6, 3]))))
 (.seq (.seq (.assign 2 (.same 7))
     (.seq (.assign 9 (.view 0))
       (.ifStar (.assign 8 .fresh) (.call 8 799 [9, 1, 2, 3]))))
   (.seq (.assign 10 (.join [3]))
     (.seq (.assign 11 (.join [8, 10]))
       (.ret 11)))))⟩

/-- operators/masked_linear_operator.py:MaskedLinearOperator._expand_batch (line 92); formals ['self', 'batch_shape'] -/
def f513_operators_masked_linear_operator__MaskedLinearOperator__expand_batch : Fn := ⟨2,
 (.seq (.seq (.seq (.assign 4 (.view 0))
     (.ifStar (.assign 3 .fresh) (.call 3 817 [4, 1, 2])))
   (.seq (.assign 5 (.view 0))
     (.assign 6 (.view 0))))
 (.seq (.seq (.assign 8 .fresh)
     (.assign 10 (.join [3, 5, 6])))
   (.seq (.call 9 812 [8, 2, 2, 2, 2, 2, 2, 2, 2, 2, 2, 2, 2, 2, 2, 2, 2, 2, 2, 2, 2, 2, 2, 2, 2, 2, 2, 2, 2, 2, 2, 2, 2, 2, 2, 2, 2, 2, 2, 2, 2, 2, 2, 2, 2, 2, 2, 2, 2, 2, 2, 2, 2, 2, 10])
     (.seq (.assign 7 (.join [3, 5, 6, 9]))
       (.ret 7)))))⟩

/-- operators/masked_linear_operator.py:MaskedLinearOperator._unsqueeze_batch (line 97); formals ['self', 'dim'] -/
def f514_operators_masked_linear_operator__MaskedLinearOperator__unsqueeze_batch : Fn := ⟨2,
 (.seq (.seq (.seq (.assign 4 (.view 0))
     (.ifStar (.assign 3 .fresh) (.call 3 854 [4, 1, 2])))
   (.seq (.assign 5 (.view 0))
     (.assign 6 (.view 0))))
 (.seq (.seq (.assign 8 .fresh)
     (.assign 10 (.join [3, 5, 6])))
   (.seq (.call 9 812 [8, 2, 2, 2, 2, 2, 2, 2, 2, 2, 2, 2, 2, 2, 2, 2, 2, 2, 2, 2, 2, 2, 2, 2, 2, 2, 2, 2, 2, 2, 2, 2, 2, 2, 2, 2, 2, 2, 2, 2, 2, 2, 2, 2, 2, 2, 2, 2, 2, 2, 2, 2, 2, 2, 10])
     (.seq (.assign 7 (.join [3, 5, 6, 9]))
       (.ret 7)))))⟩

/-- operators/masked_linear_operator.py:MaskedLinearOperator._getitem (line 100); formals ['self', 'row_index', 'col_index', 'batch_indices'] -/
def f515_operators_masked_linear_operator__MaskedLinearOperator__getitem : Fn := ⟨4,
 (.seq (.call 5 717 [1])
 (.seq (.call 6 717 [2])
   (.ifStar (.ifStar (.seq (.seq (.seq (.assign 7 (.view 0))
             (.ifStar (.call 8 789 [7, 3, 4]) (.assign 8 (.maybeView 7))))
           (.seq (.assign 9 (.view 0))
             (.assign 10 (.view 0))))
         (.seq (.seq (.assign 12 .fresh)
             (.assign 14 (.join [8, 9, 10])))
           (.seq (.call 13 812 [12, 4, 4, 4, 4, 4, 4, 4, 4, 4, 4, 4, 4, 4, 4, 4, 4, 4, 4, 4, 4, 4, 4, 4, 4, 4, 4, 4, 4, 4, 4, 4, 4, 4, 4, 4, 4, 4, 4, 4, 4, 4, 4, 4, 4, 4, 4, 4, 4, 4, 4, 4, 4, 4, 14])
             (.seq (.assign 11 (.join [8, 9, 10, 13]))
               (.ret 11))))) (.ret 0)) (.seq (.seq (.assign 15 (.join [3]))
         (.assign 17 (.join [15])))
       (.seq (.call 16 813 [0, 1, 2, 17])
         (.ret 16))))))⟩

/-- operators/masked_linear_operator.py:MaskedLinearOperator._get_indices (line 109); formals ['self', 'row_index', 'col_index', 'batch_indices'] -/
def f516_operators_masked_linear_operator__MaskedLinearOperator__get_indices : Fn := ⟨4,
 (.seq (.seq (.seq (.seq (.assign 5 (.view 0))
       (.call 6 767 [5, 4, 4]))
     (.seq (.assign 7 .fresh)
       (.assign 8 (.maybeView 7))))
   (.seq (.seq (.assign 9 (.same 8))
       (.assign 10 (.view 0)))
     (.seq (.call 11 767 [10, 4, 4])
       (.assign 12 .fresh))))
 (.seq (.seq (.seq (.assign 13 (.maybeView 12))
       (.assign 14 (.same 13)))
     (.seq (.assign 15 (.maybeView 9))
       (.assign 16 (.maybeView 14))))
   (.seq (.seq (.assign 17 (.join [3]))
       (.assign 19 (.view 0)))
     (.seq (.assign 20 (.join [17]))
       (.seq (.ifStar (.assign 18 .fresh) (.call 18 857 [19, 15, 16, 20]))
         (.ret 18))))))⟩

/-- operators/masked_linear_operator.py:MaskedLinearOperator._permute_batch (line 114); formals ['self', 'dims'] -/
def f517_operators_masked_linear_operator__MaskedLinearOperator__permute_batch : Fn := ⟨2,
 (.seq (.seq (.seq (.assign 3 (.join [1]))
     (.assign 5 (.view 0)))
   (.seq (.assign 6 (.join [3]))
     (.seq (.ifStar (.assign 4 .fresh) (.call 4 810 [5, 6]))
       (.assign 7 (.view 0)))))
 (.seq (.seq (.assign 8 (.view 0))
     (.seq (.assign 10 .fresh)
       (.assign 12 (.join [4, 7, 8]))))
   (.seq (.call 11 812 [10, 2, 2, 2, 2, 2, 2, 2, 2, 2, 2, 2, 2, 2, 2, 2, 2, 2, 2, 2, 2, 2, 2, 2, 2, 2, 2, 2, 2, 2, 2, 2, 2, 2, 2, 2, 2, 2, 2, 2, 2, 2, 2, 2, 2, 2, 2, 2, 2, 2, 2, 2, 2, 2, 12])
     (.seq (.assign 9 (.join [4, 7, 8, 11]))
       (.ret 9)))))⟩

/-- operators/masked_linear_operator.py:MaskedLinearOperator.to (line 117); formals ['self', 'args', 'kwargs'] -/
def f518_operators_masked_linear_operator__MaskedLinearOperator_to : Fn := ⟨3,
 (.seq (.seq (.seq (.seq (.assign 4 (.join [1, 2]))
       (.seq (.assign 6 (.join [4]))
         (.assign 7 (.join [4]))))
     (.seq (.call 5 713 [6, 7])
       (.seq (.assign 8 (.view 5))
         (.assign 9 (.same 8)))))
   (.seq (.seq (.assign 10 (.view 5))
       (.seq (.assign 11 (.same 10))
         (.assign 12 (.join []))))
     (.seq (.seq (.assign 13 (.same 12))
         (.assign 14 (.join [])))
       (.seq (.assign 15 (.same 14))
         (.assign 16 (.view 0))))))
 (.seq (.seq (.seq (.ifStar (.call 16 807 [0, 3]) .skip)
       (.seq (.assign 17 (.same 16))
         (.whileStar ⟨[[0], [1], [2], [], [1, 2], [1, 2], [1, 2], [1, 2], [1, 2], [1, 2], [1, 2], [1, 2], [], [0, 1, 2], [], [], [0], [0], [0], [0], [0, 1, 2], [1, 2], [0, 1, 2], [1, 2]], [], []⟩ (.seq (.assign 18 (.view 17))
             (.seq (.assign 19 (.same 18))
               (.ifStar (.ifStar (.seq (.assign 21 (.join [9, 11]))
                 (.seq (.ifStar (.assign 20 (.maybeView 19)) (.call 20 824 [19, 21]))
                 (.assign 13 (.join [13, 20])))) (.seq (.assign 23 (.join [9]))
                 (.seq (.ifStar (.assign 22 (.maybeView 19)) (.call 22 824 [19, 23]))
                 (.assign 13 (.join [13, 22]))))) (.assign 13 (.join [13, 19]))))))))
     (.seq (.seq (.assign 25 (.view 0))
         (.ifStar (.call 25 811 [0, 3]) .skip))
       (.seq (.assign 26 (.same 25))
         (.assign 24 (.join [26])))))
   (.seq (.seq (.whileStar ⟨[[0], [1], [2], [], [1, 2], [1, 2], [1, 2], [1, 2], [1, 2], [1, 2], [1, 2], [1, 2], [], [0, 1, 2], [], [0, 1, 2], [0], [0], [0], [0], [0, 1, 2], [1, 2], [0, 1, 2], [1, 2], [0], [0], [0], [0], [0], [0], [0, 1, 2], [1, 2]], [], []⟩ (.seq (.seq (.assign 27 (.view 24))
             (.assign 28 (.view 27)))
           (.seq (.assign 29 (.same 28))
             (.ifStar (.seq (.assign 31 (.join [9, 11]))
                 (.seq (.ifStar (.assign 30 (.maybeView 29)) (.call 30 824 [29, 31]))
                 (.assign 15 (.join [15, 30])))) (.assign 15 (.join [15, 29]))))))
       (.seq (.assign 32 (.join [13, 15]))
         (.assign 34 .fresh)))
     (.seq (.seq (.assign 36 (.join [32]))
         (.call 35 812 [34, 32, 32, 32, 32, 32, 32, 32, 32, 32, 32, 32, 32, 32, 32, 32, 32, 32, 32, 32, 32, 32, 32, 32, 32, 32, 32, 32, 32, 32, 32, 32, 32, 32, 32, 32, 32, 32, 32, 32, 32, 32, 32, 32, 32, 32, 32, 32, 32, 32, 32, 32, 32, 32, 36]))
       (.seq (.assign 33 (.join [32, 35]))
         (.ret 33))))))⟩

/-- operators/matmul_linear_operator.py:_inner_repeat (line 18); formals ['tensor', 'amt'] -/
def f519_operators_matmul_linear_operator___inner_repeat : Fn := ⟨2,
 (.seq (.seq (.ifStar (.assign 5 (.view 0)) (.call 5 782 [0, 2, 2]))
   (.assign 6 (.join [1, 2])))
 (.seq (.ifStar (.assign 4 .fresh) (.call 4 816 [5, 6]))
   (.seq (.ifStar (.assign 3 (.view 4)) (.call 3 784 [4, 2, 2]))
     (.ret 3))))⟩

/-- operators/matmul_linear_operator.py:_outer_repeat (line 22); formals ['tensor', 'amt'] -/
def f520_operators_matmul_linear_operator___outer_repeat : Fn := ⟨2,
 (.seq (.seq (.ifStar (.assign 5 (.view 0)) (.call 5 782 [0, 2, 2]))
   (.assign 6 (.join [1, 2])))
 (.seq (.ifStar (.assign 4 .fresh) (.call 4 816 [5, 6]))
   (.seq (.assign 3 (.view 4))
     (.ret 3))))⟩

/-- operators/matmul_linear_operator.py:MatmulLinearOperator.__init__ (line 27); formals ['self', 'left_linear_op', 'right_linear_op'] -/
def f521_operators_matmul_linear_operator__MatmulLinearOperator___init__ : Fn := ⟨3,
 (.seq (.seq (.seq (.call 4 311 [1])
     (.seq (.assign 1 (.same 4))
       (.call 5 311 [2])))
   (.seq (.seq (.assign 2 (.same 5))
       (.assign 6 .fresh))
     (.seq (.assign 7 (.same 6))
       (.ifStar (.seq (.ifStar (.assign 8 .fresh) (.call 8 817 [1, 7, 3]))
           (.assign 1 (.same 8))) .skip))))
 (.seq (.seq (.seq (.ifStar (.seq (.ifStar (.assign 9 .fresh) (.call 9 817 [2, 7, 3]))
           (.assign 2 (.same 9))) .skip)
       (.assign 11 (.join [1, 2])))
     (.seq (.call 10 812 [0, 3, 3, 3, 3, 3, 3, 3, 3, 3, 3, 3, 3, 3, 3, 3, 3, 3, 3, 3, 3, 3, 3, 3, 3, 3, 3, 3, 3, 3, 3, 3, 3, 3, 3, 3, 3, 3, 3, 3, 3, 3, 3, 3, 3, 3, 3, 3, 3, 3, 3, 3, 3, 3, 11])
       (.assign 12 .fresh)))
   (.seq (.seq (.assign 7 (.same 12))
       (.ifStar (.seq (.ifStar (.assign 13 .fresh) (.call 13 817 [1, 7, 3]))
           (.assign 0 (.join [0, 13]))) (.assign 0 (.join [0, 1]))))
     (.seq (.ifStar (.seq (.ifStar (.assign 14 .fresh) (.call 14 817 [2, 7, 3]))
           (.assign 0 (.join [0, 14]))) (.assign 0 (.join [0, 2])))
       (.ret 0)))))⟩

/-- operators/matmul_linear_operator.py:MatmulLinearOperator._expand_batch (line 49); formals ['self', 'batch_shape'] -/
def f522_operators_matmul_linear_operator__MatmulLinearOperator__expand_batch : Fn := ⟨2,
 (.seq (.seq (.seq (.assign 4 (.view 0))
     (.call 3 817 [4, 1, 2]))
   (.seq (.assign 6 (.view 0))
     (.call 5 817 [6, 1, 2])))
 (.seq (.seq (.assign 8 .fresh)
     (.assign 10 (.join [3, 5])))
   (.seq (.call 9 812 [8, 2, 2, 2, 2, 2, 2, 2, 2, 2, 2, 2, 2, 2, 2, 2, 2, 2, 2, 2, 2, 2, 2, 2, 2, 2, 2, 2, 2, 2, 2, 2, 2, 2, 2, 2, 2, 2, 2, 2, 2, 2, 2, 2, 2, 2, 2, 2, 2, 2, 2, 2, 2, 2, 10])
     (.seq (.assign 7 (.join [3, 5, 9]))
       (.ret 7)))))⟩

/-- operators/matmul_linear_operator.py:MatmulLinearOperator._get_indices (line 56); formals ['self', 'row_index', 'col_index', 'batch_indices'] -/
def f523_operators_matmul_linear_operator__MatmulLinearOperator__get_indices : Fn := ⟨4,
 (.seq (.seq (.seq (.seq (.seq (.ifStar (.assign 5 (.view 1)) (.call 5 782 [1, 4, 4]))
         (.assign 1 (.same 5)))
       (.seq (.ifStar (.assign 6 (.view 2)) (.call 6 782 [2, 4, 4]))
         (.assign 2 (.same 6))))
     (.seq (.seq (.assign 7 .fresh)
         (.assign 9 (.view 3)))
       (.seq (.assign 8 (.same 9))
         (.whileStar ⟨[[0], [1], [2], [3], [], [1], [2], [3], [3], [3], [3], [3]], [], []⟩ (.seq (.seq (.assign 10 (.view 3))
               (.assign 8 (.same 10)))
             (.seq (.ifStar (.assign 11 (.view 8)) (.call 11 782 [8, 4, 4]))
               (.assign 7 (.join [7, 11]))))))))
   (.seq (.seq (.seq (.assign 12 (.join [7]))
         (.assign 3 (.same 12)))
       (.seq (.assign 13 (.view 0))
         (.call 14 767 [13, 4, 4])))
     (.seq (.seq (.assign 15 .fresh)
         (.assign 16 (.same 15)))
       (.seq (.call 17 808 [1, 4])
         (.seq (.call 18 704 [16, 4, 4])
           (.assign 16 (.same 18)))))))
 (.seq (.seq (.seq (.seq (.assign 19 (.view 3))
         (.assign 20 (.join [19])))
       (.seq (.assign 22 (.view 0))
         (.assign 23 (.join [20]))))
     (.seq (.seq (.call 21 857 [22, 1, 16, 23])
         (.assign 24 (.same 21)))
       (.seq (.assign 25 (.view 3))
         (.assign 26 (.join [25])))))
   (.seq (.seq (.seq (.assign 28 (.view 0))
         (.assign 29 (.join [26])))
       (.seq (.call 27 857 [28, 16, 2, 29])
         (.assign 30 (.same 27))))
     (.seq (.seq (.ifStar (.assign 32 .fresh) (.ifStar (.call 32 804 [30, 24, 4]) (.call 32 803 [24, 30, 4])))
         (.call 33 835 [32, 4, 4]))
       (.seq (.assign 31 .fresh)
         (.seq (.assign 34 (.same 31))
           (.ret 34)))))))⟩

/-- operators/matmul_linear_operator.py:MatmulLinearOperator._diagonal (line 72); formals ['self'] -/
def f524_operators_matmul_linear_operator__MatmulLinearOperator__diagonal : Fn := ⟨1,
 (.ifStar (.seq (.seq (.seq (.assign 3 (.view 0))
       (.assign 4 (.view 3)))
     (.seq (.assign 5 (.view 0))
       (.seq (.assign 6 (.view 5))
         (.assign 7 (.view 6)))))
   (.seq (.seq (.ifStar (.call 7 777 [6, 1]) .skip)
       (.seq (.assign 8 (.same 7))
         (.ifStar (.assign 9 .fresh) (.ifStar (.call 9 804 [8, 4, 1]) (.call 9 803 [4, 8, 1])))))
     (.seq (.call 10 835 [9, 1, 1])
       (.seq (.assign 2 .fresh)
         (.ret 2))))) (.ifStar (.seq (.seq (.assign 12 (.view 0))
       (.seq (.call 11 818 [12, 1])
         (.assign 14 (.view 0))))
     (.seq (.call 13 818 [14, 1])
       (.seq (.assign 15 .fresh)
         (.ret 15)))) (.seq (.call 16 818 [0, 1])
     (.ret 16))))⟩

/-- operators/matmul_linear_operator.py:MatmulLinearOperator._getitem (line 84); formals ['self', 'row_index', 'col_index', 'batch_indices'] -/
def f525_operators_matmul_linear_operator__MatmulLinearOperator__getitem : Fn := ⟨4,
 (.seq (.seq (.seq (.ifStar (.seq (.call 5 837 [1, 4])
         (.ifStar (.seq (.seq (.assign 6 (.join [3]))
               (.seq (.call 8 778 [0, 4, 4, 4, 4, 4])
                 (.call 9 311 [8])))
             (.seq (.assign 10 (.join [6]))
               (.seq (.ifStar (.assign 7 .fresh) (.call 7 813 [9, 1, 2, 10]))
                 (.ret 7)))) .skip)) .skip)
     (.seq (.assign 11 (.join [3]))
       (.assign 13 (.view 0))))
   (.seq (.seq (.assign 14 (.join [11]))
       (.call 12 813 [13, 1, 4, 14]))
     (.seq (.assign 15 (.same 12))
       (.assign 16 (.join [3])))))
 (.seq (.seq (.seq (.assign 18 (.view 0))
       (.assign 19 (.join [16])))
     (.seq (.call 17 813 [18, 4, 2, 19])
       (.assign 20 (.same 17))))
   (.seq (.seq (.assign 22 .fresh)
       (.call 21 521 [22, 15, 20]))
     (.seq (.assign 23 (.same 21))
       (.ret 23)))))⟩

/-- operators/matmul_linear_operator.py:MatmulLinearOperator._matmul (line 97); formals ['self', 'rhs'] -/
def f526_operators_matmul_linear_operator__MatmulLinearOperator__matmul : Fn := ⟨2,
 (.seq (.seq (.assign 4 (.view 0))
   (.call 3 815 [4, 1, 2]))
 (.seq (.assign 6 (.view 0))
   (.seq (.call 5 815 [6, 3, 2])
     (.ret 5))))⟩

/-- operators/matmul_linear_operator.py:MatmulLinearOperator._t_matmul (line 103); formals ['self', 'rhs'] -/
def f527_operators_matmul_linear_operator__MatmulLinearOperator__t_matmul : Fn := ⟨2,
 (.seq (.seq (.assign 4 (.view 0))
   (.call 3 878 [4, 1, 2]))
 (.seq (.assign 6 (.view 0))
   (.seq (.call 5 878 [6, 3, 2])
     (.ret 5))))⟩

/-- operators/matmul_linear_operator.py:MatmulLinearOperator._bilinear_derivative (line 109); formals ['self', 'left_vecs', 'right_vecs'] -/
def f528_operators_matmul_linear_operator__MatmulLinearOperator__bilinear_derivative : Fn := ⟨3,
 (.seq (.seq (.seq (.seq (.ifStar (.seq (.seq (.assign 4 (.view 1))
             (.assign 1 (.same 4)))
           (.seq (.assign 5 (.view 2))
             (.assign 2 (.same 5)))) .skip)
       (.assign 7 (.view 0)))
     (.seq (.call 6 815 [7, 2, 3])
       (.assign 8 (.same 6))))
   (.seq (.seq (.assign 10 (.view 0))
       (.call 9 878 [10, 1, 3]))
     (.seq (.assign 11 (.same 9))
       (.seq (.assign 13 (.view 0))
         (.call 12 799 [13, 1, 8, 3])))))
 (.seq (.seq (.seq (.assign 14 (.same 12))
       (.assign 16 (.view 0)))
     (.seq (.call 15 799 [16, 11, 2, 3])
       (.seq (.assign 17 (.same 15))
         (.ifStar (.seq (.assign 18 (.join [14]))
             (.assign 19 (.same 18))) (.assign 19 (.same 14))))))
   (.seq (.seq (.assign 14 (.same 19))
       (.ifStar (.seq (.assign 20 (.join [17]))
           (.assign 21 (.same 20))) (.assign 21 (.same 17))))
     (.seq (.assign 17 (.same 21))
       (.seq (.ifStar (.assign 22 .fresh) (.ifStar (.call 22 826 [17, 14, 3, 3]) (.call 22 825 [14, 17, 3])))
         (.ret 22))))))⟩

/-- operators/matmul_linear_operator.py:MatmulLinearOperator._permute_batch (line 122); formals ['self', 'dims'] -/
def f529_operators_matmul_linear_operator__MatmulLinearOperator__permute_batch : Fn := ⟨2,
 (.seq (.seq (.seq (.assign 3 (.join [1]))
     (.seq (.assign 5 (.view 0))
       (.assign 6 (.join [3]))))
   (.seq (.call 4 810 [5, 6])
     (.seq (.assign 7 (.join [1]))
       (.assign 9 (.view 0)))))
 (.seq (.seq (.assign 10 (.join [7]))
     (.seq (.call 8 810 [9, 10])
       (.assign 12 .fresh)))
   (.seq (.seq (.assign 14 (.join [4, 8]))
       (.call 13 812 [12, 2, 2, 2, 2, 2, 2, 2, 2, 2, 2, 2, 2, 2, 2, 2, 2, 2, 2, 2, 2, 2, 2, 2, 2, 2, 2, 2, 2, 2, 2, 2, 2, 2, 2, 2, 2, 2, 2, 2, 2, 2, 2, 2, 2, 2, 2, 2, 2, 2, 2, 2, 2, 2, 14]))
     (.seq (.assign 11 (.join [4, 8, 13]))
       (.ret 11)))))⟩

/-- operators/matmul_linear_operator.py:MatmulLinearOperator._size (line 125); formals ['self'] -/
def f530_operators_matmul_linear_operator__MatmulLinearOperator__size : Fn := ⟨1,
 (.seq (.call 2 703 [1, 1, 1])
 (.ret 2))⟩

/-- operators/matmul_linear_operator.py:MatmulLinearOperator._transpose_nonbatch (line 128); formals ['self'] -/
def f531_operators_matmul_linear_operator__MatmulLinearOperator__transpose_nonbatch : Fn := ⟨1,
 (.seq (.seq (.seq (.assign 3 (.view 0))
     (.call 2 829 [3, 1]))
   (.seq (.assign 5 (.view 0))
     (.call 4 829 [5, 1])))
 (.seq (.seq (.assign 7 .fresh)
     (.assign 9 (.join [2, 4])))
   (.seq (.call 8 812 [7, 1, 1, 1, 1, 1, 1, 1, 1, 1, 1, 1, 1, 1, 1, 1, 1, 1, 1, 1, 1, 1, 1, 1, 1, 1, 1, 1, 1, 1, 1, 1, 1, 1, 1, 1, 1, 1, 1, 1, 1, 1, 1, 1, 1, 1, 1, 1, 1, 1, 1, 1, 1, 1, 9])
     (.seq (.assign 6 (.join [2, 4, 8]))
       (.ret 6)))))⟩

/-- operators/matmul_linear_operator.py:MatmulLinearOperator.to_dense (line 132); formals ['self'] -/
def f532_operators_matmul_linear_operator__MatmulLinearOperator_to_dense : Fn := ⟨1,
 (.seq (.seq (.assign 3 (.view 0))
   (.seq (.call 2 778 [3, 1, 1, 1, 1, 1])
     (.assign 5 (.view 0))))
 (.seq (.seq (.call 4 778 [5, 1, 1, 1, 1, 1])
     (.assign 6 .fresh))
   (.seq (.ret 6)
     (.ret 0))))⟩

/-- operators/mul_linear_operator.py:MulLinearOperator._check_args (line 17); formals ['self', 'left_linear_op', 'right_linear_op'] -/
def f533_operators_mul_linear_operator__MulLinearOperator__check_args : Fn := ⟨3,
 (.seq (.ifStar (.ret 3) .skip)
 (.ifStar (.seq (.assign 4 .fresh)
     (.ret 4)) .skip))⟩

/-- operators/mul_linear_operator.py:MulLinearOperator.__init__ (line 25); formals ['self', 'left_linear_op', 'right_linear_op'] -/
def f534_operators_mul_linear_operator__MulLinearOperator___init__ : Fn := ⟨3,
 (.seq (.seq (.seq (.ifStar .skip (.call 4 820 [1, 3]))
     (.ifStar .skip (.call 5 820 [2, 3])))
   (.seq (.ifStar (.seq (.seq (.assign 6 (.same 2))
           (.assign 7 (.same 1)))
         (.seq (.assign 1 (.same 6))
           (.assign 2 (.same 7)))) .skip)
     (.seq (.ifStar (.seq (.ifStar (.assign 8 .fresh) (.call 8 772 [1, 3, 3]))
           (.assign 1 (.same 8))) .skip)
       (.ifStar (.seq (.ifStar (.assign 9 .fresh) (.call 9 772 [2, 3, 3]))
           (.assign 2 (.same 9))) .skip))))
 (.seq (.seq (.assign 11 (.join [1, 2]))
     (.call 10 812 [0, 3, 3, 3, 3, 3, 3, 3, 3, 3, 3, 3, 3, 3, 3, 3, 3, 3, 3, 3, 3, 3, 3, 3, 3, 3, 3, 3, 3, 3, 3, 3, 3, 3, 3, 3, 3, 3, 3, 3, 3, 3, 3, 3, 3, 3, 3, 3, 3, 3, 3, 3, 3, 3, 11]))
   (.seq (.assign 0 (.join [0, 1]))
     (.seq (.assign 0 (.join [0, 2]))
       (.ret 0)))))⟩

/-- operators/mul_linear_operator.py:MulLinearOperator._diagonal (line 41); formals ['self'] -/
def f535_operators_mul_linear_operator__MulLinearOperator__diagonal : Fn := ⟨1,
 (.seq (.seq (.assign 3 (.view 0))
   (.seq (.call 2 818 [3, 1])
     (.assign 5 (.view 0))))
 (.seq (.seq (.call 4 818 [5, 1])
     (.assign 6 .fresh))
   (.seq (.assign 7 (.same 6))
     (.ret 7))))⟩

/-- operators/mul_linear_operator.py:MulLinearOperator._get_indices (line 45); formals ['self', 'row_index', 'col_index', 'batch_indices'] -/
def f536_operators_mul_linear_operator__MulLinearOperator__get_indices : Fn := ⟨4,
 (.seq (.seq (.seq (.assign 5 (.join [3]))
     (.seq (.assign 7 (.view 0))
       (.assign 8 (.join [5]))))
   (.seq (.call 6 857 [7, 1, 2, 8])
     (.seq (.assign 9 (.same 6))
       (.assign 10 (.join [3])))))
 (.seq (.seq (.assign 12 (.view 0))
     (.seq (.assign 13 (.join [10]))
       (.call 11 857 [12, 1, 2, 13])))
   (.seq (.assign 14 (.same 11))
     (.seq (.ifStar (.assign 15 .fresh) (.ifStar (.call 15 804 [14, 9, 4]) (.call 15 803 [9, 14, 4])))
       (.ret 15)))))⟩

/-- operators/mul_linear_operator.py:MulLinearOperator._matmul (line 50); formals ['self', 'rhs'] -/
def f537_operators_mul_linear_operator__MulLinearOperator__matmul : Fn := ⟨2,
 (.seq (.seq (.seq (.call 3 703 [2, 2, 2])
     (.assign 4 (.same 3)))
   (.seq (.ifStar (.call 5 789 [4, 2, 2]) .skip)
     (.ifStar (.seq (.assign 6 (.view 1))
         (.assign 1 (.same 6))) .skip)))
 (.seq (.seq (.ifStar (.seq (.seq (.seq (.seq (.assign 8 (.view 0))
               (.assign 9 (.view 8)))
             (.seq (.ifStar (.assign 7 (.maybeView 9)) (.call 7 778 [9, 2, 2, 2, 2, 2]))
               (.seq (.assign 10 (.same 7))
                 (.ifStar .skip (.call 11 782 [10, 2, 2])))))
           (.seq (.seq (.assign 12 .fresh)
               (.assign 13 (.same 12)))
             (.seq (.call 14 767 [10, 2, 2])
               (.seq (.call 15 767 [0, 2, 2])
                 (.assign 16 (.view 13))))))
         (.seq (.seq (.seq (.assign 13 (.same 16))
               (.assign 18 (.view 0)))
             (.seq (.call 17 815 [18, 13, 2])
               (.seq (.assign 13 (.same 17))
                 (.assign 19 (.view 13)))))
           (.seq (.seq (.assign 13 (.same 19))
               (.ifStar .skip (.call 21 782 [10, 2, 2])))
             (.seq (.write 13)
               (.seq (.assign 20 .fresh)
                 (.assign 22 (.same 20))))))) (.seq (.seq (.assign 25 (.view 0))
           (.seq (.call 24 778 [25, 2, 2, 2, 2, 2])
             (.assign 27 (.view 0))))
         (.seq (.call 26 778 [27, 2, 2, 2, 2, 2])
           (.seq (.assign 23 .fresh)
             (.assign 22 (.same 23))))))
     (.ifStar (.seq (.ifStar (.assign 28 (.view 22)) (.call 28 784 [22, 2, 2]))
         (.assign 29 (.same 28))) (.assign 29 (.same 22))))
   (.seq (.assign 22 (.same 29))
     (.ret 22))))⟩

/-- operators/mul_linear_operator.py:MulLinearOperator._mul_constant (line 81); formals ['self', 'other'] -/
def f538_operators_mul_linear_operator__MulLinearOperator__mul_constant : Fn := ⟨2,
 (.seq (.ifStar (.seq (.seq (.seq (.assign 4 (.view 0))
         (.call 3 840 [4, 1, 2]))
       (.seq (.assign 5 (.view 0))
         (.assign 7 .fresh)))
     (.seq (.seq (.assign 9 (.join [3, 5]))
         (.call 8 812 [7, 2, 2, 2, 2, 2, 2, 2, 2, 2, 2, 2, 2, 2, 2, 2, 2, 2, 2, 2, 2, 2, 2, 2, 2, 2, 2, 2, 2, 2, 2, 2, 2, 2, 2, 2, 2, 2, 2, 2, 2, 2, 2, 2, 2, 2, 2, 2, 2, 2, 2, 2, 2, 2, 9]))
       (.seq (.assign 6 (.join [3, 5, 8]))
         (.assign 10 (.same 6))))) (.seq (.call 11 840 [0, 1, 2])
     (.assign 10 (.same 11))))
 (.ret 10))⟩

/-- operators/mul_linear_operator.py:MulLinearOperator._bilinear_derivative (line 92); formals ['self', 'left_vecs', 'right_vecs'] -/
def f539_operators_mul_linear_operator__MulLinearOperator__bilinear_derivative : Fn := ⟨3,
 (.seq (.seq (.seq (.seq (.ifStar (.seq (.seq (.assign 4 (.view 1))
             (.assign 1 (.same 4)))
           (.seq (.assign 5 (.view 2))
             (.assign 2 (.same 5)))) .skip)
       (.ifStar (.seq (.seq (.seq (.assign 7 (.view 0))
               (.assign 8 (.view 7)))
             (.seq (.ifStar (.assign 6 (.maybeView 8)) (.call 6 778 [8, 3, 3, 3, 3, 3]))
               (.seq (.assign 9 (.same 6))
                 (.ifStar .skip (.call 10 782 [9, 3, 3])))))
           (.seq (.seq (.assign 11 .fresh)
               (.seq (.assign 12 (.same 11))
                 (.ifStar .skip (.call 13 782 [9, 3, 3]))))
             (.seq (.assign 14 .fresh)
               (.seq (.assign 15 (.same 14))
                 (.call 16 767 [9, 3, 3]))))) (.seq (.seq (.assign 18 (.view 0))
             (.seq (.call 17 778 [18, 3, 3, 3, 3, 3])
               (.assign 19 .fresh)))
           (.seq (.assign 12 (.same 19))
             (.seq (.assign 20 .fresh)
               (.assign 15 (.same 20)))))))
     (.seq (.assign 21 (.view 12))
       (.seq (.assign 12 (.same 21))
         (.assign 22 (.view 15)))))
   (.seq (.seq (.assign 15 (.same 22))
       (.seq (.assign 24 (.view 0))
         (.call 23 799 [24, 12, 15, 3])))
     (.seq (.assign 25 (.same 23))
       (.seq (.ifStar (.seq (.seq (.seq (.assign 27 (.view 0))
                 (.assign 28 (.view 27)))
               (.seq (.ifStar (.assign 26 (.maybeView 28)) (.call 26 778 [28, 3, 3, 3, 3, 3]))
                 (.seq (.assign 29 (.same 26))
                 (.ifStar .skip (.call 30 782 [29, 3, 3])))))
             (.seq (.seq (.assign 31 .fresh)
                 (.seq (.assign 12 (.same 31))
                 (.ifStar .skip (.call 32 782 [29, 3, 3]))))
               (.seq (.assign 33 .fresh)
                 (.seq (.assign 15 (.same 33))
                 (.call 34 767 [29, 3, 3]))))) (.seq (.seq (.assign 36 (.view 0))
               (.seq (.call 35 778 [36, 3, 3, 3, 3, 3])
                 (.assign 37 .fresh)))
             (.seq (.assign 12 (.same 37))
               (.seq (.assign 38 .fresh)
                 (.assign 15 (.same 38))))))
         (.assign 39 (.view 12))))))
 (.seq (.seq (.seq (.assign 12 (.same 39))
       (.assign 40 (.view 15)))
     (.seq (.assign 15 (.same 40))
       (.seq (.assign 42 (.view 0))
         (.call 41 799 [42, 12, 15, 3]))))
   (.seq (.seq (.assign 43 (.same 41))
       (.seq (.assign 44 (.join [25]))
         (.assign 45 (.join [43]))))
     (.seq (.assign 46 (.join [44, 45]))
       (.seq (.assign 47 (.join [46]))
         (.ret 47))))))⟩

def chunk8 : List Fn := [
  f480_operators_kronecker_product_linear_operator__KroneckerProductDiagLinearOperator__expand_batch,
  f481_operators_kronecker_product_linear_operator__KroneckerProductDiagLinearOperator__mul_constant,
  f482_operators_kronecker_product_linear_operator__KroneckerProductDiagLinearOperator__size,
  f483_operators_kronecker_product_linear_operator__KroneckerProductDiagLinearOperator__symeig,
  f484_operators_kronecker_product_linear_operator__KroneckerProductDiagLinearOperator_abs,
  f485_operators_kronecker_product_linear_operator__KroneckerProductDiagLinearOperator_exp,
  f486_operators_kronecker_product_linear_operator__KroneckerProductDiagLinearOperator_inverse,
  f487_operators_kronecker_product_linear_operator__KroneckerProductDiagLinearOperator_log,
  f488_operators_kronecker_product_linear_operator__KroneckerProductDiagLinearOperator_sqrt,
  f489_operators_linear_operator_representation_tree__LinearOperatorRepresentationTree___init__,
  f490_operators_linear_operator_representation_tree__LinearOperatorRepresentationTree___call__,
  f491_operators_low_rank_root_added_diag_linear_operator__LowRankRootAddedDiagLinearOperator___init__,
  f492_operators_low_rank_root_added_diag_linear_operator__LowRankRootAddedDiagLinearOperator_chol_cap_mat,
  f493_operators_low_rank_root_added_diag_linear_operator__LowRankRootAddedDiagLinearOperator__mul_constant,
  f494_operators_low_rank_root_added_diag_linear_operator__LowRankRootAddedDiagLinearOperator__preconditioner,
  f495_operators_low_rank_root_added_diag_linear_operator__LowRankRootAddedDiagLinearOperator__solve,
  f496_operators_low_rank_root_added_diag_linear_operator__LowRankRootAddedDiagLinearOperator__solve_preconditioner,
  f497_operators_low_rank_root_added_diag_linear_operator__LowRankRootAddedDiagLinearOperator__sum_batch,
  f498_operators_low_rank_root_added_diag_linear_operator__LowRankRootAddedDiagLinearOperator__logdet,
  f499_operators_low_rank_root_added_diag_linear_operator__LowRankRootAddedDiagLinearOperator___add__,
  f500_operators_low_rank_root_added_diag_linear_operator__LowRankRootAddedDiagLinearOperator_inv_quad_logdet,
  f501_operators_low_rank_root_added_diag_linear_operator__LowRankRootAddedDiagLinearOperator_solve,
  f502_operators_low_rank_root_linear_operator__LowRankRootLinearOperator_add_diagonal,
  f503_operators_low_rank_root_linear_operator__LowRankRootLinearOperator___add__,
  f504_operators_masked_linear_operator__MaskedLinearOperator___init__,
  f505_operators_masked_linear_operator__MaskedLinearOperator__expand,
  f506_operators_masked_linear_operator__MaskedLinearOperator__matmul,
  f507_operators_masked_linear_operator__MaskedLinearOperator__t_matmul,
  f508_operators_masked_linear_operator__MaskedLinearOperator__size,
  f509_operators_masked_linear_operator__MaskedLinearOperator__transpose_nonbatch,
  f510_operators_masked_linear_operator__MaskedLinearOperator__diagonal,
  f511_operators_masked_linear_operator__MaskedLinearOperator_to_dense,
  f512_operators_masked_linear_operator__MaskedLinearOperator__bilinear_derivative,
  f513_operators_masked_linear_operator__MaskedLinearOperator__expand_batch,
  f514_operators_masked_linear_operator__MaskedLinearOperator__unsqueeze_batch,
  f515_operators_masked_linear_operator__MaskedLinearOperator__getitem,
  f516_operators_masked_linear_operator__MaskedLinearOperator__get_indices,
  f517_operators_masked_linear_operator__MaskedLinearOperator__permute_batch,
  f518_operators_masked_linear_operator__MaskedLinearOperator_to,
  f519_operators_matmul_linear_operator___inner_repeat,
  f520_operators_matmul_linear_operator___outer_repeat,
  f521_operators_matmul_linear_operator__MatmulLinearOperator___init__,
  f522_operators_matmul_linear_operator__MatmulLinearOperator__expand_batch,
  f523_operators_matmul_linear_operator__MatmulLinearOperator__get_indices,
  f524_operators_matmul_linear_operator__MatmulLinearOperator__diagonal,
  f525_operators_matmul_linear_operator__MatmulLinearOperator__getitem,
  f526_operators_matmul_linear_operator__MatmulLinearOperator__matmul,
  f527_operators_matmul_linear_operator__MatmulLinearOperator__t_matmul,
  f528_operators_matmul_linear_operator__MatmulLinearOperator__bilinear_derivative,
  f529_operators_matmul_linear_operator__MatmulLinearOperator__permute_batch,
  f530_operators_matmul_linear_operator__MatmulLinearOperator__size,
  f531_operators_matmul_linear_operator__MatmulLinearOperator__transpose_nonbatch,
  f532_operators_matmul_linear_operator__MatmulLinearOperator_to_dense,
  f533_operators_mul_linear_operator__MulLinearOperator__check_args,
  f534_operators_mul_linear_operator__MulLinearOperator___init__,
  f535_operators_mul_linear_operator__MulLinearOperator__diagonal,
  f536_operators_mul_linear_operator__MulLinearOperator__get_indices,
  f537_operators_mul_linear_operator__MulLinearOperator__matmul,
  f538_operators_mul_linear_operator__MulLinearOperator__mul_constant,
  f539_operators_mul_linear_operator__MulLinearOperator__bilinear_derivative]

/-- every function of this chunk conforms to its summary (kernel-evaluated analysis, mask form) -/
theorem chunk8_ok : tableOKB lk sigma8 chunk8 = true := by decide +kernel

end LinOp.Generated.C13
