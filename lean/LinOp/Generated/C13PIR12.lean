import LinOp.C13.Model
import LinOp.Generated.C13PSigma
-- GENERATED by harness/extract/c13_alias.py from /repo/linear_operator (do not edit)
namespace LinOp.Generated.C13P
open LinOp.C13

/-- utils/interpolation.py:left_t_interp (line 33); formals ['interp_indices', 'interp_values', 'rhs', 'output_dim'] -/
def f720_utils_interpolation__left_t_interp : Fn := ⟨4,
 (.seq (.seq (.seq (.seq (.ifStar (.seq (.assign 5 (.view 2))
           (.assign 2 (.same 5))) .skip)
       (.assign 6 .fresh))
     (.seq (.assign 7 (.same 6))
       (.assign 8 .fresh)))
   (.seq (.seq (.assign 9 (.same 8))
       (.call 10 703 [9, 4, 4]))
     (.seq (.assign 12 (.view 0))
       (.seq (.assign 11 (.maybeView 12))
         (.assign 0 (.same 11))))))
 (.seq (.seq (.seq (.assign 13 .fresh)
       (.assign 14 (.same 13)))
     (.seq (.assign 15 (.maybeView 7))
       (.seq (.assign 7 (.same 15))
         (.call 16 6 [14, 7]))))
   (.seq (.seq (.assign 17 (.same 16))
       (.assign 18 (.view 17)))
     (.seq (.assign 17 (.same 18))
       (.seq (.ifStar (.seq (.assign 19 (.view 17))
             (.assign 17 (.same 19))) .skip)
         (.ret 17))))))⟩

/-- utils/lanczos.py:lanczos_tridiag (line 8); formals ['matmul_closure', 'max_iter', 'dtype', 'device', 'matrix_shape', 'batch_shape', 'init_vecs', 'num_init_vecs', 'tol'] -/
def f721_utils_lanczos__lanczos_tridiag : Fn := ⟨9,
 (.seq (.seq (.seq (.seq (.seq (.ifStar (.seq (.seq (.assign 10 .fresh)
               (.assign 6 (.same 10)))
             (.seq (.assign 11 (.view 6))
               (.assign 6 (.same 11)))) (.seq (.assign 12 .fresh)
             (.assign 7 (.same 12))))
         (.assign 13 (.same 9)))
       (.seq (.assign 14 .fresh)
         (.assign 15 (.same 14))))
     (.seq (.seq (.assign 16 .fresh)
         (.assign 17 (.same 16)))
       (.seq (.assign 18 .fresh)
         (.assign 19 (.same 18)))))
   (.seq (.seq (.seq (.assign 20 .fresh)
         (.assign 19 (.same 20)))
       (.seq (.assign 21 (.view 15))
         (.write 21)))
     (.seq (.seq (.assign 22 (.opq [19]))
         (.assign 23 (.same 22)))
       (.seq (.assign 24 .fresh)
         (.assign 25 (.same 24))))))
 (.seq (.seq (.seq (.seq (.ifStar .skip (.call 26 782 [25, 13, 9]))
         (.write 23))
       (.seq (.assign 27 (.view 17))
         (.write 27)))
     (.seq (.seq (.ifStar (.seq (.seq (.assign 28 (.view 17))
               (.seq (.write 28)
                 (.assign 29 (.view 17))))
             (.seq (.seq (.write 29)
                 (.write 23))
               (.seq (.assign 30 (.view 15))
                 (.write 30)))) .skip)
         (.whileStar ⟨[[0], [1], [2], [3], [4], [5], [6], [7], [8]], [], []⟩ (.seq (.seq (.seq (.assign 31 (.view 15))
                 (.assign 32 (.same 31)))
               (.seq (.assign 33 .fresh)
                 (.seq (.assign 23 (.same 33))
                 (.assign 34 .fresh))))
             (.seq (.seq (.assign 35 (.same 34))
                 (.ifStar .skip (.call 36 784 [35, 13, 9])))
               (.seq (.assign 37 (.view 17))
                 (.seq (.write 37)
                 (.ifStar (.seq (.seq (.seq (.ifStar .skip (.call 38 833 [35, 32, 9]))
                 (.write 23))
                 (.seq (.write 23)
                 (.seq (.write 23)
                 (.assign 39 (.view 17)))))
                 (.seq (.seq (.write 39)
                 (.seq (.assign 40 (.view 17))
                 (.write 40)))
                 (.seq (.whileStar ⟨[[0], [1], [2], [3], [4], [5], [6], [7], [8]], [], []⟩ (.seq (.write 23)
                 (.write 23)))
                 (.seq (.assign 41 (.view 15))
                 (.write 41))))) .skip)))))))
       (.seq (.assign 44 (.view 15))
         (.assign 43 (.view 44)))))
   (.seq (.seq (.seq (.assign 42 (.maybeView 43))
         (.assign 15 (.same 42)))
       (.seq (.assign 47 (.view 17))
         (.assign 46 (.view 47))))
     (.seq (.seq (.assign 45 (.maybeView 46))
         (.assign 17 (.same 45)))
       (.seq (.ifStar (.seq (.write 15)
             (.write 17)) .skip)
         (.seq (.assign 48 (.join [15, 17]))
           (.ret 48)))))))⟩

/-- utils/lanczos.py:lanczos_tridiag_to_diag (line 174); formals ['t_mat'] -/
def f722_utils_lanczos__lanczos_tridiag_to_diag : Fn := ⟨1,
 (.seq (.seq (.seq (.ifStar (.seq (.assign 1 .fresh)
         (.assign 2 (.same 1))) (.seq (.assign 3 .fresh)
         (.assign 2 (.same 3))))
     (.seq (.assign 4 (.view 2))
       (.assign 5 (.same 4))))
   (.seq (.seq (.assign 6 (.view 2))
       (.assign 7 (.same 6)))
     (.seq (.assign 8 .fresh)
       (.assign 7 (.same 8)))))
 (.seq (.seq (.write 5)
     (.seq (.assign 9 (.same 5))
       (.assign 5 (.same 9))))
   (.seq (.seq (.assign 10 (.maybeView 5))
       (.assign 11 (.maybeView 7)))
     (.seq (.assign 12 (.join [10, 11]))
       (.ret 12)))))⟩

/-- utils/lanczos.py:_postprocess_lanczos_root_inv_decomp (line 199); formals ['linear_op', 'inv_roots', 'initial_vectors', 'test_vectors'] -/
def f723_utils_lanczos___postprocess_lanczos_root_inv_decomp : Fn := ⟨4,
 (.seq (.seq (.seq (.seq (.assign 5 (.view 3))
       (.assign 3 (.same 5)))
     (.seq (.ifStar (.call 6 777 [1, 4]) .skip)
       (.assign 7 .fresh)))
   (.seq (.seq (.assign 8 (.same 7))
       (.assign 11 (.view 8)))
     (.seq (.assign 10 (.maybeView 11))
       (.seq (.assign 9 (.view 10))
         (.assign 8 (.same 9))))))
 (.seq (.seq (.seq (.assign 12 .fresh)
       (.assign 13 (.same 12)))
     (.seq (.assign 15 (.view 13))
       (.assign 14 (.view 15))))
   (.seq (.seq (.assign 13 (.same 14))
       (.assign 17 (.view 1)))
     (.seq (.assign 16 (.view 17))
       (.seq (.assign 18 (.same 16))
         (.ret 18))))))⟩

/-- utils/linear_cg.py:_default_preconditioner (line 12); formals ['x'] -/
def f724_utils_linear_cg___default_preconditioner : Fn := ⟨1,
 (.seq (.assign 1 .fresh)
 (.ret 1))⟩

/-- utils/linear_cg.py:_jit_linear_cg_updates (line 17); formals ['result', 'alpha', 'residual_inner_prod', 'eps', 'beta', 'residual', 'precond_residual', 'mul_storage', 'is_zero', 'curr_conjugate_vec'] -/
def f725_utils_linear_cg___jit_linear_cg_updates : Fn := ⟨10,
 (.seq (.seq (.seq (.write 0)
     (.seq (.assign 10 (.same 0))
       (.assign 0 (.same 10))))
   (.seq (.seq (.write 4)
       (.assign 11 (.same 4)))
     (.seq (.write 11)
       (.write 7))))
 (.seq (.seq (.seq (.write 2)
       (.write 8))
     (.seq (.write 4)
       (.write 4)))
   (.seq (.seq (.write 4)
       (.write 9))
     (.seq (.assign 12 (.same 9))
       (.write 12)))))⟩

/-- utils/linear_cg.py:_jit_linear_cg_updates_no_precond (line 50); formals ['mvms', 'result', 'has_converged', 'alpha', 'residual_inner_prod', 'eps', 'beta', 'residual', 'precond_residual', 'mul_storage', 'is_zero', 'curr_conjugate_vec'] -/
def f726_utils_linear_cg___jit_linear_cg_updates_no_precond : Fn := ⟨12,
 (.seq (.seq (.seq (.write 9)
     (.write 3))
   (.seq (.write 10)
     (.seq (.write 3)
       (.write 3))))
 (.seq (.seq (.write 3)
     (.seq (.write 3)
       (.write 7)))
   (.seq (.assign 12 .fresh)
     (.seq (.assign 8 (.same 12))
       (.call 13 725 [1, 3, 4, 5, 6, 7, 8, 9, 10, 11])))))⟩

/-- utils/linear_cg.py:linear_cg (line 98); formals ['matmul_closure', 'rhs', 'n_tridiag', 'tolerance', 'eps', 'stop_updating_after', 'max_iter', 'max_tridiag_iter', 'initial_guess', 'preconditioner'] -/
def f727_utils_linear_cg__linear_cg : Fn := ⟨10,
 (.seq (.seq (.seq (.seq (.seq (.ifStar (.seq (.assign 11 (.view 1))
             (.assign 1 (.same 11))) .skip)
         (.ifStar (.seq (.assign 12 .fresh)
             (.assign 6 (.same 12))) .skip))
       (.seq (.ifStar (.seq (.assign 13 .fresh)
             (.assign 7 (.same 13))) .skip)
         (.ifStar (.seq (.assign 14 .fresh)
             (.assign 8 (.same 14))) (.ifStar (.seq (.assign 15 (.view 8))
               (.assign 8 (.same 15))) .skip))))
     (.seq (.seq (.ifStar (.seq (.assign 16 .fresh)
             (.assign 3 (.same 16))) .skip)
         (.ifStar (.assign 9 (.same 10)) .skip))
       (.seq (.ifStar (.seq (.assign 17 (.view 0))
             (.assign 0 (.same 17))) .skip)
         (.assign 18 .fresh))))
   (.seq (.seq (.seq (.assign 4 (.same 18))
         (.assign 19 .fresh))
       (.seq (.assign 20 (.same 19))
         (.write 20)))
     (.seq (.seq (.assign 21 (.same 20))
         (.assign 20 (.same 21)))
       (.seq (.assign 22 .fresh)
         (.seq (.assign 1 (.same 22))
           (.assign 23 .fresh))))))
 (.seq (.seq (.seq (.seq (.assign 8 (.same 23))
         (.assign 24 .fresh))
       (.seq (.assign 25 (.same 24))
         (.assign 27 (.view 8))))
     (.seq (.seq (.assign 26 (.maybeView 27))
         (.assign 28 (.same 26)))
       (.seq (.assign 29 .fresh)
         (.assign 30 (.same 29)))))
   (.seq (.seq (.seq (.assign 31 .fresh)
         (.assign 32 (.same 31)))
       (.seq (.ifStar .skip (.seq (.seq (.seq (.assign 33 (.opq [25]))
                 (.seq (.assign 34 (.same 33))
                 (.assign 35 (.same 34))))
               (.seq (.assign 36 .fresh)
                 (.seq (.assign 37 (.same 36))
                 (.assign 38 .fresh))))
             (.seq (.seq (.assign 39 (.same 38))
                 (.seq (.assign 40 .fresh)
                 (.assign 41 (.same 40))))
               (.seq (.seq (.assign 42 .fresh)
                 (.assign 43 (.same 42)))
                 (.seq (.assign 44 .fresh)
                 (.assign 45 (.same 44)))))))
         (.ifStar (.seq (.seq (.seq (.assign 46 .fresh)
                 (.assign 47 (.same 46)))
               (.seq (.assign 48 .fresh)
                 (.seq (.assign 49 (.same 48))
                 (.assign 50 .fresh))))
             (.seq (.seq (.assign 51 (.same 50))
                 (.assign 52 .fresh))
               (.seq (.assign 53 (.same 52))
                 (.seq (.assign 54 .fresh)
                 (.assign 55 (.same 54)))))) .skip)))
     (.seq (.seq (.whileStar ⟨[[0], [], [2], [3], [], [5], [6], [7], [], [9], [], [1], [], [], [], [8], [], [0]], [], []⟩ (.seq (.seq (.assign 56 (.opq [35]))
               (.seq (.assign 57 (.same 56))
                 (.ifStar (.seq (.seq (.seq (.write 39)
                 (.seq (.write 41)
                 (.write 45)))
                 (.seq (.write 41)
                 (.seq (.write 41)
                 (.write 41))))
                 (.seq (.seq (.write 41)
                 (.seq (.write 25)
                 (.assign 58 (.same 25))))
                 (.seq (.seq (.assign 25 (.same 58))
                 (.assign 59 (.opq [25])))
                 (.seq (.assign 34 (.same 59))
                 (.call 60 725 [28, 41, 37, 4, 43, 25, 34, 39, 45, 35]))))) (.call 61 726 [57, 28, 32, 41, 37, 4, 43, 25, 34, 39, 45, 35]))))
             (.seq (.seq (.write 30)
                 (.write 30))
               (.seq (.write 32)
                 (.ifStar (.seq (.seq (.seq (.assign 63 (.view 41))
                 (.assign 62 (.view 63)))
                 (.seq (.assign 64 (.same 62))
                 (.seq (.write 49)
                 (.write 64))))
                 (.seq (.seq (.write 51)
                 (.write 64))
                 (.seq (.ifStar (.seq (.assign 65 (.view 47))
                 (.write 65)) (.seq (.seq (.assign 66 (.view 47))
                 (.seq (.write 66)
                 (.write 55)))
                 (.seq (.seq (.assign 67 (.view 47))
                 (.write 67))
                 (.seq (.assign 68 (.view 47))
                 (.write 68)))))
                 (.seq (.write 53)
                 (.write 55))))) .skip)))))
         (.assign 69 .fresh))
       (.seq (.assign 28 (.same 69))
         (.seq (.ifStar (.seq (.assign 70 (.view 28))
               (.assign 28 (.same 70))) .skip)
           (.ifStar (.seq (.seq (.assign 71 (.view 47))
                 (.seq (.assign 47 (.same 71))
                 (.assign 73 (.view 47))))
               (.seq (.assign 72 (.maybeView 73))
                 (.seq (.assign 74 (.join [28, 72]))
                 (.ret 74)))) (.ret 28))))))))⟩

/-- utils/memoize.py:cached (line 9); formals ['method', 'name', 'ignore_args'] -/
def f728_utils_memoize__cached : Fn := ⟨3,
 (.ifStar (.seq (.call 3 735 [0, 1])
   (.ret 3)) (.seq (.call 4 734 [0, 1])
   (.ret 4)))⟩

/-- utils/memoize.py:add_to_cache (line 17); formals ['obj', 'name', 'val', 'args', 'kwargs'] -/
def f729_utils_memoize__add_to_cache : Fn := ⟨5,
 (.seq (.seq (.assign 5 .fresh)
   (.assign 6 (.join [3])))
 (.seq (.assign 8 (.join [6]))
   (.seq (.call 7 736 [0, 1, 2, 5, 8])
     (.ret 7))))⟩

/-- utils/memoize.py:get_from_cache (line 22); formals ['obj', 'name', 'args', 'kwargs'] -/
def f730_utils_memoize__get_from_cache : Fn := ⟨4,
 (.seq (.seq (.assign 4 .fresh)
   (.assign 5 (.join [2])))
 (.seq (.assign 7 (.join [5]))
   (.seq (.call 6 737 [0, 1, 4, 7])
     (.ret 6))))⟩

/-- utils/memoize.py:pop_from_cache (line 27); formals ['obj', 'name', 'args', 'kwargs'] -/
def f731_utils_memoize__pop_from_cache : Fn := ⟨4,
 (.ifStar (.seq (.seq (.assign 4 .fresh)
     (.seq (.assign 5 (.join [1, 2, 4]))
       (.assign 7 (.view 0))))
   (.seq (.seq (.assign 7 (.join [5, 7]))
       (.assign 0 (.join [0, 7])))
     (.seq (.assign 6 (.same 7))
       (.ret 6)))) (.seq (.seq (.ifStar (.assign 4 .fresh) .skip)
     (.seq (.ifStar (.assign 5 (.join [1, 2, 4])) .skip)
       (.ifStar (.assign 7 (.view 0)) .skip)))
   (.seq (.seq (.ifStar (.assign 7 (.join [5, 7])) .skip)
       (.ifStar (.assign 0 (.join [0, 7])) .skip))
     (.seq (.ifStar (.assign 6 (.same 7)) .skip)
       (.ifStar (.ret 6) .skip)))))⟩

/-- utils/memoize.py:pop_from_cache_ignore_args (line 35); formals ['obj', 'name'] -/
def f732_utils_memoize__pop_from_cache_ignore_args : Fn := ⟨2,
 (.ifStar (.seq (.seq (.assign 3 (.view 0))
     (.assign 3 (.join [1, 3])))
   (.seq (.assign 0 (.join [0, 3]))
     (.seq (.assign 2 (.same 3))
       (.ret 2)))) (.seq (.seq (.ifStar (.assign 3 (.view 0)) .skip)
     (.ifStar (.assign 3 (.join [1, 3])) .skip))
   (.seq (.ifStar (.assign 0 (.join [0, 3])) .skip)
     (.seq (.ifStar (.assign 2 (.same 3)) .skip)
       (.ifStar (.ret 2) .skip)))))⟩

/-- utils/memoize.py:clear_cache_hook (line 43); formals ['module', 'args', 'kwargs'] -/
def f733_utils_memoize__clear_cache_hook : Fn := ⟨3,
 (.seq (.assign 3 (.join []))
 (.assign 0 (.join [0, 3])))⟩

/-- utils/memoize.py:_cached (line 47); formals ['method', 'name'] -/
def f734_utils_memoize___cached : Fn := ⟨2,
 (.seq (.ifStar (.seq (.assign 3 (.join [1, 2]))
     (.ret 3)) .skip)
 (.seq (.assign 4 (.join [0, 1]))
   (.ret 4)))⟩

/-- utils/memoize.py:_cached_ignore_args (line 65); formals ['method', 'name'] -/
def f735_utils_memoize___cached_ignore_args : Fn := ⟨2,
 (.seq (.ifStar (.seq (.assign 3 (.join [1, 2]))
     (.ret 3)) .skip)
 (.seq (.assign 4 (.join [0, 1]))
   (.ret 4)))⟩

/-- utils/memoize.py:_add_to_cache (line 82); formals ['obj', 'name', 'val', 'kwargs_pkl', 'args'] -/
def f736_utils_memoize___add_to_cache : Fn := ⟨5,
 (.seq (.seq (.ifStar (.seq (.assign 5 (.join []))
       (.assign 0 (.join [0, 5]))) .skip)
   (.assign 6 (.view 0)))
 (.seq (.assign 6 (.join [2, 6]))
   (.seq (.assign 0 (.join [0, 6]))
     (.ret 2))))⟩

/-- utils/memoize.py:_get_from_cache (line 90); formals ['obj', 'name', 'kwargs_pkl', 'args'] -/
def f737_utils_memoize___get_from_cache : Fn := ⟨4,
 (.ifStar (.seq (.assign 4 (.view 0))
   (.seq (.assign 5 (.view 4))
     (.ret 5))) (.seq (.ifStar (.assign 4 (.view 0)) .skip)
   (.seq (.ifStar (.assign 5 (.view 4)) .skip)
     (.ifStar (.ret 5) .skip))))⟩

/-- utils/memoize.py:_is_in_cache (line 98); formals ['obj', 'name', 'kwargs_pkl', 'args'] -/
def f738_utils_memoize___is_in_cache : Fn := ⟨4,
 (.seq (.assign 5 .fresh)
 (.seq (.assign 6 (.join [4, 5]))
   (.ret 6)))⟩

/-- utils/memoize.py:_add_to_cache_ignore_args (line 102); formals ['obj', 'name', 'val'] -/
def f739_utils_memoize___add_to_cache_ignore_args : Fn := ⟨3,
 (.seq (.seq (.ifStar (.seq (.assign 3 (.join []))
       (.assign 0 (.join [0, 3]))) .skip)
   (.assign 4 (.view 0)))
 (.seq (.assign 4 (.join [2, 4]))
   (.seq (.assign 0 (.join [0, 4]))
     (.ret 2))))⟩

/-- utils/memoize.py:_get_from_cache_ignore_args (line 110); formals ['obj', 'name'] -/
def f740_utils_memoize___get_from_cache_ignore_args : Fn := ⟨2,
 (.ifStar (.seq (.assign 2 (.view 0))
   (.seq (.assign 3 (.view 2))
     (.ret 3))) (.seq (.ifStar (.assign 2 (.view 0)) .skip)
   (.seq (.ifStar (.assign 3 (.view 2)) .skip)
     (.ifStar (.ret 3) .skip))))⟩

/-- utils/memoize.py:_is_in_cache_ignore_args (line 118); formals ['obj', 'name'] -/
def f741_utils_memoize___is_in_cache_ignore_args : Fn := ⟨2,
 (.seq (.assign 3 .fresh)
 (.seq (.assign 4 (.join [2, 3]))
   (.ret 4)))⟩

/-- utils/memoize.py:_is_in_cache_ignore_all_args (line 122); formals ['obj', 'name'] -/
def f742_utils_memoize___is_in_cache_ignore_all_args : Fn := ⟨2,
 (.seq (.seq (.assign 3 .fresh)
   (.assign 4 .fresh))
 (.seq (.whileStar ⟨[[0], [1]], [], []⟩ (.assign 4 (.join [2, 4])))
   (.seq (.assign 5 (.join [2, 3]))
     (.ret 5))))⟩

/-- utils/minres.py:minres (line 9); formals ['matmul_closure', 'rhs', 'eps', 'shifts', 'value', 'max_iter', 'preconditioner'] -/
def f743_utils_minres__minres : Fn := ⟨7,
 (.seq (.seq (.seq (.seq (.seq (.seq (.ifStar (.seq (.assign 8 (.view 0))
               (.assign 0 (.same 8))) .skip)
           (.ifStar (.seq (.assign 9 (.join []))
               (.assign 6 (.same 9))) .skip))
         (.seq (.ifStar (.seq (.assign 10 .fresh)
               (.assign 3 (.same 10))) .skip)
           (.seq (.ifStar (.seq (.assign 11 (.view 1))
                 (.assign 1 (.same 11))) .skip)
             (.assign 12 .fresh))))
       (.seq (.seq (.assign 13 (.same 12))
           (.seq (.write 13)
             (.assign 14 (.same 13))))
         (.seq (.assign 13 (.same 14))
           (.seq (.assign 15 .fresh)
             (.assign 1 (.same 15))))))
     (.seq (.seq (.seq (.ifStar (.seq (.assign 16 .fresh)
               (.assign 5 (.same 16))) .skip)
           (.seq (.assign 17 .fresh)
             (.assign 5 (.same 17))))
         (.seq (.assign 18 .fresh)
           (.seq (.assign 2 (.same 18))
             (.assign 19 .fresh))))
       (.seq (.seq (.assign 2 (.same 19))
           (.seq (.assign 20 (.opq [1]))
             (.assign 21 (.same 20))))
         (.seq (.ifStar (.write 21) .skip)
           (.seq (.call 22 704 [3, 7, 7])
             (.assign 3 (.same 22)))))))
   (.seq (.seq (.seq (.seq (.assign 23 .fresh)
           (.seq (.assign 24 (.same 23))
             (.assign 27 .fresh)))
         (.seq (.assign 26 (.view 27))
           (.seq (.assign 25 (.maybeView 26))
             (.assign 28 (.same 25)))))
       (.seq (.seq (.assign 29 (.opq [28]))
           (.seq (.assign 30 (.same 29))
             (.assign 31 .fresh)))
         (.seq (.assign 32 (.same 31))
           (.seq (.assign 33 .fresh)
             (.assign 34 (.same 33))))))
     (.seq (.seq (.seq (.assign 36 .fresh)
           (.seq (.write 36)
             (.assign 35 (.same 36))))
         (.seq (.assign 37 (.same 35))
           (.seq (.assign 38 .fresh)
             (.assign 39 (.same 38)))))
       (.seq (.seq (.assign 40 .fresh)
           (.seq (.assign 41 (.same 40))
             (.write 28)))
         (.seq (.write 30)
           (.seq (.assign 42 .fresh)
             (.assign 43 (.same 42))))))))
 (.seq (.seq (.seq (.seq (.seq (.assign 44 .fresh)
           (.assign 45 (.same 44)))
         (.seq (.assign 46 .fresh)
           (.seq (.assign 47 (.same 46))
             (.assign 48 .fresh))))
       (.seq (.seq (.assign 49 (.same 48))
           (.seq (.assign 50 .fresh)
             (.assign 51 (.same 50))))
         (.seq (.assign 52 .fresh)
           (.seq (.assign 53 (.same 52))
             (.assign 54 .fresh)))))
     (.seq (.seq (.seq (.assign 55 (.same 54))
           (.seq (.assign 56 .fresh)
             (.assign 57 (.same 56))))
         (.seq (.assign 58 .fresh)
           (.seq (.assign 59 (.same 58))
             (.assign 60 .fresh))))
       (.seq (.seq (.assign 61 (.same 60))
           (.seq (.assign 62 .fresh)
             (.assign 63 (.same 62))))
         (.seq (.assign 64 .fresh)
           (.seq (.assign 65 (.same 64))
             (.assign 66 .fresh))))))
   (.seq (.seq (.seq (.seq (.assign 67 (.same 66))
           (.seq (.assign 68 .fresh)
             (.assign 69 (.same 68))))
         (.seq (.assign 70 .fresh)
           (.seq (.assign 71 (.join [7]))
             (.assign 72 .fresh))))
       (.seq (.seq (.assign 73 (.join [71, 72]))
           (.seq (.assign 74 (.join [73]))
             (.assign 76 (.join [70, 74]))))
         (.seq (.ifStar (.assign 75 .fresh) (.call 75 816 [37, 76]))
           (.seq (.assign 77 (.same 75))
             (.assign 78 .fresh)))))
     (.seq (.seq (.seq (.assign 79 (.same 78))
           (.seq (.assign 80 .fresh)
             (.assign 81 (.same 80))))
         (.seq (.assign 82 .fresh)
           (.seq (.assign 83 (.same 82))
             (.whileStar ⟨[[0], [], [], [3], [4], [], [6], [], [0], [], [], [1], [], [], [], [], [], [], [], [], [], [], [3]], [], []⟩ (.seq (.seq (.seq (.seq (.seq (.assign 84 (.opq [30]))
                 (.seq (.assign 21 (.same 84))
                 (.ifStar (.write 21) .skip)))
                 (.seq (.write 41)
                 (.seq (.write 32)
                 (.write 21))))
                 (.seq (.seq (.assign 86 (.same 21))
                 (.seq (.write 86)
                 (.assign 85 (.same 86))))
                 (.seq (.assign 87 (.same 85))
                 (.seq (.assign 88 (.opq [87]))
                 (.assign 89 (.same 88))))))
                 (.seq (.seq (.seq (.write 41)
                 (.seq (.write 39)
                 (.write 39)))
                 (.seq (.write 39)
                 (.seq (.write 87)
                 (.write 89))))
                 (.seq (.seq (.call 90 744 [24, 3, 2, 30, 32, 34, 37, 39, 43, 47, 53, 45, 49, 55, 51, 57, 59, 61, 63, 65, 67, 69, 77, 79, 83, 81])
                 (.seq (.ifStar (.seq (.write 83)
                 (.seq (.write 81)
                 (.write 83))) .skip)
                 (.assign 91 (.same 21))))
                 (.seq (.assign 28 (.same 91))
                 (.seq (.assign 30 (.same 89))
                 (.assign 92 (.same 39)))))))
                 (.seq (.seq (.seq (.seq (.assign 93 (.same 37))
                 (.seq (.assign 37 (.same 92))
                 (.assign 39 (.same 93))))
                 (.seq (.assign 94 (.same 47))
                 (.seq (.assign 95 (.same 53))
                 (.assign 96 (.same 43)))))
                 (.seq (.seq (.assign 43 (.same 94))
                 (.seq (.assign 47 (.same 95))
                 (.assign 53 (.same 96))))
                 (.seq (.assign 97 (.same 49))
                 (.seq (.assign 98 (.same 55))
                 (.assign 99 (.same 45))))))
                 (.seq (.seq (.seq (.assign 45 (.same 97))
                 (.seq (.assign 49 (.same 98))
                 (.assign 55 (.same 99))))
                 (.seq (.assign 100 (.same 65))
                 (.seq (.assign 101 (.same 67))
                 (.assign 102 (.same 63)))))
                 (.seq (.seq (.assign 63 (.same 100))
                 (.seq (.assign 65 (.same 101))
                 (.assign 67 (.same 102))))
                 (.seq (.seq (.assign 103 (.same 79))
                 (.assign 104 (.same 77)))
                 (.seq (.assign 77 (.same 103))
                 (.assign 79 (.same 104))))))))))))
       (.seq (.seq (.write 24)
           (.seq (.ifStar (.seq (.seq (.assign 105 (.view 24))
                 (.seq (.assign 24 (.same 105))
                 (.assign 106 (.view 1))))
                 (.seq (.assign 1 (.same 106))
                 (.seq (.assign 107 (.view 13))
                 (.assign 13 (.same 107))))) .skip)
             (.ifStar (.seq (.assign 108 (.view 24))
                 (.assign 24 (.same 108))) .skip)))
         (.seq (.write 24)
           (.seq (.assign 109 (.same 24))
             (.ret 109))))))))⟩

/-- utils/minres.py:_jit_minres_updates (line 223); formals ['solution', 'shifts', 'eps', 'qvec_prev1', 'alpha_curr', 'alpha_shifted_curr', 'beta_prev', 'beta_curr', 'cos_prev2', 'cos_prev1', 'cos_curr', 'sin_prev2', 'sin_prev1', 'sin_curr', 'radius_curr', 'subsub_diag_term', 'sub_diag_term', 'diag_term', 'search_prev2', 'search_prev1', 'search_curr', 'search_update', 'scale_prev', 'scale_curr', 'search_update_norm', 'solution_norm'] -/
def f744_utils_minres___jit_minres_updates : Fn := ⟨26,
 (.seq (.seq (.seq (.seq (.seq (.write 15)
         (.write 16))
       (.seq (.write 5)
         (.write 17)))
     (.seq (.seq (.assign 26 (.same 17))
         (.write 26))
       (.seq (.write 16)
         (.assign 27 (.same 16)))))
   (.seq (.seq (.seq (.write 27)
         (.write 14))
       (.seq (.assign 29 (.same 14))
         (.write 29)))
     (.seq (.seq (.assign 28 (.same 29))
         (.write 28))
       (.seq (.write 10)
         (.assign 30 (.same 10))))))
 (.seq (.seq (.seq (.seq (.assign 10 (.same 30))
         (.write 13))
       (.seq (.assign 31 (.same 13))
         (.assign 13 (.same 31))))
     (.seq (.seq (.write 17)
         (.assign 32 (.same 17)))
       (.seq (.write 32)
         (.write 23))))
   (.seq (.seq (.seq (.assign 33 (.same 23))
         (.write 33))
       (.seq (.write 22)
         (.write 20)))
     (.seq (.seq (.write 20)
         (.write 20))
       (.seq (.write 21)
         (.write 0))))))⟩

/-- utils/permutation.py:apply_permutation (line 8); formals ['matrix', 'left_permutation', 'right_permutation'] -/
def f745_utils_permutation__apply_permutation : Fn := ⟨3,
 (.seq (.seq (.seq (.ifStar (.seq (.call 4 162 [0])
         (.ret 4)) .skip)
     (.assign 5 (.same 3)))
   (.seq (.assign 6 (.join []))
     (.seq (.assign 7 (.same 6))
       (.whileStar ⟨[[0], [1], [2], [], [0]], [], [0]⟩ (.seq (.seq (.seq (.assign 8 (.view 5))
               (.seq (.assign 9 (.same 8))
                 (.assign 10 .fresh)))
             (.seq (.whileStar ⟨[[0], [1], [2], [], [0]], [], [0]⟩ (.assign 10 (.join [3, 10])))
               (.seq (.assign 11 (.join [3]))
                 (.assign 12 (.join [10, 11])))))
           (.seq (.seq (.assign 13 (.same 12))
               (.seq (.assign 13 (.join [9, 13]))
                 (.assign 15 .fresh)))
             (.seq (.assign 14 (.view 15))
               (.seq (.assign 16 (.same 14))
                 (.assign 7 (.join [7, 16]))))))))))
 (.seq (.seq (.ifStar (.seq (.assign 17 .fresh)
         (.assign 1 (.same 17))) .skip)
     (.ifStar (.seq (.assign 18 .fresh)
         (.assign 2 (.same 18))) .skip))
   (.seq (.assign 19 (.view 0))
     (.seq (.call 20 162 [19])
       (.ret 20)))))⟩

/-- utils/permutation.py:inverse_permutation (line 90); formals ['permutation'] -/
def f746_utils_permutation__inverse_permutation : Fn := ⟨1,
 (.seq (.seq (.call 2 767 [0, 1, 1])
   (.seq (.assign 4 .fresh)
     (.write 4)))
 (.seq (.assign 3 (.same 4))
   (.seq (.assign 5 (.same 3))
     (.ret 5))))⟩

/-- utils/pinverse.py:stable_pinverse (line 9); formals ['A'] -/
def f747_utils_pinverse__stable_pinverse : Fn := ⟨1,
 (.ifStar (.seq (.seq (.call 2 748 [0])
     (.seq (.assign 3 (.view 2))
       (.assign 4 (.same 3))))
   (.seq (.ifStar (.call 5 777 [4, 1]) .skip)
     (.seq (.assign 6 .fresh)
       (.ret 6)))) (.seq (.seq (.seq (.assign 7 (.view 0))
       (.call 8 748 [7]))
     (.seq (.assign 9 (.view 8))
       (.assign 4 (.same 9))))
   (.seq (.seq (.ifStar (.call 10 777 [4, 1]) .skip)
       (.assign 11 .fresh))
     (.seq (.assign 12 (.view 11))
       (.ret 12)))))⟩

/-- utils/qr.py:stable_qr (line 8); formals ['mat'] -/
def f748_utils_qr__stable_qr : Fn := ⟨1,
 (.seq (.seq (.seq (.call 2 691 [1])
     (.ifStar (.seq (.seq (.seq (.assign 3 .fresh)
             (.assign 4 (.view 3)))
           (.seq (.assign 5 (.same 4))
             (.assign 6 (.view 3))))
         (.seq (.seq (.assign 7 (.same 6))
             (.assign 8 (.maybeView 5)))
           (.seq (.assign 5 (.same 8))
             (.seq (.assign 9 (.maybeView 7))
               (.assign 7 (.same 9)))))) (.seq (.seq (.assign 10 .fresh)
           (.assign 11 (.view 10)))
         (.seq (.assign 5 (.same 11))
           (.seq (.assign 12 (.view 10))
             (.assign 7 (.same 12)))))))
   (.seq (.assign 13 (.view 7))
     (.assign 14 (.same 13))))
 (.seq (.seq (.assign 15 (.same 1))
     (.ifStar (.seq (.seq (.assign 16 .fresh)
           (.seq (.assign 17 (.same 16))
             (.write 17)))
         (.seq (.seq (.assign 19 (.join [14]))
             (.ifStar .skip (.call 18 824 [15, 19])))
           (.seq (.assign 20 .fresh)
             (.assign 7 (.same 20))))) .skip))
   (.seq (.assign 21 (.join [5, 7]))
     (.ret 21))))⟩

/-- utils/sparse.py:make_sparse_from_indices_and_values (line 8); formals ['interp_indices', 'interp_values', 'num_rows'] -/
def f749_utils_sparse__make_sparse_from_indices_and_values : Fn := ⟨3,
 (.seq (.seq (.seq (.assign 3 (.join []))
     (.seq (.assign 4 (.same 3))
       (.whileStar ⟨[[0], [1], [2]], [], []⟩ (.seq (.seq (.assign 5 .fresh)
             (.seq (.assign 6 (.same 5))
               (.assign 8 .fresh)))
           (.seq (.assign 7 (.view 8))
             (.seq (.assign 6 (.same 7))
               (.assign 4 (.join [4, 6]))))))))
   (.seq (.seq (.assign 9 .fresh)
       (.assign 10 (.same 9)))
     (.seq (.assign 11 (.maybeView 1))
       (.assign 12 (.same 11)))))
 (.seq (.seq (.seq (.assign 13 .fresh)
       (.assign 14 (.same 13)))
     (.seq (.ifStar (.seq (.seq (.write 14)
             (.assign 15 .fresh))
           (.seq (.assign 10 (.same 15))
             (.seq (.assign 16 .fresh)
               (.assign 12 (.same 16))))) (.seq (.seq (.assign 17 .fresh)
             (.assign 10 (.same 17)))
           (.seq (.assign 18 .fresh)
             (.assign 12 (.same 18)))))
       (.assign 19 .fresh)))
   (.seq (.seq (.assign 20 (.same 19))
       (.assign 21 (.opq [10, 12, 20])))
     (.seq (.assign 22 (.same 21))
       (.ret 22)))))⟩

/-- utils/sparse.py:bdsmm (line 72); formals ['sparse', 'dense'] -/
def f750_utils_sparse__bdsmm : Fn := ⟨2,
 (.ifStar (.seq (.seq (.seq (.seq (.call 3 703 [2, 2, 2])
         (.seq (.assign 4 .fresh)
           (.whileStar ⟨[[0], [1]], [], []⟩ (.assign 4 (.join [2, 4])))))
       (.seq (.seq (.assign 5 .fresh)
           (.whileStar ⟨[[0], [1]], [], []⟩ (.seq (.assign 6 .fresh)
               (.assign 5 (.join [5, 6])))))
         (.seq (.assign 7 (.join [5]))
           (.assign 8 (.same 7)))))
     (.seq (.seq (.assign 9 (.join [8]))
         (.seq (.assign 11 (.join [9]))
           (.call 10 753 [0, 11])))
       (.seq (.seq (.assign 0 (.same 10))
           (.assign 12 (.view 1)))
         (.seq (.assign 1 (.same 12))
           (.assign 13 .fresh)))))
   (.seq (.seq (.seq (.whileStar ⟨[[0], [1], [], [], [], [], [], [], [], [], [0], [], [1]], [], []⟩ (.seq (.assign 14 .fresh)
             (.assign 13 (.join [13, 14]))))
         (.seq (.assign 15 .fresh)
           (.assign 16 (.same 15))))
       (.seq (.seq (.ifStar (.seq (.seq (.assign 18 .fresh)
                 (.ifStar (.assign 17 (.view 18)) (.call 17 851 [18, 2])))
               (.seq (.assign 19 .fresh)
                 (.ifStar .skip (.ifStar (.call 20 798 [19, 17, 2]) (.call 20 797 [17, 19, 2]))))) (.seq (.seq (.assign 22 (.view 0))
                 (.assign 23 (.view 22)))
               (.seq (.assign 21 (.view 23))
                 (.ifStar .skip (.ifStar (.call 24 798 [16, 21, 2]) (.call 24 797 [21, 16, 2]))))))
           (.assign 25 .fresh))
         (.seq (.assign 26 (.same 25))
           (.assign 27 (.view 26)))))
     (.seq (.seq (.seq (.write 27)
           (.assign 28 (.view 26)))
         (.seq (.write 28)
           (.assign 29 .fresh)))
       (.seq (.seq (.assign 30 (.same 29))
           (.assign 31 (.view 30)))
         (.seq (.assign 30 (.same 31))
           (.ret 30)))))) (.ifStar (.seq (.seq (.seq (.assign 32 (.view 1))
         (.assign 1 (.same 32)))
       (.seq (.assign 33 .fresh)
         (.seq (.assign 30 (.same 33))
           (.assign 34 (.view 30)))))
     (.seq (.seq (.assign 30 (.same 34))
         (.assign 36 (.view 30)))
       (.seq (.assign 35 (.maybeView 36))
         (.seq (.assign 30 (.same 35))
           (.ret 30))))) (.seq (.assign 37 .fresh)
     (.ret 37))))⟩

/-- utils/sparse.py:sparse_eye (line 133); formals ['size'] -/
def f751_utils_sparse__sparse_eye : Fn := ⟨1,
 (.seq (.seq (.seq (.assign 4 .fresh)
     (.assign 3 (.maybeView 4)))
   (.seq (.assign 2 (.view 3))
     (.seq (.assign 1 (.view 2))
       (.assign 5 (.same 1)))))
 (.seq (.seq (.assign 7 .fresh)
     (.seq (.assign 6 (.view 7))
       (.assign 8 (.same 6))))
   (.seq (.assign 9 .fresh)
     (.seq (.assign 10 (.opq [5, 8, 9]))
       (.ret 10)))))⟩

/-- utils/sparse.py:sparse_getitem (line 143); formals ['sparse', 'idxs'] -/
def f752_utils_sparse__sparse_getitem : Fn := ⟨2,
 (.seq (.seq (.seq (.ifStar (.seq (.assign 2 (.join [1]))
         (.assign 1 (.same 2))) .skip)
     (.assign 3 (.view 0)))
   (.seq (.assign 4 (.same 3))
     (.assign 5 .fresh)))
 (.seq (.seq (.assign 6 (.join [5]))
     (.assign 7 (.same 6)))
   (.seq (.whileStar ⟨[[0], [1], [1], [0], [0], [], [], [], [], [], [], [], [0], [], [], [], [], [], [], [], [], [], [], [], [], [], [0]], [], []⟩ (.ifStar (.seq (.ifStar (.seq (.seq (.assign 8 .fresh)
                 (.assign 9 (.same 8)))
               (.seq (.whileStar ⟨[[0], [1], [1], [0], [0], [], [], [], [], [], [], [], [0], [], [], [], [], [], [], [], [], [], [], [], [], [], [0]], [], []⟩ (.ifStar (.seq (.assign 10 (.view 9))
                 (.write 10)) (.ifStar (.seq (.assign 11 (.view 9))
                 (.write 11)) .skip)))
                 (.seq (.assign 12 (.maybeView 4))
                 (.assign 4 (.same 12))))) (.seq (.assign 13 .fresh)
               (.assign 4 (.same 13))))
           (.ifStar (.seq (.assign 14 .fresh)
               (.ret 14)) .skip)) (.ifStar (.seq (.seq (.seq (.assign 15 (.view 7))
                 (.assign 16 (.join [15])))
               (.seq (.assign 17 .fresh)
                 (.seq (.assign 18 (.join [17]))
                 (.assign 19 (.join [16, 18])))))
             (.seq (.seq (.assign 20 (.view 7))
                 (.assign 21 (.join [20])))
               (.seq (.assign 22 (.join [19, 21]))
                 (.seq (.assign 7 (.same 22))
                 (.ifStar (.seq (.seq (.assign 23 .fresh)
                 (.seq (.assign 9 (.same 23))
                 (.whileStar ⟨[[0], [1], [1], [0], [0], [], [], [], [], [], [], [], [0], [], [], [], [], [], [], [], [], [], [], [], [], [], [0]], [], []⟩ (.seq (.assign 24 (.view 9))
                 (.write 24)))))
                 (.seq (.seq (.assign 25 (.view 9))
                 (.write 25))
                 (.seq (.assign 26 (.maybeView 4))
                 (.assign 4 (.same 26))))) (.seq (.assign 27 .fresh)
                 (.assign 4 (.same 27)))))))) .skip)))
     (.seq (.assign 28 .fresh)
       (.ret 28)))))⟩

/-- utils/sparse.py:sparse_repeat (line 213); formals ['sparse', 'repeat_sizes'] -/
def f753_utils_sparse__sparse_repeat : Fn := ⟨2,
 (.seq (.seq (.ifStar (.seq (.assign 3 (.view 1))
       (.assign 1 (.same 3))) .skip)
   (.ifStar (.seq (.seq (.seq (.assign 4 (.view 0))
           (.assign 5 (.same 4)))
         (.seq (.assign 6 .fresh)
           (.assign 5 (.same 6))))
       (.seq (.seq (.assign 7 .fresh)
           (.whileStar ⟨[[0], [1], [], [1], [0]], [], []⟩ (.assign 7 (.join [2, 7]))))
         (.seq (.assign 8 .fresh)
           (.assign 0 (.same 8))))) .skip))
 (.seq (.whileStar ⟨[[0], [1], [], [1], [0]], [], []⟩ (.ifStar (.seq (.seq (.assign 9 .fresh)
           (.seq (.assign 5 (.same 9))
             (.assign 11 (.view 5))))
         (.seq (.seq (.assign 10 (.view 11))
             (.write 10))
           (.seq (.assign 12 .fresh)
             (.assign 0 (.same 12))))) .skip))
   (.ret 0)))⟩

/-- utils/sparse.py:to_sparse (line 265); formals ['dense'] -/
def f754_utils_sparse__to_sparse : Fn := ⟨1,
 (.seq (.seq (.seq (.assign 1 .fresh)
     (.assign 2 (.same 1)))
   (.seq (.ifStar (.seq (.assign 3 (.maybeView 0))
         (.assign 4 (.same 3))) (.seq (.seq (.write 2)
           (.seq (.assign 6 (.same 2))
             (.write 6)))
         (.seq (.seq (.assign 5 (.same 6))
             (.assign 2 (.same 5)))
           (.seq (.assign 7 .fresh)
             (.assign 4 (.same 7))))))
     (.assign 8 (.view 2))))
 (.seq (.seq (.assign 9 .fresh)
     (.assign 10 (.opq [4, 8, 9])))
   (.seq (.assign 11 (.same 10))
     (.seq (.ifStar (.seq (.assign 12 (.maybeView 11))
           (.assign 11 (.same 12))) .skip)
       (.ret 11)))))⟩

/-- utils/stochastic_lq.py:StochasticLQ.__init__ (line 16); formals ['self', 'max_iter', 'num_random_probes'] -/
def f755_utils_stochastic_lq__StochasticLQ___init__ : Fn := ⟨3,
 (.seq (.assign 0 (.join [0, 1]))
 (.seq (.assign 0 (.join [0, 2]))
   (.ret 0)))⟩

/-- utils/stochastic_lq.py:StochasticLQ.lanczos_batch (line 33); formals ['self', 'matmul_closure', 'rhs_vectors'] -/
def f756_utils_stochastic_lq__StochasticLQ_lanczos_batch : Fn := ⟨3,
 (.seq (.assign 4 .fresh)
 (.seq (.call 5 721 [1, 3, 3, 3, 4, 3, 2, 3, 3])
   (.ret 5)))⟩

/-- utils/stochastic_lq.py:StochasticLQ.to_dense (line 44); formals ['self', 'matrix_shape', 'eigenvalues', 'eigenvectors', 'funcs'] -/
def f757_utils_stochastic_lq__StochasticLQ_to_dense : Fn := ⟨5,
 (.seq (.seq (.assign 5 .fresh)
   (.whileStar ⟨[[0], [1], [2], [3], [4]], [], []⟩ (.seq (.assign 6 .fresh)
       (.assign 5 (.join [5, 6])))))
 (.seq (.assign 7 (.same 5))
   (.seq (.whileStar ⟨[[0], [1], [2], [3], [4]], [], []⟩ (.whileStar ⟨[[0], [1], [2], [3], [4]], [], []⟩ (.seq (.assign 8 .fresh)
           (.assign 7 (.join [7, 8])))))
     (.ret 7))))⟩

/-- utils/toeplitz.py:toeplitz (line 9); formals ['toeplitz_column', 'toeplitz_row'] -/
def f758_utils_toeplitz__toeplitz : Fn := ⟨2,
 (.seq (.seq (.ifStar (.seq (.assign 2 (.view 0))
       (.ret 2)) .skip)
   (.seq (.assign 3 .fresh)
     (.assign 4 (.same 3))))
 (.seq (.whileStar ⟨[[0], [1], [0]], [], [0]⟩ (.whileStar ⟨[[0], [1], [0]], [], [0]⟩ (.write 4)))
   (.seq (.whileStar ⟨[[0], [1], [0]], [], [0]⟩ (.whileStar ⟨[[0], [1], [0]], [], [0]⟩ (.write 4)))
     (.ret 4))))⟩

/-- utils/toeplitz.py:sym_toeplitz (line 55); formals ['toeplitz_column'] -/
def f759_utils_toeplitz__sym_toeplitz : Fn := ⟨1,
 (.seq (.call 1 758 [0, 0])
 (.ret 1))⟩

/-- utils/toeplitz.py:toeplitz_getitem (line 66); formals ['toeplitz_column', 'toeplitz_row', 'i', 'j'] -/
def f760_utils_toeplitz__toeplitz_getitem : Fn := ⟨4,
 (.ifStar (.seq (.assign 4 (.maybeView 1))
   (.ret 4)) (.seq (.assign 5 (.maybeView 0))
   (.ret 5)))⟩

/-- utils/toeplitz.py:sym_toeplitz_getitem (line 84); formals ['toeplitz_column', 'i', 'j'] -/
def f761_utils_toeplitz__sym_toeplitz_getitem : Fn := ⟨3,
 (.seq (.call 3 760 [0, 0, 1, 2])
 (.ret 3))⟩

/-- utils/toeplitz.py:toeplitz_matmul (line 97); formals ['toeplitz_column', 'toeplitz_row', 'tensor'] -/
def f762_utils_toeplitz__toeplitz_matmul : Fn := ⟨3,
 (.seq (.seq (.seq (.seq (.seq (.assign 4 .fresh)
         (.assign 5 (.same 4)))
       (.seq (.ifStar (.seq (.assign 6 (.view 2))
             (.assign 2 (.same 6))) .skip)
         (.call 7 703 [5, 3, 3])))
     (.seq (.seq (.assign 8 (.view 0))
         (.assign 0 (.same 8)))
       (.seq (.assign 9 (.view 1))
         (.assign 1 (.same 9)))))
   (.seq (.seq (.seq (.assign 10 (.view 2))
         (.assign 2 (.same 10)))
       (.seq (.assign 11 .fresh)
         (.assign 12 (.same 11))))
     (.seq (.seq (.write 12)
         (.write 12))
       (.seq (.assign 13 .fresh)
         (.seq (.assign 14 (.same 13))
           (.write 14))))))
 (.seq (.seq (.seq (.seq (.assign 16 (.view 14))
         (.assign 15 (.maybeView 16)))
       (.seq (.assign 17 (.opq [15]))
         (.assign 18 (.same 17))))
     (.seq (.seq (.write 18)
         (.assign 19 (.same 18)))
       (.seq (.assign 20 (.same 19))
         (.assign 21 (.opq [20])))))
   (.seq (.seq (.seq (.assign 22 (.view 21))
         (.assign 23 (.view 22)))
       (.seq (.ifStar (.call 23 777 [22, 3]) .skip)
         (.assign 24 (.same 23))))
     (.seq (.seq (.assign 25 (.same 24))
         (.assign 26 (.view 25)))
       (.seq (.assign 25 (.same 26))
         (.seq (.ifStar (.seq (.assign 27 (.view 25))
               (.assign 25 (.same 27))) .skip)
           (.ret 25)))))))⟩

/-- utils/toeplitz.py:sym_toeplitz_matmul (line 154); formals ['toeplitz_column', 'tensor'] -/
def f763_utils_toeplitz__sym_toeplitz_matmul : Fn := ⟨2,
 (.seq (.call 2 762 [0, 0, 1])
 (.ret 2))⟩

/-- utils/toeplitz.py:sym_toeplitz_derivative_quadratic_form (line 166); formals ['left_vectors', 'right_vectors'] -/
def f764_utils_toeplitz__sym_toeplitz_derivative_quadratic_form : Fn := ⟨2,
 (.seq (.seq (.seq (.seq (.ifStar (.seq (.seq (.assign 3 (.view 0))
             (.assign 0 (.same 3)))
           (.seq (.assign 4 (.view 1))
             (.assign 1 (.same 4)))) .skip)
       (.seq (.assign 6 (.view 0))
         (.ifStar (.call 6 777 [0, 2]) .skip)))
     (.seq (.seq (.assign 7 (.same 6))
         (.assign 5 (.maybeView 7)))
       (.seq (.assign 0 (.same 5))
         (.assign 9 (.view 1)))))
   (.seq (.seq (.ifStar (.call 9 777 [1, 2]) .skip)
       (.seq (.assign 10 (.same 9))
         (.assign 8 (.maybeView 10))))
     (.seq (.seq (.assign 1 (.same 8))
         (.assign 11 .fresh))
       (.seq (.assign 12 (.same 11))
         (.write 12)))))
 (.seq (.seq (.seq (.assign 13 (.view 1))
       (.seq (.call 14 762 [12, 0, 13])
         (.assign 15 (.same 14))))
     (.seq (.seq (.assign 16 .fresh)
         (.assign 17 (.same 16)))
       (.seq (.write 12)
         (.assign 19 .fresh))))
   (.seq (.seq (.assign 18 (.view 19))
       (.seq (.call 20 762 [12, 17, 18])
         (.write 15)))
     (.seq (.seq (.assign 21 .fresh)
         (.assign 15 (.same 21)))
       (.seq (.write 15)
         (.ret 15))))))⟩

/-- <group>:method:add_diagonal (line 0); formals ['self', 'diag', '*extra'] -/
def f765_group__method_add_diagonal : Fn := ⟨3,
 (.seq (.seq (.ifStar (.seq (.call 3 74 [0, 1])
       (.ret 3)) .skip)
   (.seq (.ifStar (.seq (.call 4 165 [0, 1])
         (.ret 4)) .skip)
     (.ifStar (.seq (.call 5 330 [0, 1])
         (.ret 5)) .skip)))
 (.seq (.seq (.ifStar (.seq (.call 6 451 [0, 1])
         (.ret 6)) .skip)
     (.ifStar (.seq (.call 7 502 [0, 1])
         (.ret 7)) .skip))
   (.seq (.ifStar (.seq (.call 8 636 [0, 1])
         (.ret 8)) .skip)
     (.ifStar (.seq (.call 9 666 [0, 1])
         (.ret 9)) .skip))))⟩

/-- <group>:method:add_jitter (line 0); formals ['self', 'jitter_val', '*extra'] -/
def f766_group__method_add_jitter : Fn := ⟨3,
 (.seq (.ifStar (.seq (.call 3 75 [0, 1])
     (.ret 3)) .skip)
 (.seq (.ifStar (.seq (.call 4 191 [0, 1])
       (.ret 4)) .skip)
   (.ifStar (.seq (.call 5 618 [0, 1])
       (.ret 5)) .skip)))⟩

/-- <group>:method:size (line 0); formals ['self', 'dim', '*extra'] -/
def f767_group__method_size : Fn := ⟨3,
 (.ifStar (.seq (.call 3 129 [0, 1])
   (.ret 3)) .skip)⟩

/-- <group>:method:diagonalization (line 0); formals ['self', 'method', '*extra'] -/
def f768_group__method_diagonalization : Fn := ⟨3,
 (.seq (.ifStar (.seq (.call 3 88 [0, 1])
     (.ret 3)) .skip)
 (.ifStar (.seq (.call 4 452 [0, 1])
     (.ret 4)) .skip))⟩

/-- <group>:method:inv_quad (line 0); formals ['self', 'inv_quad_rhs', 'reduce_inv_quad', '*extra'] -/
def f769_group__method_inv_quad : Fn := ⟨4,
 (.seq (.ifStar (.seq (.call 4 100 [0, 1, 2])
     (.ret 4)) .skip)
 (.seq (.ifStar (.seq (.call 5 273 [0, 1, 2])
       (.ret 5)) .skip)
   (.ifStar (.seq (.call 6 668 [0, 1, 2])
       (.ret 6)) .skip)))⟩

/-- <group>:method:inv_quad_logdet (line 0); formals ['self', 'inv_quad_rhs', 'logdet', 'reduce_inv_quad', '*extra'] -/
def f770_group__method_inv_quad_logdet : Fn := ⟨5,
 (.seq (.seq (.seq (.ifStar (.seq (.call 5 101 [0, 1, 2, 3])
         (.ret 5)) .skip)
     (.seq (.ifStar (.seq (.call 6 192 [0, 1, 2, 3])
           (.ret 6)) .skip)
       (.ifStar (.seq (.call 7 210 [0, 1, 2, 3])
           (.ret 7)) .skip)))
   (.seq (.seq (.ifStar (.seq (.call 8 226 [0, 1, 2, 3])
           (.ret 8)) .skip)
       (.ifStar (.seq (.call 9 254 [0, 1, 2, 3])
           (.ret 9)) .skip))
     (.seq (.ifStar (.seq (.call 10 274 [0, 1, 2, 3])
           (.ret 10)) .skip)
       (.ifStar (.seq (.call 11 334 [0, 1, 2, 3])
           (.ret 11)) .skip))))
 (.seq (.seq (.ifStar (.seq (.call 12 386 [0, 1, 2, 3])
         (.ret 12)) .skip)
     (.seq (.ifStar (.seq (.call 13 437 [0, 1, 2, 3])
           (.ret 13)) .skip)
       (.ifStar (.seq (.call 14 454 [0, 1, 2, 3])
           (.ret 14)) .skip)))
   (.seq (.seq (.ifStar (.seq (.call 15 500 [0, 1, 2, 3])
           (.ret 15)) .skip)
       (.ifStar (.seq (.call 16 594 [0, 1, 2, 3])
           (.ret 16)) .skip))
     (.seq (.ifStar (.seq (.call 17 639 [0, 1, 2, 3])
           (.ret 17)) .skip)
       (.ifStar (.seq (.call 18 669 [0, 1, 2, 3])
           (.ret 18)) .skip)))))⟩

/-- <group>:method:pivoted_cholesky (line 0); formals ['self', 'rank', 'error_tol', 'return_pivots', '*extra'] -/
def f771_group__method_pivoted_cholesky : Fn := ⟨5,
 (.ifStar (.seq (.call 5 117 [0, 1, 2, 3])
   (.ret 5)) .skip)⟩

/-- <group>:method:root_decomposition (line 0); formals ['self', 'method', '*extra'] -/
def f772_group__method_root_decomposition : Fn := ⟨3,
 (.seq (.seq (.ifStar (.seq (.call 3 127 [0, 1])
       (.ret 3)) .skip)
   (.ifStar (.seq (.call 4 269 [0, 1])
       (.ret 4)) .skip))
 (.seq (.ifStar (.seq (.call 5 292 [0, 1])
       (.ret 5)) .skip)
   (.seq (.ifStar (.seq (.call 6 463 [0, 1])
         (.ret 6)) .skip)
     (.ifStar (.seq (.call 7 575 [0, 1])
         (.ret 7)) .skip))))⟩

/-- <group>:method:root_inv_decomposition (line 0); formals ['self', 'initial_vectors', 'test_vectors', 'method', '*extra'] -/
def f773_group__method_root_inv_decomposition : Fn := ⟨5,
 (.seq (.seq (.ifStar (.seq (.call 5 128 [0, 1, 2, 3])
       (.ret 5)) .skip)
   (.ifStar (.seq (.call 6 275 [0, 1, 2, 3])
       (.ret 6)) .skip))
 (.seq (.ifStar (.seq (.call 7 293 [0, 1, 2, 3])
       (.ret 7)) .skip)
   (.ifStar (.seq (.call 8 464 [0, 1, 2, 3])
       (.ret 8)) .skip)))⟩

/-- <group>:method:solve (line 0); formals ['self', 'right_tensor', 'left_tensor', '*extra'] -/
def f774_group__method_solve : Fn := ⟨4,
 (.seq (.seq (.seq (.ifStar (.seq (.call 4 131 [0, 1, 2])
         (.ret 4)) .skip)
     (.ifStar (.seq (.call 5 276 [0, 1, 2])
         (.ret 5)) .skip))
   (.seq (.ifStar (.seq (.call 6 338 [0, 1, 2])
         (.ret 6)) .skip)
     (.ifStar (.seq (.call 7 389 [0, 1, 2])
         (.ret 7)) .skip)))
 (.seq (.seq (.ifStar (.seq (.call 8 475 [0, 1, 2])
         (.ret 8)) .skip)
     (.ifStar (.seq (.call 9 501 [0, 1, 2])
         (.ret 9)) .skip))
   (.seq (.ifStar (.seq (.call 10 641 [0, 1, 2])
         (.ret 10)) .skip)
     (.ifStar (.seq (.call 11 673 [0, 1, 2])
         (.ret 11)) .skip))))⟩

/-- <group>:method:sqrt_inv_matmul (line 0); formals ['self', 'rhs', 'lhs', '*extra'] -/
def f775_group__method_sqrt_inv_matmul : Fn := ⟨4,
 (.seq (.ifStar (.seq (.call 4 134 [0, 1, 2])
     (.ret 4)) .skip)
 (.seq (.ifStar (.seq (.call 5 341 [0, 1, 2])
       (.ret 5)) .skip)
   (.ifStar (.seq (.call 6 391 [0, 1, 2])
       (.ret 6)) .skip)))⟩

/-- <group>:method:expand (line 0); formals ['self', '*extra'] -/
def f776_group__method_expand : Fn := ⟨2,
 (.ifStar (.seq (.assign 2 (.join [1]))
   (.seq (.call 3 97 [0, 2])
     (.ret 3))) .skip)⟩

/-- <group>:property:mT (line 0); formals ['self', '*extra'] -/
def f777_group__property_mT : Fn := ⟨2,
 (.ifStar (.seq (.call 2 110 [0])
   (.ret 2)) .skip)⟩

/-- <group>:method:to_dense (line 0); formals ['self', 'matrix_shape', 'eigenvalues', 'eigenvectors', 'funcs', '*extra'] -/
def f778_group__method_to_dense : Fn := ⟨6,
 (.seq (.seq (.seq (.ifStar (.seq (.call 6 143 [0])
         (.ret 6)) .skip)
     (.seq (.ifStar (.seq (.call 7 253 [0])
           (.ret 7)) .skip)
       (.ifStar (.seq (.call 8 271 [0])
           (.ret 8)) .skip)))
   (.seq (.seq (.ifStar (.seq (.call 9 291 [0])
           (.ret 9)) .skip)
       (.ifStar (.seq (.call 10 309 [0])
           (.ret 10)) .skip))
     (.seq (.ifStar (.seq (.call 11 331 [0])
           (.ret 11)) .skip)
       (.ifStar (.seq (.call 12 511 [0])
           (.ret 12)) .skip))))
 (.seq (.seq (.seq (.ifStar (.seq (.call 13 532 [0])
           (.ret 13)) .skip)
       (.ifStar (.seq (.call 14 541 [0])
           (.ret 14)) .skip))
     (.seq (.ifStar (.seq (.call 15 580 [0])
           (.ret 15)) .skip)
       (.ifStar (.seq (.call 16 587 [0])
           (.ret 16)) .skip)))
   (.seq (.seq (.ifStar (.seq (.call 17 607 [0])
           (.ret 17)) .skip)
       (.ifStar (.seq (.call 18 637 [0])
           (.ret 18)) .skip))
     (.seq (.ifStar (.seq (.call 19 674 [0])
           (.ret 19)) .skip)
       (.ifStar (.seq (.call 20 757 [0, 1, 2, 3, 4])
           (.ret 20)) .skip)))))⟩

/-- <group>:method:representation_tree (line 0); formals ['self', '*extra'] -/
def f779_group__method_representation_tree : Fn := ⟨2,
 (.seq (.ifStar (.seq (.call 2 121 [0])
     (.ret 2)) .skip)
 (.seq (.ifStar (.seq (.call 3 545 [0])
       (.ret 3)) .skip)
   (.ifStar (.seq (.call 4 647 [0])
       (.ret 4)) .skip)))⟩

def chunk12 : List Fn := [
  f720_utils_interpolation__left_t_interp,
  f721_utils_lanczos__lanczos_tridiag,
  f722_utils_lanczos__lanczos_tridiag_to_diag,
  f723_utils_lanczos___postprocess_lanczos_root_inv_decomp,
  f724_utils_linear_cg___default_preconditioner,
  f725_utils_linear_cg___jit_linear_cg_updates,
  f726_utils_linear_cg___jit_linear_cg_updates_no_precond,
  f727_utils_linear_cg__linear_cg,
  f728_utils_memoize__cached,
  f729_utils_memoize__add_to_cache,
  f730_utils_memoize__get_from_cache,
  f731_utils_memoize__pop_from_cache,
  f732_utils_memoize__pop_from_cache_ignore_args,
  f733_utils_memoize__clear_cache_hook,
  f734_utils_memoize___cached,
  f735_utils_memoize___cached_ignore_args,
  f736_utils_memoize___add_to_cache,
  f737_utils_memoize___get_from_cache,
  f738_utils_memoize___is_in_cache,
  f739_utils_memoize___add_to_cache_ignore_args,
  f740_utils_memoize___get_from_cache_ignore_args,
  f741_utils_memoize___is_in_cache_ignore_args,
  f742_utils_memoize___is_in_cache_ignore_all_args,
  f743_utils_minres__minres,
  f744_utils_minres___jit_minres_updates,
  f745_utils_permutation__apply_permutation,
  f746_utils_permutation__inverse_permutation,
  f747_utils_pinverse__stable_pinverse,
  f748_utils_qr__stable_qr,
  f749_utils_sparse__make_sparse_from_indices_and_values,
  f750_utils_sparse__bdsmm,
  f751_utils_sparse__sparse_eye,
  f752_utils_sparse__sparse_getitem,
  f753_utils_sparse__sparse_repeat,
  f754_utils_sparse__to_sparse,
  f755_utils_stochastic_lq__StochasticLQ___init__,
  f756_utils_stochastic_lq__StochasticLQ_lanczos_batch,
  f757_utils_stochastic_lq__StochasticLQ_to_dense,
  f758_utils_toeplitz__toeplitz,
  f759_utils_toeplitz__sym_toeplitz,
  f760_utils_toeplitz__toeplitz_getitem,
  f761_utils_toeplitz__sym_toeplitz_getitem,
  f762_utils_toeplitz__toeplitz_matmul,
  f763_utils_toeplitz__sym_toeplitz_matmul,
  f764_utils_toeplitz__sym_toeplitz_derivative_quadratic_form,
  f765_group__method_add_diagonal,
  f766_group__method_add_jitter,
  f767_group__method_size,
  f768_group__method_diagonalization,
  f769_group__method_inv_quad,
  f770_group__method_inv_quad_logdet,
  f771_group__method_pivoted_cholesky,
  f772_group__method_root_decomposition,
  f773_group__method_root_inv_decomposition,
  f774_group__method_solve,
  f775_group__method_sqrt_inv_matmul,
  f776_group__method_expand,
  f777_group__property_mT,
  f778_group__method_to_dense,
  f779_group__method_representation_tree]

end LinOp.Generated.C13P
