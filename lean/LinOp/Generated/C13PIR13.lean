import LinOp.C13.Model
import LinOp.Generated.C13PSigma
-- GENERATED by harness/extract/c13_alias.py from /repo/linear_operator (do not edit)
namespace LinOp.Generated.C13P
open LinOp.C13

/-- <group>:method:_approx_diagonal (line 0); formals ['self', '*extra'] -/
def f780_group__method__approx_diagonal : Fn := ⟨2,
 (.seq (.ifStar (.seq (.call 2 52 [0])
     (.ret 2)) .skip)
 (.seq (.ifStar (.seq (.call 3 278 [0])
       (.ret 3)) .skip)
   (.ifStar (.seq (.call 4 397 [0])
       (.ret 4)) .skip)))⟩

/-- <group>:method:clone (line 0); formals ['self', '*extra'] -/
def f781_group__method_clone : Fn := ⟨2,
 (.ifStar (.seq (.call 2 81 [0])
   (.ret 2)) .skip)⟩

/-- <group>:method:unsqueeze (line 0); formals ['self', 'dim', '*extra'] -/
def f782_group__method_unsqueeze : Fn := ⟨3,
 (.ifStar (.seq (.call 3 146 [0, 1])
   (.ret 3)) .skip)⟩

/-- <group>:method:sqrt (line 0); formals ['self', '*extra'] -/
def f783_group__method_sqrt : Fn := ⟨2,
 (.seq (.seq (.ifStar (.seq (.call 2 133 [0])
       (.ret 2)) .skip)
   (.ifStar (.seq (.call 3 340 [0])
       (.ret 3)) .skip))
 (.seq (.ifStar (.seq (.call 4 361 [0])
       (.ret 4)) .skip)
   (.seq (.ifStar (.seq (.call 5 390 [0])
         (.ret 5)) .skip)
     (.ifStar (.seq (.call 6 488 [0])
         (.ret 6)) .skip))))⟩

/-- <group>:method:squeeze (line 0); formals ['self', 'dim', '*extra'] -/
def f784_group__method_squeeze : Fn := ⟨3,
 (.ifStar (.seq (.call 3 135 [0, 1])
   (.ret 3)) .skip)⟩

/-- <group>:method:__sub__ (line 0); formals ['self', 'other', '*extra'] -/
def f785_group__method___sub__ : Fn := ⟨3,
 (.ifStar (.seq (.call 3 148 [0, 1])
   (.ret 3)) .skip)⟩

/-- <group>:method:__rsub__ (line 0); formals ['self', 'other', 'alpha', '*extra'] -/
def f786_group__method___rsub__ : Fn := ⟨4,
 (.ifStar (.seq (.call 4 157 [0, 1, 2])
   (.ret 4)) .skip)⟩

/-- <group>:method:detach (line 0); formals ['self', '*extra'] -/
def f787_group__method_detach : Fn := ⟨2,
 (.ifStar (.seq (.call 2 85 [0])
   (.ret 2)) .skip)⟩

/-- <group>:method:requires_grad_ (line 0); formals ['self', 'val', '*extra'] -/
def f788_group__method_requires_grad_ : Fn := ⟨3,
 (.ifStar (.seq (.call 3 124 [0, 1])
   (.ret 3)) .skip)⟩

/-- <group>:method:__getitem__ (line 0); formals ['self', 'index', '*extra'] -/
def f789_group__method___getitem__ : Fn := ⟨3,
 (.ifStar (.seq (.call 3 150 [0, 1])
   (.ret 3)) .skip)⟩

/-- <group>:method:backward (line 0); formals ['self', 'ctx', 'evals_grad_output', 'evecs_grad_output', 'grad_output', 'inv_quad_grad_output', 'logdet_grad_output', '_', 'root_grad_output', 'inverse_grad_output', 'sqrt_inv_matmul_grad', 'inv_quad_grad', '*extra'] -/
def f790_group__method_backward : Fn := ⟨13,
 (.seq (.seq (.seq (.ifStar (.seq (.call 13 15 [1, 2, 3])
         (.ret 13)) .skip)
     (.ifStar (.seq (.call 14 17 [1, 4])
         (.ret 14)) .skip))
   (.seq (.ifStar (.seq (.call 15 20 [1, 5])
         (.ret 15)) .skip)
     (.ifStar (.seq (.call 16 22 [1, 5, 6])
         (.ret 16)) .skip)))
 (.seq (.seq (.ifStar (.seq (.call 17 24 [1, 4])
         (.ret 17)) .skip)
     (.ifStar (.seq (.call 18 26 [0, 4, 7])
         (.ret 18)) .skip))
   (.seq (.ifStar (.seq (.call 19 28 [1, 8, 9])
         (.ret 19)) .skip)
     (.seq (.ifStar (.seq (.call 20 31 [1, 4])
           (.ret 20)) .skip)
       (.ifStar (.seq (.call 21 33 [1, 10, 11])
           (.ret 21)) .skip)))))⟩

/-- functions/_root_decomposition.py:RootDecomposition.backward.<locals>.is_empty (line 111); formals ['tensor'] -/
def f791_functions__root_decomposition__RootDecomposition_backward__locals__is_empty : Fn := ⟨1,
 (.seq (.seq (.assign 2 .fresh)
   (.assign 3 (.join [1, 2])))
 (.seq (.assign 4 (.join [1, 3]))
   (.ret 4)))⟩

/-- <group>:method:cholesky (line 0); formals ['self', 'upper', '*extra'] -/
def f792_group__method_cholesky : Fn := ⟨3,
 (.ifStar (.seq (.call 3 80 [0, 1])
   (.ret 3)) .skip)⟩

/-- <group>:method:_cholesky_solve (line 0); formals ['self', 'rhs', 'upper', '*extra'] -/
def f793_group__method__cholesky_solve : Fn := ⟨4,
 (.seq (.seq (.seq (.ifStar (.seq (.call 4 54 [0, 1, 2])
         (.ret 4)) .skip)
     (.ifStar (.seq (.call 5 176 [0, 1, 2])
         (.ret 5)) .skip))
   (.seq (.ifStar (.seq (.call 6 201 [0, 1, 2])
         (.ret 6)) .skip)
     (.ifStar (.seq (.call 7 217 [0, 1, 2])
         (.ret 7)) .skip)))
 (.seq (.seq (.ifStar (.seq (.call 8 296 [0, 1, 2])
         (.ret 8)) .skip)
     (.ifStar (.seq (.call 9 316 [0, 1, 2])
         (.ret 9)) .skip))
   (.seq (.ifStar (.seq (.call 10 368 [0, 1, 2])
         (.ret 10)) .skip)
     (.seq (.ifStar (.seq (.call 11 473 [0, 1, 2])
           (.ret 11)) .skip)
       (.ifStar (.seq (.call 12 622 [0, 1, 2])
           (.ret 12)) .skip)))))⟩

/-- <group>:method:_solve_preconditioner (line 0); formals ['self', '*extra'] -/
def f794_group__method__solve_preconditioner : Fn := ⟨2,
 (.seq (.ifStar (.seq (.call 2 67 [0])
     (.ret 2)) .skip)
 (.ifStar (.seq (.call 3 496 [0])
     (.ret 3)) .skip))⟩

/-- <group>:method:_solve (line 0); formals ['self', 'rhs', 'preconditioner', 'num_tridiag', '*extra'] -/
def f795_group__method__solve : Fn := ⟨5,
 (.seq (.seq (.seq (.ifStar (.seq (.call 5 66 [0, 1, 2, 3])
         (.ret 5)) .skip)
     (.ifStar (.seq (.call 6 209 [0, 1, 2, 3])
         (.ret 6)) .skip))
   (.seq (.ifStar (.seq (.call 7 225 [0, 1, 2, 3])
         (.ret 7)) .skip)
     (.seq (.ifStar (.seq (.call 8 270 [0, 1, 2, 3])
           (.ret 8)) .skip)
       (.ifStar (.seq (.call 9 440 [0, 1, 2, 3])
           (.ret 9)) .skip))))
 (.seq (.seq (.ifStar (.seq (.call 10 459 [0, 1, 2, 3])
         (.ret 10)) .skip)
     (.ifStar (.seq (.call 11 495 [0, 1, 2, 3])
         (.ret 11)) .skip))
   (.seq (.ifStar (.seq (.call 12 547 [0, 1, 2, 3])
         (.ret 12)) .skip)
     (.seq (.ifStar (.seq (.call 13 589 [0, 1, 2, 3])
           (.ret 13)) .skip)
       (.ifStar (.seq (.call 14 632 [0, 1, 2, 3])
           (.ret 14)) .skip)))))⟩

/-- <group>:method:ndimension (line 0); formals ['self', '*extra'] -/
def f796_group__method_ndimension : Fn := ⟨2,
 (.ifStar (.seq (.call 2 113 [0])
   (.ret 2)) .skip)⟩

/-- <group>:method:__matmul__ (line 0); formals ['self', 'other', '*extra'] -/
def f797_group__method___matmul__ : Fn := ⟨3,
 (.ifStar (.seq (.call 3 152 [0, 1])
   (.ret 3)) .skip)⟩

/-- <group>:method:__rmatmul__ (line 0); formals ['self', 'other', '*extra'] -/
def f798_group__method___rmatmul__ : Fn := ⟨3,
 (.ifStar (.seq (.call 3 153 [0, 1])
   (.ret 3)) .skip)⟩

/-- <group>:method:_bilinear_derivative (line 0); formals ['self', 'left_vecs', 'right_vecs', '*extra'] -/
def f799_group__method__bilinear_derivative : Fn := ⟨4,
 (.seq (.seq (.seq (.seq (.ifStar (.seq (.call 4 46 [0, 1, 2])
           (.ret 4)) .skip)
       (.ifStar (.seq (.call 5 185 [0, 1, 2])
           (.ret 5)) .skip))
     (.seq (.ifStar (.seq (.call 6 233 [0, 1, 2])
           (.ret 6)) .skip)
       (.ifStar (.seq (.call 7 285 [0, 1, 2])
           (.ret 7)) .skip)))
   (.seq (.seq (.ifStar (.seq (.call 8 304 [0, 1, 2])
           (.ret 8)) .skip)
       (.ifStar (.seq (.call 9 314 [0, 1, 2])
           (.ret 9)) .skip))
     (.seq (.ifStar (.seq (.call 10 347 [0, 1, 2])
           (.ret 10)) .skip)
       (.ifStar (.seq (.call 11 405 [0, 1, 2])
           (.ret 11)) .skip))))
 (.seq (.seq (.seq (.ifStar (.seq (.call 12 422 [0, 1, 2])
           (.ret 12)) .skip)
       (.ifStar (.seq (.call 13 477 [0, 1, 2])
           (.ret 13)) .skip))
     (.seq (.ifStar (.seq (.call 14 512 [0, 1, 2])
           (.ret 14)) .skip)
       (.ifStar (.seq (.call 15 528 [0, 1, 2])
           (.ret 15)) .skip)))
   (.seq (.seq (.ifStar (.seq (.call 16 539 [0, 1, 2])
           (.ret 16)) .skip)
       (.ifStar (.seq (.call 17 602 [0, 1, 2])
           (.ret 17)) .skip))
     (.seq (.ifStar (.seq (.call 18 615 [0, 1, 2])
           (.ret 18)) .skip)
       (.ifStar (.seq (.call 19 650 [0, 1, 2])
           (.ret 19)) .skip)))))⟩

/-- operators/_linear_operator.py:_implements.<locals>.decorator (line 72); formals ['func', 'torch_function'] -/
def f800_operators__linear_operator___implements__locals__decorator : Fn := ⟨2,
 (.seq (.write 2)
 (.ret 0))⟩

/-- operators/_linear_operator.py:_implements_second_arg.<locals>.decorator (line 92); formals ['func', 'torch_function'] -/
def f801_operators__linear_operator___implements_second_arg__locals__decorator : Fn := ⟨2,
 (.seq (.write 2)
 (.ret 0))⟩

/-- operators/_linear_operator.py:_implements_symmetric.<locals>.decorator (line 108); formals ['func', 'torch_function'] -/
def f802_operators__linear_operator___implements_symmetric__locals__decorator : Fn := ⟨2,
 (.seq (.write 2)
 (.seq (.write 2)
   (.ret 0)))⟩

/-- <group>:method:__mul__ (line 0); formals ['self', 'other', '*extra'] -/
def f803_group__method___mul__ : Fn := ⟨3,
 (.ifStar (.seq (.call 3 154 [0, 1])
   (.ret 3)) .skip)⟩

/-- <group>:method:__rmul__ (line 0); formals ['self', 'other', '*extra'] -/
def f804_group__method___rmul__ : Fn := ⟨3,
 (.ifStar (.seq (.call 3 156 [0, 1])
   (.ret 3)) .skip)⟩

/-- <group>:method:matmul (line 0); formals ['self', 'other', '*extra'] -/
def f805_group__method_matmul : Fn := ⟨3,
 (.seq (.seq (.ifStar (.seq (.call 3 108 [0, 1])
       (.ret 3)) .skip)
   (.seq (.ifStar (.seq (.call 4 211 [0, 1])
         (.ret 4)) .skip)
     (.ifStar (.seq (.call 5 336 [0, 1])
         (.ret 5)) .skip)))
 (.seq (.seq (.ifStar (.seq (.call 6 359 [0, 1])
         (.ret 6)) .skip)
     (.ifStar (.seq (.call 7 388 [0, 1])
         (.ret 7)) .skip))
   (.seq (.ifStar (.seq (.call 8 411 [0, 1])
         (.ret 8)) .skip)
     (.ifStar (.seq (.call 9 671 [0, 1])
         (.ret 9)) .skip))))⟩

/-- <group>:method:_check_args (line 0); formals ['self', 'dim', 'output_device', 'tsr', 'base_linear_op', 'left_interp_indices', 'left_interp_values', 'right_interp_indices', 'right_interp_values', 'left_linear_op', 'right_linear_op', '*extra'] -/
def f806_group__method__check_args : Fn := ⟨12,
 (.seq (.seq (.ifStar (.seq (.seq (.assign 12 (.join [1, 2, 3, 4, 5, 6, 7, 8, 9, 10, 11]))
         (.assign 13 (.join [1, 2, 3, 4, 5, 6, 7, 8, 9, 10, 11])))
       (.seq (.call 14 38 [0, 12, 13])
         (.ret 14))) .skip)
   (.ifStar (.seq (.assign 15 (.join [1, 2, 3, 4, 5, 6, 7, 8, 9, 10, 11]))
       (.seq (.call 16 241 [0, 1, 2, 15])
         (.ret 16))) .skip))
 (.seq (.ifStar (.seq (.call 17 294 [0, 3])
       (.ret 17)) .skip)
   (.seq (.ifStar (.seq (.call 18 395 [0, 4, 5, 6, 7, 8])
         (.ret 18)) .skip)
     (.ifStar (.seq (.call 19 533 [0, 9, 10])
         (.ret 19)) .skip))))⟩

/-- <group>:property:_args (line 0); formals ['self', '*extra'] -/
def f807_group__property__args : Fn := ⟨2,
 (.ifStar (.seq (.call 2 49 [0])
   (.ret 2)) .skip)⟩

/-- <group>:method:dim (line 0); formals ['self', '*extra'] -/
def f808_group__method_dim : Fn := ⟨2,
 (.ifStar (.seq (.call 2 89 [0])
   (.ret 2)) .skip)⟩

/-- <group>:method:permute (line 0); formals ['self', '*extra'] -/
def f809_group__method_permute : Fn := ⟨2,
 (.ifStar (.seq (.assign 2 (.join [1]))
   (.seq (.call 3 116 [0, 2])
     (.ret 3))) .skip)⟩

/-- <group>:method:_permute_batch (line 0); formals ['self', '*extra'] -/
def f810_group__method__permute_batch : Fn := ⟨2,
 (.seq (.seq (.seq (.ifStar (.seq (.assign 2 (.join [1]))
         (.seq (.call 3 43 [0, 2])
           (.ret 3))) .skip)
     (.ifStar (.seq (.assign 4 (.join [1]))
         (.seq (.call 5 184 [0, 4])
           (.ret 5))) .skip))
   (.seq (.ifStar (.seq (.assign 6 (.join [1]))
         (.seq (.call 7 234 [0, 6])
           (.ret 7))) .skip)
     (.seq (.ifStar (.seq (.assign 8 (.join [1]))
           (.seq (.call 9 249 [0, 8])
             (.ret 9))) .skip)
       (.ifStar (.seq (.assign 10 (.join [1]))
           (.seq (.call 11 284 [0, 10])
             (.ret 11))) .skip))))
 (.seq (.seq (.ifStar (.seq (.assign 12 (.join [1]))
         (.seq (.call 13 373 [0, 12])
           (.ret 13))) .skip)
     (.ifStar (.seq (.assign 14 (.join [1]))
         (.seq (.call 15 430 [0, 14])
           (.ret 15))) .skip))
   (.seq (.ifStar (.seq (.assign 16 (.join [1]))
         (.seq (.call 17 517 [0, 16])
           (.ret 17))) .skip)
     (.seq (.ifStar (.seq (.assign 18 (.join [1]))
           (.seq (.call 19 529 [0, 18])
             (.ret 19))) .skip)
       (.ifStar (.seq (.assign 20 (.join [1]))
           (.seq (.call 21 656 [0, 20])
             (.ret 21))) .skip)))))⟩

/-- <group>:property:_kwargs (line 0); formals ['self', '*extra'] -/
def f811_group__property__kwargs : Fn := ⟨2,
 (.ifStar (.seq (.call 2 51 [0])
   (.ret 2)) .skip)⟩

/-- <group>:method:__init__ (line 0); formals ['self', 'new_cls', 'orig_name', 'preconditioner_override', 'base_linear_op', 'batch_repeat', 'block_dim', 'dim', 'output_device', 'chol', 'upper', 'constant', 'tsr', 'diag', 'diag_values', 'diag_shape', 'batch_shape', 'dtype', 'device', 'left_interp_indices', 'left_interp_values', 'right_interp_indices', 'right_interp_values', 'x1', 'x2', 'covar_func', 'num_outputs_per_input', 'num_nonbatch_dimensions', 'linear_op', 'base', 'row_mask', 'col_mask', 'left_linear_op', 'right_linear_op', 'perm', 'inv_perm', 'validate_args', 'm', 'root', 'column', 'tensor', 'float_value', 'double_value', 'half_value', 'state', 'value', 'covar_root_decomposition', 'log_prob', 'solves', 'default', 'symeig', 'cholesky', 'max_iter', 'num_random_probes', '*extra'] -/
def f812_group__method___init__ : Fn := ⟨55,
 (.seq (.seq (.seq (.seq (.seq (.ifStar (.seq (.call 55 0 [0, 1, 2])
             (.ret 55)) .skip)
         (.ifStar (.seq (.seq (.assign 56 (.join [1, 2, 3, 4, 5, 6, 7, 8, 9, 10, 11, 12, 13, 14, 15, 16, 17, 18, 19, 20, 21, 22, 23, 24, 25, 26, 27, 28, 29, 30, 31, 32, 33, 34, 35, 36, 37, 38, 39, 40, 41, 42, 43, 44, 45, 46, 47, 48, 49, 50, 51, 52, 53, 54]))
               (.assign 57 (.join [1, 2, 3, 4, 5, 6, 7, 8, 9, 10, 11, 12, 13, 14, 15, 16, 17, 18, 19, 20, 21, 22, 23, 24, 25, 26, 27, 28, 29, 30, 31, 32, 33, 34, 35, 36, 37, 38, 39, 40, 41, 42, 43, 44, 45, 46, 47, 48, 49, 50, 51, 52, 53, 54])))
             (.seq (.call 58 39 [0, 56, 57])
               (.ret 58))) .skip))
       (.seq (.ifStar (.seq (.assign 59 (.join [1, 2, 3, 4, 5, 6, 7, 8, 9, 10, 11, 12, 13, 14, 15, 16, 17, 18, 19, 20, 21, 22, 23, 24, 25, 26, 27, 28, 29, 30, 31, 32, 33, 34, 35, 36, 37, 38, 39, 40, 41, 42, 43, 44, 45, 46, 47, 48, 49, 50, 51, 52, 53, 54]))
             (.seq (.call 60 163 [0, 3, 59])
               (.ret 60))) .skip)
         (.ifStar (.seq (.call 61 174 [0, 4, 5])
             (.ret 61)) .skip)))
     (.seq (.seq (.ifStar (.seq (.call 62 197 [0, 4, 6])
             (.ret 62)) .skip)
         (.ifStar (.seq (.call 63 227 [0, 4, 6])
             (.ret 63)) .skip))
       (.seq (.ifStar (.seq (.assign 64 (.join [1, 2, 3, 4, 5, 6, 7, 8, 9, 10, 11, 12, 13, 14, 15, 16, 17, 18, 19, 20, 21, 22, 23, 24, 25, 26, 27, 28, 29, 30, 31, 32, 33, 34, 35, 36, 37, 38, 39, 40, 41, 42, 43, 44, 45, 46, 47, 48, 49, 50, 51, 52, 53, 54]))
             (.seq (.call 65 242 [0, 7, 8, 64])
               (.ret 65))) .skip)
         (.seq (.ifStar (.seq (.call 66 260 [0, 9, 10])
               (.ret 66)) .skip)
           (.ifStar (.seq (.call 67 277 [0, 4, 11])
               (.ret 67)) .skip)))))
   (.seq (.seq (.seq (.ifStar (.seq (.call 68 295 [0, 12])
             (.ret 68)) .skip)
         (.ifStar (.seq (.call 69 312 [0, 13])
             (.ret 69)) .skip))
       (.seq (.ifStar (.seq (.call 70 345 [0, 14, 15])
             (.ret 70)) .skip)
         (.seq (.ifStar (.seq (.call 71 362 [0, 15, 16, 17, 18])
               (.ret 71)) .skip)
           (.ifStar (.seq (.call 72 396 [0, 4, 19, 20, 21, 22])
               (.ret 72)) .skip))))
     (.seq (.seq (.ifStar (.seq (.assign 73 (.join [1, 2, 3, 4, 5, 6, 7, 8, 9, 10, 11, 12, 13, 14, 15, 16, 17, 18, 19, 20, 21, 22, 23, 24, 25, 26, 27, 28, 29, 30, 31, 32, 33, 34, 35, 36, 37, 38, 39, 40, 41, 42, 43, 44, 45, 46, 47, 48, 49, 50, 51, 52, 53, 54]))
             (.seq (.call 74 414 [0, 23, 24, 25, 73])
               (.ret 74))) .skip)
         (.ifStar (.seq (.assign 75 (.join [1, 2, 3, 4, 5, 6, 7, 8, 9, 10, 11, 12, 13, 14, 15, 16, 17, 18, 19, 20, 21, 22, 23, 24, 25, 26, 27, 28, 29, 30, 31, 32, 33, 34, 35, 36, 37, 38, 39, 40, 41, 42, 43, 44, 45, 46, 47, 48, 49, 50, 51, 52, 53, 54]))
             (.seq (.call 76 424 [0, 23, 24, 25, 26, 27, 75])
               (.ret 76))) .skip))
       (.seq (.ifStar (.seq (.assign 77 (.join [1, 2, 3, 4, 5, 6, 7, 8, 9, 10, 11, 12, 13, 14, 15, 16, 17, 18, 19, 20, 21, 22, 23, 24, 25, 26, 27, 28, 29, 30, 31, 32, 33, 34, 35, 36, 37, 38, 39, 40, 41, 42, 43, 44, 45, 46, 47, 48, 49, 50, 51, 52, 53, 54]))
             (.seq (.call 78 436 [0, 3, 77])
               (.ret 78))) .skip)
         (.seq (.ifStar (.seq (.seq (.assign 79 (.join [1, 2, 3, 4, 5, 6, 7, 8, 9, 10, 11, 12, 13, 14, 15, 16, 17, 18, 19, 20, 21, 22, 23, 24, 25, 26, 27, 28, 29, 30, 31, 32, 33, 34, 35, 36, 37, 38, 39, 40, 41, 42, 43, 44, 45, 46, 47, 48, 49, 50, 51, 52, 53, 54]))
                 (.assign 80 (.join [1, 2, 3, 4, 5, 6, 7, 8, 9, 10, 11, 12, 13, 14, 15, 16, 17, 18, 19, 20, 21, 22, 23, 24, 25, 26, 27, 28, 29, 30, 31, 32, 33, 34, 35, 36, 37, 38, 39, 40, 41, 42, 43, 44, 45, 46, 47, 48, 49, 50, 51, 52, 53, 54])))
               (.seq (.call 81 449 [0, 79, 80])
                 (.ret 81))) .skip)
           (.ifStar (.seq (.assign 82 (.join [1, 2, 3, 4, 5, 6, 7, 8, 9, 10, 11, 12, 13, 14, 15, 16, 17, 18, 19, 20, 21, 22, 23, 24, 25, 26, 27, 28, 29, 30, 31, 32, 33, 34, 35, 36, 37, 38, 39, 40, 41, 42, 43, 44, 45, 46, 47, 48, 49, 50, 51, 52, 53, 54]))
               (.seq (.call 83 470 [0, 10, 82])
                 (.ret 83))) .skip))))))
 (.seq (.seq (.seq (.seq (.ifStar (.seq (.assign 84 (.join [1, 2, 3, 4, 5, 6, 7, 8, 9, 10, 11, 12, 13, 14, 15, 16, 17, 18, 19, 20, 21, 22, 23, 24, 25, 26, 27, 28, 29, 30, 31, 32, 33, 34, 35, 36, 37, 38, 39, 40, 41, 42, 43, 44, 45, 46, 47, 48, 49, 50, 51, 52, 53, 54]))
             (.seq (.call 85 476 [0, 84])
               (.ret 85))) .skip)
         (.ifStar (.seq (.call 86 489 [0, 28])
             (.ret 86)) .skip))
       (.seq (.ifStar (.seq (.assign 87 (.join [1, 2, 3, 4, 5, 6, 7, 8, 9, 10, 11, 12, 13, 14, 15, 16, 17, 18, 19, 20, 21, 22, 23, 24, 25, 26, 27, 28, 29, 30, 31, 32, 33, 34, 35, 36, 37, 38, 39, 40, 41, 42, 43, 44, 45, 46, 47, 48, 49, 50, 51, 52, 53, 54]))
             (.seq (.call 88 491 [0, 3, 87])
               (.ret 88))) .skip)
         (.seq (.ifStar (.seq (.call 89 504 [0, 29, 30, 31])
               (.ret 89)) .skip)
           (.ifStar (.seq (.call 90 521 [0, 32, 33])
               (.ret 90)) .skip))))
     (.seq (.seq (.ifStar (.seq (.call 91 534 [0, 32, 33])
             (.ret 91)) .skip)
         (.ifStar (.seq (.call 92 551 [0, 34, 35, 36])
             (.ret 92)) .skip))
       (.seq (.ifStar (.seq (.call 93 557 [0, 37])
             (.ret 93)) .skip)
         (.seq (.ifStar (.seq (.assign 94 (.join [1, 2, 3, 4, 5, 6, 7, 8, 9, 10, 11, 12, 13, 14, 15, 16, 17, 18, 19, 20, 21, 22, 23, 24, 25, 26, 27, 28, 29, 30, 31, 32, 33, 34, 35, 36, 37, 38, 39, 40, 41, 42, 43, 44, 45, 46, 47, 48, 49, 50, 51, 52, 53, 54]))
               (.seq (.call 95 566 [0, 38, 94])
                 (.ret 95))) .skip)
           (.ifStar (.seq (.seq (.assign 96 (.join [1, 2, 3, 4, 5, 6, 7, 8, 9, 10, 11, 12, 13, 14, 15, 16, 17, 18, 19, 20, 21, 22, 23, 24, 25, 26, 27, 28, 29, 30, 31, 32, 33, 34, 35, 36, 37, 38, 39, 40, 41, 42, 43, 44, 45, 46, 47, 48, 49, 50, 51, 52, 53, 54]))
                 (.assign 97 (.join [1, 2, 3, 4, 5, 6, 7, 8, 9, 10, 11, 12, 13, 14, 15, 16, 17, 18, 19, 20, 21, 22, 23, 24, 25, 26, 27, 28, 29, 30, 31, 32, 33, 34, 35, 36, 37, 38, 39, 40, 41, 42, 43, 44, 45, 46, 47, 48, 49, 50, 51, 52, 53, 54])))
               (.seq (.call 98 595 [0, 96, 97])
                 (.ret 98))) .skip)))))
   (.seq (.seq (.seq (.ifStar (.seq (.call 99 609 [0, 39])
             (.ret 99)) .skip)
         (.ifStar (.seq (.call 100 619 [0, 40, 10])
             (.ret 100)) .skip))
       (.seq (.ifStar (.seq (.call 101 643 [0, 28])
             (.ret 101)) .skip)
         (.seq (.ifStar (.seq (.assign 102 (.join [1, 2, 3, 4, 5, 6, 7, 8, 9, 10, 11, 12, 13, 14, 15, 16, 17, 18, 19, 20, 21, 22, 23, 24, 25, 26, 27, 28, 29, 30, 31, 32, 33, 34, 35, 36, 37, 38, 39, 40, 41, 42, 43, 44, 45, 46, 47, 48, 49, 50, 51, 52, 53, 54]))
               (.seq (.call 103 645 [0, 17, 18, 102])
                 (.ret 103))) .skip)
           (.ifStar (.seq (.call 104 681 [0, 41, 42, 43])
               (.ret 104)) .skip))))
     (.seq (.seq (.ifStar (.seq (.call 105 688 [0, 44])
             (.ret 105)) .skip)
         (.ifStar (.seq (.call 106 693 [0, 45])
             (.ret 106)) .skip))
       (.seq (.ifStar (.seq (.call 107 697 [0, 46, 47, 48])
             (.ret 107)) .skip)
         (.seq (.ifStar (.seq (.call 108 700 [0, 49, 50, 51])
               (.ret 108)) .skip)
           (.ifStar (.seq (.call 109 755 [0, 52, 53])
               (.ret 109)) .skip)))))))⟩

/-- <group>:method:_getitem (line 0); formals ['self', 'row_index', 'col_index', '*extra'] -/
def f813_group__method__getitem : Fn := ⟨4,
 (.seq (.seq (.seq (.seq (.ifStar (.seq (.assign 4 (.join [1, 2, 3]))
           (.seq (.call 5 44 [0, 1, 2, 4])
             (.ret 5))) .skip)
       (.ifStar (.seq (.assign 6 (.join [1, 2, 3]))
           (.seq (.call 7 180 [0, 1, 2, 6])
             (.ret 7))) .skip))
     (.seq (.ifStar (.seq (.assign 8 (.join [1, 2, 3]))
           (.seq (.call 9 230 [0, 1, 2, 8])
             (.ret 9))) .skip)
       (.ifStar (.seq (.assign 10 (.join [1, 2, 3]))
           (.seq (.call 11 247 [0, 1, 2, 10])
             (.ret 11))) .skip)))
   (.seq (.seq (.ifStar (.seq (.assign 12 (.join [1, 2, 3]))
           (.seq (.call 13 264 [0, 1, 2, 12])
             (.ret 13))) .skip)
       (.ifStar (.seq (.assign 14 (.join [1, 2, 3]))
           (.seq (.call 15 282 [0, 1, 2, 14])
             (.ret 15))) .skip))
     (.seq (.ifStar (.seq (.assign 16 (.join [1, 2, 3]))
           (.seq (.call 17 300 [0, 1, 2, 16])
             (.ret 17))) .skip)
       (.ifStar (.seq (.assign 18 (.join [1, 2, 3]))
           (.seq (.call 19 370 [0, 1, 2, 18])
             (.ret 19))) .skip))))
 (.seq (.seq (.seq (.ifStar (.seq (.assign 20 (.join [1, 2, 3]))
           (.seq (.call 21 401 [0, 1, 2, 20])
             (.ret 21))) .skip)
       (.ifStar (.seq (.assign 22 (.join [1, 2, 3]))
           (.seq (.call 23 421 [0, 1, 2, 22])
             (.ret 23))) .skip))
     (.seq (.ifStar (.seq (.assign 24 (.join [1, 2, 3]))
           (.seq (.call 25 428 [0, 1, 2, 24])
             (.ret 25))) .skip)
       (.ifStar (.seq (.assign 26 (.join [1, 2, 3]))
           (.seq (.call 27 515 [0, 1, 2, 26])
             (.ret 27))) .skip)))
   (.seq (.seq (.ifStar (.seq (.assign 28 (.join [1, 2, 3]))
           (.seq (.call 29 525 [0, 1, 2, 28])
             (.ret 29))) .skip)
       (.ifStar (.seq (.assign 30 (.join [1, 2, 3]))
           (.seq (.call 31 570 [0, 1, 2, 30])
             (.ret 31))) .skip))
     (.seq (.ifStar (.seq (.assign 32 (.join [1, 2, 3]))
           (.seq (.call 33 584 [0, 1, 2, 32])
             (.ret 33))) .skip)
       (.seq (.ifStar (.seq (.assign 34 (.join [1, 2, 3]))
             (.seq (.call 35 599 [0, 1, 2, 34])
               (.ret 35))) .skip)
         (.ifStar (.seq (.assign 36 (.join [1, 2, 3]))
             (.seq (.call 37 654 [0, 1, 2, 36])
               (.ret 37))) .skip))))))⟩

/-- <group>:method:representation (line 0); formals ['self', '*extra'] -/
def f814_group__method_representation : Fn := ⟨2,
 (.seq (.ifStar (.seq (.call 2 120 [0])
     (.ret 2)) .skip)
 (.seq (.ifStar (.seq (.call 3 544 [0])
       (.ret 3)) .skip)
   (.ifStar (.seq (.call 4 646 [0])
       (.ret 4)) .skip)))⟩

/-- <group>:method:_matmul (line 0); formals ['self', 'rhs', '*extra'] -/
def f815_group__method__matmul : Fn := ⟨3,
 (.seq (.seq (.seq (.seq (.ifStar (.call 3 40 [0, 1]) .skip)
       (.seq (.ifStar (.call 4 164 [0, 1]) .skip)
         (.ifStar (.call 5 181 [0, 1]) .skip)))
     (.seq (.ifStar (.call 6 232 [0, 1]) .skip)
       (.seq (.ifStar (.call 7 248 [0, 1]) .skip)
         (.ifStar (.call 8 267 [0, 1]) .skip))))
   (.seq (.seq (.ifStar (.call 9 283 [0, 1]) .skip)
       (.seq (.ifStar (.call 10 302 [0, 1]) .skip)
         (.ifStar (.call 11 337 [0, 1]) .skip)))
     (.seq (.seq (.ifStar (.call 12 371 [0, 1]) .skip)
         (.ifStar (.call 13 402 [0, 1]) .skip))
       (.seq (.ifStar (.call 14 417 [0, 1]) .skip)
         (.ifStar (.call 15 429 [0, 1]) .skip)))))
 (.seq (.seq (.seq (.ifStar (.call 16 462 [0, 1]) .skip)
       (.seq (.ifStar (.call 17 506 [0, 1]) .skip)
         (.ifStar (.call 18 526 [0, 1]) .skip)))
     (.seq (.ifStar (.call 19 537 [0, 1]) .skip)
       (.seq (.ifStar (.call 20 552 [0, 1]) .skip)
         (.ifStar (.call 21 558 [0, 1]) .skip))))
   (.seq (.seq (.ifStar (.call 22 571 [0, 1]) .skip)
       (.seq (.ifStar (.call 23 600 [0, 1]) .skip)
         (.ifStar (.call 24 613 [0, 1]) .skip)))
     (.seq (.seq (.ifStar (.call 25 626 [0, 1]) .skip)
         (.ifStar (.call 26 655 [0, 1]) .skip))
       (.seq (.assign 27 (.opq [1, 2]))
         (.ret 27))))))⟩

/-- <group>:method:repeat (line 0); formals ['self', '*extra'] -/
def f816_group__method_repeat : Fn := ⟨2,
 (.seq (.ifStar (.seq (.assign 2 (.join [1]))
     (.seq (.call 3 119 [0, 2])
       (.ret 3))) .skip)
 (.ifStar (.seq (.assign 4 (.join [1]))
     (.seq (.call 5 193 [0, 4])
       (.ret 5))) .skip))⟩

/-- <group>:method:_expand_batch (line 0); formals ['self', 'batch_shape', '*extra'] -/
def f817_group__method__expand_batch : Fn := ⟨3,
 (.seq (.seq (.seq (.seq (.ifStar (.seq (.call 3 47 [0, 1])
           (.ret 3)) .skip)
       (.ifStar (.seq (.call 4 178 [0, 1])
           (.ret 4)) .skip))
     (.seq (.ifStar (.seq (.call 5 229 [0, 1])
           (.ret 5)) .skip)
       (.seq (.ifStar (.seq (.call 6 245 [0, 1])
             (.ret 6)) .skip)
         (.ifStar (.seq (.call 7 280 [0, 1])
             (.ret 7)) .skip))))
   (.seq (.seq (.ifStar (.seq (.call 8 298 [0, 1])
           (.ret 8)) .skip)
       (.ifStar (.seq (.call 9 317 [0, 1])
           (.ret 9)) .skip))
     (.seq (.ifStar (.seq (.call 10 349 [0, 1])
           (.ret 10)) .skip)
       (.seq (.ifStar (.seq (.call 11 369 [0, 1])
             (.ret 11)) .skip)
         (.ifStar (.seq (.call 12 399 [0, 1])
             (.ret 12)) .skip)))))
 (.seq (.seq (.seq (.ifStar (.seq (.call 13 457 [0, 1])
           (.ret 13)) .skip)
       (.ifStar (.seq (.call 14 480 [0, 1])
           (.ret 14)) .skip))
     (.seq (.ifStar (.seq (.call 15 513 [0, 1])
           (.ret 15)) .skip)
       (.seq (.ifStar (.seq (.call 16 522 [0, 1])
             (.ret 16)) .skip)
         (.ifStar (.seq (.call 17 540 [0, 1])
             (.ret 17)) .skip))))
   (.seq (.seq (.ifStar (.seq (.call 18 568 [0, 1])
           (.ret 18)) .skip)
       (.ifStar (.seq (.call 19 597 [0, 1])
           (.ret 19)) .skip))
     (.seq (.ifStar (.seq (.call 20 611 [0, 1])
           (.ret 20)) .skip)
       (.seq (.ifStar (.seq (.call 21 624 [0, 1])
             (.ret 21)) .skip)
         (.ifStar (.seq (.call 22 652 [0, 1])
             (.ret 22)) .skip))))))⟩

/-- <group>:method:_diagonal (line 0); formals ['self', '*extra'] -/
def f818_group__method__diagonal : Fn := ⟨2,
 (.seq (.seq (.seq (.seq (.ifStar (.seq (.call 2 56 [0])
           (.ret 2)) .skip)
       (.ifStar (.seq (.call 3 202 [0])
           (.ret 3)) .skip))
     (.seq (.ifStar (.seq (.call 4 218 [0])
           (.ret 4)) .skip)
       (.seq (.ifStar (.seq (.call 5 244 [0])
             (.ret 5)) .skip)
         (.ifStar (.seq (.call 6 263 [0])
             (.ret 6)) .skip))))
   (.seq (.seq (.ifStar (.seq (.call 7 279 [0])
           (.ret 7)) .skip)
       (.ifStar (.seq (.call 8 297 [0])
           (.ret 8)) .skip))
     (.seq (.ifStar (.seq (.call 9 318 [0])
           (.ret 9)) .skip)
       (.seq (.ifStar (.seq (.call 10 398 [0])
             (.ret 10)) .skip)
         (.ifStar (.seq (.call 11 415 [0])
             (.ret 11)) .skip)))))
 (.seq (.seq (.seq (.ifStar (.seq (.call 12 425 [0])
           (.ret 12)) .skip)
       (.ifStar (.seq (.call 13 456 [0])
           (.ret 13)) .skip))
     (.seq (.ifStar (.seq (.call 14 510 [0])
           (.ret 14)) .skip)
       (.seq (.ifStar (.seq (.call 15 524 [0])
             (.ret 15)) .skip)
         (.ifStar (.seq (.call 16 535 [0])
             (.ret 16)) .skip))))
   (.seq (.seq (.ifStar (.seq (.call 17 567 [0])
           (.ret 17)) .skip)
       (.seq (.ifStar (.seq (.call 18 582 [0])
             (.ret 18)) .skip)
         (.ifStar (.seq (.call 19 596 [0])
             (.ret 19)) .skip)))
     (.seq (.ifStar (.seq (.call 20 610 [0])
           (.ret 20)) .skip)
       (.seq (.ifStar (.seq (.call 21 623 [0])
             (.ret 21)) .skip)
         (.ifStar (.seq (.call 22 651 [0])
             (.ret 22)) .skip))))))⟩

/-- <group>:method:evaluate_kernel (line 0); formals ['self', '*extra'] -/
def f819_group__method_evaluate_kernel : Fn := ⟨2,
 (.seq (.ifStar (.seq (.call 2 95 [0])
     (.ret 2)) .skip)
 (.ifStar (.seq (.call 3 173 [0])
     (.ret 3)) .skip))⟩

/-- <group>:method:_root_decomposition_size (line 0); formals ['self', '*extra'] -/
def f820_group__method__root_decomposition_size : Fn := ⟨2,
 (.seq (.ifStar (.seq (.call 2 63 [0])
     (.ret 2)) .skip)
 (.seq (.ifStar (.seq (.call 3 577 [0])
       (.ret 3)) .skip)
   (.ifStar (.seq (.call 4 659 [0])
       (.ret 4)) .skip)))⟩

/-- <group>:method:_preconditioner (line 0); formals ['self', '*extra'] -/
def f821_group__method__preconditioner : Fn := ⟨2,
 (.seq (.seq (.ifStar (.seq (.call 2 59 [0])
       (.ret 2)) .skip)
   (.ifStar (.seq (.call 3 167 [0])
       (.ret 3)) .skip))
 (.seq (.ifStar (.seq (.call 4 439 [0])
       (.ret 4)) .skip)
   (.ifStar (.seq (.call 5 494 [0])
       (.ret 5)) .skip)))⟩

/-- operators/_linear_operator.py:LinearOperator._solve_preconditioner.<locals>.preconditioner (line 854); formals ['v', 'Vt', 'S', 'U'] -/
def f822_operators__linear_operator__LinearOperator__solve_preconditioner__locals__preconditioner : Fn := ⟨4,
 (.seq (.seq (.seq (.ifStar (.assign 5 .fresh) (.call 5 805 [1, 0, 4]))
     (.assign 6 (.same 5)))
   (.seq (.assign 8 .fresh)
     (.ifStar (.assign 7 (.view 8)) (.call 7 782 [8, 4, 4]))))
 (.seq (.seq (.ifStar (.assign 9 .fresh) (.ifStar (.call 9 804 [6, 7, 4]) (.call 9 803 [7, 6, 4])))
     (.assign 6 (.same 9)))
   (.seq (.ifStar (.assign 10 .fresh) (.call 10 805 [3, 6, 4]))
     (.seq (.assign 6 (.same 10))
       (.ret 6)))))⟩

/-- <group>:method:_symeig (line 0); formals ['self', 'eigenvectors', 'return_evals_as_lazy', '*extra'] -/
def f823_group__method__symeig : Fn := ⟨4,
 (.seq (.seq (.seq (.ifStar (.seq (.call 4 70 [0, 1, 2])
         (.ret 4)) .skip)
     (.ifStar (.seq (.call 5 172 [0, 1, 2])
         (.ret 5)) .skip))
   (.seq (.ifStar (.seq (.call 6 195 [0, 1, 2])
         (.ret 6)) .skip)
     (.seq (.ifStar (.seq (.call 7 213 [0, 1, 2])
           (.ret 7)) .skip)
       (.ifStar (.seq (.call 8 344 [0, 1, 2])
           (.ret 8)) .skip))))
 (.seq (.seq (.ifStar (.seq (.call 9 379 [0, 1, 2])
         (.ret 9)) .skip)
     (.ifStar (.seq (.call 10 443 [0, 1, 2])
         (.ret 10)) .skip))
   (.seq (.ifStar (.seq (.call 11 467 [0, 1, 2])
         (.ret 11)) .skip)
     (.seq (.ifStar (.seq (.call 12 474 [0, 1, 2])
           (.ret 12)) .skip)
       (.ifStar (.seq (.call 13 483 [0, 1, 2])
           (.ret 13)) .skip)))))⟩

/-- <group>:method:to (line 0); formals ['self', '*extra'] -/
def f824_group__method_to : Fn := ⟨2,
 (.seq (.seq (.ifStar (.seq (.seq (.assign 2 (.join [1]))
         (.assign 3 (.join [1])))
       (.seq (.call 4 142 [0, 2, 3])
         (.ret 4))) .skip)
   (.seq (.ifStar (.seq (.seq (.assign 5 (.join [1]))
           (.assign 6 (.join [1])))
         (.seq (.call 7 258 [0, 5, 6])
           (.ret 7))) .skip)
     (.ifStar (.seq (.seq (.assign 8 (.join [1]))
           (.assign 9 (.join [1])))
         (.seq (.call 10 394 [0, 8, 9])
           (.ret 10))) .skip)))
 (.seq (.ifStar (.seq (.seq (.assign 11 (.join [1]))
         (.assign 12 (.join [1])))
       (.seq (.call 13 413 [0, 11, 12])
         (.ret 13))) .skip)
   (.seq (.ifStar (.seq (.seq (.assign 14 (.join [1]))
           (.assign 15 (.join [1])))
         (.seq (.call 16 518 [0, 14, 15])
           (.ret 16))) .skip)
     (.ifStar (.seq (.seq (.assign 17 (.join [1]))
           (.assign 18 (.join [1])))
         (.seq (.call 19 675 [0, 17, 18])
           (.ret 19))) .skip))))⟩

/-- <group>:method:__add__ (line 0); formals ['self', 'other', '*extra'] -/
def f825_group__method___add__ : Fn := ⟨3,
 (.seq (.seq (.seq (.ifStar (.seq (.call 3 149 [0, 1])
         (.ret 3)) .skip)
     (.seq (.ifStar (.seq (.call 4 166 [0, 1])
           (.ret 4)) .skip)
       (.ifStar (.seq (.call 5 310 [0, 1])
           (.ret 5)) .skip)))
   (.seq (.ifStar (.seq (.call 6 313 [0, 1])
         (.ret 6)) .skip)
     (.seq (.ifStar (.seq (.call 7 346 [0, 1])
           (.ret 7)) .skip)
       (.ifStar (.seq (.call 8 444 [0, 1])
           (.ret 8)) .skip))))
 (.seq (.seq (.ifStar (.seq (.call 9 450 [0, 1])
         (.ret 9)) .skip)
     (.seq (.ifStar (.seq (.call 10 499 [0, 1])
           (.ret 10)) .skip)
       (.ifStar (.seq (.call 11 503 [0, 1])
           (.ret 11)) .skip)))
   (.seq (.ifStar (.seq (.call 12 608 [0, 1])
         (.ret 12)) .skip)
     (.seq (.ifStar (.seq (.call 13 620 [0, 1])
           (.ret 13)) .skip)
       (.ifStar (.seq (.call 14 678 [0, 1])
           (.ret 14)) .skip)))))⟩

/-- <group>:method:__radd__ (line 0); formals ['self', 'other', 'alpha', '*extra'] -/
def f826_group__method___radd__ : Fn := ⟨4,
 (.ifStar (.seq (.call 4 155 [0, 1, 2])
   (.ret 4)) .skip)⟩

/-- <group>:method:inverse (line 0); formals ['self', '*extra'] -/
def f827_group__method_inverse : Fn := ⟨2,
 (.seq (.seq (.seq (.ifStar (.seq (.call 2 102 [0])
         (.ret 2)) .skip)
     (.ifStar (.seq (.call 3 272 [0])
         (.ret 3)) .skip))
   (.seq (.ifStar (.seq (.call 4 333 [0])
         (.ret 4)) .skip)
     (.seq (.ifStar (.seq (.call 5 357 [0])
           (.ret 5)) .skip)
       (.ifStar (.seq (.call 6 385 [0])
           (.ret 6)) .skip))))
 (.seq (.seq (.ifStar (.seq (.call 7 453 [0])
         (.ret 7)) .skip)
     (.ifStar (.seq (.call 8 471 [0])
         (.ret 8)) .skip))
   (.seq (.ifStar (.seq (.call 9 486 [0])
         (.ret 9)) .skip)
     (.seq (.ifStar (.seq (.call 10 546 [0])
           (.ret 10)) .skip)
       (.ifStar (.seq (.call 11 640 [0])
           (.ret 11)) .skip)))))⟩

/-- <group>:method:_cholesky (line 0); formals ['self', 'upper', '*extra'] -/
def f828_group__method__cholesky : Fn := ⟨3,
 (.seq (.seq (.seq (.ifStar (.seq (.call 3 53 [0, 1])
         (.ret 3)) .skip)
     (.ifStar (.seq (.call 4 175 [0, 1])
         (.ret 4)) .skip))
   (.seq (.ifStar (.seq (.call 5 200 [0, 1])
         (.ret 5)) .skip)
     (.seq (.ifStar (.seq (.call 6 216 [0, 1])
           (.ret 6)) .skip)
       (.ifStar (.seq (.call 7 262 [0, 1])
           (.ret 7)) .skip))))
 (.seq (.seq (.ifStar (.seq (.call 8 315 [0, 1])
         (.ret 8)) .skip)
     (.seq (.ifStar (.seq (.call 9 367 [0, 1])
           (.ret 9)) .skip)
       (.ifStar (.seq (.call 10 455 [0, 1])
           (.ret 10)) .skip)))
   (.seq (.ifStar (.seq (.call 11 472 [0, 1])
         (.ret 11)) .skip)
     (.seq (.ifStar (.seq (.call 12 478 [0, 1])
           (.ret 12)) .skip)
       (.ifStar (.seq (.call 13 621 [0, 1])
           (.ret 13)) .skip)))))⟩

/-- <group>:method:_transpose_nonbatch (line 0); formals ['self', '*extra'] -/
def f829_group__method__transpose_nonbatch : Fn := ⟨2,
 (.seq (.seq (.seq (.seq (.ifStar (.seq (.call 2 42 [0])
           (.ret 2)) .skip)
       (.ifStar (.seq (.call 3 189 [0])
           (.ret 3)) .skip))
     (.seq (.ifStar (.seq (.call 4 238 [0])
           (.ret 4)) .skip)
       (.seq (.ifStar (.seq (.call 5 251 [0])
             (.ret 5)) .skip)
         (.ifStar (.seq (.call 6 288 [0])
             (.ret 6)) .skip))))
   (.seq (.seq (.ifStar (.seq (.call 7 307 [0])
           (.ret 7)) .skip)
       (.seq (.ifStar (.seq (.call 8 328 [0])
             (.ret 8)) .skip)
         (.ifStar (.seq (.call 9 381 [0])
             (.ret 9)) .skip)))
     (.seq (.ifStar (.seq (.call 10 407 [0])
           (.ret 10)) .skip)
       (.seq (.ifStar (.seq (.call 11 419 [0])
             (.ret 11)) .skip)
         (.ifStar (.seq (.call 12 432 [0])
             (.ret 12)) .skip)))))
 (.seq (.seq (.seq (.ifStar (.seq (.call 13 469 [0])
           (.ret 13)) .skip)
       (.ifStar (.seq (.call 14 509 [0])
           (.ret 14)) .skip))
     (.seq (.ifStar (.seq (.call 15 531 [0])
           (.ret 15)) .skip)
       (.seq (.ifStar (.seq (.call 16 543 [0])
             (.ret 16)) .skip)
         (.ifStar (.seq (.call 17 555 [0])
             (.ret 17)) .skip))))
   (.seq (.seq (.ifStar (.seq (.call 18 561 [0])
           (.ret 18)) .skip)
       (.seq (.ifStar (.seq (.call 19 579 [0])
             (.ret 19)) .skip)
         (.ifStar (.seq (.call 20 606 [0])
             (.ret 20)) .skip)))
     (.seq (.ifStar (.seq (.call 21 617 [0])
           (.ret 21)) .skip)
       (.seq (.ifStar (.seq (.call 22 634 [0])
             (.ret 22)) .skip)
         (.ifStar (.seq (.call 23 664 [0])
             (.ret 23)) .skip))))))⟩

/-- <group>:method:cpu (line 0); formals ['self', '*extra'] -/
def f830_group__method_cpu : Fn := ⟨2,
 (.ifStar (.seq (.call 2 82 [0])
   (.ret 2)) .skip)⟩

/-- <group>:method:cuda (line 0); formals ['self', 'device_id', '*extra'] -/
def f831_group__method_cuda : Fn := ⟨3,
 (.ifStar (.seq (.call 3 83 [0, 1])
   (.ret 3)) .skip)⟩

/-- <group>:method:detach_ (line 0); formals ['self', '*extra'] -/
def f832_group__method_detach_ : Fn := ⟨2,
 (.ifStar (.seq (.call 2 86 [0])
   (.ret 2)) .skip)⟩

/-- <group>:method:mul (line 0); formals ['self', 'other', '*extra'] -/
def f833_group__method_mul : Fn := ⟨3,
 (.seq (.ifStar (.seq (.call 3 111 [0, 1])
     (.ret 3)) .skip)
 (.ifStar (.seq (.call 4 672 [0, 1])
     (.ret 4)) .skip))⟩

/-- <group>:method:type (line 0); formals ['self', 'dtype', '*extra'] -/
def f834_group__method_type : Fn := ⟨3,
 (.seq (.seq (.ifStar (.seq (.call 3 145 [0, 1])
       (.ret 3)) .skip)
   (.ifStar (.seq (.call 4 392 [0, 1])
       (.ret 4)) .skip))
 (.seq (.ifStar (.seq (.call 5 563 [0, 1])
       (.ret 5)) .skip)
   (.ifStar (.seq (.call 6 676 [0, 1])
       (.ret 6)) .skip)))⟩

/-- <group>:method:sum (line 0); formals ['self', 'dim', '*extra'] -/
def f835_group__method_sum : Fn := ⟨3,
 (.ifStar (.seq (.call 3 137 [0, 1])
   (.ret 3)) .skip)⟩

/-- <group>:method:_probe_vectors_and_norms (line 0); formals ['self', '*extra'] -/
def f836_group__method__probe_vectors_and_norms : Fn := ⟨2,
 (.ifStar (.seq (.call 2 60 [0])
   (.ret 2)) .skip)⟩

/-- <group>:method:numel (line 0); formals ['self', '*extra'] -/
def f837_group__method_numel : Fn := ⟨2,
 (.ifStar (.seq (.call 2 114 [0])
   (.ret 2)) .skip)⟩

/-- <group>:method:_isclose (line 0); formals ['self', 'other', 'rtol', 'atol', 'equal_nan', '*extra'] -/
def f838_group__method__isclose : Fn := ⟨6,
 (.seq (.ifStar (.seq (.call 6 151 [0, 1, 2, 3, 4])
     (.ret 6)) .skip)
 (.ifStar (.seq (.call 7 301 [0, 1, 2, 3, 4])
     (.ret 7)) .skip))⟩

/-- <group>:method:transpose (line 0); formals ['self', 'dim1', 'dim2', '*extra'] -/
def f839_group__method_transpose : Fn := ⟨4,
 (.seq (.ifStar (.seq (.call 4 144 [0, 1, 2])
     (.ret 4)) .skip)
 (.ifStar (.seq (.call 5 677 [0, 1, 2])
     (.ret 5)) .skip))⟩

def chunk13 : List Fn := [
  f780_group__method__approx_diagonal,
  f781_group__method_clone,
  f782_group__method_unsqueeze,
  f783_group__method_sqrt,
  f784_group__method_squeeze,
  f785_group__method___sub__,
  f786_group__method___rsub__,
  f787_group__method_detach,
  f788_group__method_requires_grad_,
  f789_group__method___getitem__,
  f790_group__method_backward,
  f791_functions__root_decomposition__RootDecomposition_backward__locals__is_empty,
  f792_group__method_cholesky,
  f793_group__method__cholesky_solve,
  f794_group__method__solve_preconditioner,
  f795_group__method__solve,
  f796_group__method_ndimension,
  f797_group__method___matmul__,
  f798_group__method___rmatmul__,
  f799_group__method__bilinear_derivative,
  f800_operators__linear_operator___implements__locals__decorator,
  f801_operators__linear_operator___implements_second_arg__locals__decorator,
  f802_operators__linear_operator___implements_symmetric__locals__decorator,
  f803_group__method___mul__,
  f804_group__method___rmul__,
  f805_group__method_matmul,
  f806_group__method__check_args,
  f807_group__property__args,
  f808_group__method_dim,
  f809_group__method_permute,
  f810_group__method__permute_batch,
  f811_group__property__kwargs,
  f812_group__method___init__,
  f813_group__method__getitem,
  f814_group__method_representation,
  f815_group__method__matmul,
  f816_group__method_repeat,
  f817_group__method__expand_batch,
  f818_group__method__diagonal,
  f819_group__method_evaluate_kernel,
  f820_group__method__root_decomposition_size,
  f821_group__method__preconditioner,
  f822_operators__linear_operator__LinearOperator__solve_preconditioner__locals__preconditioner,
  f823_group__method__symeig,
  f824_group__method_to,
  f825_group__method___add__,
  f826_group__method___radd__,
  f827_group__method_inverse,
  f828_group__method__cholesky,
  f829_group__method__transpose_nonbatch,
  f830_group__method_cpu,
  f831_group__method_cuda,
  f832_group__method_detach_,
  f833_group__method_mul,
  f834_group__method_type,
  f835_group__method_sum,
  f836_group__method__probe_vectors_and_norms,
  f837_group__method_numel,
  f838_group__method__isclose,
  f839_group__method_transpose]

end LinOp.Generated.C13P
