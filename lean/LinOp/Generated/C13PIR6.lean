import LinOp.C13.Model
import LinOp.Generated.C13PSigma
-- GENERATED by harness/extract/c13_alias.py from /repo/linear_operator (do not edit)
namespace LinOp.Generated.C13P
open LinOp.C13

/-- operators/diag_linear_operator.py:ConstantDiagLinearOperator.solve_triangular (line 424); formals ['self', 'rhs', 'upper', 'left', 'unitriangular'] -/
def f360_operators_diag_linear_operator__ConstantDiagLinearOperator_solve_triangular : Fn := ⟨5,
 (.seq (.ifStar .skip (.seq (.assign 7 (.view 0))
     (.ifStar .skip (.call 6 782 [7, 5, 5]))))
 (.seq (.assign 8 .fresh)
   (.ret 8)))⟩

/-- operators/diag_linear_operator.py:ConstantDiagLinearOperator.sqrt (line 432); formals ['self'] -/
def f361_operators_diag_linear_operator__ConstantDiagLinearOperator_sqrt : Fn := ⟨1,
 (.seq (.seq (.assign 3 (.view 0))
   (.seq (.call 4 783 [3, 1])
     (.assign 2 .fresh)))
 (.seq (.assign 6 .fresh)
   (.seq (.call 5 345 [6, 2, 1])
     (.ret 5))))⟩

/-- operators/identity_linear_operator.py:IdentityLinearOperator.__init__ (line 31); formals ['self', 'diag_shape', 'batch_shape', 'dtype', 'device'] -/
def f362_operators_identity_linear_operator__IdentityLinearOperator___init__ : Fn := ⟨5,
 (.seq (.seq (.seq (.assign 6 .fresh)
     (.seq (.assign 7 (.same 6))
       (.assign 9 (.join [1, 2, 3, 4]))))
   (.seq (.assign 10 (.join [1, 2, 3, 4]))
     (.seq (.call 8 39 [0, 9, 10])
       (.assign 11 (.view 7)))))
 (.seq (.seq (.assign 0 (.join [0, 11]))
     (.seq (.assign 0 (.join [0, 1]))
       (.assign 0 (.join [0, 2]))))
   (.seq (.assign 0 (.join [0, 3]))
     (.seq (.assign 0 (.join [0, 5]))
       (.ret 0)))))⟩

/-- operators/identity_linear_operator.py:IdentityLinearOperator.batch_shape (line 47); formals ['self'] -/
def f363_operators_identity_linear_operator__IdentityLinearOperator_batch_shape : Fn := ⟨1,
 (.ret 1)⟩

/-- operators/identity_linear_operator.py:IdentityLinearOperator.dtype (line 51); formals ['self'] -/
def f364_operators_identity_linear_operator__IdentityLinearOperator_dtype : Fn := ⟨1,
 (.seq (.assign 1 (.view 0))
 (.ret 1))⟩

/-- operators/identity_linear_operator.py:IdentityLinearOperator.device (line 55); formals ['self'] -/
def f365_operators_identity_linear_operator__IdentityLinearOperator_device : Fn := ⟨1,
 (.seq (.assign 1 (.view 0))
 (.ret 1))⟩

/-- operators/identity_linear_operator.py:IdentityLinearOperator._maybe_reshape_rhs (line 58); formals ['self', 'rhs'] -/
def f366_operators_identity_linear_operator__IdentityLinearOperator__maybe_reshape_rhs : Fn := ⟨2,
 (.seq (.call 3 703 [2, 2, 2])
 (.ifStar (.seq (.seq (.assign 4 .fresh)
       (.seq (.assign 5 (.same 4))
         (.assign 6 (.join [2, 5]))))
     (.seq (.assign 8 (.join [6]))
       (.seq (.ifStar (.assign 7 (.view 1)) (.call 7 776 [1, 8]))
         (.ret 7)))) (.ret 1)))⟩

/-- operators/identity_linear_operator.py:IdentityLinearOperator._cholesky (line 68); formals ['self', 'upper'] -/
def f367_operators_identity_linear_operator__IdentityLinearOperator__cholesky : Fn := ⟨2,
 (.seq (.ret 0)
 (.ret 0))⟩

/-- operators/identity_linear_operator.py:IdentityLinearOperator._cholesky_solve (line 73); formals ['self', 'rhs', 'upper'] -/
def f368_operators_identity_linear_operator__IdentityLinearOperator__cholesky_solve : Fn := ⟨3,
 (.seq (.call 4 883 [0, 1, 3])
 (.ret 4))⟩

/-- operators/identity_linear_operator.py:IdentityLinearOperator._expand_batch (line 80); formals ['self', 'batch_shape'] -/
def f369_operators_identity_linear_operator__IdentityLinearOperator__expand_batch : Fn := ⟨2,
 (.seq (.assign 4 .fresh)
 (.seq (.call 3 362 [4, 2, 1, 2, 2])
   (.ret 3)))⟩

/-- operators/identity_linear_operator.py:IdentityLinearOperator._getitem (line 87); formals ['self', 'row_index', 'col_index', 'batch_indices'] -/
def f370_operators_identity_linear_operator__IdentityLinearOperator__getitem : Fn := ⟨4,
 (.seq (.seq (.call 5 717 [1])
   (.seq (.call 6 717 [2])
     (.ifStar (.ifStar (.seq (.seq (.seq (.assign 7 (.join [1, 2, 3]))
               (.call 8 714 [0, 7]))
             (.seq (.ifStar (.call 9 789 [8, 4, 4]) (.assign 9 (.view 8)))
               (.seq (.assign 10 (.same 9))
                 (.assign 11 (.view 0)))))
           (.seq (.seq (.assign 12 (.view 0))
               (.assign 14 .fresh))
             (.seq (.call 13 362 [14, 4, 10, 11, 12])
               (.seq (.assign 15 (.same 13))
                 (.ret 15))))) (.ret 0)) .skip)))
 (.seq (.seq (.assign 16 (.join [3]))
     (.assign 18 (.join [16])))
   (.seq (.call 17 813 [0, 1, 2, 18])
     (.ret 17))))⟩

/-- operators/identity_linear_operator.py:IdentityLinearOperator._matmul (line 101); formals ['self', 'rhs'] -/
def f371_operators_identity_linear_operator__IdentityLinearOperator__matmul : Fn := ⟨2,
 (.seq (.call 3 883 [0, 1, 2])
 (.ret 3))⟩

/-- operators/identity_linear_operator.py:IdentityLinearOperator._mul_constant (line 107); formals ['self', 'other'] -/
def f372_operators_identity_linear_operator__IdentityLinearOperator__mul_constant : Fn := ⟨2,
 (.seq (.seq (.assign 3 .fresh)
   (.assign 5 .fresh))
 (.seq (.call 4 345 [5, 3, 2])
   (.ret 4)))⟩

/-- operators/identity_linear_operator.py:IdentityLinearOperator._permute_batch (line 112); formals ['self', 'dims'] -/
def f373_operators_identity_linear_operator__IdentityLinearOperator__permute_batch : Fn := ⟨2,
 (.seq (.seq (.seq (.assign 3 (.join [1]))
     (.assign 5 (.view 0)))
   (.seq (.assign 6 (.join [2, 3]))
     (.seq (.ifStar .skip (.call 4 809 [5, 6]))
       (.assign 7 (.same 2)))))
 (.seq (.seq (.assign 8 (.view 0))
     (.assign 9 (.view 0)))
   (.seq (.assign 11 .fresh)
     (.seq (.call 10 362 [11, 2, 7, 8, 9])
       (.ret 10)))))⟩

/-- operators/identity_linear_operator.py:IdentityLinearOperator._prod_batch (line 118); formals ['self', 'dim'] -/
def f374_operators_identity_linear_operator__IdentityLinearOperator__prod_batch : Fn := ⟨2,
 (.seq (.seq (.assign 3 .fresh)
   (.assign 5 .fresh))
 (.seq (.call 4 362 [5, 2, 3, 2, 2])
   (.ret 4)))⟩

/-- operators/identity_linear_operator.py:IdentityLinearOperator._root_decomposition (line 125); formals ['self'] -/
def f375_operators_identity_linear_operator__IdentityLinearOperator__root_decomposition : Fn := ⟨1,
 (.seq (.call 3 783 [0, 1])
 (.seq (.assign 2 .fresh)
   (.ret 2)))⟩

/-- operators/identity_linear_operator.py:IdentityLinearOperator._root_inv_decomposition (line 130); formals ['self', 'initial_vectors', 'test_vectors'] -/
def f376_operators_identity_linear_operator__IdentityLinearOperator__root_inv_decomposition : Fn := ⟨3,
 (.seq (.seq (.call 5 827 [0, 3])
   (.call 6 783 [5, 3]))
 (.seq (.assign 4 .fresh)
   (.ret 4)))⟩

/-- operators/identity_linear_operator.py:IdentityLinearOperator._size (line 137); formals ['self'] -/
def f377_operators_identity_linear_operator__IdentityLinearOperator__size : Fn := ⟨1,
 (.seq (.assign 1 .fresh)
 (.ret 1))⟩

/-- operators/identity_linear_operator.py:IdentityLinearOperator._svd (line 141); formals ['self'] -/
def f378_operators_identity_linear_operator__IdentityLinearOperator__svd : Fn := ⟨1,
 (.seq (.seq (.assign 2 (.view 0))
   (.seq (.ifStar (.call 2 860 [0, 1]) .skip)
     (.assign 3 (.same 2))))
 (.seq (.assign 4 (.join [0, 3]))
   (.seq (.ret 4)
     (.ret 0))))⟩

/-- operators/identity_linear_operator.py:IdentityLinearOperator._symeig (line 146); formals ['self', 'eigenvectors', 'return_evals_as_lazy'] -/
def f379_operators_identity_linear_operator__IdentityLinearOperator__symeig : Fn := ⟨3,
 (.seq (.seq (.assign 4 (.view 0))
   (.ifStar (.call 4 860 [0, 3]) .skip))
 (.seq (.assign 5 (.same 4))
   (.seq (.assign 6 (.join [0, 5]))
     (.ret 6))))⟩

/-- operators/identity_linear_operator.py:IdentityLinearOperator._t_matmul (line 153); formals ['self', 'rhs'] -/
def f380_operators_identity_linear_operator__IdentityLinearOperator__t_matmul : Fn := ⟨2,
 (.seq (.call 3 883 [0, 1, 2])
 (.ret 3))⟩

/-- operators/identity_linear_operator.py:IdentityLinearOperator._transpose_nonbatch (line 159); formals ['self'] -/
def f381_operators_identity_linear_operator__IdentityLinearOperator__transpose_nonbatch : Fn := ⟨1,
 (.ret 0)⟩

/-- operators/identity_linear_operator.py:IdentityLinearOperator._unsqueeze_batch (line 162); formals ['self', 'dim'] -/
def f382_operators_identity_linear_operator__IdentityLinearOperator__unsqueeze_batch : Fn := ⟨2,
 (.seq (.seq (.seq (.assign 3 (.join [2]))
     (.assign 4 (.same 3)))
   (.seq (.assign 4 (.join [1, 2, 4]))
     (.assign 5 .fresh)))
 (.seq (.seq (.assign 4 (.same 5))
     (.assign 7 .fresh))
   (.seq (.call 6 362 [7, 2, 4, 2, 2])
     (.ret 6))))⟩

/-- operators/identity_linear_operator.py:IdentityLinearOperator.abs (line 170); formals ['self'] -/
def f383_operators_identity_linear_operator__IdentityLinearOperator_abs : Fn := ⟨1,
 (.ret 0)⟩

/-- operators/identity_linear_operator.py:IdentityLinearOperator.exp (line 173); formals ['self'] -/
def f384_operators_identity_linear_operator__IdentityLinearOperator_exp : Fn := ⟨1,
 (.ret 0)⟩

/-- operators/identity_linear_operator.py:IdentityLinearOperator.inverse (line 176); formals ['self'] -/
def f385_operators_identity_linear_operator__IdentityLinearOperator_inverse : Fn := ⟨1,
 (.ret 0)⟩

/-- operators/identity_linear_operator.py:IdentityLinearOperator.inv_quad_logdet (line 179); formals ['self', 'inv_quad_rhs', 'logdet', 'reduce_inv_quad'] -/
def f386_operators_identity_linear_operator__IdentityLinearOperator_inv_quad_logdet : Fn := ⟨4,
 (.seq (.seq (.ifStar (.seq (.assign 5 .fresh)
       (.assign 6 (.same 5))) (.seq (.seq (.seq (.call 7 703 [4, 4, 4])
           (.assign 8 (.same 7)))
         (.seq (.call 9 808 [0, 4])
           (.call 10 808 [0, 4])))
       (.seq (.seq (.ifStar (.seq (.ifStar (.call 11 789 [8, 4, 4]) .skip)
               (.seq (.assign 12 (.view 1))
                 (.assign 1 (.same 12)))) .skip)
           (.assign 13 .fresh))
         (.seq (.assign 6 (.same 13))
           (.ifStar (.seq (.call 15 835 [6, 4, 4])
               (.seq (.assign 14 .fresh)
                 (.assign 6 (.same 14)))) .skip)))))
   (.ifStar (.seq (.assign 16 .fresh)
       (.assign 17 (.same 16))) (.seq (.assign 18 .fresh)
       (.assign 17 (.same 18)))))
 (.seq (.assign 19 (.join [6, 17]))
   (.ret 19)))⟩

/-- operators/identity_linear_operator.py:IdentityLinearOperator.log (line 215); formals ['self'] -/
def f387_operators_identity_linear_operator__IdentityLinearOperator_log : Fn := ⟨1,
 (.seq (.seq (.assign 2 (.view 0))
   (.seq (.assign 3 (.view 0))
     (.assign 4 (.join [1]))))
 (.seq (.seq (.assign 6 .fresh)
     (.assign 7 (.join [1, 4])))
   (.seq (.call 5 645 [6, 2, 3, 7])
     (.ret 5))))⟩

/-- operators/identity_linear_operator.py:IdentityLinearOperator.matmul (line 220); formals ['self', 'other'] -/
def f388_operators_identity_linear_operator__IdentityLinearOperator_matmul : Fn := ⟨2,
 (.seq (.seq (.call 3 808 [1, 2])
   (.seq (.ifStar (.seq (.ifStar (.assign 4 (.view 1)) (.call 4 782 [1, 2, 2]))
         (.assign 1 (.same 4))) .skip)
     (.call 5 883 [0, 1, 2])))
 (.seq (.assign 6 (.same 5))
   (.seq (.ifStar (.seq (.ifStar (.assign 7 (.view 6)) (.call 7 784 [6, 2, 2]))
         (.assign 6 (.same 7))) .skip)
     (.ret 6))))⟩

/-- operators/identity_linear_operator.py:IdentityLinearOperator.solve (line 233); formals ['self', 'right_tensor', 'left_tensor'] -/
def f389_operators_identity_linear_operator__IdentityLinearOperator_solve : Fn := ⟨3,
 (.seq (.seq (.call 4 883 [0, 1, 3])
   (.assign 5 (.same 4)))
 (.seq (.ifStar (.seq (.ifStar (.assign 6 .fresh) (.ifStar (.call 6 798 [5, 2, 3]) (.call 6 797 [2, 5, 3])))
       (.assign 5 (.same 6))) .skip)
   (.ret 5)))⟩

/-- operators/identity_linear_operator.py:IdentityLinearOperator.sqrt (line 243); formals ['self'] -/
def f390_operators_identity_linear_operator__IdentityLinearOperator_sqrt : Fn := ⟨1,
 (.ret 0)⟩

/-- operators/identity_linear_operator.py:IdentityLinearOperator.sqrt_inv_matmul (line 246); formals ['self', 'rhs', 'lhs'] -/
def f391_operators_identity_linear_operator__IdentityLinearOperator_sqrt_inv_matmul : Fn := ⟨3,
 (.ifStar (.seq (.call 4 883 [0, 1, 3])
   (.ret 4)) (.seq (.seq (.call 5 883 [0, 1, 3])
     (.seq (.ifStar (.assign 6 .fresh) (.ifStar (.call 6 798 [5, 2, 3]) (.call 6 797 [2, 5, 3])))
       (.assign 7 (.same 6))))
   (.seq (.seq (.assign 8 .fresh)
       (.assign 9 (.same 8)))
     (.seq (.assign 10 (.join [7, 9]))
       (.ret 10)))))⟩

/-- operators/identity_linear_operator.py:IdentityLinearOperator.type (line 258); formals ['self', 'dtype'] -/
def f392_operators_identity_linear_operator__IdentityLinearOperator_type : Fn := ⟨2,
 (.seq (.assign 4 .fresh)
 (.seq (.call 3 362 [4, 2, 2, 1, 2])
   (.ret 3)))⟩

/-- operators/identity_linear_operator.py:IdentityLinearOperator.zero_mean_mvn_samples (line 263); formals ['self', 'num_samples'] -/
def f393_operators_identity_linear_operator__IdentityLinearOperator_zero_mean_mvn_samples : Fn := ⟨2,
 (.seq (.assign 2 .fresh)
 (.seq (.assign 3 (.same 2))
   (.ret 3)))⟩

/-- operators/identity_linear_operator.py:IdentityLinearOperator.to (line 269); formals ['self', 'args', 'kwargs'] -/
def f394_operators_identity_linear_operator__IdentityLinearOperator_to : Fn := ⟨3,
 (.seq (.seq (.seq (.seq (.assign 4 (.join [1, 2]))
       (.seq (.assign 6 (.join [4]))
         (.assign 7 (.join [4]))))
     (.seq (.seq (.call 5 713 [6, 7])
         (.assign 8 (.view 5)))
       (.seq (.assign 9 (.same 8))
         (.assign 10 (.view 5)))))
   (.seq (.seq (.seq (.assign 11 (.same 10))
         (.assign 12 (.join [])))
       (.seq (.assign 13 (.same 12))
         (.assign 14 (.join []))))
     (.seq (.seq (.assign 15 (.same 14))
         (.assign 16 (.view 0)))
       (.seq (.ifStar (.call 16 807 [0, 3]) .skip)
         (.assign 17 (.same 16))))))
 (.seq (.seq (.seq (.seq (.whileStar ⟨[[0], [1], [2], [], [1, 2], [1, 2], [1, 2], [1, 2], [1, 2], [1, 2], [1, 2], [1, 2], [], [0, 1, 2], [], [], [0], [0], [0], [0], [0, 1, 2], [1, 2], [0, 1, 2], [1, 2]], [], []⟩ (.seq (.assign 18 (.view 17))
             (.seq (.assign 19 (.same 18))
               (.ifStar (.ifStar (.seq (.assign 21 (.join [9, 11]))
                 (.seq (.ifStar (.assign 20 (.maybeView 19)) (.call 20 824 [19, 21]))
                 (.assign 13 (.join [13, 20])))) (.seq (.assign 23 (.join [9]))
                 (.seq (.ifStar (.assign 22 (.maybeView 19)) (.call 22 824 [19, 23]))
                 (.assign 13 (.join [13, 22]))))) (.assign 13 (.join [13, 19]))))))
         (.assign 25 (.view 0)))
       (.seq (.ifStar (.call 25 811 [0, 3]) .skip)
         (.assign 26 (.same 25))))
     (.seq (.seq (.assign 24 (.join [26]))
         (.whileStar ⟨[[0], [1], [2], [], [1, 2], [1, 2], [1, 2], [1, 2], [1, 2], [1, 2], [1, 2], [1, 2], [], [0, 1, 2], [], [0, 1, 2], [0], [0], [0], [0], [0, 1, 2], [1, 2], [0, 1, 2], [1, 2], [0], [0], [0], [0], [0], [0], [0, 1, 2], [1, 2]], [], []⟩ (.seq (.seq (.assign 27 (.view 24))
               (.assign 28 (.view 27)))
             (.seq (.assign 29 (.same 28))
               (.ifStar (.seq (.assign 31 (.join [9, 11]))
                 (.seq (.ifStar (.assign 30 (.maybeView 29)) (.call 30 824 [29, 31]))
                 (.assign 15 (.join [15, 30])))) (.assign 15 (.join [15, 29])))))))
       (.seq (.ifStar (.assign 32 (.same 9)) (.assign 32 (.same 3)))
         (.assign 15 (.join [15, 32])))))
   (.seq (.seq (.seq (.ifStar (.assign 33 (.same 11)) (.assign 33 (.same 3)))
         (.assign 15 (.join [15, 33])))
       (.seq (.assign 34 (.join [13, 15]))
         (.assign 36 .fresh)))
     (.seq (.seq (.assign 38 (.join [34]))
         (.call 37 812 [36, 34, 34, 34, 34, 34, 34, 34, 34, 34, 34, 34, 34, 34, 34, 34, 34, 34, 34, 34, 34, 34, 34, 34, 34, 34, 34, 34, 34, 34, 34, 34, 34, 34, 34, 34, 34, 34, 34, 34, 34, 34, 34, 34, 34, 34, 34, 34, 34, 34, 34, 34, 34, 34, 38]))
       (.seq (.assign 35 (.join [34, 37]))
         (.ret 35))))))⟩

/-- operators/interpolated_linear_operator.py:InterpolatedLinearOperator._check_args (line 24); formals ['self', 'base_linear_op', 'left_interp_indices', 'left_interp_values', 'right_interp_indices', 'right_interp_values'] -/
def f395_operators_interpolated_linear_operator__InterpolatedLinearOperator__check_args : Fn := ⟨6,
 (.seq (.seq (.seq (.call 7 767 [2, 6, 6])
     (.call 8 767 [3, 6, 6]))
   (.seq (.ifStar (.seq (.seq (.call 9 767 [2, 6, 6])
           (.call 10 767 [3, 6, 6]))
         (.seq (.assign 11 .fresh)
           (.ret 11))) .skip)
     (.call 12 767 [4, 6, 6])))
 (.seq (.seq (.call 13 767 [5, 6, 6])
     (.ifStar (.seq (.seq (.call 14 767 [4, 6, 6])
           (.call 15 767 [5, 6, 6]))
         (.seq (.assign 16 .fresh)
           (.ret 16))) .skip))
   (.seq (.ifStar (.seq (.seq (.call 17 767 [2, 6, 6])
           (.call 18 767 [4, 6, 6]))
         (.seq (.assign 19 .fresh)
           (.ret 19))) .skip)
     (.ifStar (.seq (.seq (.call 20 767 [2, 6, 6])
           (.call 21 767 [1, 6, 6]))
         (.seq (.assign 22 .fresh)
           (.ret 22))) .skip))))⟩

/-- operators/interpolated_linear_operator.py:InterpolatedLinearOperator.__init__ (line 46); formals ['self', 'base_linear_op', 'left_interp_indices', 'left_interp_values', 'right_interp_indices', 'right_interp_values'] -/
def f396_operators_interpolated_linear_operator__InterpolatedLinearOperator___init__ : Fn := ⟨6,
 (.seq (.seq (.seq (.call 7 311 [1])
     (.seq (.assign 1 (.same 7))
       (.ifStar (.seq (.seq (.seq (.call 9 767 [1, 6, 6])
               (.assign 8 .fresh))
             (.seq (.assign 10 (.same 8))
               (.assign 11 .fresh)))
           (.seq (.seq (.assign 2 (.same 11))
               (.assign 12 (.join [6])))
             (.seq (.assign 14 (.join [6, 10, 12]))
               (.seq (.ifStar (.assign 13 (.view 2)) (.call 13 776 [2, 14]))
                 (.assign 2 (.same 13)))))) .skip)))
   (.seq (.seq (.ifStar (.seq (.call 15 767 [2, 6, 6])
           (.seq (.assign 16 .fresh)
             (.assign 3 (.same 16)))) .skip)
       (.ifStar (.seq (.seq (.seq (.call 18 767 [1, 6, 6])
               (.assign 17 .fresh))
             (.seq (.assign 19 (.same 17))
               (.assign 20 .fresh)))
           (.seq (.seq (.assign 4 (.same 20))
               (.assign 21 (.join [6])))
             (.seq (.assign 23 (.join [6, 19, 21]))
               (.seq (.ifStar (.assign 22 (.view 4)) (.call 22 776 [4, 23]))
                 (.assign 4 (.same 22)))))) .skip))
     (.seq (.ifStar (.seq (.call 24 767 [4, 6, 6])
           (.seq (.assign 25 .fresh)
             (.assign 5 (.same 25)))) .skip)
       (.ifStar (.ifStar (.seq (.ifStar (.assign 26 .fresh) (.call 26 817 [1, 6, 6]))
             (.assign 1 (.same 26))) (.seq (.ifStar (.ifStar (.assign 26 .fresh) (.call 26 817 [1, 6, 6])) .skip)
             (.seq (.ifStar (.assign 1 (.same 26)) .skip)
               (.ifStar (.seq (.call 27 767 [4, 6, 6])
                 (.call 28 767 [1, 6, 6])) .skip)))) .skip))))
 (.seq (.seq (.seq (.assign 30 (.join [1, 2, 3, 4, 5]))
       (.call 29 812 [0, 6, 6, 6, 6, 6, 6, 6, 6, 6, 6, 6, 6, 6, 6, 6, 6, 6, 6, 6, 6, 6, 6, 6, 6, 6, 6, 6, 6, 6, 6, 6, 6, 6, 6, 6, 6, 6, 6, 6, 6, 6, 6, 6, 6, 6, 6, 6, 6, 6, 6, 6, 6, 6, 30]))
     (.seq (.assign 0 (.join [0, 1]))
       (.assign 0 (.join [0, 2]))))
   (.seq (.seq (.assign 0 (.join [0, 3]))
       (.assign 0 (.join [0, 4])))
     (.seq (.assign 0 (.join [0, 5]))
       (.ret 0)))))⟩

/-- operators/interpolated_linear_operator.py:InterpolatedLinearOperator._approx_diagonal (line 97); formals ['self'] -/
def f397_operators_interpolated_linear_operator__InterpolatedLinearOperator__approx_diagonal : Fn := ⟨1,
 (.seq (.seq (.seq (.seq (.assign 4 (.view 0))
       (.call 3 818 [4, 1]))
     (.seq (.assign 2 .fresh)
       (.assign 5 (.same 2))))
   (.seq (.seq (.assign 6 (.view 0))
       (.assign 7 (.view 0)))
     (.seq (.ifStar (.assign 8 (.view 5)) (.call 8 782 [5, 1, 1]))
       (.seq (.call 9 719 [6, 7, 8])
         (.assign 10 (.same 9))))))
 (.seq (.seq (.seq (.assign 11 (.view 0))
       (.assign 12 (.view 0)))
     (.seq (.ifStar (.assign 13 (.view 5)) (.call 13 782 [5, 1, 1]))
       (.call 14 719 [11, 12, 13])))
   (.seq (.seq (.assign 15 (.same 14))
       (.ifStar (.assign 16 .fresh) (.ifStar (.call 16 804 [15, 10, 1]) (.call 16 803 [10, 15, 1]))))
     (.seq (.assign 17 (.same 16))
       (.seq (.ifStar (.assign 18 (.view 17)) (.call 18 784 [17, 1, 1]))
         (.ret 18))))))⟩

/-- operators/interpolated_linear_operator.py:InterpolatedLinearOperator._diagonal (line 104); formals ['self'] -/
def f398_operators_interpolated_linear_operator__InterpolatedLinearOperator__diagonal : Fn := ⟨1,
 (.ifStar (.seq (.seq (.seq (.seq (.assign 2 (.view 0))
         (.assign 3 (.view 0)))
       (.seq (.assign 5 (.view 0))
         (.assign 6 (.view 5))))
     (.seq (.seq (.ifStar (.assign 4 (.maybeView 6)) (.call 4 778 [6, 1, 1, 1, 1, 1]))
         (.call 7 719 [2, 3, 4]))
       (.seq (.assign 8 (.same 7))
         (.seq (.assign 9 (.view 0))
           (.assign 10 (.view 0))))))
   (.seq (.seq (.seq (.assign 12 (.view 0))
         (.assign 13 (.view 12)))
       (.seq (.ifStar (.assign 11 (.maybeView 13)) (.call 11 778 [13, 1, 1, 1, 1, 1]))
         (.call 14 719 [9, 10, 11])))
     (.seq (.seq (.assign 15 (.same 14))
         (.ifStar (.assign 17 .fresh) (.ifStar (.call 17 804 [15, 8, 1]) (.call 17 803 [8, 15, 1]))))
       (.seq (.call 18 835 [17, 1, 1])
         (.seq (.assign 16 .fresh)
           (.ret 16)))))) (.seq (.call 19 818 [0, 1])
   (.ret 19)))⟩

/-- operators/interpolated_linear_operator.py:InterpolatedLinearOperator._expand_batch (line 118); formals ['self', 'batch_shape'] -/
def f399_operators_interpolated_linear_operator__InterpolatedLinearOperator__expand_batch : Fn := ⟨2,
 (.seq (.seq (.seq (.seq (.assign 4 (.view 0))
       (.call 3 817 [4, 1, 2]))
     (.seq (.assign 5 (.join [1, 2]))
       (.seq (.assign 7 (.view 0))
         (.assign 8 (.join [5])))))
   (.seq (.seq (.ifStar (.assign 6 (.view 7)) (.call 6 776 [7, 8]))
       (.seq (.assign 9 (.join [1, 2]))
         (.assign 11 (.view 0))))
     (.seq (.assign 12 (.join [9]))
       (.seq (.ifStar (.assign 10 (.view 11)) (.call 10 776 [11, 12]))
         (.assign 13 (.join [1, 2]))))))
 (.seq (.seq (.seq (.assign 15 (.view 0))
       (.seq (.assign 16 (.join [13]))
         (.ifStar (.assign 14 (.view 15)) (.call 14 776 [15, 16]))))
     (.seq (.assign 17 (.join [1, 2]))
       (.seq (.assign 19 (.view 0))
         (.assign 20 (.join [17])))))
   (.seq (.seq (.ifStar (.assign 18 (.view 19)) (.call 18 776 [19, 20]))
       (.seq (.assign 22 .fresh)
         (.assign 24 (.join [3, 6, 10, 14, 18]))))
     (.seq (.call 23 812 [22, 2, 2, 2, 2, 2, 2, 2, 2, 2, 2, 2, 2, 2, 2, 2, 2, 2, 2, 2, 2, 2, 2, 2, 2, 2, 2, 2, 2, 2, 2, 2, 2, 2, 2, 2, 2, 2, 2, 2, 2, 2, 2, 2, 2, 2, 2, 2, 2, 2, 2, 2, 2, 2, 24])
       (.seq (.assign 21 (.join [3, 6, 10, 14, 18, 23]))
         (.ret 21))))))⟩

/-- operators/interpolated_linear_operator.py:InterpolatedLinearOperator._get_indices (line 129); formals ['self', 'row_index', 'col_index', 'batch_indices'] -/
def f400_operators_interpolated_linear_operator__InterpolatedLinearOperator__get_indices : Fn := ⟨4,
 (.seq (.seq (.seq (.seq (.seq (.assign 6 (.join [1, 3]))
         (.assign 8 (.view 0)))
       (.seq (.ifStar (.assign 7 (.view 8)) (.call 7 789 [8, 6, 4]))
         (.ifStar (.assign 5 (.view 7)) (.call 5 782 [7, 4, 4]))))
     (.seq (.seq (.assign 9 (.same 5))
         (.assign 11 (.join [2, 3])))
       (.seq (.assign 13 (.view 0))
         (.seq (.ifStar (.assign 12 (.view 13)) (.call 12 789 [13, 11, 4]))
           (.ifStar (.assign 10 (.view 12)) (.call 10 782 [12, 4, 4]))))))
   (.seq (.seq (.seq (.assign 14 (.same 10))
         (.assign 15 .fresh))
       (.seq (.assign 17 (.view 3))
         (.assign 16 (.same 17))))
     (.seq (.seq (.whileStar ⟨[[0], [1], [2], [3], [], [0, 1, 3], [1, 3], [0, 1, 3], [0], [0, 1, 3], [0, 2, 3], [2, 3], [0, 2, 3], [0], [0, 2, 3], [3], [3], [3], [3], [3]], [], []⟩ (.seq (.seq (.assign 18 (.view 3))
               (.assign 16 (.same 18)))
             (.seq (.assign 19 (.view 16))
               (.assign 15 (.join [15, 19])))))
         (.assign 20 (.join [15])))
       (.seq (.assign 22 (.view 0))
         (.seq (.assign 23 (.join [20]))
           (.call 21 857 [22, 9, 14, 23]))))))
 (.seq (.seq (.seq (.seq (.assign 24 (.same 21))
         (.assign 26 (.join [1, 3])))
       (.seq (.assign 28 (.view 0))
         (.ifStar (.assign 27 (.view 28)) (.call 27 789 [28, 26, 4]))))
     (.seq (.seq (.ifStar (.assign 25 (.view 27)) (.call 25 782 [27, 4, 4]))
         (.assign 29 (.same 25)))
       (.seq (.assign 31 (.join [2, 3]))
         (.seq (.assign 33 (.view 0))
           (.ifStar (.assign 32 (.view 33)) (.call 32 789 [33, 31, 4]))))))
   (.seq (.seq (.seq (.ifStar (.assign 30 (.view 32)) (.call 30 782 [32, 4, 4]))
         (.assign 34 (.same 30)))
       (.seq (.ifStar (.assign 35 .fresh) (.ifStar (.call 35 804 [34, 29, 4]) (.call 35 803 [29, 34, 4])))
         (.seq (.assign 36 (.same 35))
           (.assign 37 (.join [4])))))
     (.seq (.seq (.ifStar (.assign 39 .fresh) (.ifStar (.call 39 804 [36, 24, 4]) (.call 39 803 [24, 36, 4])))
         (.call 40 835 [39, 37, 4]))
       (.seq (.assign 38 .fresh)
         (.seq (.assign 41 (.same 38))
           (.ret 41)))))))⟩

/-- operators/interpolated_linear_operator.py:InterpolatedLinearOperator._getitem (line 145); formals ['self', 'row_index', 'col_index', 'batch_indices'] -/
def f401_operators_interpolated_linear_operator__InterpolatedLinearOperator__getitem : Fn := ⟨4,
 (.seq (.seq (.seq (.seq (.seq (.assign 5 (.view 0))
         (.assign 6 (.same 5)))
       (.seq (.assign 7 (.view 0))
         (.assign 8 (.same 7))))
     (.seq (.seq (.assign 9 (.view 0))
         (.assign 10 (.same 9)))
       (.seq (.assign 11 (.view 0))
         (.assign 12 (.same 11)))))
   (.seq (.seq (.seq (.assign 13 (.view 0))
         (.assign 14 (.same 13)))
       (.seq (.ifStar (.seq (.seq (.assign 15 (.join [3]))
               (.assign 17 (.join [15])))
             (.seq (.call 16 813 [6, 4, 4, 17])
               (.assign 6 (.same 16)))) .skip)
         (.ifStar (.seq (.seq (.seq (.seq (.ifStar (.call 18 789 [8, 3, 4]) (.assign 18 (.maybeView 8)))
                 (.assign 8 (.same 18)))
                 (.seq (.ifStar (.call 19 789 [10, 3, 4]) (.assign 19 (.maybeView 10)))
                 (.assign 10 (.same 19))))
               (.seq (.seq (.ifStar (.call 20 789 [12, 3, 4]) (.assign 20 (.maybeView 12)))
                 (.assign 12 (.same 20)))
                 (.seq (.ifStar (.call 21 789 [14, 3, 4]) (.assign 21 (.maybeView 14)))
                 (.assign 14 (.same 21)))))
             (.seq (.seq (.seq (.assign 22 (.view 0))
                 (.ifStar (.call 22 811 [0, 4]) .skip))
                 (.seq (.assign 23 (.same 22))
                 (.assign 24 (.join [23]))))
               (.seq (.seq (.assign 26 .fresh)
                 (.assign 28 (.join [6, 8, 10, 12, 14, 24])))
                 (.seq (.call 27 812 [26, 24, 24, 24, 24, 24, 24, 24, 24, 24, 24, 24, 24, 24, 24, 24, 24, 24, 24, 24, 24, 24, 24, 24, 24, 24, 24, 24, 24, 24, 24, 24, 24, 24, 24, 24, 24, 24, 24, 24, 24, 24, 24, 24, 24, 24, 24, 24, 24, 24, 24, 24, 24, 24, 28])
                 (.seq (.assign 25 (.join [6, 8, 10, 12, 14, 24, 27]))
                 (.ret 25)))))) .skip)))
     (.seq (.seq (.assign 29 (.join [1, 3, 4]))
         (.ifStar (.call 30 789 [8, 29, 4]) (.assign 30 (.maybeView 8))))
       (.seq (.assign 8 (.same 30))
         (.seq (.assign 31 (.join [1, 3, 4]))
           (.ifStar (.call 32 789 [10, 31, 4]) (.assign 32 (.maybeView 10))))))))
 (.seq (.seq (.seq (.seq (.assign 10 (.same 32))
         (.assign 33 (.join [2, 3, 4])))
       (.seq (.ifStar (.call 34 789 [12, 33, 4]) (.assign 34 (.maybeView 12)))
         (.assign 12 (.same 34))))
     (.seq (.seq (.assign 35 (.join [2, 3, 4]))
         (.ifStar (.call 36 789 [14, 35, 4]) (.assign 36 (.maybeView 14))))
       (.seq (.assign 14 (.same 36))
         (.assign 37 (.view 0)))))
   (.seq (.seq (.seq (.ifStar (.call 37 811 [0, 4]) .skip)
         (.assign 38 (.same 37)))
       (.seq (.assign 39 (.join [38]))
         (.assign 41 .fresh)))
     (.seq (.seq (.assign 43 (.join [6, 8, 10, 12, 14, 39]))
         (.call 42 812 [41, 39, 39, 39, 39, 39, 39, 39, 39, 39, 39, 39, 39, 39, 39, 39, 39, 39, 39, 39, 39, 39, 39, 39, 39, 39, 39, 39, 39, 39, 39, 39, 39, 39, 39, 39, 39, 39, 39, 39, 39, 39, 39, 39, 39, 39, 39, 39, 39, 39, 39, 39, 39, 39, 43]))
       (.seq (.assign 40 (.join [6, 8, 10, 12, 14, 39, 42]))
         (.seq (.assign 44 (.same 40))
           (.ret 44)))))))⟩

/-- operators/interpolated_linear_operator.py:InterpolatedLinearOperator._matmul (line 191); formals ['self', 'rhs'] -/
def f402_operators_interpolated_linear_operator__InterpolatedLinearOperator__matmul : Fn := ⟨2,
 (.seq (.seq (.seq (.seq (.assign 3 (.view 0))
       (.assign 4 (.view 0)))
     (.seq (.call 5 884 [0, 3, 4, 2])
       (.seq (.assign 6 (.same 5))
         (.assign 7 (.view 0)))))
   (.seq (.seq (.assign 8 (.view 0))
       (.seq (.call 9 885 [0, 7, 8, 2])
         (.assign 10 (.same 9))))
     (.seq (.ifStar (.seq (.assign 11 (.view 1))
           (.assign 1 (.same 11))) .skip)
       (.seq (.call 12 750 [10, 1])
         (.assign 13 (.same 12))))))
 (.seq (.seq (.seq (.assign 15 (.view 0))
       (.call 14 815 [15, 13, 2]))
     (.seq (.assign 16 (.same 14))
       (.seq (.assign 17 (.view 6))
         (.ifStar (.call 17 777 [6, 2]) .skip))))
   (.seq (.seq (.assign 18 (.same 17))
       (.seq (.assign 19 (.same 18))
         (.call 20 750 [19, 16])))
     (.seq (.assign 21 (.same 20))
       (.seq (.ifStar (.seq (.ifStar (.assign 22 (.view 21)) (.call 22 784 [21, 2, 2]))
             (.assign 21 (.same 22))) .skip)
         (.ret 21))))))⟩

/-- operators/interpolated_linear_operator.py:InterpolatedLinearOperator._mul_constant (line 220); formals ['self', 'other'] -/
def f403_operators_interpolated_linear_operator__InterpolatedLinearOperator__mul_constant : Fn := ⟨2,
 (.seq (.seq (.seq (.assign 4 (.view 0))
     (.call 3 840 [4, 1, 2]))
   (.seq (.assign 5 (.view 0))
     (.seq (.assign 6 (.view 0))
       (.assign 7 (.view 0)))))
 (.seq (.seq (.assign 8 (.view 0))
     (.seq (.assign 10 .fresh)
       (.assign 12 (.join [3, 5, 6, 7, 8]))))
   (.seq (.call 11 812 [10, 2, 2, 2, 2, 2, 2, 2, 2, 2, 2, 2, 2, 2, 2, 2, 2, 2, 2, 2, 2, 2, 2, 2, 2, 2, 2, 2, 2, 2, 2, 2, 2, 2, 2, 2, 2, 2, 2, 2, 2, 2, 2, 2, 2, 2, 2, 2, 2, 2, 2, 2, 2, 2, 12])
     (.seq (.assign 9 (.join [3, 5, 6, 7, 8, 11]))
       (.ret 9)))))⟩

/-- operators/interpolated_linear_operator.py:InterpolatedLinearOperator._t_matmul (line 233); formals ['self', 'rhs'] -/
def f404_operators_interpolated_linear_operator__InterpolatedLinearOperator__t_matmul : Fn := ⟨2,
 (.seq (.seq (.seq (.seq (.assign 3 (.view 0))
       (.assign 4 (.view 0)))
     (.seq (.call 5 884 [0, 3, 4, 2])
       (.seq (.assign 6 (.same 5))
         (.assign 7 (.view 0)))))
   (.seq (.seq (.assign 8 (.view 0))
       (.seq (.call 9 885 [0, 7, 8, 2])
         (.assign 10 (.same 9))))
     (.seq (.call 11 796 [1, 2])
       (.seq (.ifStar (.seq (.ifStar (.assign 12 (.view 1)) (.call 12 782 [1, 2, 2]))
             (.assign 1 (.same 12))) .skip)
         (.call 13 750 [6, 1])))))
 (.seq (.seq (.seq (.assign 14 (.same 13))
       (.seq (.assign 16 (.view 0))
         (.call 15 878 [16, 14, 2])))
     (.seq (.assign 17 (.same 15))
       (.seq (.assign 18 (.view 10))
         (.ifStar (.call 18 777 [10, 2]) .skip))))
   (.seq (.seq (.assign 19 (.same 18))
       (.seq (.assign 20 (.same 19))
         (.call 21 750 [20, 17])))
     (.seq (.assign 22 (.same 21))
       (.seq (.ifStar (.seq (.ifStar (.assign 23 (.view 22)) (.call 23 784 [22, 2, 2]))
             (.assign 22 (.same 23))) .skip)
         (.ret 22))))))⟩

/-- operators/interpolated_linear_operator.py:InterpolatedLinearOperator._bilinear_derivative (line 262); formals ['self', 'left_vecs', 'right_vecs'] -/
def f405_operators_interpolated_linear_operator__InterpolatedLinearOperator__bilinear_derivative : Fn := ⟨3,
 (.seq (.seq (.seq (.seq (.seq (.assign 4 (.view 0))
         (.seq (.assign 5 (.view 0))
           (.call 6 884 [0, 4, 5, 3])))
       (.seq (.assign 7 (.same 6))
         (.seq (.assign 8 (.view 0))
           (.assign 9 (.view 0)))))
     (.seq (.seq (.call 10 885 [0, 8, 9, 3])
         (.seq (.assign 11 (.same 10))
           (.ifStar (.seq (.seq (.assign 12 (.view 1))
                 (.assign 1 (.same 12)))
               (.seq (.assign 13 (.view 2))
                 (.assign 2 (.same 13)))) .skip)))
       (.seq (.seq (.call 14 750 [7, 1])
           (.assign 15 (.same 14)))
         (.seq (.call 16 750 [11, 2])
           (.assign 17 (.same 16))))))
   (.seq (.seq (.seq (.assign 19 (.view 0))
         (.seq (.call 18 799 [19, 15, 17, 3])
           (.assign 20 (.join [18]))))
       (.seq (.assign 21 (.same 20))
         (.seq (.call 22 767 [17, 3, 3])
           (.assign 23 (.view 0)))))
     (.seq (.seq (.call 24 767 [23, 3, 3])
         (.seq (.assign 25 (.view 0))
           (.call 26 767 [25, 3, 3])))
       (.seq (.seq (.assign 27 (.view 0))
           (.call 28 767 [27, 3, 3]))
         (.seq (.assign 29 (.view 0))
           (.call 30 767 [29, 3, 3]))))))
 (.seq (.seq (.seq (.seq (.call 31 767 [17, 3, 3])
         (.seq (.assign 33 (.view 0))
           (.call 32 815 [33, 17, 3])))
       (.seq (.ifStar (.seq (.seq (.seq (.assign 35 .fresh)
                 (.assign 34 (.view 35)))
               (.seq (.assign 36 (.same 34))
                 (.write 36)))
             (.seq (.seq (.assign 38 (.same 36))
                 (.write 38))
               (.seq (.assign 37 (.same 38))
                 (.write 37)))) .skip)
         (.seq (.assign 39 .fresh)
           (.assign 40 (.same 39)))))
     (.seq (.seq (.assign 41 (.view 40))
         (.seq (.assign 40 (.same 41))
           (.assign 42 .fresh)))
       (.seq (.seq (.assign 43 (.same 42))
           (.assign 45 (.view 0)))
         (.seq (.call 44 878 [45, 15, 3])
           (.ifStar (.seq (.seq (.seq (.assign 47 .fresh)
                 (.assign 46 (.view 47)))
                 (.seq (.assign 36 (.same 46))
                 (.write 36)))
               (.seq (.seq (.assign 49 (.same 36))
                 (.write 49))
                 (.seq (.assign 48 (.same 49))
                 (.write 48)))) .skip)))))
   (.seq (.seq (.seq (.assign 50 .fresh)
         (.seq (.assign 51 (.same 50))
           (.assign 52 (.view 51))))
       (.seq (.assign 51 (.same 52))
         (.seq (.assign 53 .fresh)
           (.assign 54 (.same 53)))))
     (.seq (.seq (.assign 55 .fresh)
         (.seq (.assign 56 .fresh)
           (.assign 57 (.join [43, 54, 55, 56]))))
       (.seq (.seq (.assign 58 (.join [21, 57]))
           (.assign 59 (.join [58])))
         (.seq (.assign 60 (.same 59))
           (.ret 60)))))))⟩

/-- operators/interpolated_linear_operator.py:InterpolatedLinearOperator._size (line 330); formals ['self'] -/
def f406_operators_interpolated_linear_operator__InterpolatedLinearOperator__size : Fn := ⟨1,
 (.seq (.seq (.assign 2 (.view 0))
   (.seq (.call 3 767 [2, 1, 1])
     (.assign 4 (.view 0))))
 (.seq (.call 5 767 [4, 1, 1])
   (.seq (.assign 6 .fresh)
     (.ret 6))))⟩

/-- operators/interpolated_linear_operator.py:InterpolatedLinearOperator._transpose_nonbatch (line 335); formals ['self'] -/
def f407_operators_interpolated_linear_operator__InterpolatedLinearOperator__transpose_nonbatch : Fn := ⟨1,
 (.seq (.seq (.seq (.seq (.assign 2 (.view 0))
       (.assign 3 (.view 2)))
     (.seq (.ifStar (.call 3 777 [2, 1]) .skip)
       (.assign 4 (.same 3))))
   (.seq (.seq (.assign 5 (.view 0))
       (.assign 6 (.view 0)))
     (.seq (.assign 7 (.view 0))
       (.seq (.assign 8 (.view 0))
         (.assign 9 (.view 0))))))
 (.seq (.seq (.seq (.ifStar (.call 9 811 [0, 1]) .skip)
       (.assign 10 (.same 9)))
     (.seq (.assign 11 (.join [10]))
       (.assign 13 .fresh)))
   (.seq (.seq (.assign 15 (.join [4, 5, 6, 7, 8, 11]))
       (.call 14 812 [13, 11, 11, 11, 11, 11, 11, 11, 11, 11, 11, 11, 11, 11, 11, 11, 11, 11, 11, 11, 11, 11, 11, 11, 11, 11, 11, 11, 11, 11, 11, 11, 11, 11, 11, 11, 11, 11, 11, 11, 11, 11, 11, 11, 11, 11, 11, 11, 11, 11, 11, 11, 11, 11, 15]))
     (.seq (.assign 12 (.join [4, 5, 6, 7, 8, 11, 14]))
       (.seq (.assign 16 (.same 12))
         (.ret 16))))))⟩

/-- operators/interpolated_linear_operator.py:InterpolatedLinearOperator._sparse_left_interp_t (line 346); formals ['self', 'left_interp_indices_tensor', 'left_interp_values_tensor'] -/
def f408_operators_interpolated_linear_operator__InterpolatedLinearOperator__sparse_left_interp_t : Fn := ⟨3,
 (.seq (.seq (.seq (.ifStar (.ifStar (.seq (.assign 4 (.view 0))
           (.ret 4)) .skip) .skip)
     (.assign 5 (.view 0)))
   (.seq (.call 6 767 [5, 3, 3])
     (.seq (.call 7 749 [1, 2, 3])
       (.assign 8 (.same 7)))))
 (.seq (.seq (.assign 0 (.join [0, 1]))
     (.assign 0 (.join [0, 2])))
   (.seq (.assign 0 (.join [0, 8]))
     (.seq (.assign 9 (.view 0))
       (.ret 9)))))⟩

/-- operators/interpolated_linear_operator.py:InterpolatedLinearOperator._sparse_right_interp_t (line 361); formals ['self', 'right_interp_indices_tensor', 'right_interp_values_tensor'] -/
def f409_operators_interpolated_linear_operator__InterpolatedLinearOperator__sparse_right_interp_t : Fn := ⟨3,
 (.seq (.seq (.seq (.ifStar (.ifStar (.seq (.assign 4 (.view 0))
           (.ret 4)) .skip) .skip)
     (.assign 5 (.view 0)))
   (.seq (.call 6 767 [5, 3, 3])
     (.seq (.call 7 749 [1, 2, 3])
       (.assign 8 (.same 7)))))
 (.seq (.seq (.assign 0 (.join [0, 1]))
     (.assign 0 (.join [0, 2])))
   (.seq (.assign 0 (.join [0, 8]))
     (.seq (.assign 9 (.view 0))
       (.ret 9)))))⟩

/-- operators/interpolated_linear_operator.py:InterpolatedLinearOperator._sum_batch (line 376); formals ['self', 'dim'] -/
def f410_operators_interpolated_linear_operator__InterpolatedLinearOperator__sum_batch : Fn := ⟨2,
 (.seq (.seq (.seq (.seq (.seq (.seq (.assign 3 (.view 0))
           (.assign 4 (.same 3)))
         (.seq (.assign 5 (.view 0))
           (.assign 6 (.same 5))))
       (.seq (.seq (.assign 7 (.view 0))
           (.assign 8 (.same 7)))
         (.seq (.assign 9 (.view 0))
           (.assign 10 (.same 9)))))
     (.seq (.seq (.seq (.call 11 767 [4, 1, 2])
           (.assign 12 .fresh))
         (.seq (.assign 13 (.same 12))
           (.call 14 808 [0, 2])))
       (.seq (.seq (.call 15 704 [13, 2, 2])
           (.assign 13 (.same 15)))
         (.seq (.assign 16 (.view 0))
           (.seq (.call 17 767 [16, 2, 2])
             (.assign 18 .fresh))))))
   (.seq (.seq (.seq (.seq (.assign 13 (.same 18))
           (.ifStar (.assign 19 .fresh) (.call 19 886 [4, 13, 2, 2])))
         (.seq (.assign 4 (.same 19))
           (.call 20 767 [8, 1, 2])))
       (.seq (.seq (.assign 21 .fresh)
           (.assign 22 (.same 21)))
         (.seq (.call 23 808 [0, 2])
           (.call 24 704 [22, 2, 2]))))
     (.seq (.seq (.seq (.assign 22 (.same 24))
           (.assign 25 (.view 0)))
         (.seq (.call 26 767 [25, 2, 2])
           (.assign 27 .fresh)))
       (.seq (.seq (.assign 22 (.same 27))
           (.ifStar (.assign 28 .fresh) (.call 28 886 [8, 22, 2, 2])))
         (.seq (.assign 8 (.same 28))
           (.seq (.assign 29 .fresh)
             (.call 30 808 [0, 2])))))))
 (.seq (.seq (.seq (.seq (.seq (.assign 31 .fresh)
           (.assign 32 (.join [1, 29, 31])))
         (.seq (.assign 33 (.same 32))
           (.assign 34 (.join [2]))))
       (.seq (.seq (.assign 35 (.same 34))
           (.assign 36 (.join [2])))
         (.seq (.assign 37 (.same 36))
           (.assign 40 (.join [33])))))
     (.seq (.seq (.seq (.ifStar (.assign 39 (.view 4)) (.call 39 809 [4, 40]))
           (.assign 41 (.join [35])))
         (.seq (.ifStar (.assign 38 (.maybeView 39)) (.call 38 856 [39, 41]))
           (.assign 4 (.same 38))))
       (.seq (.seq (.assign 44 (.join [33]))
           (.ifStar (.assign 43 (.view 6)) (.call 43 809 [6, 44])))
         (.seq (.assign 45 (.join [35]))
           (.seq (.ifStar (.assign 42 (.maybeView 43)) (.call 42 856 [43, 45]))
             (.assign 6 (.same 42)))))))
   (.seq (.seq (.seq (.seq (.assign 48 (.join [33]))
           (.ifStar (.assign 47 (.view 8)) (.call 47 809 [8, 48])))
         (.seq (.assign 49 (.join [37]))
           (.ifStar (.assign 46 (.maybeView 47)) (.call 46 856 [47, 49]))))
       (.seq (.seq (.assign 8 (.same 46))
           (.assign 52 (.join [33])))
         (.seq (.ifStar (.assign 51 (.view 10)) (.call 51 809 [10, 52]))
           (.assign 53 (.join [37])))))
     (.seq (.seq (.seq (.ifStar (.assign 50 (.maybeView 51)) (.call 50 856 [51, 53]))
           (.assign 10 (.same 50)))
         (.seq (.assign 54 (.view 0))
           (.assign 56 .fresh)))
       (.seq (.seq (.call 55 197 [56, 54, 1])
           (.assign 57 (.same 55)))
         (.seq (.assign 59 .fresh)
           (.seq (.call 58 396 [59, 57, 4, 6, 8, 10])
             (.ret 58))))))))⟩

/-- operators/interpolated_linear_operator.py:InterpolatedLinearOperator.matmul (line 411); formals ['self', 'other'] -/
def f411_operators_interpolated_linear_operator__InterpolatedLinearOperator_matmul : Fn := ⟨2,
 (.seq (.seq (.seq (.seq (.call 3 703 [2, 2, 2])
       (.ifStar (.seq (.seq (.seq (.assign 4 (.view 0))
               (.seq (.assign 6 (.view 1))
                 (.ifStar (.call 6 860 [1, 2]) .skip)))
             (.seq (.seq (.assign 7 (.same 6))
                 (.ifStar (.assign 5 (.view 7)) (.call 5 782 [7, 2, 2])))
               (.seq (.ifStar (.assign 8 .fresh) (.ifStar (.call 8 804 [5, 4, 2]) (.call 8 803 [4, 5, 2])))
                 (.assign 9 (.same 8)))))
           (.seq (.seq (.assign 10 (.view 0))
               (.seq (.assign 11 (.view 0))
                 (.assign 12 (.view 0))))
             (.seq (.seq (.assign 13 (.view 0))
                 (.assign 15 .fresh))
               (.seq (.call 14 396 [15, 10, 11, 12, 13, 9])
                 (.ret 14))))) .skip))
     (.seq (.call 16 796 [1, 2])
       (.seq (.ifStar (.seq (.ifStar (.assign 17 (.view 1)) (.call 17 782 [1, 2, 2]))
             (.assign 1 (.same 17))) .skip)
         (.assign 19 (.view 0)))))
   (.seq (.seq (.call 20 767 [19, 2, 2])
       (.assign 18 .fresh))
     (.seq (.assign 21 (.same 18))
       (.seq (.assign 22 (.view 0))
         (.assign 23 (.view 0))))))
 (.seq (.seq (.seq (.call 24 720 [22, 23, 1, 21])
       (.assign 25 (.same 24)))
     (.seq (.assign 27 (.view 0))
       (.seq (.call 26 805 [27, 25, 2])
         (.assign 28 (.same 26)))))
   (.seq (.seq (.assign 29 (.view 0))
       (.seq (.assign 30 (.view 0))
         (.call 31 719 [29, 30, 28])))
     (.seq (.assign 32 (.same 31))
       (.seq (.ifStar (.seq (.ifStar (.assign 33 (.view 32)) (.call 33 784 [32, 2, 2]))
             (.assign 32 (.same 33))) .skip)
         (.ret 32))))))⟩

/-- operators/interpolated_linear_operator.py:InterpolatedLinearOperator.zero_mean_mvn_samples (line 454); formals ['self', 'num_samples'] -/
def f412_operators_interpolated_linear_operator__InterpolatedLinearOperator_zero_mean_mvn_samples : Fn := ⟨2,
 (.seq (.seq (.seq (.seq (.assign 4 (.view 0))
       (.call 3 875 [4, 1, 2]))
     (.seq (.assign 5 (.same 3))
       (.seq (.assign 6 .fresh)
         (.assign 7 (.join [6])))))
   (.seq (.seq (.assign 8 (.same 7))
       (.seq (.assign 9 (.view 5))
         (.assign 5 (.same 9))))
     (.seq (.assign 11 (.view 0))
       (.seq (.assign 12 (.view 0))
         (.call 13 719 [11, 12, 5])))))
 (.seq (.seq (.seq (.assign 10 (.maybeView 13))
       (.assign 14 (.same 10)))
     (.seq (.call 15 808 [14, 2])
       (.seq (.assign 16 .fresh)
         (.assign 17 (.join [16])))))
   (.seq (.seq (.assign 8 (.same 17))
       (.seq (.assign 19 (.join [8]))
         (.assign 21 (.join [2, 19]))))
     (.seq (.ifStar (.assign 20 (.view 14)) (.call 20 809 [14, 21]))
       (.seq (.assign 18 (.maybeView 20))
         (.ret 18))))))⟩

/-- operators/interpolated_linear_operator.py:InterpolatedLinearOperator.to (line 464); formals ['self', 'args', 'kwargs'] -/
def f413_operators_interpolated_linear_operator__InterpolatedLinearOperator_to : Fn := ⟨3,
 (.seq (.seq (.seq (.seq (.assign 4 (.join [1, 2]))
       (.seq (.assign 6 (.join [4]))
         (.assign 7 (.join [4]))))
     (.seq (.call 5 713 [6, 7])
       (.seq (.assign 8 (.view 5))
         (.assign 9 (.same 8)))))
   (.seq (.seq (.assign 10 (.view 5))
       (.seq (.assign 11 (.same 10))
         (.assign 12 (.join []))))
     (.seq (.seq (.assign 13 (.same 12))
         (.assign 14 (.join [])))
       (.seq (.assign 15 (.same 14))
         (.assign 16 (.view 0))))))
 (.seq (.seq (.seq (.ifStar (.call 16 807 [0, 3]) .skip)
       (.seq (.assign 17 (.same 16))
         (.whileStar ⟨[[0], [1], [2], [], [1, 2], [1, 2], [1, 2], [1, 2], [1, 2], [1, 2], [1, 2], [1, 2], [], [0, 1, 2], [], [], [0], [0], [0], [0], [0, 1, 2], [1, 2], [0, 1, 2], [1, 2]], [], []⟩ (.seq (.assign 18 (.view 17))
             (.seq (.assign 19 (.same 18))
               (.ifStar (.ifStar (.seq (.assign 21 (.join [9, 11]))
                 (.seq (.ifStar (.assign 20 (.maybeView 19)) (.call 20 824 [19, 21]))
                 (.assign 13 (.join [13, 20])))) (.seq (.assign 23 (.join [9]))
                 (.seq (.ifStar (.assign 22 (.maybeView 19)) (.call 22 824 [19, 23]))
                 (.assign 13 (.join [13, 22]))))) (.assign 13 (.join [13, 19]))))))))
     (.seq (.seq (.assign 25 (.view 0))
         (.ifStar (.call 25 811 [0, 3]) .skip))
       (.seq (.assign 26 (.same 25))
         (.assign 24 (.join [26])))))
   (.seq (.seq (.whileStar ⟨[[0], [1], [2], [], [1, 2], [1, 2], [1, 2], [1, 2], [1, 2], [1, 2], [1, 2], [1, 2], [], [0, 1, 2], [], [0, 1, 2], [0], [0], [0], [0], [0, 1, 2], [1, 2], [0, 1, 2], [1, 2], [0], [0], [0], [0], [0], [0], [0, 1, 2], [1, 2]], [], []⟩ (.seq (.seq (.assign 27 (.view 24))
             (.assign 28 (.view 27)))
           (.seq (.assign 29 (.same 28))
             (.ifStar (.seq (.assign 31 (.join [9, 11]))
                 (.seq (.ifStar (.assign 30 (.maybeView 29)) (.call 30 824 [29, 31]))
                 (.assign 15 (.join [15, 30])))) (.assign 15 (.join [15, 29]))))))
       (.seq (.assign 32 (.join [13, 15]))
         (.assign 34 .fresh)))
     (.seq (.seq (.assign 36 (.join [32]))
         (.call 35 812 [34, 32, 32, 32, 32, 32, 32, 32, 32, 32, 32, 32, 32, 32, 32, 32, 32, 32, 32, 32, 32, 32, 32, 32, 32, 32, 32, 32, 32, 32, 32, 32, 32, 32, 32, 32, 32, 32, 32, 32, 32, 32, 32, 32, 32, 32, 32, 32, 32, 32, 32, 32, 32, 32, 36]))
       (.seq (.assign 33 (.join [32, 35]))
         (.ret 33))))))⟩

/-- operators/keops_linear_operator.py:KeOpsLinearOperator.__init__ (line 18); formals ['self', 'x1', 'x2', 'covar_func', 'params'] -/
def f414_operators_keops_linear_operator__KeOpsLinearOperator___init__ : Fn := ⟨5,
 (.seq (.seq (.seq (.assign 5 (.join [4]))
     (.assign 7 (.join [1, 2, 5])))
   (.seq (.call 6 812 [0, 5, 5, 5, 5, 5, 5, 5, 5, 5, 5, 5, 5, 5, 5, 5, 5, 5, 5, 5, 5, 5, 5, 5, 5, 3, 5, 5, 5, 5, 5, 5, 5, 5, 5, 5, 5, 5, 5, 5, 5, 5, 5, 5, 5, 5, 5, 5, 5, 5, 5, 5, 5, 5, 7])
     (.seq (.assign 8 (.maybeView 1))
       (.assign 0 (.join [0, 8])))))
 (.seq (.seq (.assign 9 (.maybeView 2))
     (.assign 0 (.join [0, 9])))
   (.seq (.assign 0 (.join [0, 3]))
     (.seq (.assign 0 (.join [0, 4]))
       (.ret 0)))))⟩

/-- operators/keops_linear_operator.py:KeOpsLinearOperator._diagonal (line 31); formals ['self'] -/
def f415_operators_keops_linear_operator__KeOpsLinearOperator__diagonal : Fn := ⟨1,
 (.seq (.seq (.assign 2 (.view 0))
   (.assign 3 (.view 0)))
 (.seq (.assign 4 (.opq [0, 1, 2, 3]))
   (.seq (.ret 4)
     (.ret 0))))⟩

/-- operators/keops_linear_operator.py:KeOpsLinearOperator.covar_mat (line 39); formals ['self'] -/
def f416_operators_keops_linear_operator__KeOpsLinearOperator_covar_mat : Fn := ⟨1,
 (.seq (.seq (.assign 1 (.view 0))
   (.seq (.assign 2 (.view 0))
     (.assign 3 (.view 0))))
 (.seq (.seq (.assign 4 (.join [3]))
     (.assign 5 (.opq [0, 1, 2, 4])))
   (.seq (.ret 5)
     (.ret 0))))⟩

/-- operators/keops_linear_operator.py:KeOpsLinearOperator._matmul (line 42); formals ['self', 'rhs'] -/
def f417_operators_keops_linear_operator__KeOpsLinearOperator__matmul : Fn := ⟨2,
 (.seq (.seq (.assign 3 (.view 0))
   (.seq (.ifStar (.call 3 887 [0, 2]) .skip)
     (.assign 4 (.same 3))))
 (.seq (.assign 5 (.maybeView 1))
   (.seq (.ifStar (.assign 6 .fresh) (.ifStar (.call 6 798 [5, 4, 2]) (.call 6 797 [4, 5, 2])))
     (.ret 6))))⟩

/-- operators/keops_linear_operator.py:KeOpsLinearOperator._size (line 48); formals ['self'] -/
def f418_operators_keops_linear_operator__KeOpsLinearOperator__size : Fn := ⟨1,
 (.seq (.ifStar (.call 2 887 [0, 1]) .skip)
 (.seq (.assign 3 .fresh)
   (.ret 3)))⟩

/-- operators/keops_linear_operator.py:KeOpsLinearOperator._transpose_nonbatch (line 51); formals ['self'] -/
def f419_operators_keops_linear_operator__KeOpsLinearOperator__transpose_nonbatch : Fn := ⟨1,
 (.seq (.seq (.seq (.assign 1 (.view 0))
     (.assign 2 (.view 0)))
   (.seq (.assign 3 (.view 0))
     (.assign 4 (.view 0))))
 (.seq (.seq (.assign 5 (.join [4]))
     (.assign 7 .fresh))
   (.seq (.assign 8 (.join [5]))
     (.seq (.call 6 414 [7, 1, 2, 3, 8])
       (.ret 6)))))⟩

def chunk6 : List Fn := [
  f360_operators_diag_linear_operator__ConstantDiagLinearOperator_solve_triangular,
  f361_operators_diag_linear_operator__ConstantDiagLinearOperator_sqrt,
  f362_operators_identity_linear_operator__IdentityLinearOperator___init__,
  f363_operators_identity_linear_operator__IdentityLinearOperator_batch_shape,
  f364_operators_identity_linear_operator__IdentityLinearOperator_dtype,
  f365_operators_identity_linear_operator__IdentityLinearOperator_device,
  f366_operators_identity_linear_operator__IdentityLinearOperator__maybe_reshape_rhs,
  f367_operators_identity_linear_operator__IdentityLinearOperator__cholesky,
  f368_operators_identity_linear_operator__IdentityLinearOperator__cholesky_solve,
  f369_operators_identity_linear_operator__IdentityLinearOperator__expand_batch,
  f370_operators_identity_linear_operator__IdentityLinearOperator__getitem,
  f371_operators_identity_linear_operator__IdentityLinearOperator__matmul,
  f372_operators_identity_linear_operator__IdentityLinearOperator__mul_constant,
  f373_operators_identity_linear_operator__IdentityLinearOperator__permute_batch,
  f374_operators_identity_linear_operator__IdentityLinearOperator__prod_batch,
  f375_operators_identity_linear_operator__IdentityLinearOperator__root_decomposition,
  f376_operators_identity_linear_operator__IdentityLinearOperator__root_inv_decomposition,
  f377_operators_identity_linear_operator__IdentityLinearOperator__size,
  f378_operators_identity_linear_operator__IdentityLinearOperator__svd,
  f379_operators_identity_linear_operator__IdentityLinearOperator__symeig,
  f380_operators_identity_linear_operator__IdentityLinearOperator__t_matmul,
  f381_operators_identity_linear_operator__IdentityLinearOperator__transpose_nonbatch,
  f382_operators_identity_linear_operator__IdentityLinearOperator__unsqueeze_batch,
  f383_operators_identity_linear_operator__IdentityLinearOperator_abs,
  f384_operators_identity_linear_operator__IdentityLinearOperator_exp,
  f385_operators_identity_linear_operator__IdentityLinearOperator_inverse,
  f386_operators_identity_linear_operator__IdentityLinearOperator_inv_quad_logdet,
  f387_operators_identity_linear_operator__IdentityLinearOperator_log,
  f388_operators_identity_linear_operator__IdentityLinearOperator_matmul,
  f389_operators_identity_linear_operator__IdentityLinearOperator_solve,
  f390_operators_identity_linear_operator__IdentityLinearOperator_sqrt,
  f391_operators_identity_linear_operator__IdentityLinearOperator_sqrt_inv_matmul,
  f392_operators_identity_linear_operator__IdentityLinearOperator_type,
  f393_operators_identity_linear_operator__IdentityLinearOperator_zero_mean_mvn_samples,
  f394_operators_identity_linear_operator__IdentityLinearOperator_to,
  f395_operators_interpolated_linear_operator__InterpolatedLinearOperator__check_args,
  f396_operators_interpolated_linear_operator__InterpolatedLinearOperator___init__,
  f397_operators_interpolated_linear_operator__InterpolatedLinearOperator__approx_diagonal,
  f398_operators_interpolated_linear_operator__InterpolatedLinearOperator__diagonal,
  f399_operators_interpolated_linear_operator__InterpolatedLinearOperator__expand_batch,
  f400_operators_interpolated_linear_operator__InterpolatedLinearOperator__get_indices,
  f401_operators_interpolated_linear_operator__InterpolatedLinearOperator__getitem,
  f402_operators_interpolated_linear_operator__InterpolatedLinearOperator__matmul,
  f403_operators_interpolated_linear_operator__InterpolatedLinearOperator__mul_constant,
  f404_operators_interpolated_linear_operator__InterpolatedLinearOperator__t_matmul,
  f405_operators_interpolated_linear_operator__InterpolatedLinearOperator__bilinear_derivative,
  f406_operators_interpolated_linear_operator__InterpolatedLinearOperator__size,
  f407_operators_interpolated_linear_operator__InterpolatedLinearOperator__transpose_nonbatch,
  f408_operators_interpolated_linear_operator__InterpolatedLinearOperator__sparse_left_interp_t,
  f409_operators_interpolated_linear_operator__InterpolatedLinearOperator__sparse_right_interp_t,
  f410_operators_interpolated_linear_operator__InterpolatedLinearOperator__sum_batch,
  f411_operators_interpolated_linear_operator__InterpolatedLinearOperator_matmul,
  f412_operators_interpolated_linear_operator__InterpolatedLinearOperator_zero_mean_mvn_samples,
  f413_operators_interpolated_linear_operator__InterpolatedLinearOperator_to,
  f414_operators_keops_linear_operator__KeOpsLinearOperator___init__,
  f415_operators_keops_linear_operator__KeOpsLinearOperator__diagonal,
  f416_operators_keops_linear_operator__KeOpsLinearOperator_covar_mat,
  f417_operators_keops_linear_operator__KeOpsLinearOperator__matmul,
  f418_operators_keops_linear_operator__KeOpsLinearOperator__size,
  f419_operators_keops_linear_operator__KeOpsLinearOperator__transpose_nonbatch]

end LinOp.Generated.C13P
