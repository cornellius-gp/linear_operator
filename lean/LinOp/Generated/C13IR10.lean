import LinOp.C13.Model
import LinOp.Generated.C13Sigma
-- GENERATED by harness/extract/c13_alias.py from /repo/linear_operator (do not edit)
namespace LinOp.Generated.C13
open LinOp.C13

/-- operators/sum_linear_operator.py:SumLinearOperator._matmul (line 46); formals ['self', 'rhs'] -/
def f600_operators_sum_linear_operator__SumLinearOperator__matmul : Fn := ⟨2,
 (.seq (.seq (.assign 3 .fresh)
   (.seq (.assign 5 (.view 0))
     (.assign 6 (.view 5))))
 (.seq (.seq (.assign 4 (.same 6))
     (.whileStar ⟨[[0], [1], [], [1], [0], [0], [0], [0], [0], [1]], [], []⟩ (.seq (.seq (.assign 7 (.view 0))
           (.assign 8 (.view 7)))
         (.seq (.assign 4 (.same 8))
           (.seq (.ifStar (.assign 9 .fresh) (.call 9 815 [4, 1, 2]))
             (.assign 3 (.join [3, 9])))))))
   (.seq (.assign 10 .fresh)
     (.ret 10))))⟩

/-- operators/sum_linear_operator.py:SumLinearOperator._mul_constant (line 52); formals ['self', 'other'] -/
def f601_operators_sum_linear_operator__SumLinearOperator__mul_constant : Fn := ⟨2,
 (.seq (.seq (.seq (.assign 3 .fresh)
     (.assign 5 (.view 0)))
   (.seq (.assign 6 (.view 5))
     (.seq (.assign 4 (.same 6))
       (.whileStar ⟨[[0], [1], [], [0, 1], [0], [0], [0], [0], [0], [0, 1]], [], []⟩ (.seq (.seq (.assign 7 (.view 0))
             (.assign 8 (.view 7)))
           (.seq (.assign 4 (.same 8))
             (.seq (.ifStar (.assign 9 .fresh) (.call 9 840 [4, 1, 2]))
               (.assign 3 (.join [3, 9])))))))))
 (.seq (.seq (.assign 10 (.join [3]))
     (.seq (.assign 12 .fresh)
       (.assign 14 (.join [10]))))
   (.seq (.call 13 812 [12, 10, 10, 10, 10, 10, 10, 10, 10, 10, 10, 10, 10, 10, 10, 10, 10, 10, 10, 10, 10, 10, 10, 10, 10, 10, 10, 10, 10, 10, 10, 10, 10, 10, 10, 10, 10, 10, 10, 10, 10, 10, 10, 10, 10, 10, 10, 10, 10, 10, 10, 10, 10, 10, 14])
     (.seq (.assign 11 (.join [10, 13]))
       (.ret 11)))))⟩

/-- operators/sum_linear_operator.py:SumLinearOperator._bilinear_derivative (line 58); formals ['self', 'left_vecs', 'right_vecs'] -/
def f602_operators_sum_linear_operator__SumLinearOperator__bilinear_derivative : Fn := ⟨3,
 (.seq (.seq (.seq (.assign 4 .fresh)
     (.assign 7 (.view 0)))
   (.seq (.assign 8 (.view 7))
     (.seq (.assign 5 (.same 8))
       (.ifStar (.assign 9 .fresh) (.call 9 799 [5, 1, 2, 3])))))
 (.seq (.seq (.assign 10 (.view 9))
     (.assign 6 (.same 10)))
   (.seq (.whileStar ⟨[[0], [1], [2], [], [], [0], [], [0], [0], [], [], [0], [0]], [], []⟩ (.seq (.seq (.assign 11 (.view 0))
           (.seq (.assign 12 (.view 11))
             (.assign 5 (.same 12))))
         (.seq (.seq (.ifStar (.assign 13 .fresh) (.call 13 799 [5, 1, 2, 3]))
             (.assign 14 (.view 13)))
           (.seq (.assign 6 (.same 14))
             (.assign 4 (.join [4, 6]))))))
     (.seq (.assign 15 (.join [4]))
       (.ret 15)))))⟩

/-- operators/sum_linear_operator.py:SumLinearOperator._size (line 63); formals ['self'] -/
def f603_operators_sum_linear_operator__SumLinearOperator__size : Fn := ⟨1,
 (.seq (.seq (.assign 2 .fresh)
   (.whileStar ⟨[[0]], [], []⟩ (.assign 2 (.join [1, 2]))))
 (.seq (.assign 3 .fresh)
   (.ret 3)))⟩

/-- operators/sum_linear_operator.py:SumLinearOperator._sum_batch (line 66); formals ['self', 'dim'] -/
def f604_operators_sum_linear_operator__SumLinearOperator__sum_batch : Fn := ⟨2,
 (.seq (.seq (.seq (.assign 3 .fresh)
     (.assign 5 (.view 0)))
   (.seq (.assign 6 (.view 5))
     (.seq (.assign 4 (.same 6))
       (.whileStar ⟨[[0], [1], [], [0], [0], [0], [0], [0], [0], [0]], [], []⟩ (.seq (.seq (.assign 7 (.view 0))
             (.assign 8 (.view 7)))
           (.seq (.assign 4 (.same 8))
             (.seq (.ifStar (.assign 9 .fresh) (.call 9 849 [4, 1, 2]))
               (.assign 3 (.join [3, 9])))))))))
 (.seq (.seq (.assign 10 (.join [3]))
     (.seq (.assign 12 .fresh)
       (.assign 14 (.join [10]))))
   (.seq (.call 13 812 [12, 10, 10, 10, 10, 10, 10, 10, 10, 10, 10, 10, 10, 10, 10, 10, 10, 10, 10, 10, 10, 10, 10, 10, 10, 10, 10, 10, 10, 10, 10, 10, 10, 10, 10, 10, 10, 10, 10, 10, 10, 10, 10, 10, 10, 10, 10, 10, 10, 10, 10, 10, 10, 10, 14])
     (.seq (.assign 11 (.join [10, 13]))
       (.ret 11)))))⟩

/-- operators/sum_linear_operator.py:SumLinearOperator._t_matmul (line 69); formals ['self', 'rhs'] -/
def f605_operators_sum_linear_operator__SumLinearOperator__t_matmul : Fn := ⟨2,
 (.seq (.seq (.assign 3 .fresh)
   (.seq (.assign 5 (.view 0))
     (.assign 6 (.view 5))))
 (.seq (.seq (.assign 4 (.same 6))
     (.whileStar ⟨[[0], [1], [], [1], [0], [0], [0], [0], [0], [1]], [], []⟩ (.seq (.seq (.assign 7 (.view 0))
           (.assign 8 (.view 7)))
         (.seq (.assign 4 (.same 8))
           (.seq (.ifStar (.assign 9 .fresh) (.call 9 878 [4, 1, 2]))
             (.assign 3 (.join [3, 9])))))))
   (.seq (.assign 10 .fresh)
     (.ret 10))))⟩

/-- operators/sum_linear_operator.py:SumLinearOperator._transpose_nonbatch (line 75); formals ['self'] -/
def f606_operators_sum_linear_operator__SumLinearOperator__transpose_nonbatch : Fn := ⟨1,
 (.seq (.seq (.seq (.assign 2 .fresh)
     (.seq (.assign 4 (.view 0))
       (.assign 5 (.view 4))))
   (.seq (.assign 3 (.same 5))
     (.seq (.whileStar ⟨[[0], [], [0], [0], [0], [0], [0], [0], [0], [0]], [], []⟩ (.seq (.seq (.assign 6 (.view 0))
             (.seq (.assign 7 (.view 6))
               (.assign 3 (.same 7))))
           (.seq (.seq (.assign 8 (.view 3))
               (.ifStar (.call 8 777 [3, 1]) .skip))
             (.seq (.assign 9 (.same 8))
               (.assign 2 (.join [2, 9]))))))
       (.assign 10 (.same 2)))))
 (.seq (.seq (.assign 11 (.join [10]))
     (.seq (.assign 13 .fresh)
       (.assign 15 (.join [11]))))
   (.seq (.call 14 812 [13, 11, 11, 11, 11, 11, 11, 11, 11, 11, 11, 11, 11, 11, 11, 11, 11, 11, 11, 11, 11, 11, 11, 11, 11, 11, 11, 11, 11, 11, 11, 11, 11, 11, 11, 11, 11, 11, 11, 11, 11, 11, 11, 11, 11, 11, 11, 11, 11, 11, 11, 11, 11, 11, 15])
     (.seq (.assign 12 (.join [11, 14]))
       (.ret 12)))))⟩

/-- operators/sum_linear_operator.py:SumLinearOperator.to_dense (line 80); formals ['self'] -/
def f607_operators_sum_linear_operator__SumLinearOperator_to_dense : Fn := ⟨1,
 (.seq (.seq (.seq (.assign 3 .fresh)
     (.assign 5 (.view 0)))
   (.seq (.assign 6 (.view 5))
     (.assign 4 (.same 6))))
 (.seq (.seq (.whileStar ⟨[[0], [], [], [0], [0], [0], [0], [0], [0], [0]], [], []⟩ (.seq (.seq (.assign 7 (.view 0))
           (.assign 8 (.view 7)))
         (.seq (.assign 4 (.same 8))
           (.seq (.ifStar (.assign 9 (.maybeView 4)) (.call 9 778 [4, 1, 1, 1, 1, 1]))
             (.assign 3 (.join [3, 9]))))))
     (.assign 10 .fresh))
   (.seq (.assign 2 (.join [10]))
     (.seq (.ret 2)
       (.ret 0)))))⟩

/-- operators/sum_linear_operator.py:SumLinearOperator.__add__ (line 83); formals ['self', 'other'] -/
def f608_operators_sum_linear_operator__SumLinearOperator___add__ : Fn := ⟨2,
 (.ifStar (.seq (.ifStar (.call 3 826 [0, 1, 2, 2]) (.call 3 825 [1, 0, 2]))
   (.ret 3)) (.ifStar (.seq (.seq (.assign 5 .fresh)
       (.assign 6 (.join [0, 1])))
     (.seq (.call 4 163 [5, 2, 6])
       (.ret 4))) (.ifStar (.seq (.seq (.seq (.assign 7 (.view 0))
           (.assign 8 (.join [7])))
         (.seq (.assign 9 (.view 1))
           (.seq (.assign 10 (.join [9]))
             (.assign 11 (.join [8, 10])))))
       (.seq (.seq (.assign 12 (.join [11]))
           (.seq (.assign 14 .fresh)
             (.assign 15 (.join [12]))))
         (.seq (.assign 16 (.join [12]))
           (.seq (.call 13 595 [14, 15, 16])
             (.ret 13))))) (.ifStar (.seq (.seq (.seq (.assign 17 (.view 0))
             (.assign 18 (.join [17])))
           (.seq (.assign 19 (.join [1]))
             (.seq (.assign 20 (.join [18, 19]))
               (.assign 21 (.join [20])))))
         (.seq (.seq (.assign 23 .fresh)
             (.assign 24 (.join [21])))
           (.seq (.assign 25 (.join [21]))
             (.seq (.call 22 595 [23, 24, 25])
               (.ret 22))))) (.ifStar (.seq (.seq (.seq (.seq (.assign 26 .fresh)
                 (.assign 27 (.same 26)))
               (.seq (.assign 29 (.join [27]))
                 (.ifStar (.assign 28 (.view 1)) (.call 28 776 [1, 29]))))
             (.seq (.seq (.call 30 311 [28])
                 (.assign 31 (.same 30)))
               (.seq (.ifStar (.assign 34 (.same 0)) (.seq (.assign 32 (.view 27))
                 (.seq (.call 33 817 [0, 32, 2])
                 (.assign 34 (.same 33)))))
                 (.seq (.assign 35 (.same 34))
                 (.assign 36 (.view 35))))))
           (.seq (.seq (.seq (.assign 37 (.join [36]))
                 (.assign 38 (.join [31])))
               (.seq (.assign 39 (.join [37, 38]))
                 (.assign 40 (.join [39]))))
             (.seq (.seq (.assign 42 .fresh)
                 (.assign 43 (.join [40])))
               (.seq (.assign 44 (.join [40]))
                 (.seq (.call 41 595 [42, 43, 44])
                 (.ret 41)))))) .skip)))))⟩

/-- operators/toeplitz_linear_operator.py:ToeplitzLinearOperator.__init__ (line 14); formals ['self', 'column'] -/
def f609_operators_toeplitz_linear_operator__ToeplitzLinearOperator___init__ : Fn := ⟨2,
 (.seq (.seq (.assign 4 (.join [1]))
   (.call 3 812 [0, 2, 2, 2, 2, 2, 2, 2, 2, 2, 2, 2, 2, 2, 2, 2, 2, 2, 2, 2, 2, 2, 2, 2, 2, 2, 2, 2, 2, 2, 2, 2, 2, 2, 2, 2, 2, 2, 2, 2, 2, 2, 2, 2, 2, 2, 2, 2, 2, 2, 2, 2, 2, 2, 4]))
 (.seq (.assign 0 (.join [0, 1]))
   (.ret 0)))⟩

/-- operators/toeplitz_linear_operator.py:ToeplitzLinearOperator._diagonal (line 26); formals ['self'] -/
def f610_operators_toeplitz_linear_operator__ToeplitzLinearOperator__diagonal : Fn := ⟨1,
 (.seq (.seq (.seq (.assign 2 (.view 0))
     (.seq (.assign 3 (.join [1]))
       (.ifStar (.call 4 789 [2, 3, 1]) (.assign 4 (.view 2)))))
   (.seq (.seq (.assign 5 (.same 4))
       (.assign 6 (.view 0)))
     (.seq (.call 7 796 [6, 1])
       (.ifStar (.seq (.ifStar (.assign 8 (.view 5)) (.call 8 782 [5, 1, 1]))
           (.assign 5 (.same 8))) .skip))))
 (.seq (.seq (.assign 10 (.view 0))
     (.seq (.call 11 767 [10, 1, 1])
       (.assign 9 .fresh)))
   (.seq (.seq (.assign 12 (.join [9]))
       (.assign 14 (.join [12])))
     (.seq (.ifStar (.assign 13 (.view 5)) (.call 13 776 [5, 14]))
       (.ret 13)))))⟩

/-- operators/toeplitz_linear_operator.py:ToeplitzLinearOperator._expand_batch (line 32); formals ['self', 'batch_shape'] -/
def f611_operators_toeplitz_linear_operator__ToeplitzLinearOperator__expand_batch : Fn := ⟨2,
 (.seq (.seq (.seq (.assign 4 (.view 0))
     (.seq (.call 5 767 [4, 2, 2])
       (.assign 3 .fresh)))
   (.seq (.assign 6 (.join [1]))
     (.seq (.assign 8 (.view 0))
       (.assign 9 (.join [3, 6])))))
 (.seq (.seq (.ifStar (.assign 7 (.view 8)) (.call 7 776 [8, 9]))
     (.seq (.assign 11 .fresh)
       (.assign 13 (.join [7]))))
   (.seq (.call 12 812 [11, 2, 2, 2, 2, 2, 2, 2, 2, 2, 2, 2, 2, 2, 2, 2, 2, 2, 2, 2, 2, 2, 2, 2, 2, 2, 2, 2, 2, 2, 2, 2, 2, 2, 2, 2, 2, 2, 2, 2, 2, 2, 2, 2, 2, 2, 2, 2, 2, 2, 2, 2, 2, 2, 13])
     (.seq (.assign 10 (.join [7, 12]))
       (.ret 10)))))⟩

/-- operators/toeplitz_linear_operator.py:ToeplitzLinearOperator._get_indices (line 37); formals ['self', 'row_index', 'col_index', 'batch_indices'] -/
def f612_operators_toeplitz_linear_operator__ToeplitzLinearOperator__get_indices : Fn := ⟨4,
 (.seq (.seq (.seq (.call 7 767 [0, 4, 4])
     (.ifStar .skip (.ifStar (.call 9 786 [2, 1, 4, 4]) (.call 9 785 [1, 2, 4]))))
   (.seq (.assign 8 .fresh)
     (.seq (.call 10 867 [8, 4])
       (.assign 6 .fresh))))
 (.seq (.seq (.assign 5 (.join [6]))
     (.seq (.assign 11 (.same 5))
       (.assign 12 (.view 0))))
   (.seq (.assign 13 (.join [3, 11]))
     (.seq (.ifStar (.call 14 789 [12, 13, 4]) (.assign 14 (.maybeView 12)))
       (.ret 14)))))⟩

/-- operators/toeplitz_linear_operator.py:ToeplitzLinearOperator._matmul (line 41); formals ['self', 'rhs'] -/
def f613_operators_toeplitz_linear_operator__ToeplitzLinearOperator__matmul : Fn := ⟨2,
 (.seq (.assign 2 (.view 0))
 (.seq (.call 3 763 [2, 1])
   (.ret 3)))⟩

/-- operators/toeplitz_linear_operator.py:ToeplitzLinearOperator._t_matmul (line 47); formals ['self', 'rhs'] -/
def f614_operators_toeplitz_linear_operator__ToeplitzLinearOperator__t_matmul : Fn := ⟨2,
 (.seq (.call 3 815 [0, 1, 2])
 (.ret 3))⟩

/-- operators/toeplitz_linear_operator.py:ToeplitzLinearOperator._bilinear_derivative (line 54); formals ['self', 'left_vecs', 'right_vecs'] -/
def f615_operators_toeplitz_linear_operator__ToeplitzLinearOperator__bilinear_derivative : Fn := ⟨3,
 (.seq (.seq (.seq (.ifStar (.seq (.seq (.assign 4 (.view 1))
           (.assign 1 (.same 4)))
         (.seq (.assign 5 (.view 2))
           (.assign 2 (.same 5)))) .skip)
     (.call 6 764 [1, 2]))
   (.seq (.assign 7 (.same 6))
     (.call 8 808 [7, 3])))
 (.seq (.seq (.assign 9 (.view 0))
     (.call 10 808 [9, 3]))
   (.seq (.ifStar (.seq (.seq (.seq (.call 11 808 [7, 3])
             (.assign 12 (.view 0)))
           (.seq (.call 13 808 [12, 3])
             (.assign 14 .fresh)))
         (.seq (.seq (.assign 15 (.join [14]))
             (.call 17 835 [7, 15, 3]))
           (.seq (.assign 16 .fresh)
             (.assign 7 (.same 16))))) .skip)
     (.seq (.assign 18 (.join [7]))
       (.ret 18)))))⟩

/-- operators/toeplitz_linear_operator.py:ToeplitzLinearOperator._size (line 69); formals ['self'] -/
def f616_operators_toeplitz_linear_operator__ToeplitzLinearOperator__size : Fn := ⟨1,
 (.seq (.seq (.assign 2 (.view 0))
   (.call 3 767 [2, 1, 1]))
 (.seq (.assign 4 .fresh)
   (.ret 4)))⟩

/-- operators/toeplitz_linear_operator.py:ToeplitzLinearOperator._transpose_nonbatch (line 72); formals ['self'] -/
def f617_operators_toeplitz_linear_operator__ToeplitzLinearOperator__transpose_nonbatch : Fn := ⟨1,
 (.seq (.seq (.assign 1 (.view 0))
   (.assign 3 .fresh))
 (.seq (.call 2 609 [3, 1])
   (.ret 2)))⟩

/-- operators/toeplitz_linear_operator.py:ToeplitzLinearOperator.add_jitter (line 75); formals ['self', 'jitter_val'] -/
def f618_operators_toeplitz_linear_operator__ToeplitzLinearOperator_add_jitter : Fn := ⟨2,
 (.seq (.seq (.seq (.assign 3 .fresh)
     (.assign 4 (.same 3)))
   (.seq (.assign 5 (.view 4))
     (.write 5)))
 (.seq (.seq (.assign 7 (.view 0))
     (.ifStar (.assign 6 .fresh) (.call 6 886 [7, 4, 2, 2])))
   (.seq (.assign 9 .fresh)
     (.seq (.call 8 609 [9, 6])
       (.ret 8)))))⟩

/-- operators/triangular_linear_operator.py:TriangularLinearOperator.__init__ (line 36); formals ['self', 'tensor', 'upper'] -/
def f619_operators_triangular_linear_operator__TriangularLinearOperator___init__ : Fn := ⟨3,
 (.seq (.seq (.ifStar (.seq (.assign 4 (.view 1))
       (.assign 1 (.same 4))) (.ifStar (.ifStar (.seq (.seq (.seq (.assign 5 (.view 1))
               (.assign 7 .fresh))
             (.seq (.call 6 619 [7, 5, 2])
               (.assign 8 (.view 1))))
           (.seq (.seq (.assign 10 .fresh)
               (.assign 12 (.join [6])))
             (.seq (.call 11 812 [10, 3, 3, 3, 3, 8, 3, 3, 3, 3, 3, 3, 3, 3, 3, 3, 3, 3, 3, 3, 3, 3, 3, 3, 3, 3, 3, 3, 3, 3, 3, 3, 3, 3, 3, 3, 3, 3, 3, 3, 3, 3, 3, 3, 3, 3, 3, 3, 3, 3, 3, 3, 3, 3, 12])
               (.seq (.assign 9 (.join [6, 8, 11]))
                 (.assign 1 (.same 9)))))) .skip) .skip))
   (.seq (.ifStar (.seq (.assign 14 .fresh)
         (.seq (.call 13 295 [14, 1])
           (.assign 1 (.same 13)))) .skip)
     (.assign 16 (.join [1]))))
 (.seq (.seq (.call 15 812 [0, 3, 3, 3, 3, 3, 3, 3, 3, 3, 2, 3, 3, 3, 3, 3, 3, 3, 3, 3, 3, 3, 3, 3, 3, 3, 3, 3, 3, 3, 3, 3, 3, 3, 3, 3, 3, 3, 3, 3, 3, 3, 3, 3, 3, 3, 3, 3, 3, 3, 3, 3, 3, 3, 16])
     (.assign 0 (.join [0, 2])))
   (.seq (.assign 0 (.join [0, 1]))
     (.ret 0))))⟩

/-- operators/triangular_linear_operator.py:TriangularLinearOperator.__add__ (line 55); formals ['self', 'other'] -/
def f620_operators_triangular_linear_operator__TriangularLinearOperator___add__ : Fn := ⟨2,
 (.seq (.seq (.ifStar (.seq (.seq (.seq (.assign 3 (.view 0))
           (.assign 5 .fresh))
         (.seq (.assign 6 (.join [1, 3]))
           (.call 4 163 [5, 2, 6])))
       (.seq (.seq (.assign 8 .fresh)
           (.assign 10 (.join [4])))
         (.seq (.call 9 812 [8, 2, 2, 2, 2, 2, 2, 2, 2, 2, 2, 2, 2, 2, 2, 2, 2, 2, 2, 2, 2, 2, 2, 2, 2, 2, 2, 2, 2, 2, 2, 2, 2, 2, 2, 2, 2, 2, 2, 2, 2, 2, 2, 2, 2, 2, 2, 2, 2, 2, 2, 2, 2, 2, 10])
           (.seq (.assign 7 (.join [2, 4, 9]))
             (.ret 7))))) .skip)
   (.ifStar (.seq (.seq (.seq (.assign 11 (.view 0))
           (.assign 12 (.view 1)))
         (.seq (.ifStar (.assign 13 .fresh) (.ifStar (.call 13 826 [12, 11, 2, 2]) (.call 13 825 [11, 12, 2])))
           (.assign 15 .fresh)))
       (.seq (.seq (.assign 17 (.join [13]))
           (.call 16 812 [15, 2, 2, 2, 2, 2, 2, 2, 2, 2, 2, 2, 2, 2, 2, 2, 2, 2, 2, 2, 2, 2, 2, 2, 2, 2, 2, 2, 2, 2, 2, 2, 2, 2, 2, 2, 2, 2, 2, 2, 2, 2, 2, 2, 2, 2, 2, 2, 2, 2, 2, 2, 2, 2, 17]))
         (.seq (.assign 14 (.join [2, 13, 16]))
           (.ret 14)))) .skip))
 (.seq (.assign 18 (.view 0))
   (.seq (.ifStar (.assign 19 .fresh) (.ifStar (.call 19 826 [1, 18, 2, 2]) (.call 19 825 [18, 1, 2])))
     (.ret 19))))⟩

/-- operators/triangular_linear_operator.py:TriangularLinearOperator._cholesky (line 69); formals ['self', 'upper'] -/
def f621_operators_triangular_linear_operator__TriangularLinearOperator__cholesky : Fn := ⟨2,
 .skip⟩

/-- operators/triangular_linear_operator.py:TriangularLinearOperator._cholesky_solve (line 74); formals ['self', 'rhs', 'upper'] -/
def f622_operators_triangular_linear_operator__TriangularLinearOperator__cholesky_solve : Fn := ⟨3,
 (.seq (.ifStar (.seq (.assign 5 (.view 0))
     (.seq (.ifStar (.assign 4 .fresh) (.call 4 793 [5, 1, 2, 3]))
       (.assign 6 (.same 4)))) (.seq (.seq (.ifStar (.assign 5 (.view 0)) .skip)
       (.ifStar (.ifStar (.assign 4 .fresh) (.call 4 793 [5, 1, 2, 3])) .skip))
     (.seq (.ifStar (.assign 6 (.same 4)) .skip)
       (.ifStar (.ifStar (.seq (.seq (.call 8 829 [0, 3])
               (.ifStar (.assign 7 .fresh) (.call 7 774 [8, 1, 3, 3])))
             (.seq (.assign 9 (.same 7))
               (.seq (.call 10 774 [0, 9, 3, 3])
                 (.assign 6 (.same 10))))) (.seq (.seq (.call 11 774 [0, 1, 3, 3])
               (.assign 9 (.same 11)))
             (.seq (.call 13 829 [0, 3])
               (.seq (.ifStar (.assign 12 .fresh) (.call 12 774 [13, 9, 3, 3]))
                 (.assign 6 (.same 12)))))) .skip))))
 (.ret 6))⟩

/-- operators/triangular_linear_operator.py:TriangularLinearOperator._diagonal (line 93); formals ['self'] -/
def f623_operators_triangular_linear_operator__TriangularLinearOperator__diagonal : Fn := ⟨1,
 (.seq (.assign 3 (.view 0))
 (.seq (.ifStar (.assign 2 .fresh) (.call 2 818 [3, 1]))
   (.ret 2)))⟩

/-- operators/triangular_linear_operator.py:TriangularLinearOperator._expand_batch (line 96); formals ['self', 'batch_shape'] -/
def f624_operators_triangular_linear_operator__TriangularLinearOperator__expand_batch : Fn := ⟨2,
 (.seq (.seq (.ifStar (.ret 0) .skip)
   (.seq (.assign 4 (.view 0))
     (.ifStar (.assign 3 .fresh) (.call 3 817 [4, 1, 2]))))
 (.seq (.seq (.assign 6 .fresh)
     (.call 7 812 [6, 2, 2, 2, 2, 2, 2, 2, 2, 2, 2, 2, 2, 2, 2, 2, 2, 2, 2, 2, 2, 2, 2, 2, 2, 2, 2, 2, 2, 2, 2, 2, 2, 2, 2, 2, 2, 2, 2, 2, 3, 2, 2, 2, 2, 2, 2, 2, 2, 2, 2, 2, 2, 2, 2]))
   (.seq (.assign 5 (.join [2, 3, 7]))
     (.ret 5))))⟩

/-- operators/triangular_linear_operator.py:TriangularLinearOperator._get_indices (line 103); formals ['self', 'row_index', 'col_index', 'batch_indices'] -/
def f625_operators_triangular_linear_operator__TriangularLinearOperator__get_indices : Fn := ⟨4,
 (.seq (.seq (.assign 4 (.join [3]))
   (.assign 6 (.view 0)))
 (.seq (.assign 7 (.join [4]))
   (.seq (.ifStar (.assign 5 .fresh) (.call 5 857 [6, 1, 2, 7]))
     (.ret 5))))⟩

/-- operators/triangular_linear_operator.py:TriangularLinearOperator._matmul (line 106); formals ['self', 'rhs'] -/
def f626_operators_triangular_linear_operator__TriangularLinearOperator__matmul : Fn := ⟨2,
 (.seq (.assign 4 (.view 0))
 (.seq (.ifStar (.assign 3 .fresh) (.call 3 805 [4, 1, 2]))
   (.ret 3)))⟩

/-- operators/triangular_linear_operator.py:TriangularLinearOperator._mul_constant (line 112); formals ['self', 'other'] -/
def f627_operators_triangular_linear_operator__TriangularLinearOperator__mul_constant : Fn := ⟨2,
 (.seq (.seq (.assign 4 (.view 0))
   (.seq (.ifStar (.assign 3 .fresh) (.call 3 840 [4, 1, 2]))
     (.assign 6 .fresh)))
 (.seq (.seq (.assign 8 (.join [3]))
     (.call 7 812 [6, 2, 2, 2, 2, 2, 2, 2, 2, 2, 2, 2, 2, 2, 2, 2, 2, 2, 2, 2, 2, 2, 2, 2, 2, 2, 2, 2, 2, 2, 2, 2, 2, 2, 2, 2, 2, 2, 2, 2, 2, 2, 2, 2, 2, 2, 2, 2, 2, 2, 2, 2, 2, 2, 8]))
   (.seq (.assign 5 (.join [2, 3, 7]))
     (.ret 5))))⟩

/-- operators/triangular_linear_operator.py:TriangularLinearOperator._mul_matrix (line 118); formals ['self', 'other'] -/
def f628_operators_triangular_linear_operator__TriangularLinearOperator__mul_matrix : Fn := ⟨2,
 (.seq (.seq (.seq (.call 3 778 [0, 2, 2, 2, 2, 2])
     (.ifStar .skip (.call 4 778 [1, 2, 2, 2, 2, 2])))
   (.seq (.assign 5 .fresh)
     (.assign 7 .fresh)))
 (.seq (.seq (.assign 9 (.join [5]))
     (.call 8 812 [7, 2, 2, 2, 2, 2, 2, 2, 2, 2, 2, 2, 2, 2, 2, 2, 2, 2, 2, 2, 2, 2, 2, 2, 2, 2, 2, 2, 2, 2, 2, 2, 2, 2, 2, 2, 2, 2, 2, 2, 2, 2, 2, 2, 2, 2, 2, 2, 2, 2, 2, 2, 2, 2, 9]))
   (.seq (.assign 6 (.join [2, 5, 8]))
     (.ret 6))))⟩

/-- operators/triangular_linear_operator.py:TriangularLinearOperator._root_decomposition (line 126); formals ['self'] -/
def f629_operators_triangular_linear_operator__TriangularLinearOperator__root_decomposition : Fn := ⟨1,
 .skip⟩

/-- operators/triangular_linear_operator.py:TriangularLinearOperator._root_inv_decomposition (line 131); formals ['self', 'initial_vectors', 'test_vectors'] -/
def f630_operators_triangular_linear_operator__TriangularLinearOperator__root_inv_decomposition : Fn := ⟨3,
 .skip⟩

/-- operators/triangular_linear_operator.py:TriangularLinearOperator._size (line 138); formals ['self'] -/
def f631_operators_triangular_linear_operator__TriangularLinearOperator__size : Fn := ⟨1,
 (.ret 1)⟩

/-- operators/triangular_linear_operator.py:TriangularLinearOperator._solve (line 141); formals ['self', 'rhs', 'preconditioner', 'num_tridiag'] -/
def f632_operators_triangular_linear_operator__TriangularLinearOperator__solve : Fn := ⟨4,
 (.seq (.call 5 774 [0, 1, 4, 4])
 (.ret 5))⟩

/-- operators/triangular_linear_operator.py:TriangularLinearOperator._sum_batch (line 156); formals ['self', 'dim'] -/
def f633_operators_triangular_linear_operator__TriangularLinearOperator__sum_batch : Fn := ⟨2,
 (.seq (.seq (.assign 4 (.view 0))
   (.seq (.ifStar (.assign 3 .fresh) (.call 3 849 [4, 1, 2]))
     (.assign 6 .fresh)))
 (.seq (.seq (.assign 8 (.join [3]))
     (.call 7 812 [6, 2, 2, 2, 2, 2, 2, 2, 2, 2, 2, 2, 2, 2, 2, 2, 2, 2, 2, 2, 2, 2, 2, 2, 2, 2, 2, 2, 2, 2, 2, 2, 2, 2, 2, 2, 2, 2, 2, 2, 2, 2, 2, 2, 2, 2, 2, 2, 2, 2, 2, 2, 2, 2, 8]))
   (.seq (.assign 5 (.join [2, 3, 7]))
     (.ret 5))))⟩

/-- operators/triangular_linear_operator.py:TriangularLinearOperator._transpose_nonbatch (line 159); formals ['self'] -/
def f634_operators_triangular_linear_operator__TriangularLinearOperator__transpose_nonbatch : Fn := ⟨1,
 (.seq (.seq (.assign 3 (.view 0))
   (.seq (.ifStar (.assign 2 .fresh) (.call 2 829 [3, 1]))
     (.assign 5 .fresh)))
 (.seq (.seq (.assign 7 (.join [2]))
     (.call 6 812 [5, 1, 1, 1, 1, 1, 1, 1, 1, 1, 1, 1, 1, 1, 1, 1, 1, 1, 1, 1, 1, 1, 1, 1, 1, 1, 1, 1, 1, 1, 1, 1, 1, 1, 1, 1, 1, 1, 1, 1, 1, 1, 1, 1, 1, 1, 1, 1, 1, 1, 1, 1, 1, 1, 7]))
   (.seq (.assign 4 (.join [1, 2, 6]))
     (.ret 4))))⟩

/-- operators/triangular_linear_operator.py:TriangularLinearOperator.abs (line 162); formals ['self'] -/
def f635_operators_triangular_linear_operator__TriangularLinearOperator_abs : Fn := ⟨1,
 (.seq (.seq (.seq (.assign 3 (.view 0))
     (.call 4 867 [3, 1]))
   (.seq (.assign 2 .fresh)
     (.assign 6 .fresh)))
 (.seq (.seq (.assign 8 (.join [2]))
     (.call 7 812 [6, 1, 1, 1, 1, 1, 1, 1, 1, 1, 1, 1, 1, 1, 1, 1, 1, 1, 1, 1, 1, 1, 1, 1, 1, 1, 1, 1, 1, 1, 1, 1, 1, 1, 1, 1, 1, 1, 1, 1, 1, 1, 1, 1, 1, 1, 1, 1, 1, 1, 1, 1, 1, 1, 8]))
   (.seq (.assign 5 (.join [1, 2, 7]))
     (.ret 5))))⟩

/-- operators/triangular_linear_operator.py:TriangularLinearOperator.add_diagonal (line 168); formals ['self', 'diag'] -/
def f636_operators_triangular_linear_operator__TriangularLinearOperator_add_diagonal : Fn := ⟨2,
 (.seq (.seq (.seq (.assign 4 (.view 0))
     (.ifStar (.assign 3 .fresh) (.call 3 765 [4, 1, 2])))
   (.seq (.assign 5 (.same 3))
     (.assign 7 .fresh)))
 (.seq (.seq (.assign 9 (.join [5]))
     (.call 8 812 [7, 2, 2, 2, 2, 2, 2, 2, 2, 2, 2, 2, 2, 2, 2, 2, 2, 2, 2, 2, 2, 2, 2, 2, 2, 2, 2, 2, 2, 2, 2, 2, 2, 2, 2, 2, 2, 2, 2, 2, 2, 2, 2, 2, 2, 2, 2, 2, 2, 2, 2, 2, 2, 2, 9]))
   (.seq (.assign 6 (.join [2, 5, 8]))
     (.ret 6))))⟩

/-- operators/triangular_linear_operator.py:TriangularLinearOperator.to_dense (line 175); formals ['self'] -/
def f637_operators_triangular_linear_operator__TriangularLinearOperator_to_dense : Fn := ⟨1,
 (.seq (.assign 3 (.view 0))
 (.seq (.ifStar (.assign 2 (.maybeView 3)) (.call 2 778 [3, 1, 1, 1, 1, 1]))
   (.ret 2)))⟩

/-- operators/triangular_linear_operator.py:TriangularLinearOperator.exp (line 178); formals ['self'] -/
def f638_operators_triangular_linear_operator__TriangularLinearOperator_exp : Fn := ⟨1,
 (.seq (.seq (.assign 3 (.view 0))
   (.seq (.ifStar (.assign 2 .fresh) (.call 2 882 [3, 1]))
     (.assign 5 .fresh)))
 (.seq (.seq (.assign 7 (.join [2]))
     (.call 6 812 [5, 1, 1, 1, 1, 1, 1, 1, 1, 1, 1, 1, 1, 1, 1, 1, 1, 1, 1, 1, 1, 1, 1, 1, 1, 1, 1, 1, 1, 1, 1, 1, 1, 1, 1, 1, 1, 1, 1, 1, 1, 1, 1, 1, 1, 1, 1, 1, 1, 1, 1, 1, 1, 1, 7]))
   (.seq (.assign 4 (.join [1, 2, 6]))
     (.ret 4))))⟩

/-- operators/triangular_linear_operator.py:TriangularLinearOperator.inv_quad_logdet (line 184); formals ['self', 'inv_quad_rhs', 'logdet', 'reduce_inv_quad'] -/
def f639_operators_triangular_linear_operator__TriangularLinearOperator_inv_quad_logdet : Fn := ⟨4,
 (.seq (.seq (.ifStar (.seq (.assign 5 (.view 1))
       (.assign 1 (.same 5))) .skip)
   (.seq (.ifStar (.seq (.assign 6 .fresh)
         (.assign 7 (.same 6))) (.seq (.call 9 774 [0, 1, 4, 4])
         (.seq (.assign 8 .fresh)
           (.assign 7 (.same 8)))))
     (.ifStar (.seq (.seq (.call 10 818 [0, 4])
           (.seq (.call 12 818 [0, 4])
             (.assign 11 .fresh)))
         (.seq (.assign 13 (.same 11))
           (.seq (.assign 14 .fresh)
             (.assign 13 (.same 14))))) (.seq (.assign 15 .fresh)
         (.assign 13 (.same 15))))))
 (.seq (.seq (.call 16 837 [7, 4])
     (.ifStar (.seq (.call 18 835 [7, 4, 4])
         (.seq (.assign 17 .fresh)
           (.assign 7 (.same 17)))) .skip))
   (.seq (.assign 19 (.join [7, 13]))
     (.ret 19))))⟩

/-- operators/triangular_linear_operator.py:TriangularLinearOperator.inverse (line 214); formals ['self'] -/
def f640_operators_triangular_linear_operator__TriangularLinearOperator_inverse : Fn := ⟨1,
 (.seq (.seq (.seq (.assign 2 (.view 0))
     (.seq (.call 3 767 [2, 1, 1])
       (.assign 4 .fresh)))
   (.seq (.assign 5 (.same 4))
     (.seq (.call 6 774 [0, 5, 1, 1])
       (.assign 7 (.same 6)))))
 (.seq (.seq (.assign 9 .fresh)
     (.seq (.assign 11 (.join [7]))
       (.call 10 812 [9, 1, 1, 1, 1, 1, 1, 1, 1, 1, 1, 1, 1, 1, 1, 1, 1, 1, 1, 1, 1, 1, 1, 1, 1, 1, 1, 1, 1, 1, 1, 1, 1, 1, 1, 1, 1, 1, 1, 1, 1, 1, 1, 1, 1, 1, 1, 1, 1, 1, 1, 1, 1, 1, 11])))
   (.seq (.assign 8 (.join [1, 7, 10]))
     (.seq (.ret 8)
       (.ret 0)))))⟩

/-- operators/triangular_linear_operator.py:TriangularLinearOperator.solve (line 222); formals ['self', 'right_tensor', 'left_tensor'] -/
def f641_operators_triangular_linear_operator__TriangularLinearOperator_solve : Fn := ⟨3,
 (.seq (.seq (.seq (.ifStar (.seq (.assign 4 (.view 1))
         (.assign 1 (.same 4))) .skip)
     (.assign 5 (.view 0)))
   (.seq (.assign 6 (.same 5))
     (.assign 7 (.join [3, 6]))))
 (.seq (.seq (.assign 8 (.same 7))
     (.ifStar (.seq (.call 9 778 [0, 3, 3, 3, 3, 3])
         (.seq (.assign 10 .fresh)
           (.assign 11 (.same 10)))) (.ifStar (.seq (.seq (.seq (.call 12 703 [3, 3, 3])
               (.assign 13 (.same 12)))
             (.seq (.assign 14 (.view 1))
               (.assign 15 (.same 14))))
           (.seq (.seq (.ifStar (.assign 16 .fresh) (.call 16 869 [6, 15, 13, 3]))
               (.assign 15 (.same 16)))
             (.seq (.ifStar (.assign 17 .fresh) (.call 17 774 [8, 15, 3, 3]))
               (.seq (.ifStar (.assign 18 .fresh) (.call 18 870 [6, 17, 13, 3]))
                 (.assign 11 (.same 18)))))) (.ifStar (.seq (.ifStar (.assign 19 .fresh) (.call 19 795 [6, 1, 3, 3, 3]))
             (.assign 11 (.same 19))) (.ifStar (.seq (.ifStar (.assign 20 .fresh) (.call 20 774 [6, 1, 3, 3]))
               (.assign 11 (.same 20))) (.seq (.call 21 778 [0, 3, 3, 3, 3, 3])
               (.seq (.assign 22 .fresh)
                 (.assign 11 (.same 22)))))))))
   (.seq (.ifStar (.seq (.ifStar (.assign 23 (.view 11)) (.call 23 784 [11, 3, 3]))
         (.assign 11 (.same 23))) .skip)
     (.seq (.ifStar (.seq (.ifStar (.assign 24 .fresh) (.ifStar (.call 24 798 [11, 2, 3]) (.call 24 797 [2, 11, 3])))
           (.assign 11 (.same 24))) .skip)
       (.ret 11)))))⟩

/-- operators/triangular_linear_operator.py:TriangularLinearOperator.solve_triangular (line 261); formals ['self', 'rhs', 'upper', 'left', 'unitriangular'] -/
def f642_operators_triangular_linear_operator__TriangularLinearOperator_solve_triangular : Fn := ⟨5,
 (.seq (.call 6 774 [0, 1, 5, 5])
 (.ret 6))⟩

/-- operators/zero_linear_operator.py:_ZeroLinearOperatorRepresentationTree.__init__ (line 22); formals ['self', 'linear_op'] -/
def f643_operators_zero_linear_operator___ZeroLinearOperatorRepresentationTree___init__ : Fn := ⟨2,
 (.seq (.seq (.assign 3 (.view 1))
   (.seq (.assign 4 (.join [3]))
     (.assign 0 (.join [0, 4]))))
 (.seq (.assign 0 (.join [0, 2]))
   (.seq (.assign 0 (.join [0, 2]))
     (.ret 0))))⟩

/-- operators/zero_linear_operator.py:_ZeroLinearOperatorRepresentationTree.__call__ (line 27); formals ['self', 'flattened_representation'] -/
def f644_operators_zero_linear_operator___ZeroLinearOperatorRepresentationTree___call__ : Fn := ⟨2,
 (.seq (.seq (.assign 3 (.view 0))
   (.seq (.assign 4 (.join [3]))
     (.assign 6 .fresh)))
 (.seq (.assign 7 (.join [4]))
   (.seq (.call 5 645 [6, 2, 2, 7])
     (.ret 5))))⟩

/-- operators/zero_linear_operator.py:ZeroLinearOperator.__init__ (line 40); formals ['self', 'dtype', 'device', 'sizes'] -/
def f645_operators_zero_linear_operator__ZeroLinearOperator___init__ : Fn := ⟨4,
 (.seq (.seq (.seq (.assign 4 (.join [3]))
     (.seq (.assign 6 (.join [4]))
       (.call 5 812 [0, 4, 4, 4, 4, 4, 4, 4, 4, 4, 4, 4, 4, 4, 4, 4, 4, 1, 2, 4, 4, 4, 4, 4, 4, 4, 4, 4, 4, 4, 4, 4, 4, 4, 4, 4, 4, 4, 4, 4, 4, 4, 4, 4, 4, 4, 4, 4, 4, 4, 4, 4, 4, 4, 6])))
   (.seq (.assign 7 (.join [3]))
     (.seq (.assign 0 (.join [0, 7]))
       (.assign 8 .fresh))))
 (.seq (.seq (.assign 9 (.join [1, 8]))
     (.seq (.assign 0 (.join [0, 9]))
       (.assign 10 .fresh)))
   (.seq (.assign 11 (.join [2, 10]))
     (.seq (.assign 0 (.join [0, 11]))
       (.ret 0)))))⟩

/-- operators/zero_linear_operator.py:ZeroLinearOperator.representation (line 49); formals ['self'] -/
def f646_operators_zero_linear_operator__ZeroLinearOperator_representation : Fn := ⟨1,
 (.seq (.assign 1 (.join []))
 (.ret 1))⟩

/-- operators/zero_linear_operator.py:ZeroLinearOperator.representation_tree (line 53); formals ['self'] -/
def f647_operators_zero_linear_operator__ZeroLinearOperator_representation_tree : Fn := ⟨1,
 (.seq (.assign 2 .fresh)
 (.seq (.call 1 643 [2, 0])
   (.ret 1)))⟩

/-- operators/zero_linear_operator.py:ZeroLinearOperator.dtype (line 57); formals ['self'] -/
def f648_operators_zero_linear_operator__ZeroLinearOperator_dtype : Fn := ⟨1,
 (.seq (.assign 1 (.view 0))
 (.ret 1))⟩

/-- operators/zero_linear_operator.py:ZeroLinearOperator.device (line 61); formals ['self'] -/
def f649_operators_zero_linear_operator__ZeroLinearOperator_device : Fn := ⟨1,
 (.seq (.assign 1 (.view 0))
 (.ret 1))⟩

/-- operators/zero_linear_operator.py:ZeroLinearOperator._bilinear_derivative (line 64); formals ['self', 'left_vecs', 'right_vecs'] -/
def f650_operators_zero_linear_operator__ZeroLinearOperator__bilinear_derivative : Fn := ⟨3,
 (.seq (.assign 3 (.join []))
 (.ret 3))⟩

/-- operators/zero_linear_operator.py:ZeroLinearOperator._diagonal (line 68); formals ['self'] -/
def f651_operators_zero_linear_operator__ZeroLinearOperator__diagonal : Fn := ⟨1,
 (.seq (.assign 1 .fresh)
 (.ret 1))⟩

/-- operators/zero_linear_operator.py:ZeroLinearOperator._expand_batch (line 72); formals ['self', 'batch_shape'] -/
def f652_operators_zero_linear_operator__ZeroLinearOperator__expand_batch : Fn := ⟨2,
 (.seq (.seq (.seq (.assign 2 (.view 0))
     (.assign 3 (.view 2)))
   (.seq (.assign 4 (.view 0))
     (.seq (.assign 5 (.view 0))
       (.assign 6 (.join [1, 3])))))
 (.seq (.seq (.assign 8 .fresh)
     (.assign 10 (.join [6])))
   (.seq (.call 9 812 [8, 6, 6, 6, 6, 6, 6, 6, 6, 6, 6, 6, 6, 6, 6, 6, 6, 4, 5, 6, 6, 6, 6, 6, 6, 6, 6, 6, 6, 6, 6, 6, 6, 6, 6, 6, 6, 6, 6, 6, 6, 6, 6, 6, 6, 6, 6, 6, 6, 6, 6, 6, 6, 6, 10])
     (.seq (.assign 7 (.join [4, 5, 6, 9]))
       (.ret 7)))))⟩

/-- operators/zero_linear_operator.py:ZeroLinearOperator._get_indices (line 77); formals ['self', 'row_index', 'col_index', 'batch_indices'] -/
def f653_operators_zero_linear_operator__ZeroLinearOperator__get_indices : Fn := ⟨4,
 (.seq (.seq (.assign 4 (.join [1, 2]))
   (.assign 5 (.join [3, 4])))
 (.seq (.call 6 714 [0, 5])
   (.seq (.assign 7 .fresh)
     (.ret 7))))⟩

/-- operators/zero_linear_operator.py:ZeroLinearOperator._getitem (line 81); formals ['self', 'row_index', 'col_index', 'batch_indices'] -/
def f654_operators_zero_linear_operator__ZeroLinearOperator__getitem : Fn := ⟨4,
 (.seq (.seq (.seq (.assign 4 (.join [1, 2]))
     (.assign 5 (.join [3, 4])))
   (.seq (.call 6 714 [0, 5])
     (.seq (.assign 7 (.same 6))
       (.assign 8 (.view 0)))))
 (.seq (.seq (.assign 9 (.view 0))
     (.seq (.assign 10 (.join [7]))
       (.assign 12 .fresh)))
   (.seq (.assign 13 (.join [10]))
     (.seq (.call 11 645 [12, 8, 9, 13])
       (.ret 11)))))⟩

/-- operators/zero_linear_operator.py:ZeroLinearOperator._matmul (line 85); formals ['self', 'rhs'] -/
def f655_operators_zero_linear_operator__ZeroLinearOperator__matmul : Fn := ⟨2,
 (.seq (.seq (.call 3 767 [0, 2, 2])
   (.ifStar (.call 4 767 [0, 2, 2]) .skip))
 (.seq (.call 5 703 [2, 2, 2])
   (.seq (.assign 6 .fresh)
     (.ret 6))))⟩

/-- operators/zero_linear_operator.py:ZeroLinearOperator._permute_batch (line 95); formals ['self', 'dims'] -/
def f656_operators_zero_linear_operator__ZeroLinearOperator__permute_batch : Fn := ⟨2,
 (.seq (.seq (.seq (.assign 2 .fresh)
     (.seq (.whileStar ⟨[[0], [1], [0], [0], [0]], [], []⟩ (.seq (.assign 3 (.view 0))
           (.seq (.assign 4 (.view 3))
             (.assign 2 (.join [2, 4])))))
       (.assign 5 (.view 0))))
   (.seq (.seq (.assign 6 (.view 5))
       (.assign 7 (.join [2, 6])))
     (.seq (.assign 8 (.same 7))
       (.assign 9 (.view 0)))))
 (.seq (.seq (.assign 10 (.view 0))
     (.seq (.assign 11 (.join [8]))
       (.assign 13 .fresh)))
   (.seq (.seq (.assign 15 (.join [11]))
       (.call 14 812 [13, 11, 11, 11, 11, 11, 11, 11, 11, 11, 11, 11, 11, 11, 11, 11, 11, 9, 10, 11, 11, 11, 11, 11, 11, 11, 11, 11, 11, 11, 11, 11, 11, 11, 11, 11, 11, 11, 11, 11, 11, 11, 11, 11, 11, 11, 11, 11, 11, 11, 11, 11, 11, 11, 15]))
     (.seq (.assign 12 (.join [9, 10, 11, 14]))
       (.ret 12)))))⟩

/-- operators/zero_linear_operator.py:ZeroLinearOperator._prod_batch (line 100); formals ['self', 'dim'] -/
def f657_operators_zero_linear_operator__ZeroLinearOperator__prod_batch : Fn := ⟨2,
 (.seq (.seq (.seq (.assign 2 (.view 0))
     (.assign 3 (.join [2])))
   (.seq (.assign 4 (.same 3))
     (.seq (.assign 5 (.view 0))
       (.assign 6 (.view 0)))))
 (.seq (.seq (.assign 7 (.join [4]))
     (.seq (.assign 9 .fresh)
       (.assign 11 (.join [7]))))
   (.seq (.call 10 812 [9, 7, 7, 7, 7, 7, 7, 7, 7, 7, 7, 7, 7, 7, 7, 7, 7, 5, 6, 7, 7, 7, 7, 7, 7, 7, 7, 7, 7, 7, 7, 7, 7, 7, 7, 7, 7, 7, 7, 7, 7, 7, 7, 7, 7, 7, 7, 7, 7, 7, 7, 7, 7, 7, 11])
     (.seq (.assign 8 (.join [5, 6, 7, 10]))
       (.ret 8)))))⟩

/-- operators/zero_linear_operator.py:ZeroLinearOperator._root_decomposition (line 105); formals ['self'] -/
def f658_operators_zero_linear_operator__ZeroLinearOperator__root_decomposition : Fn := ⟨1,
 .skip⟩

/-- operators/zero_linear_operator.py:ZeroLinearOperator._root_decomposition_size (line 110); formals ['self'] -/
def f659_operators_zero_linear_operator__ZeroLinearOperator__root_decomposition_size : Fn := ⟨1,
 .skip⟩

def chunk10 : List Fn := [
  f600_operators_sum_linear_operator__SumLinearOperator__matmul,
  f601_operators_sum_linear_operator__SumLinearOperator__mul_constant,
  f602_operators_sum_linear_operator__SumLinearOperator__bilinear_derivative,
  f603_operators_sum_linear_operator__SumLinearOperator__size,
  f604_operators_sum_linear_operator__SumLinearOperator__sum_batch,
  f605_operators_sum_linear_operator__SumLinearOperator__t_matmul,
  f606_operators_sum_linear_operator__SumLinearOperator__transpose_nonbatch,
  f607_operators_sum_linear_operator__SumLinearOperator_to_dense,
  f608_operators_sum_linear_operator__SumLinearOperator___add__,
  f609_operators_toeplitz_linear_operator__ToeplitzLinearOperator___init__,
  f610_operators_toeplitz_linear_operator__ToeplitzLinearOperator__diagonal,
  f611_operators_toeplitz_linear_operator__ToeplitzLinearOperator__expand_batch,
  f612_operators_toeplitz_linear_operator__ToeplitzLinearOperator__get_indices,
  f613_operators_toeplitz_linear_operator__ToeplitzLinearOperator__matmul,
  f614_operators_toeplitz_linear_operator__ToeplitzLinearOperator__t_matmul,
  f615_operators_toeplitz_linear_operator__ToeplitzLinearOperator__bilinear_derivative,
  f616_operators_toeplitz_linear_operator__ToeplitzLinearOperator__size,
  f617_operators_toeplitz_linear_operator__ToeplitzLinearOperator__transpose_nonbatch,
  f618_operators_toeplitz_linear_operator__ToeplitzLinearOperator_add_jitter,
  f619_operators_triangular_linear_operator__TriangularLinearOperator___init__,
  f620_operators_triangular_linear_operator__TriangularLinearOperator___add__,
  f621_operators_triangular_linear_operator__TriangularLinearOperator__cholesky,
  f622_operators_triangular_linear_operator__TriangularLinearOperator__cholesky_solve,
  f623_operators_triangular_linear_operator__TriangularLinearOperator__diagonal,
  f624_operators_triangular_linear_operator__TriangularLinearOperator__expand_batch,
  f625_operators_triangular_linear_operator__TriangularLinearOperator__get_indices,
  f626_operators_triangular_linear_operator__TriangularLinearOperator__matmul,
  f627_operators_triangular_linear_operator__TriangularLinearOperator__mul_constant,
  f628_operators_triangular_linear_operator__TriangularLinearOperator__mul_matrix,
  f629_operators_triangular_linear_operator__TriangularLinearOperator__root_decomposition,
  f630_operators_triangular_linear_operator__TriangularLinearOperator__root_inv_decomposition,
  f631_operators_triangular_linear_operator__TriangularLinearOperator__size,
  f632_operators_triangular_linear_operator__TriangularLinearOperator__solve,
  f633_operators_triangular_linear_operator__TriangularLinearOperator__sum_batch,
  f634_operators_triangular_linear_operator__TriangularLinearOperator__transpose_nonbatch,
  f635_operators_triangular_linear_operator__TriangularLinearOperator_abs,
  f636_operators_triangular_linear_operator__TriangularLinearOperator_add_diagonal,
  f637_operators_triangular_linear_operator__TriangularLinearOperator_to_dense,
  f638_operators_triangular_linear_operator__TriangularLinearOperator_exp,
  f639_operators_triangular_linear_operator__TriangularLinearOperator_inv_quad_logdet,
  f640_operators_triangular_linear_operator__TriangularLinearOperator_inverse,
  f641_operators_triangular_linear_operator__TriangularLinearOperator_solve,
  f642_operators_triangular_linear_operator__TriangularLinearOperator_solve_triangular,
  f643_operators_zero_linear_operator___ZeroLinearOperatorRepresentationTree___init__,
  f644_operators_zero_linear_operator___ZeroLinearOperatorRepresentationTree___call__,
  f645_operators_zero_linear_operator__ZeroLinearOperator___init__,
  f646_operators_zero_linear_operator__ZeroLinearOperator_representation,
  f647_operators_zero_linear_operator__ZeroLinearOperator_representation_tree,
  f648_operators_zero_linear_operator__ZeroLinearOperator_dtype,
  f649_operators_zero_linear_operator__ZeroLinearOperator_device,
  f650_operators_zero_linear_operator__ZeroLinearOperator__bilinear_derivative,
  f651_operators_zero_linear_operator__ZeroLinearOperator__diagonal,
  f652_operators_zero_linear_operator__ZeroLinearOperator__expand_batch,
  f653_operators_zero_linear_operator__ZeroLinearOperator__get_indices,
  f654_operators_zero_linear_operator__ZeroLinearOperator__getitem,
  f655_operators_zero_linear_operator__ZeroLinearOperator__matmul,
  f656_operators_zero_linear_operator__ZeroLinearOperator__permute_batch,
  f657_operators_zero_linear_operator__ZeroLinearOperator__prod_batch,
  f658_operators_zero_linear_operator__ZeroLinearOperator__root_decomposition,
  f659_operators_zero_linear_operator__ZeroLinearOperator__root_decomposition_size]

/-- every function of this chunk conforms to its summary (kernel-evaluated analysis, mask form) -/
theorem chunk10_ok : tableOKB lk sigma10 chunk10 = true := by decide +kernel

end LinOp.Generated.C13
