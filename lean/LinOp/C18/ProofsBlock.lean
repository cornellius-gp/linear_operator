import Mathlib.Algebra.BigOperators.Ring.Finset
import Mathlib.Data.Matrix.Mul
import Mathlib.Logic.Equiv.Fin.Basic
/-!
C18 helper lemmas for the block samplers (`BlockDiag`, `BlockInterleaved`).  Both lay the blocks' draws out along one index;
all that matters is which block `blk i` an output index belongs to and which row `row i` inside it.  The sampler's linear map
is `selL blk row Lb`; block `b` only sees its own noise, so the map applied to the noise is block `blk i`'s map, and
`L Lᵀ` is block structured — for any `blk`, `row`.
-/
namespace LinOp.C18
open Matrix

variable {α : Type} [CommRing α] {ι : Type} {nb n m : Nat}

/-- `L i (b, c) = [blk i = b] · Lb b (row i) c`. -/
def selL (blk : ι → Fin nb) (row : ι → Fin n) (Lb : Fin nb → Matrix (Fin n) (Fin m) α) :
    Matrix ι (Fin nb × Fin m) α :=
  fun i c => if (blk i).1 = c.1.1 then Lb c.1 (row i) c.2 else 0

/-- A sum over (block, column) pairs against row `i` of `selL` only sees block `blk i`. -/
theorem selL_sum (blk : ι → Fin nb) (row : ι → Fin n) (Lb : Fin nb → Matrix (Fin n) (Fin m) α) (i : ι)
    (f : Fin nb → Fin m → α) :
    ∑ c : Fin nb × Fin m, selL blk row Lb i c * f c.1 c.2 = ∑ j, Lb (blk i) (row i) j * f (blk i) j := by
  simp only [selL, Fin.val_inj, ite_mul, zero_mul, Fintype.sum_prod_type]
  rw [Finset.sum_comm]
  simp only [Finset.sum_ite_eq, Finset.mem_univ, if_true]

/-- `(L Lᵀ) i j = [blk i = blk j] · (Lb Lbᵀ)(blk i) (row i) (row j)`. -/
theorem selL_gram (blk : ι → Fin nb) (row : ι → Fin n) (Lb : Fin nb → Matrix (Fin n) (Fin m) α) (i j : ι) :
    (selL blk row Lb * (selL blk row Lb)ᵀ) i j
      = if (blk i).1 = (blk j).1 then (Lb (blk i) * (Lb (blk i))ᵀ) (row i) (row j) else 0 := by
  rw [Matrix.mul_apply]
  simp only [Matrix.transpose_apply]
  rw [selL_sum blk row Lb i fun b c => selL blk row Lb j (b, c)]
  by_cases h : (blk i).1 = (blk j).1
  · simp only [selL, if_true, Matrix.mul_apply, Matrix.transpose_apply, Fin.val_inj.1 h]
  · have h' : ¬ (blk j).1 = (blk i).1 := fun e => h e.symm
    simp only [selL, h', h, if_false, mul_zero, Finset.sum_const_zero]

end LinOp.C18
