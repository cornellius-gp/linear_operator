import Mathlib.Data.Matrix.Basic
import Mathlib.Data.Matrix.Mul
import Mathlib.Data.Matrix.Diagonal
import Mathlib.Algebra.BigOperators.Ring.Finset
import Mathlib.Algebra.Field.Basic
import Mathlib.Tactic.Ring
/-!
C18 helper lemmas: spectral calculus with an orthonormal eigenbasis `U` (`Uᵀ U = U Uᵀ = 1`).
`conjU U d = U diag(d) Uᵀ`; products, sums and inverses of such matrices act on the diagonal.
Used for the contour-integral (CIQ) sampler: `R = Σ_q w_q K (s_q I − K)⁻¹ = U diag(f(λ)) Uᵀ`.
-/
namespace LinOp.C18
open Matrix

variable {α : Type} [Field α] {n : Nat}

/-- `U diag(d) Uᵀ`. -/
def conjU (U : Matrix (Fin n) (Fin n) α) (d : Fin n → α) : Matrix (Fin n) (Fin n) α :=
  U * diagonal d * Uᵀ

theorem conjU_apply (U : Matrix (Fin n) (Fin n) α) (d : Fin n → α) (i j : Fin n) :
    conjU U d i j = ∑ l, U i l * d l * U j l := by
  unfold conjU
  rw [Matrix.mul_apply]
  exact Finset.sum_congr rfl fun l _ => by rw [Matrix.mul_diagonal, Matrix.transpose_apply]

theorem conjU_mul {U : Matrix (Fin n) (Fin n) α} (hU : Uᵀ * U = 1) (d e : Fin n → α) :
    conjU U d * conjU U e = conjU U (fun i => d i * e i) := by
  unfold conjU
  rw [← diagonal_mul_diagonal, Matrix.mul_assoc (U * diagonal d), ← Matrix.mul_assoc Uᵀ, ← Matrix.mul_assoc Uᵀ, hU,
    Matrix.one_mul, Matrix.mul_assoc U, Matrix.mul_assoc U, Matrix.mul_assoc (diagonal d)]

theorem conjU_transpose (U : Matrix (Fin n) (Fin n) α) (d : Fin n → α) : (conjU U d)ᵀ = conjU U d := by
  unfold conjU
  rw [Matrix.transpose_mul, Matrix.transpose_mul, Matrix.transpose_transpose, diagonal_transpose, Matrix.mul_assoc]

theorem conjU_const {U : Matrix (Fin n) (Fin n) α} (hU' : U * Uᵀ = 1) (c : α) :
    conjU U (fun _ => c) = c • (1 : Matrix (Fin n) (Fin n) α) := by
  unfold conjU
  rw [← Matrix.smul_one_eq_diagonal, Matrix.mul_smul, Matrix.mul_one, Matrix.smul_mul, hU']

theorem conjU_sub (U : Matrix (Fin n) (Fin n) α) (d e : Fin n → α) :
    conjU U d - conjU U e = conjU U (fun i => d i - e i) := by
  ext i j
  simp only [Matrix.sub_apply, conjU_apply, ← Finset.sum_sub_distrib]
  exact Finset.sum_congr rfl fun l _ => by ring

theorem conjU_sum_smul {Q : Nat} (U : Matrix (Fin n) (Fin n) α) (w : Fin Q → α) (d : Fin Q → Fin n → α) :
    ∑ q, w q • conjU U (d q) = conjU U (fun i => ∑ q, w q * d q i) := by
  ext i j
  simp only [Matrix.sum_apply, Matrix.smul_apply, smul_eq_mul, conjU_apply, Finset.mul_sum, Finset.sum_mul]
  rw [Finset.sum_comm]
  exact Finset.sum_congr rfl fun l _ => Finset.sum_congr rfl fun q _ => by ring

/-- `U diag(1/(s − λ)) Uᵀ` inverts `s I − U diag(λ) Uᵀ` from the left. -/
theorem conjU_shift_inv {U : Matrix (Fin n) (Fin n) α} (hU : Uᵀ * U = 1) (hU' : U * Uᵀ = 1)
    (lam : Fin n → α) (s : α) (hs : ∀ i, s - lam i ≠ 0) :
    conjU U (fun i => (s - lam i)⁻¹) * (s • (1 : Matrix (Fin n) (Fin n) α) - conjU U lam) = 1 := by
  rw [← conjU_const hU' s, conjU_sub, conjU_mul hU, funext fun i => inv_mul_cancel₀ (hs i), conjU_const hU', one_smul]

/-- The inverse of `s I − U diag(λ) Uᵀ` is `U diag(1/(s − λ)) Uᵀ` (unique: any right inverse equals it). -/
theorem shifted_inverse_unique {U : Matrix (Fin n) (Fin n) α} (hU : Uᵀ * U = 1) (hU' : U * Uᵀ = 1)
    (lam : Fin n → α) (s : α) (hs : ∀ i, s - lam i ≠ 0) (M : Matrix (Fin n) (Fin n) α)
    (hM : (s • (1 : Matrix (Fin n) (Fin n) α) - conjU U lam) * M = 1) :
    M = conjU U (fun i => (s - lam i)⁻¹) := by
  rw [← Matrix.mul_one (conjU U _), ← hM, ← Matrix.mul_assoc, conjU_shift_inv hU hU' lam s hs, Matrix.one_mul]

/-- The CIQ quadrature operator in the eigenbasis: `Σ_q w_q K (s_q I − K)⁻¹ = U diag(f(λ)) Uᵀ` with the scalar
rule `f(λ) = Σ_q w_q λ / (s_q − λ)`. -/
theorem ciq_operator_spectral {Q : Nat} {U : Matrix (Fin n) (Fin n) α} (hU : Uᵀ * U = 1) (hU' : U * Uᵀ = 1)
    (lam : Fin n → α) (s w : Fin Q → α) (hs : ∀ q i, s q - lam i ≠ 0)
    (M : Fin Q → Matrix (Fin n) (Fin n) α)
    (hM : ∀ q, (s q • (1 : Matrix (Fin n) (Fin n) α) - conjU U lam) * M q = 1) :
    ∑ q, w q • (conjU U lam * M q) = conjU U (fun i => ∑ q, w q * (lam i / (s q - lam i))) := by
  have : ∀ q, conjU U lam * M q = conjU U (fun i => lam i / (s q - lam i)) := by
    intro q
    rw [shifted_inverse_unique hU hU' lam (s q) (hs q) (M q) (hM q), conjU_mul hU]
    congr 1
    funext i
    exact (div_eq_mul_inv _ _).symm
  simp only [this]
  exact conjU_sum_smul U w _

end LinOp.C18
