import LinOp.C18.ProofsCIQ
/-!
C18 helper lemmas for the PRECONDITIONED contour-integral sampler.

`contour_integral_quad(K, z)` with an active preconditioner `P` (closure `preconditioner = P⁻¹ ·`, operator
`preconditioner_lt = P`):
  1. `rhs ← sqrt_precond_matmul(z) = S z`, `S` the map of the nested (unpreconditioned) CIQ on `P` (`S Sᵀ ≈ P`);
  2. preconditioned msMINRES (`value = -1`, shifts `s_q`, preconditioner `P⁻¹`) applies `N_q = (s_q P − K)⁻¹`;
  3. `solves ← K N_q rhs`; the sampler returns `Σ_q w_q · solves_q`.
With `V = P^{1/2}` (symmetric), `W = V⁻¹` and `M = W K W = U diag(μ) Uᵀ` the operator is
`Σ_q w_q K N_q = V · U diag(f(μ)) Uᵀ · W`, the SAME scalar rule `f(μ) = Σ_q w_q μ/(s_q − μ)` evaluated on the spectrum of
the preconditioned matrix `P^{-1/2} K P^{-1/2}`.
-/
namespace LinOp.C18
open Matrix

variable {α : Type} [Field α] {n : Nat}

/-- The inverse of a symmetric matrix is symmetric. -/
theorem inv_symm_of_symm {V W : Matrix (Fin n) (Fin n) α} (hWV : W * V = 1) (hW : Wᵀ = W) :
    Vᵀ = V := by
  calc Vᵀ = Vᵀ * (W * V) := by rw [hWV, Matrix.mul_one]
    _ = (W * V)ᵀ * V := by rw [Matrix.transpose_mul, hW, Matrix.mul_assoc]
    _ = V := by rw [hWV, Matrix.transpose_one, Matrix.one_mul]

/-- A right inverse of `V D V` is `W Di W` when `W`, `Di` are left inverses of `V`, `D`. -/
theorem right_inv_of_conj {V W D Di N : Matrix (Fin n) (Fin n) α} (hWV : W * V = 1) (hDi : Di * D = 1)
    (hN : V * D * V * N = 1) : N = W * Di * W := by
  calc N = W * (Di * (D * (V * N))) := by
        rw [← Matrix.mul_assoc Di, hDi, Matrix.one_mul, ← Matrix.mul_assoc, hWV, Matrix.one_mul]
    _ = W * (Di * (W * (V * D * V * N))) := by
        rw [Matrix.mul_assoc V D, Matrix.mul_assoc V (D * V), ← Matrix.mul_assoc W V, hWV, Matrix.one_mul, Matrix.mul_assoc D]
    _ = W * Di * W := by rw [hN, Matrix.mul_one, Matrix.mul_assoc]

/-- Any right inverse of `s P − K` with `P = V V`, `K = V M V`, `M = U diag(μ) Uᵀ` is `W U diag(1/(s − μ)) Uᵀ W`. -/
theorem precond_shifted_inverse {U V W : Matrix (Fin n) (Fin n) α} (hU : Uᵀ * U = 1) (hU' : U * Uᵀ = 1)
    (hWV : W * V = 1) (mu : Fin n → α) (s : α) (hs : ∀ i, s - mu i ≠ 0)
    (N : Matrix (Fin n) (Fin n) α)
    (hN : (s • (V * V) - V * conjU U mu * V) * N = 1) :
    N = W * conjU U (fun i => (s - mu i)⁻¹) * W := by
  refine right_inv_of_conj hWV (conjU_shift_inv hU hU' mu s hs) ?_
  rwa [Matrix.mul_sub, Matrix.sub_mul, Matrix.mul_smul, Matrix.mul_one, Matrix.smul_mul]

/-- **The preconditioned CIQ quadrature operator**: `Σ_q w_q K (s_q P − K)⁻¹ = V · U diag(f(μ)) Uᵀ · W`. -/
theorem ciqPrecond_operator {Q : Nat} {U V W : Matrix (Fin n) (Fin n) α} (hU : Uᵀ * U = 1) (hU' : U * Uᵀ = 1)
    (hVW : V * W = 1) (hWV : W * V = 1) (mu : Fin n → α) (s w : Fin Q → α) (hs : ∀ q i, s q - mu i ≠ 0)
    (N : Fin Q → Matrix (Fin n) (Fin n) α)
    (hN : ∀ q, (s q • (V * V) - V * conjU U mu * V) * N q = 1) :
    ∑ q, w q • ((V * conjU U mu * V) * N q)
      = V * conjU U (fun i => ∑ q, w q * (mu i / (s q - mu i))) * W := by
  have hq : ∀ q, (V * conjU U mu * V) * N q = V * conjU U (fun i => mu i / (s q - mu i)) * W := by
    intro q
    rw [precond_shifted_inverse hU hU' hWV mu (s q) (hs q) (N q) (hN q), ← Matrix.mul_assoc, ← Matrix.mul_assoc,
      Matrix.mul_assoc (V * _) V W, hVW, Matrix.mul_one, Matrix.mul_assoc V, conjU_mul hU]
    simp only [div_eq_mul_inv]
  simp only [hq, ← conjU_sum_smul U w fun q i => mu i / (s q - mu i), Matrix.mul_sum, Matrix.sum_mul, Matrix.mul_smul,
    Matrix.smul_mul]

/-- `(V C W S)(V C W S)ᵀ = V C² V` for `C = U diag(F) Uᵀ`, `W = V⁻¹` symmetric and `S` any root of `P = V V`. -/
theorem sandwich_cov {U V W S : Matrix (Fin n) (Fin n) α} (hU : Uᵀ * U = 1)
    (hVW : V * W = 1) (hWV : W * V = 1) (hW : Wᵀ = W) (F : Fin n → α) (hS : S * Sᵀ = V * V) :
    (V * conjU U F * W * S) * (V * conjU U F * W * S)ᵀ = V * conjU U (fun i => F i * F i) * V := by
  have hV : Vᵀ = V := inv_symm_of_symm hWV hW
  have hT : (V * conjU U F * W)ᵀ = W * conjU U F * V := by
    rw [Matrix.transpose_mul, Matrix.transpose_mul, hW, hV, conjU_transpose, Matrix.mul_assoc]
  -- `(V C W)(S Sᵀ)(W C V)` with `S Sᵀ = V V`: the inner `W V` and `V W` cancel
  rw [Matrix.transpose_mul, ← Matrix.mul_assoc, Matrix.mul_assoc _ S, hS, hT, ← Matrix.mul_assoc, ← Matrix.mul_assoc,
    ← Matrix.mul_assoc _ V V, Matrix.mul_assoc _ W V, hWV, Matrix.mul_one, Matrix.mul_assoc _ V W, hVW, Matrix.mul_one,
    Matrix.mul_assoc V, conjU_mul hU]

end LinOp.C18
