import LinOp.C02.Block
import LinOp.C02.Proofs2
import Mathlib.Data.Matrix.Block
/-! C02 helper lemmas: cat / cat_rows / add_low_rank, and the inverse-root facts behind the block root identity of `cat_rows`. -/
namespace LinOp.C02
open Op
variable {α : Type} [CommRing α]
set_option linter.unusedSectionVars false

theorem catOp_refines (rowwise : Bool) (cls : Nat) (a b r : Op α) (h : catOp rowwise cls a b = .ok r) :
    (r.rows = if rowwise then a.rows + b.rows else a.rows) ∧ (r.cols = if rowwise then a.cols else a.cols + b.cols) ∧
    ∀ i j, r.denote i j = if rowwise then vcat a.rows a.denote b.denote i j else hcat a.cols a.denote b.denote i j := by
  unfold catOp at h
  cases rowwise
  · rw [if_neg Bool.false_ne_true] at h
    rcases ite_eq_iff.1 h with ⟨-, h⟩ | ⟨-, h⟩ <;> cases h
    exact ⟨rfl, rfl, fun _ _ => rfl⟩
  · rw [if_pos rfl] at h
    rcases ite_eq_iff.1 h with ⟨-, h⟩ | ⟨-, h⟩ <;> cases h
    exact ⟨rfl, rfl, fun _ _ => rfl⟩

theorem catRowsOp_refines (cls : Nat) (a r : Op α) (o : Nat) (B D : NMat α) (h : catRowsOp cls a o B D = .ok r)
    (hsq : a.rows = a.cols) :
    r.rows = a.rows + o ∧ r.cols = a.cols + o ∧ ∀ i j, r.denote i j =
      if i < a.rows then (if j < a.cols then a.denote i j else B (j - a.cols) i)
      else (if j < a.cols then B (i - a.rows) j else D (i - a.rows) (j - a.cols)) := by
  unfold catRowsOp at h
  obtain ⟨up, hup, h⟩ := bind_ok _ _ _ h
  obtain ⟨lo, hlo, h⟩ := bind_ok _ _ _ h
  obtain ⟨r1, c1, v1⟩ := catOp_refines _ _ _ _ _ hup
  obtain ⟨r2, c2, v2⟩ := catOp_refines _ _ _ _ _ hlo
  obtain ⟨r3, c3, v3⟩ := catOp_refines _ _ _ _ _ h
  refine ⟨r3.trans r1, c3.trans (congrArg₂ (· + ·) c1 c2), fun i j => ?_⟩
  -- `[up | lo]` with `up = [a; B]`, `lo = [Bᵀ; D]`, read row-first instead of column-first
  rw [v3]
  simp only [Bool.false_eq_true, if_false, hcat, v1, v2, c1, if_true, vcat, denote, rows, cols, hsq]
  by_cases hi : i < a.cols <;> by_cases hj : j < a.cols <;> simp only [hi, hj, if_true, if_false]

theorem addLowRank_refines (a r : Op α) (k : Nat) (B : NMat α) (h : addLowRank a k B = .ok r) (i j : Nat)
    (hi : i < a.rows) : r.denote i j = a.denote i j + sumN k fun l => B i l * B j l := by
  unfold addLowRank at h
  rcases ite_eq_iff.1 h with ⟨-, h⟩ | ⟨-, h⟩
  · cases h
  rcases ite_eq_iff.1 h with ⟨-, h⟩ | ⟨-, h⟩
  · cases h; rfl
  · exact add_refines _ _ _ h i j hi

/-! ### the inverse root in `cat_rows`

`E` is the cached root of `A`, `R` the inverse root the code multiplies with (`E Rᵀ = 1`); the off-diagonal blocks of
`[[E, 0], [B R, G]] [[E, 0], [B R, G]]ᵀ` are `E (B R)ᵀ` and `B R Eᵀ`. -/
section
open Matrix
variable {n o k : Type} [Fintype n] [Fintype k] [DecidableEq n]
  {E R : Matrix n k α} (hR : E * Rᵀ = 1)
include hR

theorem inverseRoot_mul_transpose : R * Eᵀ = 1 := by
  rw [← transpose_one, ← hR, transpose_mul, transpose_transpose]

theorem root_mul_transpose_inverseRoot (B : Matrix o n α) : E * (B * R)ᵀ = Bᵀ := by
  rw [transpose_mul, ← Matrix.mul_assoc, hR, Matrix.one_mul]

theorem mul_inverseRoot_mul_transpose (B : Matrix o n α) : B * R * Eᵀ = B := by
  rw [Matrix.mul_assoc, inverseRoot_mul_transpose hR, Matrix.mul_one]
end

end LinOp.C02
