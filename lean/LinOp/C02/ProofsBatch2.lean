import LinOp.C02.ProofsBatch
/-! C02 helper lemmas for the batched layer, part 2: `_sum_batch`, `_prod_batch`, batch constants, constructors. -/
namespace LinOp.C02
open BOp
variable {α : Type} [CommRing α]
set_option linter.unusedSectionVars false

/-- the `cons` step of the list companions (`sumBatchL`, `mulConstBL`): both parts succeeded. -/
theorem cons_some {β : Type} (x : Option β) (y : Option (List β)) (r : List β)
    (h : (do let a ← x; let l ← y; pure (a :: l)) = some r) : ∃ a l, x = some a ∧ y = some l ∧ r = a :: l := by
  cases x with
  | none => cases h
  | some a =>
    cases y with
    | none => cases h
    | some l => cases h; exact ⟨a, l, rfl, rfl, rfl⟩

mutual
  /-- `_sum_batch(d)` of the classes with a structural override denotes the sum over the batch dimension `d`. -/
  theorem sumBatch_value (d : Nat) (S : Shape) (o r : BOp α) (h : o.uniform S = true) (hr : sumBatch d o = some r)
      (idx : BIdx) (i j : Nat) :
      r.denote idx i j = sumN (S.getD d 0) fun k => o.denote (idx.insertIdx d k) i j := by
    cases o with
    | dense => cases eq_of_beq h; cases hr; rfl
    | diag | constDiag | identity => cases eq_of_beq h; cases hr; exact (sumN_ite ..).symm
    | zero => cases hr; exact (sumN_zero _).symm
    | tri up t =>
      obtain ⟨t', ht, rfl⟩ := Option.map_eq_some_iff.1 hr
      exact sumBatch_value d S t t' h ht idx i j
    | sum l =>
      obtain ⟨l', hl, rfl⟩ := Option.map_eq_some_iff.1 hr
      exact denoteL_sumBatchL d S l l' (Bool.and_elim_right h) hl idx i j
    | toep | root | matmul | constMul => cases hr
  theorem denoteL_sumBatchL (d : Nat) (S : Shape) (l l' : List (BOp α)) (h : uniformL S l = true)
      (hr : sumBatchL d l = some l') (idx : BIdx) (i j : Nat) :
      denoteL l' idx i j = sumN (S.getD d 0) fun k => denoteL l (idx.insertIdx d k) i j := by
    cases l with
    | nil => cases hr; exact (sumN_zero _).symm
    | cons a l =>
      obtain ⟨a', l2, ha, hl, rfl⟩ := cons_some _ _ _ hr
      exact (congrArg₂ (· + ·) (sumBatch_value d S a a' (Bool.and_elim_left h) ha idx i j)
        (denoteL_sumBatchL d S l l2 (Bool.and_elim_right h) hl idx i j)).trans (sumN_add ..).symm
end

theorem sumBatchL_value (d : Nat) (S : Shape) (l l' : List (BOp α)) (h : (!l.isEmpty && uniformL S l) = true)
    (hr : sumBatchL d l = some l') (idx : BIdx) (i j : Nat) :
    denoteL l' idx i j = sumN (S.getD d 0) fun k => denoteL l (idx.insertIdx d k) i j :=
  denoteL_sumBatchL d S l l' (Bool.and_elim_right h) hr idx i j

theorem isEmpty_sumBatchL (d : Nat) (l l' : List (BOp α)) (hr : sumBatchL d l = some l') : l'.isEmpty = l.isEmpty := by
  cases l with
  | nil => cases hr; rfl
  | cons a l => obtain ⟨_, _, _, _, rfl⟩ := cons_some _ _ _ hr; rfl

mutual
  theorem sumBatch_uniform (d : Nat) (S : Shape) (o r : BOp α) (h : o.uniform S = true) (hr : sumBatch d o = some r) :
      r.uniform (S.eraseIdx d) = true := by
    cases o with
    | dense | diag | constDiag | identity | zero => cases eq_of_beq h; cases hr; exact beq_self_eq_true _
    | tri up t =>
      obtain ⟨t', ht, rfl⟩ := Option.map_eq_some_iff.1 hr
      exact sumBatch_uniform d S t t' h ht
    | sum l =>
      obtain ⟨l', hl, rfl⟩ := Option.map_eq_some_iff.1 hr
      exact Bool.and_intro ((isEmpty_sumBatchL d l l' hl).symm ▸ Bool.and_elim_left h)
        (uniformL_sumBatchL d S l l' (Bool.and_elim_right h) hl)
    | toep | root | matmul | constMul => cases hr
  theorem uniformL_sumBatchL (d : Nat) (S : Shape) (l l' : List (BOp α)) (h : uniformL S l = true)
      (hr : sumBatchL d l = some l') : uniformL (S.eraseIdx d) l' = true := by
    cases l with
    | nil => cases hr; rfl
    | cons a l =>
      obtain ⟨a', l2, ha, hl, rfl⟩ := cons_some _ _ _ hr
      exact Bool.and_intro (sumBatch_uniform d S a a' (Bool.and_elim_left h) ha)
        (uniformL_sumBatchL d S l l2 (Bool.and_elim_right h) hl)
end

theorem sumBatchL_uniform (d : Nat) (S : Shape) (l l' : List (BOp α)) (h : (!l.isEmpty && uniformL S l) = true)
    (hr : sumBatchL d l = some l') : (!l'.isEmpty && uniformL (S.eraseIdx d) l') = true :=
  sumBatch_uniform d S (.sum l) (.sum l') h (congrArg (Option.map BOp.sum) hr)

/-- `_prod_batch(d)` (Dense / Diag / ConstantDiag / Identity / Zero) denotes the entrywise product over the batch dimension `d`
(a non-empty dimension: the empty product of diagonal matrices is not diagonal). -/
theorem prodBatch_value (d : Nat) (S : Shape) (o r : BOp α) (h : o.uniform S = true) (hr : prodBatch d o = some r)
    (hpos : 0 < S.getD d 0) (idx : BIdx) (i j : Nat) :
    r.denote idx i j = prodN (S.getD d 0) fun k => o.denote (idx.insertIdx d k) i j := by
  cases o with
  | dense => cases eq_of_beq h; cases hr; rfl
  | diag | constDiag => cases eq_of_beq h; cases hr; exact (prodN_ite _ hpos ..).symm
  | identity => cases eq_of_beq h; cases hr; exact ((prodN_ite _ hpos ..).trans (by rw [prodN_one]; rfl)).symm
  | zero => cases hr; exact (prodN_zero _ hpos).symm
  | tri | sum | toep | root | matmul | constMul => cases hr

theorem prodBatch_uniform (d : Nat) (S : Shape) (o r : BOp α) (h : o.uniform S = true) (hr : prodBatch d o = some r) :
    r.uniform (S.eraseIdx d) = true := by
  cases o with
  | dense | diag | constDiag | identity | zero => cases eq_of_beq h; cases hr; exact beq_self_eq_true _
  | tri | sum | toep | root | matmul | constMul => cases hr

/-! ### the matrix shape is kept -/
mutual
  theorem shape_sumBatch (d : Nat) (o r : BOp α) (hr : sumBatch d o = some r) : r.rows = o.rows ∧ r.cols = o.cols := by
    cases o with
    | dense | diag | constDiag | identity | zero => cases hr; exact ⟨rfl, rfl⟩
    | tri up t =>
      obtain ⟨t', ht, rfl⟩ := Option.map_eq_some_iff.1 hr
      exact shape_sumBatch d t t' ht
    | sum l =>
      obtain ⟨l', hl, rfl⟩ := Option.map_eq_some_iff.1 hr
      exact shapeL_sumBatch d l l' hl
    | toep | root | matmul | constMul => cases hr
  theorem shapeL_sumBatch (d : Nat) (l l' : List (BOp α)) (hr : sumBatchL d l = some l') :
      rowsL l' = rowsL l ∧ colsL l' = colsL l := by
    cases l with
    | nil => cases hr; exact ⟨rfl, rfl⟩
    | cons a l =>
      obtain ⟨a', _, ha, _, rfl⟩ := cons_some _ _ _ hr
      exact shape_sumBatch d a a' ha
end

theorem shape_prodBatch (d : Nat) (o r : BOp α) (hr : prodBatch d o = some r) : r.rows = o.rows ∧ r.cols = o.cols := by
  cases o with
  | dense | diag | constDiag | identity | zero => cases hr; exact ⟨rfl, rfl⟩
  | tri | sum | toep | root | matmul | constMul => cases hr

mutual
  /-- `_mul_constant` with a batch of constants (or a 0-d constant): every class scales the matrix at each batch index. -/
  theorem mulConstB_value (cbs : Shape) (c : BIdx → α) (S : Shape) (o r : BOp α) (h : o.uniform S = true)
      (hr : mulConstB cbs c o = some r) (idx : BIdx) (hidx : inRange S idx = true) (i j : Nat) :
      r.denote idx i j = o.denote idx i j * c (bcast cbs idx) := by
    cases o with
    | dense | toep | matmul | constMul => cases hr; exact mul_comm _ _
    | root => cases hr
    | diag | constDiag =>
      cases eq_of_beq h
      obtain ⟨S', _, rfl⟩ := Option.map_eq_some_iff.1 hr
      simp only [denote, bcast_id _ idx hidx]
      exact (ite_zero_mul ..).symm
    | identity =>
      obtain ⟨S', _, rfl⟩ := Option.map_eq_some_iff.1 hr
      exact (ite_zero_mul ..).symm
    | zero =>
      obtain ⟨S', _, rfl⟩ := Option.map_eq_some_iff.1 hr
      exact (zero_mul _).symm
    | tri up t =>
      obtain ⟨t', ht, rfl⟩ := Option.map_eq_some_iff.1 hr
      exact mulConstB_value cbs c S t t' h ht idx hidx i j
    | sum l =>
      obtain ⟨l', hl, rfl⟩ := Option.map_eq_some_iff.1 hr
      exact denoteL_mulConstBL cbs c S l l' (Bool.and_elim_right h) hl idx hidx i j
  theorem denoteL_mulConstBL (cbs : Shape) (c : BIdx → α) (S : Shape) (l l' : List (BOp α))
      (h : uniformL S l = true) (hr : mulConstBL cbs c l = some l') (idx : BIdx)
      (hidx : inRange S idx = true) (i j : Nat) :
      denoteL l' idx i j = denoteL l idx i j * c (bcast cbs idx) := by
    cases l with
    | nil => cases hr; exact (zero_mul _).symm
    | cons a l =>
      obtain ⟨a', l2, ha, hl, rfl⟩ := cons_some _ _ _ hr
      exact add_mul_of_eq (mulConstB_value cbs c S a a' (Bool.and_elim_left h) ha idx hidx i j)
        (denoteL_mulConstBL cbs c S l l2 (Bool.and_elim_right h) hl idx hidx i j)
end

theorem mulConstBL_value (cbs : Shape) (c : BIdx → α) (S : Shape) (l l' : List (BOp α))
    (h : (!l.isEmpty && uniformL S l) = true) (hr : mulConstBL cbs c l = some l') (idx : BIdx)
    (hidx : inRange S idx = true) (i j : Nat) :
    denoteL l' idx i j = denoteL l idx i j * c (bcast cbs idx) :=
  denoteL_mulConstBL cbs c S l l' (Bool.and_elim_right h) hr idx hidx i j

/-- `MatmulLinearOperator(a, b)` with operands of different batch shapes: both factors are expanded to the broadcast shape `S`,
the product at batch index `idx` reads each operand at its broadcast index. -/
theorem mkMatmul_value (a b r : BOp α) (sa sb : Shape) (ha : a.uniform sa = true) (hb : b.uniform sb = true)
    (h : mkMatmul a b = .ok r) :
    ∃ S, bshapes sa sb = some S ∧ r.bshape = S ∧ r.uniform S = true ∧ r.rows = a.rows ∧ r.cols = b.cols ∧
      ∀ idx, inRange S idx = true → ∀ i j,
        r.denote idx i j = sumN a.cols fun k => a.denote (bcast sa idx) i k * b.denote (bcast sb idx) k j := by
  unfold mkMatmul at h
  rw [bshapes_of_uniform ha hb] at h
  split at h
  next S hS =>
    cases h
    obtain ⟨ua, va⟩ := matchBatch_spec S sa a ha
    obtain ⟨ub, vb⟩ := matchBatch_spec S sb b hb
    exact ⟨S, hS, bshape_of_uniform S (matchBatch S a) ua, Bool.and_intro ua ub, (matchBatch_shape S a).1,
      (matchBatch_shape S b).2, fun idx hidx i j => by
        simp only [denote, (matchBatch_shape S a).2, va idx hidx, vb idx hidx]⟩
  · cases h

/-- `SumLinearOperator(a, b)` with operands of different batch shapes (the final branch of the base-class `__add__`). -/
theorem mkSum2_value (a b r : BOp α) (sa sb : Shape) (ha : a.uniform sa = true) (hb : b.uniform sb = true)
    (h : mkSum2 a b = .ok r) :
    ∃ S, bshapes sa sb = some S ∧ r.bshape = S ∧ r.uniform S = true ∧ r.rows = a.rows ∧ r.cols = a.cols ∧
      ∀ idx, inRange S idx = true → ∀ i j,
        r.denote idx i j = a.denote (bcast sa idx) i j + b.denote (bcast sb idx) i j := by
  unfold mkSum2 at h
  rw [bshapes_of_uniform ha hb] at h
  split at h
  next S hS =>
    cases h
    obtain ⟨ua, va⟩ := matchBatch_spec S sa a ha
    obtain ⟨ub, vb⟩ := matchBatch_spec S sb b hb
    exact ⟨S, hS, bshape_of_uniform S (matchBatch S a) ua, Bool.and_intro rfl (Bool.and_intro ua (Bool.and_intro ub rfl)),
      (matchBatch_shape S a).1, (matchBatch_shape S a).2, fun idx hidx i j =>
        congrArg₂ (· + ·) (va idx hidx i j) ((add_zero _).trans (vb idx hidx i j))⟩
  · cases h

end LinOp.C02
