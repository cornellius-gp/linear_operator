import LinOp.C02.Batch
import LinOp.C02.Proofs
import LinOp.Core.Shape
/-! C02, batched layer (LinOp/C02/Batch.lean): `bcast` / `inRange` / `bshapes` arithmetic, `sumN` / `prodN`, then the generic
re-indexing recursion `reindex` (`_unsqueeze_batch` by definition, `_permute_batch` and — for batch-uniform operands — `_expand_batch` by
`permuteBatch_eq_reindex` / `expandBatch_eq_reindex`): the matrix shape is kept, batch-uniformity is kept, and the value at a batch
index is the old value at the mapped index; `expandBatch` and `matchBatch` inherit this. -/
namespace LinOp.C02
open BOp
variable {α : Type} [CommRing α]
set_option linter.unusedSectionVars false

/-! ### index arithmetic -/

theorem inRange_length : ∀ (S : Shape) (idx : BIdx), inRange S idx = true → idx.length = S.length
  | [], [], _ => rfl
  | [], _ :: _, h => nomatch h
  | _ :: _, [], h => nomatch h
  | _ :: s, _ :: idx, h => congrArg (· + 1) (inRange_length s idx (Bool.and_elim_right h))

theorem zipWith_bc_id : ∀ (S : Shape) (idx : BIdx), inRange S idx = true →
    List.zipWith (fun sz i => if sz = 1 then 0 else i) S idx = idx
  | [], [], _ => rfl
  | [], _ :: _, h => nomatch h
  | _ :: _, [], h => nomatch h
  | sz :: s, i :: idx, h => by
    have hi : i < sz := of_decide_eq_true (Bool.and_elim_left h)
    rw [List.zipWith_cons_cons, zipWith_bc_id s idx (Bool.and_elim_right h)]
    split
    · -- a size-1 dimension: the only valid index is 0
      have : i = 0 := by omega
      rw [this]
    · rfl

/-- a valid index of a tensor of shape `S` is read as it is. -/
theorem bcast_id (S : Shape) (idx : BIdx) (h : inRange S idx = true) : bcast S idx = idx := by
  unfold bcast
  rw [inRange_length S idx h, Nat.sub_self, List.drop_zero, zipWith_bc_id S idx h]

theorem zipWith_bc_idem : ∀ (S : Shape) (x : BIdx),
    List.zipWith (fun sz i => if sz = 1 then 0 else i) S (List.zipWith (fun sz i => if sz = 1 then 0 else i) S x)
      = List.zipWith (fun sz i => if sz = 1 then 0 else i) S x
  | [], _ => rfl
  | _ :: _, [] => rfl
  | sz :: s, i :: x => by
    rw [List.zipWith_cons_cons, List.zipWith_cons_cons, zipWith_bc_idem s x]
    split <;> rfl

theorem bcast_idem (S : Shape) (idx : BIdx) : bcast S (bcast S idx) = bcast S idx := by
  unfold bcast
  have hl : (List.zipWith (fun sz i => if sz = 1 then 0 else i) S (List.drop (idx.length - S.length) idx)).length - S.length = 0 := by
    rw [List.length_zipWith]
    omega
  rw [hl, List.drop_zero, zipWith_bc_idem]

theorem bcast_nil (idx : BIdx) : bcast [] idx = [] := List.zipWith_nil_left

theorem bshapesRev_eq : bshapesRev = LinOp.Shape.bcastRev :=
  LinOp.Shape.bcastRev_unique (fun t => by cases t <;> rfl) (fun s => by cases s <;> rfl) fun a b _ _ => LinOp.Shape.step_if a b _

theorem bshapes_eq : bshapes = LinOp.Shape.bcast := by funext s t; rw [bshapes, bshapesRev_eq]; rfl

theorem bshapes_self (s : Shape) : bshapes s s = some s := bshapes_eq ▸ LinOp.Shape.bcast_self s
theorem bshapes_nil (s : Shape) : bshapes s [] = some s := bshapes_eq ▸ LinOp.Shape.bcast_nil_right s

/-! ### sums and products -/
theorem sumN_add (k : Nat) (f g : Nat → α) : sumN k (fun l => f l + g l) = sumN k f + sumN k g := by
  induction k with
  | zero => simp [sumN]
  | succ k ih => simp only [sumN, ih]; ring

theorem sumN_ite (k : Nat) (p : Prop) [Decidable p] (f : Nat → α) :
    sumN k (fun l => if p then f l else 0) = if p then sumN k f else 0 := by
  by_cases h : p <;> simp [h, sumN_zero]

theorem prodN_zero (k : Nat) (hk : 0 < k) : prodN k (fun _ => (0 : α)) = 0 := by
  cases k with
  | zero => omega
  | succ k => simp [prodN]

theorem prodN_ite (k : Nat) (hk : 0 < k) (p : Prop) [Decidable p] (f : Nat → α) :
    prodN k (fun l => if p then f l else 0) = if p then prodN k f else 0 := by
  by_cases h : p
  · simp only [if_pos h]
  · simp only [if_neg h, prodN_zero k hk]

theorem prodN_one (k : Nat) : prodN k (fun _ => (1 : α)) = 1 := by
  induction k with
  | zero => rfl
  | succ k ih => simp [prodN, ih]

theorem prodN_congr (k : Nat) (f g : Nat → α) (h : ∀ l, l < k → f l = g l) : prodN k f = prodN k g := by
  induction k with
  | zero => rfl
  | succ k ih =>
    simp only [prodN]
    rw [ih (fun l hl => h l (by omega)), h k (by omega)]

/-! ### shapes -/
mutual
  theorem bshape_of_uniform (S : Shape) (o : BOp α) (h : o.uniform S = true) : o.bshape = S := by
    cases o with
    | tri _ t | root t => exact bshape_of_uniform S t h
    | sum l => exact bshapeL_of_uniform S l h
    | matmul a _ => exact bshape_of_uniform S a (Bool.and_elim_left h)
    | constMul a _ _ => exact bshape_of_uniform S a (Bool.and_elim_right h)
    | _ => exact eq_of_beq h
  theorem bshapeL_of_uniform (S : Shape) (l : List (BOp α)) (h : (!l.isEmpty && uniformL S l) = true) : bshapeL l = S := by
    cases l with
    | nil => cases h
    | cons a _ => exact bshape_of_uniform S a (Bool.and_elim_left (Bool.and_elim_right h))
end

mutual
  theorem shape_reindex (φ : BIdx → BIdx) (σ : Shape → Shape) (o : BOp α) :
      (reindex φ σ o).rows = o.rows ∧ (reindex φ σ o).cols = o.cols := by
    cases o with
    | tri _ t | constMul t _ _ => exact shape_reindex φ σ t
    | root r => exact ⟨(shape_reindex φ σ r).1, (shape_reindex φ σ r).1⟩
    | sum l => exact shapeL_reindex φ σ l
    | matmul a b => exact ⟨(shape_reindex φ σ a).1, (shape_reindex φ σ b).2⟩
    | _ => exact ⟨rfl, rfl⟩
  theorem shapeL_reindex (φ : BIdx → BIdx) (σ : Shape → Shape) (l : List (BOp α)) :
      rowsL (reindexL φ σ l) = rowsL l ∧ colsL (reindexL φ σ l) = colsL l := by
    cases l with
    | nil => exact ⟨rfl, rfl⟩
    | cons a _ => exact shape_reindex φ σ a
end

mutual
  theorem shape_expand (S : Shape) (o : BOp α) :
      (expandBatch S o).rows = o.rows ∧ (expandBatch S o).cols = o.cols := by
    cases o with
    | tri _ t | constMul t _ _ => exact shape_expand S t
    | root r => exact ⟨(shape_expand S r).1, (shape_expand S r).1⟩
    | sum l => exact shapeL_expand S l
    | matmul a b => exact ⟨(shape_expand S a).1, (shape_expand S b).2⟩
    | _ => exact ⟨rfl, rfl⟩
  theorem shapeL_expand (S : Shape) (l : List (BOp α)) :
      rowsL (expandBatchL S l) = rowsL l ∧ colsL (expandBatchL S l) = colsL l := by
    cases l with
    | nil => exact ⟨rfl, rfl⟩
    | cons a _ => exact shape_expand S a
end

/-! ### `_permute_batch` / `_unsqueeze_batch` -/

theorem isEmpty_reindexL (φ : BIdx → BIdx) (σ : Shape → Shape) (l : List (BOp α)) :
    (reindexL φ σ l).isEmpty = l.isEmpty := by
  cases l <;> rfl

mutual
  theorem uniform_reindex (φ : BIdx → BIdx) (σ : Shape → Shape) (S : Shape) (o : BOp α) (h : o.uniform S = true) :
      (reindex φ σ o).uniform (σ S) = true := by
    cases o with
    | tri _ t | root t => exact uniform_reindex φ σ S t h
    | sum l =>
      exact Bool.and_intro ((isEmpty_reindexL φ σ l).symm ▸ Bool.and_elim_left h)
        (uniformL_reindexL φ σ S l (Bool.and_elim_right h))
    | matmul a b =>
      exact Bool.and_intro (uniform_reindex φ σ S a (Bool.and_elim_left h))
        (uniform_reindex φ σ S b (Bool.and_elim_right h))
    | constMul a cbs c =>
      have ha := Bool.and_elim_right h
      exact Bool.and_intro (Bool.or_inl ((bshape_of_uniform S a ha).symm ▸ beq_self_eq_true _))
        (uniform_reindex φ σ S a ha)
    | _ => cases eq_of_beq h; exact beq_self_eq_true _
  theorem uniformL_reindexL (φ : BIdx → BIdx) (σ : Shape → Shape) (S : Shape) (l : List (BOp α))
      (h : uniformL S l = true) : uniformL (σ S) (reindexL φ σ l) = true := by
    cases l with
    | nil => rfl
    | cons a l =>
      exact Bool.and_intro (uniform_reindex φ σ S a (Bool.and_elim_left h))
        (uniformL_reindexL φ σ S l (Bool.and_elim_right h))
end

theorem uniformL_reindex (φ : BIdx → BIdx) (σ : Shape → Shape) (S : Shape) (l : List (BOp α))
    (h : (!l.isEmpty && uniformL S l) = true) :
    (!(reindexL φ σ l).isEmpty && uniformL (σ S) (reindexL φ σ l)) = true :=
  uniform_reindex φ σ S (.sum l) h

/-- Root and Matmul read their components at one batch index: equal components, equal value. -/
theorem denote_root_congr {r r' : BOp α} {idx idx' : BIdx} (hc : r'.cols = r.cols)
    (hv : ∀ i k, r'.denote idx' i k = r.denote idx i k) (i j : Nat) :
    (root r').denote idx' i j = (root r).denote idx i j := by
  simp only [denote, hc, hv]

theorem denote_matmul_congr {a a' b b' : BOp α} {idx idx' : BIdx} (hc : a'.cols = a.cols)
    (ha : ∀ i k, a'.denote idx' i k = a.denote idx i k) (hb : ∀ k j, b'.denote idx' k j = b.denote idx k j)
    (i j : Nat) : (matmul a' b').denote idx' i j = (matmul a b).denote idx i j := by
  simp only [denote, hc, ha, hb]

mutual
  /-- the generic re-indexing recursion reads the old operator at `φ idx`. -/
  theorem reindex_value (φ : BIdx → BIdx) (σ : Shape → Shape) (S : Shape) (idx : BIdx) (hid : bcast (σ S) idx = idx)
      (o : BOp α) (h : o.uniform S = true) (i j : Nat) :
      (reindex φ σ o).denote idx i j = o.denote (φ idx) i j := by
    cases o with
    | tri _ t => exact reindex_value φ σ S idx hid t h i j
    | root r => exact denote_root_congr (shape_reindex φ σ r).2 (reindex_value φ σ S idx hid r h) i j
    | sum l => exact denoteL_reindexL φ σ S idx hid l (Bool.and_elim_right h) i j
    | matmul a b =>
      exact denote_matmul_congr (shape_reindex φ σ a).2 (reindex_value φ σ S idx hid a (Bool.and_elim_left h))
        (reindex_value φ σ S idx hid b (Bool.and_elim_right h)) i j
    | constMul a cbs c =>
      have ha := Bool.and_elim_right h
      -- the new constant has the operator's batch shape `σ S`: it is read at `idx` itself
      simp only [reindex, denote, bshape_of_uniform S a ha, hid, reindex_value φ σ S idx hid a ha]
    | _ => rfl
  theorem denoteL_reindexL (φ : BIdx → BIdx) (σ : Shape → Shape) (S : Shape) (idx : BIdx) (hid : bcast (σ S) idx = idx)
      (l : List (BOp α)) (h : uniformL S l = true) (i j : Nat) :
      denoteL (reindexL φ σ l) idx i j = denoteL l (φ idx) i j := by
    cases l with
    | nil => rfl
    | cons a l =>
      exact congrArg₂ (· + ·) (reindex_value φ σ S idx hid a (Bool.and_elim_left h) i j)
        (denoteL_reindexL φ σ S idx hid l (Bool.and_elim_right h) i j)
end

theorem reindexL_value (φ : BIdx → BIdx) (σ : Shape → Shape) (S : Shape) (idx : BIdx) (hid : bcast (σ S) idx = idx)
    (l : List (BOp α)) (h : (!l.isEmpty && uniformL S l) = true) (i j : Nat) :
    denoteL (reindexL φ σ l) idx i j = denoteL l (φ idx) i j :=
  denoteL_reindexL φ σ S idx hid l (Bool.and_elim_right h) i j

mutual
  /-- without a ZeroLinearOperator inside, `_permute_batch` is the generic re-indexing. -/
  theorem permuteBatch_eq_reindex (dims : List Nat) (o : BOp α) (h : o.hasZero = false) :
      permuteBatch dims o = reindex (permIdx dims) (permShape dims) o := by
    cases o with
    | zero => cases h
    | tri up t => exact congrArg (tri up) (permuteBatch_eq_reindex dims t h)
    | root r => exact congrArg root (permuteBatch_eq_reindex dims r h)
    | sum l => exact congrArg sum (permuteBatchL_eq_reindex dims l h)
    | matmul a b =>
      have h := Bool.or_eq_false_iff.1 h
      exact congrArg₂ matmul (permuteBatch_eq_reindex dims a h.1) (permuteBatch_eq_reindex dims b h.2)
    | constMul a cbs c => exact congrArg (constMul · _ _) (permuteBatch_eq_reindex dims a h)
    | _ => rfl
  theorem permuteBatchL_eq_reindex (dims : List Nat) (l : List (BOp α)) (h : hasZeroL l = false) :
      permuteBatchL dims l = reindexL (permIdx dims) (permShape dims) l := by
    cases l with
    | nil => rfl
    | cons a l =>
      have h := Bool.or_eq_false_iff.1 h
      exact congrArg₂ List.cons (permuteBatch_eq_reindex dims a h.1) (permuteBatchL_eq_reindex dims l h.2)
end

/-! ### `_expand_batch` -/

mutual
  /-- `_expand_batch(S')` of an operator whose tensors all have batch shape `S` is the generic re-indexing with torch's broadcast
  index map (as `permuteBatch_eq_reindex` for `_permute_batch`). -/
  theorem expandBatch_eq_reindex (S' S : Shape) (o : BOp α) (h : o.uniform S = true) :
      expandBatch S' o = reindex (bcast S) (fun _ => S') o := by
    cases o with
    | tri up t => exact congrArg (tri up) (expandBatch_eq_reindex S' S t h)
    | root r => exact congrArg root (expandBatch_eq_reindex S' S r h)
    | sum l => exact congrArg sum (expandBatchL_eq_reindexL S' S l (Bool.and_elim_right h))
    | matmul a b =>
      exact congrArg₂ matmul (expandBatch_eq_reindex S' S a (Bool.and_elim_left h))
        (expandBatch_eq_reindex S' S b (Bool.and_elim_right h))
    | constMul a cbs c =>
      rw [expandBatch, reindex, expandBatch_eq_reindex S' S a (Bool.and_elim_right h)]
      congr 1
      funext idx
      -- the constant is a full batch (`cbs = S`) or 0-d (`cbs = []`): broadcasting twice reads the same entry
      rcases Bool.or_eq_true_iff.1 (Bool.and_elim_left h) with h1 | h1 <;> cases eq_of_beq h1
      · rw [bcast_idem]
      · rw [bcast_nil, bcast_nil]
    | identity | zero => rfl
    | _ => cases eq_of_beq h; rfl
  theorem expandBatchL_eq_reindexL (S' S : Shape) (l : List (BOp α)) (h : uniformL S l = true) :
      expandBatchL S' l = reindexL (bcast S) (fun _ => S') l := by
    cases l with
    | nil => rfl
    | cons a l =>
      exact congrArg₂ List.cons (expandBatch_eq_reindex S' S a (Bool.and_elim_left h))
        (expandBatchL_eq_reindexL S' S l (Bool.and_elim_right h))
end

theorem uniform_expand (S' S : Shape) (o : BOp α) (h : o.uniform S = true) : (expandBatch S' o).uniform S' = true :=
  expandBatch_eq_reindex S' S o h ▸ uniform_reindex (bcast S) (fun _ => S') S o h

theorem uniformL_expand (S' S : Shape) (l : List (BOp α)) (h : (!l.isEmpty && uniformL S l) = true) :
    (!(expandBatchL S' l).isEmpty && uniformL S' (expandBatchL S' l)) = true :=
  uniform_expand S' S (.sum l) h

/-- `_expand_batch(S')` reads the old operator (all tensors of batch shape `S`) at the broadcast index. -/
theorem expand_value (S' S : Shape) (idx : BIdx) (hidx : inRange S' idx = true) (o : BOp α) (h : o.uniform S = true)
    (i j : Nat) : (expandBatch S' o).denote idx i j = o.denote (bcast S idx) i j :=
  expandBatch_eq_reindex S' S o h ▸ reindex_value (bcast S) (fun _ => S') S idx (bcast_id S' idx hidx) o h i j

theorem expandL_value (S' S : Shape) (idx : BIdx) (hidx : inRange S' idx = true) (l : List (BOp α))
    (h : (!l.isEmpty && uniformL S l) = true) (i j : Nat) :
    denoteL (expandBatchL S' l) idx i j = denoteL l (bcast S idx) i j :=
  expand_value S' S idx hidx (.sum l) h i j

/-- an operand matched to the batch shape `S'` (`lt._expand_batch(S') if lt.batch_shape != S' else lt`) is batch-uniform of
shape `S'` and reads the operand at the broadcast index. -/
theorem matchBatch_spec (S' S : Shape) (o : BOp α) (h : o.uniform S = true) :
    (matchBatch S' o).uniform S' = true ∧
    ∀ idx, inRange S' idx = true → ∀ i j, (matchBatch S' o).denote idx i j = o.denote (bcast S idx) i j := by
  unfold matchBatch
  split
  next hs =>
    -- already of shape `S'`: kept as it is, and a valid index is its own broadcast index
    cases (bshape_of_uniform S o h).symm.trans hs
    exact ⟨h, fun idx hidx i j => by rw [bcast_id _ idx hidx]⟩
  · exact ⟨uniform_expand S' S o h, fun idx hidx => expand_value S' S idx hidx o h⟩

theorem matchBatch_shape (S' : Shape) (o : BOp α) :
    (matchBatch S' o).rows = o.rows ∧ (matchBatch S' o).cols = o.cols := by
  unfold matchBatch
  split
  · exact ⟨rfl, rfl⟩
  · exact shape_expand S' o

/-- the broadcasting constructors compute the broadcast shape from the operands' own batch shapes. -/
theorem bshapes_of_uniform {a b : BOp α} {sa sb : Shape} (ha : a.uniform sa = true) (hb : b.uniform sb = true) :
    bshapes a.bshape b.bshape = bshapes sa sb := by
  rw [bshape_of_uniform sa a ha, bshape_of_uniform sb b hb]

end LinOp.C02
