import LinOp.C02.Proofs
/-! C02 helper lemmas, part 2: multiplication by a constant, subtraction, elementwise product. -/
namespace LinOp.C02
open Op
variable {α : Type} [CommRing α]
set_option linter.unusedSectionVars false

theorem sumN_mul_right (k : Nat) (f : Nat → α) (c : α) : sumN k (fun l => f l * c) = sumN k f * c := by
  induction k with
  | zero => exact (zero_mul c).symm
  | succ k ih => rw [sumN, sumN, ih, add_mul]

theorem mkMul_refines (a b : Op α) (i j : Nat) : (mkMul a b).denote i j = a.denote i j * b.denote i j := by
  unfold mkMul
  split
  · exact mul_comm _ _
  · rfl

theorem rows_mkMul (a b : Op α) : (mkMul a b).rows = min a.rows b.rows := by
  unfold mkMul
  split
  · exact Nat.min_comm _ _
  · rfl

theorem cols_mkMul (a b : Op α) : (mkMul a b).cols = min a.cols b.cols := by
  unfold mkMul
  split
  · exact Nat.min_comm _ _
  · rfl

/-- the square-root law the model needs from `ScalarOps`: `sqrt c · sqrt c = c` whenever `c > 0` is reported. -/
def SqrtLaw (S : ScalarOps α) : Prop := ∀ c, S.pos c = true → S.sqrt c * S.sqrt c = c

mutual
  theorem shape_mulConst (S : ScalarOps α) (a : Op α) (c : α) :
      (mulConst S a c).rows = a.rows ∧ (mulConst S a c).cols = a.cols := by
    cases a with
    | tri _ t | addedDiag t _ | kronAddedDiag t _ | sumKron t _ => exact shape_mulConst S t c
    | root r | lowRankRoot r | chol r | cholU r =>
      unfold mulConst
      split
      · exact ⟨(shape_mulConst S r _).1, (shape_mulConst S r _).1⟩
      · exact ⟨rfl, rfl⟩
    | mul a b =>
      unfold mulConst
      split
      · rw [rows_mkMul, cols_mkMul, (shape_mulConst S a c).1, (shape_mulConst S a c).2]; exact ⟨rfl, rfl⟩
      · exact ⟨rfl, rfl⟩
    | lrrAddedDiag a _ =>
      unfold mulConst
      split <;> exact shape_mulConst S a c
    | sum l | psdSum l => exact shapeL_mulConst S l c
    | _ => exact ⟨rfl, rfl⟩
  theorem shapeL_mulConst (S : ScalarOps α) (l : List (Op α)) (c : α) :
      rowsL (mulConstL S l c) = rowsL l ∧ colsL (mulConstL S l c) = colsL l := by
    cases l with
    | nil => exact ⟨rfl, rfl⟩
    | cons a _ => exact shape_mulConst S a c
end

/-- scaling a root `R` by `s` with `s · s = c` scales `R Rᵀ` by `c`. -/
theorem root_scale (n : Nat) (R R' : NMat α) (s c : α) (hs : s * s = c) (hR : ∀ i k, R' i k = R i k * s) (i j : Nat) :
    (sumN n fun k => R' i k * R' j k) = (sumN n fun k => R i k * R j k) * c := by
  rw [← sumN_mul_right]
  apply sumN_congr
  intro l _
  rw [hR, hR, ← hs]; ring

mutual
  theorem mulConst_refines (S : ScalarOps α) (hS : SqrtLaw S) (a : Op α) (c : α) (i j : Nat) :
      (mulConst S a c).denote i j = a.denote i j * c := by
    cases a with
    | diag | constDiag | identity | kronDiag => exact (ite_zero_mul ..).symm
    | tri _ t => exact mulConst_refines S hS t c i j
    | root r | lowRankRoot r | chol r =>
      unfold mulConst
      split
      next hp =>
        show sumN (mulConst S r _).cols _ = _
        rw [(shape_mulConst S r _).2]
        exact root_scale _ _ _ _ _ (hS c hp) (mulConst_refines S hS r _) i j
      · exact mul_comm _ _
    | cholU r =>
      unfold mulConst
      split
      next hp =>
        show sumN (mulConst S r _).rows _ = _
        rw [(shape_mulConst S r _).1]
        exact root_scale _ (fun i k => r.denote k i) _ _ _ (hS c hp) (fun i k => mulConst_refines S hS r _ k i) i j
      · exact mul_comm _ _
    | mul a b =>
      unfold mulConst
      split
      · rw [mkMul_refines, mulConst_refines S hS a c]; exact mul_right_comm _ _ _
      · exact mul_comm _ _
    | sum l | psdSum l => exact mulConstL_refines S hS l c i j
    | sumKron a b =>
      exact (denote_sum_pair _ _ i j).trans
        (add_mul_of_eq (mulConst_refines S hS a c i j) (mulConst_refines S hS b c i j))
    | addedDiag a d | kronAddedDiag a d =>
      exact add_mul_of_eq (mulConst_refines S hS a c i j) (mulConst_refines S hS d c i j)
    | lrrAddedDiag a d =>
      unfold mulConst
      split <;> exact add_mul_of_eq (mulConst_refines S hS a c i j) (mulConst_refines S hS d c i j)
    | _ => exact mul_comm _ _
  theorem mulConstL_refines (S : ScalarOps α) (hS : SqrtLaw S) (l : List (Op α)) (c : α) (i j : Nat) :
      denoteL (mulConstL S l c) i j = denoteL l i j * c := by
    cases l with
    | nil => exact (zero_mul c).symm
    | cons a l => exact add_mul_of_eq (mulConst_refines S hS a c i j) (mulConstL_refines S hS l c i j)
end

theorem mulScalar_refines (S : ScalarOps α) (hS : SqrtLaw S) (a : Op α) (c : α) (i j : Nat) :
    (mulScalar S a c).denote i j = a.denote i j * c := by
  unfold mulScalar; split
  · exact (zero_mul c).symm
  · exact mulConst_refines S hS _ c i j

theorem shape_mulScalar (S : ScalarOps α) (a : Op α) (c : α) :
    (mulScalar S a c).rows = a.rows ∧ (mulScalar S a c).cols = a.cols := by
  unfold mulScalar; split
  · exact ⟨rfl, rfl⟩
  · exact shape_mulConst S _ c

theorem divScalar_refines (S : ScalarOps α) (hS : SqrtLaw S) (a : Op α) (cinv : α) (i j : Nat) :
    (divScalar S a cinv).denote i j = a.denote i j * cinv := by
  unfold divScalar; split
  · exact (zero_mul cinv).symm
  · exact mulScalar_refines S hS _ cinv i j

theorem sub_refines (S : ScalarOps α) (hS : SqrtLaw S) (a b r : Op α) (h : sub S a b = .ok r) (i j : Nat)
    (hi : i < a.rows) :
    r.denote i j = a.denote i j + b.denote i j * (-1) := by
  unfold sub at h
  rw [add_refines _ _ _ h i j hi, mulScalar_refines S hS]

/-! ### elementwise product of two operators -/

theorem mulMatrix_refines (rootDec : Op α → Op α) (hroot : ∀ x i j, (rootDec x).denote i j = x.denote i j)
    (a b r : Op α) (h : mulMatrix rootDec a b = .ok r) (i j : Nat) :
    r.denote i j = a.denote i j * b.denote i j := by
  unfold mulMatrix at h
  split at h
  · cases h; exact (zero_mul _).symm
  rcases ite_eq_iff.1 h with ⟨hz, h⟩ | ⟨-, h⟩
  · cases h
    rw [denote_of_isZero b hz, mul_zero]
  rcases ite_eq_iff.1 h with ⟨-, h⟩ | ⟨-, h⟩
  · cases h; rfl
  rcases ite_eq_iff.1 h with ⟨hc, h⟩ | ⟨-, h⟩
  · rw [Bool.and_eq_true] at hc
    rcases ite_eq_iff.1 h with ⟨-, h⟩ | ⟨-, h⟩
    · cases h
      rw [denote_of_isConstDiag a hc.1, denote_of_isConstDiag b hc.2]
      exact delta_mul _ _ i j
    · cases h
  rcases ite_eq_iff.1 h with ⟨hd, h⟩ | ⟨-, h⟩
  · cases h
    rw [denote_of_isDiag a hd]
    exact delta_mul_entry _ b.denote i j
  rcases ite_eq_iff.1 h with ⟨-, h⟩ | ⟨-, h⟩
  · cases h; rfl
  cases h
  -- a MulLinearOperator of the operands, each replaced by its root decomposition unless it is in root form
  rw [mkMul_refines]
  congr 1 <;> split <;> first | rfl | exact hroot _ _ _

end LinOp.C02
