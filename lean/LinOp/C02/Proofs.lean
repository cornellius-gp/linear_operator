import LinOp.C02.Model
import Mathlib.Tactic.Ring
import Mathlib.Tactic.SplitIfs
import Mathlib.Algebra.Ring.Defs
/-! C02, unbatched dispatch: each method of the model (`transposeOp`, `add` and its per-class ladders, `addDiagonal`,
`addJitter`, `matmulOp`) returns an operator that denotes the dense operation on the operands' matrices (`*_refines`),
preceded by the facts about `sumN`, diagonal entries and the `isinstance` tests they share. -/
namespace LinOp.C02
open Op
variable {α : Type} [CommRing α]
set_option linter.unusedSectionVars false

/-! ### successful `Except` steps -/

theorem bind_ok {ε β γ : Type} (x : Except ε β) (f : β → Except ε γ) (r : γ) (h : x >>= f = .ok r) :
    ∃ y, x = .ok y ∧ f y = .ok r := by
  cases x with
  | error e => cases h
  | ok y => exact ⟨y, rfl, h⟩

theorem map_ok {ε β γ : Type} (x : Except ε β) (f : β → γ) (r : γ) (h : (x >>= fun y => pure (f y)) = .ok r) :
    ∃ y, x = .ok y ∧ r = f y := by
  cases x with
  | error e => cases h
  | ok y => cases h; exact ⟨y, rfl, rfl⟩

/-! ### finite sums -/

theorem sumN_congr (k : Nat) (f g : Nat → α) (h : ∀ l, l < k → f l = g l) : sumN k f = sumN k g := by
  induction k with
  | zero => rfl
  | succ k ih =>
    simp only [sumN]
    rw [ih (fun l hl => h l (Nat.lt_succ_of_lt hl)), h k (Nat.lt_succ_self k)]

theorem sumN_zero (k : Nat) : sumN k (fun _ => (0 : α)) = 0 := by
  induction k with
  | zero => rfl
  | succ k ih => rw [sumN, ih, add_zero]

theorem sumN_delta (k i : Nat) (g : Nat → α) :
    sumN k (fun l => if i = l then g l else 0) = if i < k then g i else 0 := by
  induction k with
  | zero => rfl
  | succ k ih =>
    rw [sumN, ih]
    rcases Nat.lt_trichotomy i k with h | rfl | h
    · rw [if_pos h, if_neg (Nat.ne_of_lt h), if_pos (Nat.lt_succ_of_lt h), add_zero]
    · rw [if_neg (Nat.lt_irrefl _), if_pos rfl, if_pos (Nat.lt_succ_self _), zero_add]
    · rw [if_neg (Nat.lt_asymm h), if_neg (Nat.ne_of_gt h), if_neg (Nat.not_lt.2 (Nat.succ_le_of_lt h)), add_zero]

/-- row `i` of a diagonal matrix times a column. -/
theorem sumN_diag_mul (k i : Nat) (d : α) (f : Nat → α) (hi : i < k) :
    sumN k (fun l => (if i = l then d else 0) * f l) = d * f i := by
  simp only [ite_mul, zero_mul, sumN_delta, if_pos hi]

/-- the step of every `_mul_constant` recursion through a sum: both summands are scaled. -/
theorem add_mul_of_eq {x y x' y' c : α} (hx : x' = x * c) (hy : y' = y * c) : x' + y' = (x + y) * c := by
  rw [hx, hy, add_mul]

/-! ### entries of diagonal matrices: `if i = j then x else 0` -/

theorem delta_comm (d : Nat → α) (i j : Nat) : (if i = j then d i else 0) = if j = i then d j else 0 := by
  by_cases h : i = j
  · subst h; rfl
  · rw [if_neg h, if_neg (Ne.symm h)]

theorem delta_add (x y : α) (i j : Nat) :
    (if i = j then x + y else 0) = (if i = j then x else 0) + (if i = j then y else 0) := by
  by_cases h : i = j
  · rw [if_pos h, if_pos h, if_pos h]
  · rw [if_neg h, if_neg h, if_neg h, add_zero]

theorem delta_mul (x y : α) (i j : Nat) :
    (if i = j then x * y else 0) = (if i = j then x else 0) * (if i = j then y else 0) := by
  by_cases h : i = j
  · rw [if_pos h, if_pos h, if_pos h]
  · rw [if_neg h, if_neg h, zero_mul]

/-- a diagonal matrix times (entrywise) any matrix reads only the diagonal of the latter. -/
theorem delta_mul_entry (x : α) (f : Nat → Nat → α) (i j : Nat) :
    (if i = j then x * f i i else 0) = (if i = j then x else 0) * f i j := by
  by_cases h : i = j
  · subst h; rw [if_pos rfl, if_pos rfl]
  · rw [if_neg h, if_neg h, zero_mul]

/-! ### transpose -/

mutual
  theorem shape_transpose (a : Op α) : (transposeOp a).rows = a.cols ∧ (transposeOp a).cols = a.rows := by
    cases a with
    | tri _ t | addedDiag t _ | kronAddedDiag t _ | lrrAddedDiag t _ | sumKron t _ | constMul t _ =>
      exact shape_transpose t
    | kron a b | kronTri _ a b =>
      exact ⟨congrArg₂ (· * ·) (shape_transpose a).1 (shape_transpose b).1,
       congrArg₂ (· * ·) (shape_transpose a).2 (shape_transpose b).2⟩
    | mul a b =>
      exact ⟨congrArg₂ min (shape_transpose a).1 (shape_transpose b).1,
       congrArg₂ min (shape_transpose a).2 (shape_transpose b).2⟩
    | matmul a b => exact ⟨(shape_transpose b).1, (shape_transpose a).2⟩
    | sum l | psdSum l => exact shapeL_transpose l
    | _ => exact ⟨rfl, rfl⟩
  theorem shapeL_transpose (l : List (Op α)) :
      rowsL (transposeL l) = colsL l ∧ colsL (transposeL l) = rowsL l := by
    cases l with
    | nil => exact ⟨rfl, rfl⟩
    | cons a _ => exact shape_transpose a
end

theorem toep_sym (i j : Nat) : (if j ≤ i then i - j else j - i) = (if i ≤ j then j - i else i - j) := by
  split_ifs <;> omega

mutual
  theorem transpose_refines (a : Op α) (i j : Nat) : (transposeOp a).denote i j = a.denote j i := by
    cases a with
    | dense | opq | zero => rfl
    | diag _ d => exact delta_comm d i j
    | constDiag _ c => exact delta_comm (fun _ => c) i j
    | identity => exact delta_comm (fun _ => 1) i j
    | kronDiag x y => exact delta_comm (kronDiag x y).diagOf i j
    | toep _ col => exact congrArg col (toep_sym i j)
    | tri _ t => exact transpose_refines t i j
    | root | lowRankRoot | chol | cholU => exact sumN_congr _ _ _ fun _ _ => mul_comm _ _
    | kron a b | kronTri _ a b =>
      simp only [transposeOp, denote, shape_transpose b, transpose_refines a, transpose_refines b]
    | addedDiag a d | kronAddedDiag a d | lrrAddedDiag a d | sumKron a d =>
      exact congrArg₂ (· + ·) (transpose_refines a i j) (transpose_refines d i j)
    | sum l | psdSum l => exact transposeL_refines l i j
    | matmul a b =>
      simp only [transposeOp, denote, shape_transpose, Nat.min_comm b.rows]
      exact sumN_congr _ _ _ fun k _ => by rw [transpose_refines b, transpose_refines a, mul_comm]
    | mul a b => exact congrArg₂ (· * ·) (transpose_refines a i j) (transpose_refines b i j)
    | constMul a c => exact congrArg (c * ·) (transpose_refines a i j)
  theorem transposeL_refines (l : List (Op α)) (i j : Nat) : denoteL (transposeL l) i j = denoteL l j i := by
    cases l with
    | nil => rfl
    | cons a l => exact congrArg₂ (· + ·) (transpose_refines a i j) (transposeL_refines l i j)
end

/-! ### what the `isinstance` tests say about the value -/

theorem denote_of_isDiag (a : Op α) (h : a.isDiag = true) (i j : Nat) :
    a.denote i j = if i = j then a.diagOf i else 0 := by
  unfold isDiag at h
  -- the classes the test accepts satisfy the claim by unfolding; the catch-all contradicts `h`
  split at h <;> first | rfl | cases h

theorem cols_of_isDiag (a : Op α) (h : a.isDiag = true) : a.cols = a.rows := by
  unfold isDiag at h
  split at h <;> first | rfl | cases h

theorem diagOf_constDiag (a : Op α) (h : a.isConstDiag = true) (i : Nat) : a.diagOf i = a.diagOf 0 := by
  unfold isConstDiag at h
  split at h <;> first | rfl | cases h

theorem isDiag_of_isConstDiag (a : Op α) (h : a.isConstDiag = true) : a.isDiag = true := by
  unfold isConstDiag at h
  split at h <;> first | rfl | cases h

theorem denote_of_isConstDiag (a : Op α) (h : a.isConstDiag = true) (i j : Nat) :
    a.denote i j = if i = j then a.diagOf 0 else 0 := by
  rw [denote_of_isDiag a (isDiag_of_isConstDiag a h), diagOf_constDiag a h]

theorem denote_of_isZero (a : Op α) (h : a.isZero = true) (i j : Nat) : a.denote i j = 0 := by
  unfold isZero at h
  split at h <;> first | rfl | cases h

/-! ### constructors with checks -/

/-- the operand test shared by the AddedDiag constructors: exactly one operand is a DiagLinearOperator, and it is
handed on as the second argument. -/
theorem one_diag_operand {β : Type} (x y : Op α) (f : Op α → Op α → Except Err β) (r : β)
    (h : (if (x.isDiag && y.isDiag) = true then .error .notSupported
      else if x.isDiag = true then f y x else if y.isDiag = true then f x y else .error .notSupported) = .ok r) :
    f y x = .ok r ∨ f x y = .ok r := by
  rcases ite_eq_iff.1 h with ⟨-, h⟩ | ⟨-, h⟩
  · cases h
  rcases ite_eq_iff.1 h with ⟨-, h⟩ | ⟨-, h⟩
  · exact .inl h
  rcases ite_eq_iff.1 h with ⟨-, h⟩ | ⟨-, h⟩
  · exact .inr h
  · cases h

theorem mkAddedDiag_refines (c : ADCls) (x y r : Op α) (h : mkAddedDiag c x y = .ok r) (i j : Nat) :
    r.denote i j = x.denote i j + y.denote i j := by
  cases c
  · rcases one_diag_operand x y (fun a d => .ok (Op.addedDiag a d)) r h with hb | hb <;> cases hb
    · exact add_comm _ _
    · rfl
  · rcases one_diag_operand x y (fun a d => .ok (Op.kronAddedDiag a d)) r h with hb | hb <;> cases hb
    · exact add_comm _ _
    · rfl
  · rcases one_diag_operand x y
      (fun a d => if a.isLowRankRoot = true then .ok (Op.lrrAddedDiag a d) else .error .notSupported) r h with hb | hb <;>
      split at hb <;> cases hb
    · exact add_comm _ _
    · rfl

theorem mkTri_refines (up : Bool) (t : Op α) (i j : Nat) : (mkTri up t).denote i j = t.denote i j := by
  unfold mkTri; split <;> rfl

theorem rows_mkTri (up : Bool) (t : Op α) : (mkTri up t).rows = t.rows := by
  unfold mkTri; split <;> rfl

theorem cols_mkTri (up : Bool) (t : Op α) : (mkTri up t).cols = t.cols := by
  unfold mkTri; split <;> rfl

/-! ### `__add__` -/

theorem diagAdd_refines (a b r : Op α) (h : diagAdd a b = .ok r) (i j : Nat) :
    r.denote i j = a.denote i j + b.denote i j := by
  unfold diagAdd at h
  rcases ite_eq_iff.1 h with ⟨-, h⟩ | ⟨hn, h⟩
  · cases h
  have ha : a.isDiag = true := by simpa using hn
  rcases ite_eq_iff.1 h with ⟨hc, h⟩ | ⟨-, h⟩
  · rw [Bool.and_eq_true] at hc
    rcases ite_eq_iff.1 h with ⟨-, h⟩ | ⟨-, h⟩
    · cases h
      rw [denote_of_isConstDiag a hc.1, denote_of_isConstDiag b hc.2]
      exact delta_add _ _ i j
    · cases h
  rcases ite_eq_iff.1 h with ⟨hb, h⟩ | ⟨-, h⟩
  · cases h
    rw [denote_of_isDiag a ha, denote_of_isDiag b hb]
    exact delta_add _ _ i j
  · rw [mkAddedDiag_refines _ _ _ _ h]
    exact add_comm _ _

theorem rootT_refines (r : Op α) (i j : Nat) : (rootT r).denote i j = r.denote j i := transpose_refines r i j

theorem rootT_rows (r : Op α) : (rootT r).rows = r.cols := (shape_transpose r).1

theorem rootT_cols (r : Op α) : (rootT r).cols = r.rows := (shape_transpose r).2

/-- `R @ R.mT` is the matrix of the root-form operator with root `R`. -/
theorem denote_matmul_rootT (r : Op α) (i j : Nat) :
    (Op.matmul r (rootT r)).denote i j = sumN r.cols fun k => r.denote i k * r.denote j k := by
  simp only [denote, rootT_rows, Nat.min_self, rootT_refines]

theorem lowRankTerm_refines (b : Op α) (hb : b.isRoot = true) (i j : Nat) :
    (lowRankTerm b).denote i j = b.denote i j := by
  unfold isRoot at hb
  split at hb
  · exact denote_matmul_rootT _ i j
  · exact denote_matmul_rootT _ i j
  · exact denote_matmul_rootT _ i j
  · -- upper Cholesky factor `R`: the root is `R.mT`
    rw [lowRankTerm, denote_matmul_rootT]
    simp only [denote, rootT_cols, rootT_refines]
  · cases hb

theorem denote_sum_pair (a b : Op α) (i j : Nat) : (Op.sum [a, b]).denote i j = a.denote i j + b.denote i j :=
  congrArg (a.denote i j + ·) (add_zero _)

theorem baseAdd_refines (a b r : Op α) (h : baseAdd a b = .ok r) (i j : Nat) :
    r.denote i j = a.denote i j + b.denote i j := by
  unfold baseAdd at h
  rcases ite_eq_iff.1 h with ⟨hz, h⟩ | ⟨-, h⟩
  · cases h
    rw [denote_of_isZero b hz, add_zero]
  rcases ite_eq_iff.1 h with ⟨-, h⟩ | ⟨-, h⟩
  · exact mkAddedDiag_refines _ _ _ _ h i j
  rcases ite_eq_iff.1 h with ⟨hr, h⟩ | ⟨-, h⟩
  · cases h
    rw [denote_sum_pair, lowRankTerm_refines b hr]
  · cases h
    exact denote_sum_pair a b i j

theorem denoteL_append (l1 l2 : List (Op α)) (i j : Nat) :
    denoteL (l1 ++ l2) i j = denoteL l1 i j + denoteL l2 i j := by
  induction l1 with
  | nil => exact (zero_add _).symm
  | cons a l ih => exact (congrArg (a.denote i j + ·) ih).trans (add_assoc _ _ _).symm

theorem denoteL_sumOps (a : Op α) (i j : Nat) : denoteL a.sumOps i j = a.denote i j := by
  unfold sumOps
  split
  · rfl
  · rfl
  all_goals simp only [denoteL, denote, add_zero]

theorem sumAdd_refines (a b r : Op α) (h : sumAdd a b = .ok r) (i j : Nat) :
    r.denote i j = a.denote i j + b.denote i j := by
  unfold sumAdd at h
  rcases ite_eq_iff.1 h with ⟨hz, h⟩ | ⟨-, h⟩
  · cases h
    rw [denote_of_isZero b hz, add_zero]
  rcases ite_eq_iff.1 h with ⟨-, h⟩ | ⟨-, h⟩
  · exact mkAddedDiag_refines _ _ _ _ h i j
  rcases ite_eq_iff.1 h with ⟨-, h⟩ | ⟨-, h⟩
  · cases h
    exact (denoteL_append _ _ i j).trans (congrArg₂ (· + ·) (denoteL_sumOps a i j) (denoteL_sumOps b i j))
  · cases h
    exact (denoteL_append _ _ i j).trans (congrArg₂ (· + ·) (denoteL_sumOps a i j) (add_zero _))

theorem DiagArg.toOp_denote (n : Nat) (g : DiagArg α) (i j : Nat) (hi : i < n) :
    (g.toOp n).denote i j = if i = j then g.fn i else 0 := by
  cases g with
  | full d =>
    rw [DiagArg.toOp]
    split
    · -- a 1×1 operator: the only row is row 0
      have h0 : i = 0 := by omega
      subst h0; rfl
    · rfl
  | const c => rfl
  | scalar c => rfl

theorem kronAdd_refines (a b r : Op α) (h : add.kronAdd a b = .ok r) (i j : Nat) (hi : i < a.rows) :
    r.denote i j = a.denote i j + b.denote i j := by
  unfold add.kronAdd at h
  rcases ite_eq_iff.1 h with ⟨-, h⟩ | ⟨-, h⟩
  · exact mkAddedDiag_refines _ _ _ _ h i j
  rcases ite_eq_iff.1 h with ⟨-, h⟩ | ⟨-, h⟩
  · cases h; rfl
  rcases ite_eq_iff.1 h with ⟨hd, h⟩ | ⟨-, h⟩
  · rcases ite_eq_iff.1 h with ⟨-, h⟩ | ⟨-, h⟩
    · cases h
    · rw [mkAddedDiag_refines _ _ _ _ h, DiagArg.toOp_denote _ _ _ _ hi, denote_of_isDiag b hd]; rfl
  · exact baseAdd_refines _ _ _ h i j

theorem add_refines (a b r : Op α) (h : add a b = .ok r) (i j : Nat) (hi : i < a.rows) :
    r.denote i j = a.denote i j + b.denote i j := by
  -- one case per branch of `add`, numbered in the order of the definition (`add.induct`)
  fun_induction add a b generalizing r
  -- Zero + b; Dense + Dense
  case case1 => cases h; exact (zero_add _).symm
  case case2 => cases h; rfl
  -- left operands whose `__add__` is one of the ladders above
  case case3 | case13 | case25 => exact baseAdd_refines _ _ _ h i j
  case case4 | case5 | case6 | case7 => exact diagAdd_refines _ _ _ h i j
  case case14 | case15 => exact kronAdd_refines _ _ _ h i j hi
  case case22 | case23 | case24 => exact sumAdd_refines _ _ _ h i j
  case case12 => exact mkAddedDiag_refines _ _ _ _ h i j
  -- Triangular: the sum of the wrapped tensors, wrapped again when the orientations agree
  case case8 =>
    obtain ⟨s, hs, rfl⟩ := map_ok _ _ _ h
    rw [mkTri_refines]; exact mkAddedDiag_refines _ _ _ _ hs i j
  case case9 ih =>
    obtain ⟨s, hs, rfl⟩ := map_ok _ _ _ h
    rw [mkTri_refines]; exact ih s hs hi
  case case10 ih | case11 ih => exact ih r h hi
  -- the AddedDiag family: a diagonal operand joins the diagonal part, any other the base part
  case case16 | case18 | case20 =>
    obtain ⟨d', hd, h⟩ := bind_ok _ _ _ h
    rw [mkAddedDiag_refines _ _ _ _ h, diagAdd_refines _ _ _ hd]; exact (add_assoc _ _ _).symm
  case case17 ih | case19 ih | case21 ih =>
    obtain ⟨a', ha, h⟩ := bind_ok _ _ _ h
    rw [mkAddedDiag_refines _ _ _ _ h, ih a' ha hi]; exact add_right_comm _ _ _

/-! ### add_diagonal / add_jitter -/

theorem diagAddDiagonal_refines (a r : Op α) (g : DiagArg α) (h : diagAddDiagonal a g = .ok r) (i j : Nat) :
    r.denote i j = a.denote i j + (if i = j then g.fn i else 0) := by
  unfold diagAddDiagonal at h
  rcases ite_eq_iff.1 h with ⟨ha, h⟩ | ⟨-, h⟩
  · cases h
    rw [denote_of_isDiag a ha]
    exact delta_add _ _ i j
  · cases h

theorem addDiagonal_refines (a r : Op α) (g : DiagArg α) (h : addDiagonal a g = .ok r) (i j : Nat)
    (hi : i < a.rows) :
    r.denote i j = a.denote i j + (if i = j then g.fn i else 0) := by
  -- one case per branch of `addDiagonal`, in the order of the definition
  fun_induction addDiagonal a g generalizing r
  -- Zero (square or not); a non-square operand of a class without override
  case case1 => cases h; exact (zero_add _).symm
  case case2 | case8 => cases h
  -- Triangular
  case case3 ih =>
    obtain ⟨s, hs, rfl⟩ := map_ok _ _ _ h
    rw [mkTri_refines]; exact ih s hs hi
  -- the AddedDiag family adds to its diagonal part
  case case4 | case5 | case6 =>
    obtain ⟨d', hd, h⟩ := bind_ok _ _ _ h
    rw [mkAddedDiag_refines _ _ _ _ h, diagAddDiagonal_refines _ _ _ hd]; exact (add_assoc _ _ _).symm
  case case7 => exact diagAddDiagonal_refines _ _ _ h i j
  -- Kronecker, LowRankRoot, everything else: wrapped with the diagonal operator of `g`
  case case9 | case10 | case11 =>
    rw [mkAddedDiag_refines _ _ _ _ h, DiagArg.toOp_denote _ _ _ _ hi]

theorem toepIdx_eq_zero (i j : Nat) : (if j ≤ i then i - j else j - i) = 0 ↔ i = j := by
  split_ifs <;> omega

theorem addJitter_refines (a r : Op α) (c : α) (h : addJitter a c = .ok r) (i j : Nat) (hi : i < a.rows) :
    r.denote i j = a.denote i j + (if i = j then c else 0) := by
  unfold addJitter at h
  split at h
  · cases h
    simp only [denote, toepIdx_eq_zero]
    by_cases hij : i = j
    · rw [if_pos hij, if_pos hij]
    · rw [if_neg hij, if_neg hij, add_zero]
  · exact addDiagonal_refines _ _ _ h i j hi

/-! ### matmul with an operator -/

/-- row `i` of a diagonal-class operator times any column. -/
theorem sumN_denote_of_isDiag (a : Op α) (h : a.isDiag = true) (i : Nat) (hi : i < a.rows) (f : Nat → α) :
    (sumN a.cols fun k => a.denote i k * f k) = a.diagOf i * f i := by
  simp only [denote_of_isDiag a h]
  rw [cols_of_isDiag a h, sumN_diag_mul _ _ _ _ hi]

theorem denote_matmul (a b : Op α) (hk : a.cols = b.rows) (i j : Nat) :
    (Op.matmul a b).denote i j = sumN a.cols fun k => a.denote i k * b.denote k j :=
  congrArg (sumN · fun k => a.denote i k * b.denote k j) (hk ▸ Nat.min_self a.cols)

theorem matmulOp_refines (a b r : Op α) (h : matmulOp a b = .ok r) (i j : Nat) (hi : i < a.rows)
    (hk : a.cols = b.rows) :
    r.denote i j = sumN a.cols fun k => a.denote i k * b.denote k j := by
  unfold matmulOp at h
  split at h
  · cases h
    simp only [denote, zero_mul, sumN_zero]
  · cases h
    exact ((sumN_diag_mul _ i 1 (fun k => b.denote k j) hi).trans (one_mul _)).symm
  rcases ite_eq_iff.1 h with ⟨hc, h1⟩ | ⟨-, h1⟩
  · rw [Bool.and_eq_true] at hc
    rcases ite_eq_iff.1 h1 with ⟨-, h2⟩ | ⟨-, h2⟩
    · cases h2
      rw [sumN_denote_of_isDiag a (isDiag_of_isConstDiag a hc.1) i hi, denote_of_isConstDiag b hc.2,
        diagOf_constDiag a hc.1 i]
      exact (mul_ite_zero ..).symm
    · cases h2
  rcases ite_eq_iff.1 h1 with ⟨hd, h2⟩ | ⟨-, h2⟩
  · split at h2
    · rename_i t; cases h2; exact (sumN_denote_of_isDiag a hd i hi fun k => t k j).symm
    · rename_i t; cases h2; exact (sumN_denote_of_isDiag a hd i hi fun k => t k j).symm
    · cases h2; exact denote_matmul a (.tri _ _) hk i j
    · rcases ite_eq_iff.1 h2 with ⟨hb, h3⟩ | ⟨-, h3⟩
      · cases h3
        rw [sumN_denote_of_isDiag a hd i hi, denote_of_isDiag b hb]
        exact (mul_ite_zero ..).symm
      · cases h3
        exact denote_matmul a b hk i j
  · cases h2
    exact denote_matmul a b hk i j

end LinOp.C02
