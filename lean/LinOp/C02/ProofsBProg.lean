import LinOp.C02.ProofsBatch3
import LinOp.C02.BProg
/-! C02 helper lemmas: range preservation of torch's index maps, all-programs refinement for `BProg`. -/
namespace LinOp.C02
open BOp
set_option linter.unusedSectionVars false

theorem inRange_iff : ∀ (S : Shape) (I : BIdx), inRange S I = true ↔
    (I.length = S.length ∧ ∀ k, k < S.length → I.getD k 0 < S.getD k 1)
  | [], [] => ⟨fun _ => ⟨rfl, fun _ hk => nomatch hk⟩, fun _ => rfl⟩
  | [], _ :: _ => ⟨fun h => (nomatch h), fun h => (nomatch h.1)⟩
  | _ :: _, [] => ⟨fun h => (nomatch h), fun h => (nomatch h.1)⟩
  | s :: S, i :: I => by
    rw [inRange, Bool.and_eq_true, decide_eq_true_eq, inRange_iff S I]
    constructor
    · rintro ⟨h1, h2, h3⟩
      exact ⟨congrArg (· + 1) h2, fun k hk => match k with
        | 0 => h1
        | k + 1 => h3 k (Nat.lt_of_succ_lt_succ hk)⟩
    · rintro ⟨h1, h2⟩
      exact ⟨h2 0 (Nat.succ_pos _), Nat.succ.inj h1, fun k hk => h2 (k + 1) (Nat.succ_lt_succ hk)⟩

/-- `unsqueeze`: a valid index of the unsqueezed shape reads the old tensor at a valid index. -/
theorem eraseIdx_inRange : ∀ (d : Nat) (S : Shape) (idx : BIdx), d ≤ S.length →
    inRange (S.insertIdx d 1) idx = true → inRange S (idx.eraseIdx d) = true
  | 0, _, [], _, h => nomatch h
  | 0, _, _ :: _, _, h => Bool.and_elim_right h
  | _ + 1, [], _, hd, _ => nomatch hd
  | _ + 1, _ :: _, [], _, h => nomatch h
  | d + 1, _ :: S, _ :: idx, hd, h =>
    Bool.and_intro (Bool.and_elim_left h) (eraseIdx_inRange d S idx (Nat.le_of_succ_le_succ hd) (Bool.and_elim_right h))

/-- `sum(dim)` / `prod(dim)`: every summand index is a valid index of the old shape. -/
theorem insertIdx_inRange : ∀ (d : Nat) (S : Shape) (idx : BIdx) (k : Nat), d < S.length → k < S.getD d 0 →
    inRange (S.eraseIdx d) idx = true → inRange S (idx.insertIdx d k) = true
  | _, [], _, _, hd, _, _ => nomatch hd
  | 0, _ :: _, _, _, _, hk, h => Bool.and_intro (decide_eq_true hk) h
  | _ + 1, _ :: _, [], _, _, _, h => nomatch h
  | d + 1, _ :: S, _ :: idx, k, hd, hk, h =>
    Bool.and_intro (Bool.and_elim_left h)
      (insertIdx_inRange d S idx k (Nat.lt_of_succ_lt_succ hd) hk (Bool.and_elim_right h))

theorem zipWith_bc_inRange : ∀ (s T : Shape) (I : BIdx), s.length = T.length → inRange T I = true →
    (List.zipWith (fun old new => old == 1 || old == new) s T).all id = true →
    inRange s (List.zipWith (fun sz i => if sz = 1 then 0 else i) s I) = true
  | [], [], [], _, _, _ => rfl
  | [], [], _ :: _, _, h, _ => nomatch h
  | [], _ :: _, _, hl, _, _ => nomatch hl
  | _ :: _, [], _, hl, _, _ => nomatch hl
  | _ :: _, _ :: _, [], _, h, _ => nomatch h
  | a :: s, t :: T, i :: I, hl, h, hz => by
    have hi : i < t := of_decide_eq_true (Bool.and_elim_left h)
    -- an old size is 1 (read at 0) or the new size (read at `i`)
    have hat : a = 1 ∨ a = t := (Bool.or_eq_true_iff.1 (Bool.and_elim_left hz)).imp eq_of_beq eq_of_beq
    refine Bool.and_intro (decide_eq_true ?_)
      (zipWith_bc_inRange s T I (Nat.succ.inj hl) (Bool.and_elim_right h) (Bool.and_elim_right hz))
    show (if a = 1 then 0 else i) < a
    split <;> omega

theorem inRange_drop : ∀ (k : Nat) (S : Shape) (I : BIdx), inRange S I = true → inRange (S.drop k) (I.drop k) = true
  | 0, _, _, h => h
  | _ + 1, [], [], _ => rfl
  | _ + 1, [], _ :: _, h => nomatch h
  | _ + 1, _ :: _, [], h => nomatch h
  | k + 1, _ :: S, _ :: I, h => inRange_drop k S I (Bool.and_elim_right h)

/-- `expand` / broadcasting: a valid index of the target shape is read at a valid index of the source shape. -/
theorem bcast_inRange (s S' : Shape) (idx : BIdx) (hok : expOk s S' = true) (h : inRange S' idx = true) :
    inRange s (bcast s idx) = true := by
  have hlen : s.length ≤ S'.length := of_decide_eq_true (Bool.and_elim_left hok)
  unfold bcast
  rw [inRange_length S' idx h]
  exact zipWith_bc_inRange s _ _ (by rw [List.length_drop]; omega) (inRange_drop _ S' idx h) (Bool.and_elim_right hok)

/-- `permute`: a valid index of the permuted shape is read at a valid index of the old shape. -/
theorem permIdx_inRange (dims : List Nat) (S : Shape) (idx : BIdx) (hl : dims.length = S.length)
    (hall : ∀ j, j < S.length → j ∈ dims) (h : inRange (permShape dims S) idx = true) :
    inRange S (permIdx dims idx) = true := by
  rw [inRange_iff] at h ⊢
  obtain ⟨h1, h2⟩ := h
  simp only [permShape, List.length_map] at h1 h2
  refine ⟨by simp [permIdx, hl], fun j hj => ?_⟩
  have hm := hall j hj
  have hp : dims.idxOf j < dims.length := List.idxOf_lt_length_of_mem hm
  have h3 := h2 (dims.idxOf j) hp
  have hj' : j < dims.length := by omega
  -- entry `j` of `permIdx dims idx` is `idx[k]` with `k = dims.idxOf j`, and entry `k` of the permuted shape is
  -- `S[dims[k]] = S[j]`
  simp only [permIdx, List.getD_eq_getElem?_getD, List.getElem?_map, List.getElem?_range hj', Option.map_some,
    Option.getD_some] at h3 ⊢
  simpa [List.getElem?_eq_getElem hp, List.getElem_idxOf hp] using h3

section refine
variable {α : Type} [CommRing α]

/-- the torch rewrite of a dense batched tensor only reads valid indices of the old shape. -/
theorem spec_congr (ρ : Rewrite) (S : Shape) (hv : ρ.valid S = true) (u v : BIdx → NMat α)
    (huv : ∀ idx, inRange S idx = true → ∀ i j, u idx i j = v idx i j) (idx : BIdx)
    (hidx : inRange (ρ.shape S) idx = true) (i j : Nat) :
    ρ.spec S u idx i j = ρ.spec S v idx i j := by
  cases ρ with
  | expand S' => exact huv _ (bcast_inRange S S' idx hv hidx) i j
  | permute dims =>
    simp only [Rewrite.valid, Bool.and_eq_true, beq_iff_eq, List.all_eq_true, List.mem_range] at hv
    exact huv _ (permIdx_inRange dims S idx hv.1 (fun j hj => by simpa using hv.2 j hj) hidx) i j
  | unsqueeze d => exact huv _ (eraseIdx_inRange d S idx (of_decide_eq_true hv) hidx) i j
  | sum d =>
    exact sumN_congr _ _ _ fun k hk => huv _ (insertIdx_inRange d S idx k (of_decide_eq_true hv) hk hidx) i j
  | prod d =>
    exact prodN_congr _ _ _ fun k hk => huv _ (insertIdx_inRange d S idx k (of_decide_eq_true hv) hk hidx) i j

/-! what a successful step of `beval` went through -/

theorem beval_rw_ok {ρ : Rewrite} {p : BProg α} {r : BOp α} (h : beval (.rw ρ p) = .ok r) :
    ∃ r0, beval p = .ok r0 ∧ ρ.okFor r0 = true ∧ ρ.valid r0.bshape = true ∧ ρ.apply r0 = .ok r := by
  unfold beval at h
  split at h
  next r0 h0 =>
    rcases ite_eq_iff.1 h with ⟨hc, h⟩ | ⟨-, h⟩
    · exact ⟨r0, h0, Bool.and_elim_left hc, Bool.and_elim_right hc, h⟩
    · cases h
  · cases h

theorem beval_add_ok {p q : BProg α} {r : BOp α} (h : beval (.add p q) = .ok r) :
    ∃ a b S, beval p = .ok a ∧ beval q = .ok b ∧ bshapes a.bshape b.bshape = some S ∧
      expOk a.bshape S = true ∧ expOk b.bshape S = true ∧ mkSum2 a b = .ok r := by
  unfold beval at h
  split at h
  next a b hp hq =>
    split at h
    next S hS =>
      rcases ite_eq_iff.1 h with ⟨hc, h⟩ | ⟨-, h⟩
      · exact ⟨a, b, S, hp, hq, hS, Bool.and_elim_left hc, Bool.and_elim_right hc, h⟩
      · cases h
    · cases h
  all_goals cases h

theorem beval_matmul_ok {p q : BProg α} {r : BOp α} (h : beval (.matmul p q) = .ok r) :
    ∃ a b S, beval p = .ok a ∧ beval q = .ok b ∧ a.cols = b.rows ∧ bshapes a.bshape b.bshape = some S ∧
      expOk a.bshape S = true ∧ expOk b.bshape S = true ∧ mkMatmul a b = .ok r := by
  unfold beval at h
  split at h
  next a b hp hq =>
    rcases ite_eq_iff.1 h with ⟨hin, h⟩ | ⟨-, h⟩
    · split at h
      next S hS =>
        rcases ite_eq_iff.1 h with ⟨hc, h⟩ | ⟨-, h⟩
        · exact ⟨a, b, S, hp, hq, hin, hS, Bool.and_elim_left hc, Bool.and_elim_right hc, h⟩
        · cases h
      · cases h
    · cases h
  all_goals cases h

theorem beval_refines_aux (p : BProg α) : ∀ r, beval p = .ok r →
    ∃ x, bspec p = some x ∧ r.uniform x.bs = true ∧ r.bshape = x.bs ∧ r.rows = x.rows ∧ r.cols = x.cols ∧
      ∀ idx, inRange x.bs idx = true → ∀ i j, r.denote idx i j = x.v idx i j := by
  induction p with
  | leaf o =>
    intro r h
    unfold beval at h
    rcases ite_eq_iff.1 h with ⟨hu, h⟩ | ⟨-, h⟩
    · cases h; exact ⟨_, rfl, hu, rfl, rfl, rfl, fun _ _ _ _ => rfl⟩
    · cases h
  | rw ρ p ih =>
    intro r h
    obtain ⟨r0, h0, hok, hv, h⟩ := beval_rw_ok h
    obtain ⟨x, hs, hu, hb, hrw, hcl, hval⟩ := ih r0 h0
    rw [hb] at hv
    have hun := rewrite_uniform_aux ρ x.bs r0 r hu hok h
    have hsh := shape_rewrite ρ r0 r hok h
    refine ⟨⟨ρ.shape x.bs, x.rows, x.cols, ρ.spec x.bs x.v⟩, by unfold bspec; rw [hs]; rfl, hun, bshape_of_uniform _ r hun,
      hsh.1.trans hrw, hsh.2.trans hcl, fun idx hidx i j => ?_⟩
    rw [rewrite_value_aux ρ x.bs r0 r hu hok h idx hidx i j]
    exact spec_congr ρ x.bs hv _ _ hval idx hidx i j
  | add p q ihp ihq =>
    intro r h
    obtain ⟨a, b, S, hp, hq, hS, hea, heb, h⟩ := beval_add_ok h
    obtain ⟨x, hsa, hua, hba, hra, hca, hva⟩ := ihp a hp
    obtain ⟨y, hsb, hub, hbb, hrb, hcb, hvb⟩ := ihq b hq
    rw [hba, hbb] at hS
    rw [hba] at hea
    rw [hbb] at heb
    obtain ⟨S', h1, h2, h3, h4, h5, h6⟩ := mkSum2_value a b r x.bs y.bs hua hub h
    cases hS.symm.trans h1
    refine ⟨⟨S, x.rows, x.cols, fun idx i j => x.v (bcast x.bs idx) i j + y.v (bcast y.bs idx) i j⟩,
      by unfold bspec; rw [hsa, hsb]; dsimp only; rw [hS]; rfl, h3, h2, h4.trans hra, h5.trans hca,
      fun idx hidx i j => ?_⟩
    rw [h6 idx hidx i j, hva _ (bcast_inRange x.bs S idx hea hidx), hvb _ (bcast_inRange y.bs S idx heb hidx)]
  | matmul p q ihp ihq =>
    intro r h
    obtain ⟨a, b, S, hp, hq, hin, hS, hea, heb, h⟩ := beval_matmul_ok h
    obtain ⟨x, hsa, hua, hba, hra, hca, hva⟩ := ihp a hp
    obtain ⟨y, hsb, hub, hbb, hrb, hcb, hvb⟩ := ihq b hq
    rw [hba, hbb] at hS
    rw [hba] at hea
    rw [hbb] at heb
    obtain ⟨S', h1, h2, h3, h4, h5, h6⟩ := mkMatmul_value a b r x.bs y.bs hua hub h
    cases hS.symm.trans h1
    have hin' : x.cols = y.rows := hca.symm.trans (hin.trans hrb)
    refine ⟨⟨S, x.rows, y.cols,
        fun idx i j => sumN x.cols fun k => x.v (bcast x.bs idx) i k * y.v (bcast y.bs idx) k j⟩,
      by unfold bspec; rw [hsa, hsb]; dsimp only; rw [if_pos hin', hS]; rfl, h3, h2, h4.trans hra, h5.trans hcb,
      fun idx hidx i j => ?_⟩
    rw [h6 idx hidx i j, hca]
    exact sumN_congr _ _ _ fun k _ => by
      rw [hva _ (bcast_inRange x.bs S idx hea hidx), hvb _ (bcast_inRange y.bs S idx heb hidx)]
end refine

end LinOp.C02
