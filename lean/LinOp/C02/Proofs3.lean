import LinOp.C02.Proofs2
/-! C02 helper lemmas, part 3: expression programs. -/
namespace LinOp.C02
open Op
variable {α : Type} [CommRing α]
set_option linter.unusedSectionVars false

theorem checkShape_ok (n m : Nat) (r r' : Op α) (h : checkShape n m r = .ok r') :
    r' = r ∧ r.rows = n ∧ r.cols = m := by
  unfold checkShape at h
  split at h
  next hh => cases h; exact ⟨rfl, hh⟩
  · cases h

theorem sameShape_ok (a b : Op α) (h : sameShape a b = true) : a.rows = b.rows ∧ a.cols = b.cols := by
  simpa [sameShape] using h

/-- `r` has the shape of the dense expression `p` and agrees with it on that window. -/
def Refines (r : Op α) (p : Prog α) : Prop :=
  r.rows = p.rows ∧ r.cols = p.cols ∧ ∀ i j, i < p.rows → j < p.cols → r.denote i j = Spec.eval p i j

/-- a step `f` on one evaluated operand that acts entrywise (`g`) on the window and keeps the shape. -/
theorem refines_unary (f : Op α → Except Err (Op α)) (g : Nat → Nat → α → α)
    (hf : ∀ a r, f a = .ok r → ∀ i j, i < a.rows → r.denote i j = g i j (a.denote i j))
    {x : Except Err (Op α)} {p : Prog α} (ih : ∀ a, x = .ok a → Refines a p) (r : Op α)
    (h : (do let a ← x; let r ← f a; checkShape a.rows a.cols r) = .ok r) :
    r.rows = p.rows ∧ r.cols = p.cols ∧ ∀ i j, i < p.rows → j < p.cols → r.denote i j = g i j (Spec.eval p i j) := by
  obtain ⟨a, ha, h⟩ := bind_ok _ _ _ h
  obtain ⟨r0, hr0, h⟩ := bind_ok _ _ _ h
  obtain ⟨rfl, hr, hc⟩ := checkShape_ok _ _ _ _ h
  obtain ⟨ar, ac, av⟩ := ih a ha
  exact ⟨hr.trans ar, hc.trans ac, fun i j hi hj => by rw [hf a _ hr0 i j (ar ▸ hi), av i j hi hj]⟩

/-- a step `f` on two evaluated operands of equal shape that acts entrywise (`g`). -/
theorem refines_binary (f : Op α → Op α → Except Err (Op α)) (g : α → α → α)
    (hf : ∀ a b r, f a b = .ok r → ∀ i j, i < a.rows → r.denote i j = g (a.denote i j) (b.denote i j))
    {x y : Except Err (Op α)} {p q : Prog α} (ihp : ∀ a, x = .ok a → Refines a p) (ihq : ∀ b, y = .ok b → Refines b q)
    (r : Op α)
    (h : (do let a ← x; let b ← y
             if sameShape a b then do let r ← f a b; checkShape a.rows a.cols r else .error .shape) = .ok r) :
    r.rows = p.rows ∧ r.cols = p.cols ∧
      ∀ i j, i < p.rows → j < p.cols → r.denote i j = g (Spec.eval p i j) (Spec.eval q i j) := by
  obtain ⟨a, ha, h⟩ := bind_ok _ _ _ h
  obtain ⟨b, hb, h⟩ := bind_ok _ _ _ h
  rcases ite_eq_iff.1 h with ⟨hs, h⟩ | ⟨-, h⟩
  · obtain ⟨r0, hr0, h⟩ := bind_ok _ _ _ h
    obtain ⟨rfl, hr, hc⟩ := checkShape_ok _ _ _ _ h
    obtain ⟨ar, ac, av⟩ := ihp a ha
    obtain ⟨br, bc, bv⟩ := ihq b hb
    obtain ⟨s1, s2⟩ := sameShape_ok _ _ hs
    have hrows : p.rows = q.rows := ar.symm.trans (s1.trans br)
    have hcols : p.cols = q.cols := ac.symm.trans (s2.trans bc)
    exact ⟨hr.trans ar, hc.trans ac, fun i j hi hj => by
      rw [hf a b _ hr0 i j (ar ▸ hi), av i j hi hj, bv i j (hrows ▸ hi) (hcols ▸ hj)]⟩
  · cases h

theorem eval_refines_aux (E : Env α) (hS : SqrtLaw E.S)
    (hroot : ∀ x i j, (E.rootDec x).denote i j = x.denote i j) (p : Prog α) :
    ∀ r, Impl.eval E p = .ok r → Refines r p := by
  induction p with
  | leaf o =>
    intro r h
    cases h
    exact ⟨rfl, rfl, fun _ _ _ _ => rfl⟩
  | add p q ihp ihq => exact refines_binary add (· + ·) add_refines ihp ihq
  | sub p q ihp ihq => exact refines_binary (sub E.S) (fun x y => x + y * (-1)) (sub_refines E.S hS) ihp ihq
  | mulM p q ihp ihq =>
    exact refines_binary (mulMatrix E.rootDec) (· * ·) (fun a b r h i j _ => mulMatrix_refines _ hroot a b r h i j)
      ihp ihq
  | mulC c p ih =>
    exact refines_unary (fun a => .ok (mulScalar E.S a c)) (fun _ _ x => x * c)
      (fun a r h i j _ => by cases h; exact mulScalar_refines _ hS a c i j) ih
  | divC c cinv p ih =>
    exact refines_unary (fun a => .ok (divScalar E.S a cinv)) (fun _ _ x => x * cinv)
      (fun a r h i j _ => by cases h; exact divScalar_refines _ hS a cinv i j) ih
  | addDiag g p ih =>
    exact refines_unary (addDiagonal · g) (fun i j x => x + if i = j then g.fn i else 0)
      (fun a r h => addDiagonal_refines a r g h) ih
  | jitter c p ih =>
    exact refines_unary (addJitter · c) (fun i j x => x + if i = j then c else 0)
      (fun a r h => addJitter_refines a r c h) ih
  | matmul k p q ihp ihq =>
    intro r h
    obtain ⟨a, ha, h⟩ := bind_ok _ _ _ h
    obtain ⟨b, hb, h⟩ := bind_ok _ _ _ h
    rcases ite_eq_iff.1 h with ⟨hk, h⟩ | ⟨-, h⟩
    · obtain ⟨r0, hr0, h⟩ := bind_ok _ _ _ h
      obtain ⟨rfl, hr, hc⟩ := checkShape_ok _ _ _ _ h
      obtain ⟨ar, ac, av⟩ := ihp a ha
      obtain ⟨br, bc, bv⟩ := ihq b hb
      have hpk : p.cols = k := ac.symm.trans hk.1
      have hqk : q.rows = k := br.symm.trans hk.2
      refine ⟨hr.trans ar, hc.trans bc, fun i j hi hj => ?_⟩
      rw [matmulOp_refines _ _ _ hr0 i j (ar ▸ hi) (hk.1.trans hk.2.symm), hk.1]
      exact sumN_congr _ _ _ fun l hl => by
        rw [av i l hi (hpk ▸ hl), bv l j (hqk ▸ hl) hj]
    · cases h
  | transpose p ih =>
    intro r h
    obtain ⟨a, ha, h⟩ := bind_ok _ _ _ h
    obtain ⟨rfl, hr, hc⟩ := checkShape_ok _ _ _ _ h
    obtain ⟨ar, ac, av⟩ := ih a ha
    exact ⟨hr.trans ac, hc.trans ar, fun i j hi hj => (transpose_refines a i j).trans (av j i hj hi)⟩

end LinOp.C02
