import LinOp.C02.ProofsBatch2
/-! C02 helper lemmas for the batched layer, part 3: rewrites as data. -/
namespace LinOp.C02
open BOp
variable {α : Type} [CommRing α]
set_option linter.unusedSectionVars false

/-- the `sum` / `prod` rewrites succeed exactly when the class has a structural override. -/
theorem sumBatch_of_apply {d : Nat} {o r : BOp α} (h : (Rewrite.sum d).apply o = .ok r) : sumBatch d o = some r := by
  simp only [Rewrite.apply] at h
  split at h
  · cases h; assumption
  · cases h

theorem prodBatch_of_apply {d : Nat} {o r : BOp α} (h : (Rewrite.prod d).apply o = .ok r) : prodBatch d o = some r := by
  simp only [Rewrite.apply] at h
  split at h
  · cases h; assumption
  · cases h

theorem permuteBatch_of_okFor (dims : List Nat) (o : BOp α) (hok : (Rewrite.permute dims).okFor o = true) :
    permuteBatch dims o = reindex (permIdx dims) (permShape dims) o :=
  permuteBatch_eq_reindex dims o (by simpa using Bool.and_elim_left hok)

theorem rewrite_value_aux (ρ : Rewrite) (S : Shape) (o r : BOp α) (hu : o.uniform S = true) (hok : ρ.okFor o = true)
    (h : ρ.apply o = .ok r) (idx : BIdx) (hidx : inRange (ρ.shape S) idx = true) (i j : Nat) :
    r.denote idx i j = ρ.spec S o.denote idx i j := by
  cases ρ with
  | expand S' => cases h; exact expand_value S' S idx hidx o hu i j
  | permute dims =>
    cases h
    rw [permuteBatch_of_okFor dims o hok]
    exact reindex_value _ _ S idx (bcast_id _ idx hidx) o hu i j
  | unsqueeze d => cases h; exact reindex_value _ _ S idx (bcast_id _ idx hidx) o hu i j
  | sum d => exact sumBatch_value d S o r hu (sumBatch_of_apply h) idx i j
  | prod d =>
    have hpos : 0 < S.getD d 0 := by
      have := of_decide_eq_true (Bool.and_elim_right hok)
      rwa [bshape_of_uniform S o hu] at this
    exact prodBatch_value d S o r hu (prodBatch_of_apply h) hpos idx i j

theorem rewrite_uniform_aux (ρ : Rewrite) (S : Shape) (o r : BOp α) (hu : o.uniform S = true) (hok : ρ.okFor o = true)
    (h : ρ.apply o = .ok r) : r.uniform (ρ.shape S) = true := by
  cases ρ with
  | expand S' => cases h; exact uniform_expand S' S o hu
  | permute dims =>
    cases h
    rw [permuteBatch_of_okFor dims o hok]
    exact uniform_reindex _ _ S o hu
  | unsqueeze d => cases h; exact uniform_reindex _ _ S o hu
  | sum d => exact sumBatch_uniform d S o r hu (sumBatch_of_apply h)
  | prod d => exact prodBatch_uniform d S o r hu (prodBatch_of_apply h)

/-- no batch rewrite changes the matrix shape. -/
theorem shape_rewrite (ρ : Rewrite) (o r : BOp α) (hok : ρ.okFor o = true) (h : ρ.apply o = .ok r) :
    r.rows = o.rows ∧ r.cols = o.cols := by
  cases ρ with
  | expand S' => cases h; exact shape_expand S' o
  | permute dims =>
    cases h
    rw [permuteBatch_of_okFor dims o hok]
    exact shape_reindex _ _ o
  | unsqueeze d => cases h; exact shape_reindex _ _ o
  | sum d => exact shape_sumBatch d o r (sumBatch_of_apply h)
  | prod d => exact shape_prodBatch d o r (prodBatch_of_apply h)

end LinOp.C02
