import LinOp.C14.ProofsNode
/-!
Rebuilding an operator from its representation tree (`call` on `tree`): one induction over the tree, `call_spec` / `callL_spec`,
for any tensors of the right number; with the operator's own tensors the rebuild is the operator itself.
-/
namespace LinOp.C14

variable {cfg : Cfg} {cls : String} {a a' : List Op} {dn : List String} {d d' : List Op} {nkw hid : KV}

/-! ### rebuilding from the representation tree -/

theorem repL_allVal : ∀ (a : List Op), a.all (fun x => !x.isDiff) = true → repL a = []
  | [], _ => rfl
  | .val _ :: xs, h => repL_allVal xs h
  | .leaf _ :: _, h => nomatch h
  | .node .. :: _, h => nomatch h

/-- `ZeroLinearOperator` is none of the classes with an argument normalisation of their own -/
theorem normalForm_zero (a : List Op) (kw : List (String × Op)) :
    normalForm "ZeroLinearOperator" a kw =
      (a.all (fun x => !x.isDiff) && kw.all (fun p => !p.2.isDiff) && kw.all (fun p => p.1 != "dtype" || isDtVal p.2)) := by
  simp [normalForm, wrapsAll]

/-- A stored `ZeroLinearOperator` holds sizes only and an explicit dtype, so it contributes no tensors and its private
    tree (which ignores the flat list and resolves a `None` dtype) re-creates it. -/
theorem call_zero (hok : nodeOK cfg "ZeroLinearOperator" a dn d nkw hid = true) (c : Nat) (flat : List Leaf) :
    call cfg (treeAt c (.node "ZeroLinearOperator" a dn d nkw hid)) flat = some (.node "ZeroLinearOperator" a dn d nkw hid) ∧
      rep (.node "ZeroLinearOperator" a dn d nkw hid) = [] := by
  obtain ⟨L, _, hnf, _, hlen, hdiff, _⟩ := nodeOK_iff.mp hok
  rw [normalForm_zero, Bool.and_eq_true, Bool.and_eq_true, allNotDiff_kwOf dn d nkw hlen hdiff] at hnf
  obtain ⟨⟨hA, hB⟩, hC⟩ := hnf
  obtain rfl : dn = [] := List.isEmpty_iff.mp hB
  obtain rfl : d = [] := List.eq_nil_of_length_eq_zero hlen.symm
  have hres : resolveZero cfg nkw = nkw := by
    apply map_eq_self
    rintro ⟨k, v⟩ hp
    split
    · rename_i hk
      have := List.all_eq_true.mp hC (k, Op.val v) (List.mem_map_of_mem (f := fun p => (p.1, Op.val p.2)) hp)
      cases v with
      | none => simp [show k = "dtype" from hk, isDtVal] at this
      | _ => rfl
    · rfl
  refine ⟨?_, by simp only [rep, repL_allVal a hA, repL, List.append_nil]⟩
  simp only [treeAt, if_pos, call, hres]
  exact construct_fix hok

theorem width_eq : ∀ (x : Op), representable x = true → width x = (rep x).length
  | .leaf _, _ => rfl
  | .node .., _ => rfl
  | .val _, h => by simp [representable] at h

theorem widthL_eq : ∀ (xs : List Op), representableL xs = true → widthL xs = (repL xs).length
  | [], _ => rfl
  | x :: xs, h => by
    simp only [representableL, Bool.and_eq_true] at h
    simp [widthL, repL, width_eq x h.1, widthL_eq xs h.2]

theorem callL_append (cfg : Cfg) (t2 : List RT) (flat : List Leaf) {x2 : List Op} (h2 : callL cfg t2 flat = some x2) :
    ∀ (t1 : List RT) {x1 : List Op}, callL cfg t1 flat = some x1 → callL cfg (t1 ++ t2) flat = some (x1 ++ x2)
  | [], _, h1 => by cases h1; exact h2
  | t :: ts, x1, h1 => by
    rw [callL] at h1
    split at h1
    · rename_i y ys hc hcs
      cases h1
      simp only [List.cons_append, callL, hc, callL_append cfg t2 flat h2 ts hcs]
    · cases h1

theorem getElem?_mid {α : Type} (pre : List α) (t : α) (rest : List α) : (pre ++ t :: rest)[pre.length]? = some t := by
  rw [List.getElem?_append_right (Nat.le_refl _), Nat.sub_self]; rfl

theorem call_leaf (cfg : Cfg) (l t : Leaf) (pre rest : List Leaf) :
    call cfg (treeAt pre.length (.leaf l)) (pre ++ [t] ++ rest) = some (.leaf t) := by
  rw [List.append_assoc]
  show ((pre ++ t :: rest)[pre.length]?).map Op.leaf = _
  rw [getElem?_mid]; rfl

/-- The rebuild of a node other than Zero, given the rebuilt children: the slice cut out of the flat list is the node's
    own stretch `ts`, and the last `dn.length` rebuilt children are the keyword values. -/
theorem call_sub (hz : cls ≠ "ZeroLinearOperator") (dn : List String) (nkw hid : KV) (pre ts rest : List Leaf)
    (hts : ts.length = (repL a ++ repL d).length) (ha : callL cfg (treeL 0 a) ts = some a') (hd : callL cfg (treeL (widthL a) d) ts = some d')
    (hlen : dn.length = d'.length) :
    call cfg (treeAt pre.length (.node cls a dn d nkw hid)) (pre ++ ts ++ rest) = construct cfg cls a' (kwOf dn d' nkw) := by
  have hslice : ((pre ++ ts ++ rest).drop pre.length).take (pre.length + (repL a ++ repL d).length - pre.length) = ts := by
    rw [List.append_assoc, List.drop_left, Nat.add_sub_cancel_left, ← hts, List.take_left]
  simp only [treeAt, if_neg hz, call]
  rw [hslice, callL_append cfg _ _ hd _ ha]
  simp only [List.length_append, hlen, Nat.add_sub_cancel, List.take_left', List.drop_left']

/-! ### rebuilding with other tensors -/

theorem exists_append_of_length {α : Type} {ts : List α} {n m : Nat} (h : ts.length = n + m) :
    ∃ t1 t2, ts = t1 ++ t2 ∧ t1.length = n ∧ t2.length = m :=
  ⟨ts.take n, ts.drop n, (List.take_append_drop n ts).symm,
    by rw [List.length_take, h]; exact Nat.min_eq_left (Nat.le_add_right n m),
    by rw [List.length_drop, h, Nat.add_sub_cancel_left]⟩

/- The rebuild with any tensors `ts` of the right number: same skeleton, holding exactly `ts`; and with the operator's own
   tensors it is the operator itself (an operator is its skeleton plus its tensors, so the two statements share one induction). -/
mutual
theorem call_spec (cfg : Cfg) : ∀ (o : Op), normal cfg o = true → representable o = true →
    ∀ (pre ts rest : List Leaf), ts.length = (rep o).length →
      ∃ o', call cfg (treeAt pre.length o) (pre ++ ts ++ rest) = some o' ∧ skel o' = skel o ∧ rep o' = ts ∧
        (ts = rep o → o' = o)
  | .leaf l => fun _ _ pre ts rest hts =>
    match ts, hts with
    | [t], _ => ⟨.leaf t, call_leaf cfg l t pre rest, rfl, rfl, fun e => by cases e; rfl⟩
  | .val v => fun _ hr => nomatch hr
  | .node cls a dn d nkw hid => by
    intro hn hr pre ts rest hts
    obtain ⟨hok, hna, hnd⟩ := normal_node hn
    by_cases hz : cls = "ZeroLinearOperator"
    · subst hz
      obtain ⟨hc, hr0⟩ := call_zero hok pre.length (pre ++ ts ++ rest)
      rw [hr0] at hts
      exact ⟨_, hc, rfl, hr0.trans (List.eq_nil_of_length_eq_zero hts).symm, fun _ => rfl⟩
    simp only [representable, if_neg hz, Bool.and_eq_true] at hr
    simp only [rep, List.length_append] at hts
    obtain ⟨ta, td, rfl, hla, hld⟩ := exists_append_of_length hts
    obtain ⟨a', hca, hsa, hra, hea⟩ := callL_spec cfg a hna hr.1 [] ta td hla
    obtain ⟨d', hcd, hsd, hrd, hed⟩ := callL_spec cfg d hnd hr.2 ta td [] hld
    rw [List.append_nil, hla, ← widthL_eq a hr.1] at hcd
    have hok' := nodeOK_congr hsa.symm hsd.symm hok
    refine ⟨.node cls a' dn d' nkw hid, ?_, by simp only [skel, hsa, hsd], by simp only [rep, hra, hrd], fun e => ?_⟩
    · rw [call_sub hz dn nkw hid pre (ta ++ td) rest (by simp only [List.length_append, hla, hld]) hca hcd
        (nodeOK_length hok')]
      exact construct_fix hok'
    · obtain ⟨rfl, rfl⟩ := List.append_inj e hla
      rw [hea rfl, hed rfl]
theorem callL_spec (cfg : Cfg) : ∀ (xs : List Op), normalL cfg xs = true → representableL xs = true →
    ∀ (pre ts rest : List Leaf), ts.length = (repL xs).length →
      ∃ xs', callL cfg (treeL pre.length xs) (pre ++ ts ++ rest) = some xs' ∧ skelL xs' = skelL xs ∧ repL xs' = ts ∧
        (ts = repL xs → xs' = xs)
  | [] => fun _ _ _ ts _ hts => by
    obtain rfl : ts = [] := List.eq_nil_of_length_eq_zero hts
    exact ⟨[], rfl, rfl, rfl, fun _ => rfl⟩
  | x :: xs => by
    intro hn hr pre ts rest hts
    have hn := normalL_cons hn
    simp only [representableL, Bool.and_eq_true] at hr
    simp only [repL, List.length_append] at hts
    obtain ⟨tx, txs, rfl, hlx, hlxs⟩ := exists_append_of_length hts
    obtain ⟨x', hcx, hsx, hrx, hex⟩ := call_spec cfg x hn.1 hr.1 pre tx (txs ++ rest) hlx
    obtain ⟨xs', hcxs, hsxs, hrxs, hexs⟩ := callL_spec cfg xs hn.2 hr.2 (pre ++ tx) txs rest hlxs
    simp only [List.length_append, hlx, ← width_eq x hr.1, List.append_assoc] at hcx hcxs
    refine ⟨x' :: xs', by simp only [treeL, callL, List.append_assoc, hcx, hcxs], by simp only [skelL, hsx, hsxs],
      by simp only [repL, hrx, hrxs], fun e => ?_⟩
    obtain ⟨rfl, rfl⟩ := List.append_inj e hlx
    rw [hex rfl, hexs rfl]
end

theorem callL_any (cfg : Cfg) : ∀ (xs : List Op), normalL cfg xs = true → representableL xs = true →
    ∀ (pre ts rest : List Leaf), ts.length = (repL xs).length →
      ∃ xs', callL cfg (treeL pre.length xs) (pre ++ ts ++ rest) = some xs' ∧ skelL xs' = skelL xs ∧ repL xs' = ts :=
  fun xs hn hr pre ts rest hts =>
    let ⟨xs', h1, h2, h3, _⟩ := callL_spec cfg xs hn hr pre ts rest hts
    ⟨xs', h1, h2, h3⟩

theorem callL_tree (cfg : Cfg) : ∀ (xs : List Op), normalL cfg xs = true → representableL xs = true →
    ∀ (pre rest : List Leaf), callL cfg (treeL pre.length xs) (pre ++ repL xs ++ rest) = some xs := by
  intro xs hn hr pre rest
  obtain ⟨xs', h1, _, _, h4⟩ := callL_spec cfg xs hn hr pre (repL xs) rest rfl
  rw [h4 rfl] at h1
  exact h1

end LinOp.C14
