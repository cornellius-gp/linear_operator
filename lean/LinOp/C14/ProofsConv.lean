import LinOp.C14.ProofsNode
/-!
Copies and conversions (`conv`: clone / detach / to / type) and `_set_requires_grad` over the whole tree: the skeleton is kept
(`conv_skel`) and, on trees where one leaf law applies everywhere (`conv_simple`, `conv_ty_node`, `conv_to_node`, `rep_setRG`), the
flattened representation is the old one mapped by that law.  The side conditions `plain`, `typeOK`, `toOK`, `fdt` are defined here.
-/
namespace LinOp.C14

variable {cfg : Cfg} {cls : String} {a a' : List Op} {dn : List String} {d d' : List Op} {nkw hid : KV}

/-! ### copies and conversions preserve the skeleton -/

/-- classes whose conversion rewrites a non-tensor keyword (dtype / device fields) -/
def rewritesNkw (cls : String) : Bool :=
  cls = "IdentityLinearOperator" || cls = "ZeroLinearOperator" || cls = "CatLinearOperator"

mutual
def plain : Op → Bool
  | .leaf _ => true
  | .val _ => true
  | .node cls a _ d _ _ => !rewritesNkw cls && plainL a && plainL d
def plainL : List Op → Bool
  | [] => true
  | x :: xs => plain x && plainL xs
end

theorem convNkw_plain (m : Mode) (cls : String) (nkw : KV) (h : rewritesNkw cls = false) : convNkw m cls nkw = nkw := by
  simp only [rewritesNkw, Bool.or_eq_false_iff, decide_eq_false_iff_not] at h
  unfold convNkw
  rw [if_neg h.1.1, if_neg h.1.2, if_neg h.2]

theorem nodeMode_plain (m : Mode) (cls : String) (h : rewritesNkw cls = false) : nodeMode m cls = m := by
  simp only [rewritesNkw, Bool.or_eq_false_iff, decide_eq_false_iff_not] at h
  unfold nodeMode
  rw [if_neg h.2]

/-- what `convL` does to the head of a list (the `to` / `type` overrides decide by the child's reported dtype) -/
def convHead (cfg : Cfg) (m : Mode) (guard : Bool) (x : Op) : Option Op :=
  match x with
  | .leaf l => some (.leaf (convLeaf m (guard || cfg.baseToGuard) l))
  | .val v => some (.val v)
  | .node c a dn d nkw hid =>
    match m with
    | .type t =>
      if isFloatDT (dtypeOf cfg true (.node c a dn d nkw hid)) then conv cfg (.cloneTo t) (.node c a dn d nkw hid)
      else conv cfg .clone (.node c a dn d nkw hid)
    | .to _ =>
      if guard && !isFloatDT (dtypeOf cfg false (.node c a dn d nkw hid)) then some (.node c a dn d nkw hid)
      else conv cfg m (.node c a dn d nkw hid)
    | .cloneTo _ =>
      if guard && !isFloatDT (dtypeOf cfg true (.node c a dn d nkw hid)) then conv cfg .clone (.node c a dn d nkw hid)
      else conv cfg m (.node c a dn d nkw hid)
    | _ => conv cfg m (.node c a dn d nkw hid)

theorem convL_cons (cfg : Cfg) (m : Mode) (guard : Bool) (x : Op) (xs : List Op) :
    convL cfg m guard (x :: xs) =
      (match convHead cfg m guard x, convL cfg m guard xs with
       | some y, some ys => some (y :: ys)
       | _, _ => none) := by
  cases x <;> rfl

theorem convL_nil (cfg : Cfg) (m : Mode) (guard : Bool) : convL cfg m guard [] = some [] := rfl

def isTypeMode : Mode → Bool
  | .type _ => true
  | _ => false

theorem conv_node (cfg : Cfg) (m : Mode) (cls : String) (a : List Op) (dn : List String) (d : List Op) (nkw hid : KV) :
    conv cfg m (.node cls a dn d nkw hid) =
    if (cls = "TransposePermutationLinearOperator" && isTypeMode m) = true then
      some (.node cls a dn d nkw hid)
    else
    match convL cfg (nodeMode m cls) (floatOnlyTo cls) a, convL cfg (nodeMode m cls) (floatOnlyTo cls) d with
    | some a', some d' => construct cfg cls a' (kwOf dn d' (convNkw m cls nkw))
    | _, _ => none := by cases m <;> rfl

/-- positional and keyword tensor lists are converted by the same leaf law -/
theorem convL_leaves (cfg : Cfg) (m : Mode) (guard : Bool) : ∀ (ls : List Leaf),
    convL cfg m guard (ls.map Op.leaf) = some (ls.map fun l => Op.leaf (convLeaf m (guard || cfg.baseToGuard) l))
  | [] => rfl
  | l :: ls => by
    rw [List.map_cons, convL_cons, convL_leaves cfg m guard ls]
    rfl

theorem convL_cons_some {cfg : Cfg} {m : Mode} {guard : Bool} {x y : Op} {xs ys : List Op}
    (hy : convHead cfg m guard x = some y) (hys : convL cfg m guard xs = some ys) :
    convL cfg m guard (x :: xs) = some (y :: ys) := by
  rw [convL_cons, hy, hys]

/-- The node step of every conversion: when the mode neither changes at this class nor rewrites its keywords, and the
    children are converted to children with the same skeletons, the constructor re-creates the node around them. -/
theorem conv_node_rebuilt {m : Mode} (hok : nodeOK cfg cls a dn d nkw hid = true)
    (hT : (decide (cls = "TransposePermutationLinearOperator") && isTypeMode m) = false)
    (hm : nodeMode m cls = m) (hk : convNkw m cls nkw = nkw)
    (ha : convL cfg m (floatOnlyTo cls) a = some a') (hsa : skelL a' = skelL a)
    (hd : convL cfg m (floatOnlyTo cls) d = some d') (hsd : skelL d' = skelL d) :
    conv cfg m (.node cls a dn d nkw hid) = some (.node cls a' dn d' nkw hid) := by
  rw [conv_node, if_neg (Bool.eq_false_iff.mp hT), hm, hk, ha, hd]
  exact construct_fix (nodeOK_congr hsa.symm hsd.symm hok)

/-- `conv_node_rebuilt` when the children's tensors go through a leaf law `f` -/
theorem conv_node_map {m : Mode} {f : Leaf → Leaf} (hok : nodeOK cfg cls a dn d nkw hid = true)
    (hT : (decide (cls = "TransposePermutationLinearOperator") && isTypeMode m) = false)
    (hm : nodeMode m cls = m) (hk : convNkw m cls nkw = nkw)
    (ha : ∃ a', convL cfg m (floatOnlyTo cls) a = some a' ∧ skelL a' = skelL a ∧ repL a' = (repL a).map f)
    (hd : ∃ d', convL cfg m (floatOnlyTo cls) d = some d' ∧ skelL d' = skelL d ∧ repL d' = (repL d).map f) :
    ∃ o', conv cfg m (.node cls a dn d nkw hid) = some o' ∧ skel o' = skel (.node cls a dn d nkw hid) ∧
      rep o' = (rep (.node cls a dn d nkw hid)).map f := by
  obtain ⟨a', hca, hsa, hra⟩ := ha
  obtain ⟨d', hcd, hsd, hrd⟩ := hd
  exact ⟨_, conv_node_rebuilt hok hT hm hk hca hsa hcd hsd, by simp only [skel, hsa, hsd],
    by simp only [rep, hra, hrd, List.map_append]⟩

/-- the list step, likewise -/
theorem convL_cons_map {cfg : Cfg} {m : Mode} {guard : Bool} {x : Op} {xs : List Op} {f : Leaf → Leaf}
    (hx : ∃ y, convHead cfg m guard x = some y ∧ skel y = skel x ∧ rep y = (rep x).map f)
    (hxs : ∃ ys, convL cfg m guard xs = some ys ∧ skelL ys = skelL xs ∧ repL ys = (repL xs).map f) :
    ∃ zs, convL cfg m guard (x :: xs) = some zs ∧ skelL zs = skelL (x :: xs) ∧ repL zs = (repL (x :: xs)).map f := by
  obtain ⟨y, hy, hsy, hry⟩ := hx
  obtain ⟨ys, hys, hsys, hrys⟩ := hxs
  exact ⟨y :: ys, convL_cons_some hy hys, by simp only [skelL, hsy, hsys], by simp only [repL, hry, hrys, List.map_append]⟩

theorem convHead_skel (cfg : Cfg) (m : Mode) (guard : Bool) (x : Op)
    (ih : ∀ m', ∃ y, conv cfg m' x = some y ∧ skel y = skel x) :
    ∃ y, convHead cfg m guard x = some y ∧ skel y = skel x := by
  cases x with
  | leaf l => exact ⟨_, rfl, rfl⟩
  | val v => exact ⟨_, rfl, rfl⟩
  | node c a dn d nkw hid =>
    cases m with
    | clone => exact ih .clone
    | detach => exact ih .detach
    | type t =>
      simp only [convHead]
      split
      · exact ih (.cloneTo t)
      · exact ih .clone
    | to t =>
      simp only [convHead]
      split
      · exact ⟨_, rfl, rfl⟩
      · exact ih (.to t)
    | cloneTo t =>
      simp only [convHead]
      split
      · exact ih .clone
      · exact ih (.cloneTo t)

mutual
theorem conv_skel (cfg : Cfg) : ∀ (o : Op), normal cfg o = true → plain o = true → ∀ (m : Mode),
    ∃ o', conv cfg m o = some o' ∧ skel o' = skel o
  | .leaf l => fun _ _ m => ⟨_, rfl, rfl⟩
  | .val v => fun _ _ m => ⟨_, rfl, rfl⟩
  | .node cls a dn d nkw hid => by
    intro hn hp m
    obtain ⟨hok, hna, hnd⟩ := normal_node hn
    simp only [plain, Bool.and_eq_true, Bool.not_eq_true'] at hp
    obtain ⟨⟨hrw, hpa⟩, hpd⟩ := hp
    cases hc : (decide (cls = "TransposePermutationLinearOperator") && isTypeMode m) with
    | true => rw [conv_node, if_pos hc]; exact ⟨_, rfl, rfl⟩
    | false =>
      obtain ⟨a', hca, hsa⟩ := convL_skel cfg a hna hpa m (floatOnlyTo cls)
      obtain ⟨d', hcd, hsd⟩ := convL_skel cfg d hnd hpd m (floatOnlyTo cls)
      exact ⟨_, conv_node_rebuilt hok hc (nodeMode_plain m cls hrw) (convNkw_plain m cls nkw hrw) hca hsa hcd hsd,
        by simp only [skel, hsa, hsd]⟩
theorem convL_skel (cfg : Cfg) : ∀ (xs : List Op), normalL cfg xs = true → plainL xs = true →
    ∀ (m : Mode) (guard : Bool), ∃ xs', convL cfg m guard xs = some xs' ∧ skelL xs' = skelL xs
  | [] => fun _ _ _ _ => ⟨[], rfl, rfl⟩
  | x :: xs => by
    intro hn hp m guard
    have hn := normalL_cons hn
    simp only [plainL, Bool.and_eq_true] at hp
    obtain ⟨xs', hxs, hsxs⟩ := convL_skel cfg xs hn.2 hp.2 m guard
    obtain ⟨y, hy, hsy⟩ := convHead_skel cfg m guard x (fun m' => conv_skel cfg x hn.1 hp.1 m')
    exact ⟨y :: xs', convL_cons_some hy hxs, by simp only [skelL, hsy, hsxs]⟩
end

/-! ### `_set_requires_grad` on arbitrary initial flags -/

def rgLeaf (v : Bool) (l : Leaf) : Leaf := if l.dt.isFloat then { l with rg := v } else l

theorem rgLeaf_rg (v : Bool) (l : Leaf) (h : (rgLeaf v l).dt.isFloat = true) : (rgLeaf v l).rg = v := by
  unfold rgLeaf at h ⊢
  split
  · rfl
  · rename_i hf
    rw [if_neg hf] at h
    exact absurd h hf

/- every sub-operator argument, at every depth, reports a floating dtype (so `_set_requires_grad` descends into it) -/
mutual
def fdt (cfg : Cfg) : Op → Bool
  | .leaf _ => true
  | .val _ => true
  | .node _ a _ d _ _ => fdtL cfg a && fdtL cfg d
def fdtL (cfg : Cfg) : List Op → Bool
  | [] => true
  | x :: xs =>
    (match x with
     | .node c a dn d nkw hid => isFloatDT (dtypeOf cfg false (.node c a dn d nkw hid))
     | _ => true) && fdt cfg x && fdtL cfg xs
end

def setRGHead (cfg : Cfg) (v : Bool) (x : Op) : Op :=
  match x with
  | .node c a dn d nkw hid =>
    if isFloatDT (dtypeOf cfg false (.node c a dn d nkw hid)) then setRG cfg v (.node c a dn d nkw hid)
    else .node c a dn d nkw hid
  | y => setRG cfg v y

theorem setRGL_cons (cfg : Cfg) (v : Bool) (x : Op) (xs : List Op) :
    setRGL cfg v (x :: xs) = setRGHead cfg v x :: setRGL cfg v xs := by
  cases x <;> rfl

mutual
theorem rep_setRG (cfg : Cfg) (v : Bool) : ∀ (o : Op), fdt cfg o = true →
    rep (setRG cfg v o) = (rep o).map (rgLeaf v)
  | .leaf _ => fun _ => rfl
  | .val _ => fun _ => rfl
  | .node cls a dn d nkw hid => by
    intro h
    simp only [fdt, Bool.and_eq_true] at h
    simp only [setRG, rep, List.map_append, repL_setRGL cfg v a h.1, repL_setRGL cfg v d h.2]
theorem repL_setRGL (cfg : Cfg) (v : Bool) : ∀ (xs : List Op), fdtL cfg xs = true →
    repL (setRGL cfg v xs) = (repL xs).map (rgLeaf v)
  | [] => fun _ => rfl
  | x :: xs => by
    intro h
    simp only [fdtL, Bool.and_eq_true] at h
    obtain ⟨⟨hx, hfx⟩, hxs⟩ := h
    rw [setRGL_cons]
    simp only [repL, List.map_append, repL_setRGL cfg v xs hxs]
    congr 1
    cases x with
    | leaf _ => rfl
    | val _ => rfl
    | node c a dn d nkw hid =>
      -- the dtype test that `_set_requires_grad` applies before descending is the head condition of `fdtL`
      simp only at hx
      simp only [setRGHead, hx, if_true]
      exact rep_setRG cfg v (.node c a dn d nkw hid) hfx
end

/-! ### deep leaf laws of the conversions -/

/-- what `type t` / `double` / `float` / `half` must do to a tensor: clone it, and cast it iff it is floating -/
def tyLeaf (t : DT) (l : Leaf) : Leaf :=
  if l.dt.isFloat then { l with dt := t, fresh := true } else { l with fresh := true }

theorem convLeaf_type_eq (t : DT) (g : Bool) (l : Leaf) : convLeaf (.type t) g l = tyLeaf t l := by
  unfold convLeaf tyLeaf; rfl

theorem convLeaf_cloneTo_guard (t : DT) (l : Leaf) : convLeaf (.cloneTo t) true l = tyLeaf t l := by
  unfold convLeaf tyLeaf
  cases l.dt.isFloat <;> simp

def isTy (m : Mode) (t : DT) : Prop := m = .type t ∨ m = .cloneTo t

/- trees on which `type` converts uniformly: no dtype/device keyword rewrite (Identity/Zero/Cat), no
   TransposePermutation (its `type` returns self), every sub-operator reports a floating dtype (otherwise `type`
   only clones it) -/
mutual
def typeOK (cfg : Cfg) : Op → Bool
  | .leaf _ => true
  | .val _ => true
  | .node cls a _ d _ _ =>
    !rewritesNkw cls && !(decide (cls = "TransposePermutationLinearOperator")) && typeOKL cfg a && typeOKL cfg d
def typeOKL (cfg : Cfg) : List Op → Bool
  | [] => true
  | x :: xs =>
    (match x with
     | .node c a dn d nkw hid => isFloatDT (dtypeOf cfg true (.node c a dn d nkw hid))
     | _ => true) && typeOK cfg x && typeOKL cfg xs
end

theorem convLeaf_ty (cfg : Cfg) (hb : cfg.baseToGuard = true) (m : Mode) (t : DT) (hm : isTy m t) (g : Bool) (l : Leaf) :
    convLeaf m (g || cfg.baseToGuard) l = tyLeaf t l := by
  rcases hm with rfl | rfl
  · exact convLeaf_type_eq t _ l
  · rw [hb, Bool.or_true]; exact convLeaf_cloneTo_guard t l

mutual
theorem conv_ty_node (cfg : Cfg) (hb : cfg.baseToGuard = true) (t : DT) :
    ∀ (o : Op), normal cfg o = true → typeOK cfg o = true → ∀ (m : Mode), isTy m t → (∀ l, o ≠ .leaf l) →
    ∃ o', conv cfg m o = some o' ∧ skel o' = skel o ∧ rep o' = (rep o).map (tyLeaf t)
  | .leaf l => fun _ _ _ _ hnl => absurd rfl (hnl l)
  | .val v => fun _ _ _ _ _ => ⟨_, rfl, rfl, rfl⟩
  | .node cls a dn d nkw hid => by
    intro hn hp m hm _
    obtain ⟨hok, hna, hnd⟩ := normal_node hn
    simp only [typeOK, Bool.and_eq_true, Bool.not_eq_true', decide_eq_false_iff_not] at hp
    obtain ⟨⟨⟨hrw, htp⟩, hpa⟩, hpd⟩ := hp
    exact conv_node_map hok (by rw [decide_eq_false htp]; rfl) (nodeMode_plain m cls hrw)
      (convNkw_plain m cls nkw hrw) (convL_ty cfg hb t a hna hpa m hm _) (convL_ty cfg hb t d hnd hpd m hm _)
theorem convL_ty (cfg : Cfg) (hb : cfg.baseToGuard = true) (t : DT) :
    ∀ (xs : List Op), normalL cfg xs = true → typeOKL cfg xs = true → ∀ (m : Mode), isTy m t → ∀ (guard : Bool),
    ∃ xs', convL cfg m guard xs = some xs' ∧ skelL xs' = skelL xs ∧ repL xs' = (repL xs).map (tyLeaf t)
  | [] => fun _ _ _ _ _ => ⟨[], rfl, rfl, rfl⟩
  | x :: xs => by
    intro hn hp m hm guard
    have hn := normalL_cons hn
    simp only [typeOKL, Bool.and_eq_true] at hp
    obtain ⟨⟨hfx, hpx⟩, hpxs⟩ := hp
    refine convL_cons_map ?_ (convL_ty cfg hb t xs hn.2 hpxs m hm guard)
    cases x with
    | leaf l => exact ⟨_, rfl, rfl, by simp only [rep, List.map_cons, List.map_nil, convLeaf_ty cfg hb m t hm guard l]⟩
    | val v => exact ⟨_, rfl, rfl, rfl⟩
    | node c a dn d nkw hid =>
      -- a sub-operator reporting a floating dtype is converted by `clone().to(t)` under `type t` and `cloneTo t` alike
      simp only at hfx
      have ih := conv_ty_node cfg hb t (.node c a dn d nkw hid) hn.1 hpx (.cloneTo t) (Or.inr rfl) (by intro l h; cases h)
      rcases hm with rfl | rfl
      · simp only [convHead, hfx, if_true]; exact ih
      · simp only [convHead, hfx, Bool.not_true, Bool.and_false, Bool.false_eq_true, if_false]; exact ih
end

/-- `type t` at the root: a bare tensor obeys the same leaf law as the tensors below an operator -/
theorem conv_type (cfg : Cfg) (hb : cfg.baseToGuard = true) (t : DT) (o : Op) (hn : normal cfg o = true)
    (hp : typeOK cfg o = true) :
    ∃ o', conv cfg (.type t) o = some o' ∧ skel o' = skel o ∧ rep o' = (rep o).map (tyLeaf t) :=
  match o with
  | .leaf _ => ⟨_, rfl, rfl, rfl⟩
  | .val _ => ⟨_, rfl, rfl, rfl⟩
  | .node .. => conv_ty_node cfg hb t _ hn hp (.type t) (Or.inl rfl) (fun _ h => nomatch h)

theorem tyLeaf_dt (t : DT) (l : Leaf) : (tyLeaf t l).dt = if l.dt.isFloat then t else l.dt := by
  unfold tyLeaf
  split <;> rfl

/-! clone / detach: every leaf, at every depth, goes through the mode's leaf law; no side conditions beyond normality -/

def simpleMode (m : Mode) : Prop := m = .clone ∨ m = .detach

theorem convLeaf_simple (m : Mode) (hm : simpleMode m) (g : Bool) (l : Leaf) : convLeaf m g l = convLeaf m false l := by
  rcases hm with rfl | rfl <;> rfl

theorem convNkw_simple (m : Mode) (hm : simpleMode m) (cls : String) (nkw : KV) : convNkw m cls nkw = nkw := by
  rcases hm with rfl | rfl <;> simp only [convNkw, ite_self]

theorem nodeMode_simple (m : Mode) (hm : simpleMode m) (cls : String) : nodeMode m cls = m := by
  rcases hm with rfl | rfl <;> simp only [nodeMode, ite_self]

mutual
theorem conv_simple (cfg : Cfg) (m : Mode) (hm : simpleMode m) : ∀ (o : Op), normal cfg o = true →
    ∃ o', conv cfg m o = some o' ∧ skel o' = skel o ∧ rep o' = (rep o).map (convLeaf m false)
  | .leaf l => fun _ => ⟨_, rfl, rfl, rfl⟩
  | .val v => fun _ => ⟨_, rfl, rfl, rfl⟩
  | .node cls a dn d nkw hid => by
    intro hn
    obtain ⟨hok, hna, hnd⟩ := normal_node hn
    exact conv_node_map hok (by rcases hm with rfl | rfl <;> exact Bool.and_false _) (nodeMode_simple m hm cls)
      (convNkw_simple m hm cls nkw) (convL_simple cfg m hm a hna _) (convL_simple cfg m hm d hnd _)
theorem convL_simple (cfg : Cfg) (m : Mode) (hm : simpleMode m) : ∀ (xs : List Op), normalL cfg xs = true →
    ∀ (guard : Bool), ∃ xs', convL cfg m guard xs = some xs' ∧ skelL xs' = skelL xs ∧
      repL xs' = (repL xs).map (convLeaf m false)
  | [] => fun _ _ => ⟨[], rfl, rfl, rfl⟩
  | x :: xs => by
    intro hn guard
    have hn := normalL_cons hn
    refine convL_cons_map ?_ (convL_simple cfg m hm xs hn.2 guard)
    cases x with
    | leaf l => exact ⟨_, rfl, rfl, by simp only [rep, List.map_cons, List.map_nil, convLeaf_simple m hm _ l]⟩
    | val v => exact ⟨_, rfl, rfl, rfl⟩
    | node c a dn d nkw hid =>
      have ih := conv_simple cfg m hm (.node c a dn d nkw hid) hn.1
      rcases hm with rfl | rfl <;> exact ih
end

/-! ### `to(dtype)` over the whole tree -/

/-- what `to(t)` must do to a tensor: nothing if it already has dtype `t` or is not floating, else cast (new storage) -/
def toLeaf (t : DT) (l : Leaf) : Leaf :=
  if l.dt = t then l else if l.dt.isFloat then { l with dt := t, fresh := true } else l

theorem convLeaf_to_guard (t : DT) (l : Leaf) : convLeaf (.to t) true l = toLeaf t l := by
  unfold convLeaf toLeaf
  by_cases h1 : l.dt = t
  · simp [h1]
  · cases l.dt.isFloat <;> simp [h1]

mutual
def toOK (cfg : Cfg) : Op → Bool
  | .leaf _ => true
  | .val _ => true
  | .node cls a _ d _ _ => !rewritesNkw cls && toOKL cfg a && toOKL cfg d
def toOKL (cfg : Cfg) : List Op → Bool
  | [] => true
  | x :: xs =>
    (match x with
     | .node c a dn d nkw hid => isFloatDT (dtypeOf cfg false (.node c a dn d nkw hid))
     | _ => true) && toOK cfg x && toOKL cfg xs
end

mutual
theorem conv_to_node (cfg : Cfg) (hb : cfg.baseToGuard = true) (t : DT) :
    ∀ (o : Op), normal cfg o = true → toOK cfg o = true → (∀ l, o ≠ .leaf l) →
    ∃ o', conv cfg (.to t) o = some o' ∧ skel o' = skel o ∧ rep o' = (rep o).map (toLeaf t)
  | .leaf l => fun _ _ hnl => absurd rfl (hnl l)
  | .val v => fun _ _ _ => ⟨_, rfl, rfl, rfl⟩
  | .node cls a dn d nkw hid => by
    intro hn hp _
    obtain ⟨hok, hna, hnd⟩ := normal_node hn
    simp only [toOK, Bool.and_eq_true, Bool.not_eq_true'] at hp
    obtain ⟨⟨hrw, hpa⟩, hpd⟩ := hp
    exact conv_node_map hok (Bool.and_false _) (nodeMode_plain _ cls hrw) (convNkw_plain _ cls nkw hrw)
      (convL_to cfg hb t a hna hpa _) (convL_to cfg hb t d hnd hpd _)
theorem convL_to (cfg : Cfg) (hb : cfg.baseToGuard = true) (t : DT) :
    ∀ (xs : List Op), normalL cfg xs = true → toOKL cfg xs = true → ∀ (guard : Bool),
    ∃ xs', convL cfg (.to t) guard xs = some xs' ∧ skelL xs' = skelL xs ∧ repL xs' = (repL xs).map (toLeaf t)
  | [] => fun _ _ _ => ⟨[], rfl, rfl, rfl⟩
  | x :: xs => by
    intro hn hp guard
    have hn := normalL_cons hn
    simp only [toOKL, Bool.and_eq_true] at hp
    obtain ⟨⟨hfx, hpx⟩, hpxs⟩ := hp
    refine convL_cons_map ?_ (convL_to cfg hb t xs hn.2 hpxs guard)
    cases x with
    | leaf l =>
      exact ⟨_, rfl, rfl, by simp only [rep, List.map_cons, List.map_nil, hb, Bool.or_true, convLeaf_to_guard]⟩
    | val v => exact ⟨_, rfl, rfl, rfl⟩
    | node c a dn d nkw hid =>
      simp only at hfx
      have ih := conv_to_node cfg hb t (.node c a dn d nkw hid) hn.1 hpx (by intro l h; cases h)
      simp only [convHead, hfx, Bool.not_true, Bool.and_false, Bool.false_eq_true, if_false]; exact ih
end

end LinOp.C14
