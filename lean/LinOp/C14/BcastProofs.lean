import LinOp.C14.Bcast
import LinOp.C14.ShapeProofs
/-! Lemmas about the batch-broadcasting constructor normalisations (`LinOp/C14/Bcast.lean`). -/
namespace LinOp.C14

theorem lastN_length (k : Nat) (s : List Nat) (h : k ≤ s.length) : (lastN k s).length = k := by
  simp only [lastN, List.length_drop]; omega

theorem dropLastN_append (k : Nat) (bs t : List Nat) (ht : t.length = k) : dropLastN k (bs ++ t) = bs := by
  simp only [dropLastN, List.length_append, ht, Nat.add_sub_cancel]
  exact List.take_left' rfl

theorem oneLeaf_some (k : Nat) (a : List Op) (l : Leaf) (h : oneLeaf k a = some l) :
    a = [.leaf l] ∧ k ≤ l.shape.length := by
  unfold oneLeaf at h
  split at h
  · rename_i l0
    split at h
    · rename_i hk; cases h; exact ⟨rfl, hk⟩
    · cases h
  · cases h

theorem oneLeaf_mk (k : Nat) (l : Leaf) (h : k ≤ l.shape.length) : oneLeaf k [.leaf l] = some l := by
  simp [oneLeaf, h]

/-- an operand with a batch shape is an operator, which `to_linear_operator` returns as it is -/
theorem dense_of_bshape (x : Op) (s : List Nat) (h : bshape x = some s) : dense x = x := by
  cases x with
  | leaf l => simp [bshape] at h
  | val v => rfl
  | node c a dn d nkw hid => rfl

theorem ite_map_eq_some {α β : Type} {c : Prop} [Decidable c] {x : Option α} {f : α → β} {y : β}
    (h : (if c then x.map f else none) = some y) : c ∧ ∃ a, x = some a ∧ f a = y := by
  by_cases hc : c
  · rw [if_pos hc] at h
    exact ⟨hc, Option.map_eq_some_iff.mp h⟩
  · rw [if_neg hc] at h; cases h

/-- `_expand_batch` to a non-empty shape on a class that holds operators: the class belongs to one of the three groups the
    model follows, there is at least one argument, and the arguments are expanded one by one -/
theorem expandB_node_none {bs : List Nat} {cls : String} {a : List Op} {dn : List String} {d : List Op} {nkw hid : KV}
    {o' : Op} (hbs : bs.isEmpty = false) (hk : coreDims cls = none) (h : expandB bs (.node cls a dn d nkw hid) = some o') :
    (wrapsOne.contains cls || sumLike.contains cls || decide (cls = "MatmulLinearOperator")) = true ∧ a ≠ [] ∧
      ∃ a', expandBL bs a = some a' ∧ .node cls a' dn d nkw hid = o' := by
  simp only [expandB, hk] at h
  cases hw : wrapsOne.contains cls
  · rw [hw, if_neg Bool.false_ne_true] at h
    cases hs : sumLike.contains cls
    · rw [hs, if_neg Bool.false_ne_true] at h
      by_cases hm : cls = "MatmulLinearOperator"
      · rw [if_pos hm] at h
        obtain ⟨hl, ha⟩ := ite_map_eq_some h
        exact ⟨by rw [decide_eq_true hm, Bool.or_true], (by rintro rfl; cases hl), ha⟩
      · rw [if_neg hm] at h; cases h
    · rw [hs, if_pos rfl] at h
      obtain ⟨hc, ha⟩ := ite_map_eq_some h
      simp only [Bool.and_eq_true, Bool.not_eq_true', List.isEmpty_eq_false_iff] at hc
      exact ⟨rfl, hc.2, ha⟩
  · rw [hw, if_pos rfl, hbs, if_neg Bool.false_ne_true] at h
    obtain ⟨hl, ha⟩ := ite_map_eq_some h
    exact ⟨rfl, (by rintro rfl; cases hl), ha⟩

/- `_expand_batch(bs)` yields an operator whose batch shape is `bs` -/
mutual
theorem bshape_expandB (bs : List Nat) (hbs : bs.isEmpty = false) : ∀ (o o' : Op), expandB bs o = some o' →
    bshape o' = some bs
  | .leaf _ => fun _ h => nomatch h
  | .val _ => fun _ h => nomatch h
  | .node cls a dn d nkw hid => by
    intro o' h
    cases hk : coreDims cls with
    | some k =>
      simp only [expandB, hk] at h
      obtain ⟨l, hl, rfl⟩ := Option.map_eq_some_iff.mp h
      have hlen : (lastN k l.shape).length = k := lastN_length k l.shape (oneLeaf_some k a l hl).2
      simp only [bshape, hk, oneLeaf_mk k { l with shape := bs ++ lastN k l.shape }
        (by simp only [List.length_append, hlen]; omega), Option.map_some, dropLastN_append k bs _ hlen]
    | none =>
      obtain ⟨hg, hne, a', ha, rfl⟩ := expandB_node_none hbs hk h
      simp only [bshape, hk, hg, if_true]
      exact bshapeHead_expandBL bs hbs a a' ha hne
theorem bshapeHead_expandBL (bs : List Nat) (hbs : bs.isEmpty = false) : ∀ (a a' : List Op), expandBL bs a = some a' →
    a ≠ [] → bshapeHead a' = some bs
  | [] => fun _ _ hne => absurd rfl hne
  | x :: xs => by
    intro a' h _
    simp only [expandBL] at h
    cases hx : expandB bs x with
    | none => simp [hx] at h
    | some y =>
      cases hxs : expandBL bs xs with
      | none => simp [hx, hxs] at h
      | some ys =>
        simp only [hx, hxs, Option.some.injEq] at h
        subst h
        exact bshape_expandB bs hbs x y hx
end

def allB (bs : List Nat) (l : List Op) : Prop := ∀ x ∈ l, bshape x = some bs

/-- an argument that the broadcasting constructors keep or expand has the target batch shape afterwards -/
theorem bshape_expandTo_head {bs : List Nat} {x y : Op}
    (h : (if bshape x = some bs then some x else if bs.isEmpty then none else expandB bs x) = some y) :
    bshape y = some bs := by
  by_cases hb : bshape x = some bs
  · rw [if_pos hb] at h; cases h; exact hb
  · rw [if_neg hb] at h
    cases hE : bs.isEmpty
    · rw [hE, if_neg Bool.false_ne_true] at h
      exact bshape_expandB bs hE x y h
    · rw [hE, if_pos rfl] at h; cases h

theorem expandTo_allB (bs : List Nat) : ∀ (l l' : List Op), expandTo bs l = some l' → allB bs l' ∧ l'.length = l.length
  | [], l', h => by
    cases h
    exact ⟨fun _ hx => (nomatch hx), rfl⟩
  | x :: xs, l', h => by
    rw [expandTo] at h
    split at h
    · rename_i y ys hy hys
      cases h
      obtain ⟨ih, ihl⟩ := expandTo_allB bs xs ys hys
      exact ⟨List.forall_mem_cons.mpr ⟨bshape_expandTo_head hy, ih⟩, congrArg (· + 1) ihl⟩
    · cases h

theorem map_dense_allB (bs : List Nat) : ∀ (l : List Op), allB bs l → l.map dense = l
  | [], _ => rfl
  | x :: xs, h => by
    obtain ⟨hx, hxs⟩ := List.forall_mem_cons.mp h
    simp only [List.map_cons, dense_of_bshape x bs hx, map_dense_allB bs xs hxs]

theorem shapesOf_allB (bs : List Nat) : ∀ (l : List Op), allB bs l → shapesOf l = some (l.map (fun _ => bs))
  | [], _ => rfl
  | x :: xs, h => by
    obtain ⟨hx, hxs⟩ := List.forall_mem_cons.mp h
    simp only [shapesOf, hx, shapesOf_allB bs xs hxs, List.map_cons]

theorem expandTo_allB_fix (bs : List Nat) : ∀ (l : List Op), allB bs l → expandTo bs l = some l
  | [], _ => rfl
  | x :: xs, h => by
    obtain ⟨hx, hxs⟩ := List.forall_mem_cons.mp h
    simp only [expandTo, hx, if_true, expandTo_allB_fix bs xs hxs]

theorem bc1_self (x : Nat) : bc1 x x = some x := by simp [bc1]

theorem bcRev_self : ∀ (r : List Nat), bcRev r r = some r
  | [] => rfl
  | x :: xs => by simp only [bcRev, bc1_self, bcRev_self xs]

theorem bcRev_nil_right (r : List Nat) : bcRev r [] = some r := by cases r <;> rfl

theorem bcast_self (bs : List Nat) : bcast bs bs = some bs := by
  simp only [bcast, bcRev_self, Option.map_some, List.reverse_reverse]

theorem bcast_nil_right (bs : List Nat) : bcast bs [] = some bs := by
  simp only [bcast, List.reverse_nil, bcRev_nil_right, Option.map_some, List.reverse_reverse]

theorem bcastAll_cons (s : List Nat) (r : List (List Nat)) :
    bcastAll (s :: r) = (match bcastAll r with | some t => bcast s t | none => none) := rfl

/-- broadcasting any positive number of copies of one shape gives that shape -/
theorem bcastAll_const {α : Type} (bs : List Nat) : ∀ (l : List α), bcastAll (bs :: l.map (fun _ => bs)) = some bs
  | [] => bcast_nil_right bs
  | _ :: l => by
    rw [List.map_cons, bcastAll_cons, bcastAll_const bs l]
    exact bcast_self bs

/-- **the broadcasting pre-pass of Sum / PsdSum / AddedDiag / Matmul constructors is idempotent, and afterwards every
    stored argument has the common broadcast batch shape** -/
theorem preBroadcast_spec (pos pos' : List Op) (h : preBroadcast pos = some pos') :
    (∃ bs, allB bs pos') ∧ pos'.length = pos.length ∧ preBroadcast pos' = some pos' := by
  unfold preBroadcast at h
  cases hs : shapesOf (pos.map dense) with
  | none => simp [hs] at h
  | some shapes =>
    simp only [hs] at h
    cases hb : bcastAll shapes with
    | none => simp [hb] at h
    | some bs =>
      simp only [hb] at h
      obtain ⟨hall, hlen⟩ := expandTo_allB bs _ pos' h
      refine ⟨⟨bs, hall⟩, by simpa using hlen, ?_⟩
      unfold preBroadcast
      rw [map_dense_allB bs pos' hall, shapesOf_allB bs pos' hall]
      cases pos' with
      | nil => rfl
      | cons x xs =>
        simp only [List.map_cons, bcastAll_const bs xs]
        exact expandTo_allB_fix bs (x :: xs) hall

/-- five arguments whose base already has the batch shape of the interpolation indices are left alone -/
theorem preInterp_fix {b : Op} {li : Leaf} (lv ri rv : Op) (hl : ¬ li.shape.length < 2)
    (hb : bshape b = some (dropLastN 2 li.shape)) :
    preInterp [b, .leaf li, lv, ri, rv] = some [b, .leaf li, lv, ri, rv] := by
  simp only [preInterp, if_neg hl, dense_of_bshape _ _ hb, hb, if_true]

theorem preInterp_idem (pos pos' : List Op) (h : preInterp pos = some pos') :
    preInterp pos' = some pos' ∧ pos'.length = 5 := by
  unfold preInterp at h
  split at h
  · rename_i b li lv ri rv
    by_cases hl : li.shape.length < 2
    · rw [if_pos hl] at h; cases h
    rw [if_neg hl] at h
    cases hs : bshape (dense b) with
    | none => simp only [hs] at h; cases h
    | some s =>
      simp only [hs] at h
      by_cases he : s = dropLastN 2 li.shape
      · rw [if_pos he] at h; cases h
        exact ⟨preInterp_fix lv ri rv hl (he ▸ hs), rfl⟩
      · cases hE : (dropLastN 2 li.shape).isEmpty
        · rw [if_neg he, hE, if_neg Bool.false_ne_true] at h
          obtain ⟨b', hx, rfl⟩ := Option.map_eq_some_iff.mp h
          exact ⟨preInterp_fix lv ri rv hl (bshape_expandB _ hE _ _ hx), rfl⟩
        · rw [if_neg he, hE, if_pos rfl] at h; cases h
  · cases h

/-- **All shape-dependent constructor normalisations together are idempotent** (BatchRepeat unsqueeze loop, Block*
    block_dim move, Sum / PsdSum / AddedDiag / Matmul batch broadcasting, Interpolated base expansion): every class,
    every argument list. -/
theorem preNormB_idem (cls : String) (pos : List Op) (kw : List (String × Op)) (pos' : List Op)
    (kw' : List (String × Op)) (h : preNormB cls pos kw = some (pos', kw')) :
    preNormB cls pos' kw' = some (pos', kw') := by
  unfold preNormB at h ⊢
  by_cases hb : broadcastCtor cls = true
  · simp only [hb, if_true] at h ⊢
    cases hp : preBroadcast pos with
    | none => simp [hp] at h
    | some p =>
      simp only [hp, Option.map_some, Option.some.injEq, Prod.mk.injEq] at h
      obtain ⟨h1, h2⟩ := h
      subst h1; subst h2
      simp only [(preBroadcast_spec pos p hp).2.2, Option.map_some]
  · have hb' : broadcastCtor cls = false := by simpa using hb
    simp only [hb', Bool.false_eq_true, if_false] at h ⊢
    by_cases hc : cls = "InterpolatedLinearOperator"
    · subst hc
      by_cases h5 : pos.length = 5
      · simp only [h5, decide_true, Bool.and_self, if_true] at h
        cases hp : preInterp pos with
        | none => simp [hp] at h
        | some p =>
          simp only [hp, Option.map_some, Option.some.injEq, Prod.mk.injEq] at h
          obtain ⟨h1, h2⟩ := h
          subst h1; subst h2
          obtain ⟨hi, hl⟩ := preInterp_idem pos p hp
          simp only [hl, decide_true, Bool.and_self, if_true, hi, Option.map_some]
      · have hn : preNorm "InterpolatedLinearOperator" pos kw = some (pos, kw) := by
          simp [preNorm, blockLike]
        simp only [h5, decide_false, Bool.and_false, Bool.false_eq_true, if_false, hn, Option.some.injEq,
          Prod.mk.injEq] at h
        obtain ⟨h1, h2⟩ := h
        subst h1; subst h2
        simp only [h5, decide_false, Bool.and_false, Bool.false_eq_true, if_false, hn]
    · simp only [hc, decide_false, Bool.false_and, Bool.false_eq_true, if_false] at h ⊢
      exact preNorm_idem cls pos kw pos' kw' h

theorem constructB_fix (cfg : Cfg) (cls : String) (a : List Op) (dn : List String) (d : List Op) (nkw hid : KV)
    (hs : preNormB cls a (kwOf dn d nkw) = some (a, kwOf dn d nkw)) (h : nodeOK cfg cls a dn d nkw hid = true) :
    constructB cfg cls a (kwOf dn d nkw) = some (.node cls a dn d nkw hid) := by
  simp only [constructB, hs]
  exact construct_fix h

end LinOp.C14
