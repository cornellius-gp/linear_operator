import LinOp.C14.Shape
import LinOp.C14.ProofsNode
/-! Lemmas about the shape-dependent constructor normalisations (`LinOp/C14/Shape.lean`). -/
namespace LinOp.C14

theorem cls_unsqT (o : Op) : (unsqT o).cls = o.cls := by cases o <;> rfl
theorem cls_permT (dims : List Nat) (o : Op) : (permT dims o).cls = o.cls := by cases o <;> rfl

theorem unsqTL_isEmpty : ∀ (a : List Op), (unsqTL a).isEmpty = a.isEmpty
  | [] => rfl
  | _ :: _ => rfl

theorem permTL_length (dims : List Nat) : ∀ (a : List Op), (permTL dims a).length = a.length
  | [] => rfl
  | _ :: xs => by simp [permTL, permTL_length dims xs]

theorem permTL_isEmpty (dims : List Nat) : ∀ (a : List Op), (permTL dims a).isEmpty = a.isEmpty
  | [] => rfl
  | _ :: _ => rfl

mutual
theorem genU_unsqT : ∀ (o : Op), genU (unsqT o) = genU o
  | .leaf _ => rfl
  | .val _ => rfl
  | .node cls a dn d nkw hid => by
    simp only [unsqT, genU, unsqTL_isEmpty, genUL_unsqTL a]
theorem genUL_unsqTL : ∀ (xs : List Op), genUL (unsqTL xs) = genUL xs
  | [] => rfl
  | x :: xs => by simp only [unsqTL, genUL, genU_unsqT x, genUL_unsqTL xs]
end

mutual
theorem skel_unsqT : ∀ (o : Op), skel (unsqT o) = skel o
  | .leaf _ => rfl
  | .val _ => rfl
  | .node cls a dn d nkw hid => by simp only [unsqT, skel, skelL_unsqTL a]
theorem skelL_unsqTL : ∀ (xs : List Op), skelL (unsqTL xs) = skelL xs
  | [] => rfl
  | x :: xs => by simp only [unsqTL, skelL, skel_unsqT x, skelL_unsqTL xs]
end

mutual
theorem skel_permT (dims : List Nat) : ∀ (o : Op), skel (permT dims o) = skel o
  | .leaf _ => rfl
  | .val _ => rfl
  | .node cls a dn d nkw hid => by simp only [permT, skel, skelL_permTL dims a]
theorem skelL_permTL (dims : List Nat) : ∀ (xs : List Op), skelL (permTL dims xs) = skelL xs
  | [] => rfl
  | x :: xs => by simp only [permTL, skelL, skel_permT dims x, skelL_permTL dims xs]
end

/-- everything of a tensor except its shape: dtype, storage identity, fresh flag, requires_grad -/
def Leaf.noShape (l : Leaf) : DT × Nat × Bool × Bool := (l.dt, l.id, l.fresh, l.rg)

mutual
theorem rep_unsqT : ∀ (o : Op), (rep (unsqT o)).map Leaf.noShape = (rep o).map Leaf.noShape
  | .leaf _ => rfl
  | .val _ => rfl
  | .node cls a dn d nkw hid => by simp only [unsqT, rep, List.map_append, repL_unsqTL a]
theorem repL_unsqTL : ∀ (xs : List Op), (repL (unsqTL xs)).map Leaf.noShape = (repL xs).map Leaf.noShape
  | [] => rfl
  | x :: xs => by simp only [unsqTL, repL, List.map_append, rep_unsqT x, repL_unsqTL xs]
end

mutual
theorem rep_permT (dims : List Nat) : ∀ (o : Op), (rep (permT dims o)).map Leaf.noShape = (rep o).map Leaf.noShape
  | .leaf _ => rfl
  | .val _ => rfl
  | .node cls a dn d nkw hid => by simp only [permT, rep, List.map_append, repL_permTL dims a]
theorem repL_permTL (dims : List Nat) : ∀ (xs : List Op),
    (repL (permTL dims xs)).map Leaf.noShape = (repL xs).map Leaf.noShape
  | [] => rfl
  | x :: xs => by simp only [permTL, repL, List.map_append, rep_permT dims x, repL_permTL dims xs]
end

/-- The classes for which `ndim` is not the number of dimensions of the first argument (plus one for the diagonal-like
    classes) all have a `_unsqueeze_batch` of their own, except TransposePermutation, which `genU` excludes by name. -/
theorem ndim_node_generic {cls : String} (hov : unsqOverride.contains cls = false)
    (h4 : cls ≠ "TransposePermutationLinearOperator") (a : List Op) (dn : List String) (d : List Op) (nkw hid : KV) :
    ndim (.node cls a dn d nkw hid) =
      if cls = "DiagLinearOperator" || cls = "ConstantDiagLinearOperator" || cls = "ToeplitzLinearOperator"
         || cls = "PermutationLinearOperator" then ndimHead a + 1 else ndimHead a := by
  have hmem : ∀ c, c ∈ unsqOverride → cls ≠ c := by
    rintro c hc rfl
    rw [List.contains_iff_mem.mpr hc] at hov
    cases hov
  have h1 := hmem "IdentityLinearOperator" (by simp only [unsqOverride, List.mem_cons, true_or, or_true])
  have h2 := hmem "ZeroLinearOperator" (by simp only [unsqOverride, List.mem_cons, true_or, or_true])
  have h3 : blockLike.contains cls = false := by
    cases hb : blockLike.contains cls
    · rfl
    · simp only [blockLike, List.contains_iff_mem, List.mem_cons, List.not_mem_nil, or_false] at hb
      rcases hb with e | e | e <;>
        exact absurd e (hmem _ (by simp only [unsqOverride, List.mem_cons, true_or, or_true]))
  rw [ndim, if_neg h1, if_neg h2, if_neg h4, h3, if_neg Bool.false_ne_true (t := ndimHead a - 1)]

/-- every `unsqueeze(0)` through the generic method adds exactly one (batch) dimension -/
theorem ndim_unsqT : ∀ (o : Op), genU o = true → ndim (unsqT o) = ndim o + 1
  | .leaf _, _ => rfl
  | .val _, h => nomatch h
  | .node cls a dn d nkw hid, h => by
    simp only [genU, Bool.and_eq_true, Bool.not_eq_true', bne_iff_ne, ne_eq] at h
    obtain ⟨⟨⟨hov, h4⟩, hne⟩, hg⟩ := h
    have hhead : ndimHead (unsqTL a) = ndimHead a + 1 :=
      match a, hne, hg with
      | x :: xs, _, hg => ndim_unsqT x (Bool.and_eq_true_iff.mp hg).1
    rw [unsqT, ndim_node_generic hov h4, ndim_node_generic hov h4, hhead]
    split <;> rfl

theorem iterOp_invariant {α : Type} {f : Op → Op} {P : Op → α} (h : ∀ o, P (f o) = P o) :
    ∀ (k : Nat) (o : Op), P (iterOp f k o) = P o
  | 0, _ => rfl
  | k + 1, o => (iterOp_invariant h k (f o)).trans (h o)

theorem genU_iter : ∀ (k : Nat) (o : Op), genU (iterOp unsqT k o) = genU o := iterOp_invariant genU_unsqT

theorem ndim_iter : ∀ (k : Nat) (o : Op), genU o = true → ndim (iterOp unsqT k o) = ndim o + k
  | 0, _, _ => rfl
  | k + 1, o, h => by
    rw [iterOp, ndim_iter k (unsqT o) (by rw [genU_unsqT]; exact h), ndim_unsqT o h, Nat.add_assoc, Nat.add_comm 1 k]

theorem permShape_length (dims s : List Nat) (h : dims.length ≤ s.length) : (permShape dims s).length = s.length := by
  simp only [permShape, List.length_append, List.length_map, List.length_drop]
  omega

/-- the generic `_permute_batch` keeps the number of dimensions -/
theorem ndim_permT (dims : List Nat) : ∀ (o : Op), genP dims.length o = true → ndim (permT dims o) = ndim o
  | .leaf l, h => by
    simp only [genP, decide_eq_true_eq] at h
    simp only [permT, ndim, permLeaf, permShape_length dims l.shape h]
  | .val _, _ => rfl
  | .node cls a dn d nkw hid, h => by
    simp only [genP, Bool.and_eq_true] at h
    have hhead : ndimHead (permTL dims a) = ndimHead a :=
      match a, h.2 with
      | [], _ => rfl
      | x :: xs, hg => ndim_permT dims x (Bool.and_eq_true_iff.mp hg).1
    simp only [permT, ndim, hhead, permTL_length]

theorem moveDims_length (nd p : Nat) (h : p + 2 < nd) : (moveDims nd p).length = nd - 2 := by
  simp only [moveDims, List.length_append, List.length_range, List.length_range', List.length_cons, List.length_nil]
  omega

theorem moveDims_last (nd p : Nat) : (moveDims nd p).getLast? = some p := by
  simp [moveDims]

theorem badBase_permT (dims : List Nat) (o : Op) : badBase (permT dims o) = badBase o := by
  simp only [badBase, cls_permT]

/-- what a successful BatchRepeat pre-pass did: `r + 2 - base.dim()` generic unsqueezes of an acceptable base -/
theorem preBR_some {base b' : Op} {r : Nat} (h : preBR base r = some b') :
    badBase base = false ∧ b' = iterOp unsqT (r + 2 - ndim base) base ∧ ndim b' = ndim base + (r + 2 - ndim base) := by
  unfold preBR at h
  cases hbad : badBase base
  · rw [hbad, if_neg Bool.false_ne_true] at h
    by_cases hk : r + 2 - ndim base = 0
    · rw [if_pos hk] at h; cases h
      rw [hk]; exact ⟨rfl, rfl, rfl⟩
    · cases hg : genU base
      · rw [if_neg hk, hg] at h; cases h
      · rw [if_neg hk, hg, if_pos rfl] at h; cases h
        exact ⟨rfl, rfl, ndim_iter _ _ hg⟩
  · rw [hbad, if_pos rfl] at h; cases h

theorem preBR_idem (base b' : Op) (r : Nat) (h : preBR base r = some b') : preBR b' r = some b' := by
  obtain ⟨hbad, rfl, hn⟩ := preBR_some h
  rw [preBR, iterOp_invariant (P := badBase) (fun o => by simp only [badBase, cls_unsqT]), hbad,
    if_neg Bool.false_ne_true, if_pos (by omega)]

/-- after the BatchRepeat pre-pass the base operator has at least `len(batch_repeat) + 2` dimensions, the same
    skeleton, and the same tensors up to their shapes (views: storage, dtype, requires_grad kept) -/
theorem preBR_spec (base b' : Op) (r : Nat) (h : preBR base r = some b') :
    r + 2 ≤ ndim b' ∧ ndim b' = max (ndim base) (r + 2) ∧ skel b' = skel base ∧
      (rep b').map Leaf.noShape = (rep base).map Leaf.noShape := by
  obtain ⟨_, rfl, hn⟩ := preBR_some h
  exact ⟨by omega, by omega, iterOp_invariant skel_unsqT _ _,
    iterOp_invariant (P := fun o => (rep o).map Leaf.noShape) rep_unsqT _ _⟩

theorem preNorm_block_fix (cls : String) (hc : cls ≠ "BatchRepeatLinearOperator") (hb : blockLike.contains cls = true)
    (b : Op) (h3 : ¬ ndim b < 3) :
    preNorm cls [b] [("block_dim", Op.val (.int (-3)))] = some ([b], [("block_dim", Op.val (.int (-3)))]) := by
  have e : blockDimOf [] [("block_dim", Op.val (.int (-3)))] = some (-3) := by
    simp [blockDimOf, List.find?]
  simp only [preNorm, if_neg hc, hb, if_true, e, preBlock, preBlockN, if_neg h3]
  simp

theorem preBlockN_cases (pos : List Op) (kw : List (String × Op)) (base : Op) (bd : Int) (pos' : List Op)
    (kw' : List (String × Op)) (h : preBlockN pos kw base bd = some (pos', kw')) :
    (pos' = pos ∧ kw' = kw) ∨
    (¬ ndim base < 3 ∧ ∃ p : Nat, p + 2 < ndim base ∧ genP (ndim base - 2) base = true ∧
      pos' = [permT (moveDims (ndim base) p) base] ∧ kw' = [("block_dim", Op.val (.int (-3)))]) := by
  unfold preBlockN at h
  by_cases h3 : ndim base < 3
  · rw [if_pos h3] at h; cases h
  rw [if_neg h3] at h
  by_cases hbd : bd = -3
  · rw [if_pos hbd] at h; cases h
    exact Or.inl ⟨rfl, rfl⟩
  rw [if_neg hbd] at h
  by_cases hlo : (ndim base : Int) + bd < 0
  · rw [if_pos hlo] at h; cases h
  rw [if_neg hlo] at h
  by_cases hhi : (ndim base : Int) - 2 ≤ (ndim base : Int) + bd
  · rw [if_pos hhi] at h; cases h
  rw [if_neg hhi] at h
  cases hbad : badBase base
  · cases hg : genP (ndim base - 2) base
    · rw [hbad, hg] at h; cases h
    · rw [hbad, hg] at h; cases h
      exact Or.inr ⟨h3, _, by omega, rfl, rfl, rfl⟩
  · rw [hbad] at h; cases h

/-- **The shape-dependent constructor normalisations are idempotent**: what they produce is left alone by a second
    application (every class, every argument list). -/
theorem preNorm_idem (cls : String) (pos : List Op) (kw : List (String × Op)) (pos' : List Op)
    (kw' : List (String × Op)) (h : preNorm cls pos kw = some (pos', kw')) : preNorm cls pos' kw' = some (pos', kw') := by
  have h0 := h
  unfold preNorm at h
  by_cases hc : cls = "BatchRepeatLinearOperator"
  · rw [if_pos hc] at h
    cases pos with
    | nil => cases h
    | cons base rest =>
      cases hr : repLen rest kw with
      | none => simp only [hr] at h; cases h
      | some r =>
        cases hb : preBR base r with
        | none => simp only [hr, hb] at h; cases h
        | some b =>
          simp only [hr, hb] at h; cases h
          simp only [preNorm, if_pos hc, hr, preBR_idem base b r hb]
  rw [if_neg hc] at h
  cases hb : blockLike.contains cls
  · rw [hb, if_neg Bool.false_ne_true] at h; cases h
    exact h0
  · rw [hb, if_pos rfl] at h
    cases pos with
    | nil => cases h
    | cons base rest =>
      cases hd : blockDimOf rest kw with
      | none => simp only [hd] at h; cases h
      | some bd0 =>
        simp only [hd, preBlock] at h
        rcases preBlockN_cases _ _ _ _ _ _ h with ⟨rfl, rfl⟩ | ⟨h3, p, hp, hg, rfl, rfl⟩
        · exact h0
        · -- the permuted base has as many dimensions as before, and its block dimension is now `-3`
          apply preNorm_block_fix cls hc hb
          rw [ndim_permT _ base (by rw [moveDims_length _ _ hp]; exact hg)]
          exact h3

/-- `constructS` on arguments that are already shape-normal is `construct`; with `constructor_idempotent` this makes
    every stored, shape-normal node a fixed point of its full constructor. -/
theorem constructS_fix (cfg : Cfg) (cls : String) (a : List Op) (dn : List String) (d : List Op) (nkw hid : KV)
    (hs : preNorm cls a (kwOf dn d nkw) = some (a, kwOf dn d nkw)) (h : nodeOK cfg cls a dn d nkw hid = true) :
    constructS cfg cls a (kwOf dn d nkw) = some (.node cls a dn d nkw hid) := by
  simp only [constructS, hs]
  exact construct_fix h

end LinOp.C14
