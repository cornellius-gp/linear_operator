import LinOp.C14.ProofsConv
import LinOp.Generated.C14Classes
/-!
The example operators of the property file (`LinOp/Properties/C14.lean`) with the two layout tables they are read under, and the
evaluated facts about them that several property theorems pass to the general theorems as hypotheses.
-/
namespace LinOp.C14

/-- The constructor layouts of the classes used in the examples below, **as of the pinned commit**
(Chol.upper, Zero.dtype/device only kept as attributes).  `snapshot_matches_source` ties it to today's source. -/
def snapshot : List (String × Layout) := [
  ("DenseLinearOperator", ⟨1, false, ["tsr"], [], false, [], []⟩),
  ("TriangularLinearOperator", ⟨1, false, ["tensor", "upper"], [("upper", some (.bool false))], false, [], []⟩),
  ("CholLinearOperator", ⟨1, false, ["chol", "upper"], [], false, [("upper", .bool false)], []⟩),
  ("InterpolatedLinearOperator", ⟨5, false, ["base_linear_op", "left_interp_indices", "left_interp_values",
      "right_interp_indices", "right_interp_values"], [], false, [], []⟩),
  ("SumLinearOperator", ⟨0, true, [], [], true, [], []⟩),
  ("ConstantDiagLinearOperator", ⟨1, false, ["diag_values", "diag_shape"], [("diag_shape", none)], false, [], []⟩),
  ("PermutationLinearOperator", ⟨2, false, ["perm", "inv_perm", "validate_args"], [("validate_args", some (.bool true))], false, [], []⟩),
  ("ZeroLinearOperator", ⟨0, true, [], [], false, [("dtype", .none), ("device", .none)], []⟩),
  ("KernelLinearOperator", ⟨2, false, ["x1", "x2", "covar_func", "num_outputs_per_input", "num_nonbatch_dimensions"],
    [("covar_func", none), ("num_outputs_per_input", some (.ints [1, 1])), ("num_nonbatch_dimensions", some .none)],
    true, [], []⟩)]

def genCfg (d : DT) : Cfg := ⟨fun c => (snapshot.find? (·.1 = c)).map (·.2), d, false⟩

def tL (i : Nat) (dt : DT) : Op := .leaf ⟨dt, [2, 2], i, false, false⟩
def exTri (up : Bool) : Op :=
  .node "TriangularLinearOperator" [.node "DenseLinearOperator" [tL 0 .f32] [] [] [] []] [] [] [("upper", .bool up)] []
def exChol (up : Bool) : Op := .node "CholLinearOperator" [exTri up] [] [] [] [("upper", .bool up)]
def exInterp : Op :=
  .node "InterpolatedLinearOperator"
    [.node "DenseLinearOperator" [tL 0 .f32] [] [] [] [], tL 1 .i64, tL 2 .f32, tL 3 .i64, tL 4 .f32] [] [] [] []
def exSum : Op :=
  .node "SumLinearOperator" [exInterp, exChol false,
    .node "ConstantDiagLinearOperator" [tL 5 .f32] [] [] [("diag_shape", .int 2)] []] [] [] [] []

def todayCfg (d : DT) : Cfg := ⟨LinOp.Generated.C14.layoutOf, d, LinOp.Generated.C14.baseToGuardsKind⟩

/-- today's stored form of `CholLinearOperator(TriangularLinearOperator(R, upper=up), upper=up)` -/
def exCholToday (up : Bool) : Op := .node "CholLinearOperator" [exTri up] [] [] [("upper", .bool up)] []

/-- today's stored form of `KroneckerProductTriangularLinearOperator(T1, T2, upper=up)` -/
def exKronTriToday (up : Bool) : Op :=
  .node "KroneckerProductTriangularLinearOperator" [exTri up, exTri up] [] [] [("upper", .bool up)] []

/-- a user subclass storing an operator-valued (flattening to 5 tensors) and a tensor-valued keyword argument:
`super().__init__(base, extra_op=<Interpolated>, scale=<tensor>)` -/
def exUserWrap : Op :=
  .node "UserWrapLinearOperator" [.node "DenseLinearOperator" [tL 7 .f32] [] [] [] []]
    ["extra_op", "scale"] [exInterp, tL 8 .f32] [("index", .none), ("mask", .none)] []

/-- today's stored form of `ZeroLinearOperator(2, 2, dtype=float64)` -/
def exZeroToday : Op :=
  .node "ZeroLinearOperator" [.val (.int 2), .val (.int 2)] [] [] [("device", .none), ("dtype", .dt .f64)] []

/-- `Sum(Interpolated(Zero), Dense, Zero)`: a ZeroLinearOperator nested at two depths -/
def exZeroNested : Op :=
  .node "SumLinearOperator"
    [.node "InterpolatedLinearOperator" [exZeroToday, tL 1 .i64, tL 2 .f32, tL 3 .i64, tL 4 .f32] [] [] [] [],
     .node "DenseLinearOperator" [tL 5 .f32] [] [] [] [], exZeroToday] [] [] [] []

/-- The example operators meet the hypotheses of the general theorems under today's layout table.  One evaluation for all of
them: what the kernel spends is mostly the encoding of the table's class names, once per declaration. -/
theorem today_examples_ok :
    (normal (todayCfg .f32) (exCholToday true) = true ∧ representable (exCholToday true) = true ∧ plain (exCholToday true) = true) ∧
    (normal (todayCfg .f32) (exKronTriToday true) = true ∧ representable (exKronTriToday true) = true) ∧
    (normal (todayCfg .f32) exUserWrap = true ∧ representable exUserWrap = true ∧ typeOK (todayCfg .f32) exUserWrap = true) ∧
    (normal (todayCfg .f32) exZeroToday = true ∧ representable exZeroToday = true) ∧
    (normal (todayCfg .f32) exZeroNested = true ∧ representable exZeroNested = true) := by
  decide +kernel

/-- likewise under the snapshot table: the default-orientation Cholesky example, and `exSum` with a guarding base `to` -/
theorem snapshot_examples_ok :
    (normal (genCfg .f32) (exChol false) = true ∧ representable (exChol false) = true) ∧
    (normal { genCfg .f32 with baseToGuard := true } exSum = true ∧ typeOK { genCfg .f32 with baseToGuard := true } exSum = true ∧
      toOK { genCfg .f32 with baseToGuard := true } exSum = true) := by
  decide +kernel

end LinOp.C14
