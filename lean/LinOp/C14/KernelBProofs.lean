import LinOp.C14.KernelB
import LinOp.C14.BcastProofs
/-! Lemmas about the `KernelLinearOperator.__init__` broadcasting (`LinOp/C14/KernelB.lean`): expanding twice is expanding once. -/
namespace LinOp.C14

theorem lastN_zero (s : List Nat) : lastN 0 s = [] := by simp [lastN]

theorem lastN_append (k : Nat) (bs t : List Nat) (ht : t.length = k) : lastN k (bs ++ t) = t := by
  simp only [lastN, List.length_append, ht, Nat.add_sub_cancel]
  exact List.drop_left' rfl

theorem expandLeaf_idem (bs : List Nat) (k : Nat) (c : Bool) (l : Leaf) (h : k ≤ l.shape.length) :
    expandLeaf bs k c (expandLeaf bs k c l) = expandLeaf bs k c l := by
  have hl : (lastN k l.shape).length = k := lastN_length k l.shape h
  simp only [expandLeaf, lastN_append k bs _ hl, ne_eq, not_true_eq_false, decide_false, Bool.and_false, Bool.or_false]

theorem expandLeaf_shape2 (bs : List Nat) (c : Bool) (l : Leaf) (h : 2 ≤ l.shape.length) :
    dropLastN 2 (expandLeaf bs 2 c l).shape = bs ∧ ¬ (expandLeaf bs 2 c l).shape.length < 2 := by
  have hl : (lastN 2 l.shape).length = 2 := lastN_length 2 l.shape h
  refine ⟨dropLastN_append 2 bs _ hl, ?_⟩
  simp only [expandLeaf, List.length_append, hl]; omega

theorem any_expandKw (bs : List Nat) : ∀ (kw : List (String × Op)),
    (expandKw bs kw).any badNnd = kw.any badNnd
  | [] => rfl
  | (k, .leaf l) :: r => congrArg (badNnd (k, .leaf l) || ·) (any_expandKw bs r)
  | (k, .val v) :: r => congrArg (badNnd (k, .val v) || ·) (any_expandKw bs r)
  | (k, .node c a dn d nkw hid) :: r => congrArg (badNnd (k, .node c a dn d nkw hid) || ·) (any_expandKw bs r)

theorem kwLeafShapes_expandKw (bs : List Nat) : ∀ (kw : List (String × Op)), kwDims2 kw = true →
    kwLeafShapes (expandKw bs kw) = (kwLeafShapes kw).map (fun _ => bs)
  | [], _ => rfl
  | (k, .leaf l) :: r, h => by
    simp only [kwDims2, Bool.and_eq_true, decide_eq_true_eq] at h
    simp only [expandKw, kwLeafShapes, List.map_cons, kwLeafShapes_expandKw bs r h.2,
      (expandLeaf_shape2 bs false l h.1).1]
  | (_, .val _) :: r, h => kwLeafShapes_expandKw bs r h
  | (_, .node ..) :: r, h => kwLeafShapes_expandKw bs r h

theorem expandKw_idem (bs : List Nat) : ∀ (kw : List (String × Op)), kwDims2 kw = true →
    expandKw bs (expandKw bs kw) = expandKw bs kw
  | [], _ => rfl
  | (k, .leaf l) :: r, h => by
    simp only [kwDims2, Bool.and_eq_true, decide_eq_true_eq] at h
    simp only [expandKw, expandKw_idem bs r h.2, expandLeaf_idem bs 2 false l h.1]
  | (k, .val v) :: r, h => congrArg ((k, Op.val v) :: ·) (expandKw_idem bs r h)
  | (k, .node c a dn d nkw hid) :: r, h => congrArg ((k, Op.node c a dn d nkw hid) :: ·) (expandKw_idem bs r h)

theorem bcastAll_two_const (bs : List Nat) (L : List (List Nat)) :
    bcastAll (bs :: bs :: L.map (fun _ => bs)) = some bs := by
  rw [bcastAll_cons, bcastAll_const bs L]
  exact bcast_self bs

/-- **`KernelLinearOperator.__init__` broadcasting is idempotent**: re-applying it to the expanded `x1`, `x2` and tensor
    parameters changes nothing (no second copy of `x1` / `x2`, same shapes). -/
theorem preKernel_idem (pos : List Op) (kw : List (String × Op)) (pos' : List Op) (kw' : List (String × Op))
    (hk : kwDims2 kw = true) (h : preKernel pos kw = some (pos', kw')) : preKernel pos' kw' = some (pos', kw') := by
  have h0 := h
  unfold preKernel at h
  cases hany : kw.any badNnd
  · rw [hany, if_neg Bool.false_ne_true] at h
    split at h
    · rename_i x1 x2 rest
      by_cases hlen : (x1.shape.length < 2 || x2.shape.length < 2) = true
      · rw [if_pos hlen] at h; cases h
      rw [if_neg hlen] at h
      simp only [Bool.or_eq_true, decide_eq_true_eq, not_or, Nat.not_lt] at hlen
      cases hb : bcastAll (dropLastN 2 x1.shape :: dropLastN 2 x2.shape :: kwLeafShapes kw) with
      | none => simp only [hb] at h; cases h
      | some bs =>
        simp only [hb] at h
        cases hE : bs.isEmpty
        · -- expanded once: every batch shape is `bs` now, and a second expansion changes neither shapes nor storage
          rw [hE, if_neg Bool.false_ne_true] at h; cases h
          obtain ⟨s1, l1⟩ := expandLeaf_shape2 bs true x1 hlen.1
          obtain ⟨s2, l2⟩ := expandLeaf_shape2 bs true x2 hlen.2
          unfold preKernel
          simp only [any_expandKw, hany, Bool.false_eq_true, if_false, Bool.or_eq_true, decide_eq_true_eq, l1, l2,
            or_self, s1, s2, kwLeafShapes_expandKw bs kw hk, bcastAll_two_const, hE,
            expandLeaf_idem bs 2 true x1 hlen.1, expandLeaf_idem bs 2 true x2 hlen.2, expandKw_idem bs kw hk]
        · rw [hE, if_pos rfl] at h; cases h
          exact h0
    · cases h
  · rw [hany, if_pos rfl] at h; cases h

theorem preNormK_idem (cls : String) (pos : List Op) (kw : List (String × Op)) (pos' : List Op)
    (kw' : List (String × Op)) (hk : cls = "KernelLinearOperator" → kwDims2 kw = true)
    (h : preNormK cls pos kw = some (pos', kw')) :
    preNormK cls pos' kw' = some (pos', kw') := by
  unfold preNormK at h ⊢
  by_cases hc : cls = "KernelLinearOperator"
  · simp only [hc, if_true] at h ⊢
    exact preKernel_idem pos kw pos' kw' (hk hc) h
  · simp only [hc, if_false] at h ⊢
    exact preNormB_idem cls pos kw pos' kw' h

end LinOp.C14
