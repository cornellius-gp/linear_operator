import LinOp.C14.Model
/-!
The two facts about a node as its constructor leaves it that every tree theorem of C14 rests on (core Lean only): the
constructor applied to what it stored returns the node (`construct_fix`), and being such a node depends on the arguments'
skeletons only (`nodeOK_congr`).  The rebuild (`ProofsRebuild`) and the conversions (`ProofsConv`) are inductions over the tree
whose node step is these two; the shape pre-passes need only the first.
-/
namespace LinOp.C14

/-! ### what the constructors read of an argument is a feature of its skeleton -/

def Skel.cls : Skel → String
  | .node c _ _ _ _ _ => c
  | .leaf => "#tensor"
  | .val _ => "#value"

theorem cls_skel (x : Op) : (skel x).cls = x.cls := by cases x <;> rfl

def Skel.subTri : Skel → Bool
  | .node _ [b] _ _ _ _ => triangularLike.contains b.cls
  | _ => false

theorem subTri_skel : ∀ (x : Op), (skel x).subTri = subTriOp x
  | .leaf _ => rfl
  | .val _ => rfl
  | .node _ [] _ _ _ _ => rfl
  | .node _ [b] _ _ _ _ => congrArg triangularLike.contains (cls_skel b)
  | .node _ (_ :: _ :: _) _ _ _ _ => rfl

def Skel.isDiff : Skel → Bool
  | .val _ => false
  | _ => true

theorem isDiff_skel (x : Op) : (skel x).isDiff = x.isDiff := by cases x <;> rfl

variable {cfg : Cfg} {cls : String} {a a' : List Op} {dn : List String} {d d' : List Op} {nkw hid : KV}

/-! ### insertion sort on an already sorted key list is the identity -/

theorem isort_sorted {β : Type} : ∀ (l : List (String × β)), sortedKeys (l.map (·.1)) = true → isort l = l
  | [], _ => rfl
  | [x], _ => rfl
  | x :: y :: r, h => by
    simp only [List.map_cons, sortedKeys, Bool.and_eq_true, decide_eq_true_eq] at h
    have ih := isort_sorted (y :: r) (by simpa [List.map_cons] using h.2)
    show insertKV x (isort (y :: r)) = _
    rw [ih]
    simp [insertKV, h.1]

/-! ### `__init__` on stored keyword arguments -/

theorem asVal_of_isDiff (k : String) (x : Op) (h : x.isDiff = true) : asVal (k, x) = none := by
  cases x <;> simp_all [asVal, Op.isDiff]

theorem filter_zip_isDiff : ∀ (dn : List String) (dv : List Op), dv.all (·.isDiff) = true →
    (dn.zip dv).filter (fun p => p.2.isDiff) = dn.zip dv ∧ (dn.zip dv).filterMap asVal = []
  | [], _, _ => by simp
  | _ :: _, [], _ => by simp
  | n :: ns, v :: vs, h => by
    simp only [List.all_cons, Bool.and_eq_true] at h
    have ih := filter_zip_isDiff ns vs h.2
    simp [List.zip_cons_cons, h.1, ih.1, asVal_of_isDiff n v h.1, ih.2]

theorem filter_vals (nkw : KV) :
    (nkw.map (fun p => (p.1, Op.val p.2))).filter (fun p => p.2.isDiff) = [] ∧
    (nkw.map (fun p => (p.1, Op.val p.2))).filterMap asVal = nkw := by
  refine ⟨?_, ?_⟩
  · apply List.filter_eq_nil_iff.mpr
    intro q hq
    rcases List.mem_map.mp hq with ⟨w, _, rfl⟩
    simp [Op.isDiff]
  · induction nkw with
    | nil => rfl
    | cons p r ih => simp only [List.map_cons, List.filterMap_cons, asVal, ih]

theorem init_fix (cls : String) (args : List Op) {dv : List Op} (hid : KV)
    (hlen : dn.length = dv.length) (hd : dv.all (·.isDiff) = true)
    (hs1 : sortedKeys dn = true) (hs2 : sortedKeys (nkw.map (·.1)) = true) :
    init cls args (kwOf dn dv nkw) hid = .node cls args dn dv nkw hid := by
  have h1 := filter_zip_isDiff dn dv hd
  have h2 := filter_vals nkw
  have hf : (dn.zip dv).map (·.1) = dn := List.map_fst_zip (by omega)
  have hsn : (dn.zip dv).map (·.2) = dv := List.map_snd_zip (by omega)
  unfold init kwOf
  simp only [List.filter_append, List.filterMap_append, h1.1, h1.2, h2.1, h2.2, List.append_nil, List.nil_append]
  rw [isort_sorted (dn.zip dv) (by rw [hf]; exact hs1), isort_sorted nkw hs2, hf, hsn]

/-! ### keys of the stored keyword list -/

theorem any_eq_contains (k : String) : ∀ (l : List String), l.any (fun n => decide (n = k)) = l.contains k
  | [] => rfl
  | n :: l => by
    rw [List.any_cons, List.contains_cons, any_eq_contains k l, Bool.beq_comm (a := k)]; rfl

theorem hasKey_zip (dn : List String) (dv : List Op) (h : dn.length = dv.length) (k : String) :
    hasKey (dn.zip dv) k = dn.contains k := by
  have := List.any_map (f := Prod.fst) (l := dn.zip dv) (p := fun n => decide (n = k))
  rw [List.map_fst_zip (Nat.le_of_eq h), any_eq_contains] at this
  exact this.symm

theorem hasKey_kwOf (dn : List String) (dv : List Op) (nkw : KV) (h : dn.length = dv.length) (k : String) :
    hasKey (kwOf dn dv nkw) k = (dn.contains k || hasKey nkw k) := by
  rw [← hasKey_zip dn dv h, hasKey, kwOf, List.any_append, List.any_map]
  rfl

theorem find_none_of_not_hasKey {β : Type} (l : List (String × β)) (k : String) (h : hasKey l k = false) :
    l.find? (·.1 = k) = none := by
  apply List.find?_eq_none.mpr
  intro x hx
  simp only [hasKey, List.any_eq_false] at h
  exact h x hx

theorem all_congr_mem {α : Type} {p q : α → Bool} : ∀ {l : List α}, (∀ a ∈ l, p a = q a) → l.all p = l.all q
  | [], _ => rfl
  | x :: xs, h => by
    rw [List.all_cons, List.all_cons, h x (List.mem_cons_self ..), all_congr_mem fun a ha => h a (List.mem_cons_of_mem _ ha)]

/-- A test on the stored keyword list that, on a tensor / operator value, looks at the name only: the differentiable
    keywords contribute through their names, whatever their values. -/
theorem all_kwOf (f : String → Op → Bool) (r : String → Bool) (hf : ∀ n x, x.isDiff = true → f n x = r n)
    (dn : List String) (d : List Op) (nkw : KV) (hlen : dn.length = d.length) (hd : d.all (·.isDiff) = true) :
    (kwOf dn d nkw).all (fun p => f p.1 p.2) = (dn.all r && nkw.all (fun p => f p.1 (.val p.2))) := by
  have hz : (dn.zip d).all (fun p => f p.1 p.2) = ((dn.zip d).map (·.1)).all r := by
    rw [List.all_map]
    exact all_congr_mem fun p hp => hf p.1 p.2 (List.all_eq_true.mp hd _ (List.of_mem_zip hp).2)
  rw [kwOf, List.all_append, hz, List.map_fst_zip (Nat.le_of_eq hlen), List.all_map]
  rfl

/-- no tensor / operator valued keyword at all ⇔ no differentiable keyword names -/
theorem allNotDiff_kwOf (dn : List String) (d : List Op) (nkw : KV)
    (hlen : dn.length = d.length) (hd : d.all (·.isDiff) = true) :
    (kwOf dn d nkw).all (fun p => !p.2.isDiff) = dn.isEmpty := by
  rw [all_kwOf (fun _ x => !x.isDiff) (fun _ => false) (fun _ x h => by rw [h]; rfl) dn d nkw hlen hd,
    show nkw.all (fun p => !(Op.val p.2).isDiff) = true from List.all_eq_true.mpr fun _ _ => rfl, Bool.and_true]
  cases dn <;> rfl

/-! ### the class specific normalisation is the identity on its normal form -/

theorem dense_of_not_tensor (x : Op) (h : (x.cls != "#tensor") = true) : dense x = x := by
  cases x <;> simp_all [dense, Op.cls]

theorem map_dense_fix : ∀ (a : List Op), a.all (fun x => x.cls != "#tensor") = true → a.map dense = a
  | [], _ => rfl
  | x :: xs, h => by
    simp only [List.all_cons, Bool.and_eq_true] at h
    simp [dense_of_not_tensor x h.1, map_dense_fix xs h.2]

theorem map_replace_fix (kw : List (String × Op)) (key : String) (v : Op)
    (h : ∀ p ∈ kw, p.1 = key → p.2 = v) :
    kw.map (fun p => if p.1 = key then (p.1, v) else p) = kw := by
  induction kw with
  | nil => rfl
  | cons p r ih =>
    have hr := ih (fun q hq => h q (List.mem_cons_of_mem _ hq))
    simp only [List.map_cons, hr]
    by_cases hk : p.1 = key
    · have hv := h p (List.mem_cons_self ..) hk
      rw [if_pos hk, ← hv]
    · rw [if_neg hk]

theorem normalise_fix {kw : List (String × Op)} (h : normalForm cls a kw = true) : normalise cls a kw = some (a, kw) := by
  unfold normalForm at h
  unfold normalise
  by_cases h1 : wrapsAll.contains cls = true
  · rw [if_pos h1] at h ⊢
    rw [map_dense_fix a h]
  rw [if_neg h1] at h ⊢
  by_cases h2 : cls = "InterpolatedLinearOperator"
  · rw [if_pos h2] at h ⊢
    cases a with
    | nil => simp at h
    | cons b rest => simp only [dense_of_not_tensor b h]
  rw [if_neg h2] at h ⊢
  by_cases h3 : cls = "TriangularLinearOperator"
  · rw [if_pos h3] at h ⊢
    cases a with
    | nil => simp at h
    | cons x rest =>
      cases x with
      | leaf l => simp [Op.cls] at h
      | val v => simp [Op.cls] at h
      | node c aa dn' d' nkw' hid' =>
        simp only [Op.cls, Bool.and_eq_true, Bool.or_eq_true, bne_iff_ne, ne_eq] at h
        obtain ⟨⟨⟨_, _⟩, hc⟩, hbr⟩ := h
        simp only [hc, if_false]
        by_cases hb : c = "BatchRepeatLinearOperator"
        · simp only [hb, if_true]
          rcases hbr with hbr | hbr
          · exact absurd hb hbr
          · cases aa with
            | nil => simp [subTriOp] at hbr
            | cons b t =>
              cases t with
              | nil =>
                have hb' : triangularLike.contains b.cls = true := by simpa [subTriOp] using hbr
                have hb'' : b.cls ∈ triangularLike := by simpa using hb'
                simp [hb'']
              | cons _ _ => simp [subTriOp] at hbr
        · simp only [hb, if_false]
  rw [if_neg h3] at h ⊢
  by_cases h4 : cls = "CatLinearOperator"
  · rw [if_pos h4] at h ⊢
    cases a with
    | nil => simp at h
    | cons f rest =>
      simp only at h ⊢
      cases hl : lookupInt kw "dim" with
      | none => rw [hl] at h; simp at h
      | some dd =>
        rw [hl] at h
        simp only [decide_eq_true_eq] at h
        simp only [if_pos h]
  rw [if_neg h4] at h ⊢
  by_cases h5 : cls = "KernelLinearOperator"
  · rw [if_pos h5] at h ⊢
    simp only [Bool.and_eq_true] at h
    rw [if_pos h.1, if_pos h.2]
  rw [if_neg h5]

/-! ### a stored node is a fixed point of its constructor -/

/-- `nodeOK` spelled out: the layout of the class, and what it demands of the stored arguments -/
theorem nodeOK_iff :
    nodeOK cfg cls a dn d nkw hid = true ↔
      ∃ L, cfg.layout cls = some L ∧ normalForm cls a (kwOf dn d nkw) = true ∧
        (L.vararg = true ∨ a.length ≤ L.npos) ∧ dn.length = d.length ∧ d.all (·.isDiff) = true ∧
        (sortedKeys dn = true ∧ sortedKeys (nkw.map (·.1)) = true ∧
          dn.all (fun n => L.isStoredKw n) = true ∧ nkw.all (fun p => L.isStoredKw p.1) = true ∧
          L.kwStored.all (fun p => dn.contains p.1 || hasKey nkw p.1) = true ∧
          L.hidden.all (fun p => !dn.contains p.1 && !hasKey nkw p.1) = true ∧ hid = L.hidden) := by
  unfold nodeOK
  cases cfg.layout cls with
  | none => simp
  | some L =>
    simp only [Bool.and_eq_true, Bool.or_eq_true, decide_eq_true_eq, Option.some.injEq, exists_eq_left', and_assoc]

theorem nodeOK_length (h : nodeOK cfg cls a dn d nkw hid = true) : dn.length = d.length := by
  obtain ⟨_, _, _, _, hlen, _⟩ := nodeOK_iff.mp h
  exact hlen

theorem map_eq_self {α : Type} {f : α → α} {l : List α} (h : ∀ x ∈ l, f x = x) : l.map f = l :=
  (List.map_congr_left h).trans (List.map_id l)

theorem construct_fix (h : nodeOK cfg cls a dn d nkw hid = true) :
    construct cfg cls a (kwOf dn d nkw) = some (.node cls a dn d nkw hid) := by
  obtain ⟨L, hL, hnf, hpos, hlen, hdiff, hs1, hs2, hdn, hnk, hall, hhid, rfl⟩ := nodeOK_iff.mp h
  -- every positional argument is stored, none is left over to be bound by name
  have hstored : (if L.vararg = true then a else a.take L.npos) = a := by
    split
    · rfl
    · exact List.take_of_length_le (hpos.resolve_left ‹_›)
  have hextra : (if L.vararg = true then ([] : List Op) else a.drop L.npos) = [] := by
    split
    · rfl
    · exact List.drop_of_length_le (hpos.resolve_left ‹_›)
  -- every keyword is a stored one, every stored one is present, no hidden one is
  have hkey : ∀ p ∈ kwOf dn d nkw, L.isStoredKw p.1 = true := List.all_eq_true.mp <| by
    rw [all_kwOf (fun n _ => L.isStoredKw n) L.isStoredKw (fun _ _ _ => rfl) dn d nkw hlen hdiff, hdn, hnk]
    rfl
  have hacc : (kwOf dn d nkw).all (fun p => L.accepts p.1) = true :=
    List.all_eq_true.mpr fun p hp => by simp only [Layout.accepts, hkey p hp, Bool.true_or]
  have hpresent : ∀ p ∈ L.kwStored, hasKey (kwOf dn d nkw) p.1 = true := by
    intro p hp
    rw [hasKey_kwOf dn d nkw hlen]
    exact List.all_eq_true.mp hall p hp
  have hreq : L.kwStored.any (fun p => p.2.isNone && !hasKey (kwOf dn d nkw) p.1) = false :=
    List.any_eq_false.mpr fun p hp => by simp only [hpresent p hp, Bool.not_true, Bool.and_false, Bool.false_eq_true,
      not_false_eq_true]
  have hmiss : L.kwStored.filterMap (missingDefault (kwOf dn d nkw)) = [] := by
    apply List.filterMap_eq_nil_iff.mpr
    rintro ⟨n, _ | v⟩ hp
    · rfl
    · simp only [missingDefault, hpresent (n, some v) hp, if_true]
  have hhidden : L.hidden.map (hiddenValue (kwOf dn d nkw)) = L.hidden := by
    apply map_eq_self
    intro p hp
    have hk : hasKey (kwOf dn d nkw) p.1 = false := by
      rw [hasKey_kwOf dn d nkw hlen]
      simpa using List.all_eq_true.mp hhid p hp
    simp only [hiddenValue, find_none_of_not_hasKey _ _ hk]
  unfold construct
  simp only [hL, normalise_fix hnf, hstored, hextra, List.zip_nil_right, List.nil_append, List.length_nil,
    Nat.not_lt_zero, gt_iff_lt, if_false, hacc, hreq, List.filter_eq_self.mpr hkey, hmiss, hhidden, List.append_nil,
    Bool.not_true, Bool.false_eq_true]
  rw [init_fix cls a L.hidden hlen hdiff hs1 hs2]

theorem normal_node (h : normal cfg (.node cls a dn d nkw hid) = true) :
    nodeOK cfg cls a dn d nkw hid = true ∧ normalL cfg a = true ∧ normalL cfg d = true := by
  simpa only [normal, Bool.and_eq_true, and_assoc] using h

theorem normalL_cons {x : Op} {xs : List Op} (h : normalL cfg (x :: xs) = true) :
    normal cfg x = true ∧ normalL cfg xs = true := by
  simpa only [normalL, Bool.and_eq_true] using h

/-! ### the node predicate depends only on the skeleton of the arguments -/

theorem skelL_eq_map : ∀ (xs : List Op), skelL xs = xs.map skel
  | [] => rfl
  | x :: xs => congrArg (skel x :: ·) (skelL_eq_map xs)

theorem skelL_length (xs : List Op) : (skelL xs).length = xs.length := by rw [skelL_eq_map, List.length_map]

/-- a test of skeletons gives the same verdict on argument lists with the same skeletons -/
theorem all_skel_congr (F : Skel → Bool) {a a' : List Op} (h : skelL a = skelL a') :
    a.all (fun x => F (skel x)) = a'.all (fun x => F (skel x)) := by
  have e : ∀ zs : List Op, zs.all (fun x => F (skel x)) = (skelL zs).all F := fun zs => by
    rw [skelL_eq_map, List.all_map]; rfl
  rw [e, e, h]

theorem all_isDiff_skel (xs ys : List Op) (h : skelL xs = skelL ys) :
    xs.all (·.isDiff) = ys.all (·.isDiff) := by
  simp only [← isDiff_skel]
  exact all_skel_congr Skel.isDiff h

theorem lookupInt_kwOf (dn : List String) (d : List Op) (nkw : KV) (k : String)
    (hlen : dn.length = d.length) (hd : d.all (·.isDiff) = true) :
    lookupInt (kwOf dn d nkw) k =
      if dn.contains k then none else lookupInt (nkw.map (fun p => (p.1, Op.val p.2))) k := by
  rw [← hasKey_zip dn d hlen, lookupInt, kwOf, List.find?_append]
  cases hf : (dn.zip d).find? (·.1 = k) with
  | none =>
    rw [if_neg, Option.none_or]; rfl
    rw [hasKey, List.any_eq_true]
    rintro ⟨p, hp, hpk⟩
    exact List.find?_eq_none.mp hf p hp hpk
  | some q =>
    -- the first keyword named `k` is tensor / operator valued, not an integer
    have hq := List.mem_of_find?_eq_some hf
    rw [if_pos (show hasKey (dn.zip d) k = true from List.any_eq_true.mpr ⟨q, hq, List.find?_some (p := fun x : String × Op => decide (x.1 = k)) hf⟩), Option.some_or]
    obtain ⟨qk, qv⟩ := q
    have hdq := List.all_eq_true.mp hd _ (List.of_mem_zip hq).2
    cases qv with
    | val v => cases hdq
    | _ => rfl

theorem isDictVal_diff : ∀ (x : Op), x.isDiff = true → isDictVal x = false
  | .leaf _, _ => rfl
  | .node .., _ => rfl
  | .val _, h => nomatch h

theorem isDtVal_diff : ∀ (x : Op), x.isDiff = true → isDtVal x = false
  | .leaf _, _ => rfl
  | .node .., _ => rfl
  | .val _, h => nomatch h

theorem normalForm_congr (cls : String) (nkw : KV) (ha : skelL a = skelL a') (hlen : dn.length = d.length) (hlen' : dn.length = d'.length)
    (hd : d.all (·.isDiff) = true) (hd' : d'.all (·.isDiff) = true) :
    normalForm cls a (kwOf dn d nkw) = normalForm cls a' (kwOf dn d' nkw) := by
  -- what `normalForm` reads of the keyword list does not depend on the tensor / operator values
  have hnnd := all_kwOf (fun n x => n != "num_nonbatch_dimensions" || isDictVal x) (· != "num_nonbatch_dimensions")
    (fun n x h => by rw [isDictVal_diff x h, Bool.or_false]) dn
  have hdt := all_kwOf (fun n x => n != "dtype" || isDtVal x) (· != "dtype")
    (fun n x h => by rw [isDtVal_diff x h, Bool.or_false]) dn
  have hany : ∀ dd : List Op, dn.length = dd.length → (kwOf dn dd nkw).any (·.1 = "num_nonbatch_dimensions") = _ :=
    fun dd hl => hasKey_kwOf dn dd nkw hl _
  unfold normalForm
  rw [lookupInt_kwOf dn d nkw "dim" hlen hd, lookupInt_kwOf dn d' nkw "dim" hlen' hd',
    hany d hlen, hany d' hlen',
    hnnd d nkw hlen hd, hnnd d' nkw hlen' hd', hdt d nkw hlen hd, hdt d' nkw hlen' hd',
    allNotDiff_kwOf dn d nkw hlen hd, allNotDiff_kwOf dn d' nkw hlen' hd']
  -- what it reads of the positional arguments are features of their skeletons
  simp only [← cls_skel, ← isDiff_skel, ← subTri_skel]
  rw [all_skel_congr (fun s => s.cls != "#tensor") ha, all_skel_congr (fun s => !s.isDiff) ha]
  match a, a', ha with
  | [], [], _ => rfl
  | x :: _, y :: _, ha => simp only [(List.cons.inj ha).1]

theorem nodeOK_congr (ha : skelL a = skelL a') (hd : skelL d = skelL d')
    (h : nodeOK cfg cls a dn d nkw hid = true) : nodeOK cfg cls a' dn d' nkw hid = true := by
  obtain ⟨L, hL, hnf, hpos, hlen, hdiff, hrest⟩ := nodeOK_iff.mp h
  have la : a'.length = a.length := by rw [← skelL_length a', ← ha, skelL_length]
  have ld : d'.length = d.length := by rw [← skelL_length d', ← hd, skelL_length]
  have hdiff' : d'.all (·.isDiff) = true := by rw [← all_isDiff_skel d d' hd]; exact hdiff
  refine nodeOK_iff.mpr ⟨L, hL, ?_, la ▸ hpos, hlen.trans ld.symm, hdiff', hrest⟩
  rw [← normalForm_congr cls nkw ha hlen (hlen.trans ld.symm) hdiff hdiff']
  exact hnf

end LinOp.C14
