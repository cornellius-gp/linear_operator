/-
C16 — helper lemmas about the model of `psd_safe_cholesky`: the loop state after `k` iterations (`iter_*`, `tryLoop_*`), one
member after `k` tries whatever the others do (`memberAfter_*`), and every exit of the core function in closed form
(`core_first`, `core_nan`, `core_succ`, `core_fail`; `core_exit` says there is no other).
-/
import LinOp.C16.Model
import Mathlib.Algebra.Ring.Defs
import Mathlib.Algebra.Group.Basic
import Mathlib.Data.Nat.Cast.Basic

namespace LinOp.C16

variable {M F α : Type}

/-- The two facts about "add `c` to the diagonal" the loop relies on. -/
structure Lawful [AddGroup α] (ops : Ops M F α) : Prop where
  addDiag_zero : ∀ w, ops.addDiag w 0 = w
  addDiag_add : ∀ w a b, ops.addDiag (ops.addDiag w a) b = ops.addDiag w (a + b)

section loop
variable [Ring α] (ops : Ops M F α) (base : Nat) (jitter : α)

@[simp] theorem iter_zero (s0 : LoopSt M F α) : iter ops base jitter s0 0 = s0 := rfl

theorem iter_succ (s0 : LoopSt M F α) (k : Nat) :
    iter ops base jitter s0 (k + 1) = loopBody ops base jitter k (iter ops base jitter s0 k) := rfl

theorem iter_jprev (s0 : LoopSt M F α) (h0 : s0.jprev = 0) (k : Nat) :
    (iter ops base jitter s0 k).jprev = jprevAt base jitter k := by
  cases k with
  | zero => simpa [jprevAt] using h0
  | succ k => rfl

theorem iter_calls (s0 : LoopSt M F α) (k : Nat) : (iter ops base jitter s0 k).calls = s0.calls + k := by
  induction k with
  | zero => rfl
  | succ k ih => exact congrArg (· + 1) ih

theorem iter_warns (s0 : LoopSt M F α) (k : Nat) :
    (iter ops base jitter s0 k).warns = s0.warns ++ (List.range k).map (jitterAt base jitter) := by
  induction k with
  | zero => simp
  | succ k ih => rw [iter_succ]; simp only [loopBody, ih, List.range_succ, List.map_append, List.map_cons,
      List.map_nil, List.append_assoc]

theorem iter_st (A : List M) (s0 : LoopSt M F α) (h0 : s0.jprev = 0) (hst : s0.st = A.map (initMember ops)) (k : Nat) :
    (iter ops base jitter s0 k).st = A.map fun a => memberAfter ops base jitter a k := by
  induction k with
  | zero => simpa [memberAfter] using hst
  | succ k ih =>
    rw [iter_succ]
    simp only [loopBody, ih, iter_jprev ops base jitter s0 h0 k, List.map_map]
    rfl

/-- Every try up to the budget leaves some `info ≠ 0`: the loop runs out. -/
theorem tryLoop_fail (s0 : LoopSt M F α) (rem i : Nat)
    (h : ∀ j, i ≤ j → j < i + rem → anyInfo (iter ops base jitter s0 (j + 1)).st = true) :
    tryLoop ops base jitter rem i (iter ops base jitter s0 i) = (false, i + rem, iter ops base jitter s0 (i + rem)) := by
  induction rem generalizing i with
  | zero => rfl
  | succ rem ih =>
    rw [tryLoop, ← iter_succ, if_pos (h i (Nat.le_refl _) (Nat.lt_add_of_pos_right rem.succ_pos)),
      ih (i + 1) fun j h1 h2 => h j (Nat.le_of_succ_le h1) (by rwa [Nat.add_right_comm] at h2), Nat.add_right_comm]
    rfl

/-- Try `k` is the first one after which all `info = 0`: the loop returns there. -/
theorem tryLoop_succ (s0 : LoopSt M F α) (rem i k : Nat) (hik : i ≤ k) (hk : k < i + rem)
    (hfail : ∀ j, i ≤ j → j < k → anyInfo (iter ops base jitter s0 (j + 1)).st = true)
    (hok : anyInfo (iter ops base jitter s0 (k + 1)).st = false) :
    tryLoop ops base jitter rem i (iter ops base jitter s0 i) = (true, k, iter ops base jitter s0 (k + 1)) := by
  induction rem generalizing i with
  | zero => exact absurd hk (Nat.not_lt.2 hik)
  | succ rem ih =>
    rw [tryLoop, ← iter_succ]
    rcases Nat.eq_or_lt_of_le hik with rfl | hlt
    · rw [hok]; rfl
    · rw [if_pos (hfail i (Nat.le_refl _) hlt)]
      exact ih (i + 1) hlt (by rwa [Nat.add_right_comm]) fun j h1 h2 => hfail j (Nat.le_of_succ_le h1) h2
end loop

section member
variable [Ring α] (ops : Ops M F α) (base : Nat) (jitter : α)

/-- `L, info` stored for a member are always those of its current matrix. -/
theorem memberAfter_consistent (a : M) (k : Nat) :
    (memberAfter ops base jitter a k).2 = ops.cholEx (memberAfter ops base jitter a k).1 := by
  cases k <;> rfl

theorem tryMember_frozen (hl : Lawful ops) (δ : α) (s : MS M F) (hc : s.2 = ops.cholEx s.1) (h0 : s.2.2 = 0) :
    tryMember ops δ s = s := by
  obtain ⟨w, l, info⟩ := s
  simp only at hc h0
  subst h0
  simp only [tryMember, maskMul, Nat.lt_irrefl, decide_false, Bool.false_eq_true, if_false, hl.addDiag_zero, ← hc]

/-- A member whose `info` is 0 is never touched again. -/
theorem memberAfter_frozen (hl : Lawful ops) (a : M) (k : Nat) (h0 : (memberAfter ops base jitter a k).2.2 = 0) (m : Nat) :
    memberAfter ops base jitter a (k + m) = memberAfter ops base jitter a k := by
  induction m with
  | zero => rfl
  | succ m ih =>
    show tryMember ops _ (memberAfter ops base jitter a (k + m)) = _
    rw [ih]
    exact tryMember_frozen ops hl _ _ (memberAfter_consistent ops base jitter a k) h0

/-- A member that failed the first call and the tries `0 … k-1` carries exactly `jitter·base^k` after try `k`
(the increments telescope). -/
theorem memberAfter_cumulative (hl : Lawful ops) (a : M) (k : Nat) (h0 : 0 < (ops.cholEx a).2)
    (hf : ∀ j, j < k → 0 < (ops.cholEx (ops.addDiag a (jitterAt base jitter j))).2) :
    memberAfter ops base jitter a (k + 1)
      = (ops.addDiag a (jitterAt base jitter k), ops.cholEx (ops.addDiag a (jitterAt base jitter k))) := by
  induction k with
  | zero =>
    simp only [memberAfter, tryMember, initMember, maskMul, h0, decide_true, if_true, jprevAt, sub_zero]
  | succ k ih =>
    have ih' := ih fun j hj => hf j (Nat.lt_succ_of_lt hj)
    show tryMember ops _ (memberAfter ops base jitter a (k + 1)) = _
    rw [ih']
    have hk := hf k (Nat.lt_succ_self k)
    simp only [tryMember, maskMul, hk, decide_true, if_true, jprevAt, hl.addDiag_add, add_sub_cancel]

/-- A member that passed the first call is returned as it is. -/
theorem memberAfter_pd (hl : Lawful ops) (a : M) (h0 : (ops.cholEx a).2 = 0) (m : Nat) :
    memberAfter ops base jitter a m = initMember ops a := by
  have := memberAfter_frozen ops base jitter hl a 0 h0 m
  rwa [Nat.zero_add] at this

/-- A member that first succeeds at try `j` keeps `jitter·base^j` for the rest of the loop. -/
theorem memberAfter_first_success (hl : Lawful ops) (a : M) (j : Nat) (h0 : 0 < (ops.cholEx a).2)
    (hf : ∀ i, i < j → 0 < (ops.cholEx (ops.addDiag a (jitterAt base jitter i))).2)
    (hs : (ops.cholEx (ops.addDiag a (jitterAt base jitter j))).2 = 0) (m : Nat) (hm : j + 1 ≤ m) :
    memberAfter ops base jitter a m
      = (ops.addDiag a (jitterAt base jitter j), ops.cholEx (ops.addDiag a (jitterAt base jitter j))) := by
  have hc := memberAfter_cumulative ops base jitter hl a j h0 hf
  obtain ⟨d, rfl⟩ := Nat.exists_eq_add_of_le hm
  rw [memberAfter_frozen ops base jitter hl a (j + 1) (by rw [hc]; exact hs) d, hc]

/-- Below `n`, either `P` holds throughout or there is a first index at which it fails. -/
theorem all_or_first_not (P : Nat → Prop) [DecidablePred P] (n : Nat) :
    (∀ j, j < n → P j) ∨ ∃ k, k < n ∧ (∀ j, j < k → P j) ∧ ¬ P k := by
  induction n with
  | zero => exact .inl fun j hj => absurd hj (Nat.not_lt_zero j)
  | succ n ih =>
    rcases ih with h | ⟨k, hk, h⟩
    · by_cases hn : P n
      · exact .inl fun j hj => (Nat.lt_succ_iff_lt_or_eq.1 hj).elim (h j) (· ▸ hn)
      · exact .inr ⟨n, Nat.lt_succ_self n, h, hn⟩
    · exact .inr ⟨k, Nat.lt_succ_of_lt hk, h⟩

/-- Complete description of a member whose `info` is 0 after `t` runs of the loop body. -/
theorem memberAfter_final (hl : Lawful ops) (a : M) (t : Nat) (hz : (memberAfter ops base jitter a t).2.2 = 0) :
    ((ops.cholEx a).2 = 0 ∧ memberAfter ops base jitter a t = initMember ops a) ∨
    (0 < (ops.cholEx a).2 ∧ ∃ j, j < t ∧ (∀ i, i < j → 0 < (ops.cholEx (ops.addDiag a (jitterAt base jitter i))).2)
      ∧ (ops.cholEx (ops.addDiag a (jitterAt base jitter j))).2 = 0
      ∧ memberAfter ops base jitter a t
          = (ops.addDiag a (jitterAt base jitter j), ops.cholEx (ops.addDiag a (jitterAt base jitter j)))) := by
  by_cases h0 : (ops.cholEx a).2 = 0
  · exact .inl ⟨h0, memberAfter_pd ops base jitter hl a h0 t⟩
  · have h0' := Nat.pos_of_ne_zero h0
    refine .inr ⟨h0', ?_⟩
    rcases all_or_first_not (fun i => 0 < (ops.cholEx (ops.addDiag a (jitterAt base jitter i))).2) t with h | ⟨j, hj, h1, h2⟩
    · -- every try failed, so the member still fails: against `hz`
      cases t with
      | zero => exact absurd hz h0
      | succ k =>
        rw [memberAfter_cumulative ops base jitter hl a k h0' fun j hj => h j (Nat.lt_succ_of_lt hj)] at hz
        exact absurd hz (Nat.ne_of_gt (h k (Nat.lt_succ_self k)))
    · have h2' := Nat.eq_zero_of_not_pos h2
      exact ⟨j, hj, h1, h2', memberAfter_first_success ops base jitter hl a j h0' h1 h2' t hj⟩

/-- A member that still has `info > 0` after try `k` failed the first call and every try so far (had it succeeded once, it
would have been frozen with `info = 0`). -/
theorem memberAfter_fail_form (hl : Lawful ops) (a : M) (k : Nat) (hz : 0 < (memberAfter ops base jitter a (k + 1)).2.2) :
    0 < (ops.cholEx a).2 ∧ ∀ i, i ≤ k → 0 < (ops.cholEx (ops.addDiag a (jitterAt base jitter i))).2 := by
  have h0 : 0 < (ops.cholEx a).2 := by
    refine Nat.pos_of_ne_zero fun h0 => ?_
    rw [memberAfter_pd ops base jitter hl a h0] at hz
    exact absurd h0 (Nat.ne_of_gt hz)
  refine ⟨h0, fun i hi => ?_⟩
  rcases all_or_first_not (fun i => 0 < (ops.cholEx (ops.addDiag a (jitterAt base jitter i))).2) (k + 1) with h | ⟨j, hj, h1, h2⟩
  · exact h i (Nat.lt_succ_of_le hi)
  · have h2' := Nat.eq_zero_of_not_pos h2
    rw [memberAfter_first_success ops base jitter hl a j h0 h1 h2' (k + 1) hj] at hz
    exact absurd h2' (Nat.ne_of_gt hz)

theorem jitterAt_eq (j : Nat) : jitterAt base jitter j = jitter * (base : α) ^ j := by
  simp only [jitterAt, Nat.cast_pow]

end member

section anyinfo

theorem anyInfo_false_iff (st : List (MS M F)) : anyInfo st = false ↔ ∀ s ∈ st, s.2.2 = 0 := by
  simp only [anyInfo, List.any_eq_false, bne_iff_ne, ne_eq, Decidable.not_not]

theorem anyInfo_true_iff (st : List (MS M F)) : anyInfo st = true ↔ ∃ s ∈ st, s.2.2 ≠ 0 := by
  simp only [anyInfo, List.any_eq_true, bne_iff_ne, ne_eq]

theorem factors_map (f : M → MS M F) (A : List M) : factors (A.map f) = A.map fun a => (f a).2.1 :=
  List.map_map

theorem members_map (f : M → MS M F) (A : List M) : members (A.map f) = A.map fun a => (f a).1 :=
  List.map_map

theorem members_init (ops : Ops M F α) (A : List M) : members (A.map (initMember ops)) = A :=
  (members_map _ A).trans (List.map_id _)

theorem anyInfo_init_true (ops : Ops M F α) (A : List M) (h : ∃ a ∈ A, (ops.cholEx a).2 ≠ 0) :
    anyInfo (A.map (initMember ops)) = true := by
  obtain ⟨a, ha, h⟩ := h
  exact (anyInfo_true_iff _).2 ⟨initMember ops a, List.mem_map_of_mem ha, h⟩

theorem anyInfo_init_false (ops : Ops M F α) (A : List M) (h : ∀ a ∈ A, (ops.cholEx a).2 = 0) :
    anyInfo (A.map (initMember ops)) = false := by
  rw [anyInfo_false_iff]
  intro s hs
  obtain ⟨a, ha, rfl⟩ := List.mem_map.1 hs
  exact h a ha

end anyinfo

/-- the jitter / number of tries actually used: argument, else the settings value -/
def effJitter (env : Env α) (args : Args α) : α := args.jitter.getD env.settingsJitter
def effMaxTries (env : Env α) (args : Args α) : Nat := args.maxTries.getD env.settingsMaxTries

/-- `L` or `L.mT` -/
def orient (ops : Ops M F α) (upper : Bool) : F → F := if upper then ops.transposeF else id

/-- "after try `k` some member of the batch still has `info ≠ 0`" -/
def batchFailsAfter [Zero α] [Sub α] [Mul α] [NatCast α] (ops : Ops M F α) (base : Nat) (jitter : α) (A : List M) (k : Nat) : Bool :=
  anyInfo (A.map fun a => memberAfter ops base jitter a (k + 1))

section top
variable [Ring α] (ops : Ops M F α) (c : Consts) (env : Env α) (args : Args α) (A : List M)

/-- initial loop state -/
def loopInit (ops : Ops M F α) (A : List M) : LoopSt M F α := { st := A.map (initMember ops), jprev := 0, calls := 1, warns := [] }

@[simp] theorem loopInit_calls : (loopInit ops A).calls = 1 := rfl
@[simp] theorem loopInit_warns : (loopInit ops A).warns = ([] : List α) := rfl

theorem iter_loopInit_st (base : Nat) (jitter : α) (k : Nat) :
    (iter ops base jitter (loopInit ops A) k).st = A.map fun a => memberAfter ops base jitter a k :=
  iter_st ops base jitter A (loopInit ops A) rfl rfl k

/-- The wrapper only re-orients the factors. -/
theorem wrapper_result :
    (psdSafeCholesky ops c env args A).result
      = (psdSafeCholeskyCore ops c env args A).result.map fun ls => ls.map (orient ops args.upper) := by
  unfold psdSafeCholesky
  cases h : (psdSafeCholeskyCore ops c env args A).result with
  | error e => simp [h, Except.map]
  | ok ls =>
    cases args.upper <;> simp [h, Except.map, orient]

/-- The wrapper writes only `result` and `outBuf`: any other observation of the outcome is that of the core. -/
theorem wrapper_frame {β : Type} (f : Outcome M F α → β) (hf : ∀ o r b, f { o with result := r, outBuf := b } = f o) :
    f (psdSafeCholesky ops c env args A) = f (psdSafeCholeskyCore ops c env args A) := by
  unfold psdSafeCholesky
  cases h : (psdSafeCholeskyCore ops c env args A).result with
  | error e => simp only [h]
  | ok ls =>
    simp only [h]
    split
    · exact hf _ _ _
    · rfl

theorem wrapper_calls : (psdSafeCholesky ops c env args A).calls = (psdSafeCholeskyCore ops c env args A).calls :=
  wrapper_frame ops c env args A Outcome.calls fun _ _ _ => rfl

theorem wrapper_warns : (psdSafeCholesky ops c env args A).warns = (psdSafeCholeskyCore ops c env args A).warns :=
  wrapper_frame ops c env args A Outcome.warns fun _ _ _ => rfl

theorem wrapper_work : (psdSafeCholesky ops c env args A).work = (psdSafeCholeskyCore ops c env args A).work :=
  wrapper_frame ops c env args A Outcome.work fun _ _ _ => rfl

theorem wrapper_input : (psdSafeCholesky ops c env args A).input = (psdSafeCholeskyCore ops c env args A).input :=
  wrapper_frame ops c env args A Outcome.input fun _ _ _ => rfl

/-- The wrapper returns iff the core does, with the re-oriented factors. -/
theorem wrapper_ok {ls : List F} (h : (psdSafeCholesky ops c env args A).result = .ok ls) :
    ∃ l0, (psdSafeCholeskyCore ops c env args A).result = .ok l0 ∧ ls = l0.map (orient ops args.upper) := by
  rw [wrapper_result] at h
  cases hr : (psdSafeCholeskyCore ops c env args A).result with
  | error e => rw [hr] at h; cases h
  | ok l0 => rw [hr] at h; cases h; exact ⟨l0, rfl, rfl⟩

/-- The wrapper raises exactly what the core raises. -/
theorem wrapper_error {e : Err} (h : (psdSafeCholesky ops c env args A).result = .error e) :
    (psdSafeCholeskyCore ops c env args A).result = .error e := by
  rw [wrapper_result] at h
  cases hr : (psdSafeCholeskyCore ops c env args A).result with
  | error e' => rw [hr] at h; cases h; rfl
  | ok l0 => rw [hr] at h; cases h

/-! ### The exits of `psdSafeCholeskyCore`, each in closed form -/

/-- Returned at the first exit test. -/
theorem core_first (h : (env.traceMode || !anyInfo (A.map (initMember ops))) = true) :
    psdSafeCholeskyCore ops c env args A =
      { result := .ok (A.map fun a => (ops.cholEx a).1), calls := 1, warns := [], work := A, input := A,
        outBuf := if args.out then some (A.map fun a => (ops.cholEx a).1) else none } := by
  unfold psdSafeCholeskyCore
  simp only [h, if_true, factors_map, initMember]

/-- Raised by the NaN screen. -/
theorem core_nan (ht : env.traceMode = false) (hany : anyInfo (A.map (initMember ops)) = true)
    (hnan : A.any ops.hasNan = true) :
    psdSafeCholeskyCore ops c env args A =
      { result := .error .nanError, calls := 1, warns := [], work := A, input := A,
        outBuf := if args.out then some (A.map fun a => (ops.cholEx a).1) else none } := by
  unfold psdSafeCholeskyCore
  simp only [ht, hany, hnan, Bool.not_true, Bool.or_self, Bool.false_eq_true, if_false, if_true, factors_map, initMember]

/-- The outcome of leaving the function with result `res` after `t` runs of the loop body: `t + 1` calls, the warnings of the
tries `0 … t-1`, every member as `memberAfter … t` describes it. -/
def exitAfter (t : Nat) (res : Except Err (List F)) : Outcome M F α :=
  { result := res, calls := t + 1, warns := (List.range t).map (jitterAt c.base (effJitter env args)),
    work := A.map fun a => (memberAfter ops c.base (effJitter env args) a t).1,
    input := if c.clones then A else A.map fun a => (memberAfter ops c.base (effJitter env args) a t).1,
    outBuf := if args.out then some (A.map fun a => (memberAfter ops c.base (effJitter env args) a t).2.1) else none }

/-- The part of the function after the NaN screen, as a function of the loop result. -/
theorem core_of_loop (ht : env.traceMode = false) (hany : anyInfo (A.map (initMember ops)) = true)
    (hnan : A.any ops.hasNan = false) :
    psdSafeCholeskyCore ops c env args A =
      (let r := tryLoop ops c.base (effJitter env args) (effMaxTries env args) 0 (iter ops c.base (effJitter env args) (loopInit ops A) 0)
       let s := r.2.2
       let work := members s.st
       let input := if c.clones then A else work
       let ob := fun (fs : List F) => if args.out then some fs else none
       if r.1 then
         { result := .ok (factors s.st), calls := s.calls, warns := s.warns, work := work, input := input, outBuf := ob (factors s.st) }
       else
         { result := .error (if r.2.1 = 0 && !c.jitterNewBound then .unboundLocalError else .notPSDError),
           calls := s.calls, warns := s.warns, work := work, input := input, outBuf := ob (factors s.st) }) := by
  unfold psdSafeCholeskyCore
  simp only [ht, hany, hnan, Bool.not_true, Bool.or_self, Bool.false_eq_true, if_false]
  rfl

/-- Try `k` is the first after which the whole batch has `info = 0`: returned from inside the loop there. -/
theorem core_succ (ht : env.traceMode = false) (hany : anyInfo (A.map (initMember ops)) = true)
    (hnan : A.any ops.hasNan = false) {k : Nat} (hk : k < effMaxTries env args)
    (hfail : ∀ j, j < k → batchFailsAfter ops c.base (effJitter env args) A j = true)
    (hok : batchFailsAfter ops c.base (effJitter env args) A k = false) :
    psdSafeCholeskyCore ops c env args A =
      exitAfter ops c env args A (k + 1) (.ok (A.map fun a => (memberAfter ops c.base (effJitter env args) a (k + 1)).2.1)) := by
  rw [core_of_loop ops c env args A ht hany hnan,
    tryLoop_succ ops c.base (effJitter env args) (loopInit ops A) (effMaxTries env args) 0 k (Nat.zero_le _)
      (by rwa [Nat.zero_add]) (fun j _ hj => by rw [iter_loopInit_st]; exact hfail j hj) (by rw [iter_loopInit_st]; exact hok)]
  simp only [exitAfter, if_true, iter_loopInit_st, iter_calls, iter_warns, loopInit_calls, loopInit_warns, List.nil_append,
    factors_map, members_map, Nat.add_comm 1]

/-- Every try leaves some `info ≠ 0`: the loop is exhausted and the final `raise` reached. -/
theorem core_fail (ht : env.traceMode = false) (hany : anyInfo (A.map (initMember ops)) = true)
    (hnan : A.any ops.hasNan = false)
    (hfail : ∀ j, j < effMaxTries env args → batchFailsAfter ops c.base (effJitter env args) A j = true) :
    psdSafeCholeskyCore ops c env args A =
      exitAfter ops c env args A (effMaxTries env args)
        (.error (if effMaxTries env args = 0 ∧ c.jitterNewBound = false then .unboundLocalError else .notPSDError)) := by
  rw [core_of_loop ops c env args A ht hany hnan,
    tryLoop_fail ops c.base (effJitter env args) (loopInit ops A) (effMaxTries env args) 0
      (fun j _ hj => by rw [iter_loopInit_st]; exact hfail j (by rwa [Nat.zero_add] at hj))]
  simp only [exitAfter, Bool.false_eq_true, if_false, Nat.zero_add, iter_loopInit_st, iter_calls, iter_warns, loopInit_calls,
    loopInit_warns, List.nil_append, factors_map, members_map, Nat.add_comm 1, Bool.and_eq_true, decide_eq_true_eq,
    Bool.not_eq_true']

theorem exitAfter_zero (res : Except Err (List F)) :
    exitAfter ops c env args A 0 res =
      { result := res, calls := 1, warns := [], work := A, input := A,
        outBuf := if args.out then some (A.map fun a => (ops.cholEx a).1) else none } := by
  simp only [exitAfter, memberAfter, initMember, List.map_id', ite_self]
  rfl

/-- **Every exit of the core has the form `exitAfter t res`**: `t ≤ max_tries`; a returned list is the list of factors stored
after `t` tries, and (outside trace mode) no member has `info ≠ 0` then; an exception other than `NanError` means that the loop
was exhausted and every try left some `info ≠ 0`. -/
theorem core_exit :
    ∃ t res, psdSafeCholeskyCore ops c env args A = exitAfter ops c env args A t res ∧ t ≤ effMaxTries env args ∧
      (∀ ls, res = .ok ls → ls = A.map (fun a => (memberAfter ops c.base (effJitter env args) a t).2.1) ∧
        (env.traceMode = false → anyInfo (A.map fun a => memberAfter ops c.base (effJitter env args) a t) = false)) ∧
      (∀ e, res = .error e → e ≠ .nanError →
        t = effMaxTries env args ∧ ∀ j, j < t → batchFailsAfter ops c.base (effJitter env args) A j = true) := by
  cases h : env.traceMode || !anyInfo (A.map (initMember ops)) with
  | true =>
    refine ⟨0, _, (core_first ops c env args A h).trans (exitAfter_zero ops c env args A _).symm, Nat.zero_le _, fun ls hls => ?_, nofun⟩
    cases hls
    refine ⟨rfl, fun ht => ?_⟩
    show anyInfo (A.map (initMember ops)) = false
    simpa [ht] using h
  | false =>
    obtain ⟨ht, hany⟩ : env.traceMode = false ∧ anyInfo (A.map (initMember ops)) = true := by simpa using h
    cases hnan : A.any ops.hasNan with
    | true =>
      exact ⟨0, _, (core_nan ops c env args A ht hany hnan).trans (exitAfter_zero ops c env args A _).symm, Nat.zero_le _, nofun,
        fun e he hne => absurd (Except.error.inj he).symm hne⟩
    | false =>
      rcases all_or_first_not (fun j => batchFailsAfter ops c.base (effJitter env args) A j = true) (effMaxTries env args) with
        hall | ⟨k, hk, hfail, hok⟩
      · exact ⟨_, _, core_fail ops c env args A ht hany hnan hall, Nat.le_refl _, nofun, fun e _ _ => ⟨rfl, hall⟩⟩
      · rw [Bool.not_eq_true] at hok
        refine ⟨_, _, core_succ ops c env args A ht hany hnan hk hfail hok, hk, fun ls hls => ?_, nofun⟩
        cases hls
        exact ⟨rfl, fun _ => hok⟩

theorem core_outBuf_none (h : args.out = false) : (psdSafeCholeskyCore ops c env args A).outBuf = none := by
  obtain ⟨t, res, e, -⟩ := core_exit ops c env args A
  rw [e]
  exact if_neg (h ▸ Bool.false_ne_true)

end top
end LinOp.C16
