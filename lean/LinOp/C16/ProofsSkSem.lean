/-
C16 — the state semantics of the pinned skeleton (`SkSem.lean`) equals the model (`Model.lean`).  Helper lemmas; the property
theorems are in `Properties/C16.lean`.
-/
import LinOp.C16.Proofs
import LinOp.C16.SkSem

namespace LinOp.C16

variable {M F α : Type} [Zero α] [Sub α] [Mul α] [NatCast α]
variable (ops : Ops M F α) (base : Nat) (env : Env α) (args : Args α) (A : List M)

/-- `expectedCore b`, with and without its `clone` statement, parses to the program it stands for.  One evaluation for the
four skeletons: their entries are the same terms, and the kernel computes the role of each only once. -/
theorem parse_expected : ∀ b : Bool, parseSk (expectedCore b) = some (expectedProg b true) ∧
    parseSk (expectedCoreNoClone b) = some (expectedProg b false) := by
  decide +kernel

theorem runSkeleton_of_parse {sk : List (Nat × String)} {p : List Stmt} (h : parseSk sk = some p) :
    runSkeleton ops base env args A sk = runProg ops base env args A p := by
  rw [runSkeleton, h]

omit [Sub α] [Mul α] [NatCast α] in
/-- the three statements `incr; write; …; chol(clone)` on the member list are `tryMember` -/
theorem write_chol_eq_tryMember (δ : α) (st : List (MS M F)) :
    (List.zipWith (fun (m : MS M F) (d : α) => ((ops.addDiag m.1 d, m.2.1, m.2.2) : MS M F)) st
        (st.map fun m => maskMul (decide (m.2.2 > 0)) δ)).map
      (fun m => ((m.1, (ops.cholEx m.1).1, (ops.cholEx m.1).2) : MS M F)) = st.map (tryMember ops δ) := by
  induction st with
  | nil => rfl
  | cons m st ih =>
    simp only [List.map_cons, List.zipWith_cons_cons, ih]
    rfl

/-- state after one execution of the loop body -/
def afterBody (j : α) (i : Nat) (s : SkSt M F α) : SkSt M F α :=
  { s with i := i, jnew := some (jitterAt base j i),
           diagAdd := s.loop.st.map fun m => maskMul (decide (m.2.2 > 0)) (jitterAt base j i - s.loop.jprev),
           loop := loopBody ops base j i s.loop }

def bodyStmts : List BStmt := [.sched, .incr, .write, .prev, .warn, .cholClone, .retNoinfo]

/-- **One iteration of the skeleton's loop body = `loopBody` of the model**, followed by the model's exit test. -/
theorem body_step (j : α) (i : Nat) (s : SkSt M F α) (hs : s.started = true) (hj : s.jitter = some j) :
    execSeq ops base env A bodyStmts { s with i := i } =
      if anyInfo (loopBody ops base j i s.loop).st then .next (afterBody ops base j i s) else .ret (afterBody ops base j i s) := by
  simp only [bodyStmts, execSeq, execB, hj, hs, Bool.not_true, Bool.false_eq_true, if_false]
  rw [write_chol_eq_tryMember]
  simp only [afterBody, loopBody]
  by_cases hany : anyInfo (List.map (tryMember ops (jitterAt base j i - s.loop.jprev)) s.loop.st) = true
  · simp only [hany, if_true]; simp [hs, hj]
  · simp only [hany, if_false, Bool.false_eq_true]; simp [hs, hj]

/-- **The skeleton's `for` loop = `tryLoop`**: it returns from inside iff `tryLoop` does, in the state `tryLoop` computes; the
aliasing status is unchanged, `jitter_new` is bound afterwards iff it was before or the body ran, and an exhausted loop
leaves the counter at `i + rem`. -/
theorem for_eq_tryLoop (j : α) (rem i : Nat) (s : SkSt M F α) (hs : s.started = true) (hj : s.jitter = some j) :
    ∃ s' : SkSt M F α,
      execFor ops base env A bodyStmts rem i s =
        (if (tryLoop ops base j rem i s.loop).1 then Ctl.ret s' else Ctl.next s') ∧
      s'.loop = (tryLoop ops base j rem i s.loop).2.2 ∧ s'.saved = s.saved ∧ s'.started = true ∧
      s'.jnew.isSome = (s.jnew.isSome || decide (0 < rem)) ∧
      ((tryLoop ops base j rem i s.loop).1 = false → (tryLoop ops base j rem i s.loop).2.1 = i + rem) := by
  induction rem generalizing i s with
  | zero => exact ⟨s, by simp [execFor, tryLoop], rfl, rfl, hs, by simp, fun _ => rfl⟩
  | succ rem ih =>
    unfold execFor tryLoop
    rw [body_step ops base env A j i s hs hj]
    simp only
    by_cases hany : anyInfo (loopBody ops base j i s.loop).st = true
    · rw [if_pos hany, if_pos hany]
      obtain ⟨s', h1, h2, h3, h4, h5, h6⟩ := ih (i + 1) (afterBody ops base j i s) hs hj
      refine ⟨s', h1, h2, h3, h4, ?_, fun h => (h6 h).trans (Nat.succ_add_eq_add_succ i rem)⟩
      rw [h5]; simp [afterBody]
    · rw [if_neg hany, if_neg hany]
      exact ⟨afterBody ops base j i s, by simp, rfl, rfl, hs, by simp [afterBody], nofun⟩


/-- interpreter state when the pinned program reaches its loop -/
def stateAtLoop (b clone : Bool) : SkSt M F α :=
  { loop := { st := A.map (initMember ops), jprev := 0, calls := 1, warns := [] }, started := true,
    saved := if clone then some A else none, nan := false, jitter := some (args.jitter.getD env.settingsJitter),
    maxTries := some (args.maxTries.getD env.settingsMaxTries), jnew := if b then some 0 else none }

theorem pre_exec (b clone : Bool) (ht : env.traceMode = false) (hany : anyInfo (A.map (initMember ops)) = true)
    (hnan : A.any ops.hasNan = false) :
    execTop ops base env A (expectedProg b clone) (initSk args) =
      match execFor ops base env A bodyStmts (args.maxTries.getD env.settingsMaxTries) 0 (stateAtLoop ops env args A b clone) with
      | .next s' => .raise (if s'.jnew.isSome then .notPSDError else .unboundLocalError) s'
      | c => c := by
  cases clone <;>
  simp only [expectedProg, execTop, execB, initSk, stateAtLoop, bodyStmts, SkSt.inputNow, members_init, ht, hany, hnan,
    List.cons_append, List.nil_append, List.append_nil, zero_add, Bool.not_true, Bool.or_self, Bool.false_eq_true, ↓reduceIte,
    Option.isSome_none] <;> rfl

theorem run_expectedProg (b clone : Bool) :
    runProg ops base env args A (expectedProg b clone) =
      some (psdSafeCholeskyCore ops { base := base, clones := clone, jitterNewBound := b } env args A) := by
  by_cases h1 : (env.traceMode || !anyInfo (A.map (initMember ops))) = true
  · simp [runProg, expectedProg, execTop, execB, initSk, h1, psdSafeCholeskyCore, SkSt.outcome, SkSt.inputNow, members_init]
  · by_cases h2 : A.any ops.hasNan = true
    · simp [runProg, expectedProg, execTop, execB, initSk, h1, h2, psdSafeCholeskyCore, SkSt.outcome, SkSt.inputNow, members_init]
    · obtain ⟨ht, hany⟩ : env.traceMode = false ∧ anyInfo (A.map (initMember ops)) = true := by simpa using h1
      unfold runProg
      rw [pre_exec ops base env args A b clone ht hany (by simpa using h2)]
      obtain ⟨s', e1, e2, e3, e4, e5, hc⟩ := for_eq_tryLoop ops base env A (args.jitter.getD env.settingsJitter)
        (args.maxTries.getD env.settingsMaxTries) 0 (stateAtLoop ops env args A b clone) rfl rfl
      rw [e1]
      unfold psdSafeCholeskyCore
      simp only [h1, if_false, h2, Bool.false_eq_true]
      have hl : (stateAtLoop ops env args A b clone).loop = { st := A.map (initMember ops), jprev := 0, calls := 1, warns := [] } := rfl
      rw [hl] at e2 hc ⊢
      generalize args.maxTries.getD env.settingsMaxTries = T at *
      generalize tryLoop ops base (args.jitter.getD env.settingsJitter) T 0
        { st := A.map (initMember ops), jprev := 0, calls := 1, warns := [] } = r at e2 hc ⊢
      obtain ⟨r1, r2, r3⟩ := r
      have hin : s'.inputNow A = if clone then A else members s'.loop.st := by
        cases clone <;> simp [SkSt.inputNow, e3, e4, stateAtLoop]
      cases r1
      · -- the final `raise` formats `jitter_new`: bound iff it was initialised before the loop or the loop ran
        obtain rfl : r2 = 0 + T := hc rfl
        have herr : (if s'.jnew.isSome then Err.notPSDError else .unboundLocalError) =
            if (decide (0 + T = 0) && !b) then .unboundLocalError else .notPSDError := by
          rw [e5]; cases b <;> cases T <;> simp [stateAtLoop]
        simp [SkSt.outcome, hin, e2, e4, herr]
      · simp [SkSt.outcome, hin, e2, e4]

omit [Zero α] [Sub α] [Mul α] [NatCast α] in
/-- running the pinned wrapper skeleton on an outcome `o` of the core call whose `out` buffer exists only if `out=` was passed -/
theorem wrapper_semantics_of_core (o : Outcome M F α) (hob : args.out = false → o.outBuf = none) :
    runWrapperSk ops args expectedWrapper o =
      some (match o.result with
        | .ok ls => if args.upper then { o with result := .ok (ls.map ops.transposeF), outBuf := o.outBuf.map (·.map ops.transposeF) } else o
        | .error _ => o) := by
  obtain ⟨res, calls, warns, work, input, ob⟩ := o
  cases res with
  | error e => simp [runWrapperSk, expectedWrapper, wrun, wstep]
  | ok ls =>
    cases hu : args.upper
    · simp [runWrapperSk, expectedWrapper, wrun, wstep, hu]
    · cases ho : args.out
      · simp only [ho, forall_const] at hob
        simp [runWrapperSk, expectedWrapper, wrun, wstep, hu, ho, hob]
      · simp [runWrapperSk, expectedWrapper, wrun, wstep, hu, ho]

end LinOp.C16
