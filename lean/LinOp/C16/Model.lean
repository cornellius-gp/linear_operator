/-
C16 — model of `linear_operator/utils/cholesky.py` (`_psd_safe_cholesky`, `psd_safe_cholesky`),
statement by statement, for a BATCH of matrices (a `List` of members; the batch shape plays no
role in the algorithm: `torch.any(info)` and the mask `(info > 0) * …` are elementwise).  Core Lean only.

    L, info = torch.linalg.cholesky_ex(A, out=out)                     -- `st0`, call #1
    if settings.trace_mode.on() or not torch.any(info): return L
    isnan = torch.isnan(A);  if isnan.any(): raise NanError
    if jitter is None: jitter = settings.cholesky_jitter.value(A.dtype)
    if max_tries is None: max_tries = settings.cholesky_max_tries.value()
    Aprime = A.clone()                                                  -- `Consts.clones`
    jitter_new = jitter_prev = 0                                        -- `Consts.jitterNewBound`
    for i in range(max_tries):                                          -- `tryLoop`
        jitter_new = jitter * (10**i)                                   -- `jitterAt`
        diag_add = ((info > 0) * (jitter_new - jitter_prev))…           -- `maskMul`
        Aprime.diagonal(dim1=-1, dim2=-2).add_(diag_add)                -- `Ops.addDiag` (per member)
        jitter_prev = jitter_new
        warnings.warn(…jitter_new…, NumericalWarning)                   -- `warns`
        L, info = torch.linalg.cholesky_ex(Aprime, out=out)             -- `tryMember`
        if not torch.any(info): return L
    raise NotPSDError(f"… {jitter_new:.1e}.")                           -- UnboundLocalError if `jitter_new` is bound only in the loop and it never ran

`cholesky_ex`, the NaN test, "add c to the diagonal" and the transpose of a factor are PARAMETERS
(`Ops`); theorems use explicit hypotheses about them, the driver plugs in an exact LDLᵀ stand-in.
-/
import LinOp.Core.Basic
namespace LinOp.C16

/-- What the function can raise.  `unboundLocalError`: in a source that binds `jitter_new` only inside the loop (the code
before /repo 773f6da), `max_tries = 0` makes the final `raise NotPSDError(f"…{jitter_new:.1e}")` read an unbound variable. -/
inductive Err
  | nanError
  | notPSDError
  | unboundLocalError
  deriving DecidableEq, Repr

/-- External primitives, per batch member. -/
structure Ops (M F α : Type) where
  /-- `torch.linalg.cholesky_ex` on one member: factor and LAPACK `info` (0 = success). -/
  cholEx : M → F × Nat
  /-- `torch.isnan(A).any()` restricted to one member. -/
  hasNan : M → Bool
  /-- `A.diagonal().add_(c)` on one member. -/
  addDiag : M → α → M
  /-- `L.mT` -/
  transposeF : F → F

/-- Constants taken from the source by the translator (`LinOp.Generated.C16`). -/
structure Consts where
  base : Nat
  clones : Bool
  /-- `jitter_new` is bound when the `raise` after the loop formats it even if the loop never ran
  (extracted; if false, `max_tries = 0` ends in UnboundLocalError) -/
  jitterNewBound : Bool := false

/-- The process state the function reads. -/
structure Env (α : Type) where
  settingsJitter : α          -- settings.cholesky_jitter.value(A.dtype)
  settingsMaxTries : Nat      -- settings.cholesky_max_tries.value()
  traceMode : Bool            -- settings.trace_mode.on()

structure Args (α : Type) where
  upper : Bool := false
  out : Bool := false         -- an `out=` tensor was passed
  jitter : Option α := none
  maxTries : Option Nat := none

/-- One batch member during the loop: the member of `Aprime`, and the `L`, `info` of the last call on it. -/
abbrev MS (M F : Type) := M × F × Nat

structure LoopSt (M F α : Type) where
  st : List (MS M F)
  jprev : α
  calls : Nat               -- number of `cholesky_ex` calls so far
  warns : List α            -- `jitter_new` of every warning issued so far

structure Outcome (M F α : Type) where
  result : Except Err (List F)
  calls : Nat
  warns : List α
  /-- `Aprime` at exit (the input itself if the clone statement was never reached) -/
  work : List M
  /-- the caller's tensor `A` at exit -/
  input : List M
  /-- content of the caller's `out=` tensor at exit, if one was passed -/
  outBuf : Option (List F)

section
variable {M F α : Type}

/-- `bool_tensor * python_float`, one element. -/
def maskMul [Zero α] (b : Bool) (x : α) : α := if b then x else 0

/-- `jitter * (base ** i)` — the power is an (exact) Python int. -/
def jitterAt [Mul α] [NatCast α] (base : Nat) (jitter : α) (i : Nat) : α := jitter * ((base ^ i : Nat) : α)

/-- `torch.any(info)` -/
def anyInfo (st : List (MS M F)) : Bool := st.any fun s => s.2.2 != 0

def factors (st : List (MS M F)) : List F := st.map fun s => s.2.1
def members (st : List (MS M F)) : List M := st.map fun s => s.1

/-- First call on one member. -/
def initMember (ops : Ops M F α) (a : M) : MS M F :=
  let r := ops.cholEx a
  (a, r.1, r.2)

/-- Loop body on one member: masked in-place increment, then `cholesky_ex` again. -/
def tryMember [Zero α] (ops : Ops M F α) (delta : α) (s : MS M F) : MS M F :=
  let w := ops.addDiag s.1 (maskMul (decide (s.2.2 > 0)) delta)
  let r := ops.cholEx w
  (w, r.1, r.2)

/-- Loop body on the batch. -/
def loopBody [Zero α] [Sub α] [Mul α] [NatCast α] (ops : Ops M F α) (base : Nat) (jitter : α) (i : Nat)
    (s : LoopSt M F α) : LoopSt M F α :=
  let jnew := jitterAt base jitter i
  { st := s.st.map (tryMember ops (jnew - s.jprev)), jprev := jnew, calls := s.calls + 1, warns := s.warns ++ [jnew] }

/-- `for i in range(max_tries)`: `rem` iterations left, loop variable `i`.
Returns (returned-from-inside-the-loop?, value of the loop counter, state). -/
def tryLoop [Zero α] [Sub α] [Mul α] [NatCast α] (ops : Ops M F α) (base : Nat) (jitter : α) :
    (rem i : Nat) → LoopSt M F α → Bool × Nat × LoopSt M F α
  | 0, i, s => (false, i, s)
  | rem + 1, i, s =>
    let s' := loopBody ops base jitter i s
    if anyInfo s'.st then tryLoop ops base jitter rem (i + 1) s' else (true, i, s')

/-- `_psd_safe_cholesky(A, out, jitter, max_tries)` -/
def psdSafeCholeskyCore [Zero α] [Sub α] [Mul α] [NatCast α] (ops : Ops M F α) (c : Consts) (env : Env α)
    (args : Args α) (A : List M) : Outcome M F α :=
  let st0 := A.map (initMember ops)
  let ob := fun (fs : List F) => if args.out then some fs else none
  if env.traceMode || !anyInfo st0 then
    { result := .ok (factors st0), calls := 1, warns := [], work := A, input := A, outBuf := ob (factors st0) }
  else if A.any ops.hasNan then
    { result := .error .nanError, calls := 1, warns := [], work := A, input := A, outBuf := ob (factors st0) }
  else
    let jitter := args.jitter.getD env.settingsJitter
    let maxTries := args.maxTries.getD env.settingsMaxTries
    -- Aprime = A.clone(); jitter_prev = 0
    let r := tryLoop ops c.base jitter maxTries 0 { st := st0, jprev := 0, calls := 1, warns := [] }
    let s := r.2.2
    let work := members s.st
    -- without the clone `Aprime` is `A` itself and every in-place write lands in the caller's tensor
    let input := if c.clones then A else work
    if r.1 then
      { result := .ok (factors s.st), calls := s.calls, warns := s.warns, work := work, input := input, outBuf := ob (factors s.st) }
    else
      { result := .error (if r.2.1 = 0 && !c.jitterNewBound then .unboundLocalError else .notPSDError),
        calls := s.calls, warns := s.warns, work := work, input := input, outBuf := ob (factors s.st) }

/-- `psd_safe_cholesky(A, upper, out, jitter, max_tries)` -/
def psdSafeCholesky [Zero α] [Sub α] [Mul α] [NatCast α] (ops : Ops M F α) (c : Consts) (env : Env α)
    (args : Args α) (A : List M) : Outcome M F α :=
  let o := psdSafeCholeskyCore ops c env args A
  match o.result with
  | .ok ls =>
    if args.upper then
      -- `out.transpose_(-1, -2)` (same object as L) or `L = L.mT`
      { o with result := .ok (ls.map ops.transposeF), outBuf := o.outBuf.map (·.map ops.transposeF) }
    else o
  | .error _ => o

/-- `LinearOperator.cholesky(upper)` of a dense-backed operator (`_cholesky` + `cholesky` in `_linear_operator.py`):
    evaluated_mat = …to_dense()
    if evaluated_mat.size(-1) == 1: return TriangularLinearOperator(evaluated_mat.clamp_min(0.0).sqrt())   -- `sqrtClamp`
    cholesky = psd_safe_cholesky(evaluated_mat, upper=False).contiguous()
    … `cholesky()` transposes the lower factor if `upper`.
The 1×1 shortcut never calls `psd_safe_cholesky`: no `cholesky_ex`, no jitter, no warning, no error (a non-positive entry
gives the factor 0, a NaN entry a NaN factor).  No `jitter` / `max_tries` / `out` arguments exist on this route. -/
def opCholesky [Zero α] [Sub α] [Mul α] [NatCast α] (ops : Ops M F α) (sqrtClamp : M → F) (size : Nat) (c : Consts)
    (env : Env α) (upper : Bool) (A : List M) : Outcome M F α :=
  let o : Outcome M F α :=
    if size = 1 then { result := .ok (A.map sqrtClamp), calls := 0, warns := [], work := A, input := A, outBuf := none }
    else psdSafeCholesky ops c env {} A
  if upper then { o with result := o.result.map fun ls => ls.map ops.transposeF } else o

/-! ### Closed forms used by the theorems (not by the driver) -/

/-- `jitter_prev` at the start of iteration `i`. -/
def jprevAt [Zero α] [Mul α] [NatCast α] (base : Nat) (jitter : α) : Nat → α
  | 0 => 0
  | i + 1 => jitterAt base jitter i

/-- One member after `k` loop iterations, whatever the other members do. -/
def memberAfter [Zero α] [Sub α] [Mul α] [NatCast α] (ops : Ops M F α) (base : Nat) (jitter : α) (a : M) :
    Nat → MS M F
  | 0 => initMember ops a
  | k + 1 => tryMember ops (jitterAt base jitter k - jprevAt base jitter k) (memberAfter ops base jitter a k)

/-- The loop state after `k` iterations (if the loop gets that far). -/
def iter [Zero α] [Sub α] [Mul α] [NatCast α] (ops : Ops M F α) (base : Nat) (jitter : α) (s0 : LoopSt M F α) :
    Nat → LoopSt M F α
  | 0 => s0
  | k + 1 => loopBody ops base jitter k (iter ops base jitter s0 k)

end

/-! ### Concrete members: square matrices over a scalar type -/

section
variable {α F : Type} {n : Nat}

/-- `A.diagonal().add_(c)` -/
def addDiag [Add α] (A : Mat α n n) (c : α) : Mat α n n := fun i j => if i = j then A i j + c else A i j

def matHasNan (isNan : α → Bool) (A : Mat α n n) : Bool :=
  (List.finRange n).any fun i => (List.finRange n).any fun j => isNan (A i j)

def matOps [Add α] (cholEx : Mat α n n → F × Nat) (isNan : α → Bool) (tr : F → F) : Ops (Mat α n n) F α :=
  { cholEx := cholEx, hasNan := matHasNan isNan, addDiag := addDiag, transposeF := tr }

end
end LinOp.C16
