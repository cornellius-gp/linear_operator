/-
C16 — lemmas for the theorems that use only the WEAK `cholesky_ex` contract
("info = 0 ⇒ the returned factor factorises the argument and is finite"; no ⇔ with positive definiteness):
whole-function description of the final `Aprime` of every member whenever the function returns, and of every member
that is still failing when the function raises.
-/
import LinOp.C16.Proofs
import Mathlib.Data.List.Forall2

namespace LinOp.C16

variable {M F α : Type}

/-- What the final `Aprime` member `w` is, relative to the input member `a`, when the function returns:
`cholesky_ex` succeeds on `w`, and either `a` never failed and `w = a`, or `a` failed and `w = a + jitter·base^j·I` for
the LEAST exponent `j` (below the number of tries `T`) at which `cholesky_ex` reports success. -/
def MinimalPerturbation [Ring α] (ops : Ops M F α) (base : Nat) (jitter : α) (T : Nat) (a w : M) : Prop :=
  (ops.cholEx w).2 = 0 ∧
  (((ops.cholEx a).2 = 0 ∧ w = a) ∨
   (0 < (ops.cholEx a).2 ∧ ∃ j, j < T ∧
      (∀ i, i < j → 0 < (ops.cholEx (ops.addDiag a (jitter * (base : α) ^ i))).2) ∧
      w = ops.addDiag a (jitter * (base : α) ^ j)))

section top
variable [Ring α] (ops : Ops M F α) (c : Consts) (env : Env α) (args : Args α) (A : List M)

/-- **Whenever the core returns (outside trace mode), every member of the final `Aprime` is a minimal perturbation of the
corresponding input member** — for every batch, info history, `max_tries`, jitter. -/
theorem core_ok_work_minimal (hl : Lawful ops) (ht : env.traceMode = false) (ls : List F)
    (h : (psdSafeCholeskyCore ops c env args A).result = .ok ls) :
    List.Forall₂ (MinimalPerturbation ops c.base (effJitter env args) (effMaxTries env args)) A
      (psdSafeCholeskyCore ops c env args A).work := by
  obtain ⟨t, res, e, htT, hok, -⟩ := core_exit ops c env args A
  rw [e] at h ⊢
  have hany := (anyInfo_false_iff _).1 ((hok ls h).2 ht)
  show List.Forall₂ _ A (A.map _)
  rw [List.forall₂_map_right_iff, List.forall₂_same]
  intro a ha
  have hz := hany _ (List.mem_map_of_mem ha)
  refine ⟨by rw [← memberAfter_consistent]; exact hz, ?_⟩
  rcases memberAfter_final ops c.base (effJitter env args) hl a t hz with ⟨h0, he⟩ | ⟨h0, j, hj, hf, -, he⟩
  · exact .inl ⟨h0, by rw [he]; rfl⟩
  · exact .inr ⟨h0, j, Nat.lt_of_lt_of_le hj htT, fun i hi => by rw [← jitterAt_eq]; exact hf i hi, by rw [he, jitterAt_eq]⟩

/-- **Whenever the core raises `NotPSDError`/`UnboundLocalError`, after EVERY try `j < max_tries` some member still fails
`cholesky_ex` while carrying exactly `jitter·base^j`** (and it failed with every smaller jitter and without jitter). -/
theorem core_fail_every_try (hl : Lawful ops) (e : Err) (he : e ≠ .nanError)
    (h : (psdSafeCholeskyCore ops c env args A).result = .error e) :
    ∀ j, j < effMaxTries env args → ∃ a ∈ A, 0 < (ops.cholEx a).2 ∧
      ∀ i, i ≤ j → 0 < (ops.cholEx (ops.addDiag a (effJitter env args * (c.base : α) ^ i))).2 := by
  obtain ⟨t, res, eq, -, -, herr⟩ := core_exit ops c env args A
  rw [eq] at h
  obtain ⟨rfl, hall⟩ := herr e h he
  intro j hj
  obtain ⟨s, hs, hne⟩ := (anyInfo_true_iff _).1 (hall j hj)
  obtain ⟨a, ha, rfl⟩ := List.mem_map.1 hs
  obtain ⟨h0, hf⟩ := memberAfter_fail_form ops c.base (effJitter env args) hl a j (Nat.pos_of_ne_zero hne)
  exact ⟨a, ha, h0, fun i hi => by rw [← jitterAt_eq]; exact hf i hi⟩

end top
end LinOp.C16
