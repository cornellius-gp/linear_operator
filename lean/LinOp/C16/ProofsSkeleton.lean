/-
C16 — counting lemmas for the control-flow semantics of a skeleton (`roleTrace`, `Skeleton.lean`): how often a role occurs in
the executed statement sequence, for any skeleton cut at its loop.
-/
import LinOp.C16.Skeleton

namespace LinOp.C16

theorem count_rep (x : String) (xs : List String) (k : Nat) : (rep k xs).count x = k * xs.count x := by
  induction k with
  | zero => rw [rep, List.count_nil, Nat.zero_mul]
  | succ k ih => rw [rep, List.count_append, ih, Nat.succ_mul, Nat.add_comm]

variable (p : List String × List String × List String × List String) (x : String) (k : Nat)

/-- Returning from inside the loop in iteration `k - 1`: everything before the loop once, header and body `k` times. -/
theorem count_assemble_ok : (assemble p "ok" k).count x = p.1.count x + k * (p.2.1 ++ p.2.2.1).count x := by
  rw [assemble, if_neg (by decide), if_neg (by decide), if_pos rfl, List.count_append, count_rep]

/-- Falling through: as above, then the header once more (iterator exhausted) and the statements after the loop. -/
theorem count_assemble_fail :
    (assemble p "fail" k).count x = p.1.count x + k * (p.2.1 ++ p.2.2.1).count x + (p.2.1 ++ p.2.2.2).count x := by
  rw [assemble, if_neg (by decide), if_neg (by decide), if_neg (by decide), List.append_assoc, List.count_append,
    List.count_append, count_rep, Nat.add_assoc]

theorem assemble_first : assemble p "first" k = upto p.1 (·.startsWith "return-if(") := by
  rw [assemble, if_pos rfl]

theorem assemble_nan : assemble p "nan" k = upto p.1 (·.startsWith "raise-if(nan)") := by
  rw [assemble, if_neg (by decide), if_pos rfl]

end LinOp.C16
