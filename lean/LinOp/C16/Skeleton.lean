/-
C16 — the statement skeleton of `_psd_safe_cholesky` / `psd_safe_cholesky` that the model `LinOp.C16.Model` mirrors.

The translator (`harness/extract/c16_cholesky.py`) classifies every statement of the two function bodies (Python `ast`)
into a ROLE and emits the list `(nesting depth, role)` in source order (`LinOp.Generated.C16.coreSkeleton`,
`wrapperSkeleton`).  Effect-free statements (docstring, `pass`, the `settings.verbose_linalg` logging block) are elided;
a statement that is not recognised gets a role starting with `?` (so the obligation below fails).  The obligations
`gen_skeleton_core` / `gen_skeleton_wrapper` (Properties/C16.lean) say that the skeleton of today's source IS the
list below, i.e. the ORDER of: first attempt, exit test, NaN screen, defaults, clone, `jitter_prev` init, loop
(schedule, masked increment, in-place write, `jitter_prev` update, warning, retry, exit test), final raise.

role                          model (Model.lean)
----------------------------  -------------------------------------------------------------------------
outpack                       `out = (out, torch.empty(…int32…))` — the `out=` pair of cholesky_ex (`Args.out`)
chol(input)                   `st0 := A.map (initMember ops)`, call #1, on the caller's tensor
return-if(trace|noinfo)       `if env.traceMode || !anyInfo st0 then … .ok (factors st0)`
nanscan(input) / raise-if(nan):NanError   `else if A.any ops.hasNan then … .error .nanError`
default(jitter) / default(max_tries)      `args.jitter.getD env.settingsJitter`, `args.maxTries.getD env.settingsMaxTries`
clone                         `Consts.clones` (writes go to a fresh tensor; `input := A`)
init(jitter_new,jitter_prev=0)            `jprev := 0` (+ `Consts.jitterNewBound`)
for(range(max_tries))         `tryLoop … maxTries 0`
  sched                       `jitterAt base jitter i`
  incr(masked)                `maskMul (info > 0) (jnew - jprev)`
  write(clone.diagonal)       `ops.addDiag` on the member of `Aprime`
  prev                        `jprev := jnew`
  warn:NumericalWarning       `warns := warns ++ [jnew]`
  chol(clone)                 `ops.cholEx w`, `calls + 1`
  return-if(noinfo)           `if anyInfo s'.st then (continue) else (true, i, s')`
raise:NotPSDError             `.error .notPSDError`

The table above is made precise in `LinOp/C16/SkSem.lean`: every role is a state transformer, `runSkeleton` executes a skeleton, and
`skeleton_semantics_eq_model` / `model_refines_translated_bodies` (Properties/C16.lean) prove it equal to the model.
-/
namespace LinOp.C16

/-- Skeleton of `_psd_safe_cholesky`; `bound` = `jitter_new` is initialised together with `jitter_prev` (notes/C16_fix_1.diff). -/
def expectedCore (bound : Bool) : List (Nat × String) :=
  [(0, "outpack"), (0, "chol(input)"), (0, "return-if(trace|noinfo)"), (0, "nanscan(input)"), (0, "raise-if(nan):NanError"),
   (0, "default(jitter)"), (0, "default(max_tries)"), (0, "clone"),
   (0, if bound then "init(jitter_new,jitter_prev=0)" else "init(jitter_prev=0)"),
   (0, "for(range(max_tries))"),
   (1, "sched"), (1, "incr(masked)"), (1, "write(clone.diagonal)"), (1, "prev"), (1, "warn:NumericalWarning"), (1, "chol(clone)"),
   (1, "return-if(noinfo)"),
   (0, "raise:NotPSDError")]

/-- Skeleton of the public wrapper `psd_safe_cholesky`. -/
def expectedWrapper : List (Nat × String) :=
  [(0, "core-call(forward-all)"), (0, "if(upper)"), (1, "if(out)"), (2, "transpose-out-inplace"), (1, "else"), (2, "transpose-result"),
   (0, "return-result")]

/-- `xs` repeated `k` times -/
def rep (k : Nat) (xs : List String) : List String :=
  match k with
  | 0 => []
  | k + 1 => xs ++ rep k xs

/-- A skeleton cut at its loop: statements before the loop, the loop header, the loop body, statements after the loop. -/
def splitSk (sk : List (Nat × String)) : List String × List String × List String × List String :=
  let isFor := fun (e : Nat × String) => e.2.startsWith "for("
  let rest := sk.dropWhile fun e => !isFor e
  ((sk.takeWhile fun e => !isFor e).map (·.2), (rest.take 1).map (·.2),
   ((rest.drop 1).takeWhile fun e => e.1 > 0).map (·.2), ((rest.drop 1).dropWhile fun e => e.1 > 0).map (·.2))

/-- `pre` up to and including the first statement satisfying `p` -/
def upto (pre : List String) (p : String → Bool) : List String := pre.take (pre.findIdx p + 1)

def assemble (parts : List String × List String × List String × List String) (outcome : String) (tries : Nat) : List String :=
  let (pre, hdr, body, post) := parts
  if outcome = "first" then upto pre (·.startsWith "return-if(")
  else if outcome = "nan" then upto pre (·.startsWith "raise-if(nan)")
  else if outcome = "ok" then pre ++ rep tries (hdr ++ body)
  else pre ++ rep tries (hdr ++ body) ++ hdr ++ post

/-- Control-flow semantics of a skeleton: the sequence of statement roles that is EXECUTED for a given outcome of the model
(`first` = returned at the first exit test, `nan` = NaN screen raised, `ok` = returned from inside the loop in iteration
`tries - 1`, `fail` = loop ran `tries` times and fell through to the final raise).  The `for` header is executed once per
iteration, and once more when the iterator is exhausted.  Compared by the harness with the statements the interpreter really
executes (`sys.settrace` line events) — `tries` and the outcome come from the model's `Outcome`. -/
def roleTrace (sk : List (Nat × String)) (outcome : String) (tries : Nat) : List String :=
  assemble (splitSk sk) outcome tries

end LinOp.C16
