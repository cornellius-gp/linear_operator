import LinOp.C06.Model
/-! C06 — lemmas about the executable model: the two selection facts the totality of `rootBase` rests on, and the
invariant of one memoised call. -/
namespace LinOp.C06

/-- `_choose_root_method` returns one of four methods, all of which `root_decomposition` dispatches on. -/
theorem chooseRootMethod_mem (n : Nat) (c : Cfg) :
    chooseRootMethod n c = .symeig ∨ chooseRootMethod n c = .diagonalization ∨
      chooseRootMethod n c = .lanczos ∨ chooseRootMethod n c = .cholesky := by
  unfold chooseRootMethod
  by_cases h1 : c.cSymeig = true
  · rw [if_pos h1]; exact .inl rfl
  rw [if_neg h1]
  by_cases h2 : c.cDiag = true
  · rw [if_pos h2]; exact .inr (.inl rfl)
  rw [if_neg h2]
  by_cases h3 : c.cLanczos = true
  · rw [if_pos h3]; exact .inr (.inr (.inl rfl))
  rw [if_neg h3]
  by_cases h4 : (decide (n ≤ c.maxChol) || !c.fastRoot) = true
  · rw [if_pos h4]; exact .inr (.inr (.inr rfl))
  · rw [if_neg h4]; exact .inr (.inr (.inl rfl))

/-- `diagonalization(method=None)` picks symeig or Lanczos by size and never fails. -/
theorem diagPrims_none (n : Nat) (c : Cfg) :
    diagPrims n c none = some (if n ≤ c.maxChol then [.symeig n] else lanczosPrims n c) := by
  unfold diagPrims
  split <;> rfl

/-- One memoised call keeps any invariant of the table that the computation satisfies: the value returned and every
stored pair satisfy it afterwards (a hit returns a stored pair, a miss stores what it computed). -/
theorem memoCall_inv {κ σ ν : Type} [DecidableEq κ] (compute : κ → σ → ν) (P : κ → ν → Prop) (st : List (κ × ν))
    (k : κ) (s : σ) (hst : ∀ x ∈ st, P x.1 x.2) (hc : P k (compute k s)) :
    P k (memoCall compute st k s).1 ∧ ∀ x ∈ (memoCall compute st k s).2, P x.1 x.2 := by
  unfold memoCall
  split
  next x hf =>
    have hk : x.1 = k := of_decide_eq_true (List.find?_some (p := fun y : κ × ν => decide (y.1 = k)) hf)
    exact ⟨hk ▸ hst x (List.mem_of_find?_eq_some hf), hst⟩
  next => exact ⟨hc, List.forall_mem_cons.2 ⟨hc, hst⟩⟩

end LinOp.C06
