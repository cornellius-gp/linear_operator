import LinOp.C06.Model
import LinOp.Core.Bridge
import Mathlib.Data.Matrix.Basic
import Mathlib.Data.Matrix.Mul
import Mathlib.Data.Matrix.Block
import Mathlib.LinearAlgebra.Matrix.Kronecker
import Mathlib.LinearAlgebra.Matrix.NonsingularInverse
import Mathlib.Tactic.Ring
import Mathlib.Tactic.Linarith
/-!
C06 — helper lemmas (Gram matrices of products and of scaled eigenvector factors, roots and inverse roots carried
along a congruence, the sign convention of the corrected `_svd`s, triangularity predicates, the tie between the
model's flat-index `kron` and Mathlib's `⊗ₖ`).
-/
namespace LinOp.C06
open Matrix Kronecker

variable {α : Type} [CommRing α]
variable {n k : Type*} [Fintype n] [Fintype k]

/-- Gram matrix of a product: `(P R)(P R)ᵀ = P (R Rᵀ) Pᵀ` — any shapes. -/
theorem gram_mul {m : Type*} (P : Matrix m n α) (R : Matrix n k α) : (P * R) * (P * R)ᵀ = P * (R * Rᵀ) * Pᵀ := by
  rw [transpose_mul, Matrix.mul_assoc, Matrix.mul_assoc, Matrix.mul_assoc]

/-- A congruence by `Pi`, `Qi` is undone by their inverses: `P (Pi K Qi + X) Q = K + P X Q`. -/
theorem conj_cancel_add [DecidableEq n] {P Pi Qi Q : Matrix n n α} (K X : Matrix n n α) (hP : P * Pi = 1)
    (hQ : Qi * Q = 1) : P * (Pi * K * Qi + X) * Q = K + P * X * Q := by
  rw [Matrix.mul_add, Matrix.add_mul, Matrix.mul_assoc Pi, ← Matrix.mul_assoc P, hP, Matrix.one_mul, Matrix.mul_assoc K,
    hQ, Matrix.mul_one]

/-- Paired factors `Xᵀ Y = 1`, `X Yᵀ = 1` (e.g. `X = L⁻ᵀ`, `Y = L`): `X Xᵀ` inverts `Y Yᵀ`. -/
theorem paired_gram [DecidableEq n] [DecidableEq k] {X Y : Matrix n k α} (h₁ : Xᵀ * Y = 1) (h₂ : X * Yᵀ = 1) : X * Xᵀ * (Y * Yᵀ) = 1 := by
  rw [Matrix.mul_assoc, ← Matrix.mul_assoc Xᵀ, h₁, Matrix.one_mul, h₂]

/-- An inverse root of `M` becomes one of the congruent matrix `P M Pᵀ` after multiplication by `P⁻ᵀ`. -/
theorem rootInv_congr [DecidableEq n] {R : Matrix n k α} {M P Pi : Matrix n n α} (hR : R * Rᵀ * M = 1) (hP : Pi * P = 1) :
    (Piᵀ * R) * (Piᵀ * R)ᵀ * (P * M * Pᵀ) = 1 := by
  have hP' : Piᵀ * Pᵀ = 1 := by rw [← transpose_mul, mul_eq_one_comm.1 hP, transpose_one]
  rw [gram_mul, transpose_transpose, Matrix.mul_assoc P, Matrix.mul_assoc _ Pi, ← Matrix.mul_assoc Pi, hP, Matrix.one_mul,
    Matrix.mul_assoc Piᵀ, ← Matrix.mul_assoc _ M, hR, Matrix.one_mul, hP']

theorem diagonal_mul_diagonal_eq_one [DecidableEq n] {a b : n → α} (h : ∀ i, a i * b i = 1) : diagonal a * diagonal b = 1 := by
  rw [diagonal_mul_diagonal, funext h]; exact diagonal_one

omit [Fintype n] in
/-- `(Q diag s)(Q diag s)ᵀ = Q diag(s²) Qᵀ` — any shape of `Q`. -/
theorem scaled_gram [DecidableEq k] (Q : Matrix n k α) (s : k → α) :
    (Q * diagonal s) * (Q * diagonal s)ᵀ = Q * diagonal (fun i => s i * s i) * Qᵀ := by
  rw [gram_mul, diagonal_transpose, diagonal_mul_diagonal]

/-- Conjugations by a matrix with orthonormal columns multiply like the diagonals. -/
theorem conj_mul_conj [DecidableEq k] (Q : Matrix n k α) (hQ : Qᵀ * Q = 1) (a b : k → α) :
    (Q * diagonal a * Qᵀ) * (Q * diagonal b * Qᵀ) = Q * diagonal (fun i => a i * b i) * Qᵀ := by
  rw [← diagonal_mul_diagonal, Matrix.mul_assoc (Q * diagonal a), ← Matrix.mul_assoc Qᵀ, ← Matrix.mul_assoc Qᵀ, hQ,
    Matrix.one_mul, Matrix.mul_assoc Q, Matrix.mul_assoc Q, Matrix.mul_assoc (diagonal a)]

omit [Fintype n] in
/-- Gram matrix of a scalar multiple (`ConstantMulLinearOperator(base_root, c ** ±0.5)`):
`(r·R)(r·R)ᵀ = r²·(R Rᵀ)` — any shape of `R`. -/
theorem smul_gram (R : Matrix n k α) (r : α) : (r • R) * (r • R)ᵀ = (r * r) • (R * Rᵀ) := by
  rw [transpose_smul, Matrix.smul_mul, Matrix.mul_smul, smul_smul]

omit [Fintype n] in
/-- `((r·Q) diag s)((r·Q) diag s)ᵀ = r² · Q diag(s²) Qᵀ`. -/
theorem smul_scaled_gram [DecidableEq k] (Q : Matrix n k α) (s : k → α) (r : α) :
    ((r • Q) * diagonal s) * ((r • Q) * diagonal s)ᵀ = (r * r) • (Q * diagonal (fun i => s i * s i) * Qᵀ) := by
  rw [Matrix.smul_mul, smul_gram, scaled_gram]

omit [Fintype n] in
/-- `Q diag(c,…,c) Qᵀ = c · Q Qᵀ`. -/
theorem conj_const [DecidableEq k] (Q : Matrix n k α) (c : α) :
    Q * diagonal (fun _ => c) * Qᵀ = c • (Q * Qᵀ) := by
  rw [← smul_one_eq_diagonal, Matrix.mul_smul, Matrix.smul_mul, Matrix.mul_one]

/-- Scaled eigenvector factor against the matrix it diagonalises: if `t² v = d` entrywise then
`((x·Q) diag t)((x·Q) diag t)ᵀ · (Q diag(v) Qᵀ) = x² d · 1` (`x = d = 1`: an inverse root). -/
theorem scaled_gram_mul_conj [DecidableEq n] (Q M : Matrix n n α) (v t : n → α) (x d : α) (hQ : Qᵀ * Q = 1)
    (hQ' : Q * Qᵀ = 1) (hM : Q * diagonal v * Qᵀ = M) (ht : ∀ i, t i * t i * v i = d) :
    ((x • Q) * diagonal t) * ((x • Q) * diagonal t)ᵀ * M = (x * x * d) • (1 : Matrix n n α) := by
  rw [smul_scaled_gram, ← hM, Matrix.smul_mul, conj_mul_conj Q hQ, funext ht, conj_const, hQ', smul_smul]

/-- The scalar step of the `KroneckerProductAddedDiag` inverse roots: with `di = 1/d`, `t² (w/d + 1) = 1` means
`t² (w + d) = d`. -/
theorem kpadlo_scalar {d di t w : α} (hd : d * di = 1) (ht : t * t * (w * di + 1) = 1) : t * t * (w + d) = d := by
  calc t * t * (w + d) = t * t * (w * (d * di) + d) := by rw [hd, mul_one]
    _ = d * (t * t * (w * di + 1)) := by ring
    _ = d := by rw [ht, mul_one]

/-- The sign convention `where(x < 0, −1, 1)` of the corrected `_svd`s: `sg(x)·|x| = x` and `sg(x)² = 1`, zero included. -/
theorem signPos_mul_abs {F : Type*} [Field F] [LinearOrder F] [IsStrictOrderedRing F] (x : F) :
    (if x < 0 then (-1 : F) else 1) * |x| = x := by
  split_ifs with h
  · rw [abs_of_neg h, neg_one_mul, neg_neg]
  · rw [abs_of_nonneg (not_lt.1 h), one_mul]

theorem signPos_mul_self {F : Type*} [Field F] [LinearOrder F] [IsStrictOrderedRing F] (x : F) :
    (if x < 0 then (-1 : F) else 1) * (if x < 0 then (-1 : F) else 1) = 1 := by
  split_ifs
  · rw [neg_one_mul, neg_neg]
  · rw [one_mul]

/-- Lower / upper triangular (exact zero pattern) for matrices over a linearly ordered index. -/
def LowerTri {ι : Type*} [LT ι] {β : Type*} [Zero β] (L : Matrix ι ι β) : Prop := ∀ i j, i < j → L i j = 0
def UpperTri {ι : Type*} [LT ι] {β : Type*} [Zero β] (L : Matrix ι ι β) : Prop := ∀ i j, j < i → L i j = 0

theorem lowerTri_transpose {ι : Type*} [LT ι] {β : Type*} [Zero β] {L : Matrix ι ι β} (h : LowerTri L) :
    UpperTri Lᵀ := fun i j hij => h j i hij

/-- An entry of the block-diagonal of lower-triangular blocks vanishes unless it lies in one block and, there, on or
below the diagonal — whatever order the pairs `(row, block)` are laid out in. -/
theorem blockDiagonal_lowerTri {o ι : Type*} [DecidableEq o] [LT ι] {β : Type*} [Zero β] {L : o → Matrix ι ι β}
    (h : ∀ b, LowerTri (L b)) {i j : ι} {b b' : o} (hij : b = b' → i < j) : blockDiagonal L (i, b) (j, b') = 0 := by
  rw [blockDiagonal_apply]
  split_ifs with hb
  · exact h b i j (hij hb)
  · rfl

/-- The model's flat-index Kronecker product is Mathlib's `⊗ₖ` transported along `finProdFinEquiv`
(row-major: first factor is the slow index). -/
theorem kron_eq_kronecker {m n' p q : Nat} (A : Matrix (Fin m) (Fin n') α) (B : Matrix (Fin p) (Fin q) α) :
    (kron A B : Matrix (Fin (m * p)) (Fin (n' * q)) α)
      = Matrix.reindex finProdFinEquiv finProdFinEquiv (A ⊗ₖ B) := by
  ext r c
  simp only [kron, Matrix.reindex_apply, Matrix.submatrix_apply, kroneckerMap_apply]
  rfl

/-- The model's `upperFromLower` read as a Mathlib matrix. -/
abbrev upperM {m : Nat} (L : Matrix (Fin m) (Fin m) α) : Matrix (Fin m) (Fin m) α := upperFromLower L

/-- The model's `kron` read as a Mathlib matrix. -/
abbrev kronM {m n' p q : Nat} (A : Matrix (Fin m) (Fin n') α) (B : Matrix (Fin p) (Fin q) α) :
    Matrix (Fin (m * p)) (Fin (n' * q)) α := kron A B

/-- Index arithmetic: the Kronecker product of lower-triangular factors is lower triangular in the
flat row-major index order the library uses. -/
theorem kron_lowerTri {m p : Nat} {L₁ : Matrix (Fin m) (Fin m) α} {L₂ : Matrix (Fin p) (Fin p) α}
    (h₁ : LowerTri L₁) (h₂ : LowerTri L₂) : LowerTri (kron L₁ L₂ : Matrix (Fin (m * p)) (Fin (m * p)) α) := by
  intro r c hrc
  have hrc' : r.1 < c.1 := hrc
  have hp : 0 < p := Nat.pos_of_ne_zero (by intro h; have := r.2; simp [h] at this)
  simp only [kron]
  by_cases hq : r.1 / p < c.1 / p
  · rw [h₁ _ _ (by exact hq), zero_mul]
  · have hle : r.1 / p ≤ c.1 / p := Nat.div_le_div_right (Nat.le_of_lt hrc')
    have heq : r.1 / p = c.1 / p := Nat.le_antisymm hle (Nat.not_lt.1 hq)
    -- same block row, so `r < c` is decided by the remainders: `r = p·(r/p) + r%p`, `c = p·(r/p) + c%p`
    have hmod : r.1 % p < c.1 % p := by
      have h : p * (c.1 / p) + r.1 % p < p * (c.1 / p) + c.1 % p := by
        rw [Nat.div_add_mod c.1 p, ← heq, Nat.div_add_mod r.1 p]; exact hrc'
      exact Nat.lt_of_add_lt_add_left h
    rw [h₂ _ _ (by exact hmod), mul_zero]

end LinOp.C06
