import LinOp.C06.Postprocess
import Mathlib.Order.Defs.LinearOrder
import Mathlib.Order.Basic
/-! Helper lemmas for the model of `_postprocess_lanczos_root_inv_decomp` (C06). -/
namespace LinOp.C06

variable {α : Type} [LinearOrder α]

/-- `argminNat f m` is an index `≤ m`, `f` is minimal there among `0..m`, and every earlier index is strictly worse. -/
theorem argminNat_spec (f : Nat → α) (m : Nat) :
    argminNat f m ≤ m ∧ (∀ j, j ≤ m → f (argminNat f m) ≤ f j) ∧
      (∀ j, j < argminNat f m → f (argminNat f m) < f j) := by
  induction m with
  | zero => exact ⟨Nat.le_refl _, fun j hj => by rw [Nat.le_zero.1 hj]; exact le_rfl, fun j hj => absurd hj (Nat.not_lt_zero j)⟩
  | succ m ih =>
    obtain ⟨h1, h2, h3⟩ := ih
    simp only [argminNat]
    by_cases hlt : f (m + 1) < f (argminNat f m)
    · -- strict improvement at `m + 1`: it beats the old minimiser, hence everything before
      rw [if_pos hlt]
      refine ⟨Nat.le_refl _, fun j hj => ?_, fun j hj => lt_of_lt_of_le hlt (h2 j (Nat.lt_succ_iff.1 hj))⟩
      rcases Nat.le_succ_iff.1 hj with h | rfl
      · exact (lt_of_lt_of_le hlt (h2 j h)).le
      · exact le_rfl
    · rw [if_neg hlt]
      refine ⟨Nat.le_succ_of_le h1, fun j hj => ?_, h3⟩
      rcases Nat.le_succ_iff.1 hj with h | rfl
      · exact h2 j h
      · exact not_lt.1 hlt
end LinOp.C06
