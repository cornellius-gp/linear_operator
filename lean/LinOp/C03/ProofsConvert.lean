import LinOp.C03.Proofs
/-! `_convert_indices_to_tensors` reads what torch's mixed indexing reads (`convSrc_eq_specSrc`); vertical concatenation
(`catRowsSpec`) against the piece / local-row lookup. -/
namespace LinOp.C03

/-- the slice coordinates torch uses: result coordinate with the `k` tensor dims at `p` removed -/
def sliceCoords (p k : Nat) (r : List Nat) : List Nat := r.take p ++ r.drop (p + k)

theorem sliceCoords_lt (p k : Nat) (r : List Nat) (q : Nat) (hq : q < p) (hp : p ≤ r.length) :
    (sliceCoords p k r).getD q 0 = r.getD q 0 := by
  simp only [sliceCoords, List.getD_eq_getElem?_getD]
  rw [List.getElem?_append_left (by simp; omega)]
  simp [hq]

theorem sliceCoords_ge (p k : Nat) (r : List Nat) (q : Nat) (hq : p ≤ q) (hp : p ≤ r.length) :
    (sliceCoords p k r).getD q 0 = r.getD (q + k) 0 := by
  simp only [sliceCoords, List.getD_eq_getElem?_getD]
  rw [List.getElem?_append_right (by simp; omega)]
  simp only [List.length_take, Nat.min_eq_left hp, List.getElem?_drop]
  congr 2; omega

theorem sliceCoords_zero (p : Nat) (r : List Nat) : sliceCoords p 0 r = r := List.take_append_drop p r

theorem srcIndex_drop_slice (n a b c rest) (S tc : List Nat) (q : Nat) :
    srcIndex ((n, Item.slice a b c) :: rest) (S.drop q) tc =
      (sliceStart n a + S.getD q 0 * sliceStep c) :: srcIndex rest (S.drop (q + 1)) tc := by
  simp [srcIndex, List.getD_eq_getElem?_getD, List.head?_drop, List.headD_eq_head?_getD]

theorem srcIndex_drop_ell (n rest) (S tc : List Nat) (q : Nat) :
    srcIndex ((n, Item.ellipsis) :: rest) (S.drop q) tc = S.getD q 0 :: srcIndex rest (S.drop (q + 1)) tc := by
  simp [srcIndex, List.getD_eq_getElem?_getD, List.head?_drop, List.headD_eq_head?_getD]

/-- phase "tensor block placed": every remaining slice has number `q ≥ p` and occupies result dim `q + k` -/
theorem conv_after (k p : Nat) (r : List Nat) (hp : p ≤ r.length) :
    ∀ (rest : List (Nat × Item)) (q : Nat), p ≤ q →
      convGo k (q + k) (some p) rest r = srcIndex rest ((sliceCoords p k r).drop q) ((r.drop p).take k) := by
  intro rest
  induction rest with
  | nil => intro q _; rfl
  | cons x rest ih =>
    intro q hq
    obtain ⟨n, it⟩ := x
    cases it with
    | int i => exact congrArg (_ :: ·) (ih q hq)
    | slice a b c =>
      rw [srcIndex_drop_slice, sliceCoords_ge p k r q hq hp, convGo, Nat.add_right_comm, ih (q + 1) (Nat.le_succ_of_le hq)]
    | ellipsis =>
      rw [srcIndex_drop_ell, sliceCoords_ge p k r q hq hp, convGo, Nat.add_right_comm, ih (q + 1) (Nat.le_succ_of_le hq)]
    | tensor sh vs => exact congrArg (_ :: ·) (ih q hq)

/-- phase "no tensor seen yet" (not moved to the start): slice number `q` occupies result dim `q`; the first
tensor index is met after exactly `p = q + slicesBeforeT` slices -/
theorem conv_before (k : Nat) (r : List Nat) :
    ∀ (rest : List (Nat × Item)) (q p : Nat), p = q + slicesBeforeT (kinds rest) → p ≤ r.length →
      convGo k q none rest r = srcIndex rest ((sliceCoords p k r).drop q) ((r.drop p).take k) := by
  intro rest
  induction rest with
  | nil => intro q p _ _; rfl
  | cons x rest ih =>
    intro q p hpq hp
    obtain ⟨n, it⟩ := x
    cases it with
    | int i => exact congrArg (_ :: ·) (ih q p hpq hp)
    | slice a b c =>
      have hpq' : p = q + 1 + slicesBeforeT (kinds rest) := hpq.trans (Nat.add_right_comm q _ 1)
      have hq : q < p := hpq' ▸ Nat.lt_add_right _ (Nat.lt_succ_self q)
      rw [srcIndex_drop_slice, sliceCoords_lt p k r q hq hp, convGo, ih (q + 1) p hpq' hp]
    | ellipsis =>
      have hpq' : p = q + 1 + slicesBeforeT (kinds rest) := hpq.trans (Nat.add_right_comm q _ 1)
      have hq : q < p := hpq' ▸ Nat.lt_add_right _ (Nat.lt_succ_self q)
      rw [srcIndex_drop_ell, sliceCoords_lt p k r q hq hp, convGo, ih (q + 1) p hpq' hp]
    | tensor sh vs =>
      rw [show q = p from hpq.symm]
      exact congrArg (_ :: ·) (conv_after k p r hp rest p (Nat.le_refl _))

theorem srcIndex_noT (zi : List (Nat × Item)) (h : tensorShapes zi = []) :
    ∀ sc tc tc', srcIndex zi sc tc = srcIndex zi sc tc' := by
  induction zi with
  | nil => intro sc tc tc'; rfl
  | cons x rest ih =>
    obtain ⟨n, it⟩ := x
    cases it with
    | int i => intro sc tc tc'; simp only [tensorShapes] at h; simp [srcIndex, ih h sc tc tc']
    | slice a b c => intro sc tc tc'; simp only [tensorShapes] at h; simp [srcIndex, ih h sc.tail tc tc']
    | ellipsis => intro sc tc tc'; simp only [tensorShapes] at h; simp [srcIndex, ih h sc.tail tc tc']
    | tensor sh vs => simp [tensorShapes] at h

theorem slicesBeforeT_le (zi : List (Nat × Item)) : slicesBeforeT (kinds zi) ≤ (sliceLens zi).length := by
  induction zi with
  | nil => simp [slicesBeforeT, sliceLens]
  | cons x rest ih =>
    obtain ⟨n, it⟩ := x
    cases it <;> simp [slicesBeforeT, sliceLens] <;> omega

/-- reading through the converted index = torch's reading, for every result coordinate -/
theorem convSrc_eq_specSrc (zi : List (Nat × Item)) (r : List Nat) (hr : (sliceLens zi).length ≤ r.length) :
    convSrc (bcAll (tensorShapes zi)).length zi r = specSrc (bcAll (tensorShapes zi)).length zi r := by
  have hk : zi.map (·.2.kind) = kinds zi := rfl
  unfold convSrc specSrc
  rw [hk, specPos_eq]
  cases hm : movedToStart (kinds zi) with
  | true =>
    rw [if_pos rfl, if_pos rfl, ite_self]
    have := conv_after (bcAll (tensorShapes zi)).length 0 r (Nat.zero_le _) zi 0 (Nat.le_refl _)
    rwa [Nat.zero_add] at this
  | false =>
    rw [if_neg Bool.false_ne_true, if_neg Bool.false_ne_true,
      conv_before _ r zi 0 _ (Nat.zero_add _).symm (Nat.le_trans (slicesBeforeT_le zi) hr)]
    cases he : tensorShapes zi with
    | nil =>
      show srcIndex zi (sliceCoords _ 0 r) _ = srcIndex zi (sliceCoords _ 0 r) _
      rw [sliceCoords_zero, sliceCoords_zero]; rfl
    | cons s t => rfl

/-- vertical concatenation of matrices (pieces with their row counts), by recursion -/
def catRowsSpec : List ((Nat → Nat → Int) × Nat) → Nat → Nat → Int
  | [], _, _ => 0
  | (P, s) :: rest, i, j => if i < s then P i j else catRowsSpec rest (i - s) j

theorem catRows_entry (pieces : List ((Nat → Nat → Int) × Nat)) :
    ∀ i j, i < sumNat (pieces.map (·.2)) → catRowsGet pieces i j = catRowsSpec pieces i j := by
  induction pieces with
  | nil => intro i j hi; exact absurd hi (Nat.not_lt_zero _)
  | cons P rest ih =>
    intro i j hi
    obtain ⟨A, s⟩ := P
    rw [catRowsGet, List.map_cons, catRowsSpec]
    by_cases h : i < s
    · rw [catLocate_cons_lt _ h, if_pos h]; rfl
    · have h' := Nat.le_of_not_lt h
      rw [List.map_cons, sumNat_cons] at hi
      rw [catLocate_cons_ge _ h', if_neg h, ← ih (i - s) j (by omega)]; rfl

end LinOp.C03
