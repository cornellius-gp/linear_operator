import LinOp.C03.Model
/-! Helper lemmas for C03 (core Lean only): Python slices, `catLocate`, `wrap`, the `_compute_getitem_size` pass,
`_is_tensor_index_moved_to_start`, the Kronecker div/fmod chain; the recursive specifications `blockDiagSpec`, `kronSpec`. -/
namespace LinOp.C03

/-! ### Python slices -/

theorem clampBound_natCast (n k : Nat) : clampBound n (k : Int) = min k n := by
  unfold clampBound; rw [if_neg (by omega)]; rfl

theorem sliceStop_le (n : Nat) (b : Option Int) : sliceStop n b ≤ n := by
  unfold sliceStop clampBound
  split
  · exact Nat.le_refl n
  · split <;> omega

/-- element `q` of a slice with positive step lies in the dimension -/
theorem slice_src_lt (n : Nat) (a b c : Option Int) (hc : 0 < sliceStep c) (q : Nat) (hq : q < sliceLen n a b c) :
    sliceStart n a + q * sliceStep c < n := by
  have hstop := sliceStop_le n b
  have hq' : q < if sliceStart n a < sliceStop n b
      then (sliceStop n b - sliceStart n a - 1) / sliceStep c + 1 else 0 := hq
  by_cases hlt : sliceStart n a < sliceStop n b
  · rw [if_pos hlt] at hq'
    have := (Nat.le_div_iff_mul_le hc).mp (Nat.le_of_lt_succ hq')
    omega
  · rw [if_neg hlt] at hq'
    exact absurd hq' (Nat.not_lt_zero _)

/-! ### concatenation: total size and `catLocate` -/

theorem sumNat_cons (s : Nat) (r : List Nat) : sumNat (s :: r) = s + sumNat r := by
  rw [sumNat, List.foldl_cons, Nat.zero_add]
  exact List.foldl_assoc (a₂ := 0)

theorem catLocate_cons_lt {s i : Nat} (r : List Nat) (h : i < s) : catLocate (s :: r) i = (0, i) := by
  rw [catLocate, if_pos h]

theorem catLocate_cons_ge {s i : Nat} (r : List Nat) (h : s ≤ i) :
    catLocate (s :: r) i = ((catLocate r (i - s)).1 + 1, (catLocate r (i - s)).2) := by
  rw [catLocate, if_neg (Nat.not_lt_of_le h)]

/-- cumulative offsets: a global index is the total size of the pieces before its piece plus its local index -/
theorem sumNat_take_catLocate (sizes : List Nat) : ∀ i, i < sumNat sizes →
    sumNat (sizes.take (catLocate sizes i).1) + (catLocate sizes i).2 = i := by
  induction sizes with
  | nil => intro i hi; exact absurd hi (Nat.not_lt_zero _)
  | cons s r ih =>
    intro i hi
    by_cases h : i < s
    · rw [catLocate_cons_lt _ h]; exact Nat.zero_add i
    · have h' := Nat.le_of_not_lt h
      rw [sumNat_cons] at hi
      have := ih (i - s) (by omega)
      rw [catLocate_cons_ge _ h', List.take_succ_cons, sumNat_cons]; omega

/-- `_split_slice` on a non-empty range `lo:hi` inside the concatenation: first piece and offset of row `lo`, last piece
and offset + 1 of row `hi - 1` -/
theorem splitFrom_of_lt (sizes : List Nat) (lo hi : Nat) (h : lo < hi) (hhi : hi ≤ sumNat sizes) :
    splitFrom sizes lo hi =
      ((catLocate sizes lo).1, (catLocate sizes lo).2, (catLocate sizes (hi - 1)).1, (catLocate sizes (hi - 1)).2 + 1) := by
  have hpos : 0 < hi := Nat.zero_lt_of_lt h
  have hc := sumNat_take_catLocate sizes (hi - 1) (Nat.lt_of_lt_of_le (Nat.sub_lt hpos Nat.one_pos) hhi)
  have e : hi - sumNat (sizes.take (catLocate sizes (hi - 1)).1) = (catLocate sizes (hi - 1)).2 + 1 :=
    Nat.sub_eq_of_eq_add' (by rw [← Nat.add_assoc, hc, Nat.sub_add_cancel hpos])
  simp only [splitFrom, if_neg (Nat.ne_of_gt hpos), e]

/-! ### `wrap`, `inRange` -/

theorem wrap_natCast (n k : Nat) : wrap n (k : Int) = k := by
  unfold wrap; rw [if_neg (by omega)]; rfl

theorem wrap_lt (n : Nat) (i : Int) (h : inRange n i = true) : wrap n i < n := by
  simp only [inRange, decide_eq_true_eq] at h
  unfold wrap; split <;> omega

theorem inRange_natCast {n k : Nat} (h : k < n) : inRange n (k : Int) = true := by
  simp only [inRange, decide_eq_true_eq]; omega

/-! ### the `_compute_getitem_size` pass -/

def kinds (l : List (Nat × Item)) : List K := l.map (·.2.kind)

@[simp] theorem kinds_nil : kinds [] = [] := rfl
@[simp] theorem kinds_int (n i r) : kinds ((n, Item.int i) :: r) = K.I :: kinds r := rfl
@[simp] theorem kinds_slice (n a b c r) : kinds ((n, Item.slice a b c) :: r) = K.S :: kinds r := rfl
@[simp] theorem kinds_ell (n r) : kinds ((n, Item.ellipsis) :: r) = K.S :: kinds r := rfl
@[simp] theorem kinds_tensor (n sh vs r) : kinds ((n, Item.tensor sh vs) :: r) = K.T :: kinds r := rfl

def run (st : St) (l : List (Nat × Item)) : St := l.foldl stepSize st

@[simp] theorem run_nil (st : St) : run st [] = st := rfl
theorem run_cons (st : St) (x) (l) : run st (x :: l) = run (stepSize st x) l := rfl

@[simp] theorem step_int (st : St) (n i) : stepSize st (n, Item.int i) = st := rfl
@[simp] theorem step_slice (st : St) (n a b c) : stepSize st (n, Item.slice a b c) =
    { st with final := st.final ++ [sliceLen n a b c], sliceAfter := st.sliceAfter || st.tidx.isSome } := rfl
@[simp] theorem step_ell (st : St) (n) : stepSize st (n, Item.ellipsis) =
    { st with final := st.final ++ [n], sliceAfter := st.sliceAfter || st.tidx.isSome } := rfl
theorem step_tensor_none (st : St) (n sh vs) (h : st.tidx = none) : stepSize st (n, Item.tensor sh vs) =
    { st with tshape := sh, tidx := some st.final.length } := by simp [stepSize, h]
theorem step_tensor_some (st : St) (n sh vs k) (h : st.tidx = some k) : stepSize st (n, Item.tensor sh vs) =
    { st with tshape := bc st.tshape sh, tidx := if st.sliceAfter then some 0 else some k } := by simp [stepSize, h]

theorem run_final (l : List (Nat × Item)) : ∀ st, (run st l).final = st.final ++ sliceLens l := by
  induction l with
  | nil => intro st; exact (List.append_nil _).symm
  | cons x r ih =>
    intro ⟨f, t, ts, sa⟩
    obtain ⟨n, it⟩ := x
    rw [run_cons, ih]
    cases it with
    | int i => rfl
    | slice a b c => exact List.append_assoc ..
    | ellipsis => exact List.append_assoc ..
    | tensor sh vs => cases t <;> rfl

/-- A tensor has been seen at position `k` (`sliceAfter = sa`).  The position field runs the automaton of
`_is_tensor_index_moved_to_start` (`movedGo hasTensor cont` with `cont = !sliceAfter`): it ends at 0 exactly when `movedGo`
accepts the rest, so `movedGo_spec` compares both library functions with torch's rule.  Later tensors fold their shapes into
`tshape`.  Over the record literal every step of `stepSize` is `rfl`. -/
theorem run_some (l : List (Nat × Item)) : ∀ f k ts sa,
    (run ⟨f, some k, ts, sa⟩ l).tidx = some (if movedGo true (!sa) (kinds l) then 0 else k) ∧
    (run ⟨f, some k, ts, sa⟩ l).tshape = (tensorShapes l).foldl bc ts := by
  induction l with
  | nil => intro f k ts sa; exact ⟨rfl, rfl⟩
  | cons x r ih =>
    intro f k ts sa
    obtain ⟨n, it⟩ := x
    rw [run_cons]
    cases it with
    | int i => exact ih f k ts sa
    | slice a b c => exact ⟨(ih _ k ts _).1.trans (by cases sa <;> rfl), (ih _ k ts _).2⟩
    | ellipsis => exact ⟨(ih _ k ts _).1.trans (by cases sa <;> rfl), (ih _ k ts _).2⟩
    | tensor sh vs =>
      cases sa with
      | true => exact ⟨(ih f 0 _ true).1.trans (congrArg some (ite_self 0)), (ih f 0 _ true).2⟩
      | false => exact ih f k _ false

/-- no tensor seen yet: the first tensor is placed after the slices seen so far -/
theorem run_none (l : List (Nat × Item)) : ∀ f ts,
    (run ⟨f, none, ts, false⟩ l).tidx =
      (if hasT (kinds l) then some (if movedGo false true (kinds l) then 0 else f.length + slicesBeforeT (kinds l)) else none) ∧
    (run ⟨f, none, ts, false⟩ l).tshape = if hasT (kinds l) then bcAll (tensorShapes l) else ts := by
  induction l with
  | nil => intro f ts; exact ⟨rfl, rfl⟩
  | cons x r ih =>
    intro f ts
    obtain ⟨n, it⟩ := x
    rw [run_cons]
    cases it with
    | int i => exact ih f ts
    | slice a b c =>
      refine ⟨(ih _ ts).1.trans ?_, (ih _ ts).2⟩
      rw [List.length_append, Nat.add_assoc, Nat.add_comm [_].length]; rfl
    | ellipsis =>
      refine ⟨(ih _ ts).1.trans ?_, (ih _ ts).2⟩
      rw [List.length_append, Nat.add_assoc, Nat.add_comm [_].length]; rfl
    | tensor sh vs => exact run_some r f f.length sh false

theorem hasT_iff_tensorShapes (l : List (Nat × Item)) : hasT (kinds l) = !(tensorShapes l).isEmpty := by
  induction l with
  | nil => rfl
  | cons x r ih =>
    obtain ⟨n, it⟩ := x
    cases it <;> simp [hasT, tensorShapes, ih]

/-! ### `_is_tensor_index_moved_to_start` against the torch position -/

theorem movedGo_spec (l : List K) :
    movedGo false true l = hasTST l ∧ movedGo true true l = hasST l ∧ movedGo true false l = hasT l := by
  induction l with
  | nil => simp [movedGo, hasTST, hasST, hasT]
  | cons x r ih =>
    obtain ⟨h1, h2, h3⟩ := ih
    cases x <;> simp [movedGo, hasTST, hasST, hasT, h1, h2, h3]

theorem movedToStart_cases (k : K) (l : List K) :
    movedToStart (k :: l) = (decide (k = K.T) || hasTST (k :: l)) := by
  cases k <;> simp [movedToStart, hasTST, (movedGo_spec l).1]

/-- torch's position of the tensor dims in terms of the library's test: the front if `_is_tensor_index_moved_to_start`
answers `True`, else after the slices that precede the first tensor -/
theorem specPos_eq (ks : List K) : specPos ks = if movedToStart ks then 0 else slicesBeforeT ks := by
  cases ks with
  | nil => rfl
  | cons k l =>
    rw [movedToStart_cases, specPos]
    cases k with
    | T => cases hasTST (K.T :: l) <;> rfl
    | I => rfl
    | S => rfl

/-! ### the recursive specifications, and the Kronecker div/fmod chain -/

/-- block-diagonal matrix with blocks of size `m × n`, defined by recursion over the list of blocks -/
def blockDiagSpec (m n : Nat) : List (Nat → Nat → Int) → Nat → Nat → Int
  | [], _, _ => 0
  | B :: r, i, j =>
    if i < m ∧ j < n then B i j
    else if m ≤ i ∧ n ≤ j then blockDiagSpec m n r (i - m) (j - n) else 0

def prodNat (l : List Nat) : Nat := l.foldl (· * ·) 1

theorem prodNat_cons (n : Nat) (l : List Nat) : prodNat (n :: l) = n * prodNat l := by
  have := List.foldl_assoc (op := (· * · : Nat → Nat → Nat)) (l := l) (a₁ := n) (a₂ := 1)
  rw [Nat.mul_one] at this
  rw [prodNat, List.foldl_cons, Nat.one_mul, this]; rfl

abbrev Factor := (Nat → Nat → Int) × Nat × Nat
def rowsOf (fs : List Factor) : List Nat := fs.map (·.2.1)
def colsOf (fs : List Factor) : List Nat := fs.map (·.2.2)

/-- Kronecker product of a list of factors (entry functions with their sizes), by recursion:
`(A ⊗ rest)[i, j] = A[i / R, j / C] * rest[i % R, j % C]` with `R × C` the size of `rest`. -/
def kronSpec : List Factor → Nat → Nat → Int
  | [], _, _ => 1
  | (A, _, _) :: r, i, j =>
    A (i / prodNat (rowsOf r)) (j / prodNat (colsOf r)) * kronSpec r (i % prodNat (rowsOf r)) (j % prodNat (colsOf r))

/-- one entry per factor, at the given per-factor indices -/
def kronEntries : List Factor → List Nat → List Nat → List Int
  | (A, _, _) :: fs, r :: rs, c :: cs => A r c :: kronEntries fs rs cs
  | _, _, _ => []

/-- the accumulation of `_get_indices`: `res = sub_res * res` over the factors -/
def mulRev (l : List Int) : Int := l.foldl (fun res a => a * res) 1

/-- what `KroneckerProductLinearOperator._get_indices` returns: every factor's entry at its div/fmod indices,
multiplied together in the library's order -/
def kronModel (fs : List Factor) (i j : Nat) : Int :=
  mulRev (kronEntries fs (kronIdx (rowsOf fs) i) (kronIdx (colsOf fs) j))

theorem mulRev_cons (a : Int) (l : List Int) : mulRev (a :: l) = mulRev l * a := by
  have h : ∀ (l : List Int) (x : Int), l.foldl (fun res a => a * res) x = l.foldl (fun res a => a * res) 1 * x := by
    intro l; induction l with
    | nil => intro x; simp
    | cons b t iht => intro x; simp only [List.foldl_cons]; rw [iht (b * x), iht (b * 1)]; simp [Int.mul_assoc]
  simp only [mulRev, List.foldl_cons]; rw [h]; simp

theorem kronIdxGo_cons (n : Nat) (r : List Nat) (i : Nat) (hn : 0 < n) :
    kronIdxGo (prodNat (n :: r)) (n :: r) i = (i / prodNat r % n) :: kronIdxGo (prodNat r) r i := by
  have : prodNat (n :: r) / n = prodNat r := by rw [prodNat_cons, Nat.mul_div_cancel_left _ hn]
  simp [kronIdxGo, this]

/-- the div/fmod chain computes the Kronecker entry — generalised over out-of-range `i, j` (it only sees them modulo the size) -/
theorem kron_go (fs : List Factor) : ∀ i j, 0 < prodNat (rowsOf fs) → 0 < prodNat (colsOf fs) →
    mulRev (kronEntries fs (kronIdxGo (prodNat (rowsOf fs)) (rowsOf fs) i) (kronIdxGo (prodNat (colsOf fs)) (colsOf fs) j))
      = kronSpec fs (i % prodNat (rowsOf fs)) (j % prodNat (colsOf fs)) := by
  induction fs with
  | nil => intro i j _ _; rfl
  | cons f t ih =>
    intro i j hr hc
    obtain ⟨A, n, m⟩ := f
    have hr' : rowsOf ((A, n, m) :: t) = n :: rowsOf t := rfl
    have hc' : colsOf ((A, n, m) :: t) = m :: colsOf t := rfl
    rw [hr'] at hr; rw [hc'] at hc; rw [hr', hc']
    rw [prodNat_cons] at hr hc
    have hn : 0 < n := Nat.pos_of_mul_pos_right hr
    have hm : 0 < m := Nat.pos_of_mul_pos_right hc
    have hT : 0 < prodNat (rowsOf t) := Nat.pos_of_mul_pos_left hr
    have hU : 0 < prodNat (colsOf t) := Nat.pos_of_mul_pos_left hc
    rw [kronIdxGo_cons n _ i hn, kronIdxGo_cons m _ j hm]
    simp only [kronEntries, kronSpec]
    rw [mulRev_cons, ih i j hT hU, prodNat_cons, prodNat_cons]
    rw [Nat.mod_mul_left_div_self, Nat.mod_mul_left_div_self, Nat.mod_mul_left_mod, Nat.mod_mul_left_mod]
    exact Int.mul_comm _ _

end LinOp.C03
