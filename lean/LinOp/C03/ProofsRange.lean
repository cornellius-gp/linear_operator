import LinOp.C03.ProofsConvert
import LinOp.C03.Ops
import Mathlib.Data.List.Forall2
/-! The result box, and what is read at its coordinates.  Every source index torch reads for a VALID index tuple is in range
(discharges the `hin` hypothesis of the refinement theorems): ints / tensor entries by the range check at the top of
`__getitem__`, slices by `slice.indices`, result coordinates by membership in the result box.  Reading through the converted
index over the whole box (`box_map_conv`); `__getitem__`'s tensor-index path for an operator whose `_get_indices` reads the dense
value (`getitem_refines_of_gi`).  Uses `List.Forall₂` lemmas of Mathlib. -/
namespace LinOp.C03

theorem box_forall₂ : ∀ (sh r : List Nat), r ∈ box sh → List.Forall₂ (· < ·) r sh := by
  intro sh
  induction sh with
  | nil => intro r hr; simp [box] at hr; subst hr; exact List.Forall₂.nil
  | cons n t ih =>
    intro r hr
    simp only [box, List.mem_flatMap, List.mem_range, List.mem_map] at hr
    obtain ⟨i, hi, r', hr', rfl⟩ := hr
    exact List.Forall₂.cons hi (ih r' hr')

theorem box_length (sh r : List Nat) (h : r ∈ box sh) : r.length = sh.length := (box_forall₂ sh r h).length_eq

theorem tensorAt_inRange (n : Nat) (hn : 0 < n) (sh : List Nat) (vs : List Int) (tc : List Nat)
    (h : vs.all (inRange n) = true) : inRange n (tensorAt sh vs tc) = true := by
  unfold tensorAt
  simp only [List.getD_eq_getElem?_getD]
  cases hg : vs[flatIndex sh ((List.zip sh (tc.drop (tc.length - sh.length))).map fun x => if x.1 = 1 then 0 else x.2)]? with
  | none => simp [inRange]; omega
  | some v =>
    have hm : v ∈ vs := List.mem_of_getElem? hg
    simpa using List.all_eq_true.mp h v hm

/-- the step of a valid slice item is positive -/
theorem sliceStep_pos_of_valid (n : Nat) (a b c : Option Int) (h : itemValid (n, Item.slice a b c) = true) :
    0 < sliceStep c := by
  cases c with
  | none => simp [sliceStep]
  | some k => simp only [itemValid, decide_eq_true_eq] at h; simp only [sliceStep]; omega

/-- source indices are in range, given in-range slice coordinates -/
theorem srcIndex_bound (tc : List Nat) : ∀ (zi : List (Nat × Item)) (sc : List Nat),
    (∀ x ∈ zi, itemValid x = true ∧ 0 < x.1) → List.Forall₂ (· < ·) sc (sliceLens zi) →
    List.Forall₂ (fun s (x : Nat × Item) => s < x.1) (srcIndex zi sc tc) zi := by
  intro zi
  induction zi with
  | nil => intro sc _ _; exact List.Forall₂.nil
  | cons x rest ih =>
    intro sc hv hsc
    obtain ⟨n, it⟩ := x
    have hx := hv (n, it) (List.mem_cons_self ..)
    have hrest : ∀ y ∈ rest, itemValid y = true ∧ 0 < y.1 := fun y hy => hv y (List.mem_cons_of_mem _ hy)
    cases it with
    | int i => exact .cons (wrap_lt n i hx.1) (ih sc hrest hsc)
    | slice a b c =>
      change List.Forall₂ (· < ·) sc (_ :: sliceLens rest) at hsc
      cases hsc with
      | cons h1 h2 => exact .cons (slice_src_lt n a b c (sliceStep_pos_of_valid n a b c hx.1) _ h1) (ih _ hrest h2)
    | ellipsis =>
      change List.Forall₂ (· < ·) sc (_ :: sliceLens rest) at hsc
      cases hsc with
      | cons h1 h2 => exact .cons h1 (ih _ hrest h2)
    | tensor sh vs =>
      exact .cons (wrap_lt n _ (tensorAt_inRange n hx.2 sh vs tc (Bool.and_eq_true_iff.mp hx.1).2)) (ih sc hrest hsc)

theorem specShape_eq (zi : List (Nat × Item)) :
    specShape zi = (sliceLens zi).take (if (tensorShapes zi).isEmpty then 0 else specPos (zi.map (·.2.kind)))
      ++ bcAll (tensorShapes zi)
      ++ (sliceLens zi).drop (if (tensorShapes zi).isEmpty then 0 else specPos (zi.map (·.2.kind))) := by
  unfold specShape
  cases h : tensorShapes zi with
  | nil => simp [bcAll]
  | cons s t => simp

theorem specPos_le (zi : List (Nat × Item)) :
    (if (tensorShapes zi).isEmpty then 0 else specPos (zi.map (·.2.kind))) ≤ (sliceLens zi).length := by
  split
  · exact Nat.zero_le _
  · unfold specPos
    split
    · exact Nat.zero_le _
    · exact slicesBeforeT_le zi

theorem specShape_length_ge (zi : List (Nat × Item)) : (sliceLens zi).length ≤ (specShape zi).length := by
  rw [specShape_eq]
  simp only [List.length_append, List.length_take, List.length_drop]; omega

/-- reading through the converted index = torch's reading at every coordinate of the result box -/
theorem convSrc_eq_specSrc_box (zi : List (Nat × Item)) (r : List Nat) (hr : r ∈ box (specShape zi)) :
    convSrc (bcAll (tensorShapes zi)).length zi r = specSrc (bcAll (tensorShapes zi)).length zi r :=
  convSrc_eq_specSrc zi r (by rw [box_length _ r hr]; exact specShape_length_ge zi)

/-- reading any `F` through the converted index over the result box is reading `G` through torch's index map, as soon as `F`
and `G` agree on what torch reads -/
theorem box_map_conv (zi : List (Nat × Item)) {α : Type} (F G : List Nat → α)
    (h : ∀ r ∈ box (specShape zi), F (specSrc (bcAll (tensorShapes zi)).length zi r) = G (specSrc (bcAll (tensorShapes zi)).length zi r)) :
    ((box (specShape zi)).map fun r => F (convSrc (bcAll (tensorShapes zi)).length zi r)) =
      (box (specShape zi)).map fun r => G (specSrc (bcAll (tensorShapes zi)).length zi r) :=
  List.map_congr_left fun r hr => by rw [convSrc_eq_specSrc_box zi r hr]; exact h r hr

/-- **every source index read by torch for a valid index is in range** -/
theorem specSrc_inRange (zi : List (Nat × Item)) (hv : ∀ x ∈ zi, itemValid x = true ∧ 0 < x.1)
    (r : List Nat) (hr : r ∈ box (specShape zi)) :
    List.Forall₂ (fun s (x : Nat × Item) => s < x.1) (specSrc (bcAll (tensorShapes zi)).length zi r) zi := by
  unfold specSrc
  apply srcIndex_bound _ zi _ hv
  have hb := box_forall₂ _ r hr
  rw [specShape_eq] at hb
  have hp := specPos_le zi
  generalize (if (tensorShapes zi).isEmpty then 0 else specPos (zi.map (·.2.kind))) = p at hb hp ⊢
  have hA : ((sliceLens zi).take p).length = p := by simp [List.length_take]; omega
  have h1 := List.forall₂_take p hb
  rw [List.append_assoc, List.take_left' hA] at h1
  have h2 := List.forall₂_drop (p + (bcAll (tensorShapes zi)).length) hb
  rw [List.drop_left' (by simp [List.length_append, hA])] at h2
  have := List.rel_append h1 h2
  simp only [List.take_append_drop] at this
  exact this

theorem forall₂_getD_lt (s : List Nat) (zi : List (Nat × Item))
    (h : List.Forall₂ (fun s (x : Nat × Item) => s < x.1) s zi) (i : Nat) (hi : i < zi.length) :
    s.getD i 0 < (zi.getD i (0, Item.ellipsis)).1 := by
  have hl := h.length_eq
  have := h.get (i := i) (by omega) hi
  simpa [List.getD_eq_getElem?_getD, hi, show i < s.length by omega] using this

/-- `__getitem__`'s tensor-index path (flatten → `_convert_indices_to_tensors` → `_get_indices(row, col, *batch)`) returns torch's
values for EVERY operator whose `_get_indices` reads the dense value in range, any number `m` of batch dims and every valid index
tuple -/
theorem getitem_refines_of_gi (op : Opv) (h : ∀ b i j, i < op.R → j < op.C → op.gi b i j = op.den b i j)
    (zi : List (Nat × Item)) (m : Nat) (hlen : zi.length = m + 2)
    (hR : (zi.getD m (0, Item.ellipsis)).1 = op.R) (hC : (zi.getD (m + 1) (0, Item.ellipsis)).1 = op.C)
    (hv : ∀ x ∈ zi, itemValid x = true ∧ 0 < x.1) :
    getitemOp op zi = denseGetitemOp op zi := by
  refine box_map_conv zi (fun s => op.gi (splitB s).1 (splitB s).2.1 (splitB s).2.2)
    (fun s => op.den (splitB s).1 (splitB s).2.1 (splitB s).2.2) fun r hr => ?_
  have hF := specSrc_inRange _ hv r hr
  have h1 := forall₂_getD_lt _ _ hF m (by omega)
  have h2 := forall₂_getD_lt _ _ hF (m + 1) (by omega)
  rw [hR] at h1; rw [hC] at h2
  simp only [splitB, hF.length_eq, hlen, Nat.add_sub_cancel, show m + 2 - 1 = m + 1 from rfl]
  exact h _ _ _ h1 h2

end LinOp.C03
