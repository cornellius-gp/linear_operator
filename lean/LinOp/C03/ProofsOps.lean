import LinOp.C03.Ops
import LinOp.Core.Index
/-! The refinement relation `Refines` (`_get_indices` / `_diagonal` against the dense value), one lemma per class constructor of
`LinOp/C03/Ops.lean`, and `Built` (everything made from the constructors with their side conditions) with `built_refines`. -/
namespace LinOp.C03

/-- `_get_indices` reads the dense value at every in-range entry, and (square operators) `_diagonal` is the dense main diagonal -/
def Refines (op : Opv) : Prop :=
  (∀ b i j, i < op.R → j < op.C → op.gi b i j = op.den b i j) ∧
  (op.R = op.C → ∀ b k, k < op.R → op.dg b k = op.den b k k)

/-- classes without a `_diagonal` override use the base class's `self[..., arange, arange]`, i.e. `_get_indices(k, k)`: for
them the diagonal half of `Refines` follows from the entry half -/
theorem Refines.of_gi {op : Opv} (hdg : ∀ b k, op.dg b k = op.gi b k k)
    (hgi : ∀ b i j, i < op.R → j < op.C → op.gi b i j = op.den b i j) : Refines op :=
  ⟨hgi, fun hsq b k hk => (hdg b k).trans (hgi b k k hk (hsq ▸ hk))⟩

/-! ### sums -/

theorem sumTo_congr (n : Nat) (f g : Nat → Int) (h : ∀ k, k < n → f k = g k) : sumTo n f = sumTo n g := by
  induction n with
  | zero => rfl
  | succ n ih => simp only [sumTo]; rw [ih (fun k hk => h k (by omega)), h n (by omega)]

theorem sumTo_zero (n : Nat) (f : Nat → Int) (h : ∀ k, k < n → f k = 0) : sumTo n f = 0 := by
  induction n with
  | zero => rfl
  | succ n ih => simp only [sumTo]; rw [ih (fun k hk => h k (by omega)), h n (by omega)]; rfl

theorem sumTo_single (n q : Nat) (f : Nat → Int) (hq : q < n) (h : ∀ k, k < n → k ≠ q → f k = 0) :
    sumTo n f = f q := by
  induction n with
  | zero => exact absurd hq (Nat.not_lt_zero _)
  | succ n ih =>
    rw [sumTo]
    by_cases hqn : q = n
    · subst hqn
      rw [sumTo_zero q f fun k hk => h k (Nat.lt_succ_of_lt hk) (Nat.ne_of_lt hk), Int.zero_add]
    · rw [ih (Nat.lt_of_le_of_ne (Nat.le_of_lt_succ hq) hqn) fun k hk => h k (Nat.lt_succ_of_lt hk),
        h n (Nat.lt_succ_self n) (Ne.symm hqn), Int.add_zero]

theorem listSum_congr {α : Type} (l : List α) (f g : α → Int) (h : ∀ x ∈ l, f x = g x) :
    (l.map f).sum = (l.map g).sum := by
  rw [List.map_congr_left h]

/-! ### index arithmetic: Toeplitz, BlockDiag, interleaving -/

/-- `(row - col).fmod(n).abs()` is `|row - col| mod n`, whatever the arguments: in range it is `|row - col|`, out of range
it wraps instead of failing. -/
theorem toepIdx_eq_mod (n : Nat) (i j : Int) : toepIdx n i j = (i - j).natAbs % n := by
  rw [toepIdx, fmod, Int.natAbs_tmod, Int.natAbs_natCast]

theorem toepIdx_eq (n i j : Nat) (hi : i < n) (hj : j < n) : toepIdx n i j = ((i : Int) - j).natAbs := by
  rw [toepIdx_eq_mod]
  exact Nat.mod_eq_of_lt (by omega)

/-- closed form of the recursive block-diagonal matrix, for ALL `i, j`: the entry lies in block `i / m` if that is also
`j / n`, and is zero otherwise (outside the `Bs.length` blocks the `getD` default is the zero block). -/
theorem blockDiagSpec_eq (m n : Nat) (hm : 0 < m) (hn : 0 < n) (Bs : List (Nat → Nat → Int)) :
    ∀ i j, blockDiagSpec m n Bs i j =
      if i / m = j / n then Bs.getD (i / m) (fun _ _ => 0) (i % m) (j % n) else 0 := by
  induction Bs with
  | nil => intro i j; simp only [blockDiagSpec, List.getD_nil, ite_self]
  | cons B rest ih =>
    intro i j
    rw [blockDiagSpec]
    by_cases hi : i < m
    · by_cases hj : j < n
      · rw [if_pos ⟨hi, hj⟩, Nat.div_eq_of_lt hi, Nat.div_eq_of_lt hj, Nat.mod_eq_of_lt hi, Nat.mod_eq_of_lt hj]
        rfl
      · rw [if_neg (fun h => hj h.2), if_neg (fun h => Nat.not_le_of_lt hi h.1), Nat.div_eq_of_lt hi,
          if_neg (Nat.ne_of_lt (Nat.div_pos (Nat.le_of_not_lt hj) hn))]
    · obtain ⟨i, rfl⟩ := Nat.exists_eq_add_of_le (Nat.le_of_not_lt hi)
      rw [if_neg (fun h => hi h.1), Nat.add_div_left _ hm]
      by_cases hj : j < n
      · rw [if_neg (fun h => Nat.not_le_of_lt hj h.2), Nat.div_eq_of_lt hj, if_neg (Nat.succ_ne_zero _)]
      · obtain ⟨j, rfl⟩ := Nat.exists_eq_add_of_le (Nat.le_of_not_lt hj)
        rw [if_pos ⟨Nat.le_add_right .., Nat.le_add_right ..⟩, Nat.add_sub_cancel_left, Nat.add_sub_cancel_left, ih,
          Nat.add_div_left _ hn, Nat.add_mod_left, Nat.add_mod_left, List.getD_cons_succ]
        simp only [Nat.add_right_cancel_iff]

/-- the mask `… * torch.eq(a, b)` of the `_get_indices` overrides -/
theorem mul_mask (x : Int) (c : Prop) [Decidable c] : x * (if c then 1 else 0) = if c then x else 0 := by
  split
  · exact Int.mul_one x
  · exact Int.mul_zero x

/-! ### leaves -/

theorem refines_dense (R C : Nat) (f : List Nat → Nat → Nat → Int) : Refines (Opv.dense R C f) :=
  Refines.of_gi (fun _ _ => rfl) fun _ _ _ _ _ => rfl

theorem refines_diag (n : Nat) (d : List Nat → Nat → Int) : Refines (Opv.diag n d) := by
  refine ⟨fun b i j _ _ => ?_, fun _ b k _ => (if_pos rfl).symm⟩
  simp only [Opv.diag, beq_iff_eq, mul_mask]

theorem refines_zero (R C : Nat) : Refines (Opv.zero R C) := Refines.of_gi (fun _ _ => rfl) fun _ _ _ _ _ => rfl

theorem refines_toeplitz (n : Nat) (col : List Nat → Nat → Int) : Refines (Opv.toeplitz n col) := by
  refine ⟨fun b i j hi hj => ?_, fun _ b k _ => ?_⟩
  · simp only [Opv.toeplitz] at hi hj ⊢; rw [toepIdx_eq n i j hi hj]
  · simp [Opv.toeplitz]

/-! ### Kronecker -/

theorem rowsOf_facGi (fs : List Opv) (b) : rowsOf (Opv.facGi fs b) = fs.map (·.R) := by
  simp [rowsOf, Opv.facGi, Function.comp_def]
theorem colsOf_facGi (fs : List Opv) (b) : colsOf (Opv.facGi fs b) = fs.map (·.C) := by
  simp [colsOf, Opv.facGi, Function.comp_def]
theorem rowsOf_facDen (fs : List Opv) (b) : rowsOf (Opv.facDen fs b) = fs.map (·.R) := by
  simp [rowsOf, Opv.facDen, Function.comp_def]
theorem colsOf_facDen (fs : List Opv) (b) : colsOf (Opv.facDen fs b) = fs.map (·.C) := by
  simp [colsOf, Opv.facDen, Function.comp_def]

theorem kronSpec_congr (b : List Nat) (fs : List Opv)
    (h : ∀ o ∈ fs, ∀ i j, i < o.R → j < o.C → o.gi b i j = o.den b i j) :
    ∀ i j, i < prodNat (fs.map (·.R)) → j < prodNat (fs.map (·.C)) →
      kronSpec (Opv.facGi fs b) i j = kronSpec (Opv.facDen fs b) i j := by
  induction fs with
  | nil => intro i j _ _; rfl
  | cons o t ih =>
    intro i j hi hj
    have e1 : Opv.facGi (o :: t) b = (o.gi b, o.R, o.C) :: Opv.facGi t b := rfl
    have e2 : Opv.facDen (o :: t) b = (o.den b, o.R, o.C) :: Opv.facDen t b := rfl
    rw [e1, e2]
    simp only [kronSpec, rowsOf_facGi, colsOf_facGi, rowsOf_facDen, colsOf_facDen]
    simp only [List.map_cons, prodNat_cons] at hi hj
    have hP : 0 < prodNat (t.map (·.R)) := Nat.pos_of_lt_mul_left hi
    have hQ : 0 < prodNat (t.map (·.C)) := Nat.pos_of_lt_mul_left hj
    have hi1 : i / prodNat (t.map (·.R)) < o.R := Nat.div_lt_of_lt_mul (Nat.mul_comm .. ▸ hi)
    have hj1 : j / prodNat (t.map (·.C)) < o.C := Nat.div_lt_of_lt_mul (Nat.mul_comm .. ▸ hj)
    rw [h o (List.mem_cons_self ..) _ _ hi1 hj1,
      ih (fun o' ho' => h o' (List.mem_cons_of_mem _ ho')) _ _ (Nat.mod_lt _ hP) (Nat.mod_lt _ hQ)]

theorem kronModel_eq_spec (fs : List Factor) (i j : Nat)
    (hi : i < prodNat (rowsOf fs)) (hj : j < prodNat (colsOf fs)) : kronModel fs i j = kronSpec fs i j := by
  have h := kron_go fs i j (by omega) (by omega)
  rw [Nat.mod_eq_of_lt hi, Nat.mod_eq_of_lt hj] at h
  exact h

theorem kronDiag_eq (b : List Nat) (fs : List Opv) (hsq : ∀ o ∈ fs, o.R = o.C)
    (h : ∀ o ∈ fs, ∀ q, q < o.R → o.dg b q = o.den b q q) :
    ∀ k, k < prodNat (fs.map (·.R)) →
      Opv.kronDiag (fs.map fun o => (o.dg b, o.R)) k = kronSpec (Opv.facDen fs b) k k := by
  induction fs with
  | nil => intro k _; rfl
  | cons o t ih =>
    intro k hk
    have e2 : Opv.facDen (o :: t) b = (o.den b, o.R, o.C) :: Opv.facDen t b := rfl
    have hRC : t.map (·.C) = t.map (·.R) :=
      List.map_congr_left (fun o' ho' => (hsq o' (List.mem_cons_of_mem _ ho')).symm)
    rw [e2]
    simp only [List.map_cons, Opv.kronDiag, kronSpec, rowsOf_facDen, colsOf_facDen, List.map_map, hRC]
    have hm : ((fun (x : (Nat → Int) × Nat) => x.2) ∘ fun (o : Opv) => (o.dg b, o.R)) = fun o => o.R := rfl
    rw [hm]
    simp only [List.map_cons, prodNat_cons] at hk
    have hP : 0 < prodNat (t.map (·.R)) := Nat.pos_of_lt_mul_left hk
    have hk1 : k / prodNat (t.map (·.R)) < o.R := Nat.div_lt_of_lt_mul (Nat.mul_comm .. ▸ hk)
    rw [h o (List.mem_cons_self ..) _ hk1,
      ih (fun o' ho' => hsq o' (List.mem_cons_of_mem _ ho')) (fun o' ho' => h o' (List.mem_cons_of_mem _ ho')) _
        (Nat.mod_lt _ hP)]

theorem refines_kron (fs : List Opv) (h : ∀ o ∈ fs, Refines o) : Refines (Opv.kron fs) := by
  have hgi : ∀ b i j, i < (Opv.kron fs).R → j < (Opv.kron fs).C → (Opv.kron fs).gi b i j = (Opv.kron fs).den b i j := by
    intro b i j hi hj
    simp only [Opv.kron] at hi hj ⊢
    rw [kronModel_eq_spec _ _ _ (by rw [rowsOf_facGi]; exact hi) (by rw [colsOf_facGi]; exact hj)]
    exact kronSpec_congr b fs (fun o ho => (h o ho).1 b) i j hi hj
  refine ⟨hgi, fun hsq b k hk => ?_⟩
  show (if fs.all (fun o => o.R == o.C) then _ else _) = _
  by_cases hall : fs.all (fun o => o.R == o.C) = true
  · have hsq' : ∀ o ∈ fs, o.R = o.C := fun o ho => beq_iff_eq.mp (List.all_eq_true.mp hall o ho)
    rw [if_pos hall]
    exact kronDiag_eq b fs hsq' (fun o ho q hq => (h o ho).2 (hsq' o ho) b q hq) k hk
  · rw [if_neg hall]
    exact hgi b k k hk (hsq ▸ hk)

/-! ### blocks -/

theorem getD_range_map {α : Type} (k blk : Nat) (f : Nat → α) (d : α) (h : blk < k) :
    ((List.range k).map f).getD blk d = f blk := by
  simp [List.getD_eq_getElem?_getD, h]

/-- the dense value of `BlockDiag` over `k` blocks in closed form: block `i / R` of the base at `(i % R, j % C)` on the
diagonal blocks, zero elsewhere -/
theorem blockDiag_den (k : Nat) (base : Opv) (b : List Nat) (i j : Nat) (hR : 0 < base.R) (hC : 0 < base.C)
    (hi : i / base.R < k) :
    (Opv.blockDiag k base).den b i j =
      if i / base.R = j / base.C then base.den (b ++ [i / base.R]) (i % base.R) (j % base.C) else 0 := by
  show blockDiagSpec _ _ _ i j = _
  rw [blockDiagSpec_eq _ _ hR hC, getD_range_map _ _ _ _ hi]

theorem refines_blockDiag (k : Nat) (base : Opv) (h : Refines base) : Refines (Opv.blockDiag k base) := by
  refine ⟨fun b i j hi hj => ?_, fun hsq b q hq => ?_⟩
  · have hm : 0 < base.R := Nat.pos_of_lt_mul_right hi
    have hn : 0 < base.C := Nat.pos_of_lt_mul_right hj
    rw [blockDiag_den k base b i j hm hn (Nat.div_lt_of_lt_mul hi), ← h.1 _ _ _ (Nat.mod_lt _ hm) (Nat.mod_lt _ hn)]
    simp only [Opv.blockDiag, blockDiagIdx, beq_iff_eq, mul_mask]
  · have hm : 0 < base.R := Nat.pos_of_lt_mul_right hq
    have hRC : base.R = base.C := Nat.eq_of_mul_eq_mul_right (Nat.pos_of_lt_mul_left hq) hsq
    rw [blockDiag_den k base b q q hm (hRC ▸ hm) (Nat.div_lt_of_lt_mul hq), ← hRC, if_pos rfl]
    exact h.2 hRC _ _ (Nat.mod_lt _ hm)

theorem refines_blockInter (k : Nat) (base : Opv) (h : Refines base) : Refines (Opv.blockInter k base) := by
  refine ⟨fun b i j hi hj => ?_, fun hsq b q hq => ?_⟩
  · have h1 : i / k < base.R := Nat.div_lt_of_lt_mul (Nat.mul_comm .. ▸ hi)
    have h2 : j / k < base.C := Nat.div_lt_of_lt_mul (Nat.mul_comm .. ▸ hj)
    simp only [Opv.blockInter, blockInterIdx, beq_iff_eq, mul_mask, h.1 _ _ _ h1 h2]
  · have hRC : base.R = base.C := Nat.eq_of_mul_eq_mul_right (Nat.pos_of_lt_mul_left hq) hsq
    simp only [Opv.blockInter, if_true]
    exact h.2 hRC _ _ (Nat.div_lt_of_lt_mul (Nat.mul_comm .. ▸ hq))

theorem refines_sumBatch (k : Nat) (base : Opv) (h : Refines base) : Refines (Opv.sumBatch k base) := by
  refine ⟨fun b i j hi hj => ?_, fun hsq b q hq => ?_⟩
  · exact sumTo_congr _ _ _ (fun s _ => h.1 _ _ _ hi hj)
  · exact sumTo_congr _ _ _ (fun s _ => h.2 hsq _ _ hq)

theorem refines_batchRepeat (sizes : List Nat) (base : Opv) (h : Refines base) :
    Refines (Opv.batchRepeat sizes base) :=
  Refines.of_gi (fun _ _ => rfl) fun _ _ _ hi hj => h.1 _ _ _ hi hj

/-! ### concatenation -/

theorem catGet_eq_spec (ps : List (Nat × (Nat → Int))) : ∀ x, Opv.catGet ps x = Opv.catSpecG ps x := by
  induction ps with
  | nil => intro x; rfl
  | cons p rest ih =>
    intro x
    obtain ⟨s, f⟩ := p
    rw [Opv.catGet, List.map_cons, Opv.catSpecG]
    by_cases hx : x < s
    · rw [catLocate_cons_lt _ hx, if_pos hx]; rfl
    · rw [catLocate_cons_ge _ (Nat.le_of_not_lt hx), if_neg hx, ← ih (x - s)]; rfl

theorem catSpecG_congr {α : Type} (ps : List α) (size : α → Nat) (F G : α → Nat → Int)
    (h : ∀ p ∈ ps, ∀ l, l < size p → F p l = G p l) :
    ∀ x, Opv.catSpecG (ps.map fun p => (size p, F p)) x = Opv.catSpecG (ps.map fun p => (size p, G p)) x := by
  induction ps with
  | nil => intro x; rfl
  | cons p rest ih =>
    intro x
    simp only [List.map_cons, Opv.catSpecG]
    by_cases hx : x < size p
    · simp [hx, h p (List.mem_cons_self ..) x hx]
    · simp only [hx, if_false]
      exact ih (fun p' hp' => h p' (List.mem_cons_of_mem _ hp')) _

theorem refines_catRows (C : Nat) (ps : List Opv) (h : ∀ p ∈ ps, Refines p ∧ p.C = C) :
    Refines (Opv.catRows C ps) :=
  Refines.of_gi (fun _ _ => rfl) fun b i j _ hj =>
    (catGet_eq_spec _ i).trans <|
      catSpecG_congr ps (·.R) (fun p l => p.gi b l j) (fun p l => p.den b l j)
        (fun p hp l hl => (h p hp).1.1 b l j hl ((h p hp).2 ▸ hj)) i

theorem refines_catCols (R : Nat) (ps : List Opv) (h : ∀ p ∈ ps, Refines p ∧ p.R = R) :
    Refines (Opv.catCols R ps) :=
  Refines.of_gi (fun _ _ => rfl) fun b i j hi _ =>
    (catGet_eq_spec _ j).trans <|
      catSpecG_congr ps (·.C) (fun p l => p.gi b i l) (fun p l => p.den b i l)
        (fun p hp l hl => (h p hp).1.1 b i l ((h p hp).2 ▸ hi) hl) j

theorem refines_catBatch (R C pos : Nat) (ps : List (Nat × Opv)) (h : ∀ p ∈ ps, Refines p.2 ∧ p.2.R = R ∧ p.2.C = C) :
    Refines (Opv.catBatch R C pos ps) := by
  refine ⟨fun b i j hi hj => ?_, fun hsq b q hq => ?_⟩
  · simp only [Opv.catBatch] at hi hj ⊢
    rw [catGet_eq_spec]
    exact catSpecG_congr ps (·.1) (fun p l => p.2.gi (b.set pos l) i j) (fun p l => p.2.den (b.set pos l) i j)
      (fun p hp l _ => (h p hp).1.1 _ i j (by rw [(h p hp).2.1]; exact hi) (by rw [(h p hp).2.2]; exact hj)) _
  · simp only [Opv.catBatch] at hsq hq ⊢
    rw [catGet_eq_spec]
    exact catSpecG_congr ps (·.1) (fun p l => p.2.dg (b.set pos l) q) (fun p l => p.2.den (b.set pos l) q q)
      (fun p hp l _ => (h p hp).1.2 (by rw [(h p hp).2.1, (h p hp).2.2]; exact hsq) _ q
        (by rw [(h p hp).2.1]; exact hq)) _

/-! ### interpolation, roots, products, sums -/

theorem refines_interp (R C : Nat) (li ri : List Nat → Nat → List (Nat × Int)) (base : Opv) (h : Refines base)
    (hl : ∀ b i, i < R → ∀ p ∈ li b i, p.1 < base.R) (hr : ∀ b j, j < C → ∀ q ∈ ri b j, q.1 < base.C) :
    Refines (Opv.interp R C li ri base) :=
  Refines.of_gi (fun _ _ => rfl) fun b i j hi hj =>
    listSum_congr _ _ _ fun p hp => listSum_congr _ _ _ fun q hq => by
      rw [h.1 b p.1 q.1 (hl b i hi p hp) (hr b j hj q hq)]

theorem refines_tri (base : Opv) (h : Refines base) : Refines (Opv.tri base) := h

theorem refines_root (denseRoot : Bool) (rt : Opv) (h : Refines rt) : Refines (Opv.root denseRoot rt) := by
  have key : ∀ b i j, i < rt.R → j < rt.R → (Opv.root denseRoot rt).gi b i j = (Opv.root denseRoot rt).den b i j := by
    intro b i j hi hj
    exact sumTo_congr _ _ _ (fun k hk => by rw [h.1 b i k hi hk, h.1 b j k hj hk])
  refine ⟨key, fun _ b q hq => ?_⟩
  cases denseRoot
  · exact key b q q hq hq
  · rfl

theorem refines_matmul (mode : Nat) (A B : Opv) (hA : Refines A) (hB : Refines B) (hAB : A.C = B.R)
    (hd : mode = 1 → A.R = A.C ∧ B.R = B.C ∧
      ((∀ b i k, i ≠ k → A.den b i k = 0) ∨ (∀ b k j, k ≠ j → B.den b k j = 0))) :
    Refines (Opv.matmul mode A B) := by
  have key : ∀ b i j, i < A.R → j < B.C → (Opv.matmul mode A B).gi b i j = (Opv.matmul mode A B).den b i j := by
    intro b i j hi hj
    exact sumTo_congr _ _ _ (fun k hk => by rw [hA.1 b i k hi hk, hB.1 b k j (hAB ▸ hk) hj])
  refine ⟨key, fun hsq b q hq => ?_⟩
  simp only [Opv.matmul] at hsq hq ⊢
  by_cases h0 : mode = 0
  · rw [if_pos h0]
  · rw [if_neg h0]
    by_cases h1 : mode = 1
    · obtain ⟨hAs, hBs, hdiag⟩ := hd h1
      rw [if_pos h1, hA.2 hAs b q hq, hB.2 hBs b q (by omega)]
      refine (sumTo_single _ q (fun k => A.den b q k * B.den b k q) (hAs ▸ hq) fun k _ hne => ?_).symm
      rcases hdiag with hz | hz
      · rw [hz b q k (Ne.symm hne), Int.zero_mul]
      · rw [hz b k q hne, Int.mul_zero]
    · rw [if_neg h1]
      exact key b q q hq (hsq ▸ hq)

theorem refines_sum (R C : Nat) (ps : List Opv) (h : ∀ p ∈ ps, Refines p ∧ p.R = R ∧ p.C = C) :
    Refines (Opv.sum R C ps) := by
  refine ⟨fun b i j hi hj => ?_, fun hsq b q hq => ?_⟩
  · exact listSum_congr _ _ _ (fun p hp => (h p hp).1.1 b i j (by rw [(h p hp).2.1]; exact hi) (by rw [(h p hp).2.2]; exact hj))
  · exact listSum_congr _ _ _ (fun p hp => (h p hp).1.2 (by rw [(h p hp).2.1, (h p hp).2.2]; exact hsq) b q
      (by rw [(h p hp).2.1]; exact hq))

theorem refines_constMul (c : List Nat → Int) (base : Opv) (h : Refines base) : Refines (Opv.constMul c base) := by
  refine ⟨fun b i j hi hj => ?_, fun hsq b q hq => ?_⟩
  · simp only [Opv.constMul]; rw [h.1 b i j hi hj]
  · simp only [Opv.constMul]; rw [h.2 hsq b q hq]

theorem refines_mul (A B : Opv) (hA : Refines A) (hB : Refines B) (hR : B.R = A.R) (hC : B.C = A.C) :
    Refines (Opv.mul A B) := by
  refine ⟨fun b i j hi hj => ?_, fun hsq b q hq => ?_⟩
  · simp only [Opv.mul]; rw [hA.1 b i j hi hj, hB.1 b i j (hR ▸ hi) (hC ▸ hj)]
  · simp only [Opv.mul] at hsq hq ⊢; rw [hA.2 hsq b q hq, hB.2 (by omega) b q (by omega)]

theorem getD_mem_lt (l : List Nat) (n i : Nat) (h : ∀ x ∈ l, x < n) (hi : i < l.length) : l.getD i 0 < n := by
  have : l.getD i 0 = l[i] := by simp [List.getD_eq_getElem?_getD, hi]
  rw [this]; exact h _ (List.getElem_mem hi)

theorem refines_masked (rowMap colMap : List Nat) (base : Opv) (h : Refines base)
    (hr : ∀ x ∈ rowMap, x < base.R) (hc : ∀ x ∈ colMap, x < base.C)
    (hd : rowMap.length = colMap.length → rowMap = colMap ∧ base.R = base.C) :
    Refines (Opv.masked rowMap colMap base) := by
  refine ⟨fun b i j hi hj => ?_, fun hsq b q hq => ?_⟩
  · exact h.1 b _ _ (getD_mem_lt _ _ _ hr hi) (getD_mem_lt _ _ _ hc hj)
  · obtain ⟨he, hs⟩ := hd hsq
    simp only [Opv.masked] at hq ⊢
    rw [← he]
    exact h.2 hs b _ (getD_mem_lt _ _ _ hr hq)

theorem transPerm_arith (m i j : Nat) (hi : i < m * m) :
    ((i % m) * m + i / m = j) ↔ (i / m = j % m ∧ i % m = j / m) := by
  have hc : i / m < m := Nat.div_lt_of_lt_mul hi
  constructor
  · rintro rfl
    exact ⟨(Nat.mul_add_mod_of_lt hc).symm, (mul_add_div_of_lt hc).symm⟩
  · rintro ⟨h1, h2⟩
    rw [h1, h2, Nat.mul_comm]
    exact Nat.div_add_mod j m

theorem refines_transPerm (m : Nat) : Refines (Opv.transPerm m) :=
  Refines.of_gi (fun _ _ => rfl) fun b i j hi _ => by
    simp only [Opv.transPerm, beq_iff_eq, transPerm_arith m i j hi]

theorem refines_fallback (R C : Nat) (den : List Nat → Nat → Nat → Int) : Refines (Opv.fallback R C den) :=
  Refines.of_gi (fun _ _ => rfl) fun b i j hi hj => by
    simp only [Opv.fallback]
    rw [sumTo_single R i _ hi fun k _ hne => by rw [if_neg hne, Int.zero_mul],
      sumTo_single C j _ hj fun k _ hne => by rw [if_neg hne, Int.mul_zero],
      if_pos rfl, if_pos rfl, Int.one_mul, Int.mul_one]

/-! ### the operator type: everything built from the class constructors (with their well-formedness side conditions) -/

inductive Built : Opv → Prop
  | dense (R C f) : Built (Opv.dense R C f)
  | diag (n d) : Built (Opv.diag n d)
  | zero (R C) : Built (Opv.zero R C)
  | toeplitz (n col) : Built (Opv.toeplitz n col)
  | kron (fs : List Opv) : (∀ o ∈ fs, Built o) → Built (Opv.kron fs)
  | blockDiag (k base) : Built base → Built (Opv.blockDiag k base)
  | blockInter (k base) : Built base → Built (Opv.blockInter k base)
  | sumBatch (k base) : Built base → Built (Opv.sumBatch k base)
  | batchRepeat (sizes base) : Built base → Built (Opv.batchRepeat sizes base)
  | catRows (C) (ps : List Opv) : (∀ p ∈ ps, Built p) → (∀ p ∈ ps, p.C = C) → Built (Opv.catRows C ps)
  | catCols (R) (ps : List Opv) : (∀ p ∈ ps, Built p) → (∀ p ∈ ps, p.R = R) → Built (Opv.catCols R ps)
  | catBatch (R C pos) (ps : List (Nat × Opv)) : (∀ p ∈ ps, Built p.2) → (∀ p ∈ ps, p.2.R = R ∧ p.2.C = C) →
      Built (Opv.catBatch R C pos ps)
  | interp (R C li ri base) : Built base → (∀ b i, i < R → ∀ p ∈ li b i, p.1 < base.R) →
      (∀ b j, j < C → ∀ q ∈ ri b j, q.1 < base.C) → Built (Opv.interp R C li ri base)
  | tri (base) : Built base → Built (Opv.tri base)
  | root (denseRoot rt) : Built rt → Built (Opv.root denseRoot rt)
  | matmul (mode A B) : Built A → Built B → A.C = B.R →
      (mode = 1 → A.R = A.C ∧ B.R = B.C ∧
        ((∀ b i k, i ≠ k → A.den b i k = 0) ∨ (∀ b k j, k ≠ j → B.den b k j = 0))) → Built (Opv.matmul mode A B)
  | sum (R C) (ps : List Opv) : (∀ p ∈ ps, Built p) → (∀ p ∈ ps, p.R = R ∧ p.C = C) → Built (Opv.sum R C ps)
  | constMul (c base) : Built base → Built (Opv.constMul c base)
  | mul (A B) : Built A → Built B → B.R = A.R → B.C = A.C → Built (Opv.mul A B)
  | masked (rowMap colMap base) : Built base → (∀ x ∈ rowMap, x < base.R) → (∀ x ∈ colMap, x < base.C) →
      (rowMap.length = colMap.length → rowMap = colMap ∧ base.R = base.C) → Built (Opv.masked rowMap colMap base)
  | transPerm (m) : Built (Opv.transPerm m)
  | fallback (R C den) : Built (Opv.fallback R C den)

theorem built_refines (op : Opv) (h : Built op) : Refines op := by
  induction h with
  | dense R C f => exact refines_dense R C f
  | diag n d => exact refines_diag n d
  | zero R C => exact refines_zero R C
  | toeplitz n col => exact refines_toeplitz n col
  | kron fs _ ih => exact refines_kron fs ih
  | blockDiag k base _ ih => exact refines_blockDiag k base ih
  | blockInter k base _ ih => exact refines_blockInter k base ih
  | sumBatch k base _ ih => exact refines_sumBatch k base ih
  | batchRepeat sizes base _ ih => exact refines_batchRepeat sizes base ih
  | catRows C ps _ hC ih => exact refines_catRows C ps (fun p hp => ⟨ih p hp, hC p hp⟩)
  | catCols R ps _ hR ih => exact refines_catCols R ps (fun p hp => ⟨ih p hp, hR p hp⟩)
  | catBatch R C pos ps _ hRC ih => exact refines_catBatch R C pos ps (fun p hp => ⟨ih p hp, hRC p hp⟩)
  | interp R C li ri base _ hl hr ih => exact refines_interp R C li ri base ih hl hr
  | tri base _ ih => exact refines_tri base ih
  | root dr rt _ ih => exact refines_root dr rt ih
  | matmul mode A B _ _ hAB hd ihA ihB => exact refines_matmul mode A B ihA ihB hAB hd
  | sum R C ps _ hRC ih => exact refines_sum R C ps (fun p hp => ⟨ih p hp, hRC p hp⟩)
  | constMul c base _ ih => exact refines_constMul c base ih
  | mul A B _ _ hR hC ihA ihB => exact refines_mul A B ihA ihB hR hC
  | masked rowMap colMap base _ hr hc hd ih => exact refines_masked rowMap colMap base ih hr hc hd
  | transPerm m => exact refines_transPerm m
  | fallback R C den => exact refines_fallback R C den

end LinOp.C03
