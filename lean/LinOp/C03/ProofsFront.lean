import LinOp.C03.Front
import LinOp.C03.ProofsRange
import LinOp.C03.ProofsGetitem
import LinOp.Core.Index
/-! The `__getitem__` front end.  `_normalize_negative_index` does not change what torch reads (`*_normalise`), so the values
computed on the normalised index are torch's values for the original one (`normalised_values`); after a successful ellipsis
expansion the row / column guard of the model cannot fire (`zip_rowcol`), so the front end is one `if` (`frontEnd_of_expand`);
the guarded front end answers exactly when the guard is silent and the front end answers (`frontEndG_ok_iff`). -/
namespace LinOp.C03

theorem wrap_wrap (n : Nat) (i : Int) : wrap n ((wrap n i : Nat) : Int) = wrap n i := wrap_natCast n _

theorem tensorAt_map (n : Nat) (sh : List Nat) (vs : List Int) (tc : List Nat) :
    tensorAt sh (vs.map fun v => ((wrap n v : Nat) : Int)) tc = ((wrap n (tensorAt sh vs tc) : Nat) : Int) := by
  unfold tensorAt
  simp only [List.getD_eq_getElem?_getD, List.getElem?_map]
  cases vs[flatIndex sh ((List.zip sh (tc.drop (tc.length - sh.length))).map fun x => if x.1 = 1 then 0 else x.2)]? with
  | none => exact congrArg Int.ofNat (wrap_natCast n 0).symm
  | some v => rfl

/-- `_normalize_negative_index` keeps the constructor of every item, so whatever reads only constructors, slice bounds
and tensor shapes is unchanged. -/
theorem kind_normItem (n : Nat) (it : Item) : (normItem n it).kind = it.kind := by cases it <;> rfl

theorem sliceLens_normalise (zi : List (Nat × Item)) : sliceLens (normalise zi) = sliceLens zi := by
  induction zi with
  | nil => rfl
  | cons x r ih =>
    obtain ⟨n, it⟩ := x
    cases it with
    | int i => exact ih
    | slice a b c => exact congrArg (sliceLen n a b c :: ·) ih
    | ellipsis => exact congrArg (n :: ·) ih
    | tensor sh vs => exact ih

theorem tensorShapes_normalise (zi : List (Nat × Item)) : tensorShapes (normalise zi) = tensorShapes zi := by
  induction zi with
  | nil => rfl
  | cons x r ih =>
    obtain ⟨n, it⟩ := x
    cases it with
    | tensor sh vs => exact congrArg (sh :: ·) ih
    | _ => exact ih

theorem kinds_normalise (zi : List (Nat × Item)) : (normalise zi).map (·.2.kind) = zi.map (·.2.kind) := by
  rw [normalise, List.map_map]
  exact List.map_congr_left fun x _ => kind_normItem x.1 x.2

theorem specShape_normalise (zi : List (Nat × Item)) : specShape (normalise zi) = specShape zi := by
  unfold specShape
  simp only [sliceLens_normalise, tensorShapes_normalise, kinds_normalise]

theorem srcIndex_normalise (zi : List (Nat × Item)) : ∀ sc tc, srcIndex (normalise zi) sc tc = srcIndex zi sc tc := by
  induction zi with
  | nil => intro sc tc; rfl
  | cons x r ih =>
    intro sc tc
    obtain ⟨n, it⟩ := x
    have hn : normalise ((n, it) :: r) = (n, normItem n it) :: normalise r := rfl
    rw [hn]
    cases it with
    | int i => simp only [normItem, srcIndex, ih, wrap_wrap]
    | slice a b c => simp only [normItem, srcIndex, ih]
    | ellipsis => simp only [normItem, srcIndex, ih]
    | tensor sh vs => simp only [normItem, srcIndex, ih, tensorAt_map, wrap_wrap]

theorem specSrc_normalise (k : Nat) (zi : List (Nat × Item)) (r : List Nat) :
    specSrc k (normalise zi) r = specSrc k zi r := by
  unfold specSrc
  simp only [tensorShapes_normalise, kinds_normalise, srcIndex_normalise]

theorem denseGetitemOp_normalise (op : Opv) (zi : List (Nat × Item)) :
    denseGetitemOp op (normalise zi) = denseGetitemOp op zi := by
  unfold denseGetitemOp
  simp only [specShape_normalise, tensorShapes_normalise, specSrc_normalise]

theorem inRange_wrap (n : Nat) (i : Int) (h : inRange n i = true) : inRange n ((wrap n i : Nat) : Int) = true :=
  inRange_natCast (wrap_lt n i h)

theorem itemValid_normItem (n : Nat) (it : Item) (h : itemValid (n, it) = true) :
    itemValid (n, normItem n it) = true := by
  cases it with
  | int i => exact inRange_wrap n i h
  | slice a b c => exact h
  | ellipsis => rfl
  | tensor sh vs =>
    simp only [itemValid, normItem, Bool.and_eq_true, List.all_eq_true, List.length_map, List.mem_map] at h ⊢
    refine ⟨h.1, ?_⟩
    rintro v ⟨w, hw, rfl⟩
    exact inRange_wrap n w (h.2 w hw)

theorem valid_normalise (zi : List (Nat × Item)) (hv : ∀ x ∈ zi, itemValid x = true ∧ 0 < x.1) :
    ∀ x ∈ normalise zi, itemValid x = true ∧ 0 < x.1 := by
  intro x hx
  obtain ⟨y, hy, rfl⟩ := List.mem_map.mp hx
  exact ⟨itemValid_normItem y.1 y.2 (hv y hy).1, (hv y hy).2⟩

theorem normalise_length (zi : List (Nat × Item)) : (normalise zi).length = zi.length := by simp [normalise]

theorem normalise_getD_fst (zi : List (Nat × Item)) (i : Nat) :
    ((normalise zi).getD i (0, Item.ellipsis)).1 = (zi.getD i (0, Item.ellipsis)).1 := by
  simp only [normalise, List.getD_eq_getElem?_getD, List.getElem?_map]
  cases zi[i]? <;> rfl

/-! ### the row and the column item of an index tuple -/

theorem fst_getD_zip {α β : Type} (l : List α) : ∀ (e : List β) (i : Nat) (d : α × β), l.length ≤ e.length →
    ((l.zip e).getD i d).1 = l.getD i d.1 := by
  induction l with
  | nil => intro e i d _; rfl
  | cons a t ih =>
    intro e i d h
    cases e with
    | nil => exact absurd h (Nat.not_succ_le_zero _)
    | cons b e =>
      cases i with
      | zero => rfl
      | succ i => exact ih e i d (Nat.le_of_succ_le_succ h)

/-- the zipped, expanded index of an operator with batch shape `bdims`: its last two items sit on the row and the column dim -/
theorem zip_rowcol (op : Opv) (bdims : List Nat) (idx e : List Item)
    (he : expandEllipsis (bdims ++ [op.R, op.C]).length idx = some e) :
    (List.zip (bdims ++ [op.R, op.C]) e).length = bdims.length + 2 ∧
    ((List.zip (bdims ++ [op.R, op.C]) e).getD bdims.length (0, Item.ellipsis)).1 = op.R ∧
    ((List.zip (bdims ++ [op.R, op.C]) e).getD (bdims.length + 1) (0, Item.ellipsis)).1 = op.C := by
  have hlen : (bdims ++ [op.R, op.C]).length ≤ e.length := Nat.le_of_eq (expandEllipsis_length _ _ _ he).symm
  exact ⟨by rw [List.length_zip, Nat.min_eq_left hlen]; exact List.length_append,
    (fst_getD_zip _ e bdims.length _ hlen).trans (List.getD_append_pair_fst bdims op.R op.C 0),
    (fst_getD_zip _ e (bdims.length + 1) _ hlen).trans (List.getD_append_pair_snd bdims op.R op.C 0)⟩

/-! ### the composed front end -/

/-- the values the tensor-index path computes on the NORMALISED index are torch's values for the ORIGINAL one -/
theorem normalised_values (op : Opv) (h : ∀ b i j, i < op.R → j < op.C → op.gi b i j = op.den b i j)
    (zi : List (Nat × Item)) (m : Nat) (hlen : zi.length = m + 2)
    (hR : (zi.getD m (0, Item.ellipsis)).1 = op.R) (hC : (zi.getD (m + 1) (0, Item.ellipsis)).1 = op.C)
    (hv : ∀ x ∈ zi, itemValid x = true ∧ 0 < x.1) :
    getitemOp op (normalise zi) = denseGetitemOp op zi := by
  rw [getitem_refines_of_gi op h (normalise zi) m ((normalise_length _).trans hlen) ((normalise_getD_fst _ _).trans hR)
      ((normalise_getD_fst _ _).trans hC) (valid_normalise _ hv), denseGetitemOp_normalise]

theorem all_valid_iff (zi : List (Nat × Item)) :
    zi.all (fun x => itemValid x && decide (0 < x.1)) = true ↔ ∀ x ∈ zi, itemValid x = true ∧ 0 < x.1 := by
  simp only [List.all_eq_true, Bool.and_eq_true, decide_eq_true_eq]

/-- the front end after a successful expansion: the row / column guard cannot fire, so the answer depends only on the range
check and the dispatch -/
theorem frontEnd_of_expand (op : Opv) (bdims : List Nat) (idx e : List Item)
    (he : expandEllipsis (bdims ++ [op.R, op.C]).length idx = some e) :
    frontEnd op bdims idx =
      if (∀ x ∈ List.zip (bdims ++ [op.R, op.C]) e, itemValid x = true ∧ 0 < x.1) ∧
          absorbedOf (normalise (List.zip (bdims ++ [op.R, op.C]) e)) = true then
        some (computeGetitemSize (normalise (List.zip (bdims ++ [op.R, op.C]) e)),
              getitemOp op (normalise (List.zip (bdims ++ [op.R, op.C]) e)))
      else none := by
  obtain ⟨hz, g1, g2⟩ := zip_rowcol op bdims idx e he
  unfold frontEnd
  simp only [he, hz, g1, g2, decide_true, Bool.and_self, Bool.not_true, Bool.false_eq_true, if_false, ← all_valid_iff]
  by_cases h1 : (List.zip (bdims ++ [op.R, op.C]) e).all (fun x => itemValid x && decide (0 < x.1)) = true
  · simp only [h1, Bool.not_true, Bool.false_eq_true, if_false, true_and]
  · simp only [h1, Bool.not_false, if_true, Bool.false_eq_true, false_and, if_false]

/-- the guarded front end answers exactly when the guard is silent and the front end answers -/
theorem frontEndG_ok_iff (op : Opv) (bdims : List Nat) (idx : List Item) (sh : List Nat) (vals : List Int) :
    frontEndG op bdims idx = .ok sh vals ↔
      tooManyIndices (bdims.length + 2) idx = false ∧ frontEnd op bdims idx = some (sh, vals) := by
  unfold frontEndG
  cases tooManyIndices (bdims.length + 2) idx with
  | true => simp
  | false =>
    cases frontEnd op bdims idx with
    | none => simp
    | some r => simp [Prod.ext_iff]

end LinOp.C03
