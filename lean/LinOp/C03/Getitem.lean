import LinOp.C03.Ops
/-!
C03 — the `_getitem` (slice) path: models of the class-specific result-operator constructions (core Lean only, executable).

* `blockDiagAligned` / `blockInterAligned` : `BlockDiagLinearOperator._getitem_block_aligned` /
  `BlockInterleavedLinearOperator._getitem_block_aligned` — the decision "is the pair of step-free slices
  `row_start:row_end`, `col_start:col_end` aligned with the block structure" and the slices handed to the base operator.
* `Opv.sel` : the SPEC of a `_getitem` result: rows `rows`, columns `cols` (lists of source positions; for a slice
  `sliceIndices`, for an int `[wrap n i]` then squeezed, for a 1-D tensor its entries) and a map from the result batch
  index to the source batch index.
* `sumGetitem`, `constMulGetitem`, `matmulGetitem`, `mulGetitem`, `rootGetitem` : what the `_getitem` overrides of
  Sum / ConstantMul / Matmul / Root build out of the results of the recursive `_getitem` calls on their components
  (Mul has no override; `mulGetitem` is the elementwise product of two results).
-/
namespace LinOp.C03

/-- `BlockDiagLinearOperator._getitem_block_aligned` for blocks of size `m × n`:
`None` unless all four bounds are multiples of the block size and the row and the column range select the same
blocks; otherwise the block slice `b0:b1` handed to `base._getitem(noop, noop, *batch, block_index)`. -/
def blockDiagAligned (m n rs re cs ce : Nat) : Option (Nat × Nat) :=
  if rs % m != 0 || re % m != 0 || cs % n != 0 || ce % n != 0 then none
  else if (rs / m, re / m) != (cs / n, ce / n) then none
  else some (rs / m, re / m)

/-- `BlockInterleavedLinearOperator._getitem_block_aligned` for `k` blocks: `None` unless all four bounds are
multiples of `k` and the two ranges have equal length; otherwise the row slice and the column slice handed to
`base._getitem(row_index, col_index, *batch, noop)`. -/
def blockInterAligned (k rs re cs ce : Nat) : Option ((Nat × Nat) × (Nat × Nat)) :=
  if rs % k != 0 || cs % k != 0 || re % k != 0 || ce % k != 0 then none
  else if re - rs != ce - cs then none
  else some ((rs / k, re / k), (cs / k, ce / k))

namespace Opv

/-- SPEC of `op._getitem(row_index, col_index, *batch_indices)`: entry `(b, i, j)` of the result is entry
`(bmap b, rows[i], cols[j])` of the operator -/
def sel (rows cols : List Nat) (bmap : List Nat → List Nat) (op : Opv) : Opv :=
  ⟨rows.length, cols.length,
   fun b i j => op.den (bmap b) (rows.getD i 0) (cols.getD j 0),
   fun b i j => op.gi (bmap b) (rows.getD i 0) (cols.getD j 0),
   fun b q => op.gi (bmap b) (rows.getD q 0) (cols.getD q 0)⟩

/-- `SumLinearOperator._getitem`: `SumLinearOperator(*[op._getitem(row, col, *batch) for op in self.linear_ops])` -/
def sumGetitem (results : List Opv) (R' C' : Nat) : Opv := Opv.sum R' C' results

/-- `ConstantMulLinearOperator._getitem`: base result, `constant.expand(batch_shape)[batch_indices]` -/
def constMulGetitem (c : List Nat → Int) (bmap : List Nat → List Nat) (baseResult : Opv) : Opv :=
  Opv.constMul (fun b => c (bmap b)) baseResult

/-- `MatmulLinearOperator._getitem`: `Matmul(left._getitem(row, noop, *batch), right._getitem(noop, col, *batch))`
(`mode 2`: the result is in general not a Dense·Dense / Diag product, its `_diagonal` is whatever branch applies; the
entry theorem `getitemResult_sound` is about `den`, which does not depend on the mode) -/
def matmulGetitem (mode : Nat) (leftResult rightResult : Opv) : Opv := Opv.matmul mode leftResult rightResult

/-- `MulLinearOperator` has no override (base class), but the elementwise product of two results is what
`DenseLinearOperator(left * right)`-style evaluations denote -/
def mulGetitem (leftResult rightResult : Opv) : Opv := Opv.mul leftResult rightResult

/-- `.mT` of a result (used by `RootLinearOperator._getitem` for different row / column selections) -/
def transposeOp (o : Opv) : Opv := ⟨o.C, o.R, fun b i j => o.den b j i, fun b i j => o.gi b j i, o.dg⟩

/-- `RootLinearOperator._getitem`: `left = root._getitem(row, noop, *batch)`; equal row/col selections →
`Root(left)`, otherwise `Matmul(left, root._getitem(col, noop, *batch).mT)` -/
def rootGetitem (equalIdx : Bool) (left right : Opv) : Opv :=
  if equalIdx then Opv.root false left else Opv.matmul 2 left (transposeOp right)

end Opv

/-- `r` is an operator that `op._getitem(rows, cols, *batch)` may build (`bmap` = result batch index ↦ source batch
index): any operator with the right entries (classes whose `_getitem` indexes their tensors directly: Dense, the
base-class interpolation result, …) or the class-specific constructions of Sum / ConstantMul / Matmul / Root out of
the recursive results. -/
inductive GetitemResult (bmap : List Nat → List Nat) : List Nat → List Nat → Opv → Opv → Prop
  | leaf (rows cols op r) : r.R = rows.length → r.C = cols.length →
      (∀ b i j, i < rows.length → j < cols.length → r.den b i j = op.den (bmap b) (rows.getD i 0) (cols.getD j 0)) →
      GetitemResult bmap rows cols op r
  | sum (rows cols R C) (ps rs : List Opv) : ps.length = rs.length →
      (∀ k, k < ps.length → GetitemResult bmap rows cols (ps.getD k (Opv.zero 0 0)) (rs.getD k (Opv.zero 0 0))) →
      GetitemResult bmap rows cols (Opv.sum R C ps) (Opv.sumGetitem rs rows.length cols.length)
  | constMul (rows cols c base r) : GetitemResult bmap rows cols base r →
      GetitemResult bmap rows cols (Opv.constMul c base) (Opv.constMulGetitem c bmap r)
  | matmul (rows cols mode mode' A B L Rr) : A.C = B.R →
      GetitemResult bmap rows (List.range A.C) A L → GetitemResult bmap (List.range B.R) cols B Rr →
      GetitemResult bmap rows cols (Opv.matmul mode A B) (Opv.matmulGetitem mode' L Rr)
  | rootEq (rows dr rt L) : GetitemResult bmap rows (List.range rt.C) rt L →
      GetitemResult bmap rows rows (Opv.root dr rt) (Opv.rootGetitem true L L)
  | rootNe (rows cols dr rt L Rr) : GetitemResult bmap rows (List.range rt.C) rt L →
      GetitemResult bmap cols (List.range rt.C) rt Rr →
      GetitemResult bmap rows cols (Opv.root dr rt) (Opv.rootGetitem false L Rr)

/-- driver helpers -/
def showAlignedBD (o : Option (Nat × Nat)) : String :=
  match o with | none => "none" | some (a, b) => s!"{a},{b}"

def showAlignedBI (o : Option ((Nat × Nat) × (Nat × Nat))) : String :=
  match o with | none => "none" | some ((a, b), (c, d)) => s!"{a},{b},{c},{d}"

end LinOp.C03
