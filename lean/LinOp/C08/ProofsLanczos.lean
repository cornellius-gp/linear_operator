/-
C08 — the tridiagonal matrix of CG is the Lanczos matrix: with the normalised preconditioned residuals
`ẑ_k = (−1)^k z_k / √(r_kᵀ z_k)` and `q̂_k = (−1)^k r_k / √(r_kᵀ z_k)`,  `q̂_iᵀ ẑ_j = δ_ij` and `ẑ_iᵀ A ẑ_j = T[i, j]`;
hence the quadratic form of `T` is a Rayleigh quotient of the preconditioned operator (Ritz values inside the spectrum).
The two identities are proved about any PCG run (`IsPCG`) with a lawful square root; the trajectory is an instance.
-/
import LinOp.C08.ProofsOrth
import LinOp.C08.ProofsCall

set_option linter.unusedSectionVars false
namespace LinOp.C08

variable {α : Type} [Field α] [LinearOrder α] [IsStrictOrderedRing α]

/-- normalisation `(−1)^k / √(r_kᵀ z_k)` -/
def sigma (N : NumOps α) (P : Params α) {n : Nat} (s : Sys α n) (k : Nat) : α :=
  (-1) ^ k / N.sqrt (traj N P s k).rz

/-- `ẑ_k`: normalised preconditioned residual (the Lanczos vector in the `M`-inner product) -/
def zhat (N : NumOps α) (P : Params α) {n : Nat} (s : Sys α n) (k : Nat) : Vec α n :=
  sigma N P s k • (traj N P s k).z

/-- `q̂_k`: normalised residual, `ẑ_k = M⁻¹ q̂_k` -/
def qhat (N : NumOps α) (P : Params α) {n : Nat} (s : Sys α n) (k : Nat) : Vec α n :=
  sigma N P s k • (traj N P s k).r

theorem zhat_eq_pre (N : NumOps α) {P : Params α} {n : Nat} {s : Sys α n} (hMl : Lin (preF P s)) (j : Nat) :
    zhat N P s j = preF P s (qhat N P s j) := by
  unfold zhat qhat
  rw [hMl.smul, ← traj_zdef]

/-! ### normalisation of a PCG run -/

/-- the tridiagonal matrix with `1/a_k + β_{k−1}/a_{k−1}` on the diagonal (`1/a_0` first) and `√β_k/a_k` next to it, written
with a reciprocal `ra` of `a`; `lanczosT` is this matrix for the scalars a column stores -/
def lanT (sq : α → α) (ra β : Nat → α) (i j : Nat) : α :=
  if i = j then (if i = 0 then ra 0 else ra i + β (i - 1) * ra (i - 1))
  else if i = j + 1 then sq (β j) * ra j
  else if j = i + 1 then sq (β i) * ra i
  else 0

namespace IsPCG

variable {n : Nat} {A M : Vec α n → Vec α n} {x r z p : Nat → Vec α n} {a β : Nat → α} {m : Nat}
  (h : IsPCG A M x r z p a β m) {N : NumOps α} (hN : Lawful N)
  {σ : Nat → α} (hσ : ∀ k, σ k = (-1) ^ k / N.sqrt (dot (r k) (z k)))
include h hN hσ

theorem sigma_sq {k : Nat} (hk : k < m) : σ k * σ k = 1 / dot (r k) (z k) := by
  rw [hσ, div_mul_div_comm, ← mul_pow, neg_one_mul, neg_neg, one_pow, hN.sqrt_sq _ (h.rz_pos k hk).le]

/-- `σ_{k+1} σ_k β_k = −√β_k / r_kᵀz_k`, from `r_{k+1}ᵀz_{k+1} = β_k · r_kᵀz_k` -/
theorem sigma_succ {k : Nat} (hk : k + 1 < m) : σ (k + 1) * σ k * β k = -(N.sqrt (β k) / dot (r k) (z k)) := by
  have h0 := h.rz_pos k (Nat.lt_of_succ_lt hk)
  have hb := h.β_eq k (Nat.lt_of_succ_lt hk)
  have hbpos : 0 < β k := pos_of_mul_pos_left (hb ▸ h.rz_pos (k + 1) hk) h0.le
  have e1 := hN.sqrt_sq _ hbpos.le
  have e2 := hN.sqrt_sq _ h0.le
  have ha := ne_of_gt (hN.sqrt_pos hbpos)
  have hb' := ne_of_gt (hN.sqrt_pos h0)
  have e3 : ((-1 : α) ^ k) * (-1) ^ k = 1 := by rw [← mul_pow, neg_one_mul, neg_neg, one_pow]
  rw [hσ, hσ, ← hb, hN.sqrt_mul hbpos.le h0.le, pow_succ]
  generalize N.sqrt (β k) = c at *
  generalize N.sqrt (dot (r k) (z k)) = d at *
  rw [← e1, ← e2]
  field_simp
  rw [sq, e3]

variable (hA : LinSym A) (hM : ∀ u v, dot u (M v) = dot (M u) v)
include hA hM

/-- **`Q̂ᵀ Ẑ = I`**: the normalised residuals and preconditioned residuals are bi-orthonormal. -/
theorem biorth {i j : Nat} (hi : i < m) (hj : j < m) :
    dot (σ i • r i) (σ j • z j) = if i = j then 1 else 0 := by
  rw [dot_smul_left, dot_smul_right]
  by_cases e : i = j
  · subst e
    rw [if_pos rfl, ← mul_assoc, h.sigma_sq hN hσ hi, one_div_mul_cancel (ne_of_gt (h.rz_pos i hi))]
  · rw [if_neg e, h.r_orth hA hM (Nat.le_of_lt hi) (Nat.le_of_lt hj) e, mul_zero, mul_zero]

/-- lower triangle (`j ≤ i`) of **`Ẑᵀ A Ẑ = T`**, for any reciprocal `ra` of the step lengths: expand
`z_i = p_i − β_{i−1} p_{i−1}` against `p_aᵀ A z_j` (`pAz`), then normalise -/
theorem gram_lower {ra : Nat → α} (hra : ∀ k < m, ra k * a k = 1) {i j : Nat} (hi : i < m) (hji : j ≤ i) :
    dot (σ i • z i) (A (σ j • z j)) = lanT N.sqrt ra β i j := by
  have pAp : ∀ k < m, dot (p k) (A (p k)) = dot (r k) (z k) * ra k := fun k hk => by
    rw [← h.a_eq k hk, mul_right_comm, mul_comm (a k), hra k hk, one_mul]
  rw [hA.toLin.smul, dot_smul_left, dot_smul_right]
  cases i with
  | zero =>
    obtain rfl : j = 0 := by omega
    rw [← h.p_zero, ← mul_assoc, pAp _ hi, h.sigma_sq hN hσ hi, ← mul_assoc,
      one_div_mul_cancel (ne_of_gt (h.rz_pos 0 hi)), one_mul]
    rfl
  | succ i =>
    have hi' : i < m := Nat.lt_of_succ_lt hi
    rw [h.z_expand i, dot_sub_left, dot_smul_left, h.pAz hA hM (Nat.le_of_lt hi) (by omega),
      h.pAz hA hM (Nat.le_of_lt hi') (by omega)]
    rcases Nat.lt_or_ge j i with hfar | hge
    · -- outside the band
      rw [if_neg (by omega), if_neg (by omega), if_neg (by omega), if_neg (by omega), mul_zero, sub_zero, mul_zero,
        mul_zero, lanT, if_neg (by omega), if_neg (by omega), if_neg (by omega)]
    rcases Nat.lt_or_ge j (i + 1) with hsub | hdiag
    · -- sub-diagonal: `σ_{i+1} σ_i · (−β_i pᵢᵀApᵢ)`
      obtain rfl : j = i := by omega
      rw [if_neg (by omega), if_neg (by omega), if_pos rfl, zero_sub, mul_neg, mul_neg, ← mul_assoc, ← mul_assoc,
        h.sigma_succ hN hσ hi, pAp _ hi', lanT, if_neg (by omega), if_pos rfl, neg_mul, neg_neg, ← mul_assoc,
        div_mul_cancel₀ _ (ne_of_gt (h.rz_pos j hi'))]
    · -- diagonal: `σ_{i+1}² · (p_{i+1}ᵀAp_{i+1} + β_i² pᵢᵀApᵢ)`, and `β_i · r_iᵀz_i = r_{i+1}ᵀz_{i+1}`
      obtain rfl : j = i + 1 := by omega
      rw [if_pos rfl, if_neg (by omega), if_pos rfl, ← mul_assoc, h.sigma_sq hN hσ hi, pAp _ hi,
        pAp i hi', lanT, if_pos rfl, if_neg (Nat.succ_ne_zero i), Nat.add_sub_cancel, mul_neg, sub_neg_eq_add,
        show β i * (β i * (dot (r i) (z i) * ra i)) = β i * dot (r i) (z i) * (β i * ra i) by ring, h.β_eq i hi',
        ← mul_add, ← mul_assoc, one_div_mul_cancel (ne_of_gt (h.rz_pos (i + 1) hi)), one_mul]

end IsPCG

/-! ### `Q̂ᵀẐ = I` and `ẐᵀAẐ = T` for a regular trajectory -/

theorem sigma_eq (N : NumOps α) (P : Params α) {n : Nat} (s : Sys α n) (k : Nat) :
    sigma N P s k = (-1) ^ k / N.sqrt (dot (traj N P s k).r (traj N P s k).z) := by
  rw [sigma, traj_rzdef]

section
variable {N : NumOps α} (hN : Lawful N) (P : Params α) (he : 0 < P.eps) {n : Nat}
  {s : Sys α n} (hA : LinSym s.amul) (hM : ∀ u v, dot u (preF P s v) = dot (preF P s u) v) (m : Nat)
  (hreg : ∀ j < m, Regular P s (traj N P s j))
include hN he hA hM hreg

/-- **`Q̂ᵀ Ẑ = I`**: the normalised residuals and preconditioned residuals are bi-orthonormal
(`ẑ = M⁻¹ q̂`: the `q̂_k` are orthonormal in the `M⁻¹`-inner product, the `ẑ_k` in the `M`-inner product). -/
theorem qhat_zhat (i j : Nat) (hi : i < m) (hj : j < m) :
    dot (qhat N P s i) (zhat N P s j) = if i = j then 1 else 0 :=
  (traj_isPCG hN he hreg).biorth hN (sigma_eq N P s) hA hM hi hj

/-- **`Ẑᵀ A Ẑ = T`** (all entries with `i, j < m`): the matrix the tridiagonal updates build is the matrix of `A` in the
normalised preconditioned residuals, i.e. the Lanczos matrix of the preconditioned operator. -/
theorem zhat_gram (i j : Nat) (hi : i < m) (hj : j < m) :
    dot (zhat N P s i) (s.amul (zhat N P s j)) = lanczosT N (fun k => traj N P s (k + 1)) i j := by
  have R := traj_isPCG hN he hreg
  -- the code's masked reciprocal `alphaRecip` is a reciprocal of the step length of a regular step
  have hra : ∀ k < m, alphaRecip N (traj N P s (k + 1)).alpha * alphaF N P s (traj N P s k) = 1 := fun k hk => by
    rw [traj_succ, colStep_alpha, alphaRecip_eq hN _ (R.a_ne hk), one_div_mul_cancel (R.a_ne hk)]
  -- `zhat`, `lanczosT` unfold to `σ • z` and `lanT` of the run
  have low : ∀ {i j : Nat}, i < m → j ≤ i →
      dot (zhat N P s i) (s.amul (zhat N P s j)) = lanczosT N (fun k => traj N P s (k + 1)) i j :=
    R.gram_lower hN (sigma_eq N P s) hA hM hra
  rcases Nat.le_total j i with h | h
  · exact low hi h
  · rw [hA.sym, dot_comm, low hj h, lanczosT_symm]

/-! ### Ritz values: the quadratic form of `T` is a Rayleigh quotient -/

/-- `cᵀc = yᵀ M⁻¹ y` and `cᵀ T c = (M⁻¹y)ᵀ A (M⁻¹y)` for `y = Σ c_i q̂_i` -/
theorem ritz_forms (hMl : Lin (preF P s)) (c : Nat → α) :
    let y : Vec α n := ∑ i ∈ Finset.range m, c i • qhat N P s i
    dot y (preF P s y) = ∑ i ∈ Finset.range m, c i * c i ∧
    dot (preF P s y) (s.amul (preF P s y))
      = ∑ i ∈ Finset.range m, ∑ j ∈ Finset.range m,
          c i * (triFold N (fun k => traj N P s (k + 1)) m).t i j * c j := by
  intro y
  have hAl := hA.toLin
  have hZ : preF P s y = ∑ i ∈ Finset.range m, c i • zhat N P s i := by
    show preF P s (∑ i ∈ Finset.range m, c i • qhat N P s i) = _
    rw [hMl.map_sum]
    refine Finset.sum_congr rfl fun i _ => ?_
    rw [hMl.smul, zhat_eq_pre N hMl i]
  constructor
  · rw [hZ]
    show dot (∑ i ∈ Finset.range m, c i • qhat N P s i) _ = _
    rw [dot_sum_left]
    refine Finset.sum_congr rfl fun i hi => ?_
    rw [dot_sum_right, Finset.sum_eq_single i]
    · rw [dot_smul_left, dot_smul_right,
        qhat_zhat hN P he hA hM m hreg i i (Finset.mem_range.mp hi) (Finset.mem_range.mp hi), if_pos rfl,
        mul_one]
    · intro j hj hji
      rw [dot_smul_left, dot_smul_right,
        qhat_zhat hN P he hA hM m hreg i j (Finset.mem_range.mp hi) (Finset.mem_range.mp hj),
        if_neg (Ne.symm hji), mul_zero, mul_zero]
    · intro h; exact absurd hi h
  · rw [hZ, hAl.map_sum, dot_sum_left]
    refine Finset.sum_congr rfl fun i hi => ?_
    rw [dot_sum_right]
    refine Finset.sum_congr rfl fun j hj => ?_
    rw [hAl.smul, dot_smul_left, dot_smul_right, (triFold_closed N _ m).1 i j,
      if_pos ⟨Finset.mem_range.mp hi, Finset.mem_range.mp hj⟩,
      zhat_gram hN P he hA hM m hreg i j (Finset.mem_range.mp hi) (Finset.mem_range.mp hj)]
    ring

/-- **Ritz values inside the spectrum**, numerical-range form. -/
theorem ritz_in_spectrum (hMl : Lin (preF P s)) (lmin lmax : α)
    (hlo : ∀ y, lmin * dot y (preF P s y) ≤ dot (preF P s y) (s.amul (preF P s y)))
    (hhi : ∀ y, dot (preF P s y) (s.amul (preF P s y)) ≤ lmax * dot y (preF P s y)) (c : Nat → α) :
    lmin * ∑ i ∈ Finset.range m, c i * c i
      ≤ ∑ i ∈ Finset.range m, ∑ j ∈ Finset.range m, c i * (triFold N (fun k => traj N P s (k + 1)) m).t i j * c j ∧
    ∑ i ∈ Finset.range m, ∑ j ∈ Finset.range m, c i * (triFold N (fun k => traj N P s (k + 1)) m).t i j * c j
      ≤ lmax * ∑ i ∈ Finset.range m, c i * c i := by
  obtain ⟨h1, h2⟩ := ritz_forms hN P he hA hM m hreg hMl c
  rw [← h1, ← h2]
  exact ⟨hlo _, hhi _⟩

end
end LinOp.C08
