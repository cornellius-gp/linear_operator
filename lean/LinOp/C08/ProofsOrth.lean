/-
C08 — the model meets the textbook: the invariant of one regular step (`Inv2`), trajectories (`traj`) and regular states
(`Regular`), and the simulation `traj_isPCG` — a trajectory whose first `m` states are regular is a preconditioned-CG run in
the sense of `IsPCG`, so that what `ProofsPCG` proves about such runs holds of the trajectory.
-/
import LinOp.C08.ProofsPCG

set_option linter.unusedSectionVars false
namespace LinOp.C08

variable {α : Type} [Field α] [LinearOrder α] [IsStrictOrderedRing α]

/-! ### one step -/

/-- Invariant carried by regular steps: true residual, `pᵀr = rᵀz`, `z = M⁻¹r`, `rz = rᵀz`, and
`zᵀAp = pᵀAp` (which encodes `p_{k−1}ᵀ A p_k = 0`). -/
structure Inv2 (P : Params α) {n : Nat} (s : Sys α n) (b : Vec α n) (c : Col α n) : Prop extends Inv s b c where
  zdef : c.z = preF P s c.r
  rzdef : c.rz = dot c.r c.z
  zAp : dot c.z (s.amul c.p) = dot c.p (s.amul c.p)

theorem initCol_inv2 (N : NumOps α) (P : Params α) {n : Nat} (s : Sys α n) :
    Inv2 P s (prep N P s).b (initCol N P s (prep N P s)) := by
  refine { toInv := initCol_inv N P s, zdef := ?_, rzdef := ?_, zAp := ?_ } <;> rw [initCol_eq]
  exact dot_comm _ _

/-- Two-sided local orthogonality of a regular step with unmasked `β` (`rᵀz ≥ eps`), for a symmetric
`A` and a symmetric preconditioner: `r_{k+1}ᵀ z_k = 0`, `p_{k+1}ᵀ A p_k = 0`, and the invariant is kept. -/
theorem colStep_conjugate {N : NumOps α} (hN : Lawful N) (P : Params α) (he : 0 < P.eps) {n : Nat}
    {s : Sys α n} (hA : LinSym s.amul) (hM : ∀ u v, dot u (preF P s v) = dot (preF P s u) v)
    (b : Vec α n) (iz : Bool) (c : Col α n)
    (hc : c.conv = false) (hp : ¬ dot c.p (s.amul c.p) < P.eps) (hz : ¬ c.rz < P.eps) (hI : Inv2 P s b c) :
    Inv2 P s b (colStep N P s iz c) ∧ dot (colStep N P s iz c).r c.z = 0 ∧
      dot (colStep N P s iz c).p (s.amul c.p) = 0 := by
  have hne : dot c.p (s.amul c.p) ≠ 0 := ne_of_gt (lt_of_lt_of_le he (not_lt.mp hp))
  have hrzne : c.rz ≠ 0 := ne_of_gt (lt_of_lt_of_le he (not_lt.mp hz))
  have ha := alphaF_regular hN P s c hc hp
  obtain ⟨h1, hconj, hzAp⟩ := conjugate_step hA hM (ha ▸ div_ne_zero hrzne hne) hI.zdef (colStep_z N P s iz c)
    (colStep_r N P s iz c) (colStep_p N P s iz c) hI.zAp
    (by rw [ha, div_mul_cancel₀ _ hne, hI.rzdef])
    (by rw [colStep_beta_regular hN P s iz c hz, ← hI.rzdef, div_mul_cancel₀ _ hrzne, colStep_rz])
  exact ⟨{ toInv := (colStep_inv hN P he hA.toLin b iz c hc hp hI.toInv).1, zdef := colStep_z N P s iz c,
           rzdef := colStep_rz N P s iz c, zAp := hzAp }, h1, hconj⟩

/-! ### trajectories -/

/-- the `k`-th loop state of column `s` in a call of `linear_cg` -/
def traj (N : NumOps α) (P : Params α) {n : Nat} (s : Sys α n) (k : Nat) : Col α n :=
  iterCol N P s (prep N P s).isZero k (initCol N P s (prep N P s))

theorem traj_succ (N : NumOps α) (P : Params α) {n : Nat} (s : Sys α n) (k : Nat) :
    traj N P s (k + 1) = colStep N P s (prep N P s).isZero (traj N P s k) := rfl

/-- a textbook step will be taken from `c`: not frozen, `pᵀAp ≥ eps`, `rᵀz ≥ eps` -/
def Regular (P : Params α) {n : Nat} (s : Sys α n) (c : Col α n) : Prop :=
  c.conv = false ∧ ¬ dot c.p (s.amul c.p) < P.eps ∧ ¬ c.rz < P.eps

section
variable {P : Params α} {n : Nat} {s : Sys α n} {c : Col α n} (h : Regular P s c)
include h

theorem Regular.pAp_pos (he : 0 < P.eps) : 0 < dot c.p (s.amul c.p) := lt_of_lt_of_le he (not_lt.mp h.2.1)

theorem Regular.rz_pos (he : 0 < P.eps) : 0 < c.rz := lt_of_lt_of_le he (not_lt.mp h.2.2)

theorem Regular.alphaF_eq {N : NumOps α} (hN : Lawful N) : alphaF N P s c = c.rz / dot c.p (s.amul c.p) :=
  alphaF_regular hN P s c h.1 h.2.1

end

section
variable (N : NumOps α) (P : Params α) {n : Nat} (s : Sys α n) (k : Nat)

theorem traj_zdef : (traj N P s k).z = preF P s (traj N P s k).r := by
  cases k with
  | zero => exact (initCol_inv2 N P s).zdef
  | succ k => exact colStep_z N P s _ _

theorem traj_rzdef : (traj N P s k).rz = dot (traj N P s k).r (traj N P s k).z := by
  cases k with
  | zero => exact (initCol_inv2 N P s).rzdef
  | succ k => exact colStep_rz N P s _ _

end

/-! ### a regular trajectory is a PCG run -/

/-- **Simulation**: while the steps are regular, the loop states of a column are a textbook PCG run for `A = amul`,
`M = preF` (the preconditioner of the selected kernel), with `a_k` the step length the kernel used and `β_k` the `beta`
it stored. -/
theorem traj_isPCG {N : NumOps α} (hN : Lawful N) {P : Params α} (he : 0 < P.eps) {n : Nat} {s : Sys α n} {m : Nat}
    (hreg : ∀ j < m, Regular P s (traj N P s j)) :
    IsPCG s.amul (preF P s) (fun k => (traj N P s k).x) (fun k => (traj N P s k).r) (fun k => (traj N P s k).z)
      (fun k => (traj N P s k).p) (fun k => alphaF N P s (traj N P s k)) (fun k => (traj N P s (k + 1)).beta) m :=
  { z_eq := traj_zdef N P s
    p_zero := by show (initCol N P s _).p = (initCol N P s _).z; rw [initCol_eq]
    x_succ := fun k => colStep_x N P s _ _
    r_succ := fun k => colStep_r N P s _ _
    p_succ := fun k => colStep_p N P s _ _
    a_eq := fun k hk => by
      rw [(hreg k hk).alphaF_eq hN, div_mul_cancel₀ _ (ne_of_gt ((hreg k hk).pAp_pos he)), traj_rzdef]
    β_eq := fun k hk => by
      rw [← traj_rzdef, ← traj_rzdef, traj_succ, colStep_beta_regular hN P s _ _ (hreg k hk).2.2,
        div_mul_cancel₀ _ (ne_of_gt ((hreg k hk).rz_pos he))]
    rz_pos := fun k hk => traj_rzdef N P s k ▸ (hreg k hk).rz_pos he }

/-- After `n` regular steps the residual vanishes.  (A solution `xs` of the system plays no role; it is among the binders
because the callers have it at hand.) -/
theorem exact_at_n {N : NumOps α} (hN : Lawful N) (P : Params α) (he : 0 < P.eps) {n : Nat} {s : Sys α n}
    (hA : LinSym s.amul) (hM : ∀ u v, dot u (preF P s v) = dot (preF P s u) v) (xs : Vec α n)
    (_hxs : s.amul xs = (prep N P s).b) (hreg : ∀ j < n, Regular P s (traj N P s j)) : (traj N P s n).r = 0 :=
  (traj_isPCG hN he hreg).exact hA hM

end LinOp.C08
