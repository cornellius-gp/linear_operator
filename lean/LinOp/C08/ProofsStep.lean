/-
C08 — one column over an ordered field with lawful `NumOps`: the loop body in closed form (both kernels are the same
step), and what a step preserves — true residual, frozen and zero columns, the descent invariant, the scaling law.
-/
import LinOp.C08.Model
import LinOp.Core.Bridge
import Mathlib.Algebra.Order.Field.Basic
import Mathlib.Algebra.BigOperators.Ring.Finset
import Mathlib.Algebra.Order.BigOperators.Ring.Finset
import Mathlib.Tactic.Ring
import Mathlib.Tactic.Linarith
import Mathlib.Tactic.FieldSimp

set_option linter.unusedSectionVars false
namespace LinOp.C08

variable {α : Type} [Field α] [LinearOrder α] [IsStrictOrderedRing α]

/-- The scalar primitives behave as on an ordered field with square roots of non-negative numbers
(e.g. `ℝ`); there are no NaNs. -/
structure Lawful (N : NumOps α) : Prop where
  lt_iff : ∀ a b, N.lt a b = true ↔ a < b
  eqz_iff : ∀ a, N.eqz a = true ↔ a = 0
  no_nan : ∀ a, N.isNan a = false
  sqrt_nonneg : ∀ a, 0 ≤ N.sqrt a
  sqrt_sq : ∀ a, 0 ≤ a → N.sqrt a * N.sqrt a = a

/-- A closure is a linear map. -/
structure Lin {n : Nat} (f : Vec α n → Vec α n) : Prop where
  add : ∀ u v, f (u + v) = f u + f v
  smul : ∀ (c : α) u, f (c • u) = c • f u

/-- … and self-adjoint for the Euclidean inner product (a symmetric matrix). -/
structure LinSym {n : Nat} (f : Vec α n → Vec α n) : Prop extends Lin f where
  sym : ∀ u v, dot u (f v) = dot (f u) v

/-! ### the inner product -/

theorem dot_eq {n : Nat} (u v : Vec α n) : dot u v = ∑ i, u i * v i :=
  sumFin_eq_sum n _

theorem dot_comm {n : Nat} (u v : Vec α n) : dot u v = dot v u := by
  simp only [dot_eq, mul_comm]

theorem dot_add_left {n : Nat} (u v w : Vec α n) : dot (u + v) w = dot u w + dot v w := by
  simp only [dot_eq, Pi.add_apply, add_mul, Finset.sum_add_distrib]

theorem dot_smul_left {n : Nat} (c : α) (u w : Vec α n) : dot (c • u) w = c * dot u w := by
  simp only [dot_eq, Pi.smul_apply, smul_eq_mul, Finset.mul_sum, mul_assoc]

theorem dot_sub_left {n : Nat} (u v w : Vec α n) : dot (u - v) w = dot u w - dot v w := by
  simp only [dot_eq, Pi.sub_apply, sub_mul, Finset.sum_sub_distrib]

theorem dot_sum_left {n : Nat} {ι : Type} (t : Finset ι) (f : ι → Vec α n) (w : Vec α n) :
    dot (∑ i ∈ t, f i) w = ∑ i ∈ t, dot (f i) w := by
  simp only [dot_eq, Finset.sum_apply, Finset.sum_mul]
  exact Finset.sum_comm

theorem dot_zero_left {n : Nat} (w : Vec α n) : dot (0 : Vec α n) w = 0 := by
  simp only [dot_eq, Pi.zero_apply, zero_mul, Finset.sum_const_zero]

theorem dot_add_right {n : Nat} (u v w : Vec α n) : dot w (u + v) = dot w u + dot w v := by
  rw [dot_comm, dot_add_left, dot_comm u, dot_comm v]

theorem dot_smul_right {n : Nat} (c : α) (u w : Vec α n) : dot w (c • u) = c * dot w u := by
  rw [dot_comm, dot_smul_left, dot_comm u]

theorem dot_sub_right {n : Nat} (u v w : Vec α n) : dot w (u - v) = dot w u - dot w v := by
  rw [dot_comm, dot_sub_left, dot_comm u, dot_comm v]

theorem dot_sum_right {n : Nat} {ι : Type} (t : Finset ι) (f : ι → Vec α n) (w : Vec α n) :
    dot w (∑ i ∈ t, f i) = ∑ i ∈ t, dot w (f i) := by
  rw [dot_comm, dot_sum_left]; simp only [dot_comm]

theorem dot_zero_right {n : Nat} (w : Vec α n) : dot w (0 : Vec α n) = 0 := by
  rw [dot_comm, dot_zero_left]

theorem dot_self_nonneg {n : Nat} (u : Vec α n) : 0 ≤ dot u u := by
  rw [dot_eq]; exact Finset.sum_nonneg fun i _ => mul_self_nonneg (u i)

/-! ### linear closures -/

theorem Lin.map_zero {n : Nat} {f : Vec α n → Vec α n} (h : Lin f) : f 0 = 0 := by
  have := h.smul 0 0
  rwa [zero_smul, zero_smul] at this

theorem Lin.map_sub {n : Nat} {f : Vec α n → Vec α n} (h : Lin f) (u v : Vec α n) : f (u - v) = f u - f v := by
  rw [sub_eq_add_neg, ← neg_one_smul α v, h.add, h.smul, neg_one_smul, ← sub_eq_add_neg]

theorem Lin.map_sum {n : Nat} {f : Vec α n → Vec α n} (h : Lin f) {ι : Type} [DecidableEq ι] (t : Finset ι)
    (g : ι → Vec α n) : f (∑ i ∈ t, g i) = ∑ i ∈ t, f (g i) := by
  induction t using Finset.induction_on with
  | empty => simp only [Finset.sum_empty, h.map_zero]
  | insert a t ha ih => rw [Finset.sum_insert ha, Finset.sum_insert ha, h.add, ih]

/-! ### lawful scalars -/

theorem Lawful.lt_false {N : NumOps α} (hN : Lawful N) (a b : α) : N.lt a b = false ↔ ¬ a < b := by
  rw [← hN.lt_iff, Bool.not_eq_true]

/-- a square root is determined by its square -/
theorem Lawful.sqrt_eq {N : NumOps α} (hN : Lawful N) {a b : α} (hb : 0 ≤ b) (h : b * b = a) : N.sqrt a = b :=
  (mul_self_inj (hN.sqrt_nonneg a) hb).mp ((hN.sqrt_sq a (h ▸ mul_self_nonneg b)).trans h.symm)

theorem Lawful.sqrt_zero {N : NumOps α} (hN : Lawful N) : N.sqrt 0 = 0 :=
  hN.sqrt_eq le_rfl (mul_zero 0)

theorem Lawful.sqrt_mul {N : NumOps α} (hN : Lawful N) {a b : α} (ha : 0 ≤ a) (hb : 0 ≤ b) :
    N.sqrt (a * b) = N.sqrt a * N.sqrt b :=
  hN.sqrt_eq (mul_nonneg (hN.sqrt_nonneg a) (hN.sqrt_nonneg b))
    (by rw [mul_mul_mul_comm, hN.sqrt_sq a ha, hN.sqrt_sq b hb])

theorem Lawful.sqrt_pos {N : NumOps α} (hN : Lawful N) {a : α} (ha : 0 < a) : 0 < N.sqrt a :=
  lt_of_le_of_ne (hN.sqrt_nonneg a) fun h => ne_of_gt ha (by rw [← hN.sqrt_sq a ha.le, ← h, mul_zero])

theorem alphaRecip_eq {N : NumOps α} (hN : Lawful N) (a : α) (h : a ≠ 0) : alphaRecip N a = 1 / a := by
  have : N.eqz a = false := Bool.eq_false_iff.mpr fun he => h ((hN.eqz_iff a).mp he)
  simp only [alphaRecip, this, Bool.false_eq_true, if_false]

theorem norm2_smul {N : NumOps α} (hN : Lawful N) {n : Nat} (c : α) (hc : 0 ≤ c) (v : Vec α n) :
    norm2 N (c • v) = c * norm2 N v := by
  unfold norm2
  rw [dot_smul_left, dot_smul_right, ← mul_assoc, hN.sqrt_mul (mul_self_nonneg c) (dot_self_nonneg v),
    hN.sqrt_eq hc rfl]

/-! ### the loop body in closed form -/

/-- `alpha` used by one iteration. -/
def alphaF (N : NumOps α) (P : Params α) {n : Nat} (s : Sys α n) (c : Col α n) : α :=
  alphaOf N P c (s.amul c.p)

/-- the preconditioner actually applied by the selected kernel -/
def preF (P : Params α) {n : Nat} (s : Sys α n) : Vec α n → Vec α n :=
  fun v => if P.precond then s.pre v else v

theorem preF_eq_pre (P : Params α) (hp : P.precond = true) {n : Nat} (s : Sys α n) : preF P s = s.pre := by
  funext v; exact if_pos hp

theorem preF_id_of_noprecond (P : Params α) {n : Nat} (s : Sys α n) (h : P.precond = false) (v : Vec α n) :
    preF P s v = v :=
  if_neg (Bool.eq_false_iff.mp h)

theorem preF_sym_of_noprecond (P : Params α) {n : Nat} (s : Sys α n) (h : P.precond = false) :
    ∀ u v : Vec α n, dot u (preF P s v) = dot (preF P s u) v := by
  intro u v; rw [preF_id_of_noprecond P s h, preF_id_of_noprecond P s h]

theorem preF_lin_of_noprecond (P : Params α) {n : Nat} (s : Sys α n) (h : P.precond = false) : Lin (preF P s) :=
  { add := fun u v => by simp only [preF_id_of_noprecond P s h]
    smul := fun c u => by simp only [preF_id_of_noprecond P s h] }

/-- Both kernels take the same step: `r' = r − a·Ap`, `z' = M⁻¹r'`, then `_jit_linear_cg_updates` and the norm test. -/
theorem colStep_eq (N : NumOps α) (P : Params α) {n : Nat} (s : Sys α n) (iz : Bool) (c : Col α n) :
    colStep N P s iz c = finishStep N P iz (jitUpdates N P c (alphaF N P s c)
      (c.r - alphaF N P s c • s.amul c.p) (preF P s (c.r - alphaF N P s c • s.amul c.p))) := by
  have h1 : (fun i => c.r i + -(1 : α) * (alphaF N P s c * s.amul c.p i)) = c.r - alphaF N P s c • s.amul c.p := by
    funext i; simp only [Pi.sub_apply, Pi.smul_apply, smul_eq_mul]; ring
  have h2 : (fun i => c.r i + -alphaF N P s c * s.amul c.p i) = c.r - alphaF N P s c • s.amul c.p := by
    funext i; simp only [Pi.sub_apply, Pi.smul_apply, smul_eq_mul]; ring
  unfold colStep colStepPre colStepNoPre preF
  cases P.precond
  · simp only [memo_eq, Bool.false_eq_true, if_false]; rw [← alphaF, h2]
  · simp only [memo_eq, if_true]; rw [← alphaF, h1]

section
variable (N : NumOps α) (P : Params α) {n : Nat} (s : Sys α n) (iz : Bool) (c : Col α n)

theorem colStep_x : (colStep N P s iz c).x = c.x + alphaF N P s c • c.p := by
  rw [colStep_eq]; exact memo_eq _

theorem colStep_r : (colStep N P s iz c).r = c.r - alphaF N P s c • s.amul c.p := by
  rw [colStep_eq]; rfl

theorem colStep_z : (colStep N P s iz c).z = preF P s (colStep N P s iz c).r := by
  rw [colStep_eq]; rfl

theorem colStep_rz : (colStep N P s iz c).rz = dot (colStep N P s iz c).r (colStep N P s iz c).z := by
  rw [colStep_eq]; rfl

theorem colStep_alpha : (colStep N P s iz c).alpha = alphaF N P s c := by
  rw [colStep_eq]; rfl

theorem colStep_beta :
    (colStep N P s iz c).beta = if N.lt c.rz P.eps then 0 else (colStep N P s iz c).rz / c.rz := by
  rw [colStep_eq]; rfl

theorem colStep_p : (colStep N P s iz c).p = (colStep N P s iz c).z + (colStep N P s iz c).beta • c.p := by
  rw [colStep_eq]
  refine (memo_eq _).trans (funext fun i => ?_)
  show c.p i * _ + _ = _ + _ * c.p i
  rw [add_comm, mul_comm]; rfl

theorem colStep_conv :
    (colStep N P s iz c).conv = N.lt (if iz then 0 else norm2 N (colStep N P s iz c).r) P.stopAfter := by
  rw [colStep_eq]; rfl

end

theorem colStep_rn (N : NumOps α) (P : Params α) {n : Nat} (s : Sys α n) (iz : Bool) (c : Col α n) :
    (colStep N P s iz c).rn = if iz then 0 else norm2 N (colStep N P s iz c).r := by
  rw [colStep_eq]; rfl

/-- `k` iterations of one column. -/
def iterCol (N : NumOps α) (P : Params α) {n : Nat} (s : Sys α n) (iz : Bool) : Nat → Col α n → Col α n
  | 0, c => c
  | k + 1, c => colStep N P s iz (iterCol N P s iz k c)

theorem alphaF_of_conv (N : NumOps α) (P : Params α) {n : Nat} (s : Sys α n) (c : Col α n)
    (h : c.conv = true) : alphaF N P s c = 0 := by
  simp only [alphaF, alphaOf, h, if_true]

theorem alphaF_regular {N : NumOps α} (hN : Lawful N) (P : Params α) {n : Nat} (s : Sys α n) (c : Col α n)
    (hc : c.conv = false) (hp : ¬ dot c.p (s.amul c.p) < P.eps) :
    alphaF N P s c = c.rz / dot c.p (s.amul c.p) := by
  simp only [alphaF, alphaOf, hc, (hN.lt_false _ _).mpr hp, Bool.false_eq_true, if_false]

theorem colStep_beta_regular {N : NumOps α} (hN : Lawful N) (P : Params α) {n : Nat} (s : Sys α n) (iz : Bool)
    (c : Col α n) (hz : ¬ c.rz < P.eps) : (colStep N P s iz c).beta = (colStep N P s iz c).rz / c.rz := by
  rw [colStep_beta, (hN.lt_false _ _).mpr hz]; rfl

/-- The column before the loop: `z = p = M⁻¹r₀` for either kernel. -/
theorem initCol_eq (N : NumOps α) (P : Params α) {n : Nat} (s : Sys α n) (q : Prep α n) :
    initCol N P s q = { x := q.g, r := q.r0, z := preF P s q.r0, p := preF P s q.r0, rz := dot (preF P s q.r0) q.r0,
                        alpha := 0, beta := 0, rn := norm2 N q.r0, conv := N.lt (norm2 N q.r0) P.stopAfter } := by
  unfold initCol preF
  cases P.precond
  · rfl
  · simp only [memo_eq, if_true]

/-- The normalisation with the tabulations removed. -/
theorem prep_eq (N : NumOps α) (P : Params α) {n : Nat} (s : Sys α n) :
    prep N P s =
      { nrm := if N.lt (norm2 N s.rhs) P.eps then 1 else norm2 N s.rhs
        isZero := N.lt (norm2 N s.rhs) P.eps
        b := fun i => s.rhs i / (if N.lt (norm2 N s.rhs) P.eps then 1 else norm2 N s.rhs)
        g := fun i => s.x0 i / (if N.lt (norm2 N s.rhs) P.eps then 1 else norm2 N s.rhs)
        r0 := (fun i => s.rhs i / (if N.lt (norm2 N s.rhs) P.eps then 1 else norm2 N s.rhs))
          - s.amul fun i => s.x0 i / (if N.lt (norm2 N s.rhs) P.eps then 1 else norm2 N s.rhs) } := by
  simp only [prep, memo_eq]; rfl

/-! ### recurrence residual = true residual -/

theorem colStep_residual (N : NumOps α) (P : Params α) {n : Nat} {s : Sys α n} (hA : Lin s.amul)
    (b : Vec α n) (iz : Bool) (c : Col α n) (h : c.r = b - s.amul c.x) :
    (colStep N P s iz c).r = b - s.amul (colStep N P s iz c).x := by
  rw [colStep_r, colStep_x, hA.add, hA.smul, h, sub_sub]

theorem initCol_residual (N : NumOps α) (P : Params α) {n : Nat} (s : Sys α n) :
    (initCol N P s (prep N P s)).r = (prep N P s).b - s.amul (prep N P s).g := by
  rw [initCol_eq, prep_eq]

theorem iterCol_residual (N : NumOps α) (P : Params α) {n : Nat} {s : Sys α n} (hA : Lin s.amul)
    (b : Vec α n) (iz : Bool) (c : Col α n) (h : c.r = b - s.amul c.x) (k : Nat) :
    (iterCol N P s iz k c).r = b - s.amul (iterCol N P s iz k c).x := by
  induction k with
  | zero => exact h
  | succ k ih => exact colStep_residual N P hA b iz _ ih

/-! ### frozen columns -/

/-- `has_converged` is set and will be set again by the next norm test. -/
def Frozen (N : NumOps α) (P : Params α) {n : Nat} (iz : Bool) (c : Col α n) : Prop :=
  c.conv = true ∧ (iz = true ∨ N.lt (norm2 N c.r) P.stopAfter = true)

theorem colStep_frozen {N : NumOps α} (hN : Lawful N) (P : Params α) (hs : 0 < P.stopAfter) {n : Nat}
    (s : Sys α n) (iz : Bool) (c : Col α n) (h : Frozen N P iz c) :
    (colStep N P s iz c).x = c.x ∧ (colStep N P s iz c).r = c.r ∧ Frozen N P iz (colStep N P s iz c) := by
  have ha : alphaF N P s c = 0 := alphaF_of_conv N P s c h.1
  have hx : (colStep N P s iz c).x = c.x := by rw [colStep_x, ha, zero_smul, add_zero]
  have hr : (colStep N P s iz c).r = c.r := by rw [colStep_r, ha, zero_smul, sub_zero]
  refine ⟨hx, hr, ?_, hr ▸ h.2⟩
  rw [colStep_conv, hr]
  rcases h.2 with rfl | h2
  · exact (hN.lt_iff 0 P.stopAfter).mpr hs
  · cases iz
    · exact h2
    · exact (hN.lt_iff 0 P.stopAfter).mpr hs

theorem frozen_of_step (N : NumOps α) (P : Params α) {n : Nat} (s : Sys α n) (iz : Bool) (c : Col α n)
    (h : (colStep N P s iz c).conv = true) : Frozen N P iz (colStep N P s iz c) := by
  refine ⟨h, ?_⟩
  rw [colStep_conv] at h
  cases iz
  · exact Or.inr h
  · exact Or.inl rfl

theorem frozen_of_init (N : NumOps α) (P : Params α) {n : Nat} (s : Sys α n) (q : Prep α n) (iz : Bool)
    (h : (initCol N P s q).conv = true) : Frozen N P iz (initCol N P s q) :=
  ⟨h, Or.inr h⟩

theorem iterCol_frozen {N : NumOps α} (hN : Lawful N) (P : Params α) (hs : 0 < P.stopAfter) {n : Nat}
    (s : Sys α n) (iz : Bool) (c : Col α n) (h : Frozen N P iz c) (k : Nat) :
    (iterCol N P s iz k c).x = c.x ∧ (iterCol N P s iz k c).r = c.r ∧ Frozen N P iz (iterCol N P s iz k c) := by
  induction k with
  | zero => exact ⟨rfl, rfl, h⟩
  | succ k ih =>
    obtain ⟨h1, h2, h3⟩ := colStep_frozen hN P hs s iz _ ih.2.2
    exact ⟨h1.trans ih.1, h2.trans ih.2.1, h3⟩

/-- on a trajectory, a set `has_converged` flag was set by a norm test that will succeed again -/
theorem iterCol_frozen_of_conv (N : NumOps α) (P : Params α) {n : Nat} (s : Sys α n) (q : Prep α n) (iz : Bool)
    (j : Nat) (h : (iterCol N P s iz j (initCol N P s q)).conv = true) :
    Frozen N P iz (iterCol N P s iz j (initCol N P s q)) := by
  cases j with
  | zero => exact frozen_of_init N P s q iz h
  | succ j => exact frozen_of_step N P s iz _ h

/-! ### zero columns -/

def ZeroCol {n : Nat} (c : Col α n) : Prop := c.x = 0 ∧ c.r = 0 ∧ c.z = 0 ∧ c.p = 0 ∧ c.rz = 0

theorem preF_zero (P : Params α) {n : Nat} {s : Sys α n} (hM : s.pre 0 = 0) : preF P s 0 = 0 := by
  unfold preF; split
  · exact hM
  · rfl

theorem colStep_zero {N : NumOps α} (hN : Lawful N) (P : Params α) (he : 0 < P.eps) {n : Nat}
    {s : Sys α n} (hA : Lin s.amul) (hM : s.pre 0 = 0) (iz : Bool) (c : Col α n) (h : ZeroCol c) :
    ZeroCol (colStep N P s iz c) := by
  obtain ⟨hx, hr, _, hp, hrz⟩ := h
  have hlt : N.lt (0 : α) P.eps = true := (hN.lt_iff 0 P.eps).mpr he
  -- `pᵀAp = 0 < eps`: the safe division gives `alpha = 0`
  have ha : alphaF N P s c = 0 := by
    simp only [alphaF, alphaOf, hp, hA.map_zero, dot_zero_left, hlt, if_true, ite_self]
  have hr' : (colStep N P s iz c).r = 0 := by rw [colStep_r, ha, hr, zero_smul, sub_zero]
  have hz' : (colStep N P s iz c).z = 0 := by rw [colStep_z, hr', preF_zero P hM]
  have hrz' : (colStep N P s iz c).rz = 0 := by rw [colStep_rz, hr', dot_zero_left]
  refine ⟨by rw [colStep_x, ha, hx, zero_smul, add_zero], hr', hz', ?_, hrz'⟩
  rw [colStep_p, hz', hp, smul_zero, add_zero]

theorem prep_zero {N : NumOps α} (hN : Lawful N) (P : Params α) (he : 0 < P.eps) {n : Nat}
    {s : Sys α n} (hA : Lin s.amul) (hr : s.rhs = 0) (hx : s.x0 = 0) :
    (prep N P s).g = 0 ∧ (prep N P s).r0 = 0 ∧ (prep N P s).isZero = true := by
  have hn : norm2 N s.rhs = 0 := by rw [hr, norm2, dot_zero_left, hN.sqrt_zero]
  have h0 : ∀ d : α, (fun i : Fin n => (0 : Vec α n) i / d) = 0 := fun d => funext fun i => zero_div d
  rw [prep_eq, hn, hr, hx]
  simp only [h0, hA.map_zero, sub_zero, true_and]
  exact (hN.lt_iff 0 P.eps).mpr he

theorem initCol_zero {N : NumOps α} (P : Params α) {n : Nat} {s : Sys α n} (hM : s.pre 0 = 0)
    (q : Prep α n) (hg : q.g = 0) (hr : q.r0 = 0) : ZeroCol (initCol N P s q) := by
  rw [initCol_eq, hr, hg, preF_zero P hM]
  exact ⟨rfl, rfl, rfl, rfl, dot_zero_left 0⟩

theorem iterCol_zero {N : NumOps α} (hN : Lawful N) (P : Params α) (he : 0 < P.eps) {n : Nat}
    {s : Sys α n} (hA : Lin s.amul) (hM : s.pre 0 = 0) (iz : Bool) (c : Col α n) (h : ZeroCol c) (k : Nat) :
    ZeroCol (iterCol N P s iz k c) := by
  induction k with
  | zero => exact h
  | succ k ih => exact colStep_zero hN P he hA hM iz _ ih

/-! ### A-norm error -/

/-- squared A-norm of the error `xs − x`. -/
def errA {n : Nat} (s : Sys α n) (xs x : Vec α n) : α := dot (xs - x) (s.amul (xs - x))

/-- The one-step invariant that keeps CG a descent method: the recurrence residual is the true
residual and `pᵀr = rᵀz`. -/
structure Inv {n : Nat} (s : Sys α n) (b : Vec α n) (c : Col α n) : Prop where
  res : c.r = b - s.amul c.x
  pr : dot c.p c.r = c.rz

theorem initCol_inv (N : NumOps α) (P : Params α) {n : Nat} (s : Sys α n) :
    Inv s (prep N P s).b (initCol N P s (prep N P s)) :=
  ⟨initCol_residual N P s, by rw [initCol_eq]⟩

/-- The error of `x + w` when `A(x* − x) = r`: `‖e − w‖²_A = ‖e‖²_A − 2·wᵀr + wᵀAw`. -/
theorem errA_add {n : Nat} {s : Sys α n} (hA : LinSym s.amul) (xs x r w : Vec α n) (hr : s.amul (xs - x) = r) :
    errA s xs (x + w) = errA s xs x - 2 * dot w r + dot w (s.amul w) := by
  unfold errA
  rw [← sub_sub, hA.toLin.map_sub, dot_sub_left, dot_sub_right, dot_sub_right, hA.sym (xs - x) w, hr, dot_comm r w]
  ring

/-- A regular step (column not frozen, `pᵀAp ≥ eps`) keeps the invariant and makes the new residual orthogonal to the old
direction. -/
theorem colStep_inv {N : NumOps α} (hN : Lawful N) (P : Params α) (he : 0 < P.eps) {n : Nat}
    {s : Sys α n} (hA : Lin s.amul) (b : Vec α n) (iz : Bool) (c : Col α n)
    (hc : c.conv = false) (hp : ¬ dot c.p (s.amul c.p) < P.eps) (hI : Inv s b c) :
    Inv s b (colStep N P s iz c) ∧ dot c.p (colStep N P s iz c).r = 0 := by
  have hne : dot c.p (s.amul c.p) ≠ 0 := ne_of_gt (lt_of_lt_of_le he (not_lt.mp hp))
  have horth : dot c.p (colStep N P s iz c).r = 0 := by
    rw [colStep_r, alphaF_regular hN P s c hc hp, dot_sub_right, dot_smul_right, hI.pr, div_mul_cancel₀ _ hne, sub_self]
  refine ⟨⟨colStep_residual N P hA b iz c hI.res, ?_⟩, horth⟩
  rw [colStep_p, dot_add_left, dot_smul_left, horth, colStep_rz, dot_comm, mul_zero, add_zero]

/-- … and, when `A` is symmetric and `A x* = b`, lowers the squared A-norm error by `(rᵀz)² / pᵀAp ≥ 0`. -/
theorem colStep_regular {N : NumOps α} (hN : Lawful N) (P : Params α) (he : 0 < P.eps) {n : Nat}
    {s : Sys α n} (hA : LinSym s.amul) (xs b : Vec α n) (hxs : s.amul xs = b) (iz : Bool) (c : Col α n)
    (hc : c.conv = false) (hp : ¬ dot c.p (s.amul c.p) < P.eps) (hI : Inv s b c) :
    Inv s b (colStep N P s iz c) ∧ dot c.p (colStep N P s iz c).r = 0 ∧
      errA s xs (colStep N P s iz c).x = errA s xs c.x - c.rz ^ 2 / dot c.p (s.amul c.p) ∧
      errA s xs (colStep N P s iz c).x ≤ errA s xs c.x := by
  have hpos : 0 < dot c.p (s.amul c.p) := lt_of_lt_of_le he (not_lt.mp hp)
  have herr : errA s xs (colStep N P s iz c).x = errA s xs c.x - c.rz ^ 2 / dot c.p (s.amul c.p) := by
    rw [colStep_x, alphaF_regular hN P s c hc hp,
      errA_add hA xs c.x c.r _ (by rw [hA.toLin.map_sub, hxs, hI.res]), hA.toLin.smul,
      dot_smul_left, dot_smul_left, dot_smul_right, hI.pr, div_mul_cancel₀ _ (ne_of_gt hpos)]
    ring
  obtain ⟨h1, h2⟩ := colStep_inv hN P he hA.toLin b iz c hc hp hI
  refine ⟨h1, h2, herr, ?_⟩
  rw [herr]
  exact sub_le_self _ (div_nonneg (sq_nonneg _) hpos.le)

/-- A step from a column that is frozen or satisfies the descent invariant, and is frozen or takes a regular step:
the alternative is kept and the A-norm error does not increase. -/
theorem colStep_descent {N : NumOps α} (hN : Lawful N) (P : Params α) (he : 0 < P.eps) (hs : 0 < P.stopAfter)
    {n : Nat} {s : Sys α n} (hA : LinSym s.amul) (xs b : Vec α n) (hxs : s.amul xs = b) (iz : Bool) (c : Col α n)
    (hfz : c.conv = true → Frozen N P iz c) (hreg : c.conv = true ∨ ¬ dot c.p (s.amul c.p) < P.eps)
    (h : Frozen N P iz c ∨ Inv s b c) :
    (Frozen N P iz (colStep N P s iz c) ∨ Inv s b (colStep N P s iz c)) ∧
      errA s xs (colStep N P s iz c).x ≤ errA s xs c.x := by
  have frozen_case : Frozen N P iz c → (Frozen N P iz (colStep N P s iz c) ∨ Inv s b (colStep N P s iz c)) ∧
      errA s xs (colStep N P s iz c).x ≤ errA s xs c.x := by
    intro hf
    obtain ⟨hx, _, hf'⟩ := colStep_frozen hN P hs s iz c hf
    exact ⟨.inl hf', by rw [hx]⟩
  rcases h with hf | hi
  · exact frozen_case hf
  · cases hcv : c.conv
    · have hp : ¬ dot c.p (s.amul c.p) < P.eps := hreg.resolve_left (by rw [hcv]; exact Bool.false_ne_true)
      obtain ⟨h1, _, _, h4⟩ := colStep_regular hN P he hA xs b hxs iz c hcv hp hi
      exact ⟨.inr h1, h4⟩
    · exact frozen_case (hfz hcv)

/-! ### scaling of the right-hand side -/

/-- `rhs ↦ c·rhs`, `initial_guess ↦ c·initial_guess`. -/
def scaleSys {n : Nat} (c : α) (s : Sys α n) : Sys α n := { s with rhs := c • s.rhs, x0 := c • s.x0 }

theorem iterCol_scaleSys (N : NumOps α) (P : Params α) {n : Nat} (c : α) (s : Sys α n) (iz : Bool) (m : Nat)
    (c0 : Col α n) : iterCol N P (scaleSys c s) iz m c0 = iterCol N P s iz m c0 := by
  induction m with
  | zero => rfl
  | succ m ih => rw [iterCol, ih]; rfl

/-- Scaling a column whose norm stays at or above `eps` changes nothing but `rhs_norm`:
the normalised right-hand side, the normalised guess, the initial residual and `rhs_is_zero` are the same. -/
theorem prep_scale {N : NumOps α} (hN : Lawful N) (P : Params α) {n : Nat} (s : Sys α n)
    (c : α) (hc : 0 < c) (h1 : ¬ norm2 N s.rhs < P.eps) (h2 : ¬ c * norm2 N s.rhs < P.eps) :
    prep N P (scaleSys c s) = { prep N P s with nrm := c * (prep N P s).nrm } := by
  have f1 : N.lt (norm2 N s.rhs) P.eps = false := (hN.lt_false _ _).mpr h1
  have f2 : N.lt (c * norm2 N s.rhs) P.eps = false := (hN.lt_false _ _).mpr h2
  have hdiv : ∀ v : Vec α n, (fun i => (c • v) i / (c * norm2 N s.rhs)) = fun i => v i / norm2 N s.rhs :=
    fun v => funext fun i => mul_div_mul_left _ _ (ne_of_gt hc)
  simp only [prep_eq, scaleSys, norm2_smul hN c hc.le, f1, f2, hdiv, Bool.false_eq_true, if_false]

end LinOp.C08
