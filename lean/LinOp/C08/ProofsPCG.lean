/-
C08 — textbook preconditioned conjugate gradients, without the model: sequences `x r z p`, coefficients `a β`, the five
update equations, the two coefficient equations and no breakdown (`IsPCG`).  The classical theory follows from these
alone: orthogonality of the residuals, conjugacy of the directions, exact termination in dimension `n`, optimality of
`x_k` over `x_0 + K_k(M⁻¹A, M⁻¹r_0)` in the `A`-norm; before it, the algebra of one step and the three-term relation on
plain vectors.  Only `Vec`, `dot`, `Lin`, `LinSym` are used; `traj_isPCG` (ProofsOrth) shows that a trajectory of regular
steps of the model is such a run.
-/
import LinOp.C08.ProofsStep
import Mathlib.LinearAlgebra.FiniteDimensional.Lemmas
import Mathlib.LinearAlgebra.Dimension.Constructions
import Mathlib.LinearAlgebra.Finsupp.LinearCombination

set_option linter.unusedSectionVars false
namespace LinOp.C08

variable {α : Type} [Field α] [LinearOrder α] [IsStrictOrderedRing α] {n : Nat}

/-- `m` steps of preconditioned CG for the operator `A` with preconditioner `M` (`z = M r`): the update equations hold
throughout, the step lengths are the textbook ones for the first `m` steps (division-free form) and no breakdown
(`rᵀz > 0`) occurs there. -/
structure IsPCG (A M : Vec α n → Vec α n) (x r z p : Nat → Vec α n) (a β : Nat → α) (m : Nat) : Prop where
  z_eq : ∀ k, z k = M (r k)
  p_zero : p 0 = z 0
  x_succ : ∀ k, x (k + 1) = x k + a k • p k
  r_succ : ∀ k, r (k + 1) = r k - a k • A (p k)
  p_succ : ∀ k, p (k + 1) = z (k + 1) + β k • p k
  a_eq : ∀ k < m, a k * dot (p k) (A (p k)) = dot (r k) (z k)
  β_eq : ∀ k < m, β k * dot (r k) (z k) = dot (r (k + 1)) (z (k + 1))
  rz_pos : ∀ k < m, 0 < dot (r k) (z k)

/-- The algebra of one PCG step, on vectors: `r' = r − a·Ap`, `z = M⁻¹r`, `z' = M⁻¹r'`, `p' = z' + β p` with
`a·pᵀAp = rᵀz`, `β·rᵀz = r'ᵀz'` and `zᵀAp = pᵀAp` give `r' ⟂ z`, `p' ⟂_A p` and `z'ᵀAp' = p'ᵀAp'`. -/
theorem conjugate_step {A M : Vec α n → Vec α n} (hA : LinSym A)
    (hM : ∀ u v, dot u (M v) = dot (M u) v) {r z p r' z' p' : Vec α n} {a β : α} (ha : a ≠ 0)
    (hz : z = M r) (hz' : z' = M r') (hr' : r' = r - a • A p) (hp' : p' = z' + β • p)
    (hzAp : dot z (A p) = dot p (A p)) (had : a * dot p (A p) = dot r z) (hβ : β * dot r z = dot r' z') :
    dot r' z = 0 ∧ dot p' (A p) = 0 ∧ dot z' (A p') = dot p' (A p') := by
  have h1 : dot r' z = 0 := by rw [hr', dot_sub_left, dot_smul_left, dot_comm (A p) z, hzAp, had, sub_self]
  -- `z' ⟂ r` by the symmetry of the preconditioner, and `a·Ap = r − r'`
  have h2 : dot z' r = 0 := by rw [hz', ← hM, ← hz]; exact h1
  have h3 : a * dot z' (A p) = -dot r' z' := by
    rw [← dot_smul_right, show a • A p = r - r' by rw [hr', sub_sub_cancel], dot_sub_right, h2, dot_comm z' r',
      zero_sub]
  have hconj : dot p' (A p) = 0 := by
    have : a * dot p' (A p) = 0 := by
      rw [hp', dot_add_left, dot_smul_left, mul_add, h3, mul_left_comm, had, hβ, neg_add_cancel]
    exact (mul_eq_zero.mp this).resolve_left ha
  refine ⟨h1, hconj, ?_⟩
  rw [show z' = p' - β • p by rw [hp', add_sub_cancel_right], dot_sub_left, dot_smul_left, hA.sym p p',
    dot_comm (A p) p', hconj, mul_zero, sub_zero]

/-- Three-term relation, on vectors: two consecutive residual updates with non-zero step lengths and the direction
update between them give `A z₁ = −(1/a₁) r₂ + (1/a₁ + β₀/a₀) r₁ − (β₀/a₀) r₀`. -/
theorem three_term_vec {A : Vec α n → Vec α n} (hA : Lin A) {r0 r1 r2 z1 p0 p1 : Vec α n} {a0 a1 β0 : α}
    (h0 : a0 ≠ 0) (h1 : a1 ≠ 0) (e1 : r1 = r0 - a0 • A p0) (e2 : r2 = r1 - a1 • A p1) (ep : p1 = z1 + β0 • p0) :
    A z1 = (-(1 / a1)) • r2 + (1 / a1 + β0 / a0) • r1 - (β0 / a0) • r0 := by
  -- `A p₀ = (r₀ − r₁)/a₀`, `A p₁ = (r₁ − r₂)/a₁`, `z₁ = p₁ − β₀ p₀`
  have f0 : A p0 = (1 / a0) • (r0 - r1) := by rw [e1, sub_sub_cancel, smul_smul, one_div_mul_cancel h0, one_smul]
  have f1 : A p1 = (1 / a1) • (r1 - r2) := by rw [e2, sub_sub_cancel, smul_smul, one_div_mul_cancel h1, one_smul]
  rw [show A z1 = A p1 - β0 • A p0 by rw [ep, hA.add, hA.smul, add_sub_cancel_right], f0, f1, smul_smul,
    ← div_eq_mul_one_div, smul_sub, smul_sub, add_smul, neg_smul]
  abel

namespace IsPCG

/-- span of the first `k` search directions -/
def dirs (p : Nat → Vec α n) (k : Nat) : Submodule α (Vec α n) := Submodule.span α (Set.range fun i : Fin k => p i)

theorem dirs_mem (p : Nat → Vec α n) {i k : Nat} (hi : i < k) : p i ∈ dirs p k := Submodule.subset_span ⟨⟨i, hi⟩, rfl⟩

theorem dirs_mono (p : Nat → Vec α n) {j k : Nat} (hjk : j ≤ k) : dirs p j ≤ dirs p k :=
  Submodule.span_le.mpr fun _ ⟨i, hi⟩ => hi ▸ dirs_mem p (Nat.lt_of_lt_of_le i.2 hjk)

variable {A M : Vec α n → Vec α n} {x r z p : Nat → Vec α n} {a β : Nat → α} {m : Nat}
  (h : IsPCG A M x r z p a β m)
include h

theorem a_ne {k : Nat} (hk : k < m) : a k ≠ 0 := fun h0 =>
  ne_of_gt (h.rz_pos k hk) (by rw [← h.a_eq k hk, h0, zero_mul])

/-- `a_k · A p_k = r_k − r_{k+1}` -/
theorem smul_Ap (k : Nat) : a k • A (p k) = r k - r (k + 1) := by rw [h.r_succ, sub_sub_cancel]

theorem z_expand (k : Nat) : z (k + 1) = p (k + 1) - β k • p k := by rw [h.p_succ, add_sub_cancel_right]

/-- **All-pairs orthogonality and conjugacy**, by the classical simultaneous induction (the hypothesis at `k` is quantified
over all earlier iterations). -/
theorem orth (hA : LinSym A) (hM : ∀ u v, dot u (M v) = dot (M u) v) :
    ∀ k ≤ m, ∀ i < k, dot (r k) (z i) = 0 ∧ dot (p k) (A (p i)) = 0 := by
  have hsym : ∀ u v : Vec α n, dot u (A v) = dot v (A u) := fun u v => by rw [hA.sym, dot_comm]
  intro k
  induction k with
  | zero => exact fun _ i hi => absurd hi (Nat.not_lt_zero i)
  | succ k ih =>
    intro hk
    have hkm : k < m := hk
    have hall := ih (Nat.le_of_lt hkm)
    -- `z_i ⟂_A p_k` for `i < k`, since `z_i = p_i − β_{i−1} p_{i−1}`; and `z_kᵀ A p_k = p_kᵀ A p_k`
    have hZ : ∀ i < k, dot (z i) (A (p k)) = 0 := by
      intro i hi
      cases i with
      | zero => rw [← h.p_zero, hsym]; exact (hall 0 hi).2
      | succ i' =>
        rw [h.z_expand, dot_sub_left, dot_smul_left, hsym _ (p k), hsym _ (p k), (hall (i' + 1) hi).2,
          (hall i' (Nat.lt_of_succ_lt hi)).2, mul_zero, sub_zero]
    have hzAp : dot (z k) (A (p k)) = dot (p k) (A (p k)) := by
      cases k with
      | zero => rw [h.p_zero]
      | succ k' => rw [h.z_expand, dot_sub_left, dot_smul_left, hsym (p k'), (hall k' (Nat.lt_succ_self k')).2,
          mul_zero, sub_zero]
    obtain ⟨h1, hconj, -⟩ := conjugate_step hA hM (h.a_ne hkm) (h.z_eq k) (h.z_eq (k + 1)) (h.r_succ k) (h.p_succ k)
      hzAp (h.a_eq k hkm) (h.β_eq k hkm)
    -- the new residual against all earlier `z`, and (symmetry of the preconditioner) the new `z` against all earlier residuals
    have hB : ∀ j ≤ k, dot (r (k + 1)) (z j) = 0 := by
      intro j hj
      rcases Nat.lt_or_eq_of_le hj with hlt | rfl
      · rw [h.r_succ, dot_sub_left, dot_smul_left, (hall j hlt).1, dot_comm (A _) _, hZ j hlt, mul_zero, sub_zero]
      · exact h1
    have hB' : ∀ j ≤ k, dot (z (k + 1)) (r j) = 0 := by
      intro j hj
      rw [h.z_eq (k + 1), ← hM, ← h.z_eq j]; exact hB j hj
    intro i hi
    rcases Nat.lt_or_eq_of_le (Nat.le_of_lt_succ hi) with hlt | rfl
    · refine ⟨hB i (Nat.le_of_lt hlt), ?_⟩
      -- `a_i · z_{k+1}ᵀ A p_i = z_{k+1}ᵀ (r_i − r_{i+1}) = 0` and `a_i ≠ 0`
      have hz0 : dot (z (k + 1)) (A (p i)) = 0 := by
        have : a i * dot (z (k + 1)) (A (p i)) = 0 := by
          rw [← dot_smul_right, h.smul_Ap, dot_sub_right, hB' i (Nat.le_of_lt hlt), hB' (i + 1) hlt, sub_self]
        exact (mul_eq_zero.mp this).resolve_left (h.a_ne (Nat.lt_trans hlt hkm))
      rw [h.p_succ, dot_add_left, dot_smul_left, hz0, (hall i hlt).2, mul_zero, add_zero]
    · exact ⟨h1, hconj⟩

section
variable (hA : LinSym A) (hM : ∀ u v, dot u (M v) = dot (M u) v)
include hA hM

/-- residuals against preconditioned residuals, both orders -/
theorem r_orth {i j : Nat} (hi : i ≤ m) (hj : j ≤ m) (hij : i ≠ j) : dot (r i) (z j) = 0 := by
  rcases Nat.lt_or_gt_of_ne hij with hlt | hlt
  · rw [h.z_eq j, hM, ← h.z_eq i, dot_comm]; exact (h.orth hA hM j hj i hlt).1
  · exact (h.orth hA hM i hi j hlt).1

theorem p_conj {i j : Nat} (hi : i ≤ m) (hj : j ≤ m) (hij : i ≠ j) : dot (p i) (A (p j)) = 0 := by
  rcases Nat.lt_or_gt_of_ne hij with hlt | hlt
  · rw [hA.sym, dot_comm]; exact (h.orth hA hM j hj i hlt).2
  · exact (h.orth hA hM i hi j hlt).2

/-- the residual is orthogonal to every earlier search direction -/
theorem r_perp_p {k : Nat} (hk : k ≤ m) : ∀ i < k, dot (r k) (p i) = 0 := by
  intro i
  induction i with
  | zero => intro hi; rw [h.p_zero]; exact (h.orth hA hM k hk 0 hi).1
  | succ i ih =>
    intro hi
    rw [h.p_succ, dot_add_right, dot_smul_right, (h.orth hA hM k hk (i + 1) hi).1, ih (Nat.lt_of_succ_lt hi),
      mul_zero, add_zero]

/-- `p_kᵀ r_k = r_kᵀ z_k` -/
theorem p_dot_r {k : Nat} (hk : k ≤ m) : dot (p k) (r k) = dot (r k) (z k) := by
  cases k with
  | zero => rw [h.p_zero, dot_comm]
  | succ k =>
    rw [h.p_succ, dot_add_left, dot_smul_left, dot_comm (p k), h.r_perp_p hA hM hk k (Nat.lt_succ_self k), mul_zero,
      add_zero, dot_comm]

/-- `z_kᵀ A p_k = p_kᵀ A p_k` -/
theorem z_Ap {k : Nat} (hk : k ≤ m) : dot (z k) (A (p k)) = dot (p k) (A (p k)) := by
  cases k with
  | zero => rw [h.p_zero]
  | succ k =>
    rw [h.z_expand, dot_sub_left, dot_smul_left, h.p_conj hA hM (Nat.le_of_lt hk) hk (Nat.succ_ne_self k).symm,
      mul_zero, sub_zero]

/-- A direction against a preconditioned residual, from `z_j = p_j − β_{j−1} p_{j−1}` and conjugacy: `p_iᵀ A z_j` is
`p_iᵀAp_i` for `i = j`, `−β_i · p_iᵀAp_i` for `i + 1 = j`, and `0` otherwise. -/
theorem pAz {i j : Nat} (hi : i ≤ m) (hj : j ≤ m) :
    dot (p i) (A (z j))
      = if i = j then dot (p i) (A (p i)) else if i + 1 = j then -(β i * dot (p i) (A (p i))) else 0 := by
  have G : ∀ {b : Nat}, b ≤ m → dot (p i) (A (p b)) = if i = b then dot (p i) (A (p i)) else 0 := fun {b} hb => by
    by_cases e : i = b
    · rw [if_pos e, ← e]
    · rw [if_neg e]; exact h.p_conj hA hM hi hb e
  cases j with
  | zero => rw [← h.p_zero, G hj, if_neg (Nat.succ_ne_zero i)]
  | succ j =>
    rw [h.z_expand, hA.toLin.map_sub, hA.toLin.smul, dot_sub_right, dot_smul_right, G hj, G (Nat.le_of_succ_le hj)]
    by_cases h1 : i = j + 1
    · rw [if_pos h1, if_pos h1, if_neg (show ¬ i = j by omega), mul_zero, sub_zero]
    by_cases h2 : i = j
    · rw [if_neg h1, if_neg h1, if_pos h2, if_pos (show i + 1 = j + 1 by omega), zero_sub, h2]
    · rw [if_neg h1, if_neg h1, if_neg h2, if_neg (show ¬ i + 1 = j + 1 by omega), mul_zero, sub_zero]

end

/-! ### optimality -/

/-- the recurrence residual is the true residual -/
theorem r_eq (hA : Lin A) (b : Vec α n) (h0 : r 0 = b - A (x 0)) (k : Nat) : r k = b - A (x k) := by
  induction k with
  | zero => exact h0
  | succ k ih => rw [h.r_succ, h.x_succ, hA.add, hA.smul, ih, sub_sub]

/-- **Optimality over the span of the search directions**: `x_k` minimises the `A`-norm of the error over
`x_k + span{p_0 … p_{k−1}}`, because the residual `A(x* − x_k)` is orthogonal to that span. -/
theorem optimal_dirSpan (hA : LinSym A) (hpsd : ∀ v, 0 ≤ dot v (A v)) (hM : ∀ u v, dot u (M v) = dot (M u) v)
    (xs : Vec α n) (hxs : r 0 = A xs - A (x 0)) {k : Nat} (hk : k ≤ m) (v : Vec α n)
    (hv : v ∈ Submodule.span α (Set.range fun i : Fin k => p i)) :
    dot (xs - x k) (A (xs - x k)) ≤ dot (xs - (x k + v)) (A (xs - (x k + v))) := by
  have hvr : dot v (r k) = 0 := by
    induction hv using Submodule.span_induction with
    | mem y hy => obtain ⟨i, rfl⟩ := hy; rw [dot_comm]; exact h.r_perp_p hA hM hk i i.2
    | zero => exact dot_zero_left _
    | add y w _ _ hy hw => rw [dot_add_left, hy, hw, add_zero]
    | smul c y _ hy => rw [dot_smul_left, hy, mul_zero]
  have hr : A (xs - x k) = r k := by rw [hA.toLin.map_sub, h.r_eq hA.toLin (A xs) hxs k]
  rw [← sub_sub]
  generalize xs - x k = e at hr ⊢
  rw [hA.toLin.map_sub, dot_sub_left, dot_sub_right, dot_sub_right, hA.sym e v, hr, dot_comm (r k) v, hvr, sub_zero,
    zero_sub, sub_neg_eq_add]
  exact le_add_of_nonneg_right (hpsd v)

/-! ### the Krylov space lies in the span of the directions -/

theorem z_mem (i : Nat) : z i ∈ dirs p (i + 1) := by
  cases i with
  | zero => rw [← h.p_zero]; exact dirs_mem p (Nat.lt_succ_self 0)
  | succ i =>
    rw [h.z_expand]
    exact Submodule.sub_mem _ (dirs_mem p (Nat.lt_succ_self _)) (Submodule.smul_mem _ _ (dirs_mem p (by omega)))

theorem x_diff_mem (k : Nat) : x k - x 0 ∈ dirs p k := by
  induction k with
  | zero => rw [sub_self]; exact Submodule.zero_mem _
  | succ k ih =>
    rw [h.x_succ, add_sub_right_comm]
    exact Submodule.add_mem _ (dirs_mono p (Nat.le_succ k) ih) (Submodule.smul_mem _ _ (dirs_mem p (Nat.lt_succ_self k)))

section
variable (hAl : Lin A) (hMl : Lin M)
include hAl hMl

/-- `M⁻¹A` maps `span{p_0 … p_{k−1}}` into `span{p_0 … p_k}`, since `M⁻¹A p_i = (z_i − z_{i+1}) / a_i` -/
theorem MA_maps {k : Nat} (hk : k ≤ m) (v : Vec α n) (hv : v ∈ dirs p k) : M (A v) ∈ dirs p (k + 1) := by
  induction hv using Submodule.span_induction with
  | mem y hy =>
    obtain ⟨i, rfl⟩ := hy
    have e : a i • M (A (p i)) = z i - z (i + 1) := by rw [← hMl.smul, h.smul_Ap, hMl.map_sub, ← h.z_eq, ← h.z_eq]
    rw [← inv_smul_smul₀ (h.a_ne (Nat.lt_of_lt_of_le i.2 hk)) (M (A (p i))), e]
    exact Submodule.smul_mem _ _ (Submodule.sub_mem _ (dirs_mono p (by omega) (h.z_mem i))
      (dirs_mono p (by omega) (h.z_mem (i + 1))))
  | zero => rw [hAl.map_zero, hMl.map_zero]; exact Submodule.zero_mem _
  | add y w _ _ hy hw => rw [hAl.add, hMl.add]; exact Submodule.add_mem _ hy hw
  | smul c y _ hy => rw [hAl.smul, hMl.smul]; exact Submodule.smul_mem _ _ hy

/-- `K_k(M⁻¹A, z_0) ⊆ span{p_0 … p_{k−1}}` -/
theorem krylov_le {k : Nat} (hk : k ≤ m) :
    Submodule.span α (Set.range fun j : Fin k => (fun v => M (A v))^[j] (z 0)) ≤ dirs p k := by
  have hmem : ∀ j, j ≤ m → (fun v => M (A v))^[j] (z 0) ∈ dirs p (j + 1) := by
    intro j
    induction j with
    | zero => exact fun _ => h.z_mem 0
    | succ j ih =>
      intro hj
      rw [Function.iterate_succ_apply']
      exact h.MA_maps hAl hMl hj _ (ih (Nat.le_of_lt hj))
  refine Submodule.span_le.mpr ?_
  rintro _ ⟨j, rfl⟩
  exact dirs_mono p j.2 (hmem j (by omega))

end

/-- **Krylov optimality**: `x_k` minimises the `A`-norm of the error over `x_0 + K_k(M⁻¹A, M⁻¹r_0)`. -/
theorem krylov_optimal (hA : LinSym A) (hpsd : ∀ v, 0 ≤ dot v (A v)) (hM : ∀ u v, dot u (M v) = dot (M u) v)
    (hMl : Lin M) (xs : Vec α n) (hxs : r 0 = A xs - A (x 0)) {k : Nat} (hk : k ≤ m) (u : Vec α n)
    (hu : u ∈ Submodule.span α (Set.range fun j : Fin k => (fun v => M (A v))^[j] (z 0))) :
    dot (xs - x k) (A (xs - x k)) ≤ dot (xs - (x 0 + u)) (A (xs - (x 0 + u))) := by
  have := h.optimal_dirSpan hA hpsd hM xs hxs hk _
    (Submodule.sub_mem _ (h.krylov_le hA.toLin hMl hk hu) (h.x_diff_mem k))
  rwa [show x k + (u - (x k - x 0)) = x 0 + u by abel] at this

end IsPCG

/-- **Exact termination**: after `n` steps in dimension `n` the residual vanishes.  The residuals `r_0 … r_{n−1}` have a
diagonal Gram matrix with non-zero diagonal against `z_0 … z_{n−1}`, hence are a basis, and `r_n` is orthogonal to every
`z_j`. -/
theorem IsPCG.exact {A M : Vec α n → Vec α n} {x r z p : Nat → Vec α n} {a β : Nat → α}
    (h : IsPCG A M x r z p a β n) (hA : LinSym A)
    (hM : ∀ u v, dot u (M v) = dot (M u) v) : r n = 0 := by
  have hcoef : ∀ (g : Fin n → α) (j : Fin n), dot (∑ i, g i • r i) (z j) = g j * dot (r j) (z j) := by
    intro g j
    rw [dot_sum_left, Finset.sum_eq_single j]
    · rw [dot_smul_left]
    · intro i _ hij
      rw [dot_smul_left, h.r_orth hA hM (Nat.le_of_lt i.2) (Nat.le_of_lt j.2) (fun e => hij (Fin.ext e)), mul_zero]
    · intro hj; exact absurd (Finset.mem_univ j) hj
  -- a combination of the `r_i` that is orthogonal to every `z_j` has zero coefficients
  have hzero : ∀ g : Fin n → α, (∀ j : Fin n, dot (∑ i, g i • r i) (z j) = 0) → ∀ j, g j = 0 := fun g hg j =>
    (mul_eq_zero.mp ((hcoef g j).symm.trans (hg j))).resolve_right (ne_of_gt (h.rz_pos j j.2))
  have hli : LinearIndependent α (fun i : Fin n => r i) :=
    Fintype.linearIndependent_iff.mpr fun g hg => hzero g fun j => by rw [hg, dot_zero_left]
  have hmem : r n ∈ Submodule.span α (Set.range fun i : Fin n => r i) := by
    rw [hli.span_eq_top_of_card_eq_finrank' (by rw [Fintype.card_fin, Module.finrank_fin_fun])]
    exact Submodule.mem_top
  obtain ⟨c, hc⟩ := (Submodule.mem_span_range_iff_exists_fun α).mp hmem
  have hc0 := hzero c fun j => by rw [hc]; exact (h.orth hA hM n (le_refl n) j j.2).1
  rw [← hc]
  exact Finset.sum_eq_zero fun i _ => by rw [hc0 i, zero_smul]

end LinOp.C08
