/-
C08 — the whole call: the two error exits, the stopping rule and the warning, the tridiagonal block in closed form, and
the simulation of the coupled loop by the columns' own recurrences (`linearCgCore_columns`): every returned solution
column is an `iterCol` iterate and every returned `t_mat` a `triFold` over that column's trajectory.
-/
import LinOp.C08.ProofsStep

set_option linter.unusedSectionVars false
namespace LinOp.C08

section generic
variable {α : Type} [Add α] [Sub α] [Mul α] [Div α] [Neg α] [Zero α] [One α]

/-! ### the loop (any scalar type) -/

theorem stopNow_tol (N : NumOps α) (P : Params α) (nT k : Nat) (rns : List α)
    (h : stopNow N P nT k rns = true) : N.lt (mean rns) P.tol = true := by
  simp only [stopNow, Bool.and_eq_true] at h
  exact h.1.2

/-- The loop never stops before iteration index `min(F, max_iter − 1)`. -/
theorem stopNow_floor (N : NumOps α) (P : Params α) (nT k : Nat) (rns : List α)
    (h : stopNow N P nT k rns = true) : min P.iterFloor (P.maxIter - 1) ≤ k := by
  simp only [stopNow, Bool.and_eq_true, decide_eq_true_eq] at h
  exact h.1.1

/-- With no iterations left the loop returns its state. -/
theorem iterate_iters_zero (N : NumOps α) (P : Params α) {n : Nat} (sys : List (SysZ α n)) (nT k : Nat)
    (st : St α n) : iterate N P sys nT 0 k st = st := rfl

/-- The loop body up to the tolerance test: kernel on every column, then the tridiagonal block if it is active. -/
def loopBody (N : NumOps α) (P : Params α) {n : Nat} (sys : List (SysZ α n)) (nT k : Nat) (st : St α n) : St α n :=
  let cs1 := stepCols N P sys st.cs
  let st1 : St α n := { st with cs := cs1, iters := st.iters + 1, trace := (st.cs.map fun ct => ct.1.p) :: st.trace }
  if decide (0 < P.nTridiag) && decide (k < nT) && st.updTri then
    { st1 with cs := triCols N k cs1, lastTri := k,
               updTri := !(decide (k ≠ 0) && N.lt (lmax N (offDiags k (triCols N k cs1))) P.triOff) }
  else st1

theorem iterate_succ (N : NumOps α) (P : Params α) {n : Nat} (sys : List (SysZ α n)) (nT fuel k : Nat)
    (st : St α n) :
    iterate N P sys nT (fuel + 1) k st =
      if stopNow N P nT k ((stepCols N P sys st.cs).map fun ct => ct.1.rn) then
        { loopBody N P sys nT k st with tolReached := true }
      else iterate N P sys nT fuel (k + 1) (loopBody N P sys nT k st) := rfl

theorem triCols_rn (N : NumOps α) {n : Nat} (k : Nat) (cs : List (Col α n × Tri α)) :
    (triCols N k cs).map (fun ct => ct.1.rn) = cs.map fun ct => ct.1.rn := by
  rw [triCols, List.map_map]
  refine List.map_congr_left fun ct _ => ?_
  simp only [Function.comp]
  split <;> rfl

theorem loopBody_rn (N : NumOps α) (P : Params α) {n : Nat} (sys : List (SysZ α n)) (nT k : Nat) (st : St α n) :
    (loopBody N P sys nT k st).cs.map (fun ct => ct.1.rn) = (stepCols N P sys st.cs).map fun ct => ct.1.rn := by
  unfold loopBody
  split
  · exact triCols_rn N k _
  · rfl

theorem loopBody_tolReached (N : NumOps α) (P : Params α) {n : Nat} (sys : List (SysZ α n)) (nT k : Nat)
    (st : St α n) : (loopBody N P sys nT k st).tolReached = st.tolReached := by
  unfold loopBody; split <;> rfl

theorem loopBody_iters (N : NumOps α) (P : Params α) {n : Nat} (sys : List (SysZ α n)) (nT k : Nat)
    (st : St α n) : (loopBody N P sys nT k st).iters = st.iters + 1 := by
  unfold loopBody; split <;> rfl

/-- `tolerance_reached` is only set by the tolerance test, on the residual norms the call reports. -/
theorem iterate_tol (N : NumOps α) (P : Params α) {n : Nat} (sys : List (SysZ α n)) (nT : Nat) :
    ∀ (fuel k : Nat) (st : St α n), (iterate N P sys nT fuel k st).tolReached = true →
      st.tolReached = true ∨
        N.lt (mean ((iterate N P sys nT fuel k st).cs.map fun ct => ct.1.rn)) P.tol = true := by
  intro fuel
  induction fuel with
  | zero => exact fun k st h => .inl h
  | succ f ih =>
    intro k st h
    by_cases hs : stopNow N P nT k ((stepCols N P sys st.cs).map fun ct => ct.1.rn) = true
    · right
      rw [iterate_succ, if_pos hs]
      show N.lt (mean ((loopBody N P sys nT k st).cs.map fun ct => ct.1.rn)) P.tol = true
      rw [loopBody_rn]
      exact stopNow_tol N P nT k _ hs
    · rw [iterate_succ, if_neg hs] at h ⊢
      exact (ih _ _ h).imp_left fun h' => loopBody_tolReached N P sys nT k st ▸ h'

/-! ### the two exits -/

theorem linearCg_limit (N : NumOps α) (P : Params α) {n : Nat} (sys : List (Sys α n))
    (h : P.maxTridiagIter > P.maxIter) : linearCg N P sys = .error .tridiagLimit :=
  if_pos h

theorem linearCg_nan (N : NumOps α) (P : Params α) {n : Nat} (sys : List (Sys α n))
    (h : ¬ P.maxTridiagIter > P.maxIter) (s : Sys α n) (hs : s ∈ sys)
    (hn : vecHasNan N (prep N P s).r0 = true) : linearCg N P sys = .error .nan := by
  have : (sys.map fun s => prep N P s).any (fun q => vecHasNan N q.r0) = true := by
    rw [List.any_map, List.any_eq_true]
    exact ⟨s, hs, hn⟩
  rw [linearCg, if_neg h, if_pos this]

theorem linearCg_ok (N : NumOps α) (P : Params α) {n : Nat} (sys : List (Sys α n)) (o : Out α n)
    (h : linearCg N P sys = .ok o) : o = linearCgCore N P sys := by
  unfold linearCg at h
  split at h
  · cases h
  · split at h
    · cases h
    · exact (Except.ok.inj h).symm

theorem linearCgCore_no_warning (N : NumOps α) (P : Params α) {n : Nat} (sys : List (Sys α n))
    (hw : (linearCgCore N P sys).warn = false) :
    (linearCgCore N P sys).iters = 0 ∨ N.lt (mean (linearCgCore N P sys).rns) P.tol = true := by
  simp only [linearCgCore, Bool.and_eq_false_iff, Bool.not_eq_false', decide_eq_false_iff_not, Nat.not_lt,
    Nat.le_zero_eq] at hw ⊢
  rcases hw with hw | hw
  · exact .inr ((iterate_tol N P _ _ _ _ _ hw).resolve_left Bool.false_ne_true)
  · left
    rw [hw]; rfl

/-! ### the tridiagonal block -/

theorem upd_apply (t : Nat → Nat → α) (i j : Nat) (v : α) (a b : Nat) :
    upd t i j v a b = if a = i ∧ b = j then v else t a b := rfl

theorem triStep_zero_t (N : NumOps α) {n : Nat} (c : Col α n) (t : Tri α) :
    (triStep N 0 c t).t = upd t.t 0 0 (alphaRecip N c.alpha) := rfl

/-- iteration `k + 1` writes `T[k+1,k+1]`, then `T[k+1,k]` and `T[k,k+1]` -/
theorem triStep_succ_t (N : NumOps α) {n : Nat} (k : Nat) (c : Col α n) (t : Tri α) :
    (triStep N (k + 1) c t).t =
      upd (upd (upd t.t (k + 1) (k + 1) (alphaRecip N c.alpha + t.prevBeta * t.prevAlphaRecip))
        (k + 1) k (N.sqrt t.prevBeta * t.prevAlphaRecip)) k (k + 1) (N.sqrt t.prevBeta * t.prevAlphaRecip) := rfl

theorem triStep_prev (N : NumOps α) {n : Nat} (k : Nat) (c : Col α n) (t : Tri α) :
    (triStep N k c t).prevAlphaRecip = alphaRecip N c.alpha ∧ (triStep N k c t).prevBeta = c.beta := by
  unfold triStep; split <;> exact ⟨rfl, rfl⟩

theorem triStep_entries (N : NumOps α) {n : Nat} (k : Nat) (c1 c2 : Col α n) (t0 : Tri α) :
    (triStep N (k + 1) c2 (triStep N k c1 t0)).t (k + 1) (k + 1)
        = alphaRecip N c2.alpha + c1.beta * alphaRecip N c1.alpha ∧
    (triStep N (k + 1) c2 (triStep N k c1 t0)).t (k + 1) k = N.sqrt c1.beta * alphaRecip N c1.alpha ∧
    (triStep N (k + 1) c2 (triStep N k c1 t0)).t k (k + 1) = N.sqrt c1.beta * alphaRecip N c1.alpha := by
  obtain ⟨ha, hb⟩ := triStep_prev N k c1 t0
  simp [triStep_succ_t, upd_apply, ha, hb]

theorem triStep_first (N : NumOps α) {n : Nat} (c : Col α n) (t0 : Tri α) :
    (triStep N 0 c t0).t 0 0 = alphaRecip N c.alpha := rfl

/-- symmetric, and supported on the three central diagonals of the leading `k × k` block -/
def TriOK (t : Nat → Nat → α) (k : Nat) : Prop :=
  (∀ i j, t i j = t j i) ∧ (∀ i j, (j + 1 < i ∨ i + 1 < j ∨ k ≤ i ∨ k ≤ j) → t i j = 0)

/-- writing a diagonal entry, or the same value at `(a+1, a)` and `(a, a+1)`, keeps a matrix symmetric -/
theorem upd_diag_symm {t : Nat → Nat → α} (hs : ∀ i j, t i j = t j i) (a : Nat) (v : α) (i j : Nat) :
    upd t a a v i j = upd t a a v j i := by
  simp only [upd_apply, and_comm (a := j = a), hs i j]

theorem upd_pair_symm {t : Nat → Nat → α} (hs : ∀ i j, t i j = t j i) (a : Nat) (v : α) (i j : Nat) :
    upd (upd t (a + 1) a v) a (a + 1) v i j = upd (upd t (a + 1) a v) a (a + 1) v j i := by
  simp only [upd_apply, hs i j, and_comm (a := j = _)]
  split_ifs <;> rfl

theorem triStep_ok (N : NumOps α) {n : Nat} (k : Nat) (c : Col α n) (t : Tri α) (h : TriOK t.t k) :
    TriOK (triStep N k c t).t (k + 1) := by
  cases k with
  | zero =>
    rw [triStep_zero_t]
    refine ⟨upd_diag_symm h.1 0 _, fun i j hij => ?_⟩
    rw [upd_apply, if_neg (by omega)]
    exact h.2 i j (by omega)
  | succ k =>
    rw [triStep_succ_t]
    refine ⟨upd_pair_symm (upd_diag_symm h.1 (k + 1) _) k _, fun i j hij => ?_⟩
    rw [upd_apply, if_neg (by omega), upd_apply, if_neg (by omega), upd_apply, if_neg (by omega)]
    exact h.2 i j (by omega)

end generic

variable {α : Type} [Field α] [LinearOrder α] [IsStrictOrderedRing α]

/-! ### the accumulated tridiagonal matrix -/

/-- `m` consecutive tridiagonal updates (iterations `0 … m−1`, column state `cs k` after the kernel of iteration `k`)
starting from the zero matrix — what `linear_cg` holds in `t_mat` for one column while `update_tridiag` is on. -/
def triFold (N : NumOps α) {n : Nat} (cs : Nat → Col α n) (m : Nat) : Tri α :=
  (List.range m).foldl (fun t k => triStep N k (cs k) t) (emptyTri : Tri α)

theorem triFold_succ (N : NumOps α) {n : Nat} (cs : Nat → Col α n) (m : Nat) :
    triFold N cs (m + 1) = triStep N m (cs m) (triFold N cs m) := by
  unfold triFold
  rw [List.range_succ, List.foldl_append]; rfl

/-- the matrix the code is meant to build: `1/α_k + β_{k−1}/α_{k−1}` on the diagonal (`1/α_0` first),
`√β_k/α_k` next to it (in terms of the masked reciprocal `alphaRecip`) -/
def lanczosT (N : NumOps α) {n : Nat} (cs : Nat → Col α n) (i j : Nat) : α :=
  if i = j then
    (if i = 0 then alphaRecip N (cs 0).alpha
     else alphaRecip N (cs i).alpha + (cs (i - 1)).beta * alphaRecip N (cs (i - 1)).alpha)
  else if i = j + 1 then N.sqrt (cs j).beta * alphaRecip N (cs j).alpha
  else if j = i + 1 then N.sqrt (cs i).beta * alphaRecip N (cs i).alpha
  else 0

section
variable (N : NumOps α) {n : Nat} (cs : Nat → Col α n)

theorem lanczosT_zero : lanczosT N cs 0 0 = alphaRecip N (cs 0).alpha := rfl

theorem lanczosT_diag (k : Nat) :
    lanczosT N cs (k + 1) (k + 1) = alphaRecip N (cs (k + 1)).alpha + (cs k).beta * alphaRecip N (cs k).alpha := by
  rw [lanczosT, if_pos rfl, if_neg (Nat.succ_ne_zero k), Nat.add_sub_cancel]

theorem lanczosT_sub (j : Nat) : lanczosT N cs (j + 1) j = N.sqrt (cs j).beta * alphaRecip N (cs j).alpha := by
  rw [lanczosT, if_neg (Nat.succ_ne_self j), if_pos rfl]

theorem lanczosT_super (i : Nat) : lanczosT N cs i (i + 1) = N.sqrt (cs i).beta * alphaRecip N (cs i).alpha := by
  rw [lanczosT, if_neg (Nat.succ_ne_self i).symm, if_neg (by omega), if_pos rfl]

theorem lanczosT_far {i j : Nat} (h : j + 1 < i ∨ i + 1 < j) : lanczosT N cs i j = 0 := by
  rw [lanczosT, if_neg (by omega), if_neg (by omega), if_neg (by omega)]

theorem lanczosT_symm (i j : Nat) : lanczosT N cs i j = lanczosT N cs j i := by
  by_cases h1 : i = j
  · rw [h1]
  by_cases h2 : i = j + 1
  · rw [h2, lanczosT_sub, lanczosT_super]
  by_cases h3 : j = i + 1
  · rw [h3, lanczosT_sub, lanczosT_super]
  · rw [lanczosT_far N cs (by omega), lanczosT_far N cs (by omega)]

/-- Every entry after `m` updates, and what the next update reads. -/
theorem triFold_closed (m : Nat) :
    (∀ i j, (triFold N cs m).t i j = if i < m ∧ j < m then lanczosT N cs i j else 0) ∧
    (0 < m → (triFold N cs m).prevAlphaRecip = alphaRecip N (cs (m - 1)).alpha ∧
             (triFold N cs m).prevBeta = (cs (m - 1)).beta) := by
  refine ⟨?_, fun hm => ?_⟩
  · induction m with
    | zero => exact fun i j => (if_neg (fun h => Nat.not_lt_zero i h.1)).symm
    | succ m iht =>
      intro i j
      rw [triFold_succ]
      cases m with
      | zero =>
        rw [triStep_zero_t, upd_apply]
        by_cases h : i = 0 ∧ j = 0
        · rw [if_pos h, h.1, h.2]; rfl
        · rw [if_neg h, if_neg (show ¬ (i < 0 + 1 ∧ j < 0 + 1) by omega)]; rfl
      | succ k =>
        -- the new entries are read off `lanczosT`; an old entry survives, and the rest of row and column `k + 1` is zero
        obtain ⟨hpa, hpb⟩ := triStep_prev N k (cs k) (triFold N cs k)
        rw [triStep_succ_t, triFold_succ, hpa, hpb, ← triFold_succ, upd_apply, upd_apply, upd_apply, iht]
        by_cases h1 : i = k ∧ j = k + 1
        · rw [if_pos h1, h1.1, h1.2, if_pos (by omega), lanczosT_super]
        by_cases h2 : i = k + 1 ∧ j = k
        · rw [if_neg h1, if_pos h2, h2.1, h2.2, if_pos (by omega), lanczosT_sub]
        by_cases h3 : i = k + 1 ∧ j = k + 1
        · rw [if_neg h1, if_neg h2, if_pos h3, h3.1, h3.2, if_pos (by omega), lanczosT_diag]
        rw [if_neg h1, if_neg h2, if_neg h3]
        by_cases h4 : i < k + 1 ∧ j < k + 1
        · rw [if_pos h4, if_pos (by omega)]
        by_cases h5 : i < k + 1 + 1 ∧ j < k + 1 + 1
        · rw [if_neg h4, if_pos h5, lanczosT_far N cs (by omega)]
        · rw [if_neg h4, if_neg h5]
  · obtain ⟨k, rfl⟩ : ∃ k, m = k + 1 := ⟨m - 1, by omega⟩
    rw [triFold_succ]
    exact triStep_prev N k (cs k) _

theorem triFold_symm (m i j : Nat) : (triFold N cs m).t i j = (triFold N cs m).t j i := by
  rw [(triFold_closed N cs m).1 i j, (triFold_closed N cs m).1 j i, lanczosT_symm N cs i j]
  exact if_congr and_comm rfl rfl

end

/-! ### the coupled loop simulates the columns' recurrences -/

theorem triStep_on (N : NumOps α) {n : Nat} (k : Nat) (c : Col α n) (t : Tri α) (b : Bool) :
    triStep N k c { t with on := b } = { triStep N k c t with on := b } := by
  unfold triStep
  split <;> rfl

section
variable (N : NumOps α) (P : Params α) {n : Nat} (sysz : List (SysZ α n)) (c0 : SysZ α n → Col α n)
  (onf : SysZ α n → Bool)

/-- column state of `sz` after `k` loop bodies -/
def colAt (sz : SysZ α n) (k : Nat) : Col α n := iterCol N P sz.1 sz.2 k (c0 sz)

/-- tridiagonal state of `sz` after `K` active tridiagonal blocks -/
def triAt (sz : SysZ α n) (K : Nat) : Tri α :=
  if onf sz then { triFold N (fun q => colAt N P c0 sz (q + 1)) K with on := true }
  else { (emptyTri : Tri α) with on := false }

/-- the loop state after `k` bodies of which the first `K` ran the tridiagonal block -/
def stF (k K : Nat) : List (Col α n × Tri α) :=
  sysz.map fun sz => (colAt N P c0 sz k, triAt N P c0 onf sz K)

theorem stepCols_F (k K : Nat) :
    stepCols N P sysz (stF N P sysz c0 onf k K) = stF N P sysz c0 onf (k + 1) K := by
  unfold stepCols stF
  rw [List.zipWith_map_right, List.zipWith_self]
  rfl

theorem triCols_F (k : Nat) :
    triCols N k (stF N P sysz c0 onf (k + 1) k) = stF N P sysz c0 onf (k + 1) (k + 1) := by
  unfold triCols stF
  rw [List.map_map]
  refine List.map_congr_left fun sz _ => ?_
  simp only [Function.comp, triAt]
  cases onf sz
  · rfl
  · simp only [if_true]
    rw [triStep_on, triFold_succ]

/-- What the loop maintains at the head of iteration `k`, `K` tridiagonal blocks having run: the state is `stF k K`, the
block is still active only if it ran in every iteration so far, and `last_tridiag_iter = K − 1`. -/
structure LoopInv (nT k K : Nat) (st : St α n) : Prop where
  cs : st.cs = stF N P sysz c0 onf k K
  sync : st.updTri = true → 0 < P.nTridiag → k < nT → K = k
  last : 0 < K → st.lastTri + 1 = K
  leT : K ≤ nT
  lek : K ≤ k

theorem loopBody_inv {nT k K : Nat} {st : St α n} (h : LoopInv N P sysz c0 onf nT k K st) :
    ∃ K', LoopInv N P sysz c0 onf nT (k + 1) K' (loopBody N P sysz nT k st) := by
  have hcs1 : stepCols N P sysz st.cs = stF N P sysz c0 onf (k + 1) K := by rw [h.cs, stepCols_F]
  unfold loopBody
  simp only [hcs1]
  split
  · -- the tridiagonal block runs at iteration `k`, so it ran in all iterations before
    rename_i hact
    simp only [Bool.and_eq_true, decide_eq_true_eq] at hact
    obtain rfl : K = k := h.sync hact.2 hact.1.1 hact.1.2
    exact ⟨K + 1, triCols_F N P sysz c0 onf K, fun _ _ _ => rfl, fun _ => rfl, hact.1.2, le_rfl⟩
  · -- the block does not run, and never will again
    rename_i hact
    refine ⟨K, rfl, fun hu hnt hk1 => absurd ?_ hact, h.last, h.leT, Nat.le_succ_of_le h.lek⟩
    simp only [Bool.and_eq_true, decide_eq_true_eq]
    exact ⟨⟨hnt, by omega⟩, hu⟩

theorem iterate_inv (nT : Nat) : ∀ (fuel k K : Nat) (st : St α n), LoopInv N P sysz c0 onf nT k K st →
    ∃ k' K', LoopInv N P sysz c0 onf nT k' K' (iterate N P sysz nT fuel k st) ∧
      (iterate N P sysz nT fuel k st).iters + k = st.iters + k' := by
  intro fuel
  induction fuel with
  | zero => exact fun k K st h => ⟨k, K, h, rfl⟩
  | succ f ih =>
    intro k K st h
    obtain ⟨K', h'⟩ := loopBody_inv N P sysz c0 onf h
    have hi := loopBody_iters N P sysz nT k st
    rw [iterate_succ]
    split
    · exact ⟨k + 1, K', ⟨h'.cs, h'.sync, h'.last, h'.leT, h'.lek⟩, by
        show (loopBody N P sysz nT k st).iters + k = _; omega⟩
    · obtain ⟨k', K'', h2, h3⟩ := ih (k + 1) K' _ h'
      exact ⟨k', K'', h2, by omega⟩

end

theorem flatten_if_map {β γ : Type} (l : List β) (p : β → Bool) (f : β → γ) :
    (l.map fun a => if p a then [f a] else []).flatten = (l.filter p).map f := by
  induction l with
  | nil => rfl
  | cons a l ih =>
    simp only [List.map_cons, List.flatten_cons, ih, List.filter_cons]
    cases p a <;> rfl

/-- **The whole call in terms of the columns' own recurrences**: with `k` the number of loop bodies run and `K ≤ k` the
number of them in which the tridiagonal block was active, every solution column is its `k`-th iterate times `rhs_norm`
and every returned `t_mat` is `K` updates over that column's trajectory. -/
theorem linearCgCore_columns (N : NumOps α) (P : Params α) {n : Nat} (sys : List (Sys α n)) :
    ∃ K, K ≤ (linearCgCore N P sys).iters ∧ K ≤ min P.maxTridiagIter n ∧
      (linearCgCore N P sys).x = (sys.map fun s => fun i =>
        (iterCol N P s (prep N P s).isZero (linearCgCore N P sys).iters (initCol N P s (prep N P s))).x i
          * (prep N P s).nrm) ∧
      (linearCgCore N P sys).t = ((sys.filter fun s => s.tri).map fun s =>
        (triFold N (fun q => iterCol N P s (prep N P s).isZero (q + 1) (initCol N P s (prep N P s))) K).t) ∧
      (0 < K → P.nTridiag ≠ 0 → (linearCgCore N P sys).tSize = K) := by
  set sysz : List (SysZ α n) := sys.map fun s => ((s, (prep N P s).isZero) : SysZ α n) with hsz
  set c0 : SysZ α n → Col α n := fun sz => initCol N P sz.1 (prep N P sz.1) with hc0
  set onf : SysZ α n → Bool := fun sz => sz.1.tri with honf
  have hcols : List.zipWith (fun s q => initCol N P s q) sys (sys.map fun s => prep N P s)
      = sys.map fun s => initCol N P s (prep N P s) := by rw [List.zipWith_map_right, List.zipWith_self]
  have hsysz : List.zipWith (fun s (q : Prep α n) => ((s, q.isZero) : SysZ α n)) sys (sys.map fun s => prep N P s)
      = sysz := by rw [List.zipWith_map_right, List.zipWith_self]
  -- the state before the loop
  have hst0 : List.zipWith (fun (s : Sys α n) c => (c, { (emptyTri : Tri α) with on := s.tri })) sys
      (sys.map fun s => initCol N P s (prep N P s)) = stF N P sysz c0 onf 0 0 := by
    rw [List.zipWith_map_right, List.zipWith_self, stF, hsz, List.map_map]
    refine List.map_congr_left fun s _ => ?_
    simp only [Function.comp, colAt, triAt, iterCol, hc0, honf, triFold, List.range_zero, List.foldl_nil]
    cases s.tri <;> rfl
  simp only [linearCgCore, hcols, hsysz, hst0]
  obtain ⟨k', K', hI, hit⟩ := iterate_inv N P sysz c0 onf (min P.maxTridiagIter n)
    (if ((sys.map fun s => initCol N P s (prep N P s)).all (fun c => c.conv) && decide (P.nTridiag = 0)) = true then 0
      else nIterOf P n) 0 0
    { cs := stF N P sysz c0 onf 0 0, updTri := true, lastTri := 0, tolReached := false, iters := 0, trace := [] }
    ⟨rfl, fun _ _ _ => rfl, fun h => absurd h (Nat.lt_irrefl 0), Nat.zero_le _, le_rfl⟩
  simp only [Nat.add_zero, Nat.zero_add] at hit
  rw [hI.cs, hit]
  refine ⟨K', hI.lek, hI.leT, ?_, ?_, fun hK hnt => ?_⟩
  · rw [stF, hsz, List.map_map, List.zipWith_map_left, List.zipWith_map_right, List.zipWith_self]
    rfl
  · have : ((fun (ct : Col α n × Tri α) => if ct.2.on = true then [ct.2.t] else []) ∘
        fun sz => (colAt N P c0 sz k', triAt N P c0 onf sz K'))
        = fun sz => if onf sz then [(triFold N (fun q => colAt N P c0 sz (q + 1)) K').t] else [] := by
      funext sz
      simp only [Function.comp, triAt]
      cases onf sz <;> rfl
    rw [stF, List.map_map, this, flatten_if_map, hsz, List.filter_map, List.map_map]
    rfl
  · rw [if_neg hnt, hI.last hK]
    exact Nat.min_eq_left hI.leT

end LinOp.C08
