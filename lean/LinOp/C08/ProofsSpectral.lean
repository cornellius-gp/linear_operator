/-
C08 — over ℝ a symmetric linear closure has an orthonormal eigenbasis (Mathlib's spectral theorem for Hermitian
matrices) whose eigenvalues obey every Rayleigh-quotient bound.  Two uses: the eigenbasis is an `AEig` for the
unpreconditioned kernel, and the eigenvalues of the leading block of the tridiagonal matrix (Ritz values) lie inside the
spectrum.
-/
import LinOp.C08.ProofsKrylov
import LinOp.C08.ProofsLanczos
import Mathlib.Analysis.Matrix.Spectrum

set_option linter.unusedSectionVars false
namespace LinOp.C08

open Matrix

variable {n : Nat}

/-- the matrix of a closure in the standard basis -/
def matOf (f : Vec ℝ n → Vec ℝ n) : Matrix (Fin n) (Fin n) ℝ :=
  Matrix.of fun i j => f (Pi.single j 1) i

theorem vec_eq_sum_single (v : Vec ℝ n) : v = ∑ j, v j • (Pi.single j (1 : ℝ) : Vec ℝ n) := by
  funext i
  simp only [Finset.sum_apply, Pi.smul_apply, Pi.single_apply, smul_eq_mul, mul_ite, mul_one, mul_zero,
    Finset.sum_ite_eq, Finset.mem_univ, if_true]

theorem matOf_mulVec {f : Vec ℝ n → Vec ℝ n} (hf : Lin f) (v : Vec ℝ n) : (matOf f) *ᵥ v = f v := by
  conv_rhs => rw [vec_eq_sum_single v, hf.map_sum]
  funext i
  simp only [Matrix.mulVec, dotProduct, matOf, Matrix.of_apply, Finset.sum_apply, hf.smul, Pi.smul_apply,
    smul_eq_mul]
  apply Finset.sum_congr rfl
  intro j _; ring

theorem dot_single_left (j : Fin n) (w : Vec ℝ n) : dot (Pi.single j (1 : ℝ) : Vec ℝ n) w = w j := by
  simp only [dot_eq, Pi.single_apply, ite_mul, one_mul, zero_mul, Finset.sum_ite_eq', Finset.mem_univ, if_true]

theorem dot_single_right (j : Fin n) (w : Vec ℝ n) : dot w (Pi.single j (1 : ℝ) : Vec ℝ n) = w j := by
  rw [dot_comm, dot_single_left]

theorem matOf_hermitian {f : Vec ℝ n → Vec ℝ n} (hf : LinSym f) : (matOf f).IsHermitian := by
  apply Matrix.IsHermitian.ext
  intro i j
  simp only [matOf, Matrix.of_apply, star_trivial]
  -- f(e_i) j = f(e_j) i
  rw [← dot_single_left j (f (Pi.single i 1)), hf.sym, dot_single_right]

section
variable {f : Vec ℝ n → Vec ℝ n} (hf : LinSym f)

/-- the orthonormal eigenvectors (columns of Mathlib's `eigenvectorUnitary`) -/
noncomputable def eigVec (j : Fin n) : Vec ℝ n := fun i => ((matOf_hermitian hf).eigenvectorUnitary : Matrix _ _ ℝ) i j

noncomputable def eigVal (j : Fin n) : ℝ := (matOf_hermitian hf).eigenvalues j

theorem eigVec_apply (j : Fin n) : f (eigVec hf j) = eigVal hf j • eigVec hf j := by
  have h := (matOf_hermitian hf).mulVec_eigenvectorBasis j
  rw [← matOf_mulVec hf.toLin]
  exact h

theorem eigVec_orthonormal (i j : Fin n) : dot (eigVec hf i) (eigVec hf j) = if i = j then 1 else 0 := by
  have h := (matOf_hermitian hf).eigenvectorUnitary.2
  rw [Matrix.mem_unitaryGroup_iff'] at h
  have := congrFun (congrFun h i) j
  simp only [Matrix.mul_apply, Matrix.star_apply, star_trivial, Matrix.one_apply] at this
  rw [dot_eq]; exact this

/-- `w = U (Uᵀ w)` -/
theorem eigVec_complete (w : Vec ℝ n) : w = ∑ j, dot (eigVec hf j) w • eigVec hf j := by
  have h := (Matrix.mem_unitaryGroup_iff).mp (matOf_hermitian hf).eigenvectorUnitary.2
  have e : ((matOf_hermitian hf).eigenvectorUnitary : Matrix (Fin n) (Fin n) ℝ) *ᵥ
      (star ((matOf_hermitian hf).eigenvectorUnitary : Matrix (Fin n) (Fin n) ℝ) *ᵥ w) = w := by
    rw [mulVec_mulVec, h, one_mulVec]
  refine e.symm.trans (funext fun i => ?_)
  rw [Finset.sum_apply]
  show ∑ j, eigVec hf j i * ∑ i', eigVec hf j i' * w i' = _
  exact Finset.sum_congr rfl fun j _ => by rw [Pi.smul_apply, smul_eq_mul, mul_comm, dot_eq]

/-- every eigenvalue lies between any two Rayleigh-quotient bounds -/
theorem eigVal_bounds (lo hi : ℝ) (hlo : ∀ v, lo * dot v v ≤ dot v (f v)) (hhi : ∀ v, dot v (f v) ≤ hi * dot v v)
    (j : Fin n) : lo ≤ eigVal hf j ∧ eigVal hf j ≤ hi := by
  have h1 := hlo (eigVec hf j)
  have h2 := hhi (eigVec hf j)
  rw [eigVec_apply hf, dot_smul_right, eigVec_orthonormal, if_pos rfl, mul_one, mul_one] at h1 h2
  exact ⟨h1, h2⟩

end

/-- the spectral decomposition of `A` as an `AEig` of the unpreconditioned kernel -/
noncomputable def aeigOfSym (P : Params ℝ) (hnp : P.precond = false) (s : Sys ℝ n) (hA : LinSym s.amul) :
    AEig (Fin n) P s :=
  { v := eigVec hA
    lam := eigVal hA
    g := eigVal hA
    eig := fun i => by
      show preF P s (s.amul (eigVec hA i)) = _
      rw [preF_id_of_noprecond P s hnp, eigVec_apply hA]
    gram := fun i j => by
      rw [eigVec_apply hA, dot_smul_right, eigVec_orthonormal]
      by_cases h : i = j
      · subst h; simp
      · simp [h]
    complete := fun w => ⟨fun j => dot (eigVec hA j) w, eigVec_complete hA w⟩ }

theorem aeigOfSym_lam (P : Params ℝ) (hnp : P.precond = false) (s : Sys ℝ n) (hA : LinSym s.amul) (i : Fin n) :
    (aeigOfSym P hnp s hA).lam i = eigVal hA i := rfl

/-! ### Ritz values -/

/-- the leading `m × m` block of a `Nat`-indexed matrix as a closure on `Vec ℝ m` -/
def blockMul (m : Nat) (t : Nat → Nat → ℝ) : Vec ℝ m → Vec ℝ m := fun v i => ∑ j : Fin m, t i.1 j.1 * v j

theorem blockMul_linSym (m : Nat) (t : Nat → Nat → ℝ) (hs : ∀ i j, t i j = t j i) : LinSym (blockMul m t) :=
  { add := fun u v => by
      funext i; simp only [blockMul, Pi.add_apply, mul_add, Finset.sum_add_distrib]
    smul := fun c u => by
      funext i; simp only [blockMul, Pi.smul_apply, smul_eq_mul, Finset.mul_sum]
      apply Finset.sum_congr rfl; intro j _; ring
    sym := fun u v => by
      simp only [dot_eq, blockMul, Finset.mul_sum, Finset.sum_mul]
      rw [Finset.sum_comm]
      apply Finset.sum_congr rfl; intro j _
      apply Finset.sum_congr rfl; intro i _
      rw [hs i.1 j.1]; ring }

/-- the matrix whose eigenvalues are `eigVal (blockMul_linSym …)` is literally the leading block of `t` -/
theorem matOf_blockMul (m : Nat) (t : Nat → Nat → ℝ) :
    matOf (blockMul m t) = Matrix.of fun (i j : Fin m) => t i.1 j.1 := by
  funext i j
  simp only [matOf, blockMul, Matrix.of_apply, Pi.single_apply, mul_ite, mul_one, mul_zero, Finset.sum_ite_eq',
    Finset.mem_univ, if_true]

theorem dot_blockMul (m : Nat) (t : Nat → Nat → ℝ) (v : Vec ℝ m) :
    dot v (blockMul m t v)
      = ∑ i ∈ Finset.range m, ∑ j ∈ Finset.range m,
          (fun k => if h : k < m then v ⟨k, h⟩ else 0) i * t i j * (fun k => if h : k < m then v ⟨k, h⟩ else 0) j := by
  rw [dot_eq, Finset.sum_range]
  apply Finset.sum_congr rfl; intro i _
  rw [Finset.sum_range]
  simp only [blockMul, Finset.mul_sum, i.2, dite_true]
  apply Finset.sum_congr rfl; intro j _
  simp only [j.2, dite_true]; ring

theorem dot_self_range (m : Nat) (v : Vec ℝ m) :
    dot v v = ∑ i ∈ Finset.range m,
      (fun k => if h : k < m then v ⟨k, h⟩ else 0) i * (fun k => if h : k < m then v ⟨k, h⟩ else 0) i := by
  rw [dot_eq, Finset.sum_range]
  apply Finset.sum_congr rfl; intro i _
  simp only [i.2, dite_true]

/-- **Ritz values inside the spectrum**, eigenvalue form over ℝ. -/
theorem ritz_eigenvalues {N : NumOps ℝ} (hN : Lawful N) (P : Params ℝ) (he : 0 < P.eps) {n : Nat}
    {s : Sys ℝ n} (hA : LinSym s.amul) (hM : ∀ u v, dot u (preF P s v) = dot (preF P s u) v) (hMl : Lin (preF P s))
    (m : Nat) (hreg : ∀ j < m, Regular P s (traj N P s j)) (lmin lmax : ℝ)
    (hlo : ∀ y, lmin * dot y (preF P s y) ≤ dot (preF P s y) (s.amul (preF P s y)))
    (hhi : ∀ y, dot (preF P s y) (s.amul (preF P s y)) ≤ lmax * dot y (preF P s y)) (i : Fin m) :
    lmin ≤ eigVal (blockMul_linSym m _ (triFold_symm N (fun k => traj N P s (k + 1)) m)) i ∧
    eigVal (blockMul_linSym m _ (triFold_symm N (fun k => traj N P s (k + 1)) m)) i ≤ lmax := by
  apply eigVal_bounds
  · intro v
    rw [dot_blockMul, dot_self_range]
    exact (ritz_in_spectrum hN P he hA hM m hreg hMl lmin lmax hlo hhi _).1
  · intro v
    rw [dot_blockMul, dot_self_range]
    exact (ritz_in_spectrum hN P he hA hM m hreg hMl lmin lmax hlo hhi _).2

end LinOp.C08
