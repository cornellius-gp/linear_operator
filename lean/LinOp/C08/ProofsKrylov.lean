/-
C08 — optimality of a regular trajectory: Krylov optimality (read off `IsPCG.krylov_optimal`) and, with an `A`-orthogonal
eigenbasis of `M⁻¹A`, its polynomial (minimax) form: the error after `j` regular steps is at most `max_i p(λ_i)²` times the
initial one for EVERY polynomial `p` with `p(0) = 1` and degree `≤ j`.
-/
import LinOp.C08.ProofsOrth
import Mathlib.LinearAlgebra.Span.Basic
import Mathlib.Algebra.Polynomial.Eval.Degree
import Mathlib.Algebra.Polynomial.Inductions

set_option linter.unusedSectionVars false
namespace LinOp.C08

open Polynomial

variable {α : Type} [Field α] [LinearOrder α] [IsStrictOrderedRing α]

/-! ### Krylov optimality of a regular trajectory -/

/-- the preconditioned operator `v ↦ M⁻¹(A v)` -/
def preA (P : Params α) {n : Nat} (s : Sys α n) : Vec α n → Vec α n := fun v => preF P s (s.amul v)

theorem preA_lin {P : Params α} {n : Nat} {s : Sys α n} (hAl : Lin s.amul) (hMl : Lin (preF P s)) :
    Lin (preA P s) :=
  { add := fun u w => by unfold preA; rw [hAl.add, hMl.add]
    smul := fun c u => by unfold preA; rw [hAl.smul, hMl.smul] }

section
variable {N : NumOps α} (hN : Lawful N) (P : Params α) (he : 0 < P.eps) {n : Nat}
  {s : Sys α n} (hA : LinSym s.amul) (hpsd : ∀ v, 0 ≤ dot v (s.amul v))
  (hM : ∀ u v, dot u (preF P s v) = dot (preF P s u) v) (hMl : Lin (preF P s))
  (xs : Vec α n) (hxs : s.amul xs = (prep N P s).b) (m : Nat)
  (hreg : ∀ j < m, Regular P s (traj N P s j)) (k : Nat) (hk : k ≤ m)
include hN he hA hpsd hM hMl hxs hreg hk

/-- **Krylov optimality.** -/
theorem krylov_optimal (v : Vec α n)
    (hv : v ∈ Submodule.span α (Set.range fun j : Fin k => (preA P s)^[j] (traj N P s 0).z)) :
    errA s xs (traj N P s k).x ≤ errA s xs ((traj N P s k).x + v) :=
  have h := traj_isPCG hN he hreg
  h.optimal_dirSpan hA hpsd hM xs (hxs ▸ initCol_residual N P s) hk v (h.krylov_le hA.toLin hMl hk hv)

/-- **Krylov optimality, classical form**: `x_k` minimises the A-norm error over `x_0 + K_k(M⁻¹A, M⁻¹r_0)`. -/
theorem krylov_optimal_from_x0 (u : Vec α n)
    (hu : u ∈ Submodule.span α (Set.range fun j : Fin k => (preA P s)^[j] (traj N P s 0).z)) :
    errA s xs (traj N P s k).x ≤ errA s xs ((traj N P s 0).x + u) :=
  (traj_isPCG hN he hreg).krylov_optimal hA hpsd hM hMl xs (hxs ▸ initCol_residual N P s) hk u hu

end

/-! ### polynomials with constant term one -/

/-- `p(0) = 1` and `deg p ≤ j` give `p = 1 − X·q` with `q = (1 − p)/X`, `q = 0` or `deg q < j` -/
theorem exists_eq_one_sub_X_mul {K : Type} [Field K] (p : K[X]) (hp0 : p.eval 0 = 1) {j : Nat} (hpd : p.natDegree ≤ j) :
    ∃ q : K[X], (q = 0 ∨ q.natDegree < j) ∧ ∀ x, p.eval x = 1 - x * q.eval x := by
  have hdecomp : divX (1 - p) * X = 1 - p := by
    have := divX_mul_X_add (1 - p)
    rwa [coeff_zero_eq_eval_zero, eval_sub, eval_one, hp0, sub_self, map_zero, add_zero] at this
  refine ⟨divX (1 - p), ?_, fun x => ?_⟩
  · rcases Nat.eq_zero_or_pos j with h0 | hpos
    · left
      have hp1 : p = C (p.coeff 0) := eq_C_of_natDegree_le_zero (h0 ▸ hpd)
      rw [hp1, coeff_zero_eq_eval_zero, hp0, map_one, sub_self, divX_zero]
    · right
      have : (1 - p).natDegree ≤ j := le_trans (natDegree_sub_le _ _) (by simp [hpd])
      rw [natDegree_divX_eq_natDegree_tsub_one]
      omega
  · have := congrArg (Polynomial.eval x) hdecomp
    rw [eval_mul, eval_X, eval_sub, eval_one] at this
    rw [mul_comm, this, sub_sub_cancel]

/-! ### the polynomial form -/

/-- An eigenbasis of the preconditioned operator `M⁻¹A` (`preA`), orthogonal for the `A`-inner product:
`v_iᵀ A v_j = g_i δ_ij` (for `M = I`: an orthonormal eigenbasis of `A`, `g_i = λ_i`; in general `A v_i = λ_i M v_i`,
i.e. the `λ_i` are the eigenvalues of `M⁻¹ᐟ² A M⁻¹ᐟ²`). -/
structure AEig (ι : Type) [Fintype ι] [DecidableEq ι] (P : Params α) {n : Nat} (s : Sys α n) where
  v : ι → Vec α n
  lam : ι → α
  g : ι → α
  eig : ∀ i, preA P s (v i) = lam i • v i
  gram : ∀ i j, dot (v i) (s.amul (v j)) = if i = j then g i else 0
  complete : ∀ w : Vec α n, ∃ c : ι → α, w = ∑ i, c i • v i

section
variable {ι : Type} [Fintype ι] [DecidableEq ι] {P : Params α} {n : Nat} {s : Sys α n}

/-- linear combination of the eigenvectors -/
def AEig.comb (E : AEig ι P s) (c : ι → α) : Vec α n := ∑ i, c i • E.v i

theorem AEig.comb_sub (E : AEig ι P s) (c d : ι → α) : E.comb (c - d) = E.comb c - E.comb d := by
  simp only [AEig.comb, Pi.sub_apply, sub_smul, Finset.sum_sub_distrib]

theorem AEig.preA_comb (E : AEig ι P s) (hAl : Lin s.amul) (hMl : Lin (preF P s)) (c : ι → α) :
    preA P s (E.comb c) = E.comb fun i => c i * E.lam i := by
  have hl := preA_lin hAl hMl
  unfold AEig.comb
  rw [hl.map_sum]
  refine Finset.sum_congr rfl fun i _ => ?_
  rw [hl.smul, E.eig, smul_smul]

theorem AEig.iter_comb (E : AEig ι P s) (hAl : Lin s.amul) (hMl : Lin (preF P s)) (c : ι → α) (m : Nat) :
    (preA P s)^[m] (E.comb c) = E.comb fun i => c i * E.lam i ^ m := by
  induction m with
  | zero => simp only [Function.iterate_zero, id_eq, pow_zero, mul_one]
  | succ m ih =>
    rw [Function.iterate_succ_apply', ih, E.preA_comb hAl hMl]
    simp only [pow_succ, mul_assoc]

/-- the `A`-inner product of two combinations is diagonal in the coefficients -/
theorem AEig.dotA_comb (E : AEig ι P s) (hAl : Lin s.amul) (c d : ι → α) :
    dot (E.comb c) (s.amul (E.comb d)) = ∑ i, c i * d i * E.g i := by
  unfold AEig.comb
  rw [hAl.map_sum, dot_sum_left]
  refine Finset.sum_congr rfl fun i _ => ?_
  rw [dot_sum_right, Finset.sum_eq_single i]
  · rw [hAl.smul, dot_smul_left, dot_smul_right, E.gram, if_pos rfl, mul_assoc]
  · intro j _ hji
    rw [hAl.smul, dot_smul_left, dot_smul_right, E.gram, if_neg (Ne.symm hji), mul_zero, mul_zero]
  · intro h; exact absurd (Finset.mem_univ i) h

theorem AEig.g_nonneg (E : AEig ι P s) (hpsd : ∀ v, 0 ≤ dot v (s.amul v)) (i : ι) : 0 ≤ E.g i := by
  have := hpsd (E.v i)
  rwa [E.gram, if_pos rfl] at this

/-- a polynomial in `M⁻¹A` acts on a combination of eigenvectors through its values on the spectrum -/
theorem AEig.poly_comb (E : AEig ι P s) (hAl : Lin s.amul) (hMl : Lin (preF P s)) (c : ι → α) (q : α[X]) (j : Nat)
    (hq : q = 0 ∨ q.natDegree < j) :
    ∑ m ∈ Finset.range j, q.coeff m • (preA P s)^[m] (E.comb c) = E.comb fun i => c i * q.eval (E.lam i) := by
  have hqe : ∀ x : α, q.eval x = ∑ m ∈ Finset.range j, q.coeff m * x ^ m := by
    intro x
    rcases hq with rfl | h
    · simp only [eval_zero, coeff_zero, zero_mul, Finset.sum_const_zero]
    · exact eval_eq_sum_range' h x
  simp only [E.iter_comb hAl hMl]
  simp only [AEig.comb, Finset.smul_sum, smul_smul, hqe, Finset.mul_sum, Finset.sum_smul]
  rw [Finset.sum_comm]
  refine Finset.sum_congr rfl fun i _ => Finset.sum_congr rfl fun m _ => ?_
  rw [mul_left_comm]

/-- **Polynomial form of Krylov optimality** (`q`-form): for every polynomial `q` of degree `< j`,
`‖x* − x_j‖²_A ≤ B · ‖x* − x_0‖²_A` as soon as `(1 − λ q(λ))² ≤ B` on the spectrum. -/
theorem minimax_q {N : NumOps α} (hN : Lawful N) (P : Params α) (he : 0 < P.eps) {n : Nat}
    {s : Sys α n} (hA : LinSym s.amul) (hpsd : ∀ v, 0 ≤ dot v (s.amul v))
    (hM : ∀ u v, dot u (preF P s v) = dot (preF P s u) v) (hMl : Lin (preF P s))
    (xs : Vec α n) (hxs : s.amul xs = (prep N P s).b) (j : Nat)
    (hreg : ∀ i < j, Regular P s (traj N P s i)) (E : AEig ι P s)
    (q : α[X]) (hq : q = 0 ∨ q.natDegree < j) (B : α)
    (hB : ∀ i, (1 - E.lam i * q.eval (E.lam i)) ^ 2 ≤ B) :
    errA s xs (traj N P s j).x ≤ B * errA s xs (traj N P s 0).x := by
  have hAl := hA.toLin
  obtain ⟨c, hc⟩ := E.complete (xs - (traj N P s 0).x)
  have he0 : xs - (traj N P s 0).x = E.comb c := hc
  -- `z_0 = M⁻¹ A e_0`
  have hz0 : (traj N P s 0).z = E.comb fun i => c i * E.lam i := by
    have hr0 : (traj N P s 0).r = s.amul (xs - (traj N P s 0).x) := by
      rw [hAl.map_sub, hxs]; exact initCol_residual N P s
    rw [traj_zdef, hr0, he0]; exact E.preA_comb hAl hMl c
  -- the Krylov vector `u = q(M⁻¹A) z_0`; the error of `x_0 + u` is `(1 − λ q(λ))`-times `e_0`, eigenvector by eigenvector
  set u : Vec α n := ∑ m ∈ Finset.range j, q.coeff m • (preA P s)^[m] (traj N P s 0).z with hu
  have humem : u ∈ Submodule.span α (Set.range fun m : Fin j => (preA P s)^[m] (traj N P s 0).z) :=
    Submodule.sum_mem _ fun m hm =>
      Submodule.smul_mem _ _ (Submodule.subset_span ⟨⟨m, Finset.mem_range.mp hm⟩, rfl⟩)
  have hw : xs - ((traj N P s 0).x + u) = E.comb fun i => c i * (1 - E.lam i * q.eval (E.lam i)) := by
    rw [← sub_sub, he0, hu, hz0, E.poly_comb hAl hMl _ q j hq, ← E.comb_sub]
    congr 1; funext i; simp only [Pi.sub_apply]; ring
  refine le_trans (krylov_optimal_from_x0 hN P he hA hpsd hM hMl xs hxs j hreg j (le_refl j) u humem) ?_
  unfold errA
  rw [hw, he0, E.dotA_comb hAl, E.dotA_comb hAl, Finset.mul_sum]
  refine Finset.sum_le_sum fun i _ => ?_
  have h1 : 0 ≤ c i * c i * E.g i := mul_nonneg (mul_self_nonneg _) (E.g_nonneg hpsd i)
  calc c i * (1 - E.lam i * q.eval (E.lam i)) * (c i * (1 - E.lam i * q.eval (E.lam i))) * E.g i
      = (1 - E.lam i * q.eval (E.lam i)) ^ 2 * (c i * c i * E.g i) := by ring
    _ ≤ B * (c i * c i * E.g i) := mul_le_mul_of_nonneg_right (hB i) h1

/-- `p`-form: every polynomial `p` with `p(0) = 1` and degree `≤ j`. -/
theorem minimax_p {N : NumOps α} (hN : Lawful N) (P : Params α) (he : 0 < P.eps) {n : Nat}
    {s : Sys α n} (hA : LinSym s.amul) (hpsd : ∀ v, 0 ≤ dot v (s.amul v))
    (hM : ∀ u v, dot u (preF P s v) = dot (preF P s u) v) (hMl : Lin (preF P s))
    (xs : Vec α n) (hxs : s.amul xs = (prep N P s).b) (j : Nat)
    (hreg : ∀ i < j, Regular P s (traj N P s i)) (E : AEig ι P s)
    (p : α[X]) (hp0 : p.eval 0 = 1) (hpd : p.natDegree ≤ j) (B : α)
    (hB : ∀ i, (p.eval (E.lam i)) ^ 2 ≤ B) :
    errA s xs (traj N P s j).x ≤ B * errA s xs (traj N P s 0).x := by
  obtain ⟨q, hq, hpq⟩ := exists_eq_one_sub_X_mul p hp0 hpd
  exact minimax_q hN P he hA hpsd hM hMl xs hxs j hreg E q hq B fun i => hpq (E.lam i) ▸ hB i

end
end LinOp.C08
