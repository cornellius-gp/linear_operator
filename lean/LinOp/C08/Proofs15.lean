/-
C08 — the Chebyshev rate of CG over ℝ, for both kernels: minimax form + an `A`-orthogonal eigenbasis of `M⁻¹A` +
the Chebyshev polynomial.  Without preconditioner the eigenbasis is the spectral decomposition of `A`.  For `A` symmetric
and `W = M⁻¹` symmetric positive definite it is built from two applications of the spectral theorem (`eigVec`):
`W = Σ μ_k u_k u_kᵀ`, `S = W¹ᐟ² = Σ √μ_k u_k u_kᵀ`, `B = S A S = Σ λ_i y_i y_iᵀ`, `v_i = S y_i`; its eigenvalues are those of
`W¹ᐟ² A W¹ᐟ²` (= `M⁻¹ᐟ² A M⁻¹ᐟ²`).
-/
import LinOp.C08.ProofsSpectral
import LinOp.C08.ProofsCheb

set_option linter.unusedSectionVars false
namespace LinOp.C08

open Polynomial

/-- the convergence factor `(√κ − 1)/(√κ + 1)`, `κ = lmax / lmin` -/
noncomputable def rho (lmin lmax : ℝ) : ℝ := (Real.sqrt (lmax / lmin) - 1) / (Real.sqrt (lmax / lmin) + 1)

theorem rho_nonneg {lmin lmax : ℝ} (hpos : 0 < lmin) (hle : lmin ≤ lmax) : 0 ≤ rho lmin lmax :=
  div_nonneg (sub_nonneg.mpr (Real.one_le_sqrt.mpr ((one_le_div hpos).mpr hle)))
    (add_nonneg (Real.sqrt_nonneg _) zero_le_one)

theorem rho_lt_one {lmin lmax : ℝ} : rho lmin lmax < 1 :=
  (div_lt_one (add_pos_of_nonneg_of_pos (Real.sqrt_nonneg _) one_pos)).mpr
    ((sub_lt_self _ one_pos).trans (lt_add_one _))

section generic
variable {ι : Type} [Fintype ι] [DecidableEq ι]

/-- **Chebyshev rate from an eigenbasis** (either kernel): if the spectrum `E.lam` of the preconditioned operator lies in
`[lmin, lmax]`, `0 < lmin ≤ lmax`, then `‖x* − x_j‖_A ≤ 2 ρ^j ‖x* − x_0‖_A`, in norm and in squared form. -/
theorem chebyshev_rate_E {N : NumOps ℝ} (hN : Lawful N) (P : Params ℝ) (he : 0 < P.eps)
    {n : Nat} {s : Sys ℝ n} (hA : LinSym s.amul) (hpsd : ∀ v, 0 ≤ dot v (s.amul v))
    (hM : ∀ u v, dot u (preF P s v) = dot (preF P s u) v) (hMl : Lin (preF P s))
    (E : AEig ι P s) (lmin lmax : ℝ) (hpos : 0 < lmin) (hle : lmin ≤ lmax)
    (hE : ∀ i, lmin ≤ E.lam i ∧ E.lam i ≤ lmax)
    (xs : Vec ℝ n) (hxs : s.amul xs = (prep N P s).b) (j : Nat)
    (hreg : ∀ i < j, Regular P s (traj N P s i)) :
    Real.sqrt (errA s xs (traj N P s j).x)
        ≤ 2 * rho lmin lmax ^ j * Real.sqrt (errA s xs (traj N P s 0).x) ∧
    errA s xs (traj N P s j).x ≤ (2 * rho lmin lmax ^ j) ^ 2 * errA s xs (traj N P s 0).x := by
  suffices h : errA s xs (traj N P s j).x ≤ (2 * rho lmin lmax ^ j) ^ 2 * errA s xs (traj N P s 0).x by
    refine ⟨?_, h⟩
    rw [← Real.sqrt_sq (mul_nonneg zero_le_two (pow_nonneg (rho_nonneg hpos hle) j)),
      ← Real.sqrt_mul (sq_nonneg _)]
    exact Real.sqrt_le_sqrt h
  rcases lt_or_eq_of_le hle with hlt | heq
  · -- κ > 1: the Chebyshev polynomial of the interval
    exact minimax_p hN P he hA hpsd hM hMl xs hxs j hreg E
      (Cheb.chebP lmin lmax j) (Cheb.chebP_eval_zero hpos hlt j) (Cheb.chebP_natDegree lmin lmax j) _
      (fun i => Cheb.chebP_bound hpos hlt j _ (hE i).1 (hE i).2)
  · -- κ = 1: `ρ = 0`; for `j = 0` the bound is `4 ≥ 1`, and one step is exact (`p = 1 − t/lmin` vanishes on the spectrum)
    subst heq
    have hr : rho lmin lmin = 0 := by rw [rho, div_self (ne_of_gt hpos), Real.sqrt_one, sub_self, zero_div]
    rcases Nat.eq_zero_or_pos j with rfl | hj
    · rw [pow_zero, mul_one]
      exact le_mul_of_one_le_left (hpsd _) (by norm_num)
    · rw [hr, zero_pow (Nat.pos_iff_ne_zero.mp hj), mul_zero, sq, mul_zero]
      refine minimax_p hN P he hA hpsd hM hMl xs hxs j hreg E (C 1 - C (1 / lmin) * X) ?_ ?_ 0 fun i => ?_
      · rw [Cheb.eval_C_sub_C_mul_X, mul_zero, sub_zero]
      · exact (Cheb.natDegree_C_sub_C_mul_X_le _ _).trans hj
      · rw [le_antisymm (hE i).2 (hE i).1, Cheb.eval_C_sub_C_mul_X, one_div_mul_cancel (ne_of_gt hpos), sub_self, sq,
          mul_zero]

end generic

theorem psd_of_lower {n : Nat} {s : Sys ℝ n} (lmin : ℝ) (hpos : 0 < lmin)
    (hlo : ∀ v, lmin * dot v v ≤ dot v (s.amul v)) : ∀ v, 0 ≤ dot v (s.amul v) := fun v =>
  le_trans (mul_nonneg hpos.le (dot_self_nonneg v)) (hlo v)

/-- Generic consequence of the minimax theorem over ℝ for the unpreconditioned kernel: any polynomial with
`p(0) = 1`, degree `≤ j`, bounded by `B` (squared) on `[lmin, lmax]`. -/
theorem rate_of_poly {N : NumOps ℝ} (hN : Lawful N) (P : Params ℝ) (he : 0 < P.eps) (hnp : P.precond = false)
    {n : Nat} {s : Sys ℝ n} (hA : LinSym s.amul) (lmin lmax : ℝ) (hpos : 0 < lmin)
    (hlo : ∀ v, lmin * dot v v ≤ dot v (s.amul v)) (hhi : ∀ v, dot v (s.amul v) ≤ lmax * dot v v)
    (xs : Vec ℝ n) (hxs : s.amul xs = (prep N P s).b) (j : Nat)
    (hreg : ∀ i < j, Regular P s (traj N P s i))
    (p : ℝ[X]) (hp0 : p.eval 0 = 1) (hpd : p.natDegree ≤ j) (B : ℝ)
    (hB : ∀ t, lmin ≤ t → t ≤ lmax → (p.eval t) ^ 2 ≤ B) :
    errA s xs (traj N P s j).x ≤ B * errA s xs (traj N P s 0).x := by
  refine minimax_p hN P he hA (psd_of_lower lmin hpos hlo) (preF_sym_of_noprecond P s hnp)
    (preF_lin_of_noprecond P s hnp) xs hxs j hreg (aeigOfSym P hnp s hA) p hp0 hpd B ?_
  intro i
  obtain ⟨h1, h2⟩ := eigVal_bounds hA lmin lmax hlo hhi i
  exact hB _ h1 h2

/-- **Chebyshev rate**, unpreconditioned kernel: the eigenbasis is the spectral decomposition of `A`. -/
theorem chebyshev_rate_nopre {N : NumOps ℝ} (hN : Lawful N) (P : Params ℝ) (he : 0 < P.eps) (hnp : P.precond = false)
    {n : Nat} {s : Sys ℝ n} (hA : LinSym s.amul) (lmin lmax : ℝ) (hpos : 0 < lmin) (hle : lmin ≤ lmax)
    (hlo : ∀ v, lmin * dot v v ≤ dot v (s.amul v)) (hhi : ∀ v, dot v (s.amul v) ≤ lmax * dot v v)
    (xs : Vec ℝ n) (hxs : s.amul xs = (prep N P s).b) (j : Nat)
    (hreg : ∀ i < j, Regular P s (traj N P s i)) :
    Real.sqrt (errA s xs (traj N P s j).x)
        ≤ 2 * rho lmin lmax ^ j * Real.sqrt (errA s xs (traj N P s 0).x) ∧
    errA s xs (traj N P s j).x ≤ (2 * rho lmin lmax ^ j) ^ 2 * errA s xs (traj N P s 0).x :=
  chebyshev_rate_E hN P he hA (psd_of_lower lmin hpos hlo) (preF_sym_of_noprecond P s hnp)
    (preF_lin_of_noprecond P s hnp) (aeigOfSym P hnp s hA) lmin lmax hpos hle
    (fun i => eigVal_bounds hA lmin lmax hlo hhi i) xs hxs j hreg

/-! ### the preconditioned kernel -/

variable {n : Nat}

section spec
variable {W : Vec ℝ n → Vec ℝ n} (hW : LinSym W)

/-- spectral function of `W`: `φ(W) v = Σ_k φ_k (u_kᵀ v) u_k` -/
noncomputable def spec (φ : Fin n → ℝ) (v : Vec ℝ n) : Vec ℝ n :=
  ∑ k, (φ k * dot (eigVec hW k) v) • eigVec hW k

theorem dot_eig_spec (φ : Fin n → ℝ) (v : Vec ℝ n) (k : Fin n) :
    dot (eigVec hW k) (spec hW φ v) = φ k * dot (eigVec hW k) v := by
  unfold spec
  rw [dot_sum_right, Finset.sum_eq_single k]
  · rw [dot_smul_right, eigVec_orthonormal, if_pos rfl, mul_one]
  · intro j _ hjk
    rw [dot_smul_right, eigVec_orthonormal, if_neg (fun h : k = j => hjk h.symm), mul_zero]
  · intro h; exact absurd (Finset.mem_univ k) h

theorem spec_spec (φ ψ : Fin n → ℝ) (v : Vec ℝ n) :
    spec hW φ (spec hW ψ v) = spec hW (fun k => φ k * ψ k) v := by
  show ∑ k, (φ k * dot (eigVec hW k) (spec hW ψ v)) • eigVec hW k = ∑ k, (φ k * ψ k * dot (eigVec hW k) v) • eigVec hW k
  apply Finset.sum_congr rfl
  intro k _
  rw [dot_eig_spec, mul_assoc]

theorem spec_one (v : Vec ℝ n) : spec hW (fun _ => 1) v = v := by
  unfold spec
  simp only [one_mul]
  exact (eigVec_complete hW v).symm

theorem spec_eigVal (v : Vec ℝ n) : spec hW (eigVal hW) v = W v := by
  rw [eigVec_complete hW (W v)]
  unfold spec
  apply Finset.sum_congr rfl
  intro k _
  rw [hW.sym, eigVec_apply hW, dot_smul_left]

theorem spec_linSym (φ : Fin n → ℝ) : LinSym (spec hW φ) :=
  { add := fun u v => by
      unfold spec
      rw [← Finset.sum_add_distrib]
      apply Finset.sum_congr rfl
      intro k _
      rw [dot_add_right, mul_add, add_smul]
    smul := fun c u => by
      unfold spec
      rw [Finset.smul_sum]
      apply Finset.sum_congr rfl
      intro k _
      rw [dot_smul_right, smul_smul]; congr 1; ring
    sym := fun u v => by
      unfold spec
      rw [dot_sum_right, dot_sum_left]
      apply Finset.sum_congr rfl
      intro k _
      rw [dot_smul_right, dot_smul_left, dot_comm u (eigVec hW k)]; ring }

theorem eigVal_pos (hWpd : ∀ v, v ≠ 0 → 0 < dot v (W v)) (k : Fin n) : 0 < eigVal hW k := by
  have hne : eigVec hW k ≠ 0 := by
    intro h
    have := eigVec_orthonormal hW k k
    rw [h, dot_zero_left, if_pos rfl] at this
    exact zero_ne_one this
  have := hWpd _ hne
  rwa [eigVec_apply hW, dot_smul_right, eigVec_orthonormal, if_pos rfl, mul_one] at this

/-- `W¹ᐟ²` -/
noncomputable def sqrtW : Vec ℝ n → Vec ℝ n := spec hW fun k => Real.sqrt (eigVal hW k)

/-- `W⁻¹ᐟ²` -/
noncomputable def invSqrtW : Vec ℝ n → Vec ℝ n := spec hW fun k => 1 / Real.sqrt (eigVal hW k)

theorem sqrtW_linSym : LinSym (sqrtW hW) := spec_linSym hW _
theorem invSqrtW_linSym : LinSym (invSqrtW hW) := spec_linSym hW _

theorem sqrtW_sq (hWpd : ∀ v, v ≠ 0 → 0 < dot v (W v)) (v : Vec ℝ n) : sqrtW hW (sqrtW hW v) = W v := by
  unfold sqrtW
  rw [spec_spec, ← spec_eigVal hW v]
  congr 1; funext k
  exact Real.mul_self_sqrt (eigVal_pos hW hWpd k).le

theorem spec_inv (φ ψ : Fin n → ℝ) (h : ∀ k, φ k * ψ k = 1) (v : Vec ℝ n) : spec hW φ (spec hW ψ v) = v := by
  rw [spec_spec, funext h, spec_one]

theorem sqrtW_invSqrtW (hWpd : ∀ v, v ≠ 0 → 0 < dot v (W v)) (v : Vec ℝ n) : sqrtW hW (invSqrtW hW v) = v :=
  spec_inv hW _ _ (fun k => mul_one_div_cancel (ne_of_gt (Real.sqrt_pos.mpr (eigVal_pos hW hWpd k)))) v

theorem invSqrtW_sqrtW (hWpd : ∀ v, v ≠ 0 → 0 < dot v (W v)) (v : Vec ℝ n) : invSqrtW hW (sqrtW hW v) = v :=
  spec_inv hW _ _ (fun k => one_div_mul_cancel (ne_of_gt (Real.sqrt_pos.mpr (eigVal_pos hW hWpd k)))) v

end spec

section gen
variable {A W : Vec ℝ n → Vec ℝ n} (hA : LinSym A) (hW : LinSym W)

/-- `B = W¹ᐟ² A W¹ᐟ²` -/
noncomputable def symB (A : Vec ℝ n → Vec ℝ n) : Vec ℝ n → Vec ℝ n := fun v => sqrtW hW (A (sqrtW hW v))

include hA hW

theorem symB_linSym : LinSym (symB hW A) :=
  { add := fun u v => by unfold symB; rw [(sqrtW_linSym hW).add, hA.add, (sqrtW_linSym hW).add]
    smul := fun c u => by unfold symB; rw [(sqrtW_linSym hW).smul, hA.smul, (sqrtW_linSym hW).smul]
    sym := fun u v => by
      unfold symB
      rw [(sqrtW_linSym hW).sym, hA.sym, (sqrtW_linSym hW).sym] }

/-- generalised eigenvectors `v_i = W¹ᐟ² y_i` -/
noncomputable def genVec (i : Fin n) : Vec ℝ n := sqrtW hW (eigVec (symB_linSym hA hW) i)

noncomputable def genVal (i : Fin n) : ℝ := eigVal (symB_linSym hA hW) i

variable (hWpd : ∀ v, v ≠ 0 → 0 < dot v (W v))
include hWpd

theorem genVec_eig (i : Fin n) : W (A (genVec hA hW i)) = genVal hA hW i • genVec hA hW i := by
  unfold genVec genVal
  rw [← sqrtW_sq hW hWpd]
  have : sqrtW hW (A (sqrtW hW (eigVec (symB_linSym hA hW) i)))
      = eigVal (symB_linSym hA hW) i • eigVec (symB_linSym hA hW) i := eigVec_apply (symB_linSym hA hW) i
  rw [this, (sqrtW_linSym hW).smul]

theorem genVec_gram (i j : Fin n) :
    dot (genVec hA hW i) (A (genVec hA hW j)) = if i = j then genVal hA hW i else 0 := by
  unfold genVec genVal
  rw [← (sqrtW_linSym hW).sym]
  have : sqrtW hW (A (sqrtW hW (eigVec (symB_linSym hA hW) j)))
      = eigVal (symB_linSym hA hW) j • eigVec (symB_linSym hA hW) j := eigVec_apply (symB_linSym hA hW) j
  rw [this, dot_smul_right, eigVec_orthonormal]
  by_cases h : i = j
  · subst h; simp
  · simp [h]

theorem genVec_complete (w : Vec ℝ n) : ∃ c : Fin n → ℝ, w = ∑ i, c i • genVec hA hW i := by
  refine ⟨fun i => dot (eigVec (symB_linSym hA hW) i) (invSqrtW hW w), ?_⟩
  have h1 := eigVec_complete (symB_linSym hA hW) (invSqrtW hW w)
  have h2 := congrArg (sqrtW hW) h1
  rw [sqrtW_invSqrtW hW hWpd, (sqrtW_linSym hW).toLin.map_sum] at h2
  refine h2.trans ?_
  apply Finset.sum_congr rfl
  intro i _
  rw [(sqrtW_linSym hW).smul]; rfl

/-- the eigenvalues of `W A` lie between any two Rayleigh-quotient bounds of `W¹ᐟ² A W¹ᐟ²`, stated with closures only:
`lo · yᵀWy ≤ (Wy)ᵀ A (Wy) ≤ hi · yᵀWy` -/
theorem genVal_bounds (lo hi : ℝ) (hlo : ∀ y, lo * dot y (W y) ≤ dot (W y) (A (W y)))
    (hhi : ∀ y, dot (W y) (A (W y)) ≤ hi * dot y (W y)) (i : Fin n) :
    lo ≤ genVal hA hW i ∧ genVal hA hW i ≤ hi := by
  set yi := eigVec (symB_linSym hA hW) i with hyi
  set y := invSqrtW hW yi with hy
  have hWy : W y = sqrtW hW yi := by
    rw [← sqrtW_sq hW hWpd, hy, sqrtW_invSqrtW hW hWpd]
  have hden : dot y (W y) = 1 := by
    rw [hWy, hy, ← (invSqrtW_linSym hW).sym, invSqrtW_sqrtW hW hWpd]
    exact (eigVec_orthonormal (symB_linSym hA hW) i i).trans (if_pos rfl)
  have hnum : dot (W y) (A (W y)) = genVal hA hW i := by
    rw [hWy]
    have := genVec_gram hA hW hWpd i i
    rw [if_pos rfl] at this
    exact this
  have h1 := hlo y
  have h2 := hhi y
  rw [hden, hnum, mul_one] at h1 h2
  exact ⟨h1, h2⟩

end gen

/-- the `AEig` of the preconditioned kernel (`precond = true`, `preF = s.pre = M⁻¹`) -/
noncomputable def aeigOfPre (P : Params ℝ) (hp : P.precond = true) (s : Sys ℝ n) (hA : LinSym s.amul)
    (hW : LinSym s.pre) (hWpd : ∀ v, v ≠ 0 → 0 < dot v (s.pre v)) : AEig (Fin n) P s :=
  { v := genVec hA hW
    lam := genVal hA hW
    g := genVal hA hW
    eig := fun i => by
      show preF P s (s.amul (genVec hA hW i)) = _
      rw [preF_eq_pre P hp s]; exact genVec_eig hA hW hWpd i
    gram := genVec_gram hA hW hWpd
    complete := genVec_complete hA hW hWpd }

/-- **Chebyshev rate, preconditioned kernel**: `κ` is the condition number of `M⁻¹ᐟ² A M⁻¹ᐟ²` (`W = M⁻¹`). -/
theorem chebyshev_rate_pre {N : NumOps ℝ} (hN : Lawful N) (P : Params ℝ) (he : 0 < P.eps) (hp : P.precond = true)
    {s : Sys ℝ n} (hA : LinSym s.amul) (hpsd : ∀ v, 0 ≤ dot v (s.amul v))
    (hW : LinSym s.pre) (hWpd : ∀ v, v ≠ 0 → 0 < dot v (s.pre v))
    (lmin lmax : ℝ) (hpos : 0 < lmin) (hle : lmin ≤ lmax)
    (hlo : ∀ y, lmin * dot y (s.pre y) ≤ dot (s.pre y) (s.amul (s.pre y)))
    (hhi : ∀ y, dot (s.pre y) (s.amul (s.pre y)) ≤ lmax * dot y (s.pre y))
    (xs : Vec ℝ n) (hxs : s.amul xs = (prep N P s).b) (j : Nat)
    (hreg : ∀ i < j, Regular P s (traj N P s i)) :
    Real.sqrt (errA s xs (traj N P s j).x)
        ≤ 2 * rho lmin lmax ^ j * Real.sqrt (errA s xs (traj N P s 0).x) ∧
    errA s xs (traj N P s j).x ≤ (2 * rho lmin lmax ^ j) ^ 2 * errA s xs (traj N P s 0).x := by
  have hM : ∀ u v, dot u (preF P s v) = dot (preF P s u) v := by
    rw [preF_eq_pre P hp s]; exact hW.sym
  have hMl : Lin (preF P s) := by rw [preF_eq_pre P hp s]; exact hW.toLin
  have hE : ∀ i, lmin ≤ (aeigOfPre P hp s hA hW hWpd).lam i ∧ (aeigOfPre P hp s hA hW hWpd).lam i ≤ lmax :=
    fun i => genVal_bounds hA hW hWpd lmin lmax hlo hhi i
  exact chebyshev_rate_E hN P he hA hpsd hM hMl (aeigOfPre P hp s hA hW hWpd) lmin lmax hpos hle hE xs hxs j hreg

end LinOp.C08
