/-
C08 — the hypotheses are satisfiable: ℝ with `Real.sqrt` is a lawful scalar instance, and on the system `2·x = 1` with
the default thresholds the first step is regular, for either kernel.
-/
import LinOp.C08.ProofsOrth
import Mathlib.Analysis.Real.Sqrt

set_option linter.unusedSectionVars false
namespace LinOp.C08

/-! ### a lawful instance: ℝ with `Real.sqrt` -/

noncomputable def realOps : NumOps ℝ :=
  { sqrt := Real.sqrt, lt := fun a b => decide (a < b), eqz := fun a => decide (a = 0), isNan := fun _ => false }

theorem realOps_lawful : Lawful realOps :=
  { lt_iff := fun a b => by simp [realOps]
    eqz_iff := fun a => by simp [realOps]
    no_nan := fun _ => rfl
    sqrt_nonneg := fun a => Real.sqrt_nonneg a
    sqrt_sq := fun a h => Real.mul_self_sqrt h }

/-- the 1×1 system `2·x = 1` over ℝ, default thresholds -/
noncomputable def realSys : Sys ℝ 1 :=
  { amul := fun v => fun i => 2 * v i, pre := fun v => v, rhs := fun _ => 1, x0 := fun _ => 0, tri := false }

noncomputable def realParams : Params ℝ :=
  { eps := 1 / 10000000000, stopAfter := 1 / 10000000000, tol := 1, maxIter := 1000, maxTridiagIter := 20,
    nTridiag := 0, terminateBySize := false, precond := false, iterFloor := 10, triOff := 1 / 1000000 }

theorem realSys_linSym : LinSym realSys.amul :=
  { add := fun u v => by funext i; simp [realSys, mul_add]
    smul := fun c u => by funext i; simp [realSys, mul_left_comm]
    sym := fun u v => by simp [realSys, dot_eq, mul_left_comm, mul_comm] }

/-- default thresholds, preconditioned kernel selected (the closure of `realSys` is the identity) -/
noncomputable def realParamsPre : Params ℝ := { realParams with precond := true }

theorem realSys_norm : norm2 realOps realSys.rhs = 1 := by simp [norm2, dot_eq, realOps, realSys]

/-- With `eps = stop_updating_after = 1e-10` the first step on `realSys` is regular, whichever kernel is selected:
`r₀ = z₀ = p₀ = 1`, `‖r₀‖ = 1`, `p₀ᵀAp₀ = 2`, `r₀ᵀz₀ = 1`. -/
theorem realSys_regular_of (P : Params ℝ) (he : P.eps = 1 / 10000000000) (hs : P.stopAfter = 1 / 10000000000) :
    Regular P realSys (traj realOps P realSys 0) := by
  have hr0 : (prep realOps P realSys).r0 = fun _ => 1 := by
    rw [prep_eq, realSys_norm]; funext i; simp [realOps, realSys, he]
  have hp : ∀ v, preF P realSys v = v := fun v => by unfold preF; split <;> rfl
  show Regular P realSys (initCol realOps P realSys _)
  rw [initCol_eq, hr0, hp, Regular]
  simp only [norm2, dot_eq, realOps, realSys, he, hs]
  norm_num

theorem realSys_regular : Regular realParams realSys (traj realOps realParams realSys 0) :=
  realSys_regular_of realParams rfl rfl

theorem realSys_regular_pre : Regular realParamsPre realSys (traj realOps realParamsPre realSys 0) :=
  realSys_regular_of realParamsPre rfl rfl

/-- `x = 1/2` solves the normalised system (`rhs_norm = 1`) -/
theorem realSys_solution (P : Params ℝ) (he : P.eps = 1 / 10000000000) :
    realSys.amul (fun _ => (1 / 2 : ℝ)) = (prep realOps P realSys).b := by
  rw [prep_eq, realSys_norm]; funext i; simp [realOps, realSys, he]

theorem realSys_dotA (v : Vec ℝ 1) : dot v (realSys.amul v) = 2 * dot v v := by
  simp only [dot_eq, realSys, Finset.mul_sum, mul_left_comm]

end LinOp.C08
