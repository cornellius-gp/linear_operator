/-
C11 — the invariant of the whole MINRES iteration of the model (`colStep` iterated) and its preservation by one loop body.

One (shift, column) pair is followed as a *track* `(Lz, Gv)`; `trackStep` is the projection of `colStep` on one shift
(`colStep_iter_get`).  Ghost vectors (proof-only):

    m_{j+1} = −s_j m_j + c_j z_{j+1}         (the last column of  Z_{j+1} G_1ᵀ ⋯ G_jᵀ)
    p_j     =  c_j m_j + s_j z_{j+1}         (its j-th column),   m_1 = z_1

with `z_j` the Lanczos vectors (`zvec`), `c_j, s_j` the Givens coefficients.  The invariant `TrackInv` says
`A_σ d_j = p_j` for the two live search vectors and `b − A_σ x_j = φ̄_j m_{j+1}` (`φ̄_j = scale_prev`), where
`A_σ = K + σ·P` (`P` inverts the preconditioner; `P = I` without one).
-/
import LinOp.C11.Proofs
import Mathlib.Algebra.Module.LinearMap.End
import Mathlib.Algebra.Module.Pi
import Mathlib.Logic.Function.Iterate
import Mathlib.Tactic.FieldSimp
import Mathlib.Tactic.Ring
import Mathlib.Tactic.LinearCombination

namespace LinOp.C11
open Function

section track
variable {α : Type} [Field α] {n : Nat}

/-- The loop body of `minres` seen by one (shift, column) pair. -/
def trackStep (N : NumOps α) (P : Params α) (s : Sys α n) (σ : α) (t : Lz α n × Gv α n) : Lz α n × Gv α n :=
  let o := lanczosStep N P s t.1
  ({ z2 := t.1.z1, z1 := o.zc, q1 := o.qc, betaPrev := o.betaCurr },
   givensStep N σ t.1.q1 o.alpha t.1.betaPrev o.betaCurr t.2)

/-- `colStep` iterated `j` times acts on the `k`-th shift as `trackStep` iterated `j` times. -/
theorem colStep_iter_get (N : NumOps α) (P : Params α) (s : Sys α n) (j : Nat) (c : ColSt α n) (k : Nat) (σ : α)
    (g : Gv α n) (hσ : s.shifts[k]? = some σ) (hg : c.gs[k]? = some g) :
    ((colStep N P s)^[j] c).gs[k]? = some ((trackStep N P s σ)^[j] (c.lz, g)).2 ∧
    ((colStep N P s)^[j] c).lz = ((trackStep N P s σ)^[j] (c.lz, g)).1 := by
  induction j generalizing c g with
  | zero => exact ⟨hg, rfl⟩
  | succ j ih =>
    rw [iterate_succ_apply, iterate_succ_apply]
    have hg' : (colStep N P s c).gs[k]? = some (trackStep N P s σ (c.lz, g)).2 := by
      simp only [colStep, List.getElem?_zipWith, hσ, hg]; rfl
    exact ih (colStep N P s c) (trackStep N P s σ (c.lz, g)).2 hg'

/-- Iterating `zipWith f l` acts on the `m`-th entry as iterating `f l[m]`. -/
theorem zipWith_iterate_getElem? {σ γ : Type} (f : σ → γ → γ) (l : List σ) (k m : Nat) (cs : List γ) {s : σ} {c : γ}
    (hs : l[m]? = some s) (hc : cs[m]? = some c) :
    ((fun cs => List.zipWith f l cs)^[k] cs)[m]? = some ((f s)^[k] c) := by
  induction k generalizing cs c with
  | zero => exact hc
  | succ k ih =>
    rw [iterate_succ_apply, iterate_succ_apply]
    exact ih _ (by rw [List.getElem?_zipWith, hs, hc])

/-- The loop of the model performs some number `k ≤ fuel` of whole steps on all columns, whatever the convergence test
decided (`k` = number of iterations performed). -/
theorem iterate_cs (N : NumOps α) (P : Params α) (sys : List (Sys α n)) (fuel i : Nat) (st : St α n) :
    ∃ k, k ≤ fuel ∧ (iterate N P sys fuel i st).iters = st.iters + k ∧
      (iterate N P sys fuel i st).cs = (fun cs => List.zipWith (colStep N P) sys cs)^[k] st.cs := by
  induction fuel generalizing i st with
  | zero => exact ⟨0, Nat.le_refl _, rfl, rfl⟩
  | succ fuel ih =>
    -- whatever the test decides, the state handed on has the stepped columns and one more iteration
    have key : ∀ st' : St α n, st'.cs = List.zipWith (colStep N P) sys st.cs → st'.iters = st.iters + 1 →
        ∃ k, k ≤ fuel + 1 ∧ (iterate N P sys fuel (i + 1) st').iters = st.iters + k ∧
          (iterate N P sys fuel (i + 1) st').cs = (fun cs => List.zipWith (colStep N P) sys cs)^[k] st.cs := by
      intro st' hcs' hit'
      obtain ⟨k, hk, hit, hcs⟩ := ih (i + 1) st'
      exact ⟨k + 1, by omega, by rw [hit, hit']; omega, by rw [hcs, hcs', iterate_succ_apply]⟩
    unfold iterate
    simp only
    split
    · split
      · exact ⟨1, by omega, rfl, rfl⟩
      · exact key _ rfl rfl
    · exact key _ rfl rfl

/-! ### ghost vectors and the invariant -/

/-- `m_j` (from `m_{j−1}`, `z_j`, rotation `j−1`). -/
def gM0 (t : Lz α n × Gv α n) (mm : Vec α n) : Vec α n := fun i => -t.2.sin2 * mm i + t.2.cos2 * t.1.z2 i
/-- `m_{j+1}`: direction of the residual after `j` iterations. -/
def gM1 (t : Lz α n × Gv α n) (mm : Vec α n) : Vec α n := fun i => -t.2.sin1 * gM0 t mm i + t.2.cos1 * t.1.z1 i
/-- `p_{j−1}`. -/
def gP0 (t : Lz α n × Gv α n) (mm : Vec α n) : Vec α n := fun i => t.2.cos2 * mm i + t.2.sin2 * t.1.z2 i
/-- `p_j = A_σ d_j`. -/
def gP1 (t : Lz α n × Gv α n) (mm : Vec α n) : Vec α n := fun i => t.2.cos1 * gM0 t mm i + t.2.sin1 * t.1.z1 i

/-- Invariant of one track after any number of iterations (`mm` = ghost vector `m_{j−1}`), for the pencil
`A_σ = A + σ • pinv`. -/
structure TrackInv (A pinv : Vec α n →ₗ[α] Vec α n) (σ : α) (b : Vec α n) (t : Lz α n × Gv α n) (mm : Vec α n) :
    Prop where
  rot1 : t.2.cos1 * t.2.cos1 + t.2.sin1 * t.2.sin1 = 1
  rot2 : t.2.cos2 * t.2.cos2 + t.2.sin2 * t.2.sin2 = 1
  pq : pinv t.1.q1 = t.1.z1
  As2 : (A + σ • pinv) t.2.s2 = gP0 t mm
  As1 : (A + σ • pinv) t.2.s1 = gP1 t mm
  res : b - (A + σ • pinv) t.2.sol = t.2.scalePrev • gM1 t mm

/-- The step is regular: the (clamped) `beta_curr` is non-zero and `radius_curr` is a genuine non-zero square root. -/
def StepOK (N : NumOps α) (P : Params α) (s : Sys α n) (σ : α) (t : Lz α n × Gv α n) : Prop :=
  let o := lanczosStep N P s t.1
  let r := rotTerms N σ o.alpha t.1.betaPrev o.betaCurr t.2
  o.betaCurr ≠ 0 ∧ r.radius * r.radius = r.diag0 * r.diag0 + o.betaCurr * o.betaCurr ∧ r.radius ≠ 0

/-- Lanczos three-term relation of one step (holds whatever the clamp did, as long as `beta_curr ≠ 0`):
`K q = α z₁ + β_prev z₂ + β_curr z_new`. -/
theorem lanczos_three_term (N : NumOps α) (P : Params α) (s : Sys α n) (l : Lz α n)
    (hb : (lanczosStep N P s l).betaCurr ≠ 0) (i : Fin n) :
    applyA P s l.q1 i = (lanczosStep N P s l).alpha * l.z1 i + l.betaPrev * l.z2 i +
      (lanczosStep N P s l).betaCurr * (lanczosStep N P s l).zc i := by
  have hz : (lanczosStep N P s l).zc i =
      (applyA P s l.q1 i - (lanczosStep N P s l).alpha * l.z1 i - l.betaPrev * l.z2 i) /
        (lanczosStep N P s l).betaCurr := by
    simp only [lanczosStep, mem_eq]
  rw [hz, mul_div_cancel₀ _ hb]; ring

theorem map_div_vec (L : Vec α n →ₗ[α] Vec α n) (u : Vec α n) (c : α) :
    L (fun i => u i / c) = fun i => L u i / c := by
  have : (fun i => u i / c) = c⁻¹ • u := funext fun i => div_eq_inv_mul _ _
  rw [this, L.map_smul]
  exact funext fun i => (div_eq_inv_mul _ _).symm

/-- `qvec_curr` and `zvec_curr` are divided by the same `beta_curr`: `pinv` maps the one to the other. -/
theorem lanczos_qc (N : NumOps α) (P : Params α) (s : Sys α n) (l : Lz α n) (pinv : Vec α n →ₗ[α] Vec α n)
    (hpre : ∀ v, pinv (s.pre v) = v) :
    pinv (lanczosStep N P s l).qc = (lanczosStep N P s l).zc := by
  simp only [lanczosStep, mem_eq]
  rw [map_div_vec, hpre]

/-- Provided the radius is a genuine non-zero square root of `diag₀² + β²`, the new rotation is orthogonal, annihilates the
sub-diagonal entry `β_curr`, and the rotated diagonal entry `diag_term` equals the radius. -/
theorem rotTerms_orthogonal (N : NumOps α) (shift alpha bp bc : α) (g : Gv α n)
    (hr : (rotTerms N shift alpha bp bc g).radius * (rotTerms N shift alpha bp bc g).radius =
          (rotTerms N shift alpha bp bc g).diag0 * (rotTerms N shift alpha bp bc g).diag0 + bc * bc)
    (hne : (rotTerms N shift alpha bp bc g).radius ≠ 0) :
    (rotTerms N shift alpha bp bc g).cosc * (rotTerms N shift alpha bp bc g).cosc +
      (rotTerms N shift alpha bp bc g).sinc * (rotTerms N shift alpha bp bc g).sinc = 1 ∧
    -(rotTerms N shift alpha bp bc g).sinc * (rotTerms N shift alpha bp bc g).diag0 +
      (rotTerms N shift alpha bp bc g).cosc * bc = 0 ∧
    (rotTerms N shift alpha bp bc g).diag = (rotTerms N shift alpha bp bc g).radius := by
  generalize hrr : rotTerms N shift alpha bp bc g = r at hr hne
  have hc : r.cosc = r.diag0 / r.radius := by rw [← hrr]; rfl
  have hs : r.sinc = bc / r.radius := by rw [← hrr]; rfl
  have hd : r.diag = r.diag0 * r.cosc + r.sinc * bc := by rw [← hrr]; rfl
  rw [hd, hc, hs]
  refine ⟨?_, by ring, ?_⟩
  · rw [div_mul_div_comm, div_mul_div_comm, ← add_div, ← hr, div_self (mul_ne_zero hne hne)]
  · rw [mul_div_assoc', div_mul_eq_mul_div, ← add_div, ← hr, mul_self_div_self]

/-- A regular step leaves an orthogonal rotation in `cos_prev1`, `sin_prev1`. -/
theorem trackStep_rot (N : NumOps α) (P : Params α) (s : Sys α n) (σ : α) (t : Lz α n × Gv α n)
    (hok : StepOK N P s σ t) :
    (trackStep N P s σ t).2.cos1 * (trackStep N P s σ t).2.cos1 +
      (trackStep N P s σ t).2.sin1 * (trackStep N P s σ t).2.sin1 = 1 :=
  (rotTerms_orthogonal N σ _ _ _ t.2 hok.2.1 hok.2.2).1

/-- The new search vector: `search_curr = (qvec_prev1 − sub·search_prev1 − subsub·search_prev2) / diag`. -/
theorem givensStep_s1 (N : NumOps α) (shift : α) (q1 : Vec α n) (alpha bp bc : α) (g : Gv α n) :
    (givensStep N shift q1 alpha bp bc g).s1 = (rotTerms N shift alpha bp bc g).diag⁻¹ •
      (q1 - (rotTerms N shift alpha bp bc g).sub • g.s1 - (rotTerms N shift alpha bp bc g).subsub • g.s2) := by
  funext i
  simp only [givensStep, mem_eq]
  exact div_eq_inv_mul _ _

/-- The solution is advanced by the new search vector times the rotated right-hand-side entry. -/
theorem givensStep_sol (N : NumOps α) (shift : α) (q1 : Vec α n) (alpha bp bc : α) (g : Gv α n) :
    (givensStep N shift q1 alpha bp bc g).sol =
      g.sol + (g.scalePrev * (rotTerms N shift alpha bp bc g).cosc) • (givensStep N shift q1 alpha bp bc g).s1 := by
  funext i
  simp only [givensStep, mem_eq]
  exact congrArg _ (mul_comm _ _)

/-- The three-term relation `a z₁ + β z₂ + w`, with the rotations of the last two steps applied to `(z₂, z₁)`: what is left
after removing the components along `p_{j−1}`, `p_j` is `diag₀ · m_{j+1} + w`. -/
theorem rotated_three_term (c1 s1 c2 s2 a bp z1 z2 mm w : α) (h1 : c1 * c1 + s1 * s1 = 1)
    (h2 : c2 * c2 + s2 * s2 = 1) :
    a * z1 + bp * z2 + w - (c2 * bp * c1 + s1 * a) * (c1 * (-s2 * mm + c2 * z2) + s1 * z1) -
        s2 * bp * (c2 * mm + s2 * z2) =
      (a * c1 - s1 * (c2 * bp)) * (-s1 * (-s2 * mm + c2 * z2) + c1 * z1) + w := by
  linear_combination (-a * z1 - c2 * bp * (-s2 * mm + c2 * z2)) * h1 + (-bp * z2) * h2

theorem map_smul_sub_sub (L : Vec α n →ₗ[α] Vec α n) (c a e : α) (q d1 d2 : Vec α n) :
    L (c • (q - a • d1 - e • d2)) = c • (L q - a • L d1 - e • L d2) := by
  simp only [map_smul, map_sub]

/-- **One iteration preserves the invariant.** -/
theorem TrackInv.step (N : NumOps α) (P : Params α) (s : Sys α n) (σ : α) (A pinv : Vec α n →ₗ[α] Vec α n)
    (hA : ∀ v, applyA P s v = A v) (hpre : ∀ v, pinv (s.pre v) = v) (b : Vec α n) (t : Lz α n × Gv α n)
    (mm : Vec α n) (h : TrackInv A pinv σ b t mm) (hok : StepOK N P s σ t) :
    TrackInv A pinv σ b (trackStep N P s σ t) (gM0 t mm) := by
  obtain ⟨hbc, hrad, hr0⟩ := hok
  obtain ⟨hrot, -, hdr⟩ := rotTerms_orthogonal N σ _ _ _ t.2 hrad hr0
  set o := lanczosStep N P s t.1
  set r := rotTerms N σ o.alpha t.1.betaPrev o.betaCurr t.2
  have hcr : r.cosc * r.radius = r.diag0 := div_mul_cancel₀ _ hr0
  have hsr : r.sinc * r.radius = o.betaCurr := div_mul_cancel₀ _ hr0
  have e_d1 : (trackStep N P s σ t).2.s1 = _ := givensStep_s1 N σ t.1.q1 o.alpha t.1.betaPrev o.betaCurr t.2
  have e_sol : (trackStep N P s σ t).2.sol = t.2.sol + (t.2.scalePrev * r.cosc) • (trackStep N P s σ t).2.s1 :=
    givensStep_sol ..
  -- `A_σ q = (α + σ) z₁ + β_prev z₂ + β_curr z_new`
  have hLq : (A + σ • pinv) t.1.q1 =
      fun i => (o.alpha + σ) * t.1.z1 i + t.1.betaPrev * t.1.z2 i + o.betaCurr * o.zc i := by
    funext i
    show A t.1.q1 i + σ * pinv t.1.q1 i = _
    rw [← hA, h.pq, lanczos_three_term N P s t.1 hbc i]; ring
  -- `A_σ d_new = c m₁ + s z_new`
  have hLd : (A + σ • pinv) (trackStep N P s σ t).2.s1 = fun i => r.cosc * gM1 t mm i + r.sinc * o.zc i := by
    rw [e_d1, map_smul_sub_sub, h.As1, h.As2, hLq]
    funext i
    refine (inv_mul_eq_iff_eq_mul₀ (hdr ▸ hr0)).mpr ?_
    rw [hdr, mul_add, ← mul_assoc, ← mul_assoc, mul_comm r.radius, mul_comm r.radius, hcr, hsr]
    exact rotated_three_term _ _ _ _ _ _ _ _ _ _ h.rot1 h.rot2
  refine ⟨hrot, h.rot1, lanczos_qc N P s t.1 pinv hpre, h.As1, hLd, ?_⟩
  rw [e_sol, LinearMap.map_add, LinearMap.map_smul, hLd, ← sub_sub, h.res]
  funext i
  show t.2.scalePrev * gM1 t mm i - t.2.scalePrev * r.cosc * (r.cosc * gM1 t mm i + r.sinc * o.zc i) =
    t.2.scalePrev * r.sinc * -1 * (-r.sinc * gM1 t mm i + r.cosc * o.zc i)
  linear_combination (-(t.2.scalePrev * gM1 t mm i)) * hrot

end track
end LinOp.C11
