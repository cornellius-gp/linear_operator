/-
C11 — without preconditioner and with regular steps the search vectors, the Lanczos vectors and the Krylov vectors span the same
spaces: `span{b, Ab, …, A^{j−1}b} = span{z_0 … z_{j−1}} = span{d_1 … d_j}`.  Both equalities are instances of one fact about
sequences related by a triangular recurrence with non-zero diagonal.
-/
import LinOp.C11.ProofsLanczos
import Mathlib.LinearAlgebra.Span.Basic

namespace LinOp.C11
open Function

section fam
variable {α : Type} [Field α] {n : Nat}

/-- Span of the first `j` members of a sequence of vectors. -/
def famSpan (v : Nat → Vec α n) (j : Nat) : Submodule α (Vec α n) := Submodule.span α {x | ∃ k, k < j ∧ x = v k}

theorem mem_famSpan (v : Nat → Vec α n) {k j : Nat} (h : k < j) : v k ∈ famSpan v j :=
  Submodule.subset_span ⟨k, h, rfl⟩

theorem famSpan_mono (v : Nat → Vec α n) {j j' : Nat} (h : j ≤ j') : famSpan v j ≤ famSpan v j' :=
  Submodule.span_mono fun _ ⟨k, hk, e⟩ => ⟨k, by omega, e⟩

theorem famSpan_le (v : Nat → Vec α n) (j : Nat) (S : Submodule α (Vec α n)) (h : ∀ k, k < j → v k ∈ S) :
    famSpan v j ≤ S :=
  Submodule.span_le.mpr fun _ ⟨k, hk, e⟩ => e ▸ h k hk

/-- Every element of the span is an explicit combination. -/
theorem exists_coeff (v : Nat → Vec α n) (j : Nat) (x : Vec α n) (hx : x ∈ famSpan v j) :
    ∃ y : Nat → α, x = ∑ k ∈ Finset.range j, y k • v k := by
  unfold famSpan at hx
  induction hx using Submodule.span_induction with
  | mem x h =>
    obtain ⟨k, hk, rfl⟩ := h
    refine ⟨fun i => if i = k then 1 else 0, ?_⟩
    simp only [ite_smul, one_smul, zero_smul]
    rw [Finset.sum_ite_eq' (Finset.range j) k]
    simp [hk]
  | zero => exact ⟨fun _ => 0, by simp⟩
  | add x y _ _ hx hy =>
    obtain ⟨a, rfl⟩ := hx
    obtain ⟨c, rfl⟩ := hy
    exact ⟨fun k => a k + c k, by simp only [add_smul, Finset.sum_add_distrib]⟩
  | smul r x _ hx =>
    obtain ⟨a, rfl⟩ := hx
    exact ⟨fun k => r * a k, by simp only [Finset.smul_sum, smul_smul]⟩

/-- If `famSpan u j = famSpan v j` and the next members are in each other's next span, the next spans agree. -/
theorem famSpan_succ_eq {u v : Nat → Vec α n} {j : Nat} (ih : famSpan u j = famSpan v j)
    (hu : u j ∈ famSpan v (j + 1)) (hv : v j ∈ famSpan u (j + 1)) : famSpan u (j + 1) = famSpan v (j + 1) := by
  refine le_antisymm (famSpan_le _ _ _ fun k hk => ?_) (famSpan_le _ _ _ fun k hk => ?_)
  · rcases Nat.lt_succ_iff_lt_or_eq.mp hk with hk | rfl
    · exact famSpan_mono v (Nat.le_succ j) (ih ▸ mem_famSpan u hk)
    · exact hu
  · rcases Nat.lt_succ_iff_lt_or_eq.mp hk with hk | rfl
    · exact famSpan_mono u (Nat.le_succ j) (ih ▸ mem_famSpan v hk)
    · exact hv

/-- **Triangular change of generators**: if `u_k = c_k v_k + (a combination of v_0 … v_{k−1})` with `c_k ≠ 0` for `k < J`, the
first `j ≤ J` members of `u` and of `v` span the same space. -/
theorem famSpan_eq_of_triangular {u v : Nat → Vec α n} (c : Nat → α) (J : Nat) (hc : ∀ k, k < J → c k ≠ 0)
    (h : ∀ k, k < J → u k - c k • v k ∈ famSpan v k) (j : Nat) (hj : j ≤ J) : famSpan u j = famSpan v j := by
  induction j with
  | zero => exact le_antisymm (famSpan_le _ _ _ fun k hk => by omega) (famSpan_le _ _ _ fun k hk => by omega)
  | succ j ih =>
    have ih := ih (by omega)
    have he := h j (by omega)
    refine famSpan_succ_eq ih ?_ ?_
    · rw [← sub_add_cancel (u j) (c j • v j)]
      exact add_mem (famSpan_mono v (Nat.le_succ j) he) (Submodule.smul_mem _ _ (mem_famSpan v (Nat.lt_succ_self j)))
    · have hvj : v j = (c j)⁻¹ • (u j - (u j - c j • v j)) := by
        rw [sub_sub_cancel, smul_smul, inv_mul_cancel₀ (hc j (by omega)), one_smul]
      rw [hvj]
      exact Submodule.smul_mem _ _ (sub_mem (mem_famSpan u (Nat.lt_succ_self j))
        (famSpan_mono u (Nat.le_succ j) (ih ▸ he)))

/-- **Krylov spaces of a Hessenberg recurrence**: if `A z_k = c_k z_{k+1} + (a combination of z_0 … z_k)` with `c_k ≠ 0` for
`k < J` and `z_0`, `b` span the same line, then `span{z_0 … z_k} = span{b, Ab, …, A^k b}` for `k ≤ J`. -/
theorem famSpan_krylov_eq (A : Vec α n →ₗ[α] Vec α n) (Z : Nat → Vec α n) (b : Vec α n) (c : Nat → α) (J : Nat)
    (hc : ∀ k, k < J → c k ≠ 0) (h0 : famSpan Z 1 = famSpan (fun i => (A ^ i) b) 1)
    (h : ∀ k, k < J → A (Z k) - c k • Z (k + 1) ∈ famSpan Z (k + 1)) (k : Nat) (hk : k ≤ J) :
    famSpan Z (k + 1) = famSpan (fun i => (A ^ i) b) (k + 1) := by
  induction k with
  | zero => exact h0
  | succ k ih =>
    have ih := ih (by omega)
    have he := h k (by omega)
    -- `A` maps either span of `k+1` members into the span of `k+2` members
    have hAK : famSpan (fun i => (A ^ i) b) (k + 1) ≤ (famSpan (fun i => (A ^ i) b) (k + 2)).comap A :=
      famSpan_le _ _ _ fun i hi => by
        refine Submodule.mem_comap.mpr ?_
        rw [← Module.End.mul_apply, ← pow_succ']
        exact mem_famSpan (fun i => (A ^ i) b) (Nat.succ_lt_succ hi)
    have hAZ : famSpan Z (k + 1) ≤ (famSpan Z (k + 2)).comap A :=
      famSpan_le _ _ _ fun m hm => by
        refine Submodule.mem_comap.mpr ?_
        rw [← sub_add_cancel (A (Z m)) (c m • Z (m + 1))]
        exact add_mem (famSpan_mono Z (by omega) (h m (by omega)))
          (Submodule.smul_mem _ _ (mem_famSpan Z (Nat.succ_lt_succ hm)))
    refine famSpan_succ_eq ih ?_ ?_
    · have hz : Z (k + 1) = (c k)⁻¹ • (A (Z k) - (A (Z k) - c k • Z (k + 1))) := by
        rw [sub_sub_cancel, smul_smul, inv_mul_cancel₀ (hc k (by omega)), one_smul]
      rw [hz]
      exact Submodule.smul_mem _ _ (sub_mem (hAK (ih ▸ mem_famSpan Z (Nat.lt_succ_self k)))
        (famSpan_mono _ (Nat.le_succ _) (ih ▸ he)))
    · show (A ^ (k + 1)) b ∈ _
      rw [pow_succ', Module.End.mul_apply]
      exact hAZ (ih ▸ mem_famSpan (fun i => (A ^ i) b) (Nat.lt_succ_self k))

end fam

section model
variable {α : Type} [Field α] {n : Nat}
variable (N : NumOps α) (P : Params α) (s : Sys α n) (σ : α)

theorem s2_eq (b : Vec α n) (k : Nat) : (trk N P s σ (track0 N s b) k).2.s2 =
    if k = 0 then 0 else (trk N P s σ (track0 N s b) (k - 1)).2.s1 := by
  cases k with
  | zero => rfl
  | succ k => rw [trk_succ]; rfl

/-- Column `k` of `Q = D R`: `z_k = diag·d_{k+1} + sub·d_k + subsub·d_{k−1}`, and `diag ≠ 0`. -/
theorem z_col (hpre : ∀ v, s.pre v = v) (b : Vec α n) (k : Nat)
    (hok : StepOK N P s σ (trk N P s σ (track0 N s b) k)) :
    ∃ c0 c1 c2 : α, c0 ≠ 0 ∧ (trk N P s σ (track0 N s b) k).1.z1 =
      c0 • (trk N P s σ (track0 N s b) (k + 1)).2.s1 + c1 • (trk N P s σ (track0 N s b) k).2.s1 +
        c2 • (trk N P s σ (track0 N s b) k).2.s2 := by
  let t := trk N P s σ (track0 N s b) k
  let r := rotTerms N σ (lanczosStep N P s t.1).alpha t.1.betaPrev (lanczosStep N P s t.1).betaCurr t.2
  have hd : r.diag ≠ 0 := (rotTerms_orthogonal N σ _ _ _ _ hok.2.1 hok.2.2).2.2 ▸ hok.2.2
  refine ⟨r.diag, r.sub, r.subsub, hd, ?_⟩
  rw [trk_succ, show (trackStep N P s σ t).2.s1 = _ from givensStep_s1 .., smul_inv_smul₀ hd,
    q1_eq_z1 N P s σ hpre b k]
  abel

/-- `span{z_0 … z_{j−1}} = span{d_1 … d_j}` for `j ≤ J`. -/
theorem zspan_eq_dspan (hpre : ∀ v, s.pre v = v) (b : Vec α n) (J : Nat)
    (hreg : Regular N P s σ (track0 N s b) J) (j : Nat) (hj : j ≤ J) :
    famSpan (fun k => (trk N P s σ (track0 N s b) k).1.z1) j =
      famSpan (fun k => (trk N P s σ (track0 N s b) (k + 1)).2.s1) j := by
  choose c0 c1 c2 hc0 hz using fun k (hk : k < J) => z_col N P s σ hpre b k (hreg k hk)
  refine famSpan_eq_of_triangular (fun k => if hk : k < J then c0 k hk else 0) J
    (fun k hk => by rw [dif_pos hk]; exact hc0 k hk) (fun k hk => ?_) j hj
  have hD : ∀ m, m ≤ k → (trk N P s σ (track0 N s b) m).2.s1 ∈
      famSpan (fun k => (trk N P s σ (track0 N s b) (k + 1)).2.s1) k := fun m hm => by
    cases m with
    | zero => exact Submodule.zero_mem _
    | succ m => exact mem_famSpan (fun k => (trk N P s σ (track0 N s b) (k + 1)).2.s1) hm
  rw [dif_pos hk]
  show (trk N P s σ (track0 N s b) k).1.z1 - c0 k hk • (trk N P s σ (track0 N s b) (k + 1)).2.s1 ∈ _
  rw [hz k hk, add_assoc, add_sub_cancel_left, s2_eq]
  refine add_mem (Submodule.smul_mem _ _ (hD k le_rfl)) (Submodule.smul_mem _ _ ?_)
  split
  · exact Submodule.zero_mem _
  · exact hD (k - 1) (by omega)

/-- `span{z_0 … z_k} = span{b, Ab, …, A^k b}` for `k ≤ J`. -/
theorem zspan_eq_krylov {A : Vec α n →ₗ[α] Vec α n} {b : Vec α n} {J : Nat} (R : Run N P s σ A LinearMap.id b J)
    (k : Nat) (hk : k ≤ J) :
    famSpan (fun k => (trk N P s σ (track0 N s b) k).1.z1) (k + 1) = famSpan (fun i => (A ^ i) b) (k + 1) := by
  refine famSpan_krylov_eq A _ b (fun k => (trk N P s σ (track0 N s b) (k + 1)).1.betaPrev) J
    (fun k hk => by rw [betaPrev_succ]; exact (R.hreg k hk).1) ?_ (fun k hk => ?_) k hk
  · -- `z_0 = b / β₀`
    refine (famSpan_eq_of_triangular (fun _ => (initLz N s b).betaPrev⁻¹) 1 (fun _ _ => inv_ne_zero R.hb0)
      (fun k hk => ?_) 1 le_rfl)
    obtain rfl : k = 0 := by omega
    have hz : (trk N P s σ (track0 N s b) 0).1.z1 = (initLz N s b).betaPrev⁻¹ • b := track0_z1 N s b
    show (trk N P s σ (track0 N s b) 0).1.z1 - (initLz N s b).betaPrev⁻¹ • (A ^ 0) b ∈ _
    rw [hz, pow_zero, Module.End.one_apply, sub_self]
    exact Submodule.zero_mem _
  · show A (trk N P s σ (track0 N s b) k).1.z1 - _ ∈ _
    rw [show A (trk N P s σ (track0 N s b) k).1.z1 = _ from
      three_term_vec N P s σ A LinearMap.id R.hA R.hpre b k (R.hreg k hk), add_sub_cancel_right]
    refine add_mem (Submodule.smul_mem _ _ (mem_famSpan _ (Nat.lt_succ_self k))) (Submodule.smul_mem _ _ ?_)
    split
    · exact Submodule.zero_mem _
    · exact mem_famSpan (fun k => (trk N P s σ (track0 N s b) k).1.z1) (by omega)

/-- **The Krylov space is the span of the search vectors**, `j ≤ J`. -/
theorem krylov_eq_dspan {A : Vec α n →ₗ[α] Vec α n} {b : Vec α n} {J : Nat} (R : Run N P s σ A LinearMap.id b J)
    (j : Nat) (hj : j ≤ J) :
    famSpan (fun i => (A ^ i) b) j = famSpan (fun k => (trk N P s σ (track0 N s b) (k + 1)).2.s1) j := by
  rw [← zspan_eq_dspan N P s σ R.hpre b J R.hreg j hj]
  cases j with
  | zero => exact le_antisymm (famSpan_le _ _ _ fun k hk => by omega) (famSpan_le _ _ _ fun k hk => by omega)
  | succ j => exact (zspan_eq_krylov N P s σ R j (by omega)).symm

/-- **The model's iterate lies in the Krylov space**: `x_j ∈ span{b, Ab, …, A^{j−1}b}`, `j ≤ J`. -/
theorem sol_mem_krylov {A : Vec α n →ₗ[α] Vec α n} {b : Vec α n} {J : Nat} (R : Run N P s σ A LinearMap.id b J)
    (j : Nat) (hj : j ≤ J) : (trk N P s σ (track0 N s b) j).2.sol ∈ famSpan (fun i => (A ^ i) b) j := by
  rw [sol_sum N P s σ (track0 N s b) rfl j, krylov_eq_dspan N P s σ R j hj]
  exact Submodule.sum_mem _ fun k hk => Submodule.smul_mem _ _
    (mem_famSpan (fun k => (trk N P s σ (track0 N s b) (k + 1)).2.s1) (Finset.mem_range.mp hk))

end model
end LinOp.C11
