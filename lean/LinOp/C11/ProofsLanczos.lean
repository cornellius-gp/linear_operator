/-
C11 — orthonormality of the Lanczos vectors of the model, proved from the three-term recurrence for a symmetric bilinear form:
`dot` without preconditioner, `⟨u, M⁻¹ v⟩` with the preconditioner `M⁻¹ = Mi` (then `qvec = Mi zvec` and the vectors are
`M⁻¹`-orthonormal).  Needs a symmetric closure and unit norms (= no clamping, exact `sqrt`).  The case without preconditioner
is `Mi = LinearMap.id`.
-/
import LinOp.C11.ProofsMinres3
import Mathlib.Tactic.Abel
import Mathlib.Algebra.BigOperators.Field

namespace LinOp.C11
open Function

section abstract
variable {α : Type} [Field α] {n : Nat}

/-- Vectors generated by a three-term recurrence `T z_k = α_k z_k + β_k z_{k−1} + β_{k+1} z_{k+1}` with `T` self-adjoint for the
form `B`, `α_k = B (T z_k) z_k`, non-zero off-diagonal coefficients and unit `B`-norms are `B`-orthonormal. -/
theorem three_term_orthonormal {B : Vec α n → Vec α n → α} (hB : SymForm B) (T : Vec α n → Vec α n)
    (hsym : ∀ u v, B (T u) v = B u (T v)) (Z : Nat → Vec α n) (al be : Nat → α) (J : Nat)
    (h3 : ∀ k, k < J → T (Z k) = al k • Z k + be k • (if k = 0 then 0 else Z (k - 1)) + be (k + 1) • Z (k + 1))
    (hal : ∀ k, k < J → al k = B (T (Z k)) (Z k)) (hbe : ∀ k, k < J → be (k + 1) ≠ 0)
    (hunit : ∀ k, k ≤ J → B (Z k) (Z k) = 1) :
    ∀ a c, a ≤ J → c ≤ J → B (Z a) (Z c) = if a = c then 1 else 0 := by
  induction J with
  | zero =>
    intro a c ha hc
    rw [Nat.le_zero.mp ha, Nat.le_zero.mp hc, if_pos rfl]
    exact hunit 0 le_rfl
  | succ J ih =>
    have IH := ih (fun k hk => h3 k (by omega)) (fun k hk => hal k (by omega)) (fun k hk => hbe k (by omega))
      (fun k hk => hunit k (by omega))
    -- `B z_{k−1} z_c` with the convention `z_{−1} = 0`
    have hprev : ∀ k c, k ≤ J → c ≤ J → B (if k = 0 then 0 else Z (k - 1)) (Z c) = if k = c + 1 then 1 else 0 := by
      intro k c hk hc
      cases k with
      | zero => rw [if_pos rfl, hB.zero_left, if_neg (by omega)]
      | succ k => rw [if_neg (by omega), Nat.add_sub_cancel, IH k c (by omega) hc]; simp only [Nat.add_right_cancel_iff]
    -- the new vector is orthogonal to all earlier ones: solve the recurrence at `J` for `β_{J+1} z_{J+1}`
    have hnew : ∀ c, c ≤ J → B (Z (J + 1)) (Z c) = 0 := by
      intro c hc
      have hexp : be (J + 1) • Z (J + 1) = T (Z J) - al J • Z J - be J • (if J = 0 then 0 else Z (J - 1)) := by
        rw [h3 J (by omega)]; abel
      have hmul : be (J + 1) * B (Z (J + 1)) (Z c) =
          B (T (Z J)) (Z c) - al J * B (Z J) (Z c) - be J * (if J = c + 1 then 1 else 0) := by
        rw [← hB.smul_left, hexp, hB.sub_left, hB.sub_left, hB.smul_left, hB.smul_left, hprev J c le_rfl hc]
      refine (mul_eq_zero.mp ?_).resolve_left (hbe J (by omega))
      rw [hmul]
      rcases Nat.lt_or_ge c J with hlt | hge
      · -- `c < J`: move `T` to the other side and use the recurrence at `c`
        rw [hsym, h3 c (by omega), hB.add_right, hB.add_right, hB.smul_right, hB.smul_right, hB.smul_right,
          IH J c le_rfl hc, if_neg (by omega), hB.symm (Z J) (if c = 0 then 0 else Z (c - 1)), hprev c J hc le_rfl,
          if_neg (by omega), IH J (c + 1) le_rfl (by omega)]
        by_cases h : J = c + 1
        · subst h; rw [if_pos rfl]; ring
        · rw [if_neg h]; ring
      · obtain rfl : c = J := by omega
        rw [← hal c (by omega), hunit c (by omega), if_neg (by omega)]; ring
    intro a c ha hc
    rcases Nat.lt_or_ge a (J + 1) with ha' | ha' <;> rcases Nat.lt_or_ge c (J + 1) with hc' | hc'
    · exact IH a c (by omega) (by omega)
    · rw [Nat.le_antisymm hc hc', hB.symm, hnew a (by omega), if_neg (by omega)]
    · rw [Nat.le_antisymm ha ha', hnew c (by omega), if_neg (by omega)]
    · rw [Nat.le_antisymm ha ha', Nat.le_antisymm hc hc', if_pos rfl]
      exact hunit _ le_rfl

end abstract

section model
variable {α : Type} [Field α] {n : Nat}
variable (N : NumOps α) (P : Params α) (s : Sys α n) (σ : α)

theorem z2_eq (b : Vec α n) (k : Nat) : (trk N P s σ (track0 N s b) k).1.z2 =
    if k = 0 then 0 else (trk N P s σ (track0 N s b) (k - 1)).1.z1 := by
  cases k with
  | zero => rfl
  | succ k => rw [trk_succ]; rfl

theorem betaPrev_succ (t0 : Lz α n × Gv α n) (k : Nat) :
    (trk N P s σ t0 (k + 1)).1.betaPrev = (lanczosStep N P s (trk N P s σ t0 k).1).betaCurr := by
  rw [trk_succ]; rfl

theorem z1_succ (t0 : Lz α n × Gv α n) (k : Nat) :
    (trk N P s σ t0 (k + 1)).1.z1 = (lanczosStep N P s (trk N P s σ t0 k).1).zc := by
  rw [trk_succ]; rfl

/-- `zvec_curr` of one iteration before the division by `beta_curr`. -/
def unnormZ (l : Lz α n) : Vec α n :=
  fun i => applyA P s l.q1 i - (lanczosStep N P s l).alpha * l.z1 i - l.betaPrev * l.z2 i

theorem zc_eq_unnorm (l : Lz α n) (i : Fin n) :
    (lanczosStep N P s l).zc i = unnormZ N P s l i / (lanczosStep N P s l).betaCurr := by
  simp only [lanczosStep, mem_eq, unnormZ]

theorem qc_eq_unnorm (l : Lz α n) (i : Fin n) :
    (lanczosStep N P s l).qc i = s.pre (unnormZ N P s l) i / (lanczosStep N P s l).betaCurr := by
  unfold unnormZ
  simp only [lanczosStep, mem_eq]

theorem betaCurr_eq_unnorm (l : Lz α n) :
    (lanczosStep N P s l).betaCurr = clampMin N (N.sqrt (dot (unnormZ N P s l) (s.pre (unnormZ N P s l)))) P.eps := by
  unfold unnormZ
  simp only [lanczosStep, mem_eq]

/-- With the preconditioner `Mi`, `qvec = Mi zvec` throughout. -/
theorem q1_eq_Mi_z1 (Mi : Vec α n →ₗ[α] Vec α n) (hpre : ∀ v, s.pre v = Mi v) (b : Vec α n) (k : Nat) :
    (trk N P s σ (track0 N s b) k).1.q1 = Mi (trk N P s σ (track0 N s b) k).1.z1 := by
  cases k with
  | zero =>
    rw [show (trk N P s σ (track0 N s b) 0).1.q1 = _ from track0_q1 N s b,
      show (trk N P s σ (track0 N s b) 0).1.z1 = _ from track0_z1 N s b, Mi.map_smul, hpre]
  | succ k =>
    rw [z1_succ, funext (zc_eq_unnorm N P s _), map_div_vec, ← hpre, trk_succ]
    exact funext (qc_eq_unnorm N P s _)

/-- Without preconditioner `qvec = zvec` throughout. -/
theorem q1_eq_z1 (hpre : ∀ v, s.pre v = v) (b : Vec α n) (k : Nat) :
    (trk N P s σ (track0 N s b) k).1.q1 = (trk N P s σ (track0 N s b) k).1.z1 :=
  q1_eq_Mi_z1 N P s σ LinearMap.id hpre b k

/-- Three-term relation of the model, in vector form: `(A ∘ Mi) z_k = α z_k + β_k z_{k−1} + β_{k+1} z_{k+1}`. -/
theorem three_term_vec (A Mi : Vec α n →ₗ[α] Vec α n) (hA : ∀ v, applyA P s v = A v) (hpre : ∀ v, s.pre v = Mi v)
    (b : Vec α n) (k : Nat) (hok : StepOK N P s σ (trk N P s σ (track0 N s b) k)) :
    A (Mi (trk N P s σ (track0 N s b) k).1.z1) =
      (lanczosStep N P s (trk N P s σ (track0 N s b) k).1).alpha • (trk N P s σ (track0 N s b) k).1.z1 +
      (trk N P s σ (track0 N s b) k).1.betaPrev •
        (if k = 0 then 0 else (trk N P s σ (track0 N s b) (k - 1)).1.z1) +
      (trk N P s σ (track0 N s b) (k + 1)).1.betaPrev • (trk N P s σ (track0 N s b) (k + 1)).1.z1 := by
  funext i
  have h3 := lanczos_three_term N P s (trk N P s σ (track0 N s b) k).1 hok.1 i
  rw [hA, q1_eq_Mi_z1 N P s σ Mi hpre b k, z2_eq N P s σ b k] at h3
  rw [betaPrev_succ, z1_succ]
  exact h3

/-- **`M⁻¹`-orthonormality of the Lanczos vectors** (`⟨zvec_a, qvec_c⟩ = δ_ac`): symmetric `A` and `Mi`, regular steps, unit
`M⁻¹`-norms (i.e. the clamp was never active and `sqrt` is exact — see `lanczos_unit_of_noclamp`). -/
theorem lanczos_orthonormal (A Mi : Vec α n →ₗ[α] Vec α n) (hA : ∀ v, applyA P s v = A v)
    (hsym : ∀ u v, dot (A u) v = dot u (A v)) (hMsym : ∀ u v, dot u (Mi v) = dot (Mi u) v)
    (hpre : ∀ v, s.pre v = Mi v) (b : Vec α n) (J : Nat) (hreg : Regular N P s σ (track0 N s b) J)
    (hunit : ∀ k, k ≤ J → dot (trk N P s σ (track0 N s b) k).1.z1 (Mi (trk N P s σ (track0 N s b) k).1.z1) = 1) :
    ∀ a c, a ≤ J → c ≤ J → dot (trk N P s σ (track0 N s b) a).1.z1 (Mi (trk N P s σ (track0 N s b) c).1.z1) =
      if a = c then 1 else 0 := by
  refine three_term_orthonormal (symForm_map Mi hMsym) (fun v => A (Mi v)) (fun u v => ?_)
    (fun k => (trk N P s σ (track0 N s b) k).1.z1)
    (fun k => (lanczosStep N P s (trk N P s σ (track0 N s b) k).1).alpha)
    (fun k => (trk N P s σ (track0 N s b) k).1.betaPrev) J
    (fun k hk => three_term_vec N P s σ A Mi hA hpre b k (hreg k hk)) (fun k hk => ?_) (fun k hk => ?_) hunit
  · show dot (A (Mi u)) (Mi v) = dot u (Mi (A (Mi v)))
    rw [hsym, hMsym u]
  · show _ = dot (A (Mi _)) (Mi _)
    rw [← q1_eq_Mi_z1 N P s σ Mi hpre b k, ← hA]
    simp only [lanczosStep, mem_eq]
  · show (trk N P s σ (track0 N s b) (k + 1)).1.betaPrev ≠ 0
    rw [betaPrev_succ]; exact (hreg k hk).1

theorem dot_div_div (Mi : Vec α n →ₗ[α] Vec α n) (u : Vec α n) (c : α) :
    dot (fun i => u i / c) (Mi (fun i => u i / c)) = dot u (Mi u) / (c * c) := by
  rw [map_div_vec]
  simp only [dot_eq_sum, div_mul_div_comm, Finset.sum_div]

end model

section exactLanczos
variable {α : Type} [Field α] [LinearOrder α] [IsStrictOrderedRing α] {n : Nat}
variable (N : NumOps α) (P : Params α) (s : Sys α n) (σ : α)

/-- The clamp `beta_curr.clamp_min_(eps)` is not active in the first `J` iterations. -/
def NoClamp (b : Vec α n) (J : Nat) : Prop :=
  ∀ k, k < J → P.eps ≤ N.sqrt (dot (unnormZ N P s (trk N P s σ (track0 N s b) k).1)
    (s.pre (unnormZ N P s (trk N P s σ (track0 N s b) k).1)))

theorem dot_self_nonneg (u : Vec α n) : 0 ≤ dot u u := by
  rw [dot_eq_sum]; exact Finset.sum_nonneg fun i _ => mul_self_nonneg _

/-- Exact arithmetic, positive semidefinite preconditioner `Mi` (`LinearMap.id` without one), `⟨b, Mi b⟩ > 0`, clamp never
active ⇒ the Lanczos vectors have unit `Mi`-norm. -/
theorem lanczos_unit_of_noclamp (hN : ExactOps N) (heps : 0 < P.eps) (Mi : Vec α n →ₗ[α] Vec α n)
    (hpre : ∀ v, s.pre v = Mi v) (hpsd : ∀ v, 0 ≤ dot v (Mi v)) (b : Vec α n) (hb : 0 < dot b (Mi b)) (J : Nat)
    (hnc : NoClamp N P s σ b J) (k : Nat) (hk : k ≤ J) :
    dot (trk N P s σ (track0 N s b) k).1.z1 (Mi (trk N P s σ (track0 N s b) k).1.z1) = 1 := by
  -- in both cases `z = u / sqrt ⟨u, Mi u⟩` with `⟨u, Mi u⟩ > 0`
  have hdiv : ∀ u : Vec α n, 0 < dot u (Mi u) →
      dot (fun i => u i / N.sqrt (dot u (Mi u))) (Mi fun i => u i / N.sqrt (dot u (Mi u))) = 1 := fun u hu => by
    rw [dot_div_div, hN.sqrt_sq _ hu.le, div_self hu.ne']
  cases k with
  | zero =>
    have hz : (trk N P s σ (track0 N s b) 0).1.z1 = fun i => b i / N.sqrt (dot b (Mi b)) := by
      funext i; simp only [trk, track0, initLz, mem_eq, iterate_zero, id, hpre]
    rw [hz]; exact hdiv b hb
  | succ k =>
    have hc := hnc k (by omega)
    set l := (trk N P s σ (track0 N s b) k).1
    rw [hpre] at hc
    have hbeta : (lanczosStep N P s l).betaCurr = N.sqrt (dot (unnormZ N P s l) (Mi (unnormZ N P s l))) := by
      rw [betaCurr_eq_unnorm, hpre]; exact clampMin_of_ge N hN _ _ hc
    have hpos : 0 < dot (unnormZ N P s l) (Mi (unnormZ N P s l)) := by
      rw [← hN.sqrt_sq _ (hpsd _)]
      exact mul_pos (heps.trans_le hc) (heps.trans_le hc)
    rw [z1_succ, funext (zc_eq_unnorm N P s l), hbeta]
    exact hdiv _ hpos

omit [IsStrictOrderedRing α] in
/-- The first normalisation constant is non-zero for a right-hand side with `⟨b, Mi b⟩ > 0`. -/
theorem beta0_ne_zero (hN : ExactOps N) (Mi : Vec α n →ₗ[α] Vec α n) (hpre : ∀ v, s.pre v = Mi v) (b : Vec α n)
    (hb : 0 < dot b (Mi b)) : (initLz N s b).betaPrev ≠ 0 := by
  have h : (initLz N s b).betaPrev = N.sqrt (dot b (Mi b)) := by simp only [initLz, mem_eq, hpre]
  rw [h]; exact sqrt_ne_zero_of_exact N hN hb

/-- **Breakdown step.**  If `zvec_curr` vanishes before the normalisation in iteration `j+1` (Krylov space exhausted), then in
exact arithmetic `beta_curr` is clamped to `eps`, the new Lanczos vector is zero, and
`sin_{j+1}² = eps² / (diag₀² + eps²)` with `diag₀` the rotated diagonal entry. -/
theorem breakdown_step (hN : ExactOps N) (heps : 0 < P.eps) (hpre0 : s.pre (fun _ => 0) = fun _ => 0)
    (t : Lz α n × Gv α n) (hz : unnormZ N P s t.1 = fun _ => 0) :
    (lanczosStep N P s t.1).betaCurr = P.eps ∧ (trackStep N P s σ t).1.z1 = (fun _ => 0) ∧
    (trackStep N P s σ t).2.sin1 * (trackStep N P s σ t).2.sin1 =
      P.eps * P.eps / ((rotTerms N σ (lanczosStep N P s t.1).alpha t.1.betaPrev P.eps t.2).diag0 *
        (rotTerms N σ (lanczosStep N P s t.1).alpha t.1.betaPrev P.eps t.2).diag0 + P.eps * P.eps) := by
  have hb : (lanczosStep N P s t.1).betaCurr = P.eps := by
    rw [betaCurr_eq_unnorm, hz, hpre0, dot_zero_left, sqrt_zero_of_exact N hN]
    exact clampMin_of_lt N hN _ _ heps
  have hz1 : (trackStep N P s σ t).1.z1 = fun _ => 0 := by
    funext i
    show (lanczosStep N P s t.1).zc i = 0
    rw [zc_eq_unnorm, hz]; simp
  refine ⟨hb, hz1, ?_⟩
  obtain ⟨-, hrad, -⟩ := stepOK_of_exact N hN P heps s σ t
  rw [hb] at hrad
  show (rotTerms N σ (lanczosStep N P s t.1).alpha t.1.betaPrev (lanczosStep N P s t.1).betaCurr t.2).sinc *
    (rotTerms N σ (lanczosStep N P s t.1).alpha t.1.betaPrev (lanczosStep N P s t.1).betaCurr t.2).sinc = _
  rw [hb]
  set r := rotTerms N σ (lanczosStep N P s t.1).alpha t.1.betaPrev P.eps t.2
  have hs : r.sinc = P.eps / r.radius := rfl
  rw [hs, div_mul_div_comm, hrad]

end exactLanczos
end LinOp.C11
