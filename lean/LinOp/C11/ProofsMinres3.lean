/-
C11 — exact arithmetic (`ExactOps`: `<` is the order of an ordered field, `sqrt` is exact on non-negatives) makes every
step regular (the clamp keeps `beta_curr ≥ eps > 0`); the model's `minres` output is the track state after `iters` steps.
-/
import LinOp.C11.ProofsMinres2

namespace LinOp.C11
open Function

section exact
variable {α : Type} [Field α] [LinearOrder α] [IsStrictOrderedRing α] {n : Nat}

/-- Exact real arithmetic for the two non-ring primitives. -/
structure ExactOps (N : NumOps α) : Prop where
  lt_iff : ∀ a b, N.lt a b = decide (a < b)
  sqrt_sq : ∀ x, 0 ≤ x → N.sqrt x * N.sqrt x = x
  sqrt_nonneg : ∀ x, 0 ≤ N.sqrt x

omit [IsStrictOrderedRing α] in
theorem clampMin_ge (N : NumOps α) (hN : ExactOps N) (x e : α) : e ≤ clampMin N x e := by
  unfold clampMin
  rw [hN.lt_iff]
  by_cases h : x < e
  · simp [h]
  · simp only [h, decide_false, Bool.false_eq_true, if_false]; exact not_lt.mp h

omit [IsStrictOrderedRing α] in
theorem clampMin_of_lt (N : NumOps α) (hN : ExactOps N) (x e : α) (h : x < e) : clampMin N x e = e := by
  unfold clampMin; rw [hN.lt_iff]; simp [h]

omit [IsStrictOrderedRing α] in
theorem clampMin_of_ge (N : NumOps α) (hN : ExactOps N) (x e : α) (h : e ≤ x) : clampMin N x e = x := by
  unfold clampMin; rw [hN.lt_iff]; simp [not_lt.mpr h]

omit [IsStrictOrderedRing α] in
theorem betaCurr_ge_eps (N : NumOps α) (hN : ExactOps N) (P : Params α) (s : Sys α n) (l : Lz α n) :
    P.eps ≤ (lanczosStep N P s l).betaCurr := by
  simp only [lanczosStep]; exact clampMin_ge N hN _ _

omit [IsStrictOrderedRing α] in
/-- `sqrt x ≠ 0` for `x > 0`. -/
theorem sqrt_ne_zero_of_exact (N : NumOps α) (hN : ExactOps N) {x : α} (hx : 0 < x) : N.sqrt x ≠ 0 := fun h0 => by
  have := hN.sqrt_sq x hx.le
  rw [h0, mul_zero] at this
  exact hx.ne this

/-- In exact arithmetic with `eps > 0` every step is regular, whatever the state. -/
theorem stepOK_of_exact (N : NumOps α) (hN : ExactOps N) (P : Params α) (heps : 0 < P.eps) (s : Sys α n) (σ : α)
    (t : Lz α n × Gv α n) : StepOK N P s σ t := by
  have hb : 0 < (lanczosStep N P s t.1).betaCurr := heps.trans_le (betaCurr_ge_eps N hN P s t.1)
  have hpos := add_pos_of_nonneg_of_pos (mul_self_nonneg (rotTerms N σ (lanczosStep N P s t.1).alpha t.1.betaPrev
    (lanczosStep N P s t.1).betaCurr t.2).diag0) (mul_pos hb hb)
  exact ⟨hb.ne', hN.sqrt_sq _ hpos.le, sqrt_ne_zero_of_exact N hN hpos⟩

theorem regular_of_exact (N : NumOps α) (hN : ExactOps N) (P : Params α) (heps : 0 < P.eps) (s : Sys α n) (σ : α)
    (t0 : Lz α n × Gv α n) (J : Nat) : Regular N P s σ t0 J :=
  fun _ _ => stepOK_of_exact N hN P heps s σ _

/-- A rotation never lengthens the residual: with `c² + s² = 1` and `φ' = −φ s`, `φ'² = s² φ² ≤ φ²`. -/
theorem scale_shrinks {c s φ φ' : α} (hrot : c * c + s * s = 1) (hφ : φ' = -(φ * s)) :
    φ' * φ' = s * s * (φ * φ) ∧ s * s ≤ 1 ∧ φ' * φ' ≤ φ * φ := by
  have h1 : s * s ≤ 1 := (le_add_of_nonneg_left (mul_self_nonneg c)).trans_eq hrot
  have h2 : φ' * φ' = s * s * (φ * φ) := by rw [hφ]; ring
  exact ⟨h2, h1, h2.trans_le (mul_le_of_le_one_left (mul_self_nonneg _) h1)⟩

theorem sqrt_zero_of_exact (N : NumOps α) (hN : ExactOps N) : N.sqrt 0 = 0 := by
  have := hN.sqrt_sq 0 (le_refl _)
  exact mul_self_eq_zero.mp this

end exact

/-! ### the model's `minres` output in terms of tracks -/

section out
variable {α : Type} [Field α] {n : Nat}

/-- Above the zero threshold `prep` is plain normalisation. -/
theorem prep_of_nonzero (N : NumOps α) (P : Params α) (s : Sys α n) (hnz : N.lt (norm2 N s.rhs) P.zeroThresh = false) :
    prep N P s = { nrm := norm2 N s.rhs, isZero := false, b := fun i => s.rhs i / norm2 N s.rhs } := by
  simp only [prep, hnz, mem_eq, Bool.false_eq_true, if_false]

/-- After the loop, column `m` (system `s`) holds at shift number `k` (value `σ`) the Givens state of the track `(s, σ)` after
`iters ≤ nIter` iterations, whatever the convergence test decided. -/
theorem minres_col (N : NumOps α) (P : Params α) (sys : List (Sys α n)) (m k : Nat) (s : Sys α n) (σ : α)
    (hs : sys[m]? = some s) (hσ : s.shifts[k]? = some σ) :
    (minres N P sys).iters ≤ nIter P n ∧
    ∃ c, (iterate N P sys (nIter P n) 0
        { cs := List.zipWith (initCol N) sys (sys.map (prep N P)), iters := 0, trace := [], convs := [], betas := [] }).cs[m]? =
          some c ∧
      c.gs[k]? = some (trk N P s σ (track0 N s (prep N P s).b) (minres N P sys).iters).2 := by
  obtain ⟨J, hJ, hit, hcs⟩ := iterate_cs N P sys (nIter P n) 0
    { cs := List.zipWith (initCol N) sys (sys.map (prep N P)), iters := 0, trace := [], convs := [], betas := [] }
  have hiters : (minres N P sys).iters = J := hit.trans (Nat.zero_add J)
  have hc0 : (List.zipWith (initCol N) sys (sys.map (prep N P)))[m]? = some (initCol N s (prep N P s)) := by
    simp only [List.getElem?_zipWith, List.getElem?_map, hs, Option.map_some]
  have hg0 : (initCol N s (prep N P s)).gs[k]? = some (initGv (initLz N s (prep N P s).b).betaPrev) := by
    simp only [initCol, List.getElem?_map, hσ, Option.map_some]
  rw [hiters]
  exact ⟨hJ, _, hcs ▸ zipWith_iterate_getElem? _ sys J m _ hs hc0, (colStep_iter_get N P s J _ k σ _ hσ hg0).1⟩

/-- **Output = track state.**  For column `m` (system `s`) and shift number `k` (value `σ`), the vector returned by the
model's `minres` is the un-normalised, masked `solution` of the track of `(s, σ)` after `iters` iterations, and
`iters ≤ nIter`. -/
theorem minres_output_track (N : NumOps α) (P : Params α) (sys : List (Sys α n)) (m k : Nat) (s : Sys α n) (σ : α)
    (hs : sys[m]? = some s) (hσ : s.shifts[k]? = some σ) :
    (minres N P sys).iters ≤ nIter P n ∧
    ∃ col, (minres N P sys).x[m]? = some col ∧
      col[k]? = some (fun i => (if (prep N P s).isZero then 0
        else (trk N P s σ (track0 N s (prep N P s).b) (minres N P sys).iters).2.sol i) * (prep N P s).nrm) := by
  obtain ⟨hJ, c, hc, hg⟩ := minres_col N P sys m k s σ hs hσ
  refine ⟨hJ, finishCol (prep N P s) c, ?_, ?_⟩
  · simp only [minres, List.getElem?_zipWith, List.getElem?_map, hs, Option.map_some, hc]
  · simp only [finishCol, List.getElem?_map, hg, Option.map_some, mem_eq]

/-- The `scales` output of the model is `scale_prev · rhs_norm` of the track after `iters` iterations. -/
theorem minres_output_scale (N : NumOps α) (P : Params α) (sys : List (Sys α n)) (m k : Nat) (s : Sys α n) (σ : α)
    (hs : sys[m]? = some s) (hσ : s.shifts[k]? = some σ) :
    ∃ col, (minres N P sys).scales[m]? = some col ∧
      col[k]? = some ((trk N P s σ (track0 N s (prep N P s).b) (minres N P sys).iters).2.scalePrev * (prep N P s).nrm) := by
  obtain ⟨-, c, hc, hg⟩ := minres_col N P sys m k s σ hs hσ
  refine ⟨c.gs.map fun g => g.scalePrev * (prep N P s).nrm, ?_, ?_⟩
  · simp only [minres, List.getElem?_zipWith, List.getElem?_map, hs, Option.map_some, hc]
  · simp only [List.getElem?_map, hg, Option.map_some]

end out
end LinOp.C11
