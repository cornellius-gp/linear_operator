/-
C11 — environments as finite maps.  A tuple assignment rebinds every name `x` to the old buffer of the name `a.src x`; an
assignment with `isPerm` permutes the names, hence the buffers, and no two names come to share one.  Then the generated shift
assignments acting on the Lanczos names with two fresh buffers per iteration.
-/
import LinOp.C11.Model
import LinOp.Generated.C11Consts

namespace LinOp.C11
open Generated.C11

/-- What one execution of the block preserves holds after any number of executions. -/
theorem rotateN_induction {Q : Env → Prop} (as : List TupleAssign) (hstep : ∀ e, Q e → Q (applyAll as e)) (k : Nat)
    (e : Env) (h : Q e) : Q (rotateN as k e) := by
  induction k generalizing e with
  | zero => exact h
  | succ k ih => exact ih _ (hstep e h)

/-- What one iteration with fresh allocations preserves holds after any number of iterations. -/
theorem allocN_induction {Q : Env × Nat → Prop} (as : List TupleAssign) (fresh : List String)
    (hstep : ∀ st, Q st → Q (allocStep as fresh st)) (k : Nat) (st : Env × Nat) (h : Q st) :
    Q (allocN as fresh k st) := by
  induction k generalizing st with
  | zero => exact h
  | succ k ih => exact ih _ (hstep st h)

/-! ### a tuple assignment as a map on names -/

/-- The right-hand name paired with `x` by the assignment `ls = rs` (`x` itself if `x` is not assigned). -/
def srcL (ls rs : List String) (x : String) : String :=
  match (ls.zip rs).find? (fun q => q.1 == x) with
  | some q => q.2
  | none => x

theorem srcL_cons (l r : String) (ls rs : List String) (x : String) :
    srcL (l :: ls) (r :: rs) x = if l = x then r else srcL ls rs x := by
  unfold srcL
  rw [List.zip_cons_cons, List.find?_cons]
  by_cases h : l = x
  · rw [if_pos h, beq_iff_eq.mpr h]
  · rw [if_neg h, beq_eq_false_iff_ne.mpr h]

theorem srcL_of_not_mem {ls rs : List String} {x : String} (h : x ∉ ls) : srcL ls rs x = x := by
  unfold srcL
  have : (ls.zip rs).find? (fun q => q.1 == x) = none :=
    List.find?_eq_none.mpr fun q hq hx => h (by rw [← beq_iff_eq.mp hx]; exact (List.of_mem_zip hq).1)
  rw [this]

/-- A duplicate-free left side is mapped onto the right side, in order. -/
theorem map_srcL {ls rs : List String} (hn : ls.Nodup) (hl : ls.length = rs.length) : ls.map (srcL ls rs) = rs := by
  induction ls generalizing rs with
  | nil => cases rs with
    | nil => rfl
    | cons => cases hl
  | cons l ls ih =>
    cases rs with
    | nil => cases hl
    | cons r rs =>
      have hn' := List.nodup_cons.mp hn
      rw [List.map_cons, srcL_cons, if_pos rfl]
      congr 1
      refine (List.map_congr_left fun x hx => ?_).trans (ih hn'.2 (Nat.succ.inj hl))
      rw [srcL_cons, if_neg fun (h : l = x) => hn'.1 (h ▸ hx)]

/-- The name whose old buffer `x` denotes after the assignment. -/
def TupleAssign.src (a : TupleAssign) (x : String) : String := srcL a.lhs a.rhs x

/-- A block of assignments as a map on names (the last assignment is applied to the name first). -/
def srcAll (as : List TupleAssign) (x : String) : String := as.foldr (fun a y => a.src y) x

/-- **An assignment with `isPerm` permutes every duplicate-free list of names that contains its left side**: the names
outside the left side stay, and the left side is mapped onto the right side, which has the same members. -/
theorem TupleAssign.src_perm (a : TupleAssign) (h : a.isPerm = true) {names : List String} (hn : names.Nodup)
    (hsub : ∀ x ∈ a.lhs, x ∈ names) : (names.map a.src).Perm names := by
  simp only [TupleAssign.isPerm, Bool.and_eq_true, decide_eq_true_eq, List.all_eq_true, beq_iff_eq] at h
  obtain ⟨⟨⟨⟨hl, hr⟩, hlr⟩, hrl⟩, hlen⟩ := h
  obtain ⟨inL, outL, hsplit, hin, hout⟩ :
      ∃ inL outL : List String, (inL ++ outL).Perm names ∧ inL.Perm a.lhs ∧ ∀ x ∈ outL, x ∉ a.lhs :=
    ⟨names.filter fun x => decide (x ∈ a.lhs), names.filter fun x => !decide (x ∈ a.lhs),
      List.filter_append_perm _ names,
      (List.perm_ext_iff_of_nodup (hn.filter _) hl).mpr fun x => by
        simp only [List.mem_filter, decide_eq_true_eq]
        exact ⟨fun h => h.2, fun h => ⟨hsub x h, h⟩⟩,
      fun x hx => by simpa only [List.mem_filter, Bool.not_eq_true', decide_eq_false_iff_not] using (List.mem_filter.mp hx).2⟩
  have hrhs : a.rhs.Perm a.lhs := (List.perm_ext_iff_of_nodup hr hl).mpr fun x => ⟨hrl x, hlr x⟩
  have h1 : (inL.map a.src).Perm inL :=
    ((hin.map _).trans ((show a.lhs.map a.src = a.rhs from map_srcL hl hlen) ▸ hrhs)).trans hin.symm
  have h2 : outL.map a.src = outL :=
    (List.map_congr_left fun x hx => srcL_of_not_mem (hout x hx)).trans (List.map_id _)
  refine ((hsplit.map _).symm.trans ?_).trans hsplit
  rw [List.map_append, h2]
  exact h1.append_right _

/-! ### names → buffers as a finite map -/

def Env.keys (e : Env) : List String := e.map (·.1)

theorem Env.get_of_mem {e : Env} (hk : e.keys.Nodup) {p : String × Nat} (hp : p ∈ e) : e.get p.1 = p.2 := by
  induction e with
  | nil => cases hp
  | cons q e ih =>
    have hk' := List.nodup_cons.mp hk
    rcases List.mem_cons.mp hp with rfl | hp
    · simp [Env.get]
    · have hne : (q.1 == p.1) = false := by
        rw [beq_eq_false_iff_ne]
        rintro h
        exact hk'.1 (List.mem_map.mpr ⟨p, hp, h.symm⟩)
      have := ih hk'.2 hp
      simp only [Env.get, List.find?_cons, hne] at this ⊢
      exact this

theorem Env.keys_map_get {e : Env} (hk : e.keys.Nodup) : e.keys.map e.get = e.map (·.2) := by
  unfold Env.keys
  rw [List.map_map]
  exact List.map_congr_left fun p hp => Env.get_of_mem hk hp

/-- With distinct names, the assignment rebinds every name `x` to the old buffer of `a.src x`. -/
theorem TupleAssign.apply_eq (a : TupleAssign) {e : Env} (hk : e.keys.Nodup) :
    a.apply e = e.map fun p => (p.1, e.get (a.src p.1)) := by
  unfold TupleAssign.apply
  refine List.map_congr_left fun p hp => ?_
  unfold TupleAssign.src srcL
  cases (a.lhs.zip a.rhs).find? (fun q => q.1 == p.1) with
  | some q => rfl
  | none => rw [Env.get_of_mem hk hp]

theorem TupleAssign.keys_apply (a : TupleAssign) (e : Env) : (a.apply e).keys = e.keys := by
  unfold TupleAssign.apply Env.keys
  rw [List.map_map]
  refine List.map_congr_left fun p _ => ?_
  simp only [Function.comp]
  split <;> rfl

theorem TupleAssign.get_apply (a : TupleAssign) {e : Env} (hk : e.keys.Nodup) {x : String} (hx : x ∈ e.keys) :
    (a.apply e).get x = e.get (a.src x) := by
  obtain ⟨p, hp, rfl⟩ := List.mem_map.mp hx
  have hp' : (p.1, e.get (a.src p.1)) ∈ a.apply e := by
    rw [a.apply_eq hk]; exact List.mem_map_of_mem (f := fun p => (p.1, e.get (a.src p.1))) hp
  exact Env.get_of_mem (e := a.apply e) (by rw [a.keys_apply]; exact hk) hp'

/-- **An assignment that permutes the names permutes the buffers**: no two names come to share one. -/
theorem TupleAssign.noAlias_apply (a : TupleAssign) {e : Env} (hk : e.keys.Nodup)
    (hp : (e.keys.map a.src).Perm e.keys) (h : NoAlias e) : NoAlias (a.apply e) := by
  unfold NoAlias at h ⊢
  have : (a.apply e).map (·.2) = (e.keys.map a.src).map e.get := by
    rw [a.apply_eq hk, Env.keys, List.map_map, List.map_map, List.map_map]; rfl
  rw [this]
  exact ((hp.map e.get).nodup_iff).mpr (Env.keys_map_get hk ▸ h)

/-- What the loop can reach from `env0 names`: the names, in order, bound to pairwise different buffers. -/
def RotInv (names : List String) (e : Env) : Prop := e.keys = names ∧ NoAlias e

section block
variable {names : List String} (hn : names.Nodup)
include hn

theorem RotInv.apply {a : TupleAssign} (hp : (names.map a.src).Perm names) {e : Env} (h : RotInv names e) :
    RotInv names (a.apply e) :=
  ⟨(a.keys_apply e).trans h.1, a.noAlias_apply (h.1 ▸ hn) (h.1 ▸ hp) h.2⟩

variable {as : List TupleAssign} (hp : ∀ a ∈ as, (names.map a.src).Perm names)
include hp

theorem RotInv.applyAll {e : Env} (h : RotInv names e) : RotInv names (applyAll as e) := by
  unfold LinOp.C11.applyAll
  induction as generalizing e with
  | nil => exact h
  | cons a as ih =>
    exact ih (fun b hb => hp b (List.mem_cons_of_mem _ hb)) (h.apply hn (hp a List.mem_cons_self))

omit hn in
theorem srcAll_mem {x : String} (hx : x ∈ names) : srcAll as x ∈ names := by
  unfold srcAll
  induction as with
  | nil => exact hx
  | cons a as ih =>
    exact ((hp a List.mem_cons_self).mem_iff).mp
      (List.mem_map_of_mem (ih fun b hb => hp b (List.mem_cons_of_mem _ hb)))

/-- After the block, `x` denotes the old buffer of `srcAll as x`. -/
theorem RotInv.get_applyAll {e : Env} (h : RotInv names e) {x : String} (hx : x ∈ names) :
    (LinOp.C11.applyAll as e).get x = e.get (srcAll as x) := by
  induction as generalizing e with
  | nil => rfl
  | cons a as ih =>
    have hpt : ∀ b ∈ as, (names.map b.src).Perm names := fun b hb => hp b (List.mem_cons_of_mem _ hb)
    show (LinOp.C11.applyAll as (a.apply e)).get x = e.get (a.src (srcAll as x))
    rw [ih hpt (h.apply hn (hp a List.mem_cons_self))]
    exact a.get_apply (h.1 ▸ hn) (h.1 ▸ srcAll_mem hpt hx)

theorem rotInv_rotateN (k : Nat) : RotInv names (rotateN as k (env0 names)) := by
  refine rotateN_induction (Q := RotInv names) as (fun _ h => h.applyAll hn hp) k _ ⟨?_, ?_⟩
  · exact List.zipIdx_map_fst 0 names
  · show ((names.zipIdx 0).map Prod.snd).Nodup
    rw [List.zipIdx_map_snd]
    exact List.nodup_range'

end block

/-! ### the block extracted from the source -/

theorem rotPermNames_nodup : rotPermNames.Nodup := by decide +kernel

/-- The in-place block permutes its names because every assignment in it is a rotation. -/
theorem rotPerm_permutes (hperm : rotPerm.all TupleAssign.isPerm = true) :
    ∀ a ∈ rotPerm, (rotPermNames.map a.src).Perm rotPermNames := fun a ha =>
  a.src_perm (List.all_eq_true.mp hperm a ha) rotPermNames_nodup
    ((by decide +kernel : ∀ a ∈ rotPerm, ∀ x ∈ a.lhs, x ∈ rotPermNames) a ha)

/-- The block as a map on names: which name's old buffer each of the eight names of `RecyclesOldest` receives. -/
theorem rotPerm_src :
    ("cos_curr" ∈ rotPermNames ∧ srcAll rotPerm "cos_curr" = "cos_prev2") ∧
    ("sin_curr" ∈ rotPermNames ∧ srcAll rotPerm "sin_curr" = "sin_prev2") ∧
    ("search_curr" ∈ rotPermNames ∧ srcAll rotPerm "search_curr" = "search_prev2") ∧
    ("scale_curr" ∈ rotPermNames ∧ srcAll rotPerm "scale_curr" = "scale_prev") ∧
    ("beta_curr" ∈ rotPermNames ∧ srcAll rotPerm "beta_curr" = "beta_prev") ∧
    ("cos_prev1" ∈ rotPermNames ∧ srcAll rotPerm "cos_prev1" = "cos_curr") ∧
    ("search_prev1" ∈ rotPermNames ∧ srcAll rotPerm "search_prev1" = "search_curr") ∧
    ("search_prev2" ∈ rotPermNames ∧ srcAll rotPerm "search_prev2" = "search_prev1") := by decide +kernel

/-! ### shifted names (`zvec_*`, `qvec_*`) -/

/-- The names of `shiftNames`, in that order, bound to arbitrary buffers. -/
def shiftEnv (a b p c q : Nat) : Env :=
  [("zvec_prev2", a), ("zvec_prev1", b), ("prod", p), ("qvec_prev1", c), ("qvec_curr", q)]

/-- One iteration: `prod`, `qvec_curr` get the fresh buffers `f`, `f + 1`, then the generated shift assignments run. -/
theorem shiftEnv_step (a b p c q f : Nat) :
    allocStep rotShift shiftFresh (shiftEnv a b p c q, f) = (shiftEnv b f f (f + 1) (f + 1), f + 2) := by
  rfl

/-- The live Lanczos names denote pairwise different buffers, all older than the next allocation. -/
def ShiftOK (st : Env × Nat) : Prop :=
  ∃ a b p c q : Nat, st.1 = shiftEnv a b p c q ∧ a ≠ b ∧ b ≠ c ∧ a ≠ c ∧ a < st.2 ∧ b < st.2 ∧ c < st.2

theorem ShiftOK.step {st : Env × Nat} (h : ShiftOK st) : ShiftOK (allocStep rotShift shiftFresh st) := by
  obtain ⟨e, f⟩ := st
  obtain ⟨a, b, p, c, q, rfl, -, -, -, -, hb, -⟩ := h
  rw [shiftEnv_step]
  exact ⟨b, f, f, f + 1, f + 1, rfl, by omega, by omega, by omega, by omega, by omega, by omega⟩

theorem shiftOK_allocN (k : Nat) : ShiftOK (allocN rotShift shiftFresh k (env0 shiftNames, shiftNames.length)) :=
  allocN_induction (Q := ShiftOK) rotShift shiftFresh (fun _ => ShiftOK.step) k _
    ⟨0, 1, 2, 3, 4, rfl, by decide, by decide, by decide, by decide, by decide, by decide⟩

theorem ShiftOK.get {st : Env × Nat} (h : ShiftOK st) :
    st.1.get "zvec_prev2" ≠ st.1.get "zvec_prev1" ∧ st.1.get "zvec_prev1" ≠ st.1.get "qvec_prev1" ∧
    st.1.get "zvec_prev2" ≠ st.1.get "qvec_prev1" ∧
    st.1.get "zvec_prev2" < st.2 ∧ st.1.get "zvec_prev1" < st.2 ∧ st.1.get "qvec_prev1" < st.2 := by
  obtain ⟨a, b, p, c, q, he, h⟩ := h
  rw [he]
  exact h

end LinOp.C11
