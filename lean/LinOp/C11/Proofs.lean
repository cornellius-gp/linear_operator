/-
C11 — the scalar product `dot` of the model, and linear algebra for a symmetric bilinear form on vectors: rotation of an
orthonormal pair, a sweep of such rotations along an orthonormal sequence (`Sweep`), least squares by an orthonormal
factorisation (`LsqFrame`).  Nothing here mentions the model's iteration.
-/
import LinOp.C11.Model
import LinOp.Core.Bridge
import Mathlib.Algebra.Order.Field.Basic
import Mathlib.Algebra.BigOperators.Ring.Finset
import Mathlib.Algebra.Module.LinearMap.Defs
import Mathlib.Algebra.Module.Pi
import Mathlib.Tactic.FieldSimp
import Mathlib.Tactic.Ring
import Mathlib.Tactic.LinearCombination

namespace LinOp.C11

section field
variable {α : Type} [Field α]

theorem dot_eq_sum {n : Nat} (u v : Vec α n) : dot u v = ∑ i, u i * v i := by
  unfold dot; exact sumFin_eq_sum _ _

theorem dot_comm {n : Nat} (u v : Vec α n) : dot u v = dot v u := by
  simp only [dot_eq_sum, mul_comm]

/-! ### symmetric bilinear forms

The MINRES argument is the same for the Euclidean product `dot` and for `⟨u, M⁻¹ v⟩` (preconditioner `M⁻¹`); it is written
once for a form `B` given as a plain function. -/

structure SymForm {n : Nat} (B : Vec α n → Vec α n → α) : Prop where
  add_left : ∀ u v w, B (u + v) w = B u w + B v w
  smul_left : ∀ (c : α) u w, B (c • u) w = c * B u w
  symm : ∀ u v, B u v = B v u

namespace SymForm
variable {n : Nat} {B : Vec α n → Vec α n → α} (h : SymForm B)
include h

theorem add_right (u v w : Vec α n) : B w (u + v) = B w u + B w v := by
  rw [h.symm, h.add_left, h.symm u, h.symm v]

theorem smul_right (c : α) (u w : Vec α n) : B w (c • u) = c * B w u := by
  rw [h.symm, h.smul_left, h.symm]

theorem lin_left (a c : α) (u v w : Vec α n) : B (a • u + c • v) w = a * B u w + c * B v w := by
  rw [h.add_left, h.smul_left, h.smul_left]

theorem lin_right (a c : α) (u v w : Vec α n) : B w (a • u + c • v) = a * B w u + c * B w v := by
  rw [h.add_right, h.smul_right, h.smul_right]

theorem zero_left (w : Vec α n) : B 0 w = 0 := by
  simpa using h.smul_left 0 0 w

theorem neg_left (u w : Vec α n) : B (-u) w = -B u w := by
  rw [← neg_one_smul α u, h.smul_left, neg_one_mul]

theorem sub_left (u v w : Vec α n) : B (u - v) w = B u w - B v w := by
  rw [sub_eq_add_neg, h.add_left, h.neg_left, sub_eq_add_neg]

theorem sum_left (f : Nat → Vec α n) (j : Nat) (w : Vec α n) :
    B (∑ k ∈ Finset.range j, f k) w = ∑ k ∈ Finset.range j, B (f k) w := by
  induction j with
  | zero => simpa using h.zero_left w
  | succ j ih => rw [Finset.sum_range_succ, Finset.sum_range_succ, h.add_left, ih]

/-- A rotation of a `B`-orthonormal pair `(m, z)` is a `B`-orthonormal pair. -/
theorem rotate {m z : Vec α n} (hm : B m m = 1) (hmz : B m z = 0) (hz : B z z = 1) (c s : α)
    (hcs : c * c + s * s = 1) :
    B (-s • m + c • z) (-s • m + c • z) = 1 ∧ B (c • m + s • z) (c • m + s • z) = 1 ∧
      B (c • m + s • z) (-s • m + c • z) = 0 := by
  have hzm : B z m = 0 := (h.symm z m).trans hmz
  refine ⟨?_, ?_, ?_⟩ <;> rw [h.lin_left, h.lin_right, h.lin_right, hm, hmz, hzm, hz]
  · linear_combination hcs
  · linear_combination hcs
  · ring

end SymForm

theorem symForm_dot {n : Nat} : SymForm (dot (α := α) (n := n)) where
  add_left u v w := by simp only [dot_eq_sum, Pi.add_apply, add_mul, Finset.sum_add_distrib]
  smul_left c u w := by simp only [dot_eq_sum, Pi.smul_apply, smul_eq_mul, mul_assoc, Finset.mul_sum]
  symm := dot_comm

/-- `⟨u, Mi v⟩` for a linear `Mi` that is symmetric for `dot`. -/
theorem symForm_map {n : Nat} (Mi : Vec α n →ₗ[α] Vec α n) (hM : ∀ u v, dot u (Mi v) = dot (Mi u) v) :
    SymForm fun u v => dot u (Mi v) where
  add_left u v w := symForm_dot.add_left u v _
  smul_left c u w := symForm_dot.smul_left c u _
  symm u v := by rw [hM, dot_comm]

theorem dot_zero_left {n : Nat} (v : Vec α n) : dot (fun _ => (0 : α)) v = 0 :=
  symForm_dot.zero_left v

theorem dot_neg_left {n : Nat} (u v : Vec α n) : dot (fun i => -u i) v = -dot u v :=
  symForm_dot.neg_left u v

theorem dot_add_smul_left {n : Nat} (u w v : Vec α n) (c : α) :
    dot (fun i => u i + c * w i) v = dot u v + c * dot w v := by
  rw [← symForm_dot.smul_left, ← symForm_dot.add_left]; rfl

end field

/-! ### Givens sweep along an orthonormal sequence

The vectors `m_j`, `p_j` of the MINRES argument (columns of `Z_{j+1} G_1ᵀ ⋯ G_jᵀ`), for arbitrary sequences. -/

section sweep
variable {α : Type} [Field α] {n : Nat} {B : Vec α n → Vec α n → α}

/-- Givens sweep along a sequence `z`: `m_0 = z_0`, and rotation `j+1` turns the pair `(m_j, z_{j+1})` into `(p_{j+1}, m_{j+1})`. -/
structure Sweep (z m p : Nat → Vec α n) (c s : Nat → α) (J : Nat) : Prop where
  m_zero : m 0 = z 0
  p_zero : p 0 = 0
  m_succ : ∀ j, j < J → m (j + 1) = -s (j + 1) • m j + c (j + 1) • z (j + 1)
  p_succ : ∀ j, j < J → p (j + 1) = c (j + 1) • m j + s (j + 1) • z (j + 1)
  rot : ∀ j, j < J → c (j + 1) * c (j + 1) + s (j + 1) * s (j + 1) = 1

namespace Sweep
variable {z m p : Nat → Vec α n} {c s : Nat → α} {J : Nat} (S : Sweep z m p c s J) (hB : SymForm B)
  (horth : ∀ a e, a ≤ J → e ≤ J → B (z a) (z e) = if a = e then 1 else 0)
include S hB horth

/-- `m_j` is a `B`-unit vector, `B`-orthogonal to all later `z`. -/
theorem m_frame (j : Nat) (hj : j ≤ J) : B (m j) (m j) = 1 ∧ ∀ l, j < l → l ≤ J → B (m j) (z l) = 0 := by
  induction j with
  | zero =>
    rw [S.m_zero]
    exact ⟨(horth 0 0 hj hj).trans (if_pos rfl), fun l hl hlJ => (horth 0 l hj hlJ).trans (if_neg (by omega))⟩
  | succ j ih =>
    obtain ⟨f1, f2⟩ := ih (by omega)
    refine ⟨?_, fun l hl hlJ => ?_⟩
    · rw [S.m_succ j hj]
      exact (hB.rotate f1 (f2 (j + 1) (by omega) hj) ((horth _ _ hj hj).trans (if_pos rfl)) _ _ (S.rot j hj)).1
    · rw [S.m_succ j hj, hB.lin_left, f2 l (by omega) hlJ, horth _ _ hj hlJ, if_neg (by omega)]
      ring

theorem p_orth_z (i l : Nat) (hil : i < l) (hl : l ≤ J) : B (p i) (z l) = 0 := by
  cases i with
  | zero => rw [S.p_zero, hB.zero_left]
  | succ i =>
    rw [S.p_succ i (by omega), hB.lin_left, (S.m_frame hB horth i (by omega)).2 l (by omega) hl,
      horth _ _ (by omega) hl, if_neg (by omega)]
    ring

theorem p_orth_m (i j : Nat) (hij : i ≤ j) (hj : j ≤ J) : B (p i) (m j) = 0 := by
  induction j, hij using Nat.le_induction with
  | base =>
    cases i with
    | zero => rw [S.p_zero, hB.zero_left]
    | succ i =>
      obtain ⟨f1, f2⟩ := S.m_frame hB horth i (by omega)
      rw [S.p_succ i hj, S.m_succ i hj]
      exact (hB.rotate f1 (f2 (i + 1) (by omega) hj) ((horth _ _ hj hj).trans (if_pos rfl)) _ _ (S.rot i hj)).2.2
  | succ j hij ih =>
    rw [S.m_succ j hj, hB.lin_right, ih (by omega), S.p_orth_z hB horth i (j + 1) (by omega) hj]
    ring

theorem p_orthonormal (a e : Nat) (hae : a ≤ e) (ha : 1 ≤ a) (he : e ≤ J) : B (p a) (p e) = if a = e then 1 else 0 := by
  obtain ⟨e, rfl⟩ : ∃ e', e = e' + 1 := ⟨e - 1, by omega⟩
  rcases Nat.lt_or_ge a (e + 1) with h | h
  · rw [if_neg (by omega), S.p_succ e he, hB.lin_right, S.p_orth_m hB horth a e (by omega) (by omega),
      S.p_orth_z hB horth a (e + 1) h he]
    ring
  · obtain ⟨f1, f2⟩ := S.m_frame hB horth e (by omega)
    rw [Nat.le_antisymm hae h, if_pos rfl, S.p_succ e he]
    exact (hB.rotate f1 (f2 (e + 1) (by omega) he) ((horth _ _ he he).trans (if_pos rfl)) _ _ (S.rot e he)).2.1

end Sweep
end sweep

/-! ### least squares by an orthonormal factorisation -/

section lsq
variable {α : Type} [Field α] {n : Nat}

/-- `x = Σ_{k<j} τ_k d_k` is the least-squares solution of `L x ≈ b` over `span{d_k}` by an orthonormal factorisation:
`L d_k = p_k`, and the residual is `φ m` with `m` a `B`-unit vector `B`-orthogonal to every `p_k`. -/
structure LsqFrame (B : Vec α n → Vec α n → α) (L : Vec α n →ₗ[α] Vec α n) (b x m : Vec α n) (φ : α)
    (d p : Nat → Vec α n) (τ : Nat → α) (j : Nat) : Prop where
  sol : x = ∑ k ∈ Finset.range j, τ k • d k
  img : ∀ k, k < j → L (d k) = p k
  res : b - L x = φ • m
  unit : B m m = 1
  orth : ∀ k, k < j → B (p k) m = 0

namespace LsqFrame
variable {B : Vec α n → Vec α n → α} {L : Vec α n →ₗ[α] Vec α n} {b x m : Vec α n} {φ : α} {d p : Nat → Vec α n}
  {τ : Nat → α} {j : Nat} (F : LsqFrame B L b x m φ d p τ j) (hB : SymForm B)
include F hB

theorem norm : B (b - L x) (b - L x) = φ * φ := by
  rw [F.res, hB.smul_left, hB.smul_right, F.unit, mul_one]

theorem lsq (y : Nat → α) :
    B (b - L (∑ k ∈ Finset.range j, y k • d k)) (b - L (∑ k ∈ Finset.range j, y k • d k)) =
      φ * φ + B (∑ k ∈ Finset.range j, (τ k - y k) • p k) (∑ k ∈ Finset.range j, (τ k - y k) • p k) := by
  have hLsum : ∀ c : Nat → α, L (∑ k ∈ Finset.range j, c k • d k) = ∑ k ∈ Finset.range j, c k • p k := fun c => by
    rw [map_sum]
    exact Finset.sum_congr rfl fun k hk => by rw [L.map_smul, F.img k (Finset.mem_range.mp hk)]
  have hdec : b - L (∑ k ∈ Finset.range j, y k • d k) = φ • m + ∑ k ∈ Finset.range j, (τ k - y k) • p k := by
    rw [← sub_add_sub_cancel b (L x), F.res, F.sol, hLsum, hLsum, ← Finset.sum_sub_distrib]
    simp only [sub_smul]
  have hwm : B (∑ k ∈ Finset.range j, (τ k - y k) • p k) m = 0 := by
    rw [hB.sum_left]
    exact Finset.sum_eq_zero fun k hk => by rw [hB.smul_left, F.orth k (Finset.mem_range.mp hk), mul_zero]
  rw [hdec, hB.add_left, hB.smul_left, hB.add_right, hB.add_right, hB.smul_right, hB.smul_right, F.unit, hwm, hB.symm m, hwm]
  ring

end LsqFrame

/-- For a positive semidefinite form no combination of the `d_k` has a `B`-shorter residual. -/
theorem LsqFrame.optimal {α : Type} [Field α] [LinearOrder α] [IsStrictOrderedRing α] {n : Nat}
    {B : Vec α n → Vec α n → α} {L : Vec α n →ₗ[α] Vec α n} {b x m : Vec α n} {φ : α} {d p : Nat → Vec α n}
    {τ : Nat → α} {j : Nat} (F : LsqFrame B L b x m φ d p τ j) (hB : SymForm B) (hpos : ∀ w, 0 ≤ B w w) (y : Nat → α) :
    B (b - L x) (b - L x) = φ * φ ∧
      B (b - L x) (b - L x) ≤ B (b - L (∑ k ∈ Finset.range j, y k • d k)) (b - L (∑ k ∈ Finset.range j, y k • d k)) :=
  ⟨F.norm hB, ((F.norm hB).trans_le (le_add_of_nonneg_right (hpos _))).trans_eq (F.lsq hB y).symm⟩

end lsq

end LinOp.C11
