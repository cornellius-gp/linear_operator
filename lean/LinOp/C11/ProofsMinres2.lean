/-
C11 — global MINRES statements over the whole iteration: a regular run of the model as a solver for a pencil (`Run`) and its
invariant after every iteration (`Run.inv`), the recurrences of the named quantities, the residual direction at a breakdown step,
and the model's track as a Givens sweep and a least-squares frame (`sweep_trk`, `Run.lsqFrame`; the notions are in `Proofs`).
-/
import LinOp.C11.ProofsMinres
import Mathlib.Data.Matrix.Mul
import Mathlib.Algebra.BigOperators.Intervals
import Mathlib.Algebra.Order.BigOperators.Ring.Finset
import Mathlib.Algebra.Order.Field.Basic

namespace LinOp.C11
open Function

section seq
variable {α : Type} [Field α] {n : Nat}

theorem dot_eq_dotProduct (u v : Vec α n) : dot u v = u ⬝ᵥ v := dot_eq_sum u v

/-- Track after `j` iterations. -/
def trk (N : NumOps α) (P : Params α) (s : Sys α n) (σ : α) (t0 : Lz α n × Gv α n) (j : Nat) : Lz α n × Gv α n :=
  (trackStep N P s σ)^[j] t0

theorem trk_succ (N : NumOps α) (P : Params α) (s : Sys α n) (σ : α) (t0 : Lz α n × Gv α n) (j : Nat) :
    trk N P s σ t0 (j + 1) = trackStep N P s σ (trk N P s σ t0 j) := iterate_succ_apply' _ _ _

/-- Ghost sequence `m_{j−1}` (zero before the first step). -/
def ghost (N : NumOps α) (P : Params α) (s : Sys α n) (σ : α) (t0 : Lz α n × Gv α n) : Nat → Vec α n
  | 0 => fun _ => 0
  | j + 1 => gM0 (trk N P s σ t0 j) (ghost N P s σ t0 j)

/-- `m_{j+1}`: the (unit, see `resDir_frame`) direction of the residual after `j` iterations. -/
def resDir (N : NumOps α) (P : Params α) (s : Sys α n) (σ : α) (t0 : Lz α n × Gv α n) (j : Nat) : Vec α n :=
  gM1 (trk N P s σ t0 j) (ghost N P s σ t0 j)

/-- `p_j = A_σ d_j` (`p_0 = 0`). -/
def imgDir (N : NumOps α) (P : Params α) (s : Sys α n) (σ : α) (t0 : Lz α n × Gv α n) (j : Nat) : Vec α n :=
  gP1 (trk N P s σ t0 j) (ghost N P s σ t0 j)

/-- Start of the loop for the normalised right-hand side `b`. -/
def track0 (N : NumOps α) (s : Sys α n) (b : Vec α n) : Lz α n × Gv α n :=
  (initLz N s b, initGv (initLz N s b).betaPrev)

/-! The start of the model: `z_0 = b / β₀`, `q_0 = pre b / β₀`, `m_1 = z_0`, `p_0 = p_{-1} = 0`. -/

theorem track0_z1 (N : NumOps α) (s : Sys α n) (b : Vec α n) :
    (track0 N s b).1.z1 = ((initLz N s b).betaPrev)⁻¹ • b := by
  funext i
  simp only [track0, initLz, mem_eq]
  exact div_eq_inv_mul _ _

theorem track0_q1 (N : NumOps α) (s : Sys α n) (b : Vec α n) :
    (track0 N s b).1.q1 = ((initLz N s b).betaPrev)⁻¹ • s.pre b := by
  funext i
  simp only [track0, initLz, mem_eq]
  exact div_eq_inv_mul _ _

theorem gM1_track0 (N : NumOps α) (s : Sys α n) (b : Vec α n) :
    gM1 (track0 N s b) (fun _ => 0) = (track0 N s b).1.z1 := by
  funext i
  simp only [gM1, gM0, track0, initGv, neg_zero, zero_mul, mul_zero, zero_add, one_mul]

theorem gP1_track0 (N : NumOps α) (s : Sys α n) (b : Vec α n) : gP1 (track0 N s b) (fun _ => 0) = 0 := by
  funext i
  simp only [gP1, gM0, track0, initGv, initLz, neg_zero, zero_mul, mul_zero, add_zero, Pi.zero_apply]

theorem gP0_track0 (N : NumOps α) (s : Sys α n) (b : Vec α n) : gP0 (track0 N s b) (fun _ => 0) = 0 := by
  funext i
  simp only [gP0, track0, initGv, initLz, mul_zero, add_zero, Pi.zero_apply]

theorem TrackInv.init (N : NumOps α) (s : Sys α n) (σ : α) (A pinv : Vec α n →ₗ[α] Vec α n)
    (hpre : ∀ v, pinv (s.pre v) = v) (b : Vec α n) (hb0 : (initLz N s b).betaPrev ≠ 0) :
    TrackInv A pinv σ b (track0 N s b) (fun _ => 0) := by
  have h1 : (1 : α) * 1 + 0 * 0 = 1 := by rw [mul_one, mul_zero, add_zero]
  have h0 : (A + σ • pinv) (fun _ => 0) = 0 := (A + σ • pinv).map_zero
  refine ⟨h1, h1, ?_, h0.trans (gP0_track0 N s b).symm, h0.trans (gP1_track0 N s b).symm, ?_⟩
  · rw [track0_q1, pinv.map_smul, hpre, track0_z1]
  · rw [gM1_track0, track0_z1, smul_smul]
    show b - (A + σ • pinv) (fun _ => 0) = ((initLz N s b).betaPrev * ((initLz N s b).betaPrev)⁻¹) • b
    rw [h0, sub_zero, mul_inv_cancel₀ hb0, one_smul]

/-- All steps before `J` are regular. -/
def Regular (N : NumOps α) (P : Params α) (s : Sys α n) (σ : α) (t0 : Lz α n × Gv α n) (J : Nat) : Prop :=
  ∀ j, j < J → StepOK N P s σ (trk N P s σ t0 j)

/-- A regular run of the model on the normalised right-hand side `b`, read as a solver for the pencil `A + σ • pinv`. -/
structure Run (N : NumOps α) (P : Params α) (s : Sys α n) (σ : α) (A pinv : Vec α n →ₗ[α] Vec α n) (b : Vec α n)
    (J : Nat) : Prop where
  hA : ∀ v, applyA P s v = A v
  hpre : ∀ v, pinv (s.pre v) = v
  hb0 : (initLz N s b).betaPrev ≠ 0
  hreg : Regular N P s σ (track0 N s b) J

section run
variable {N : NumOps α} {P : Params α} {s : Sys α n} {σ : α} {A pinv : Vec α n →ₗ[α] Vec α n} {b : Vec α n} {J : Nat}
  (R : Run N P s σ A pinv b J)
include R

/-- The invariant holds after every iteration count `j ≤ J`. -/
theorem Run.inv (j : Nat) (hj : j ≤ J) :
    TrackInv A pinv σ b (trk N P s σ (track0 N s b) j) (ghost N P s σ (track0 N s b) j) := by
  induction j with
  | zero => exact TrackInv.init N s σ A pinv R.hpre b R.hb0
  | succ j ih =>
    rw [trk_succ]
    exact TrackInv.step N P s σ A pinv R.hA R.hpre b _ _ (ih (by omega)) (R.hreg j (by omega))

/-- The true residual of the pencil is `scale_prev · m_{j+1}`, entry by entry. -/
theorem Run.res_apply (j : Nat) (hj : j ≤ J) (i : Fin n) :
    b i - (A (trk N P s σ (track0 N s b) j).2.sol i + σ * pinv (trk N P s σ (track0 N s b) j).2.sol i) =
      (trk N P s σ (track0 N s b) j).2.scalePrev * resDir N P s σ (track0 N s b) j i :=
  congrFun (R.inv j hj).res i

end run

/-! ### recurrences of the named quantities (no hypothesis needed: they are the code) -/

variable (N : NumOps α) (P : Params α) (s : Sys α n) (σ : α) (t0 : Lz α n × Gv α n)

theorem scale_succ (j : Nat) : (trk N P s σ t0 (j + 1)).2.scalePrev =
    -((trk N P s σ t0 j).2.scalePrev * (trk N P s σ t0 (j + 1)).2.sin1) := by
  rw [trk_succ]; exact mul_neg_one _

/-- `scale_prev` after `j` iterations is `(−1)^j · β₀ · s_1 ⋯ s_j`. -/
theorem scale_prod (j : Nat) : (trk N P s σ t0 j).2.scalePrev =
    (-1) ^ j * t0.2.scalePrev * ∏ i ∈ Finset.range j, (trk N P s σ t0 (i + 1)).2.sin1 := by
  induction j with
  | zero => simp [trk]
  | succ j ih => rw [scale_succ, ih, Finset.prod_range_succ, pow_succ]; ring

theorem sol_succ (j : Nat) : (trk N P s σ t0 (j + 1)).2.sol = (trk N P s σ t0 j).2.sol +
    ((trk N P s σ t0 j).2.scalePrev * (trk N P s σ t0 (j + 1)).2.cos1) • (trk N P s σ t0 (j + 1)).2.s1 := by
  rw [trk_succ]; exact givensStep_sol ..

/-- `solution` after `j` iterations is `Σ_{k<j} τ_{k+1} d_{k+1}` with `τ_{k+1} = φ̄_k c_{k+1}`. -/
theorem sol_sum (h0 : t0.2.sol = fun _ => 0) (j : Nat) : (trk N P s σ t0 j).2.sol =
    ∑ k ∈ Finset.range j, ((trk N P s σ t0 k).2.scalePrev * (trk N P s σ t0 (k + 1)).2.cos1) •
      (trk N P s σ t0 (k + 1)).2.s1 := by
  induction j with
  | zero => exact h0
  | succ j ih => rw [Finset.sum_range_succ, ← ih, sol_succ]

theorem resDir_zero : resDir N P s σ t0 0 = gM1 t0 (fun _ => 0) := rfl

theorem ghost_succ_succ (j : Nat) : gM0 (trk N P s σ t0 (j + 1)) (ghost N P s σ t0 (j + 1)) = resDir N P s σ t0 j := by
  rw [trk_succ]; rfl

theorem resDir_succ (j : Nat) : resDir N P s σ t0 (j + 1) =
    -(trk N P s σ t0 (j + 1)).2.sin1 • resDir N P s σ t0 j +
      (trk N P s σ t0 (j + 1)).2.cos1 • (trk N P s σ t0 (j + 1)).1.z1 := by
  show gM1 _ _ = _
  rw [← ghost_succ_succ]; rfl

theorem imgDir_succ (j : Nat) : imgDir N P s σ t0 (j + 1) =
    (trk N P s σ t0 (j + 1)).2.cos1 • resDir N P s σ t0 j +
      (trk N P s σ t0 (j + 1)).2.sin1 • (trk N P s σ t0 (j + 1)).1.z1 := by
  show gP1 _ _ = _
  rw [← ghost_succ_succ]; rfl

theorem resDir_track0 (b : Vec α n) :
    resDir N P s σ (track0 N s b) 0 = (trk N P s σ (track0 N s b) 0).1.z1 :=
  gM1_track0 N s b

theorem imgDir_track0 (b : Vec α n) : imgDir N P s σ (track0 N s b) 0 = 0 :=
  gP1_track0 N s b

/-- All rotations along a regular run of the model are orthogonal. -/
theorem rot1_trk (b : Vec α n) (J : Nat) (hreg : Regular N P s σ (track0 N s b) J) (j : Nat) (hj : j ≤ J) :
    (trk N P s σ (track0 N s b) j).2.cos1 * (trk N P s σ (track0 N s b) j).2.cos1 +
      (trk N P s σ (track0 N s b) j).2.sin1 * (trk N P s σ (track0 N s b) j).2.sin1 = 1 := by
  cases j with
  | zero => show (1 : α) * 1 + 0 * 0 = 1; rw [mul_one, mul_zero, add_zero]
  | succ j => rw [trk_succ]; exact trackStep_rot N P s σ _ (hreg j hj)

/-! ### the breakdown step (for `minres_exact_at_dim_eps`) -/

/-- If the new Lanczos vector of iteration `j+1` is zero (Krylov space exhausted: `zvec_curr = 0` before the division by the
clamped `beta_curr`), then `m_{j+2} = −s_{j+1} m_{j+1}`. -/
theorem resDir_succ_of_breakdown (j : Nat) (hz : (trk N P s σ t0 (j + 1)).1.z1 = fun _ => 0) (i : Fin n) :
    resDir N P s σ t0 (j + 1) i = -(trk N P s σ t0 (j + 1)).2.sin1 * resDir N P s σ t0 j i := by
  rw [resDir_succ, hz]
  show _ + _ * (0 : α) = _
  rw [mul_zero, add_zero]; rfl

/-- Orthonormality of the Lanczos vectors `z_0 … z_J` (`zvec_prev1` after `0 … J` iterations). -/
def LanczosOrthonormal (J : Nat) : Prop :=
  ∀ a b, a ≤ J → b ≤ J → dot (trk N P s σ t0 a).1.z1 (trk N P s σ t0 b).1.z1 = if a = b then 1 else 0

end seq

/-! ### the model's track as a Givens sweep and a least-squares frame -/

section frame
variable {α : Type} [Field α] {n : Nat} {N : NumOps α} {P : Params α} {s : Sys α n} {σ : α}
  {A pinv : Vec α n →ₗ[α] Vec α n} {b : Vec α n} {J : Nat}

/-- `m_{j+1}` (`resDir`) and `p_j` (`imgDir`) arise from the Lanczos vectors by the Givens rotations of the model. -/
theorem sweep_trk (hreg : Regular N P s σ (track0 N s b) J) :
    Sweep (fun j => (trk N P s σ (track0 N s b) j).1.z1) (resDir N P s σ (track0 N s b))
      (imgDir N P s σ (track0 N s b)) (fun j => (trk N P s σ (track0 N s b) j).2.cos1)
      (fun j => (trk N P s σ (track0 N s b) j).2.sin1) J :=
  ⟨resDir_track0 N P s σ b, imgDir_track0 N P s σ b, fun j _ => resDir_succ N P s σ _ j,
    fun j _ => imgDir_succ N P s σ _ j, fun j hj => rot1_trk N P s σ b J hreg (j + 1) hj⟩

/-- **The model's iterate is the QR least-squares solution** over the span of its search vectors, for any symmetric form in
which the Lanczos vectors are orthonormal. -/
theorem Run.lsqFrame (R : Run N P s σ A pinv b J) {B : Vec α n → Vec α n → α} (hB : SymForm B)
    (horth : ∀ a c, a ≤ J → c ≤ J →
      B (trk N P s σ (track0 N s b) a).1.z1 (trk N P s σ (track0 N s b) c).1.z1 = if a = c then 1 else 0)
    (j : Nat) (hj : j ≤ J) :
    LsqFrame B (A + σ • pinv) b (trk N P s σ (track0 N s b) j).2.sol (resDir N P s σ (track0 N s b) j)
      (trk N P s σ (track0 N s b) j).2.scalePrev (fun k => (trk N P s σ (track0 N s b) (k + 1)).2.s1)
      (fun k => imgDir N P s σ (track0 N s b) (k + 1))
      (fun k => (trk N P s σ (track0 N s b) k).2.scalePrev * (trk N P s σ (track0 N s b) (k + 1)).2.cos1) j :=
  have S := sweep_trk R.hreg
  ⟨sol_sum N P s σ (track0 N s b) rfl j, fun k hk => (R.inv (k + 1) (by omega)).As1, (R.inv j hj).res,
    (S.m_frame hB horth j hj).1, fun k hk => S.p_orth_m hB horth (k + 1) j (by omega) hj⟩

end frame
end LinOp.C11
