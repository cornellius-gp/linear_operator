/-
C11 — contour-integral quadrature: reduction of the matrix statement to the scalar quadrature rule.
If `Σ_q w_q / (s_q − λ) = ρ(λ)` for every eigenvalue `λ` of `K`, then `Σ_q w_q (−K + s_q I)⁻¹ b = ρ(K) b`
(spectral calculus in a given orthonormal eigenbasis); with `ρ(λ)² λ = 1` applying it twice inverts `K`.
-/
import LinOp.C11.Proofs
import Mathlib.Algebra.Module.LinearMap.End
import Mathlib.Algebra.Module.Pi
import Mathlib.Algebra.BigOperators.Field
import Mathlib.Tactic.FieldSimp
import Mathlib.Tactic.Ring
import Mathlib.Tactic.LinearCombination

namespace LinOp.C11

section spectral
variable {α : Type} [Field α] {n : Nat}

/-- `f(K) b = Σ_i f_i ⟨u_i, b⟩ u_i` in the eigenbasis `u`. -/
def spectralApply (u : Fin n → Vec α n) (f : Fin n → α) (b : Vec α n) : Vec α n :=
  ∑ i, (f i * dot (u i) b) • u i

/-- `u` is an orthonormal eigenbasis of `K` with eigenvalues `lam` (completeness as resolution of the identity). -/
structure EigenBasis (K : Vec α n →ₗ[α] Vec α n) (u : Fin n → Vec α n) (lam : Fin n → α) : Prop where
  eig : ∀ i, K (u i) = lam i • u i
  orth : ∀ i j, dot (u i) (u j) = if i = j then 1 else 0
  complete : ∀ b : Vec α n, b = spectralApply u (fun _ => 1) b

theorem dot_sum_right (w : Vec α n) (c : Fin n → α) (u : Fin n → Vec α n) :
    dot w (∑ i, c i • u i) = ∑ i, c i * dot w (u i) := by
  simp only [dot_eq_sum, Finset.sum_apply, Pi.smul_apply, smul_eq_mul, Finset.mul_sum]
  rw [Finset.sum_comm]
  exact Finset.sum_congr rfl fun i _ => Finset.sum_congr rfl fun j _ => by ring

theorem dot_spectral {K : Vec α n →ₗ[α] Vec α n} {u : Fin n → Vec α n} {lam : Fin n → α} (h : EigenBasis K u lam)
    (f : Fin n → α) (b : Vec α n) (k : Fin n) : dot (u k) (spectralApply u f b) = f k * dot (u k) b := by
  unfold spectralApply
  rw [dot_sum_right]
  simp only [h.orth, mul_ite, mul_one, mul_zero, Finset.sum_ite_eq, Finset.mem_univ, if_true]

theorem K_spectral {K : Vec α n →ₗ[α] Vec α n} {u : Fin n → Vec α n} {lam : Fin n → α} (h : EigenBasis K u lam)
    (f : Fin n → α) (b : Vec α n) : K (spectralApply u f b) = spectralApply u (fun i => f i * lam i) b := by
  unfold spectralApply
  rw [map_sum]
  exact Finset.sum_congr rfl fun i _ => by rw [K.map_smul, h.eig, smul_smul]; congr 1; ring

theorem spectral_ext {K : Vec α n →ₗ[α] Vec α n} {u : Fin n → Vec α n} {lam : Fin n → α} (h : EigenBasis K u lam)
    (x y : Vec α n) (hxy : ∀ k, dot (u k) x = dot (u k) y) : x = y := by
  rw [h.complete x, h.complete y]
  unfold spectralApply
  exact Finset.sum_congr rfl fun i _ => by rw [hxy]

theorem spectral_comp {K : Vec α n →ₗ[α] Vec α n} {u : Fin n → Vec α n} {lam : Fin n → α} (h : EigenBasis K u lam)
    (f g : Fin n → α) (b : Vec α n) :
    spectralApply u f (spectralApply u g b) = spectralApply u (fun i => f i * g i) b := by
  unfold spectralApply
  exact Finset.sum_congr rfl fun i _ => by
    have := dot_spectral h g b i
    unfold spectralApply at this
    rw [this, mul_assoc]

/-- In an eigenbasis `K` acts on the coefficients by the eigenvalues. -/
theorem dot_K {K : Vec α n →ₗ[α] Vec α n} {u : Fin n → Vec α n} {lam : Fin n → α} (h : EigenBasis K u lam)
    (x : Vec α n) (k : Fin n) : dot (u k) (K x) = lam k * dot (u k) x := by
  conv_lhs => rw [h.complete x]
  rw [K_spectral h, dot_spectral h, one_mul]

/-- The shifted solve is determined by the eigen-decomposition: `(−K + sI) x = b`, `s ≠ λ_i` ⇒ `x = Σ ⟨u_i,b⟩/(s − λ_i) u_i`. -/
theorem shifted_solve_spectral {K : Vec α n →ₗ[α] Vec α n} {u : Fin n → Vec α n} {lam : Fin n → α}
    (h : EigenBasis K u lam) (sft : α) (hne : ∀ i, sft - lam i ≠ 0) (x b : Vec α n)
    (hx : -K x + sft • x = b) : x = spectralApply u (fun i => 1 / (sft - lam i)) b := by
  refine spectral_ext h _ _ fun k => ?_
  have hb : dot (u k) b = (sft - lam k) * dot (u k) x := by
    rw [← hx, ← neg_one_smul α (K x), symForm_dot.lin_right, dot_K h]; ring
  rw [dot_spectral h, hb, one_div, inv_mul_cancel_left₀ (hne k)]

theorem spectralApply_zero (u : Fin n → Vec α n) (b : Vec α n) : spectralApply u (fun _ => 0) b = 0 := by
  simp only [spectralApply, zero_mul, zero_smul, Finset.sum_const_zero]

theorem spectralApply_smul_add (u : Fin n → Vec α n) (w : α) (f g : Fin n → α) (b : Vec α n) :
    w • spectralApply u f b + spectralApply u g b = spectralApply u (fun i => w * f i + g i) b := by
  unfold spectralApply
  rw [Finset.smul_sum, ← Finset.sum_add_distrib]
  exact Finset.sum_congr rfl fun i _ => by rw [smul_smul, ← add_smul, ← mul_assoc, ← add_mul]

/-! ### list sums of the model -/

theorem lsum_foldl (a : α) (l : List α) : l.foldl (· + ·) a = a + lsum l := by
  unfold lsum
  induction l generalizing a with
  | nil => simp
  | cons x l ih => simp only [List.foldl_cons]; rw [ih (a + x), ih (0 + x)]; ring

theorem lsum_cons (x : α) (l : List α) : lsum (x :: l) = x + lsum l := by
  show (x :: l).foldl (· + ·) 0 = _
  rw [List.foldl_cons, lsum_foldl]; ring

theorem lsum_nil : lsum ([] : List α) = 0 := rfl

theorem weightedSum_nil_left (xs : List (Vec α n)) : weightedSum ([] : List α) xs = 0 := by
  funext i; simp [weightedSum, lsum_nil]

theorem weightedSum_nil_right (ws : List α) : weightedSum ws ([] : List (Vec α n)) = 0 := by
  funext i; simp [weightedSum, lsum_nil]

theorem weightedSum_cons (w : α) (ws : List α) (x : Vec α n) (xs : List (Vec α n)) :
    weightedSum (w :: ws) (x :: xs) = w • x + weightedSum ws xs := by
  funext i
  simp only [weightedSum, List.zipWith_cons_cons, lsum_cons, Pi.add_apply, Pi.smul_apply, smul_eq_mul]
  ring

/-- **Reduction to the scalar rule** for a list of weights and shifts with exact shifted solves. -/
theorem weightedSum_spectral {K : Vec α n →ₗ[α] Vec α n} {u : Fin n → Vec α n} {lam : Fin n → α}
    (h : EigenBasis K u lam) (R : α → Vec α n → Vec α n) (ws ss : List α) (b : Vec α n)
    (hsolve : ∀ sh ∈ ss, -K (R sh b) + sh • R sh b = b) (hne : ∀ sh ∈ ss, ∀ i, sh - lam i ≠ 0) :
    weightedSum ws (ss.map fun sh => R sh b) =
      spectralApply u (fun i => lsum (List.zipWith (fun w sh => w / (sh - lam i)) ws ss)) b := by
  induction ws generalizing ss with
  | nil => simp only [List.zipWith_nil_left, lsum_nil, weightedSum_nil_left, spectralApply_zero]
  | cons w ws ih =>
    cases ss with
    | nil => simp only [List.map_nil, List.zipWith_nil_right, lsum_nil, weightedSum_nil_right, spectralApply_zero]
    | cons sh ss =>
      rw [List.map_cons, weightedSum_cons, ih ss (fun x hx => hsolve x (List.mem_cons_of_mem _ hx))
        (fun x hx => hne x (List.mem_cons_of_mem _ hx)),
        shifted_solve_spectral h sh (hne sh List.mem_cons_self) _ b (hsolve sh List.mem_cons_self),
        spectralApply_smul_add]
      simp only [List.zipWith_cons_cons, lsum_cons, mul_one_div]

/-- `(linear_op._matmul(solves) * weights).sum(0) = linear_op._matmul((solves * weights).sum(0))`. -/
theorem weightedSum_map_linear (K : Vec α n →ₗ[α] Vec α n) (ws : List α) (xs : List (Vec α n)) :
    weightedSum ws (xs.map K) = K (weightedSum ws xs) := by
  induction ws generalizing xs with
  | nil => rw [weightedSum_nil_left, weightedSum_nil_left, K.map_zero]
  | cons w ws ih =>
    cases xs with
    | nil => rw [List.map_nil, weightedSum_nil_right, K.map_zero]
    | cons x xs => rw [List.map_cons, weightedSum_cons, weightedSum_cons, ih, K.map_add, K.map_smul]

/-- With `ρ_i² λ_i = 1` the spectral map `ρ(K)` applied twice inverts `K`. -/
theorem spectral_twice_inverse {K : Vec α n →ₗ[α] Vec α n} {u : Fin n → Vec α n} {lam : Fin n → α}
    (h : EigenBasis K u lam) (ρ : Fin n → α) (hρ : ∀ i, ρ i * ρ i * lam i = 1) (b : Vec α n) :
    K (spectralApply u ρ (spectralApply u ρ b)) = b := by
  rw [spectral_comp h, K_spectral h]
  conv_rhs => rw [h.complete b]
  congr 1
  funext i
  exact hρ i

/-- Diagonal operator `v ↦ (λ_i v_i)_i`. -/
def diagMap (lam : Fin n → α) : Vec α n →ₗ[α] Vec α n where
  toFun v := fun i => lam i * v i
  map_add' u v := by funext i; simp [mul_add]
  map_smul' c v := by funext i; simp [mul_left_comm]

/-- The standard basis is an orthonormal eigenbasis of a diagonal operator (the hypotheses of `ciq_reduction` are satisfiable
for every size and every spectrum). -/
theorem eigenBasis_diag (lam : Fin n → α) : EigenBasis (diagMap lam) (fun i => Pi.single i 1) lam := by
  refine ⟨?_, ?_, ?_⟩
  · intro i; funext j
    simp only [diagMap, LinearMap.coe_mk, AddHom.coe_mk, Pi.smul_apply, smul_eq_mul, Pi.single_apply]
    by_cases h : j = i <;> simp [h]
  · intro i j
    rw [dot_eq_sum]
    simp only [Pi.single_apply, mul_ite, mul_one, mul_zero, Finset.sum_ite_eq', Finset.mem_univ, if_true]
    by_cases h : i = j <;> simp [h, eq_comm]
  · intro b; funext j
    simp only [spectralApply, Finset.sum_apply, Pi.smul_apply, smul_eq_mul, one_mul, dot_eq_sum, Pi.single_apply]
    simp [Finset.sum_ite_eq', Finset.sum_ite_eq]

end spectral
end LinOp.C11
